/-
Numeric literals denote their exact value: the conversion the parser applies to an integer
token (`strconv.ParseInt`/`ParseUint` as modelled in Model/NumLit: Horner evaluation with a
range check) gives the positional value Σ dᵢ·bⁿ⁻¹⁻ⁱ of Spec/DataValue, in every base.
-/
import ZygoVerif.Model.Parser
import ZygoVerif.Spec.DataValue
import Mathlib.Tactic.Ring
namespace ZygoVerif.Literal
open ZygoVerif ZygoVerif.Lexer ZygoVerif.NumLit ZygoVerif.Spec.DataValue

theorem digitVal?_eq (base : Nat) (c : Char) :
    digitVal? base c = (digitVal c).bind (fun d => if d < base then some d else none) := by
  unfold digitVal? digitVal
  split <;> [skip; split <;> [skip; split]] <;> simp

theorem foldl_none (base : Nat) (l : List Char) : l.foldl (hornerStep base) none = none := by
  induction l with
  | nil => rfl
  | cons x l ih => simpa [hornerStep] using ih

theorem foldl_horner (base : Nat) (ds : List Char) (a : Nat) :
    ds.foldl (hornerStep base) (some a) =
    (ds.mapM (digitVal? base)).map (fun l => a * base ^ l.length + posValue base l) := by
  induction ds generalizing a with
  | nil => simp [posValue]
  | cons c r ih =>
    simp only [List.foldl_cons, List.mapM_cons, digitVal?_eq]
    cases hd : digitVal c with
    | none => simp [hornerStep, hd, foldl_none]
    | some d =>
      by_cases hlt : d < base
      · simp only [hornerStep, hd, hlt, ↓reduceIte, Option.bind_some, ih]
        cases r.mapM (digitVal? base) with
        | none => simp
        | some l =>
          simp only [Option.map_some, Option.bind_eq_bind, Option.bind_some, Option.pure_def, List.length_cons,
            posValue, Option.some.injEq]
          ring
      · simp [hornerStep, hd, hlt, foldl_none]

/-- **`ParseUint` = positional value**: the digits of a numeral in `base` evaluate to Σ dᵢ·baseⁿ⁻¹⁻ⁱ -/
theorem natOfDigits_eq_posValue (base : Nat) (ds : List Char) :
    natOfDigits base ds = (digitsOf base ds).map (posValue base) := by
  unfold natOfDigits digitsOf
  split
  · rfl
  · rw [foldl_horner]
    cases ds.mapM (digitVal? base) <;> simp

end ZygoVerif.Literal

namespace ZygoVerif.Literal
open ZygoVerif ZygoVerif.Lexer ZygoVerif.NumLit ZygoVerif.Spec.DataValue ZygoVerif.Parser

theorem parseInt64_unsigned (base : Nat) (c : Char) (r : List Char) (h1 : c ≠ '-') (h2 : c ≠ '+') :
    parseInt64 base (c :: r) = (match natOfDigits base (c :: r) with
      | some n => if n < 2 ^ 63 then some (n : Int) else none
      | none => none) := by
  unfold parseInt64
  split
  · rename_i heq; simp only [List.cons.injEq] at heq; exact absurd heq.1 h1
  · rename_i heq; simp only [List.cons.injEq] at heq; exact absurd heq.1 h2
  · rfl

/-- the value an unsigned numeral in `base` converts to: its positional value Σ dᵢ·baseⁿ⁻¹⁻ⁱ when
that fits `int64`, an error otherwise -/
def numeralValue (base : Nat) (ds : List Char) : Option Sexp :=
  match (digitsOf base ds).map (posValue base) with
  | some n => if n < 2 ^ 63 then some (.int (n : Int)) else none
  | none => none

theorem parseInt64_numeral (base : Nat) (c : Char) (r : List Char) (h1 : c ≠ '-') (h2 : c ≠ '+') :
    (parseInt64 base (c :: r)).map Sexp.int = numeralValue base (c :: r) := by
  rw [parseInt64_unsigned base c r h1 h2, natOfDigits_eq_posValue]
  unfold numeralValue
  cases (digitsOf base (c :: r)).map (posValue base) with
  | none => rfl
  | some n => by_cases h : n < 2 ^ 63 <;> simp only [h, ↓reduceIte, Option.map_some, Option.map_none]

theorem hexC_not_sign (c : Char) (h : isHexC c = true) : c ≠ '-' ∧ c ≠ '+' := by
  constructor <;> (intro hc; subst hc; revert h; decide)

/-- **hex literals**: the token `DecodeAtom` makes of `0x<digits>` converts to Σ dᵢ·16ⁿ⁻¹⁻ⁱ (error
beyond int64) -/
theorem literal_hex (c : Char) (r : List Char) (h : isHexC c = true) :
    atomOfTok ⟨.hex, c :: r⟩ = some (numeralValue 16 (c :: r)) := by
  obtain ⟨h1, h2⟩ := hexC_not_sign c h
  simp only [atomOfTok, parseInt64_numeral 16 c r h1 h2]

/-- **octal literals** `0o<digits>` -/
theorem literal_oct (c : Char) (r : List Char) (h : isHexC c = true) :
    atomOfTok ⟨.oct, c :: r⟩ = some (numeralValue 8 (c :: r)) := by
  obtain ⟨h1, h2⟩ := hexC_not_sign c h
  simp only [atomOfTok, parseInt64_numeral 8 c r h1 h2]

/-- **binary literals** `0b<digits>` -/
theorem literal_binary (c : Char) (r : List Char) (h : isHexC c = true) :
    atomOfTok ⟨.binary, c :: r⟩ = some (numeralValue 2 (c :: r)) := by
  obtain ⟨h1, h2⟩ := hexC_not_sign c h
  simp only [atomOfTok, parseInt64_numeral 2 c r h1 h2]

/-- **decimal literals without a sign**, underscores removed as the parser does -/
theorem literal_decimal (c : Char) (r : List Char) (h : isDig c = true) :
    atomOfTok ⟨.decimal, c :: r⟩ = some (numeralValue 10 (dropUnderscores (c :: r))) := by
  have hc : (c != '_') = true := by
    rw [bne_iff_ne]; intro hc; subst hc; revert h; decide
  have hf : (c :: r).filter (· != '_') = c :: r.filter (· != '_') := by simp [hc]
  have h1 : c ≠ '-' := by intro hc; subst hc; revert h; decide
  have h2 : c ≠ '+' := by intro hc; subst hc; revert h; decide
  simp only [atomOfTok, hf, parseInt64_numeral 10 c _ h1 h2, dropUnderscores]

end ZygoVerif.Literal
