/-
C02, execution half — F2 at top level: program texts.

A program text of F2 is a list of top-level forms of `Ff true ""`: expressions, `defn`s, `fn`s.
`LoadExpressions` compiles the whole text at once: the templates of all its `fn`/`defn` — nested
ones too — are in the function table before the first instruction runs (`GenOk`). `runText_of_sim`: loading and
running a text, given that the generator succeeds on it and the simulation of its code (over `runText_of_run`).
-/
import ZygoVerif.Proofs.SimF2Ind
import ZygoVerif.Proofs.SimFcTop
namespace ZygoVerif.Sim
open ZygoVerif.Core ZygoVerif.VM

def FtList (p : List Expr) : Bool := FfList true "" p

/-- **A program text, loaded and run** from a resting top-level state related to the reference state: given that
the generator succeeds on the text, and given the simulation of the text's code in the
loaded state (`LoadExpressions` appended it to `__main`), `runText` reports what the reference evaluator yields. -/
theorem runText_of_sim (m : Nat → Nat) (s : St) (rs : Ref.St) (p : List Expr) (hs : AtRest s) (hlin : s.linear = [some 0])
    (hrel : RelF m s rs 0) (n : Nat) {code : List Instr} {t : Bool} {gs' : GS}
    (hc : (compileBegin (isFnScope s) {} p).run
      { fns := s.fns, loops := s.loops, loopstack := s.loopstack, live := s.linear } = .ok ((code, t), gs'))
    (hsim : RelF m (loadedF s gs' code) { rs with trace := [] } 0 →
      GenOk { fns := s.fns, loops := s.loops, loopstack := s.loopstack, live := s.linear } gs' (loadedF s gs' code) →
      Seg (loadedF s gs' code) (fnOf s mainFn).code code [] →
      SimF code m (loadedF s gs' code) { rs with trace := [] } 0 (Ref.evalBegin n p 0 { rs with trace := [] })) :
    ∃ N, ∀ fuel, N ≤ fuel → TextOut (runText fuel p s) (Ref.evalBegin n p 0 { rs with trace := [] }) := by
  have hk := (compileBegin_facts p _ _ _ _ hc).2.1
  have hseg := seg_loadedF hs code hk
  have hfother : ∀ id, id ≠ mainFn → fnOf (loadedF s gs' code) id = gs'.fns.getD id {} := fun id hid => by
    rw [fnOf_loadedF, List.getElem?_set_ne (fun e => hid e.symm), List.getD_eq_getElem?_getD]
  have hlenL : (loadedF s gs' code).fns.length = gs'.fns.length := by
    show (List.set gs'.fns mainFn _).length = _; simp
  have hu := fnOf_loadedF_main hs code hk
  have hkeep : FnsKeep s (loadedF s gs' code) :=
    ⟨by rw [hlenL]; exact hk.len, fun id hid hne' => by rw [hfother id hne']; exact hk.fns id hid,
     by rw [hu], by rw [hu], ⟨hk.loopsLen, hk.loopsGet⟩⟩
  have h := hsim (hrel.load rfl rfl hs.cur.symm rfl rfl hkeep)
    ⟨hlin, hs.main, by rw [hlenL]; exact Nat.le_refl _,
     fun t' h1 _ => hfother t' (by have := hs.main; simp only at h1; omega), ⟨Nat.le_refl _, fun _ _ _ => rfl⟩⟩ hseg
  refine runText_of_run _ s p hc ?_
  cases hres : Ref.evalBegin n p 0 { rs with trace := [] } with
  | ok v' rs' =>
    rw [hres] at h
    obtain ⟨s1, m1, v, r, l, hv, rel1, -⟩ := h
    exact ⟨_, v, run_of_landsE hseg r l, by show pr s1.heap v = _; rw [hv, rel1.heap]; exact (pr_tr m1 id id s1.heap v).symm,
      rel1.trace, trivial⟩
  | err rs' => rw [hres] at h; exact run_of_failsE h
  | timeout => trivial
  | brk l rs' => rw [hres] at h; exact h.elim
  | cont l rs' => rw [hres] at h; exact h.elim

theorem runText_Ft (m : Nat → Nat) (s : St) (rs : Ref.St) (p : List Expr) (hne : p ≠ []) (hp : FtList p = true)
    (hs : AtRest s) (hlin : s.linear = [some 0]) (hrel : RelF m s rs 0) (n : Nat) :
    ∃ N, ∀ fuel, N ≤ fuel → TextOut (runText fuel p s) (Ref.evalBegin n p 0 { rs with trace := [] }) := by
  obtain ⟨code, t, gs', hc, -⟩ := compileBegin_total_Ff true "" p hne hp (isFnScope s) {}
    s.gs (Or.inl rfl)
  exact runText_of_sim m s rs p hs hlin hrel n hc (fun hrelL hgen hseg =>
    segment_Ff_begin true "" p hne hp _ {} (Or.inl rfl) _ ((code, t), gs') hc m _ _ 0 _ [] hrelL (fun _ => hgen) hseg n)

theorem globalNames_fo : ∀ n ∈ VM.globalNames, okSym n = true → (n ∈ foBuiltins ∨ (n = "force" ∨ n = "apply" ∨ n = "map")) := by decide

theorem relF_initSt (m : Nat → Nat) : RelF m initSt Ref.initSt 0 := by
  refine ⟨rfl, ?_, ⟨_, rfl, rfl, rfl⟩, ?_, rfl, ⟨none, ChainF.root _ rfl rfl rfl, FnChainF.root _ 0 (by decide) rfl ⟨[], rfl⟩⟩, ?_,
    rfl, rfl, globals_initSt, ?_, fun _ _ _ _ _ _ _ => rfl, ⟨rfl, fun id lz h => by simp [initSt] at h⟩⟩
  · intro i x
    cases i with
    | zero =>
      show ([("nil", Val.nil), ("null", Val.nil)] ++ Ref.globalNames.map (fun n => (n, Val.builtin n))).lookup x
        = (([("nil", Val.nil), ("null", Val.nil)] ++ VM.globalNames.map (fun n => (n, Val.builtin n))).lookup x).map (trf m)
      have hg : Ref.globalNames = VM.globalNames := rfl
      rw [hg]
      cases hl : ([("nil", Val.nil), ("null", Val.nil)] ++ VM.globalNames.map (fun n => (n, Val.builtin n))).lookup x with
      | none => rfl
      | some v =>
        rcases initVars_lookup x v hl with rfl | ⟨rfl, _⟩ <;> rfl
    | succ i => rfl
  · intro i fr hf p hp
    cases i with
    | zero =>
      simp only [Ref.initSt, List.getElem?_cons_zero, Option.some.injEq] at hf
      subst hf; cases hp
    | succ i => simp [Ref.initSt] at hf
  · intro i hi
    cases i with
    | zero => cases hi
    | succ i => cases hi
  · intro i x v hv
    cases i with
    | zero =>
      rcases initVars_lookup x v hv with rfl | ⟨rfl, hx⟩
      · exact valIn_of_const (fun _ _ _ => rfl)
      · exact valIn_builtin (fun hok => globalNames_fo x hx hok)
    | succ i => cases hv


end ZygoVerif.Sim
