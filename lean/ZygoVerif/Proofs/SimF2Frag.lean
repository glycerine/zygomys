/-
C02, execution half — F2: the fragments, as syntax. `Ff fnOk self` (expressions with user functions), `Fx` (with
non-local exits), `Fz`/`Fs` (expressions and statements in tail position), each a decidable predicate on `Expr`
with its list forms; `fz_of_ff`: an `Ff` expression is an `Fz` expression. Nothing here speaks of a machine state.
-/
import ZygoVerif.Proofs.SimCallEnv
import ZygoVerif.Proofs.GenTotal
namespace ZygoVerif.Sim
open ZygoVerif.Core ZygoVerif.VM

/-- the global names that are not first-order builtins; the fragment does not mention them -/
def hoNames : List String := ["substitute"]

def okSym (x : String) : Bool := !hoNames.contains x

/-- a name the fragment may bind: no builtin of either kind -/
def okName (x : String) : Bool := okBinder x && okSym x

/-- a parameter: such a name (`#p`: a lazy parameter) -/
def okParam (p : String) : Bool := okName p

def okRest : Option String → Bool
  | none => true
  | some r => okParam r

/-- a call head that cannot be the name the generator gives an anonymous function -/
def okHead (h : String) : Bool := okSym h && !h.startsWith "__anon"

mutual
/-- F2 expressions. `fnOk`: the position is compiled when the text is loaded (`fn`/`defn` may
stand there) — operands of calls are compiled at run time, `fnOk = false` in them. `self`: the name
of the function whose body this is (a call of it in a directly compiled position could be compiled
as a self tail call — that is F2c); `""` at top level, in operands and in anonymous functions. -/
def Ff (fnOk : Bool) (self : String) : Expr → Bool
  | .int _ | .bool _ | .str _ | .nilLit => true
  | .sym x => okSym x
  | .begin_ es => FfList fnOk self es
  | .def_ x e => okName x && Ff fnOk self e
  | .set_ x e => okName x && Ff fnOk self e
  | .cond arms d => FfArms fnOk self arms && Ff fnOk self d
  | .and_ es => FfList fnOk self es
  | .or_ es => FfList fnOk self es
  | .newScope es => !es.isEmpty && FfList fnOk self es
  | .let_ seq bs body =>
    (seq || decide ((bs.map (·.1)).Nodup)) && !body.isEmpty && FfBinds fnOk self bs && FfList fnOk self body
  | .arr es => FfList fnOk self es
  | .for_ _ init test incr body => Ff fnOk self init && Ff fnOk self test && Ff fnOk self incr && FfList fnOk self body
  | .call (.sym h) args => (h != self) && (h != "") && okHead h && FaList args
  | .call f args => Ff false "" f && FaList args          -- a computed callee: evaluated like an operand
  | .fn ps rest body =>
    fnOk && okRest rest && decide (ps ++ rest.toList).Nodup && ps.all okParam && !body.isEmpty && FfList true "" body
  | .defn name ps rest body =>
    fnOk && okRest rest && okName name && (name != "") && decide (ps ++ rest.toList).Nodup && ps.all okParam && !body.isEmpty
      && FfList true name body
  | _ => false
def FfList (fnOk : Bool) (self : String) : List Expr → Bool
  | [] => true
  | e :: es => Ff fnOk self e && FfList fnOk self es
def FfArms (fnOk : Bool) (self : String) : List (Expr × Expr) → Bool
  | [] => true
  | (p, b) :: r => Ff fnOk self p && Ff fnOk self b && FfArms fnOk self r
def FfBinds (fnOk : Bool) (self : String) : List (String × Expr) → Bool
  | [] => true
  | (x, e) :: r => okName x && Ff fnOk self e && FfBinds fnOk self r
def FaList : List Expr → Bool
  | [] => true
  | e :: es => Ff false "" e && FaList es
end

mutual
/-- Fx ls: top-level statements that may `break`/`continue` one of the enclosing loops (`ls`: their
labels, innermost first): `begin`, `cond` (tests in Ff), `let`/`letseq` (initialisers in Ff), `newScope`,
`for` (initialiser, test, increment in Ff; the body in Fx with the loop's label added) — and everything
of Ff. -/
def Fx (ls : List (Option String)) (self : String) : Expr → Bool
  | .break_ l => lblOk ls l
  | .continue_ l => lblOk ls l
  | .begin_ es => FxList ls self es
  | .cond arms d => FxArms ls self arms && Fx ls self d
  | .let_ seq bs body =>
    (seq || decide ((bs.map (·.1)).Nodup)) && !body.isEmpty && FfBinds true self bs && FxList ls self body
  | .newScope es => !es.isEmpty && FxList ls self es
  | .for_ label init test incr body => Ff true self init && Ff true self test && Ff true self incr && FxList (label :: ls) self body
  | .int v => Ff true self (.int v)
  | .bool v => Ff true self (.bool v)
  | .str v => Ff true self (.str v)
  | .nilLit => Ff true self .nilLit
  | .sym x => Ff true self (.sym x)
  | .arr es => Ff true self (.arr es)
  | .call f args => Ff true self (.call f args)
  | .def_ x e => Ff true self (.def_ x e)
  | .set_ x e => Ff true self (.set_ x e)
  | .and_ es => Ff true self (.and_ es)
  | .or_ es => Ff true self (.or_ es)
  | .fn ps rest body => Ff true self (.fn ps rest body)
  | .defn name ps rest body => Ff true self (.defn name ps rest body)
  | .assign _ _ => false
  | .bad _ => false
def FxList (ls : List (Option String)) (self : String) : List Expr → Bool
  | [] => true
  | e :: es => Fx ls self e && FxList ls self es
def FxArms (ls : List (Option String)) (self : String) : List (Expr × Expr) → Bool
  | [] => true
  | (p, b) :: r => Ff true self p && Fx ls self b && FxArms ls self r
end


mutual
/-- Fz ex self: the forms in TAIL POSITION of the body of the function `self` — where a call of `self` is
compiled as a self tail call (guard, operands inline, `prepareCall`, scopes removed, `goto 0`; F2c):
calls of `self` (its operands free of direct calls of `self`), and `begin`/`cond`/`let`/`letseq`/`newScope`
whose last form resp. arms are in tail position; everything else as in `Ff true self`. `ex = true`: the
statements before the last one and `for` loops may `break`/`continue` their own loops (`Fx [] self`). -/
def Fz (ex : Bool) (self : String) : Expr → Bool
  | .call (.sym h) args => (h != "") && okHead h && FaList args && ((h != self) || FfList false self args)
  | .call f args => Ff true self (.call f args)
  | .begin_ es => FzList ex self es
  | .cond arms d => FzArms ex self arms && Fz ex self d
  | .newScope es => !es.isEmpty && FzList ex self es
  | .let_ seq bs body =>
    (seq || decide ((bs.map (·.1)).Nodup)) && !body.isEmpty && FfBinds true self bs && FzList ex self body
  | .int v => Ff true self (.int v)
  | .bool v => Ff true self (.bool v)
  | .str v => Ff true self (.str v)
  | .nilLit => Ff true self .nilLit
  | .sym x => Ff true self (.sym x)
  | .arr es => Ff true self (.arr es)
  | .def_ x e => Ff true self (.def_ x e)
  | .set_ x e => Ff true self (.set_ x e)
  | .and_ es => Ff true self (.and_ es)
  | .or_ es => Ff true self (.or_ es)
  | .for_ l i t s b => if ex then Fx [] self (.for_ l i t s b) else Ff true self (.for_ l i t s b)
  | .fn ps rest body => Ff true self (.fn ps rest body) ||
      (okRest rest && decide (ps ++ rest.toList).Nodup && ps.all okParam && !body.isEmpty && FzList ex "" body)
  | .defn name ps rest body => Ff true self (.defn name ps rest body) ||
      (okRest rest && okName name && (name != "") && decide (ps ++ rest.toList).Nodup && ps.all okParam && !body.isEmpty
        && FzList ex name body)
  | _ => false
/-- a statement before the last one of a body: a form of F2 (`ex`: whose loops may `break`/`continue`), or a nested
`defn` whose body is again in `FzList` (self tail calls, loops with exits — in nested functions) -/
def Fs (ex : Bool) (self : String) : Expr → Bool
  | .defn name ps rest body => (if ex then Fx [] self (.defn name ps rest body) else Ff true self (.defn name ps rest body)) ||
      (okRest rest && okName name && (name != "") && decide (ps ++ rest.toList).Nodup && ps.all okParam && !body.isEmpty
        && FzList ex name body)
  | .call f args => if ex then Fx [] self (.call f args) else Ff true self (.call f args)
  | .begin_ es => if ex then Fx [] self (.begin_ es) else Ff true self (.begin_ es)
  | .cond arms d => if ex then Fx [] self (.cond arms d) else Ff true self (.cond arms d)
  | .newScope es => if ex then Fx [] self (.newScope es) else Ff true self (.newScope es)
  | .let_ seq bs body => if ex then Fx [] self (.let_ seq bs body) else Ff true self (.let_ seq bs body)
  | .int v => if ex then Fx [] self (.int v) else Ff true self (.int v)
  | .bool v => if ex then Fx [] self (.bool v) else Ff true self (.bool v)
  | .str v => if ex then Fx [] self (.str v) else Ff true self (.str v)
  | .nilLit => if ex then Fx [] self .nilLit else Ff true self .nilLit
  | .sym x => if ex then Fx [] self (.sym x) else Ff true self (.sym x)
  | .arr es => if ex then Fx [] self (.arr es) else Ff true self (.arr es)
  | .def_ x e => if ex then Fx [] self (.def_ x e) else Ff true self (.def_ x e)
  | .set_ x e => if ex then Fx [] self (.set_ x e) else Ff true self (.set_ x e)
  | .and_ es => if ex then Fx [] self (.and_ es) else Ff true self (.and_ es)
  | .or_ es => if ex then Fx [] self (.or_ es) else Ff true self (.or_ es)
  | .for_ l i t s b => if ex then Fx [] self (.for_ l i t s b) else Ff true self (.for_ l i t s b)
  | .fn ps rest body => (if ex then Fx [] self (.fn ps rest body) else Ff true self (.fn ps rest body)) ||
      (okRest rest && decide (ps ++ rest.toList).Nodup && ps.all okParam && !body.isEmpty && FzList ex "" body)
  | .assign a b => if ex then Fx [] self (.assign a b) else Ff true self (.assign a b)
  | .bad a => if ex then Fx [] self (.bad a) else Ff true self (.bad a)
  | .break_ l => if ex then Fx [] self (.break_ l) else Ff true self (.break_ l)
  | .continue_ l => if ex then Fx [] self (.continue_ l) else Ff true self (.continue_ l)
def FzList (ex : Bool) (self : String) : List Expr → Bool
  | [] => true
  | [e] => Fz ex self e
  | e :: e' :: es => Fs ex self e && FzList ex self (e' :: es)
def FzArms (ex : Bool) (self : String) : List (Expr × Expr) → Bool
  | [] => true
  | (p, b) :: r => Ff true self p && Fz ex self b && FzArms ex self r
end

/-- a call with a computed callee is in the fragment when callee and operands are operands of the fragment -/
theorem ff_call_nonsym {fnOk : Bool} {self : String} {f : Expr} {args : List Expr} (hns : ∀ x, f ≠ .sym x) :
    Ff fnOk self (.call f args) = (Ff false "" f && FaList args) := by
  generalize hR : (Ff false "" f && FaList args) = R
  cases f with
  | sym x => exact absurd rfl (hns x)
  | _ => rw [Ff] <;> first | exact hR | (intro _ hh; cases hh)

theorem fz_call_nonsym {ex : Bool} {self : String} {f : Expr} {args : List Expr} (hns : ∀ x, f ≠ .sym x) :
    Fz ex self (.call f args) = Ff true self (.call f args) := by
  generalize hR : Ff true self (.call f args) = R
  cases f with
  | sym x => exact absurd rfl (hns x)
  | _ => rw [Fz] <;> first | exact hR | (intro _ hh; cases hh)

/-- the statements of F2 (resp. Fx) are statements of a body -/
theorem fs_of_stmt {ex : Bool} {self : String} {e : Expr} (h : (if ex then Fx [] self e else Ff true self e) = true) :
    Fs ex self e = true := by
  cases e <;> first | (rw [Fs]; exact h) | (rw [Fs, h]; rfl)

/-- a statement of a body: a statement of F2 (resp. Fx), or a nested `defn`/`fn` with a body of `FzList` -/
theorem fs_cases {ex : Bool} {self : String} {e : Expr} (h : Fs ex self e = true) :
    (if ex then Fx [] self e else Ff true self e) = true ∨
      (∃ name ps rest body, e = .defn name ps rest body ∧ okRest rest = true ∧ okName name = true ∧ name ≠ ""
        ∧ (ps ++ rest.toList).Nodup ∧ (∀ p ∈ ps, okParam p = true) ∧ body ≠ [] ∧ FzList ex name body = true) ∨
      (∃ ps rest body, e = .fn ps rest body ∧ okRest rest = true
        ∧ (ps ++ rest.toList).Nodup ∧ (∀ p ∈ ps, okParam p = true) ∧ body ≠ [] ∧ FzList ex "" body = true) := by
  cases e with
  | fn ps rest body =>
    rw [Fs] at h
    simp only [Bool.or_eq_true] at h
    rcases h with h | h
    · exact Or.inl h
    · simp only [Bool.and_eq_true, decide_eq_true_eq, Bool.not_eq_true', List.isEmpty_eq_false_iff,
        List.all_eq_true] at h
      exact Or.inr (Or.inr ⟨ps, rest, body, rfl, h.1.1.1.1, h.1.1.1.2, h.1.1.2, h.1.2, h.2⟩)
  | defn name ps rest body =>
    rw [Fs] at h
    simp only [Bool.or_eq_true] at h
    rcases h with h | h
    · exact Or.inl h
    · simp only [Bool.and_eq_true, bne_iff_ne, ne_eq, decide_eq_true_eq, Bool.not_eq_true', List.isEmpty_eq_false_iff,
        List.all_eq_true] at h
      exact Or.inr (Or.inl ⟨name, ps, rest, body, rfl, h.1.1.1.1.1.1, h.1.1.1.1.1.2, h.1.1.1.1.2, h.1.1.1.2, h.1.1.2, h.1.2, h.2⟩)
  | _ => rw [Fs] at h; exact Or.inl h

mutual
theorem fz_of_ff : ∀ (self : String) (e : Expr), Ff true self e = true → Fz false self e = true
  | self, .call f args, h => by
    cases f with
    | sym x =>
      rw [Ff] at h; simp only [Bool.and_eq_true] at h
      rw [Fz]; simp only [Bool.and_eq_true, Bool.or_eq_true]
      exact ⟨⟨⟨h.1.1.2, h.1.2⟩, h.2⟩, Or.inl h.1.1.1⟩
    | _ => rw [Fz] <;> first | exact h | (intro _ hh; cases hh)
  | self, .begin_ es, h => by rw [Ff] at h; rw [Fz]; exact fzList_of_ff self es h
  | self, .cond arms d, h => by
    rw [Ff] at h; simp only [Bool.and_eq_true] at h
    rw [Fz]; simp only [Bool.and_eq_true]
    exact ⟨fzArms_of_ff self arms h.1, fz_of_ff self d h.2⟩
  | self, .newScope es, h => by
    rw [Ff] at h; simp only [Bool.and_eq_true] at h
    rw [Fz]; simp only [Bool.and_eq_true]
    exact ⟨h.1, fzList_of_ff self es h.2⟩
  | self, .let_ seq bs body, h => by
    rw [Ff] at h; simp only [Bool.and_eq_true] at h
    rw [Fz]; simp only [Bool.and_eq_true]
    exact ⟨⟨⟨h.1.1.1, h.1.1.2⟩, h.1.2⟩, fzList_of_ff self body h.2⟩
  | self, .int v, h => by rw [Fz]; exact h
  | self, .bool v, h => by rw [Fz]; exact h
  | self, .str v, h => by rw [Fz]; exact h
  | self, .nilLit, h => by rw [Fz]; exact h
  | self, .sym x, h => by rw [Fz]; exact h
  | self, .arr es, h => by rw [Fz]; exact h
  | self, .def_ x e, h => by rw [Fz]; exact h
  | self, .set_ x e, h => by rw [Fz]; exact h
  | self, .and_ es, h => by rw [Fz]; exact h
  | self, .or_ es, h => by rw [Fz]; exact h
  | self, .for_ l i t s b, h => by rw [Fz]; simpa using h
  | self, .fn ps rest body, h => by rw [Fz, h]; rfl
  | self, .defn name ps rest body, h => by rw [Fz, h]; rfl
  | self, .assign _ _, h => by simp [Ff] at h
  | self, .bad _, h => by simp [Ff] at h
  | self, .break_ _, h => by simp [Ff] at h
  | self, .continue_ _, h => by simp [Ff] at h
theorem fzList_of_ff : ∀ (self : String) (es : List Expr), FfList true self es = true → FzList false self es = true
  | _, [], _ => by rw [FzList]
  | self, [e], h => by
    rw [FfList] at h; simp only [Bool.and_eq_true] at h
    rw [FzList]; exact fz_of_ff self e h.1
  | self, e :: e' :: es, h => by
    rw [FfList] at h; simp only [Bool.and_eq_true] at h
    rw [FzList]; simp only [Bool.and_eq_true]
    exact ⟨fs_of_stmt (by simpa using h.1), fzList_of_ff self (e' :: es) h.2⟩
theorem fzArms_of_ff : ∀ (self : String) (arms : List (Expr × Expr)), FfArms true self arms = true → FzArms false self arms = true
  | _, [], _ => by rw [FzArms]
  | self, (p, b) :: r, h => by
    rw [FfArms] at h; simp only [Bool.and_eq_true] at h
    rw [FzArms]; simp only [Bool.and_eq_true]
    exact ⟨⟨h.1.1, fz_of_ff self b h.1.2⟩, fzArms_of_ff self r h.2⟩
end

/-- the generator's name for the function being compiled: the one the fragment was checked
against, none, or the name of an anonymous function -/
def FnameOk (self : String) (c : Ctx) : Prop :=
  c.funcname = self ∨ c.funcname = "" ∨ ∃ t : Nat, c.funcname = s!"__anon{t}"

theorem anon_prefix (t : Nat) : (s!"__anon{t}").startsWith "__anon" = true := by
  simp
  have h : (toString "__anon").toList = ['_', '_', 'a', 'n', 'o', 'n'] := by decide
  rw [h]; exact List.prefix_append _ _

theorem ne_anon (t : Nat) (h : String) (hh : h.startsWith "__anon" = false) : (h == s!"__anon{t}") = false := by
  by_cases e : h = s!"__anon{t}"
  · rw [e, anon_prefix] at hh; cases hh
  · simpa using e

end ZygoVerif.Sim
