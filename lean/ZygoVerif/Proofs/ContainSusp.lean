/-
C05 on the executable VM model: the scope-stack OBJECT is restored, unconditionally.

A lazy force sets the live scope stack aside (`suspended`, newest first) and works on the
thunk's own stack; `restoreControlState` puts the recorded stack object back. This file proves
for EVERY function of the VM's mutual block (`run`, `runLoop`, `exec` for every instruction,
`evalCallExpr`, `nested`, `prepareArgs`, `callResolved`, `callUser`, `builtin`, `applyFn`,
`mapArr`, `mapList`, `forceLazy`), from every state and whatever the outcome: the stacks that
were set aside when the function was entered are still set aside, in place, when it returns
(`allKeeps`). It does so by showing that the machine's table updates respect that relation
(`respects`; the induction on the fuel is `VM.allMoves`). No instruction reaches into
`suspended`; only `restore` shrinks it, and never below the size recorded by the bracket that
owns it.

Consequence (`run_error_susp`): on the error exit of `Run` the set-aside stacks are EXACTLY
those of entry — the `susp` component of `Extends` needs no hypothesis.
-/
import ZygoVerif.Proofs.ContainExact
import ZygoVerif.Proofs.ContainTop
import ZygoVerif.Proofs.ContainGen
import ZygoVerif.Proofs.VMBody
namespace ZygoVerif.Contain
open ZygoVerif.Core ZygoVerif.VM ZygoVerif.Sim

abbrev Susp := List (List (Option Nat))

/-- the stacks `base` set aside before are still set aside, in place — and the loop-record
stack (which only the code generator touches, balanced) is what it was -/
def SK (base : Susp) (s s' : St) : Prop :=
  base <:+ s.suspended → base <:+ s'.suspended ∧ s'.loopstack = s.loopstack

theorem SK.refl (base : Susp) (s : St) : SK base s s := fun h => ⟨h, rfl⟩
theorem SK.trans {base : Susp} {a b c : St} (h1 : SK base a b) (h2 : SK base b c) : SK base a c := fun h =>
  ⟨(h2 (h1 h).1).1, (h2 (h1 h).1).2.trans (h1 h).2⟩
theorem SK.same {base : Susp} {s s' : St} (h : s'.suspended = s.suspended) (hl : s'.loopstack = s.loopstack := by rfl) :
    SK base s s' := fun hb => ⟨h ▸ hb, hl⟩

def Keeps {α} (base : Susp) (m : M α) : Prop := ∀ s, SK base s (m.run s).2

variable {base : Susp}

theorem SK.pre (base : Susp) : Pre (SK base) := ⟨SK.refl base, SK.trans⟩

theorem keeps_hostPanic {α} : Keeps base (hostPanic : M α) := fun s => SK.refl _ s

/-- after `capture` the bound record holds the present number of set-aside stacks -/
theorem keeps_capture_bind {β} {f : CtlState → M β} (hf : ∀ st, base.length ≤ st.susp → Keeps base (f st)) :
    Keeps base (capture >>= f) := by
  intro s hb
  rw [run_bind, run_capture]
  exact hf (captureOf s) (by obtain ⟨t, ht⟩ := hb; show base.length ≤ s.suspended.length; rw [← ht]; simp) s hb

theorem keeps_of_same {α} {m : M α}
    (h : ∀ s, (m.run s).2.suspended = s.suspended ∧ (m.run s).2.loopstack = s.loopstack) : Keeps base m :=
  fun s => SK.same (h s).1 (h s).2

/-- `restore` drops set-aside stacks down to the recorded number only -/
theorem keeps_restore (st : CtlState) (hst : base.length ≤ st.susp) : Keeps base (restore st) := by
  intro s hb
  rw [run_restore]
  exact ⟨suffix_suspAt hb hst, rfl⟩

theorem keeps_capture : Keeps base capture := keeps_of_same (fun _ => ⟨rfl, rfl⟩)
theorem keeps_setInScope (id : Nat) (x : String) (v : Val) : Keeps base (setInScope id x v) :=
  keeps_of_same (fun _ => ⟨rfl, rfl⟩)

/-- `runGen`: a failed compilation changes nothing; a successful one hands back the loop stack
the generator was given (`GenLS`) -/
theorem keeps_runGen {α} (g : G α) (hg : GenLS g) : Keeps base (runGen g) := by
  refine keeps_of_same (fun s => ?_)
  rw [run_runGen]
  split
  · rename_i a gs' h
    exact ⟨rfl, hg _ _ _ h⟩
  · exact ⟨rfl, rfl⟩

structure AllKeeps (base : Susp) (fuel : Nat) : Prop where
  run : Keeps base (run fuel)
  runLoop : ∀ st, base.length ≤ st.susp → Keeps base (runLoop fuel st)
  exec : ∀ i, Keeps base (exec fuel i)
  evalCallExpr : ∀ e, Keeps base (evalCallExpr fuel e)
  nested : ∀ f st, base.length ≤ st.susp → Keeps base (nested fuel f st)
  prepareArgs : ∀ f i es, Keeps base (prepareArgs fuel f i es)
  callResolved : ∀ f args, Keeps base (callResolved fuel f args)
  callUser : ∀ name n, Keeps base (callUser fuel name n)
  builtin : ∀ name args, Keeps base (builtin fuel name args)
  applyFn : ∀ f args, Keeps base (applyFn fuel f args)
  mapArr : ∀ f r i n, Keeps base (mapArr fuel f r i n)
  mapList : ∀ f l, Keeps base (mapList fuel f l)
  forceLazy : ∀ id, Keeps base (forceLazy fuel id)

/-- run `m` from the current state, keep its state, continue on its result (the shape of
`runLoop`, `nested`, `callResolved`, `callUser`, `applyFn`) -/
theorem sk_run_set {α β} (m : M α) (hm : Keeps base m) (k : Except Fault α → M β) (hk : ∀ r, Keeps base (k r)) (s : St) :
    SK base s ((do set (m.run s).2; k (m.run s).1 : M β).run s).2 := by
  rw [run_bind, run_set]
  have hstep := hm s
  generalize m.run s = p at hstep ⊢
  obtain ⟨r1, s1⟩ := p
  exact hstep.trans (hk r1 s1)

/-- `Force`: the live scope stack is set aside ON TOP of what was set aside, the recorded
number is the one from before, so the `restore` of `nested` takes exactly that one off. -/
theorem keeps_forceLazy_succ (n : Nat) (ih : ∀ f st, base.length ≤ st.susp → Keeps base (nested n f st)) (id : Nat) :
    Keeps base (forceLazy (n+1) id) := by
  have hfin : ∀ lz v, Keeps base (C16.forceFinish id lz v) := fun _ _ => keeps_of_same fun _ => ⟨rfl, rfl⟩
  intro s hb
  rw [run_forceLazy]
  split
  · exact ⟨hb, rfl⟩
  rename_i lz _
  split
  · exact ⟨hb, rfl⟩
  have hg := keeps_runGen (base := base) _ (genLS_compile (isFnScope s) lz.e {}) s hb
  split <;> rename_i h <;> rw [h] at hg
  · exact hg
  rename_i code t s1
  refine SK.trans (fun _ => hg) ?_ hb
  split
  · exact hfin lz .nil s1
  · exact SK.trans (b := thunkSt s1 _ _ _) (fun h1 => ⟨h1.trans (List.suffix_cons _ _), rfl⟩)
      ((SK.pre base).bind (ih _ _ hg.1.length_le) (hfin lz) _)

/-- keeping `base` set aside is an invariant of the machine; a captured control state may be
restored when it was captured with `base` set aside -/
theorem respects (base : Susp) : Respects (SK base) (fun st => base.length ≤ st.susp) where
  refl := SK.refl base
  trans := SK.trans
  frame := fun _ _ hl _ _ hs => SK.same hs hl
  setVar := keeps_setInScope
  dropScope := keeps_of_same fun s => by rw [run_popScope]; split <;> exact ⟨rfl, rfl⟩
  addScope := fun _ _ _ => SK.same rfl
  addFn := fun _ _ _ => SK.same rfl
  addLazy := fun _ _ _ => SK.same rfl
  gen := fun _ _ _ => keeps_runGen _ (genLS_compile _ _ _)
  captureBind := keeps_capture_bind
  restoreTo := keeps_restore
  force := keeps_forceLazy_succ

theorem keeps_jumpTo (n : Int) : Keeps base (jumpTo n) := (respects base).jumpTo n
theorem keeps_popScope : Keeps base popScope := (respects base).dropScope
theorem keeps_popScopes (n : Nat) : Keeps base (popScopes n) := (respects base).popScopes n
theorem keeps_popToMark (l : Nat) (k : Bool) (f : Nat) : Keeps base (popToMark l k f) := (respects base).popToMark l k f
theorem keeps_bindTop (x : String) (v : Val) : Keeps base (bindTop x v) := (respects base).bindTop x v

theorem allKeeps (base : Susp) : ∀ fuel, AllKeeps base fuel := fun fuel =>
  have a := allMoves (respects base) fuel
  ⟨a.run, a.runLoop, a.exec, a.evalCallExpr, a.nested, a.prepareArgs, a.callResolved, a.callUser, a.builtin, a.applyFn,
    a.mapArr, a.mapList, a.forceLazy⟩

/-- **The error exit of `Run`**, from any state and whatever ran: the result is `restore` of the control state captured
at entry, applied to the state `s₁` in which an instruction of this run stopped with the error, with the pc parked. In
`s₁` the stacks set aside at entry are still set aside, the loop stack is that of entry, and whatever the instruction
steps keep (`P`) holds. What C05 says of a failed `Run` is read off this. -/
theorem faultState_susp (P : St → Prop) (hP : ∀ f i s₀, P s₀ → P ((exec f i).run s₀).2) (fuel : Nat) (s s' : St) (hp : P s)
    (h : (run fuel).run s = (.error .err, s')) :
    ∃ s₁, FaultState fuel s s₁ ∧ P s₁ ∧ s.suspended <:+ s₁.suspended ∧ s₁.loopstack = s.loopstack ∧
      s' = park (restoreSt (captureOf s) s₁) := by
  obtain ⟨s1, ⟨hp1, hk⟩, hx, rfl⟩ := run_err_inv (fun x => P x ∧ SK s.suspended s x)
    (fun f i s0 hp => ⟨hP f i s0 hp.1, hp.2.trans ((allKeeps s.suspended f).exec i s0)⟩) fuel s _ ⟨hp, SK.refl _ s⟩ h
  exact ⟨s1, ⟨hx, h⟩, hp1, (hk (List.suffix_refl _)).1, (hk (List.suffix_refl _)).2, rfl⟩

/-- on the error exit of `Run`, from any state and whatever ran, the scope
stacks set aside by enclosing lazy forces are EXACTLY those of entry: `restoreControlState`
puts back the scope-stack object that was current at entry. No hypothesis. -/
theorem run_error_susp (fuel : Nat) (s s' : St) (h : (run fuel).run s = (.error .err, s')) :
    s'.suspended = s.suspended := by
  obtain ⟨s1, _, _, hs, _, rfl⟩ := faultState_susp (fun _ => True) (fun _ _ _ _ => trivial) fuel s s' trivial h
  exact suspAt_of_suffix s s1 hs

/-- … and the loop-record stack is that of entry (the VM never touches it; the generator,
called at run time for operands and lazy arguments, hands it back balanced). -/
theorem run_error_loopstack (fuel : Nat) (s s' : St) (h : (run fuel).run s = (.error .err, s')) :
    s'.loopstack = s.loopstack := by
  obtain ⟨s1, _, _, _, hl, rfl⟩ := faultState_susp (fun _ => True) (fun _ _ _ _ => trivial) fuel s s' trivial h
  exact hl

end ZygoVerif.Contain
