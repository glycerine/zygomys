/-
Floats and uint64 as the printer writes them.

`strconv.FormatFloat`/`ParseFloat` are not modelled: they enter through `FloatLaw ff`, an
explicit hypothesis about the formatting function `ff` (DESIGN §5) — the SHAPE of the text of a
finite float (`[-]digits[.digits][e(+|-)digits]`, with a fraction or an exponent once
`SexpFloat.SexpString` has appended `.0` to a whole number: fix C12-03), and the PARSE-BACK law
(`ParseFloat` of that text is the float). From the shape alone it is proved here that the text is
lexed as ONE atom, classified as a FLOAT token (not an integer), and converted by the
`TokenFloat` case to the same float with the same `Scientific` flag.
-/
import ZygoVerif.Proofs.LexNumbers
namespace ZygoVerif.Lexer
open ZygoVerif.PrintData ZygoVerif.NumLit

structure FloatParts where
  neg : Bool
  ip : List Char                      -- integer digits
  fp : Option (List Char)             -- fraction digits
  ex : Option (Char × List Char)      -- exponent sign and digits
  deriving Repr

def fracText : Option (List Char) → List Char
  | none => []
  | some f => '.' :: f

def expText : Option (Char × List Char) → List Char
  | none => []
  | some (s, ds) => 'e' :: s :: ds

def FloatParts.mant (p : FloatParts) : List Char :=
  (if p.neg then ['-'] else []) ++ p.ip ++ fracText p.fp

def FloatParts.render (p : FloatParts) : List Char :=
  p.mant ++ expText p.ex

def digitsOK (ds : List Char) : Prop := ds ≠ [] ∧ ∀ c ∈ ds, isDig c = true

structure FloatParts.Valid (p : FloatParts) : Prop where
  ip : digitsOK p.ip
  fp : ∀ f, p.fp = some f → digitsOK f
  ex : ∀ s ds, p.ex = some (s, ds) → (s = '+' ∨ s = '-') ∧ digitsOK ds
  isFloat : p.fp.isSome = true ∨ p.ex.isSome = true

def isFiniteBits (b : Nat) : Bool := decide (b < 2 ^ 64) && (b / 2 ^ 52) % 2048 != 2047

/-- **The law assumed of `strconv.FormatFloat` / `ParseFloat`** (sampled on every run by the `rt`
channel over all binades): what `SexpFloat.SexpString` prints for a finite float has the shape
above, carries an exponent exactly when the `'e'` format was asked for, and `ParseFloat` of it is
the float. -/
def FloatLaw (ff : FloatFmt) : Prop :=
  ∀ b sci, isFiniteBits b = true →
    ∃ p : FloatParts, p.Valid ∧ printFloat ff b sci = p.render ∧ (p.ex.isSome = sci) ∧ parseFloat p.render = some b

theorem dropWhile_digits (ds : List Char) (hd : ∀ c ∈ ds, isDig c = true) (x : Char) (rest : List Char)
    (hx : isDigU x = false) : (ds ++ x :: rest).dropWhile isDigU = x :: rest := by
  rw [List.dropWhile_append_of_pos fun c hc => by simp [isDigU, hd c hc], List.dropWhile_cons_of_neg (by simp [hx])]

theorem dropWhile_digits_nil (ds : List Char) (hd : ∀ c ∈ ds, isDig c = true) : ds.dropWhile isDigU = [] := by
  induction ds with
  | nil => rfl
  | cons d r ih =>
    have : isDigU d = true := by simp [isDigU, hd d (by simp)]
    simp only [List.dropWhile_cons, this, ↓reduceIte]
    exact ih (fun c hc => hd c (by simp [hc]))

theorem exp_ok (s : Char) (ds : List Char) (hs : s = '+' ∨ s = '-') (hd : digitsOK ds) :
    isE 'e' = true ∧ expPart (s :: ds) = true := by
  refine ⟨by decide, ?_⟩
  rcases hs with rfl | rfl <;> simp [expPart, digThenDigU_digits ds hd.1 hd.2]

theorem isDig_ne_dot : ∀ d : Char, isDig d = true → d ≠ '.' := isDig_cases _ (by decide)

theorem floatBody_digit (d : Char) (r : List Char) (hdd : isDig d = true) :
    floatBody (d :: r) =
      match r.dropWhile isDigU with
      | '.' :: r2 => (match r2.dropWhile isDigU with
        | [] => true
        | e :: ex => isE e && expPart ex)
      | e :: ex => isE e && expPart ex
      | [] => false := by
  unfold floatBody
  split
  · rename_i heq; simp only [List.cons.injEq] at heq; exact absurd heq.1 (isDig_ne_dot d hdd)
  · rename_i _ c r' _ heq
    simp only [List.cons.injEq] at heq; obtain ⟨rfl, rfl⟩ := heq
    simp only [hdd, ↓reduceIte]
    rfl
  · rename_i heq; simp at heq

theorem floatBody_dot_end (d : Char) (r r2 : List Char) (hdd : isDig d = true)
    (h1 : r.dropWhile isDigU = '.' :: r2) (h2 : r2.dropWhile isDigU = []) : floatBody (d :: r) = true := by
  rw [floatBody_digit d r hdd, h1]; simp only [h2]

theorem floatBody_dot_exp (d : Char) (r r2 : List Char) (e : Char) (ex : List Char) (hdd : isDig d = true)
    (h1 : r.dropWhile isDigU = '.' :: r2) (h2 : r2.dropWhile isDigU = e :: ex) (he : isE e = true)
    (hx : expPart ex = true) : floatBody (d :: r) = true := by
  rw [floatBody_digit d r hdd, h1]; simp only [h2, he, hx, Bool.and_self]

theorem floatBody_exp (d : Char) (r : List Char) (e : Char) (ex : List Char) (hdd : isDig d = true)
    (h1 : r.dropWhile isDigU = e :: ex) (hne : e ≠ '.') (he : isE e = true) (hx : expPart ex = true) :
    floatBody (d :: r) = true := by
  rw [floatBody_digit d r hdd, h1]
  split
  · rename_i heq; simp only [List.cons.injEq] at heq; exact absurd heq.1 hne
  · rename_i heq; simp only [List.cons.injEq] at heq; obtain ⟨rfl, rfl⟩ := heq; simp only [he, hx, Bool.and_self]
  · rename_i heq; cases heq

theorem floatBody_parts (ip : List Char) (fp : Option (List Char)) (ex : Option (Char × List Char))
    (hip : digitsOK ip) (hfp : ∀ f, fp = some f → digitsOK f)
    (hex : ∀ s ds, ex = some (s, ds) → (s = '+' ∨ s = '-') ∧ digitsOK ds)
    (hfl : fp.isSome = true ∨ ex.isSome = true) :
    floatBody (ip ++ fracText fp ++ expText ex) = true := by
  obtain ⟨hne, hd⟩ := hip
  cases ip with
  | nil => exact absurd rfl hne
  | cons d r =>
    have hdd : isDig d = true := hd d (by simp)
    have hr : ∀ c ∈ r, isDig c = true := fun c hc => hd c (by simp [hc])
    have hdotU : isDigU '.' = false := by decide
    have heU : isDigU 'e' = false := by decide
    cases fp with
    | some f =>
      obtain ⟨hfne, hfd⟩ := hfp f rfl
      cases ex with
      | none =>
        have h1 : (r ++ '.' :: f).dropWhile isDigU = '.' :: f := dropWhile_digits r hr '.' f hdotU
        have := floatBody_dot_end d (r ++ '.' :: f) f hdd h1 (dropWhile_digits_nil f hfd)
        simpa [fracText, expText] using this
      | some sd =>
        obtain ⟨s, ds⟩ := sd
        obtain ⟨hs, hds⟩ := hex s ds rfl
        obtain ⟨he1, he2⟩ := exp_ok s ds hs hds
        have h1 : (r ++ '.' :: (f ++ 'e' :: s :: ds)).dropWhile isDigU = '.' :: (f ++ 'e' :: s :: ds) :=
          dropWhile_digits r hr '.' _ hdotU
        have h2 : (f ++ 'e' :: s :: ds).dropWhile isDigU = 'e' :: s :: ds := dropWhile_digits f hfd 'e' _ heU
        have := floatBody_dot_exp d _ _ 'e' (s :: ds) hdd h1 h2 he1 he2
        simpa [fracText, expText] using this
    | none =>
      cases ex with
      | none => simp at hfl
      | some sd =>
        obtain ⟨s, ds⟩ := sd
        obtain ⟨hs, hds⟩ := hex s ds rfl
        obtain ⟨he1, he2⟩ := exp_ok s ds hs hds
        have h1 : (r ++ 'e' :: s :: ds).dropWhile isDigU = 'e' :: s :: ds := dropWhile_digits r hr 'e' _ heU
        have := floatBody_exp d _ 'e' (s :: ds) hdd h1 (by decide) he1 he2
        simpa [fracText, expText] using this

theorem decodeAtom_float_of (a : List Char) (h0 : a.getLast? ≠ some ':') (h1 : a ≠ ['&']) (h2 : a ≠ ['\\'])
    (h3 : boolRe a = false) (h4 : uint64Re a = false) (h5 : decimalRe a = false) (h6 : hexRe a = false)
    (h7 : octRe a = false) (h8 : binaryRe a = false) (h9 : floatRe a = true) :
    decodeAtom a = .ok ⟨.float, a⟩ := by
  simp only [decodeAtom_cascade a h0 h1 h2, h3, h4, h5, h6, h7, h8, h9, Bool.false_eq_true, ↓reduceIte]

def FloatParts.body (p : FloatParts) : List Char := p.ip ++ fracText p.fp ++ expText p.ex

theorem FloatParts.render_eq (p : FloatParts) : p.render = (if p.neg then ['-'] else []) ++ p.body := by
  simp [FloatParts.render, FloatParts.mant, FloatParts.body, List.append_assoc]

/-- the runes after the integer digits: not empty, starting with `.` or `e` -/
theorem FloatParts.tail_head (p : FloatParts) (hv : p.Valid) :
    ∃ x r, fracText p.fp ++ expText p.ex = x :: r ∧ (x = '.' ∨ x = 'e') := by
  cases hfp : p.fp with
  | some f => exact ⟨'.', _, rfl, Or.inl rfl⟩
  | none =>
    cases hex : p.ex with
    | some sd => obtain ⟨s, ds⟩ := sd; exact ⟨'e', s :: ds, by simp [fracText, expText], Or.inr rfl⟩
    | none => have := hv.isFloat; simp [hfp, hex] at this

theorem FloatParts.last_digit (p : FloatParts) (hv : p.Valid) : ∃ c, p.render.getLast? = some c ∧ isDig c = true := by
  have key : ∀ (pre ds : List Char), digitsOK ds → ∃ c, (pre ++ ds).getLast? = some c ∧ isDig c = true := by
    intro pre ds hds
    obtain ⟨hne, hd⟩ := hds
    refine ⟨ds.getLast hne, ?_, hd _ (List.getLast_mem hne)⟩
    rw [List.getLast?_append, List.getLast?_eq_some_getLast hne]; rfl
  unfold FloatParts.render
  cases hex : p.ex with
  | some sd =>
    obtain ⟨s, ds⟩ := sd
    have := key (p.mant ++ ['e', s]) ds (hv.ex s ds hex).2
    simpa [expText, List.append_assoc] using this
  | none =>
    cases hfp : p.fp with
    | some f =>
      have := key ((if p.neg then ['-'] else []) ++ p.ip ++ ['.']) f (hv.fp f hfp)
      simpa [FloatParts.mant, hfp, fracText, expText, List.append_assoc] using this
    | none => have := hv.isFloat; simp [hfp, hex] at this

theorem digThenDigU_false_of_mem (d : Char) (r : List Char) (x : Char) (hx : x ∈ r) (hnx : isDigU x = false) :
    digThenDigU (d :: r) = false := by
  simp only [digThenDigU, Bool.and_eq_false_iff]
  right
  rw [Bool.eq_false_iff]
  intro hall
  rw [List.all_eq_true] at hall
  have := hall x hx
  rw [hnx] at this; cases this

theorem based_second (c1 c2 : Char) (r : List Char) (h : c2 ≠ 'x' ∧ c2 ≠ 'o' ∧ c2 ≠ 'b') :
    hexRe (c1 :: c2 :: r) = false ∧ octRe (c1 :: c2 :: r) = false ∧ binaryRe (c1 :: c2 :: r) = false := by
  refine ⟨?_, ?_, ?_⟩
  · unfold hexRe; split
    · rename_i heq; simp only [List.cons.injEq] at heq; exact absurd heq.2.1 h.1
    · rfl
  · unfold octRe; split
    · rename_i heq; simp only [List.cons.injEq] at heq; exact absurd heq.2.1 h.2.1
    · rfl
  · unfold binaryRe; split
    · rename_i heq; simp only [List.cons.injEq] at heq; exact absurd heq.2.1 h.2.2
    · rfl

theorem isDig_not_xob : ∀ c : Char, isDig c = true → c ≠ 'x' ∧ c ≠ 'o' ∧ c ≠ 'b' := isDig_cases _ (by decide)

/-- a text of the float shape is a FLOAT token (never an integer token) -/
theorem decodeAtom_floatParts (p : FloatParts) (hv : p.Valid) : decodeAtom p.render = .ok ⟨.float, p.render⟩ := by
  obtain ⟨lc, hlast, hld⟩ := p.last_digit hv
  obtain ⟨f1, f2, _, _, _, _, _, _⟩ := isDig_facts lc hld
  obtain ⟨x, tr, htail, hx⟩ := p.tail_head hv
  obtain ⟨hipne, hipd⟩ := hv.ip
  have hxU : isDigU x = false := by rcases hx with rfl | rfl <;> decide
  have hxn : x ≠ 'x' ∧ x ≠ 'o' ∧ x ≠ 'b' := by rcases hx with rfl | rfl <;> decide
  cases hip : p.ip with
  | nil => exact absurd hip hipne
  | cons d r =>
    have hdd : isDig d = true := hipd d (by rw [hip]; simp)
    obtain ⟨_, _, g3, g4, g5, g6, g7, _⟩ := isDig_facts d hdd
    have hbody : p.body = d :: (r ++ x :: tr) := by rw [FloatParts.body, List.append_assoc, hip, htail]; rfl
    have hfb : floatBody p.body = true := by
      exact floatBody_parts p.ip p.fp p.ex hv.ip hv.fp hv.ex hv.isFloat
    have hdec : digThenDigU p.body = false := by
      rw [hbody]; exact digThenDigU_false_of_mem d _ x (by simp) hxU
    have hsecond : ∃ c2 r2, r ++ x :: tr = c2 :: r2 ∧ (c2 ≠ 'x' ∧ c2 ≠ 'o' ∧ c2 ≠ 'b') := by
      cases r with
      | nil => exact ⟨x, tr, rfl, hxn⟩
      | cons c2 r2 => exact ⟨c2, r2 ++ x :: tr, rfl, isDig_not_xob c2 (hipd c2 (by rw [hip]; simp))⟩
    obtain ⟨c2, r2, hr2, hc2⟩ := hsecond
    have hdm : dropMinus p.body = p.body := by rw [hbody]; exact dropMinus_cons g7 _
    cases hneg : p.neg with
    | true =>
      have hr : p.render = '-' :: p.body := by rw [p.render_eq, hneg]; rfl
      rw [hr] at hlast ⊢
      have hdm2 : dropMinus ('-' :: p.body) = p.body := rfl
      obtain ⟨b6, b7, b8⟩ := based_head '-' p.body (by decide)
      apply decodeAtom_float_of
      · rw [hlast]; intro h; exact f1 (Option.some.inj h)
      · intro h; rw [hbody] at h; simp at h
      · intro h; rw [hbody] at h; simp at h
      · exact boolRe_head '-' _ (by decide) (by decide)
      · exact uint64Re_last _ lc hlast f2
      · simp only [decimalRe, hdm2, hdec]
      · exact b6
      · exact b7
      · exact b8
      · simp only [floatRe, hdm2, hfb]
    | false =>
      have hr : p.render = p.body := by rw [p.render_eq, hneg]; rfl
      rw [hr] at hlast ⊢
      obtain ⟨b6, b7, b8⟩ : hexRe p.body = false ∧ octRe p.body = false ∧ binaryRe p.body = false := by
        rw [hbody, hr2]; exact based_second d c2 r2 hc2
      apply decodeAtom_float_of
      · rw [hlast]; intro h; exact f1 (Option.some.inj h)
      · intro h; rw [hbody] at h; simp at h
      · intro h; rw [hbody] at h; simp at h
      · rw [hbody]; exact boolRe_head d _ g3 g4
      · exact uint64Re_last _ lc hlast f2
      · simp only [decimalRe, hdm, hdec]
      · exact b6
      · exact b7
      · exact b8
      · simp only [floatRe, hdm, hfb]

theorem utf8Len_foldl (l : List Char) (n : Nat) : l.foldl (fun n c => n + c.utf8Size) n ≥ n + l.length := by
  induction l generalizing n with
  | nil => simp
  | cons c r ih =>
    have := ih (n + c.utf8Size)
    have hp : 1 ≤ c.utf8Size := Char.utf8Size_pos c
    simp only [List.foldl_cons, List.length_cons]
    omega

theorem utf8Len_ge (l : List Char) : utf8Len l ≥ l.length := by
  have := utf8Len_foldl l 0
  simpa [utf8Len] using this

/-- the mantissa (text before the exponent) is a decimal or a float on its own: the test the
lexer makes before it lets `e+`/`e-` continue a number -/
theorem mant_is_number (p : FloatParts) (hv : p.Valid) : (decimalRe p.mant || floatRe p.mant) = true := by
  cases hfp : p.fp with
  | none =>
    have : p.mant = (if p.neg then ['-'] else []) ++ p.ip := by simp [FloatParts.mant, hfp, fracText]
    rw [this, decimalRe_signed_digits p.neg p.ip hv.ip.1 hv.ip.2]; rfl
  | some f =>
    have hfb : floatBody (p.ip ++ fracText (some f) ++ expText none) = true :=
      floatBody_parts p.ip (some f) none hv.ip (fun f' hf' => hv.fp f' (by rw [hfp]; exact hf')) (by intro s ds h; cases h) (Or.inl rfl)
    have hb : p.ip ++ '.' :: f = p.ip ++ fracText (some f) ++ expText none := by simp [fracText, expText]
    obtain ⟨hipne, hipd⟩ := hv.ip
    cases hip : p.ip with
    | nil => exact absurd hip hipne
    | cons d r =>
      have g7 := (isDig_facts d (hipd d (by rw [hip]; simp))).2.2.2.2.2.2.1
      have hm : dropMinus p.mant = p.ip ++ '.' :: f := by
        cases hneg : p.neg with
        | true => simp [FloatParts.mant, hneg, hfp, fracText, dropMinus]
        | false =>
          simp only [FloatParts.mant, hneg, hfp, fracText, Bool.false_eq_true, ↓reduceIte, List.nil_append, hip, List.cons_append]
          exact dropMinus_cons g7 _
      simp only [floatRe, hm, hb, hfb, Bool.or_true]

theorem stepNormal_exp_sign (s : LexCore) (r : Char) (hr : r = '+' ∨ r = '-') (he : isE (twoback s) = true)
    (hsp : sciPrefix s.buffer = true) : stepNormal s r = writeRune s r := by
  rcases hr with rfl | rfl <;> simp [stepNormal, he, hsp]

theorem reads_exp_sign (b : List Char) (r : Char) (hr : r = '+' ∨ r = '-') (hsp : sciPrefix b = true) :
    Reads (Norm b) 'e' [r] [] (Norm (b ++ [r])) := by
  apply Reads.step
  intro s hs htb
  have hst : (pushRing s r).state = .normal := hs.1
  refine ⟨{ pushRing s r with buffer := (pushRing s r).buffer ++ [r] }, ?_, ⟨hst, ?_⟩, (List.append_nil _).symm⟩
  · rw [stepMode_normal _ _ hst,
      stepNormal_exp_sign _ r hr (by rw [htb]; decide) (by show sciPrefix s.buffer = true; rw [hs.2]; exact hsp)]
    rfl
  · show s.buffer ++ [r] = b ++ [r]; rw [hs.2]

theorem digits_plain (ds : List Char) (hd : ∀ c ∈ ds, isDig c = true) : ∀ c ∈ ds, isSpecial c = false :=
  fun c hc => isDig_cases (fun c => isSpecial c = false) isSpecial_digitChar c (hd c hc)

theorem fracText_plain (fp : Option (List Char)) (h : ∀ f, fp = some f → digitsOK f) : ∀ c ∈ fracText fp, isSpecial c = false := by
  cases fp with
  | none => simp [fracText]
  | some f =>
    intro c hc
    simp only [fracText, List.mem_cons] at hc
    rcases hc with rfl | hc
    · decide
    · exact digits_plain f (h f rfl).2 c hc

/-- the unsigned text `digits[.digits][e±digits]` continues a pending numeral `pre` (a sign and a
first digit, or nothing) -/
theorem reads_float_rest (p : FloatParts) (hv : p.Valid) (pre rest : List Char) (l : Char)
    (hm : p.mant = pre ++ rest) (hrest : ∀ c ∈ rest, isSpecial c = false) :
    Reads (Norm pre) l (rest ++ expText p.ex) [] (Norm p.render) := by
  have h1 := reads_plain_run rest hrest pre l
  cases hex : p.ex with
  | none =>
    have : p.render = pre ++ rest := by simp [FloatParts.render, hex, expText, hm]
    rw [this]
    simpa [expText] using h1
  | some sd =>
    obtain ⟨s, ds⟩ := sd
    obtain ⟨hs, hds⟩ := hv.ex s ds hex
    have hsp : sciPrefix (pre ++ rest ++ ['e']) = true := by
      have hlen : utf8Len (pre ++ rest ++ ['e']) > 1 := by
        have := utf8Len_ge (pre ++ rest ++ ['e'])
        have hml : 1 ≤ (pre ++ rest).length := by
          rw [← hm]
          obtain ⟨hipne, _⟩ := hv.ip
          cases hip : p.ip with
          | nil => exact absurd hip hipne
          | cons d r => simp [FloatParts.mant, hip]; omega
        simp only [List.length_append, List.length_cons, List.length_nil] at this hml ⊢
        omega
      have hmn := mant_is_number p hv
      rw [hm] at hmn
      simp only [sciPrefix, hlen, decide_true, Bool.true_and, List.getLast?_append, List.getLast?_singleton,
        Option.some_or, List.dropLast_concat, hmn, Bool.and_true]
      decide
    have := Reads.trans h1 (Reads.cons (reads_plain (pre ++ rest) _ 'e' (by decide))
      (Reads.cons (reads_exp_sign (pre ++ rest ++ ['e']) s hs hsp)
        (reads_plain_run ds (digits_plain ds hds.2) (pre ++ rest ++ ['e'] ++ [s]) s)))
    have hr : p.render = pre ++ rest ++ ['e'] ++ [s] ++ ds := by
      simp [FloatParts.render, hex, expText, hm, List.append_assoc]
    rw [hr]
    simpa [expText] using this

theorem reads_floatParts (p : FloatParts) (hv : p.Valid) (l : Char)
    (hl : p.neg = true → canStartSignedNumberAfter l = true) : Reads (Norm []) l p.render [] (Norm p.render) := by
  obtain ⟨hipne, hipd⟩ := hv.ip
  cases hip : p.ip with
  | nil => exact absurd hip hipne
  | cons d r =>
    have hdd : isDig d = true := hipd d (by rw [hip]; simp)
    have hdp : ∀ c ∈ d :: (r ++ fracText p.fp), isSpecial c = false := by
      intro c hc
      rw [List.mem_cons, List.mem_append] at hc
      rcases hc with rfl | hc | hc
      · exact digits_plain p.ip hipd c (by rw [hip]; simp)
      · exact digits_plain p.ip hipd c (by rw [hip]; simp [hc])
      · exact fracText_plain p.fp hv.fp c hc
    cases hneg : p.neg with
    | true =>
      have hm : p.mant = ['-', d] ++ (r ++ fracText p.fp) := by simp [FloatParts.mant, hneg, hip]
      have := Reads.trans (reads_minus_digit l d (hl hneg) hdd)
        (reads_float_rest p hv ['-', d] (r ++ fracText p.fp) _ hm fun c hc => hdp c (List.mem_cons_of_mem _ hc))
      have hr : p.render = ['-', d] ++ ((r ++ fracText p.fp) ++ expText p.ex) := by
        simp [FloatParts.render, hm, List.append_assoc]
      rwa [← hr] at this
    | false =>
      have hm : p.mant = [] ++ (d :: (r ++ fracText p.fp)) := by simp [FloatParts.mant, hneg, hip]
      have := reads_float_rest p hv [] (d :: (r ++ fracText p.fp)) l hm hdp
      have hr : p.render = (d :: (r ++ fracText p.fp)) ++ expText p.ex := by simp [FloatParts.render, hm]
      rwa [← hr] at this

theorem digits_no_e (ds : List Char) (hd : ∀ c ∈ ds, isDig c = true) : ds.contains 'e' = false ∧ ds.contains 'E' = false := by
  constructor <;>
  · rw [Bool.eq_false_iff]
    intro h
    rw [List.contains_iff_mem] at h
    have := hd _ h
    revert this; decide

theorem FloatParts.contains_e (p : FloatParts) (hv : p.Valid) :
    p.render.contains 'e' = p.ex.isSome ∧ p.render.contains 'E' = false := by
  obtain ⟨hi1, hi2⟩ := digits_no_e p.ip hv.ip.2
  have hsign : ((if p.neg then ['-'] else []) : List Char).contains 'e' = false ∧
      ((if p.neg then ['-'] else []) : List Char).contains 'E' = false := by
    cases p.neg <;> exact ⟨by decide, by decide⟩
  have hfrac : (fracText p.fp).contains 'e' = false ∧ (fracText p.fp).contains 'E' = false := by
    cases hfp : p.fp with
    | none => exact ⟨by decide, by decide⟩
    | some f =>
      obtain ⟨h1, h2⟩ := digits_no_e f (hv.fp f hfp).2
      constructor
      · simp only [fracText, List.contains_cons, h1, Bool.or_false]; decide
      · simp only [fracText, List.contains_cons, h2, Bool.or_false]; decide
  have hexp : (expText p.ex).contains 'e' = p.ex.isSome ∧ (expText p.ex).contains 'E' = false := by
    cases hex : p.ex with
    | none => exact ⟨by decide, by decide⟩
    | some sd =>
      obtain ⟨s, ds⟩ := sd
      obtain ⟨hs, hds⟩ := hv.ex s ds hex
      obtain ⟨h1, h2⟩ := digits_no_e ds hds.2
      constructor
      · simp [expText]
      · simp only [expText, List.contains_cons, h2, Bool.or_false]
        rcases hs with rfl | rfl <;> decide
  simp only [FloatParts.render, FloatParts.mant, List.contains_append, hsign.1, hsign.2, hi1, hi2, hfrac.1, hfrac.2, hexp.1,
    hexp.2, Bool.false_or, Bool.or_false]
  exact ⟨trivial, trivial⟩

/-- the float token converts to the float the law promises, with the
`Scientific` flag set exactly when the text has an exponent -/
theorem atomOfTok_floatParts (p : FloatParts) (hv : p.Valid) (b : Nat) (hb : parseFloat p.render = some b) :
    Parser.atomOfTok ⟨.float, p.render⟩ = some (some (.float b p.ex.isSome)) := by
  obtain ⟨he, hE⟩ := p.contains_e hv
  have hnan : (p.render == "NaN".toList) = false := by
    rw [beq_eq_false_iff_ne]
    intro h
    obtain ⟨hipne, hipd⟩ := hv.ip
    have a1 : "NaN".toList = ['N', 'a', 'N'] := by decide
    rw [p.render_eq, a1] at h
    cases hneg : p.neg with
    | true => rw [hneg] at h; simp at h
    | false =>
      rw [hneg] at h
      cases hip : p.ip with
      | nil => exact absurd hip hipne
      | cons d r =>
        have hd := hipd d (by rw [hip]; simp)
        simp only [FloatParts.body, hip, Bool.false_eq_true, ↓reduceIte, List.nil_append, List.cons_append,
          List.cons.injEq] at h
        rw [h.1] at hd; revert hd; decide
  simp only [Parser.atomOfTok, hnan, Bool.false_eq_true, ↓reduceIte, hb, Option.map_some, he, hE, Bool.or_false]

theorem stripSuffix_append (ds suf : List Char) : stripSuffix? suf (ds ++ suf) = some ds := by
  unfold stripSuffix?
  have h1 : (ds ++ suf).length ≥ suf.length := by simp
  have h2 : (ds ++ suf).length - suf.length = ds.length := by simp
  simp

theorem ULL_take (d : List Char) : (d ++ "ULL".toList).take ((d ++ "ULL".toList).length - 3) = d := by
  have : (d ++ "ULL".toList).length - 3 = d.length := by
    have : "ULL".toList.length = 3 := by decide
    simp
  rw [this, List.take_left']
  rfl

theorem uint64Re_append (d : List Char) :
    uint64Re (d ++ "ULL".toList) = (hexPlus d || (match d with
      | '0' :: 'x' :: r => hexPlus r
      | '0' :: 'o' :: r => hexPlus r
      | _ => false)) := by
  simp only [uint64Re, stripSuffix_append]
  rfl

theorem plain_ULL (d : List Char) (hd : ∀ c ∈ d, isSpecial c = false) : ∀ c ∈ d ++ "ULL".toList, isSpecial c = false := by
  intro c hc
  rw [List.mem_append] at hc
  rcases hc with hc | hc
  · exact hd c hc
  · have : ∀ c ∈ "ULL".toList, isSpecial c = false := by decide
    exact this c hc

theorem decodeAtom_uint (n : Nat) : decodeAtom (natDec n ++ "ULL".toList) = .ok ⟨.uint64, natDec n ++ "ULL".toList⟩ := by
  apply decodeAtom_of_uint64Re
  have hall : (natDec n).all isHexC = true :=
    List.all_eq_true.2 fun c hc => by simp [isHexC, natDec_isDig n c hc]
  rw [uint64Re_append]
  simp [hexPlus, hall, List.isEmpty_eq_false_iff.2 (natDec_ne_nil n)]

theorem atomOfTok_uint (n : Nat) (hn : n < 2 ^ 64) :
    Parser.atomOfTok ⟨.uint64, natDec n ++ "ULL".toList⟩ = some (some (.uint n)) := by
  have hne := natDec_ne_nil n
  have hd := natDec_isDig n
  have hp : parseUint64 10 (natDec n) = some n := by simp [parseUint64, natOfDigits_natDec, hn]
  simp only [Parser.atomOfTok, ULL_take]
  split
  · split
    · rename_i r heq; have := hd 'o' (by rw [heq]; simp); exact absurd this (by decide)
    · rename_i r heq; have := hd 'x' (by rw [heq]; simp); exact absurd this (by decide)
    · rw [hp]; rfl
  · rw [hp]; rfl

end ZygoVerif.Lexer
