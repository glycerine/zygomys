/-
Lemmas for Props/C01 §3: what the regular expressions of `DecodeAtom` say about the length of an atom they accept,
and `decodeCharSites` (the index and slice expressions of `DecodeChar` on such an atom).
-/
import ZygoVerif.Model.FrontSites
import ZygoVerif.Proofs.C01GenSites
namespace ZygoVerif.FrontSites
open ZygoVerif.Lexer ZygoVerif.GenSites

theorem hexRe_len (a : List Char) (h : hexRe a = true) : 2 ≤ a.length := by
  unfold hexRe at h
  split at h
  · simp
  · simp at h
theorem charRe_len (a : List Char) (h : charRe a = true) : a.length = 3 ∨ a.length = 4 := by
  unfold charRe at h
  split at h
  · left; simp
  · right; simp
  · simp at h

theorem octRe_len (a : List Char) (h : octRe a = true) : 2 ≤ a.length := by
  unfold octRe at h
  split at h
  · simp
  · simp at h

theorem binaryRe_len (a : List Char) (h : binaryRe a = true) : 2 ≤ a.length := by
  unfold binaryRe at h
  split at h
  · simp
  · simp at h

theorem decodeCharSites_np (a : List Char) (h : charRe a = true) : NoPanic (decodeCharSites a) := by
  unfold decodeCharSites
  have hl := charRe_len a h
  refine np_bind (sliceTo_np _ _ (by omega) (by omega)) (fun r1 h1 => ?_)
  have hr1 := (sliceTo_ok h1).1
  refine np_bind (sliceFrom_np _ _ (by omega) (by omega)) (fun r2 h2 => ?_)
  have hr2 := sliceFrom_ok h2
  split
  · rename_i hc2
    exact np_bind (idx_np _ _ (by omega) (by omega)) (fun _ _ => np_pure _)
  · split
    · rename_i hc1
      exact np_bind (idx_np _ _ (by omega) (by omega)) (fun _ _ => np_pure _)
    · exact np_err

end ZygoVerif.FrontSites
