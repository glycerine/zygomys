/-
C02, execution half — F2: user functions, closures, calls.

The simulation statement `SimF` (as `SimC`, with the id map `m` that a run may extend, the result related through
`tr`) is the statement of the system `fSys` (relation `RelF`, witness `m`, advance `AdvF`, no exits), `Ff` with the
generator's promise about function templates the fragment `fFg`: atoms, `def`/`set`, sequencing, statement lists and
`cond` are the steps of the interface (SimStep) at these instances, the operands of a call those of SimCall at
`fNest`. What is F2's own: a call with its callee evaluated (`simF_callV`: a closure object through `FClaimU`, a Go
builtin from its own claim `BClaim`, or nothing callable), every kind of callee sharing the operands of the call
instruction (`simVia_args`), and `fn`/`defn` making closure objects (`closure_step`). `simF_push`, `simF_sym`,
`simF_def_tail`, `simF_set_tail`, `SimF.prefix`, `SimF.cond_exit` state single steps of the interface in F2's vocabulary; the
induction (SimF2Ind) calls the steps of `fSys` itself, not them.
-/
import ZygoVerif.Proofs.SimF2Gen
import ZygoVerif.Proofs.ScopeSimF
import ZygoVerif.Proofs.SimF2Enter
import ZygoVerif.Proofs.SimLoop
namespace ZygoVerif.Sim
open ZygoVerif.Core ZygoVerif.VM

def SimF (code : List Instr) (m : Nat → Nat) (s : St) (rs : Ref.St) (env : Nat) (res : Ref.R Val) : Prop :=
  match res with
  | .ok v' rs' => ∃ s' m' v, ReachX s s' ∧ Lands code.length v s s' ∧ v' = trf m' v ∧ RelF m' s' rs' env
      ∧ MExt s m m' ∧ RExt rs rs' ∧ FrameF s s' ∧ VOk m' s' rs' v
  | .err rs' => FailsX s rs'.trace
  | .timeout => True
  | .brk _ _ => False
  | .cont _ _ => False

theorem vOk_lit {m s rs} (v : Val) (h : ∀ m β μ, tr m β μ v = v) : VOk m s rs v := valIn_of_const h

/-- what the VM lookup finds is a binding of the scope it names -/
theorem lexLookup_sound {s : St} {x : String} {id : Nat} {v : Val} (h : lexLookup s x = some (id, v)) :
    (scopeOf s id).vars.lookup x = some v := by
  rw [Scope.lexLookup_eq] at h
  obtain ⟨_, _, _, _, hv⟩ := Scope.firstBinding_some h
  exact hv

theorem withVars_frames_get (rs : Ref.St) (fr : Nat) (fr0 : Ref.Frame) (va : List (String × Val)) (i : Nat) :
    (withVars rs fr fr0 va).frames[i]? = if fr = i ∧ fr < rs.frames.length then some { fr0 with vars := va } else rs.frames[i]? := by
  simp only [withVars, List.getElem?_set]
  by_cases hi : fr = i
  · subst hi
    by_cases hlt : fr < rs.frames.length
    · simp [hlt]
    · simp [hlt]
  · simp [hi]

/-- the relation does not see the order of the bindings inside a frame -/
theorem RelF.withVars_congr {m : Nat → Nat} {s : St} {rs : Ref.St} {fr : Nat} {fr0 : Ref.Frame}
    {va vb : List (String × Val)} {env : Nat} (h : RelF m s (withVars rs fr fr0 vb) env) (hfr : rs.frames[fr]? = some fr0)
    (hl : ∀ y, va.lookup y = vb.lookup y) : RelF m s (withVars rs fr fr0 va) env := by
  have hlt := lt_of_getElem?_some hfr
  have hext : ∀ (i : Nat) (f : Ref.Frame), (withVars rs fr fr0 vb).frames[i]? = some f →
      ∃ f' : Ref.Frame, (withVars rs fr fr0 va).frames[i]? = some f' ∧ f'.parent = f.parent := by
    intro i f hf
    rw [withVars_frames_get] at hf ⊢
    by_cases hc : fr = i ∧ fr < rs.frames.length
    · rw [if_pos hc] at hf ⊢
      injection hf with hf; subst hf
      exact ⟨_, rfl, rfl⟩
    · rw [if_neg hc] at hf ⊢
      exact ⟨f, hf, rfl⟩
  have E : ExtF m s (withVars rs fr fr0 vb) m s (withVars rs fr fr0 va) :=
    ExtF.of_eq rfl (Nat.le_refl _) (fun _ _ => rfl) ⟨hext, fun i c hc => hc⟩
  have hkey : ∀ i y, ((withVars rs fr fr0 va).frames.getD i {}).vars.lookup y
      = ((withVars rs fr fr0 vb).frames.getD i {}).vars.lookup y := by
    intro i y
    simp only [List.getD_eq_getElem?_getD, withVars_frames_get]
    by_cases hc : fr = i ∧ fr < rs.frames.length
    · simp only [if_pos hc, Option.getD_some, hl y]
    · simp only [if_neg hc]
  refine h.move E (by rw [h.len]; simp [withVars]) (fun i => Or.inr ⟨fun x => by rw [hkey]; exact h.vars i x,
    fun x v hv => (h.vok i x v hv).grow E, fun name hn => ?_, h.fscopes i⟩) ?_ h.bottom (h.ctx_grow E) h.heap (h.hok.grow E)
    h.trace (h.lz.grow E rfl (by simp [withVars]))
  · rw [hkey]
    by_cases hi : i = 0
    · rw [if_pos hi, hi]; exact (h.globals name hn).1
    · rw [if_neg hi]; exact (h.globals name hn).2 i (Nat.pos_of_ne_zero hi)
  · intro i f hf p hp
    rw [withVars_frames_get] at hf
    by_cases hc' : fr = i ∧ fr < rs.frames.length
    · rw [if_pos hc'] at hf
      injection hf with hf; subst hf
      exact h.par i { fr0 with vars := vb } (by rw [withVars_frames_get, if_pos hc']) p hp
    · rw [if_neg hc'] at hf
      exact h.par i f (by rw [withVars_frames_get, if_neg hc']; exact hf) p hp

/-- F2 as a system: `RelF` with the id map as witness, values read through `trf`, no exits -/
@[reducible] def fSys : Sys where
  W := Nat → Nat
  R := RelF
  Rch _ := ReachX
  Fl _ := FailsX
  X := AdvF
  tv := trf
  Cl := VOk
  OkB x := okName x = true
  OkS x := okSym x = true
  Ex _ _ _ _ := False
  Sm := SimF
  sm_ok := ⟨fun ⟨s', m', v, a, b, c, d, e, f, g, h⟩ => .inl ⟨s', m', v, a, b, c, d, ⟨e, f, g⟩, h⟩,
    fun h => h.elim (fun ⟨s', m', v, a, b, c, d, ⟨e, f, g⟩, h⟩ => ⟨s', m', v, a, b, c, d, e, f, g, h⟩) False.elim⟩
  sm_err := Iff.rfl
  sm_timeout := trivial
  sm_brk := Iff.rfl
  sm_cont := Iff.rfl
  ex_moved _ _ _ h := h
  ex_push _ h := h
  rch h := h.toX
  rtrans := ReachX.trans
  rmono h _ := h
  fl h := h.toX
  flr := FailsX.of_reach
  flmono h _ := h
  xrefl m s rs := ⟨MExt.refl s m, RExt.refl rs, FrameF.refl s⟩
  xtrans := AdvF.trans
  xjmp m s rs p d := ⟨MExt.refl s m, RExt.refl rs, FrameF.jmp s p d⟩
  cl_ext h x := VOk.ext h x.2.2 x.2.1 x.1
  tv_ext h x := VOk.tr_ext h x.1
  cl_lit m _ _ v hv := ⟨vOk_lit v hv, hv m id id⟩
  truthy_tv m v := truthy_tr m id id v
  rjmp h := h.jmp

/-- what the binding steps read of `RelF` -/
theorem fBinds : fSys.Binds where
  xbind m s rs id x v id' x' v' := ⟨MExt.refl s m, ⟨FramesExt.setVar _ _ _ _, fun i c hc => by rw [setVar_clos]; exact hc⟩,
    FrameF.bind s id x v⟩
  rbind h id hid _ _ hx hv := h.bind id hid hx hv
  lt h := h.ctx.elim fun _ hc => hc.1.lt
  lin h := h.ctx.elim fun _ hc => hc.1.head
  vars h := h.vars
  rebind h a b := by rw [h.heap]; exact rebindOk_tr _ id id _ a b
  trace h := h.trace
  lex h := h.lexLookup
  cl_lookup h hx hl := (h.vok _ _ _ (lexLookup_sound hl)).ok hx
  rpush h := h.pushScope
  rwith h hf hl := h.withVars_congr hf hl
  xwith x _ := ⟨x.1, ⟨x.2.1.1.withVars_congr, x.2.1.2⟩, x.2.2⟩
  rpop := RelF.popped

theorem simF_push {m : Nat → Nat} {s : St} {rs : Ref.St} {env : Nat} {pre post : List Instr} (v : Val)
    (hv : ∀ m β μ, tr m β μ v = v) (hrel : RelF m s rs env) (h : Seg s pre [.push v] post) :
    SimF [.push v] m s rs env (.ok v rs) :=
  fSys.push v hv hrel h

theorem simF_sym {m : Nat → Nat} {s : St} {rs : Ref.St} {env : Nat} {pre post : List Instr} (x : String) (n : Nat)
    (hx : okSym x = true) (hrel : RelF m s rs env) (h : Seg s pre [.envToStack x] post) :
    SimF [.envToStack x] m s rs env (Ref.eval (n + 1) (.sym x) env rs) :=
  fSys.sym fBinds x n hx hrel h

theorem psp_stepF {m : Nat → Nat} {s₁ : St} {rs₁ : Ref.St} {env : Nat} {P Q : List Instr} {x : String} {v : Val}
    {D : List (Option Val)} (a : At s₁ P (.popStackPutEnv x) Q) (hd : s₁.data = some v :: D) (rel1 : RelF m s₁ rs₁ env)
    (hx : okName x = true) (hcv : VOk m s₁ rs₁ v) :
    match Ref.define rs₁ env x (trf m v) with
    | some rs₂ => Reach 1 1 s₁ ((s₁.jmp (s₁.pc + 1) D).bind env x v)
        ∧ RelF m ((s₁.jmp (s₁.pc + 1) D).bind env x v) rs₂ env ∧ RExt rs₁ rs₂
    | none => Fails 1 s₁ rs₁.trace := by
  have h := fSys.psp_step fBinds a hd rel1 hx hcv
  cases hdef : Ref.define rs₁ env x (trf m v) with
  | none => rw [hdef] at h; exact h
  | some rs₂ => rw [hdef] at h; exact ⟨h.1, h.2.1, h.2.2.2.1⟩

theorem simF_def_tail {m m₁ : Nat → Nat} {s s₁ : St} {rs rs₁ : Ref.St} {env : Nat} {pre post ce : List Instr}
    {x : String} {v : Val} (h : Seg s pre (ce ++ [.dup, .popStackPutEnv x]) post) (hx : okName x = true)
    (r1 : ReachX s s₁) (l1 : Lands ce.length v s s₁) (rel1 : RelF m₁ s₁ rs₁ env) (hm1 : MExt s m m₁)
    (ext1 : RExt rs rs₁) (fr1 : FrameF s s₁) (hcv : VOk m₁ s₁ rs₁ v) :
    SimF (ce ++ [.dup, .popStackPutEnv x]) m s rs env
      (match Ref.define rs₁ env x (trf m₁ v) with | some s' => .ok (trf m₁ v) s' | none => .err rs₁) :=
  fSys.def_tail fBinds h hx r1 l1 rel1 ⟨hm1, ext1, fr1⟩ hcv

theorem simF_set_tail {m m₁ : Nat → Nat} {s s₁ : St} {rs rs₁ : Ref.St} {env : Nat} {pre post ce : List Instr}
    {x : String} {v : Val} (h : Seg s pre (ce ++ [.dup, .update x]) post) (hxb : okName x = true)
    (r1 : ReachX s s₁) (l1 : Lands ce.length v s s₁) (rel1 : RelF m₁ s₁ rs₁ env) (hm1 : MExt s m m₁)
    (ext1 : RExt rs rs₁) (fr1 : FrameF s s₁) (hcv : VOk m₁ s₁ rs₁ v) :
    SimF (ce ++ [.dup, .update x]) m s rs env
      (match Ref.lookup rs₁ env x with
       | some (fr, _) => .ok (trf m₁ v) (Ref.setVar rs₁ fr x (trf m₁ v))
       | none => .ok (trf m₁ v) (Ref.setVar rs₁ env x (trf m₁ v))) :=
  fSys.set_tail fBinds h hxb r1 l1 rel1 ⟨hm1, ext1, fr1⟩ hcv

theorem SimF.seq {code c₂ : List Instr} {m m₁ : Nat → Nat} {s s₁' : St} {rs rs₁ : Ref.St} {env k : Nat}
    {res : Ref.R Val} (hreach : ReachX s s₁') (hmoved : Moved k s s₁') (hm : MExt s m m₁) (hext : RExt rs rs₁)
    (hframe : FrameF s s₁') (h₂ : SimF c₂ m₁ s₁' rs₁ env res) (hk : k + c₂.length = code.length) :
    SimF code m s rs env res :=
  fSys.seq (K₁ := k) hreach hmoved ⟨hm, hext, hframe⟩ h₂ (Nat.le_of_eq hk) hk

/-- `Sys.pass` for F2; runs are not counted there, so the lengths do not matter -/
theorem SimF.prefix {code c₁ : List Instr} {m : Nat → Nat} {s : St} {rs : Ref.St} {env : Nat} {res : Ref.R Val}
    (h₁ : SimF c₁ m s rs env res) (hnot : ∀ v rs', res ≠ .ok v rs') :
    SimF code m s rs env res := by
  rcases fSys.sm_iff.mp h₁ with ⟨v, rs', e, _⟩ | h
  · exact absurd e (hnot v rs')
  · exact fSys.of_gone (by cases res <;> exact h)

theorem SimF.cond_exit {p b rest pre post : List Instr} {m m₁ : Nat → Nat} {s s₁' : St} {rs rs₁ : Ref.St} {env : Nat}
    {res : Ref.R Val}
    (h : Seg s pre (p ++ [.branch false (b.length + 2)] ++ b ++ [.jump (rest.length + 1)] ++ rest) post)
    (hreach : ReachX s s₁') (hmoved : Moved (p.length + 1) s s₁') (hm : MExt s m m₁) (hext : RExt rs rs₁)
    (hframe : FrameF s s₁') (h₂ : SimF b m₁ s₁' rs₁ env res) :
    SimF (p ++ [.branch false (b.length + 2)] ++ b ++ [.jump (rest.length + 1)] ++ rest) m s rs env res :=
  fSys.cond_exit h hreach hmoved ⟨hm, hext, hframe⟩ h₂ (Nat.le_refl _)

/-- F2 as a fragment: where functions may be made (`fnOk`), the invariant is what the generator promises of their
templates -/
@[reducible] def fFg (fnOk : Bool) (self : String) : Fg fSys where
  F := Ff fnOk self
  FStmt := Ff fnOk self
  FPred := Ff fnOk self
  FList := FfList fnOk self
  FArms := FfArms fnOk self
  FBinds := FfBinds fnOk self
  Cok := FnameOk self
  Inv _ gs gs' _ _ s _ := fnOk = true → GenOk gs gs' s
  cok h _ _ := h
  inv_tail h _ := h
  inv_range h k₁ _ k₃ hf := ((h hf).rest k₁).first k₃
  inv_pre h _ := h
  inv_adv h _ x hf := (h hf).frame x.2.2.toFrame
  inv_push h _ _ hf := (h hf).mono (FnsKeep.of_fns_eq rfl)
  flist_one h := by rw [FfList] at h; simpa [FfList] using h
  flist_cons h := by rw [FfList] at h; simpa using h
  farms_cons h := by rw [FfArms] at h; simpa [and_assoc] using h
  f_begin h := by rw [Ff] at h; exact h
  f_cond h := by rw [Ff] at h; simpa using h
  f_newScope h := by rw [Ff] at h; simpa using h
  f_let h := by rw [Ff] at h; simpa [and_assoc] using h

def FClaimE (n : Nat) : Prop :=
  ∀ fnOk self e, Ff fnOk self e = true → ∀ isFn c gs r, (compile isFn c e).run gs = .ok r → FnameOk self c →
    ∀ m s rs env pre post, RelF m s rs env → (fnOk = true → GenOk gs r.2 s) → Seg s pre r.1.1 post →
      SimF r.1.1 m s rs env (Ref.eval n e env rs)

def FClaimB (n : Nat) : Prop := ∀ fnOk self, HClaimB fSys (fFg fnOk self) n

def FClaimC (n : Nat) : Prop := ∀ fnOk self, HClaimC fSys (fFg fnOk self) n

theorem FClaimE.at {n : Nat} (h : FClaimE n) (fnOk : Bool) (self : String) : HClaimE fSys (fFg fnOk self) (Ff fnOk self) n :=
  h fnOk self

/-- runs of F2 nest: the relation survives the generator's loop records, the entry into the helper function of an
operand and the return from it -/
theorem fNest : fSys.Nest where
  rchx := id
  flx := id
  noex _ _ _ _ := id
  frame x := x.2.2.toFrame
  rgen hrel _ _ hl hg := ⟨hrel.of_same rfl rfl rfl rfl rfl rfl hrel.heap hrel.trace hrel.hok ⟨hl, hg⟩, MExt.refl _ _, RExt.refl _,
    ⟨⟨rfl, rfl, rfl, rfl, Nat.le_refl _, fun _ _ => rfl, hl, hg⟩, Nat.le_refl _, fun _ _ => rfl⟩⟩
  rhelper hrel code := relF_inHelper hrel code
  rreturn := fun {_ s _ _ code _ s4 _} hrel rel4 x4 => by
    obtain ⟨hm4, ext4, fr4⟩ := x4
    have hF := fr4.toFrame.of_inHelper
    exact ⟨hrel.back rel4 rfl rfl rfl rfl fr4.linear rfl fr4.flags hF.fnsLen hF.fns ext4.1 ⟨fr4.loopsLen, fr4.loops⟩,
      ⟨fun id hid => hm4 id (by show id < (s.fns ++ [_]).length; simp; omega), ext4, ⟨hF, fr4.scLen, fr4.flags⟩⟩,
      fun v hcl => hcl.grow (ExtF.of_eq rfl (Nat.le_refl _) (fun _ _ => rfl) (RExt.refl _))⟩

theorem vOk_not_mark {m s rs v} (h : VOk m s rs v) (L : Nat) : v ≠ .mark L := by
  intro e; subst e; exact h.mark

/-- runs of F2 are not counted, its values are no stack marks, its code has no exits -/
theorem fFree : fSys.Free := ⟨id, id, fun h L => vOk_not_mark h L, fun _ _ _ _ => id⟩

/-- `EvalCallExpression` against `Ref.eval`: the value, control state as before, related states -/
def EvalOkF (e : Expr) (m : Nat → Nat) (s : St) (rs : Ref.St) (env : Nat) (res : Ref.R Val) : Prop :=
  HEval fSys e m s rs env res

theorem evalCallExpr_simF {n : Nat} (hE : FClaimE n) (e : Expr) (he : Ff false "" e = true)
    {m : Nat → Nat} {s : St} {rs : Ref.St} {env : Nat} (hrel : RelF m s rs env) :
    EvalOkF e m s rs env (Ref.eval n e env rs) := by
  cases e with
  | sym x => exact heval_sym fBinds x n (by simpa [Ff] using he) hrel
  | _ =>
    refine heval_nonsym fNest (hE.at false "") _ he (fun x hx => by cases hx) (Or.inl rfl)
      (fun _ _ _ _ _ _ h => by cases h) hrel ?_
    obtain ⟨code, t, gs', hc, hne, hk⟩ := compile_total_Ff false "" _ he (isFnScope s) {}
      s.gs (Or.inl rfl)
    exact ⟨code, t, gs', hc, hne, hk.2 rfl, hk.1.loopsLen, hk.1.loopsGet⟩

def NoLazy (fo : Option FnObj) : Prop := ∀ f, fo = some f → f.hasLazyFormals = false

/-- the positions `PrepareCallExprArgs` delays for this callee -/
def isLazyVM (fo : Option FnObj) (i : Nat) : Bool :=
  match fo with
  | some f => !f.user && f.hasLazyFormals && f.isLazyCallArg i
  | none => false

theorem isLazyVM_noLazy {fo : Option FnObj} (h : NoLazy fo) (i : Nat) : isLazyVM fo i = false := by
  cases fo with
  | none => rfl
  | some f => simp [isLazyVM, h f rfl]

theorem prepareArgs_cons (fuel : Nat) (fo : Option FnObj) (i : Nat) (e : Expr) (es : List Expr) (s : St) :
    (prepareArgs (fuel + 1) fo i (e :: es)).run s =
      if isLazyVM fo i = true then (prepareArgs fuel fo (i + 1) es).run (C16.allocThunk e s)
      else match (evalCallExpr fuel e).run s with
        | (.ok v, s1) => (prepareArgs fuel fo (i + 1) es).run (s1.jmp s1.pc (some v :: s1.data))
        | (.error flt, s1) => (.error flt, s1) :=
  run_prepareArgs_cons fuel fo i e es s

/-- operands of a call: `PrepareCallExprArgs` against `evalArgs`; a delayed operand becomes a lazy argument
object on one side, a thunk on the other -/
def FClaimA (n : Nat) : Prop :=
  ∀ args, FaList args = true → ∀ (fo : Option FnObj) (lazyAt : Nat → Bool), (∀ j, isLazyVM fo j = lazyAt j) →
    ∀ (i : Nat) m s rs env, RelF m s rs env →
    match Ref.evalArgs n args i lazyAt env rs with
    | .ok vs' rs' => ∃ (M : Nat) (s' : St) (m' : Nat → Nat) (vs : List Val), (∀ fuel, M ≤ fuel → (prepareArgs fuel fo i args).run s = (.ok (), s'))
        ∧ s'.data = vs.reverse.map some ++ s.data ∧ s'.pc = s.pc ∧ vs' = vs.map (trf m') ∧ RelF m' s' rs' env
        ∧ MExt s m m' ∧ RExt rs rs' ∧ FrameF s s' ∧ ∀ v ∈ vs, VOk m' s' rs' v
    | .err rs' => ∃ M, ∀ fuel, M ≤ fuel → ∃ se, (prepareArgs fuel fo i args).run s = (.error .err, se)
        ∧ se.trace = rs'.trace
    | .timeout => True
    | .brk _ _ => False
    | .cont _ _ => False

/-- `FClaimA` is `HArgs` of the system, conjunct by conjunct -/
theorem fclaimA_iff {n : Nat} : FClaimA n ↔ ∀ args, FaList args = true → ∀ (fo : Option FnObj) (lazyAt : Nat → Bool),
    (∀ j, isLazyVM fo j = lazyAt j) → ∀ (i : Nat) m s rs env, RelF m s rs env →
      HArgs fSys fo i args m s rs env (Ref.evalArgs n args i lazyAt env rs) := by
  refine ⟨fun h args ha fo la hl i m s rs env hr => ?_, fun h args ha fo la hl i m s rs env hr => ?_⟩
  · have h' := h args ha fo la hl i m s rs env hr
    revert h'
    cases Ref.evalArgs n args i la env rs with
    | ok vs' rs' => exact fun ⟨M, s', m', vs, a, b, c, d, e, f, g, h, i⟩ => ⟨M, s', m', vs, a, b, c, d, e, ⟨f, g, h⟩, i⟩
    | _ => exact id
  · have h' := h args ha fo la hl i m s rs env hr
    revert h'
    cases Ref.evalArgs n args i la env rs with
    | ok vs' rs' => exact fun ⟨M, s', m', vs, a, b, c, d, e, ⟨f, g, h⟩, i⟩ => ⟨M, s', m', vs, a, b, c, d, e, f, g, h, i⟩
    | _ => exact id

theorem fclaimA_succ {n : Nat} (hE : FClaimE n) (hA : FClaimA n) : FClaimA (n + 1) := by
  refine fclaimA_iff.mpr fun args hargs fo lazyAt hlz i m s rs env hrel => ?_
  match args with
  | [] =>
    rw [Ref.evalArgs]
    · exact hargs_nil hrel
    · omega
  | e :: es =>
    rw [FaList] at hargs
    simp only [Bool.and_eq_true] at hargs
    rw [Ref.evalArgs]
    by_cases hl : lazyAt i = true
    · -- a delayed operand: a lazy argument object on one side, a thunk on the other
      simp only [hl, if_true]
      have hvm : isLazyVM fo i = true := by rw [hlz i]; exact hl
      have hid : s.lazies.length = rs.thunks.length := hrel.lz.1
      have ih := fclaimA_iff.mp hA es hargs.2 fo lazyAt hlz (i + 1) m (C16.allocThunk e s) (allocThunkR rs e env) env
        (hrel.allocLazy e hargs.1)
      have xA : AdvF m s rs m (C16.allocThunk e s) (allocThunkR rs e env) := ⟨MExt.refl _ _, ⟨fun i fr hf => ⟨fr, hf, rfl⟩, fun _ _ hc => hc⟩,
        ⟨⟨rfl, rfl, rfl, rfl, Nat.le_refl _, fun _ _ => rfl, Nat.le_refl _, fun _ _ => rfl⟩, Nat.le_refl _, fun _ _ => rfl⟩⟩
      show HArgs fSys fo i (e :: es) m s rs env (match Ref.evalArgs n es (i + 1) lazyAt env (allocThunkR rs e env) with
          | .ok vs s => Ref.R.ok (Val.lazy rs.thunks.length :: vs) s | r => r)
      cases h2 : Ref.evalArgs n es (i + 1) lazyAt env (allocThunkR rs e env) with
      | ok vs' rs2 =>
        rw [h2] at ih
        obtain ⟨M2, s2, m2, vs, hM2, hd2, hp2, hvs2, rel2, x2, hcl2⟩ := ih
        obtain ⟨M, hM⟩ : Ev fun fuel => (prepareArgs fuel fo i (e :: es)).run s = (.ok (), s2) :=
          Ev.shift 1 ⟨M2, hM2⟩ fun f e2 => by rw [prepareArgs_cons, if_pos hvm]; exact e2
        refine ⟨M, s2, m2, .lazy s.lazies.length :: vs, hM, ?_, hp2, ?_, rel2, xA.trans x2, fun w hw => ?_⟩
        · rw [hd2]; show _ ++ (some (Val.lazy s.lazies.length) :: s.data) = _; simp
        · rw [List.map_cons, hvs2, ← hid]; rfl
        · rcases List.mem_cons.mp hw with rfl | hw
          · exact valIn_of_const (fun _ _ _ => rfl)
          · exact hcl2 w hw
      | err rs2 =>
        rw [h2] at ih
        exact Ev.shift 1 ih fun f ⟨se, hse, htr⟩ => ⟨se, by rw [prepareArgs_cons, if_pos hvm]; exact hse, htr⟩
      | timeout => trivial
      | brk l rs2 => rw [h2] at ih; exact ih
      | cont l rs2 => rw [h2] at ih; exact ih
    have hl' : lazyAt i = false := by simpa using hl
    have hvm : ¬ isLazyVM fo i = true := by rw [hlz i, hl']; decide
    simp only [hl', Bool.false_eq_true, if_false]
    exact hargs_cons (fun fuel => by rw [prepareArgs_cons, if_neg hvm]; rfl) (evalCallExpr_simF hE e hargs.1 hrel)
      (fun m₁ s₁ rs₁ rel₁ => fclaimA_iff.mp hA es hargs.2 fo lazyAt hlz (i + 1) m₁ s₁ rs₁ env rel₁)

theorem foldl_setVar (fr : Nat) : ∀ (binds : List (String × Val)) (rs : Ref.St) (fr0 : Ref.Frame),
    rs.frames[fr]? = some fr0 →
    binds.foldl (fun s (p : String × Val) => Ref.setVar s fr p.1 p.2) rs
      = { rs with frames := rs.frames.set fr { fr0 with vars := bindsVars fr0.vars binds } }
  | [], rs, fr0, h => by
    show rs = _
    rw [show ({ fr0 with vars := bindsVars fr0.vars [] } : Ref.Frame) = fr0 from rfl, set_self_of_getElem? h]
  | (x, v) :: binds, rs, fr0, h => by
    have hset : Ref.setVar rs fr x v = { rs with frames := rs.frames.set fr { fr0 with vars := VM.assocSet fr0.vars x v } } := by
      unfold Ref.setVar; rw [h]; rfl
    show binds.foldl _ (Ref.setVar rs fr x v) = _
    rw [hset, foldl_setVar fr binds _ { fr0 with vars := VM.assocSet fr0.vars x v }
      (by show (rs.frames.set fr _)[fr]? = _; exact List.getElem?_set_self (lt_of_getElem?_some h))]
    show ({ rs with frames := (rs.frames.set fr _).set fr _ } : Ref.St) = _
    rw [List.set_set]; rfl

theorem lookup_zip_map (f : Val → Val) (y : String) : ∀ (ps : List String) (vs : List Val),
    (ps.zip (vs.map f)).lookup y = ((ps.zip vs).lookup y).map f
  | [], _ => rfl
  | _ :: _, [] => rfl
  | p :: ps, v :: vs => by
    simp only [List.map_cons, List.zip_cons_cons, List.lookup_cons]
    cases (y == p) with
    | true => rfl
    | false => exact lookup_zip_map f y ps vs

theorem lookup_zip_mem {y : String} {v : Val} : ∀ {ps : List String} {vs : List Val},
    (ps.zip vs).lookup y = some v → y ∈ ps ∧ v ∈ vs
  | [], _, h => by simp at h
  | _ :: _, [], h => by simp at h
  | p :: ps, w :: vs, h => by
    simp only [List.zip_cons_cons, List.lookup_cons] at h
    by_cases hy : (y == p) = true
    · rw [hy] at h; simp only [Option.some.injEq] at h; subst h
      exact ⟨by simp [show y = p by simpa using hy], by simp⟩
    · have hy' : (y == p) = false := by simpa using hy
      rw [hy'] at h
      obtain ⟨h1, h2⟩ := lookup_zip_mem h
      exact ⟨List.mem_cons_of_mem _ h1, List.mem_cons_of_mem _ h2⟩

theorem lookup_zip_none {y : String} : ∀ {ps : List String} {vs : List Val}, y ∉ ps → (ps.zip vs).lookup y = none
  | [], _, _ => rfl
  | _ :: _, [], _ => rfl
  | p :: ps, w :: vs, h => by
    simp only [List.zip_cons_cons, List.lookup_cons]
    have hne : (y == p) = false := by
      have : y ≠ p := fun e => h (by simp [e])
      simpa using this
    rw [hne]
    exact lookup_zip_none (fun hm => h (List.mem_cons_of_mem _ hm))

/-- the values bound to the formals `ps ++ rest.toList`: the arguments, those beyond the fixed ones packed -/
def bvals (rest : Option String) (nfix : Nat) (vs : List Val) : List Val :=
  match rest with
  | none => vs
  | some _ => vs.take nfix ++ [mkList (vs.drop nfix)]

def arOk (rest : Option String) (nfix n : Nat) : Prop :=
  match rest with
  | none => n = nfix
  | some _ => nfix ≤ n

instance (rest : Option String) (nfix n : Nat) : Decidable (arOk rest nfix n) := by
  unfold arOk; cases rest <;> infer_instance

theorem bvals_length {rest : Option String} {nfix : Nat} {vs : List Val} (h : arOk rest nfix vs.length) :
    (bvals rest nfix vs).length = nfix + rest.toList.length := by
  cases rest with
  | none => simpa [bvals, arOk] using h
  | some r => simp only [bvals, arOk] at h ⊢; simp; omega

theorem bvals_map (m : Nat → Nat) (rest : Option String) (nfix : Nat) (vs : List Val) :
    bvals rest nfix (vs.map (trf m)) = (bvals rest nfix vs).map (trf m) := by
  cases rest with
  | none => rfl
  | some r =>
    simp only [bvals, List.map_append, List.map_take, List.map_cons, List.map_nil]
    congr 2
    rw [← List.map_drop]
    exact tr_mkList m id id _

theorem ref_bindParams_eq (ps : List String) (rest : Option String) (vs : List Val) (h : arOk rest ps.length vs.length) :
    Ref.bindParams ps rest vs = some ((ps ++ rest.toList).zip (bvals rest ps.length vs)) := by
  cases rest with
  | none =>
    simp only [arOk] at h
    simp [Ref.bindParams, h, bvals]
  | some r =>
    simp only [arOk] at h
    have h' : vs.length ≥ ps.length := h
    simp only [Ref.bindParams, h', if_true, bvals, Option.toList]
    congr 1
    rw [List.zip_append (by simp; omega)]
    rfl

theorem ref_bindParams_none (ps : List String) (rest : Option String) (vs : List Val) (h : ¬ arOk rest ps.length vs.length) :
    Ref.bindParams ps rest vs = none := by
  cases rest with
  | none => simp only [arOk] at h; simp [Ref.bindParams, h]
  | some r =>
    simp only [arOk] at h
    have h' : ¬ vs.length ≥ ps.length := h
    simp [Ref.bindParams, h']

/-- the data stack `CallFunction` leaves: the arguments, a variadic tail packed -/
def argsData (rest : Option String) (nfix : Nat) (vs : List Val) (D : List (Option Val)) : List (Option Val) :=
  (bvals rest nfix vs).reverse.map some ++ D

/-- the state `CallFunction` leaves for closure object `vid` of closure `c` applied to `vs` -/
def enteredA (s : St) (vid : Nat) (rest : Option String) (nfix : Nat) (vs : List Val) (D : List (Option Val)) : St :=
  entered { s with data := argsData rest nfix vs D } vid

theorem enteredA_none (s : St) (vid nfix : Nat) (vs : List Val) (D : List (Option Val)) (hd : s.data = vs.reverse.map some ++ D) :
    enteredA s vid none nfix vs D = entered s vid := by
  unfold enteredA argsData bvals
  rw [← hd]

theorem okParam_all {ps : List String} {rest : Option String} (hp : ∀ p ∈ ps, okParam p = true) (hr : okRest rest = true) :
    ∀ p ∈ ps ++ rest.toList, okParam p = true := by
  intro p hm
  rcases List.mem_append.mp hm with h | h
  · exact hp p h
  · cases rest with
    | none => cases h
    | some r => simp only [Option.toList, List.mem_singleton] at h; subst h; exact hr

/-- `CallFunction` of a closure object: the arity check, then control in the callee -/
theorem run_callFunction_clo (vid : Nat) (rest : Option String) (nfix : Nat) (vs : List Val) (D : List (Option Val)) (s : St)
    (hd : s.data = vs.reverse.map some ++ D) (hv : (fnOf s vid).varargs = rest.isSome) (hn : (fnOf s vid).nargs = nfix) :
    (callFunction vid vs.length).run s =
      if arOk rest nfix vs.length then (.ok (), enteredA s vid rest nfix vs D) else (.error .err, s) := by
  cases rest with
  | none =>
    rw [run_callFunction_fixed vid vs D s hd hv, hn, enteredA_none s vid nfix vs D hd]
    rfl
  | some r =>
    have hv' : (fnOf s vid).varargs = true := hv
    by_cases har : nfix ≤ vs.length
    · have : arOk (some r) nfix vs.length := har
      rw [if_pos this, run_callFunction_var vid vs D s hd hv' (by rw [hn]; exact har), hn]
      unfold enteredA argsData bvals
      simp
    · have : ¬ arOk (some r) nfix vs.length := har
      rw [if_neg this, run_callFunction, callRes_vals vid vs D s hd, if_pos hv', hn, if_neg har]

/-- applying a closure object to evaluated arguments (already on the data stack — a variadic tail already
packed —, control already in the callee): prologue, body, epilogue, back in the caller — against `applyFn`.
The caller is function `f₀` for the relation; `s₁.curfunc` is `f₀` (a call instruction) or the pseudo-function
of the Go builtins (`apply`/`map` calling back into the machine), which only travels in the return address. -/
def FClaimU (n : Nat) : Prop :=
  ∀ m s₁ rs₁ env vid (c : Ref.Clos) (vs : List Val) (D : List (Option Val)) (f₀ : Nat), RelF m (s₁.withCur f₀) rs₁ env →
    GoodFn m s₁ rs₁ vid →
    rs₁.clos[m vid]? = some c →
    s₁.data = vs.reverse.map some ++ D → (∀ v ∈ vs, VOk m s₁ rs₁ v) → arOk c.rest c.ps.length vs.length →
    match Ref.applyFn n (.fn (m vid)) (vs.map (trf m)) rs₁ with
    | .ok v' rs' => ∃ (s' : St) (m' : Nat → Nat) (v : Val), ReachX (enteredA s₁ vid c.rest c.ps.length vs D) s'
        ∧ s'.pc = s₁.pc + 1
        ∧ s'.data = some v :: D ∧ v' = trf m' v ∧ RelF m' (s'.withCur f₀) rs' env ∧ MExt s₁ m m' ∧ RExt rs₁ rs'
        ∧ FrameF s₁ s' ∧ VOk m' s' rs' v
    | .err rs' => FailsX (enteredA s₁ vid c.rest c.ps.length vs D) rs'.trace
    | .timeout => True
    | .brk _ _ => False
    | .cont _ _ => False

theorem okParam_name {p : String} (h : okParam p = true) : okName p = true := h

/-- what `Ref.eval` does with a call once the callee is evaluated -/
def refCall (k : Nat) (fv : Val) (args : List Expr) (env : Nat) (s : Ref.St) : Ref.R Val :=
  if (match fv with | .arr _ => true | _ => false) then
    (match Ref.evalList (k + 1) args env s with
     | .ok _ s => .err s
     | .err s => .err s | .brk l s => .brk l s | .cont l s => .cont l s | .timeout => .timeout)
  else if !isFunction fv then (if args.isEmpty then .ok fv s else .err s)
  else
    let lazyAt : Nat → Bool := match fv with
      | .fn id => (match s.clos[id]? with
        | some c => fun i => i < c.ps.length && Ref.isLazyParam (c.ps.getD i "")
        | none => fun _ => false)
      | _ => fun _ => false
    (match Ref.evalArgs (k + 1) args 0 lazyAt env s with
     | .ok vs s => Ref.applyFn (k + 1) fv vs s
     | .err s => .err s | .brk l s => .brk l s | .cont l s => .cont l s | .timeout => .timeout)

theorem ref_eval_call_sym (k : Nat) (h : String) (args : List Expr) (env : Nat) (rs : Ref.St) :
    Ref.eval (k + 2) (.call (.sym h) args) env rs =
      match Ref.lookup rs env h with
      | some (_, fv) => refCall k fv args env rs
      | none => .err rs := by
  rw [Ref.eval, Ref.eval]
  cases Ref.lookup rs env h with
  | none => rfl
  | some r => rfl

/-- the positions the reference evaluator delays for a closure -/
def lazyAtC (c : Ref.Clos) : Nat → Bool := fun i => decide (i < c.ps.length) && Ref.isLazyParam (c.ps.getD i "")

theorem refCall_fn (k cid : Nat) (args : List Expr) (env : Nat) (rs : Ref.St) (c : Ref.Clos)
    (hc : rs.clos[cid]? = some c) :
    refCall k (.fn cid) args env rs =
      match Ref.evalArgs (k + 1) args 0 (lazyAtC c) env rs with
      | .ok vs s => Ref.applyFn (k + 1) (.fn cid) vs s
      | .err s => .err s | .brk l s => .brk l s | .cont l s => .cont l s | .timeout => .timeout := by
  unfold refCall lazyAtC
  simp only [isFunction, Bool.not_true, Bool.false_eq_true, if_false, hc]

/-- the machine and the reference evaluator delay the same operands of a call of a closure object -/
theorem isLazyVM_clo {fo : FnObj} {c : Ref.Clos} (hu : fo.user = false) (hp : fo.params = c.ps ++ c.rest.toList)
    (hn : fo.nargs = c.ps.length) (hv : fo.varargs = c.rest.isSome) (j : Nat) : isLazyVM (some fo) j = lazyAtC c j := by
  unfold isLazyVM lazyAtC FnObj.isLazyCallArg FnObj.hasLazyFormals Ref.isLazyParam
  simp only [hu, Bool.not_false, Bool.true_and, hp, hn, hv]
  by_cases hj : j < c.ps.length
  · have hget : (c.ps ++ c.rest.toList)[j]? = some c.ps[j] := by rw [List.getElem?_append_left hj]; simp [hj]
    have hgd : c.ps.getD j "" = c.ps[j] := by simp [List.getD_eq_getElem?_getD, hj]
    have hnge : ¬ j ≥ c.ps.length := by omega
    simp only [hget, hgd, hj, decide_true, Bool.true_and, hnge, decide_false, Bool.and_false, Bool.false_eq_true, if_false]
    by_cases hs : c.ps[j].startsWith "#" = true
    · have hany : (c.ps ++ c.rest.toList).any (fun x => x.startsWith "#") = true :=
        List.any_eq_true.mpr ⟨c.ps[j], List.mem_append_left _ (List.getElem_mem hj), hs⟩
      simp [hany, hs]
    · have hs' : c.ps[j].startsWith "#" = false := by simpa using hs
      simp [hs']
  · have hge : j ≥ c.ps.length := by omega
    simp only [hj, decide_false, Bool.false_and]
    cases hr : c.rest with
    | none =>
      have hget : c.ps[j]? = none := by simp; omega
      simp [hget]
    | some r => simp [hge]

/-- for a closure object, `PrepareCallExprArgs` and the generator delay the same positions -/
theorem isLazyVM_eq {fo : FnObj} (hu : fo.user = false) (j : Nat) : isLazyVM (some fo) j = fo.isLazyCallArg j := by
  unfold isLazyVM
  simp only [hu, Bool.not_false, Bool.true_and]
  by_cases hj : fo.isLazyCallArg j = true
  · rw [hj, Bool.and_true]
    unfold FnObj.isLazyCallArg at hj
    unfold FnObj.hasLazyFormals
    split at hj
    · cases hj
    · cases hp : fo.params[j]? with
      | none => rw [hp] at hj; cases hj
      | some p =>
        rw [hp] at hj
        exact List.any_eq_true.mpr ⟨p, List.mem_of_getElem? hp, hj⟩
  · have : fo.isLazyCallArg j = false := by simpa using hj
    rw [this, Bool.and_false]

theorem refCall_builtin (k : Nat) (name : String) (args : List Expr) (env : Nat) (rs : Ref.St) :
    refCall k (.builtin name) args env rs =
      match Ref.evalArgs (k + 1) args 0 (fun _ => false) env rs with
      | .ok vs s => Ref.applyFn (k + 1) (.builtin name) vs s
      | .err s => .err s | .brk l s => .brk l s | .cont l s => .cont l s | .timeout => .timeout := by
  unfold refCall
  simp only [isFunction, Bool.not_true, Bool.false_eq_true, if_false]

theorem refCall_arr (k r : Nat) (args : List Expr) (env : Nat) (rs : Ref.St) :
    refCall k (.arr r) args env rs =
      match Ref.evalArgs (k + 1) args 0 (fun _ => false) env rs with
      | .ok _ s => .err s
      | .err s => .err s | .brk l s => .brk l s | .cont l s => .cont l s | .timeout => .timeout := by
  unfold refCall
  simp only [if_true, ref_evalList_eq_evalArgs (k + 1) args 0 env rs]

theorem refCall_other (k : Nat) (fv : Val) (args : List Expr) (env : Nat) (rs : Ref.St) (h1 : ∀ id, fv ≠ .fn id)
    (h2 : ∀ n, fv ≠ .builtin n) (h3 : ∀ r, fv ≠ .arr r) :
    refCall k fv args env rs = if args.isEmpty then .ok fv rs else .err rs := by
  unfold refCall
  cases fv with
  | fn id => exact absurd rfl (h1 id)
  | builtin n => exact absurd rfl (h2 n)
  | arr r => exact absurd rfl (h3 r)
  | _ => simp only [isFunction, Bool.not_false, if_true, Bool.false_eq_true, if_false]

theorem ref_applyFn_arity (k cid : Nat) (vs' : List Val) (rs : Ref.St) (c : Ref.Clos) (hc : rs.clos[cid]? = some c)
    (hne : ¬ arOk c.rest c.ps.length vs'.length) : Ref.applyFn (k + 1) (.fn cid) vs' rs = .err rs := by
  rw [Ref.applyFn]
  simp only [hc, ref_bindParams_none _ _ _ hne]

/-- as `SimF` for one instruction that stands at `s0` and whose execution goes on from `s` (the callee of a call
evaluated: `s0 = s` for a symbol) -/
def SimVia (s0 : St) (n : Nat) (m : Nat → Nat) (s : St) (rs : Ref.St) (env : Nat) (res : Ref.R Val) : Prop :=
  match res with
  | .ok v' rs' => ∃ s' m' v, ReachX s0 s' ∧ Lands n v s s' ∧ v' = trf m' v ∧ RelF m' s' rs' env
      ∧ MExt s m m' ∧ RExt rs rs' ∧ FrameF s s' ∧ VOk m' s' rs' v
  | .err rs' => FailsX s0 rs'.trace
  | .timeout => True
  | .brk _ _ => False
  | .cont _ _ => False

theorem ReachX.ev {s s' : St} {pre i post} (h : At s pre i post) (hx : Ev fun f => (exec (f + 1) i).run s = (.ok (), s')) :
    ReachX s s' := hx.elim (ReachX.step h)

theorem FailsX.ev {s : St} {tr : List String} {pre i post} (h : At s pre i post)
    (hx : Ev fun f => ∃ se, (exec (f + 1) i).run s = (.error .err, se) ∧ se.trace = tr) : FailsX s tr := hx.elim (FailsX.step h)

/-- **The operands of a call instruction** whose execution is, with enough fuel, the guarded run of `prepareArgs` and then
`kont`: an error of the operands is the error of the instruction, anything else but values is passed on; with the operands'
values pushed (`hok`) the instruction is the guarded run of `kont` from there. -/
theorem simVia_args {k : Nat} (hA : FClaimA (k + 1)) {args : List Expr} (hargs : FaList args = true) (fo : Option FnObj)
    (lazyAt : Nat → Bool) (hlz : ∀ j, isLazyVM fo j = lazyAt j) {m : Nat → Nat} {s : St} {rs : Ref.St} {env : Nat}
    (hrel : RelF m s rs env) {pre post : List Instr} {ins : Instr} {s0 : St} (hat : At s0 pre ins post) {kont : Nat → M Unit}
    (hexec : Ev fun F => (exec (F + 3) ins).run s0
      = guardTail s.data.length ((prepareArgs (F + 1) fo 0 args >>= fun _ => kont F : M Unit).run s))
    {K : List Val → Ref.St → Ref.R Val}
    (hok : ∀ vs' rs1 s1 m1 (vs : List Val), Ref.evalArgs (k + 1) args 0 lazyAt env rs = .ok vs' rs1 →
      (Ev fun F => (exec (F + 3) ins).run s0 = guardTail s.data.length ((kont F).run s1)) →
      s1.data = vs.reverse.map some ++ s.data → s1.pc = s.pc → vs' = vs.map (trf m1) → RelF m1 s1 rs1 env →
      AdvF m s rs m1 s1 rs1 → (∀ v ∈ vs, VOk m1 s1 rs1 v) → SimVia s0 1 m s rs env (K vs' rs1)) :
    SimVia s0 1 m s rs env
      (match Ref.evalArgs (k + 1) args 0 lazyAt env rs with
       | .ok vs s => K vs s
       | .err s => .err s | .brk l s => .brk l s | .cont l s => .cont l s | .timeout => .timeout) := by
  have hprep := hA args hargs fo lazyAt hlz 0 m s rs env hrel
  cases h1 : Ref.evalArgs (k + 1) args 0 lazyAt env rs with
  | ok vs' rs1 =>
    rw [h1] at hprep
    obtain ⟨M, s1, m1, vs, hM, hd1, hp1, hvs, rel1, hm1, ext1, fr1, hcl⟩ := hprep
    exact hok vs' rs1 s1 m1 vs h1 ((hexec.and (Ev.later ⟨M, hM⟩ 1)).mono fun F ⟨e1, e2⟩ => by rw [e1, run_bind, e2])
      hd1 hp1 hvs rel1 ⟨hm1, ext1, fr1⟩ hcl
  | err rs1 =>
    rw [h1] at hprep
    exact FailsX.ev hat (Ev.shift 2 (hexec.and (Ev.later hprep 1)) fun F ⟨e1, se, hse, htr⟩ =>
      ⟨{ se with data := truncate se.data s.data.length }, by rw [e1, run_bind, hse]; rfl, htr⟩)
  | timeout => trivial
  | brk l rs1 => rw [h1] at hprep; exact hprep.elim
  | cont l rs1 => rw [h1] at hprep; exact hprep.elim

theorem simF_call_fn {k : Nat} (hA : FClaimA (k + 1)) (hU : FClaimU (k + 1)) {args : List Expr}
    (hargs : FaList args = true) {m : Nat → Nat} {s : St} {rs : Ref.St} {env : Nat} {pre post : List Instr} {vid : Nat}
    (hrel : RelF m s rs env) {ins : Instr} {s0 : St} {M0 : Nat} (hat : At s0 pre ins post)
    (hex : ∀ F, M0 ≤ F → (exec (F + 3) ins).run s0 = (callResolved (F + 2) (.fn vid) args).run s) (hg : GoodFn m s rs vid) :
    SimVia s0 1 m s rs env (refCall k (.fn (m vid)) args env rs) := by
  obtain ⟨c, hc1, hrest, hnd, hokp, hbody, hparams, hnargs, hvar, huser, _, _, _⟩ := hg.clo
  rw [refCall_fn k (m vid) args env rs c hc1]
  obtain ⟨b0, hch, hfc⟩ := hrel.ctx
  have hcurlt := hfc.lt
  refine simVia_args hA hargs (some (fnOf s vid)) (lazyAtC c) (isLazyVM_clo huser hparams hnargs hvar) hrel hat
    (kont := fun _ => callFunction vid args.length) ⟨M0, fun F hF => by show _ = _; rw [hex F hF, run_callResolved_fn]⟩
    fun vs' rs1 s1 m1 vs h1 hrun hd1 hp1 hvs rel1 ⟨hm1, ext1, fr1⟩ hcl => ?_
  have hlen : args.length = vs.length := by
    rw [← ref_evalArgs_length' _ _ _ _ _ _ _ _ h1, hvs, List.length_map]
  have hfo1 : fnOf s1 vid = fnOf s vid := fr1.fns vid hg.lt
  have hcf := run_callFunction_clo vid c.rest c.ps.length vs s.data s1 hd1 (by rw [hfo1]; exact hvar) (by rw [hfo1]; exact hnargs)
  have hg1 : GoodFn m1 s1 rs1 vid := hg.ext fr1 ext1 hm1
  have hmv : m1 vid = m vid := hm1 vid hg.lt
  by_cases har : arOk c.rest c.ps.length vs.length
  · rw [if_pos har] at hcf
    have r1 : ReachX s0 (enteredA s1 vid c.rest c.ps.length vs s.data) :=
      ReachX.ev hat (Ev.shift 2 hrun fun F e => by rw [e, hlen, hcf]; rfl)
    have hu := hU m1 s1 rs1 env vid c vs s.data s1.curfunc rel1 hg1 (by rw [hmv]; exact ext1.2 _ _ hc1) hd1 hcl har
    rw [hmv, ← hvs] at hu
    cases h2 : Ref.applyFn (k + 1) (.fn (m vid)) vs' rs1 with
    | ok v' rs2 =>
      rw [h2] at hu
      obtain ⟨s', m', v, r2, hpc, hdat, hv, rel2, hm2, ext2, fr2, hcl2⟩ := hu
      rw [withCur_self fr2.curfunc] at rel2
      refine ⟨s', m', v, r1.trans r2, ⟨?_, by rw [hpc, hp1]; simp, hdat⟩, hv, rel2, hm1.trans hm2 fr1.fnsLen,
        ext1.trans ext2, fr1.trans fr2, hcl2⟩
      rw [fr2.curfunc, fr1.curfunc, fr2.fns _ (by rw [← fr1.curfunc]; exact Nat.lt_of_lt_of_le (by rw [fr1.curfunc]; exact hcurlt) fr1.fnsLen),
        fr1.fns _ hcurlt]
    | err rs2 => rw [h2] at hu; exact FailsX.of_reach r1 hu
    | timeout => trivial
    | brk l rs2 => rw [h2] at hu; exact hu.elim
    | cont l rs2 => rw [h2] at hu; exact hu.elim
  · rw [if_neg har] at hcf
    have hne : ¬ arOk c.rest c.ps.length vs'.length := by
      rw [hvs, List.length_map]; exact har
    rw [ref_applyFn_arity k (m vid) vs' rs1 c (ext1.2 _ _ hc1) hne]
    exact FailsX.ev hat (Ev.shift 2 hrun fun F e =>
      ⟨{ s1 with data := truncate s1.data s.data.length }, by rw [e, hlen, hcf]; rfl, rel1.trace⟩)

theorem headD_map_tr (m : Nat → Nat) (vs : List Val) : (vs.map (trf m)).headD .nil = trf m (vs.headD .nil) := by
  cases vs <;> rfl

/-- a call whose callee symbol denotes the Go builtin `name`: from the builtin's own claim (`BClaim`) by
`fclaimH_of_bclaim`; for `force`, `apply`, `map` that claim rests on the claims at lower fuel -/
def FClaimH (k : Nat) (name : String) : Prop :=
  ∀ (args : List Expr), FaList args = true → ∀ (m : Nat → Nat) (s : St) (rs : Ref.St) (env : Nat)
    (pre post : List Instr) (ins : Instr) (s0 : St) (M0 : Nat), RelF m s rs env → At s0 pre ins post →
    (∀ F, M0 ≤ F → (exec (F + 3) ins).run s0 = (callResolved (F + 2) (.builtin name) args).run s) →
    SimVia s0 1 m s rs env (refCall k (.builtin name) args env rs)

abbrev FClaimG (k : Nat) : Prop := FClaimH k "force"

theorem run_restore_ok (c : CtlState) (s : St) : (restore c).run s = (.ok (), ((restore c).run s).2) := by
  rw [Contain.run_restore]

theorem run_callUser_ok (f : Nat) (name : String) (args : List Val) (D : List (Option Val)) (s s3 : St) (v : Val)
    (hd : s.data = args.reverse.map some ++ D)
    (hb : (builtin f name args).run (inBuiltin s D) = (.ok v, s3))
    (ha : s3.addr = some (s.curfunc, s.pc + 1) :: s.addr) :
    (callUser (f + 1) name args.length).run s =
      (.ok (), { s3 with data := some v :: s3.data, addr := s.addr, curfunc := s.curfunc, pc := s.pc + 1 }) := by
  rw [run_callUser_vals f name args D s hd, hb, userTail_ok s _ v s3 ha]

theorem run_callUser_err (f : Nat) (name : String) (args : List Val) (D : List (Option Val)) (s s3 : St)
    (hd : s.data = args.reverse.map some ++ D)
    (hb : (builtin f name args).run (inBuiltin s D) = (.error .err, s3)) :
    (callUser (f + 1) name args.length).run s =
      (.error .err, ((restore (Contain.captureOf { s with data := D })).run s3).2) := by
  rw [run_callUser_vals f name args D s hd, hb]
  simp only [userTail, show s.data.drop args.length = D by rw [hd]; exact (take_vals args D).2, Contain.run_restore]

/-- **A computation of a Go builtin** (`run`: its result from the state inside the builtin frame of a related
state `s`, the arguments popped, `D` below them) against a result of the reference evaluator: with enough fuel
it returns the related value inside the builtin frame of a related state `s'` — control of `s'` as in `s` —, or
fails with the same trace. -/
def BOk (m : Nat → Nat) (s : St) (rs : Ref.St) (env : Nat) (D : List (Option Val)) (run : Nat → Except Fault Val × St)
    (res : Ref.R Val) : Prop :=
  match res with
  | .ok v' rs' => ∃ (M : Nat) (s' : St) (m' : Nat → Nat) (v : Val),
      (∀ fuel, M ≤ fuel → run fuel = (.ok v, inBuiltin s' D))
      ∧ s'.pc = s.pc ∧ v' = trf m' v ∧ RelF m' s' rs' env
      ∧ MExt s m m' ∧ RExt rs rs' ∧ FrameF s s' ∧ VOk m' s' rs' v
  | .err rs' => ∃ M, ∀ fuel, M ≤ fuel → ∃ se, run fuel = (.error .err, se) ∧ se.trace = rs'.trace
  | .timeout => True
  | .brk _ _ => False
  | .cont _ _ => False

/-- a computation that spends one unit of fuel and then is `run` -/
theorem BOk.shift {m s rs env D} {run run' : Nat → Except Fault Val × St} {res : Ref.R Val}
    (hs : ∀ fuel, run' (fuel + 1) = run fuel) (h : BOk m s rs env D run res) : BOk m s rs env D run' res := by
  cases res with
  | ok v' rs' =>
    obtain ⟨M, s', m', v, hrun, rest⟩ := h
    obtain ⟨M', h'⟩ : Ev fun fuel => run' fuel = (.ok v, inBuiltin s' D) := Ev.shift 1 ⟨M, hrun⟩ fun f e => (hs f).trans e
    exact ⟨M', s', m', v, h', rest⟩
  | err rs' => exact Ev.shift 1 h fun f ⟨se, e, t⟩ => ⟨se, (hs f).trans e, t⟩
  | timeout => trivial
  | brk l rs' => exact h.elim
  | cont l rs' => exact h.elim

def BClaim (n : Nat) (name : String) : Prop :=
  ∀ (m : Nat → Nat) (s : St) (rs : Ref.St) (env : Nat) (vs : List Val) (D : List (Option Val)), RelF m s rs env →
    (∀ v ∈ vs, VOk m s rs v) →
    BOk m s rs env D (fun fuel => (builtin fuel name vs).run (inBuiltin s D)) (Ref.applyFn n (.builtin name) (vs.map (trf m)) rs)

/-- **The call instruction around a Go builtin**: operands, `CallUserFunction`, the builtin (`BClaim`), the value
pushed and control back behind the call -/
theorem fclaimH_of_bclaim {k : Nat} {name : String} (hA : FClaimA (k + 1)) (hb : BClaim (k + 1) name) : FClaimH k name := by
  intro args hargs m s rs env pre post ins s0 M0 hrel hat hex
  rw [refCall_builtin]
  obtain ⟨b0, hch, hfc⟩ := hrel.ctx
  have hcurlt := hfc.lt
  refine simVia_args hA hargs none (fun _ => false) (fun _ => rfl) hrel hat
    (kont := fun F => callUser (F + 1) name args.length) ⟨M0, fun F hF => by show _ = _; rw [hex F hF, run_callResolved_builtin]⟩
    fun vs' rs1 s1 m1 vs h1 hrun hd1 hp1 hvs rel1 ⟨hm1, ext1, fr1⟩ hclvs => ?_
  have hlen : args.length = vs.length := by
    rw [← ref_evalArgs_length' _ _ _ _ _ _ _ _ h1, hvs, List.length_map]
  have hbo := hb m1 s1 rs1 env vs s.data rel1 hclvs
  rw [← hvs] at hbo
  cases h2 : Ref.applyFn (k + 1) (.builtin name) vs' rs1 with
  | ok v' rsF =>
    rw [h2] at hbo
    obtain ⟨Mb, s3, m3, v, hbr, hpc3, hv, rel3, hm3, ext3, fr3, hv3⟩ := hbo
    subst hv
    let sF : St := s3.jmp (s1.pc + 1) (some v :: s.data)
    have hx : Ev fun f => (exec (f + 1) ins).run s0 = (.ok (), sF) :=
      Ev.shift 2 (hrun.and ⟨Mb, hbr⟩) fun F ⟨e, eb⟩ => by
        rw [e, hlen, run_callUser_ok F name vs s.data s1 (inBuiltin s3 s.data) v hd1 eb
          (by show some (s3.curfunc, s3.pc + 1) :: s3.addr = _; rw [fr3.curfunc, fr3.addr, hpc3])]
        show (Except.ok (), ({ s3 with data := some v :: s.data, addr := s1.addr, curfunc := s1.curfunc, pc := s1.pc + 1 } : St)) = _
        rw [← fr3.addr, ← fr3.curfunc]
        rfl
    have hfnF : fnOf sF sF.curfunc = fnOf s s.curfunc := by
      have h1 := fr3.fns s1.curfunc (by rw [fr1.curfunc]; exact Nat.lt_of_lt_of_le hcurlt fr1.fnsLen)
      have h2 := fr1.fns s.curfunc hcurlt
      show fnOf s3 s3.curfunc = _
      rw [fr3.curfunc, fr1.curfunc] at *
      exact h1.trans h2
    exact ⟨sF, m3, v, ReachX.ev hat hx, ⟨hfnF, by show s1.pc + 1 = _; rw [hp1]; simp, rfl⟩, rfl,
      rel3.jmp _ _, hm1.trans hm3 fr1.fnsLen, ext1.trans ext3, fr1.trans (fr3.trans (FrameF.jmp _ _ _)),
      VOk.ext hv3 (FrameF.jmp _ _ _) (RExt.refl _) (MExt.refl _ _)⟩
  | err rsF =>
    rw [h2] at hbo
    refine FailsX.ev hat (Ev.shift 2 (hrun.and hbo) fun F ⟨e, se, hse, htr⟩ =>
      ⟨_, by rw [e, hlen, run_callUser_err F name vs s.data s1 se hd1 hse]; rfl, ?_⟩)
    show ((restore (Contain.captureOf { s1 with data := s.data })).run se).2.trace = _
    rw [restore_trace]; exact htr
  | timeout => trivial
  | brk l rsF => rw [h2] at hbo; exact hbo.elim
  | cont l rsF => rw [h2] at hbo; exact hbo.elim

theorem bclaim_fo {k : Nat} {name : String} (hn : name ∈ foBuiltins) : BClaim (k + 1) name := by
  intro m s rs env vs D hrel hvs
  rw [ref_applyFn_fo k name hn]
  have hrun : ∀ f, (builtin (f + 1) name vs).run (inBuiltin s D) = foResult name vs (inBuiltin s D) :=
    fun f => run_builtin_fo f name hn vs _
  have hok : ∀ (v : Val) (s' : St) (rsF : Ref.St), foResult name vs (inBuiltin s D) = (.ok v, inBuiltin s' D) →
      s'.scopes = s.scopes → s'.linear = s.linear → s'.fns = s.fns → s'.suspended = s.suspended →
      s'.loops = s.loops → s'.lazies = s.lazies → s'.curfunc = s.curfunc → s'.addr = s.addr → s'.pc = s.pc → rsF.thunks = rs.thunks →
      rsF.frames = rs.frames → rsF.clos = rs.clos → rsF.heap = trHeap m id id s'.heap → s'.trace = rsF.trace →
      HOk m s rs s'.heap → VOk m s rs v →
      BOk m s rs env D (fun fuel => (builtin fuel name vs).run (inBuiltin s D)) (.ok (trf m v) rsF) := by
    intro v s' rsF hres hsc hlin hfns hsus hlps hlzs hcur haddr hpc hths hfr hcl hheap htr hhok hvok
    have hrelF : RelF m s' rsF env := hrel.of_same hsc hlin hfns hcur hfr hcl hheap htr hhok (LoopsExt.of_eq hlps) hlzs hths
    have hfrF : FrameF s s' :=
      ⟨⟨hlin, hcur, haddr, hsus, by rw [hfns]; exact Nat.le_refl _, fun id _ => by unfold fnOf; rw [hfns],
        by rw [hlps]; exact Nat.le_refl _, fun id _ => by rw [hlps]⟩,
        by rw [hsc]; exact Nat.le_refl _, fun i _ => by unfold isFnScope scopeOf; rw [hsc]⟩
    have hrext : RExt rs rsF := ⟨fun i fr hf => ⟨fr, by rw [hfr]; exact hf, rfl⟩, fun i c hc => by rw [hcl]; exact hc⟩
    obtain ⟨M, hM⟩ : Ev fun fuel => (builtin fuel name vs).run (inBuiltin s D) = (.ok v, inBuiltin s' D) :=
      Ev.shift 1 (Ev.of_forall hrun) fun f e => e.trans hres
    exact ⟨M, s', m, v, hM, hpc, rfl, hrelF, MExt.refl _ _, hrext, hfrF, VOk.ext hvok hfrF hrext (MExt.refl _ _)⟩
  by_cases ht : name = "trace"
  · simp only [ht, if_true]
    rw [ht] at hok
    have hfo : foResult "trace" vs (inBuiltin s D) = (.ok (vs.headD .nil),
        inBuiltin { s with trace := s.trace ++ [pr s.heap (vs.headD .nil)] } D) := by
      unfold foResult; rw [if_pos rfl]; rfl
    have hpr : pr rs.heap ((vs.map (trf m)).headD .nil) = pr s.heap (vs.headD .nil) := by
      rw [hrel.heap, headD_map_tr]; exact pr_tr m id id _ _
    rw [headD_map_tr]
    rw [ht] at hrun
    refine hok _ _ { rs with trace := rs.trace ++ [pr rs.heap (trf m (vs.headD .nil))] } hfo rfl rfl rfl rfl rfl rfl rfl rfl rfl rfl rfl rfl
      hrel.heap ?_ hrel.hok ?_
    · show s.trace ++ [pr s.heap _] = _
      rw [hrel.trace, ← headD_map_tr, hpr]
    · cases vs with
      | nil => exact vOk_lit .nil (fun _ _ _ => rfl)
      | cons v0 _ => exact hvs v0 List.mem_cons_self
  · simp only [ht, if_false]
    have hpt := prim_tr m id id name vs s.heap
    rw [hrel.heap, hpt]
    cases hp : prim name vs s.heap with
    | some r =>
      obtain ⟨v, hp'⟩ := r
      have hfo : foResult name vs (inBuiltin s D) = (.ok v, inBuiltin { s with heap := hp' } D) := by
        unfold foResult; rw [if_neg ht]
        show (match prim name vs s.heap with | some (v, h) => _ | none => _) = _
        rw [hp]; rfl
      simp only [Option.map_some]
      have hpc := prim_valIn name vs s.heap v hp' hp hvs hrel.hok
      exact hok v _ { rs with heap := trHeap m id id hp' } hfo rfl rfl rfl rfl rfl rfl rfl rfl rfl rfl rfl rfl rfl hrel.trace hpc.2 hpc.1
    | none =>
      have hfo : foResult name vs (inBuiltin s D) = (.error .err, inBuiltin s D) := by
        unfold foResult; rw [if_neg ht]
        show (match prim name vs s.heap with | some (v, h) => _ | none => _) = _
        rw [hp]
      simp only [Option.map_none]
      exact Ev.shift 1 (Ev.of_forall hrun) fun f e => ⟨inBuiltin s D, e.trans hfo, hrel.trace⟩

/-- an array in callee position: the operands are evaluated, then the call fails -/
theorem simF_call_arr {k : Nat} (hA : FClaimA (k + 1)) {args : List Expr}
    (hargs : FaList args = true) {m : Nat → Nat} {s : St} {rs : Ref.St} {env : Nat} {pre post : List Instr} {r : Nat}
    (hrel : RelF m s rs env) {ins : Instr} {s0 : St} {M0 : Nat} (hat : At s0 pre ins post)
    (hex : ∀ F, M0 ≤ F → (exec (F + 3) ins).run s0 = (callResolved (F + 2) (.arr r) args).run s) :
    SimVia s0 1 m s rs env (refCall k (.arr r) args env rs) := by
  rw [refCall_arr]
  exact simVia_args hA hargs none (fun _ => false) (fun _ => rfl) hrel hat (kont := fun _ => (err : M Unit))
    ⟨M0, fun F hF => by show _ = _; rw [hex F hF, run_callResolved_arr]⟩
    fun vs' rs1 s1 m1 vs h1 hrun hd1 hp1 hvs rel1 x1 hcl => FailsX.ev hat (Ev.shift 2 hrun fun F e =>
      ⟨{ s1 with data := truncate s1.data s.data.length }, by rw [e]; rfl, rel1.trace⟩)

/-- the callee symbol denotes something that is no function: the value itself without operands,
an error with operands -/
theorem simF_call_other {k : Nat} {args : List Expr} {m : Nat → Nat} {s : St} {rs : Ref.St} {env : Nat}
    {pre post : List Instr} {fv : Val} (hrel : RelF m s rs env)
    {ins : Instr} {s0 : St} {M0 : Nat} (hat : At s0 pre ins post)
    (hex : ∀ F, M0 ≤ F → (exec (F + 3) ins).run s0 = (callResolved (F + 2) fv args).run s) (hv : VOk m s rs fv)
    (h1 : ∀ id, fv ≠ .fn id) (h2 : ∀ n, fv ≠ .builtin n) (h3 : ∀ r, fv ≠ .arr r) :
    SimVia s0 1 m s rs env (refCall k (trf m fv) args env rs) := by
  have h1' : ∀ id, trf m fv ≠ .fn id := fun id e => by cases fv <;> simp_all [tr]
  have h2' : ∀ n, trf m fv ≠ .builtin n := fun n e => by cases fv <;> simp_all [tr]
  have h3' : ∀ r, trf m fv ≠ .arr r := fun r e => by cases fv <;> simp_all [tr]
  rw [refCall_other k _ args env rs h1' h2' h3']
  have hexec : Ev fun F => (exec (F + 3) ins).run s0
      = if args.isEmpty then (.ok (), s.jmp (s.pc + 1) (some fv :: s.data)) else (.error .err, s) :=
    ⟨M0, fun F hF => by show _ = _; rw [hex F hF, run_callResolved_other _ _ _ _ h1 h2 h3]⟩
  by_cases he : args.isEmpty = true
  · simp only [he, if_true] at hexec ⊢
    exact ⟨s.jmp (s.pc + 1) (some fv :: s.data), m, fv, ReachX.ev hat (Ev.shift 2 hexec fun _ e => e), ⟨rfl, by simp, rfl⟩,
      rfl, hrel.jmp _ _, MExt.refl s m, RExt.refl rs, FrameF.jmp _ _ _,
      VOk.ext hv (FrameF.jmp _ _ _) (RExt.refl rs) (MExt.refl s m)⟩
  · simp only [he, Bool.false_eq_true, if_false] at hexec ⊢
    exact FailsX.ev hat (Ev.shift 2 hexec fun _ e => ⟨s, e, hrel.trace⟩)

/-- **A call, the callee evaluated** to `fv` (by lookup or by a nested run): a closure object, a Go builtin, or
something that cannot be called -/
theorem simF_callV {k : Nat} (hA : FClaimA (k + 1)) (hU : FClaimU (k + 1)) (hG : ∀ name, hoB name → FClaimH k name)
    {args : List Expr} (hargs : FaList args = true) {m : Nat → Nat} {s : St} {rs : Ref.St} {env : Nat}
    {pre post : List Instr} {ins : Instr} {s0 : St} {M0 : Nat} {fv : Val} (hrel : RelF m s rs env) (hat : At s0 pre ins post)
    (hex : ∀ F, M0 ≤ F → (exec (F + 3) ins).run s0 = (callResolved (F + 2) fv args).run s) (hv : VOk m s rs fv) :
    SimVia s0 1 m s rs env (refCall k (trf m fv) args env rs) := by
  cases fv with
  | fn vid => exact simF_call_fn hA hU hargs hrel hat hex hv.fn
  | builtin name =>
    rcases hv.builtin with hn | hn
    · exact fclaimH_of_bclaim hA (bclaim_fo hn) args hargs m s rs env pre post ins s0 M0 hrel hat hex
    · exact hG name hn args hargs m s rs env pre post ins s0 M0 hrel hat hex
  | arr r => exact simF_call_arr hA hargs hrel hat hex
  | _ => exact simF_call_other hrel hat hex hv (fun _ e => by cases e) (fun _ e => by cases e) (fun _ e => by cases e)

theorem simF_call {k : Nat} (hA : FClaimA (k + 1)) (hU : FClaimU (k + 1)) (hG : ∀ name, hoB name → FClaimH k name) {h : String} (hh : okSym h = true)
    {args : List Expr} (hargs : FaList args = true) {m : Nat → Nat} {s : St} {rs : Ref.St} {env : Nat}
    {pre post : List Instr} (hrel : RelF m s rs env) (hseg : Seg s pre [.callExpr (.sym h) args] post) :
    SimF [.callExpr (.sym h) args] m s rs env (Ref.eval (k + 2) (.call (.sym h) args) env rs) := by
  rw [ref_eval_call_sym]
  have hlook := hrel.lexLookup h
  cases hl : lexLookup s h with
  | none =>
    rw [hl] at hlook
    rw [← hlook]
    simp only [Option.map_none]
    exact FailsX.ev hseg.head (Ev.shift 1 (Ev.of_forall fun F => exec_callExpr_sym_none F h args s hl) fun _ e =>
      ⟨s, e, hrel.trace⟩)
  | some r =>
    obtain ⟨i, fv⟩ := r
    rw [hl] at hlook
    rw [← hlook]
    simp only [Option.map_some, trp2]
    have hv : VOk m s rs fv := (hrel.vok i h fv (lexLookup_sound hl)).ok hh
    exact simF_callV (M0 := 0) hA hU hG hargs hrel hseg.head (fun F _ => exec_callExpr_sym F h args s i fv hl) hv

theorem ref_eval_call (k : Nat) (f : Expr) (args : List Expr) (env : Nat) (rs : Ref.St) :
    Ref.eval (k + 2) (.call f args) env rs =
      match Ref.eval (k + 1) f env rs with
      | .ok fv s => refCall k fv args env s
      | r => r := by
  rw [Ref.eval]
  unfold refCall
  cases Ref.eval (k + 1) f env rs <;> rfl

theorem SimVia.toF {ins : Instr} {s0 s1 : St} {m m1 : Nat → Nat} {rs rs1 : Ref.St} {env : Nat} {res : Ref.R Val}
    (h : SimVia s0 1 m1 s1 rs1 env res) (hm : MExt s0 m m1) (ext : RExt rs rs1) (fr : FrameF s0 s1)
    (hd : s1.data = s0.data) (hp : s1.pc = s0.pc) (hcur : s0.curfunc < s0.fns.length) : SimF [ins] m s0 rs env res := by
  cases res with
  | ok v' rs' =>
    obtain ⟨s', m', v, r, l, hv, rel, hm', ext', fr', hcl⟩ := h
    exact ⟨s', m', v, r, ⟨l.fn.trans (by rw [fr.curfunc]; exact fr.fns _ hcur), by rw [l.pc, hp]; rfl, by rw [l.data, hd]⟩, hv, rel,
      hm.trans hm' fr.fnsLen, ext.trans ext', fr.trans fr', hcl⟩
  | err rs' => exact h
  | timeout => trivial
  | brk l rs' => exact h
  | cont l rs' => exact h

/-- **A call with a computed callee** `(e a1 … an)`: the callee is evaluated in a nested run (as an operand), then as a
call by name -/
theorem simF_callE {k : Nat} (hE : FClaimE (k + 1)) (hA : FClaimA (k + 1)) (hU : FClaimU (k + 1))
    (hG : ∀ name, hoB name → FClaimH k name) {e : Expr} (he : Ff false "" e = true)
    {args : List Expr} (hargs : FaList args = true) {m : Nat → Nat} {s : St} {rs : Ref.St} {env : Nat}
    {pre post : List Instr} (hrel : RelF m s rs env) (hseg : Seg s pre [.callExpr e args] post) :
    SimF [.callExpr e args] m s rs env (Ref.eval (k + 2) (.call e args) env rs) := by
  rw [ref_eval_call]
  have hev := evalCallExpr_simF hE e he hrel
  obtain ⟨_, _, hfc⟩ := hrel.ctx
  have hunf : ∀ F, (exec (F + 1) (.callExpr e args)).run s =
      match (evalCallExpr F e).run s with
      | (.ok fv, s1) => (callResolved F fv args).run s1
      | (.error flt, s1) => (.error flt, s1) := by
    intro F
    rw [exec]
    simp only [run_bind]
    rcases (evalCallExpr F e).run s with ⟨r1, s1⟩
    cases r1 <;> rfl
  cases h1 : Ref.eval (k + 1) e env rs with
  | ok fv' rs1 =>
    rw [h1] at hev
    obtain ⟨M1, s1, m1, fv, hM1, hd1, hp1, hv1, rel1, ⟨hm1, ext1, fr1⟩, hcl1⟩ := hev
    simp only
    subst hv1
    refine (simF_callV (M0 := M1) hA hU hG hargs rel1 hseg.head (fun F hF => ?_) hcl1).toF hm1 ext1 fr1 hd1 hp1 hfc.lt
    rw [hunf (F + 2), hM1 (F + 2) (by omega)]
  | err rs1 =>
    rw [h1] at hev
    exact FailsX.ev hseg.head (Ev.mono hev fun f ⟨se, hse, htr⟩ => ⟨se, by rw [hunf f, hse], htr⟩)
  | timeout => trivial
  | brk l rs1 => rw [h1] at hev; exact hev.elim
  | cont l rs1 => rw [h1] at hev; exact hev.elim

theorem fclaimB_succ {n : Nat} (hE : FClaimE n) (hB : FClaimB n) : FClaimB (n + 1) := fun fnOk self =>
  hclaimB_succ (Fr := fFg fnOk self) (HClaimE.toN (fun _ _ _ _ _ => id) (hE.at fnOk self)) (hE.at fnOk self) (hB fnOk self)

theorem fclaimC_succ {n : Nat} (hE : FClaimE n) (hC : FClaimC n) : FClaimC (n + 1) := fun fnOk self =>
  hclaimC_succ (Fr := fFg fnOk self) (HClaimE.toN (fun _ _ _ _ _ => id) (hE.at fnOk self)) (hE.at fnOk self) (hC fnOk self)

theorem tmpl_facts (isFn : Nat → Bool) (gs g₂ : GS) (fname : String) (ps : List String) (rest : Option String) (b : List Instr)
    (s : St) (hk : KeepFns (Bal.allocGs isFn gs fname ps rest) g₂) (hgen : GenOk gs (Bal.finishGs gs.fns.length b g₂) s) :
    fnOf s gs.fns.length = { Bal.tmplOf isFn gs fname ps rest with code := fnCode gs.fns.length (ps ++ rest.toList) b }
      ∧ gs.fns.length < s.fns.length ∧ GenOk (Bal.allocGs isFn gs fname ps rest) g₂ s := by
  have hl2 : gs.fns.length + 1 ≤ g₂.fns.length := by have := hk.len; simpa [Bal.allocGs] using this
  have hlf : (Bal.finishGs gs.fns.length b g₂).fns.length = g₂.fns.length := by simp [Bal.finishGs]
  have hlen := hgen.len
  rw [hlf] at hlen
  refine ⟨?_, by omega, ⟨hgen.live, by have := hgen.main; simp [Bal.allocGs]; omega, hlen, fun t h1 h2 => ?_, hgen.loops⟩⟩
  · rw [hgen.tmpl gs.fns.length (Nat.le_refl _) (by rw [hlf]; omega)]
    exact finishGs_tmpl isFn gs g₂ fname ps rest b hk
  · have h1' : gs.fns.length + 1 ≤ t := by simpa [Bal.allocGs] using h1
    rw [hgen.tmpl t (by omega) (by rw [hlf]; exact h2), finishGs_getD_ne _ _ _ _ (by omega)]

/-- `createClosure t`: the new function object is a good closure object for the reference closure
just made; the relation holds with the id map extended by the new pair -/
theorem closure_step {m : Nat → Nat} {s : St} {rs : Ref.St} {env : Nat} (hrel : RelF m s rs env) (t : Nat) (c : Ref.Clos)
    (hcenv : c.env = env) (hrest : okRest c.rest = true) (hnd : (c.ps ++ c.rest.toList).Nodup)
    (hps : ∀ p ∈ c.ps, okParam p = true) (hbody : c.body ≠ [])
    (hparams : (fnOf s t).params = c.ps ++ c.rest.toList) (hnargs : (fnOf s t).nargs = c.ps.length)
    (hvar : (fnOf s t).varargs = c.rest.isSome)
    (huser : (fnOf s t).user = false) (htlt : t < s.fns.length) (htclo : (fnOf s t).closing = [some 0])
    (hcode : ∃ b tl isFn cb gs0 gs1 self, (fnOf s t).code = fnCode t (c.ps ++ c.rest.toList) b
      ∧ (compileBegin isFn cb c.body).run gs0 = .ok ((b, tl), gs1) ∧ cb.scopes = 0
      ∧ FnameOk self cb ∧ (∃ ex, FzList ex self c.body = true ∧ (ex = true → gs0.loopstack = [])) ∧ GenOk gs0 gs1 s
      ∧ KnownOk cb gs0 c.ps c.rest) :
    RelF (mapWith m s.fns.length rs.clos.length) (afterClosure s t) { rs with clos := rs.clos ++ [c] } env
      ∧ GoodFn (mapWith m s.fns.length rs.clos.length) (afterClosure s t) { rs with clos := rs.clos ++ [c] } s.fns.length
      ∧ MExt s m (mapWith m s.fns.length rs.clos.length) ∧ RExt rs { rs with clos := rs.clos ++ [c] }
      ∧ FrameF s (afterClosure s t) ∧ mapWith m s.fns.length rs.clos.length s.fns.length = rs.clos.length
      ∧ fnOf (afterClosure s t) s.curfunc = fnOf s s.curfunc := by
  obtain ⟨k, hch, hfc⟩ := hrel.ctx
  have hmain : mainFn < s.fns.length := by
    have := fns_ne_nil_of_lt hfc.lt
    cases hs : s.fns with
    | nil => exact absurd hs this
    | cons _ _ => simp [mainFn]
  have hfns1 : (afterClosure s t).fns = s.fns ++ [closureObj s t] := rfl
  have hfo1 : ∀ id, id < s.fns.length → fnOf (afterClosure s t) id = fnOf s id := fun id hid => by
    unfold fnOf; rw [hfns1]; simp only [List.getD_eq_getElem?_getD, List.getElem?_append_left hid]
  have hfl1 : s.fns.length ≤ (afterClosure s t).fns.length := by rw [hfns1]; simp
  have hk01 : FnsKeep s (afterClosure s t) := FnsKeep.of_eq hfl1 hfo1 hmain
  have hclos1 : ClosExt rs { rs with clos := rs.clos ++ [c] } := fun i c' hc' => by
    show (rs.clos ++ [c])[i]? = some c'
    rw [List.getElem?_append_left (lt_of_getElem?_some hc')]; exact hc'
  have hmext : MExt s m (mapWith m s.fns.length rs.clos.length) := fun id hid => by
    unfold mapWith; rw [if_neg (by omega)]
  have hmv : mapWith m s.fns.length rs.clos.length s.fns.length = rs.clos.length := by unfold mapWith; rw [if_pos rfl]
  refine ⟨hrel.grow rfl rfl rfl rfl hrel.trace hk01 rfl rfl hclos1 hmext,
    GoodFn.create hrel t c hmain hcenv hrest hnd hps hbody hparams hnargs hvar huser htlt htclo hcode _ _ rfl rfl,
    hmext, ⟨fun i fr hf => ⟨fr, hf, rfl⟩, hclos1⟩,
    ⟨⟨rfl, rfl, rfl, rfl, hfl1, hfo1, Nat.le_refl _, fun _ _ => rfl⟩, Nat.le_refl _, fun _ _ => rfl⟩, hmv, hfo1 _ hfc.lt⟩

theorem simF_fn_core {n : Nat} (ps : List String) (rest : Option String) (body : List Expr)
    (hrest : okRest rest = true) (hnd : (ps ++ rest.toList).Nodup) (hps : ∀ p ∈ ps, okParam p = true) (hbody : body ≠ [])
    {ex : Bool} (hfz : FzList ex "" body = true) (hex : ex = true → gs.loopstack = []) (isFn : Nat → Bool) (c : Ctx) (g2 : GS)
    (b : List Instr) (tl : Bool)
    (hb : (compileBegin isFn (Bal.bodyCtx c gs "" true) body).run (Bal.allocGs isFn gs "" ps rest) = .ok ((b, tl), g2))
    (hk2 : KeepFns (Bal.allocGs isFn gs "" ps rest) g2)
    (r : (List Instr × Bool) × GS) (hc : (compile isFn c (.fn ps rest body)).run gs = .ok r)
    {m : Nat → Nat} {s : St} {rs : Ref.St} {env : Nat} {pre post : List Instr}
    (hrel : RelF m s rs env) (hgen : GenOk gs r.2 s) (hseg : Seg s pre r.1.1 post) :
    SimF r.1.1 m s rs env (Ref.eval (n + 1) (.fn ps rest body) env rs) := by
  have hceq := compile_fn_eq isFn c ps rest body gs g2 b tl hb
  rw [hceq] at hc
  injection hc with hc
  subst hc
  simp only at hseg hgen ⊢
  obtain ⟨hTd, htl, hgenb⟩ := tmpl_facts isFn gs g2 _ ps rest b s hk2 hgen
  obtain ⟨rel1, hgood, hmext, hrext, hfr, hmv, hfo⟩ := closure_step hrel gs.fns.length
    { ps := ps, rest := rest, body := body, env := env } rfl hrest hnd hps hbody
    (by rw [hTd]; rfl) (by rw [hTd]; rfl) (by rw [hTd]; rfl) (by rw [hTd]; rfl) htl
    (by rw [hTd]; show newClosing isFn gs.live = [some 0]; rw [hgen.live]; exact newClosing_single _)
    ⟨b, tl, isFn, Bal.bodyCtx c gs "" true, _, g2, "", by rw [hTd], hb, rfl, bodyCtx_funcname c gs "" true, ⟨ex, hfz, hex⟩, hgenb,
      knownOk_bodyCtx isFn c gs "" ps rest true⟩
  rw [Ref.eval]
  have a0 : At s pre (.createClosure gs.fns.length) post := hseg.head
  refine ⟨afterClosure s gs.fns.length, _, .fn s.fns.length,
    (Reach.step a0 (fun f => exec_createClosure f _ s)).toX, ⟨hfo, by show s.pc + 1 = _; simp, rfl⟩, ?_, rel1, hmext, hrext,
    hfr, valIn_fn hgood⟩
  show Val.fn rs.clos.length = Val.fn _
  rw [hmv]

theorem simF_fn {n : Nat} {self : String} (ps : List String) (rest : Option String) (body : List Expr)
    (hform : Ff true self (.fn ps rest body) = true) (isFn : Nat → Bool) (c : Ctx) (gs : GS)
    (r : (List Instr × Bool) × GS) (hc : (compile isFn c (.fn ps rest body)).run gs = .ok r)
    {m : Nat → Nat} {s : St} {rs : Ref.St} {env : Nat} {pre post : List Instr}
    (hrel : RelF m s rs env) (hgen : GenOk gs r.2 s) (hseg : Seg s pre r.1.1 post) :
    SimF r.1.1 m s rs env (Ref.eval (n + 1) (.fn ps rest body) env rs) := by
  rw [Ff] at hform
  simp only [Bool.and_eq_true, decide_eq_true_eq, Bool.not_eq_true', List.isEmpty_eq_false_iff,
    List.all_eq_true, true_and] at hform
  obtain ⟨⟨⟨⟨hrest, hnd⟩, hps⟩, hbody⟩, hff⟩ := hform
  obtain ⟨b, tl, g2, hb, _, hk2⟩ := compileBegin_total_Ff true "" body hbody hff isFn (Bal.bodyCtx c gs "" true)
    (Bal.allocGs isFn gs "" ps rest) (bodyCtx_funcname c gs "" true)
  exact simF_fn_core ps rest body hrest hnd hps hbody (fzList_of_ff _ _ hff) (fun h => by cases h) isFn c g2 b tl hb hk2.1 r hc
    hrel hgen hseg

/-- `defn`: the closure is made and bound; the body may hold self tail calls (`FzList`) -/
theorem simF_defn_core {n : Nat} (name : String) (ps : List String) (rest : Option String) (body : List Expr)
    (hrest : okRest rest = true)
    (hname : okName name = true) (hne : name ≠ "") (hnd : (ps ++ rest.toList).Nodup) (hps : ∀ p ∈ ps, okParam p = true) (hbody : body ≠ [])
    {ex : Bool} (hfz : FzList ex name body = true) (hex : ex = true → gs.loopstack = []) (isFn : Nat → Bool) (c : Ctx) (g2 : GS)
    (b : List Instr) (tl : Bool)
    (hb : (compileBegin isFn (Bal.bodyCtx c gs name (!rebindsOwnName name ps rest body)) body).run (Bal.allocGs isFn gs name ps rest) = .ok ((b, tl), g2))
    (hk2 : KeepFns (Bal.allocGs isFn gs name ps rest) g2)
    (r : (List Instr × Bool) × GS) (hc : (compile isFn c (.defn name ps rest body)).run gs = .ok r)
    {m : Nat → Nat} {s : St} {rs : Ref.St} {env : Nat} {pre post : List Instr}
    (hrel : RelF m s rs env) (hgen : GenOk gs r.2 s) (hseg : Seg s pre r.1.1 post) :
    SimF r.1.1 m s rs env (Ref.eval (n + 1) (.defn name ps rest body) env rs) := by
  have hceq := compile_defn_eq isFn c name ps rest body gs g2 b tl hb
  rw [hceq] at hc
  injection hc with hc
  subst hc
  simp only at hseg hgen ⊢
  obtain ⟨hTd, htl, hgenb⟩ := tmpl_facts isFn gs g2 _ ps rest b s hk2 hgen
  obtain ⟨rel1, hgood, hmext, hrext, hfr01, hmv, hfo⟩ := closure_step hrel gs.fns.length
    { ps := ps, rest := rest, body := body, env := env } rfl hrest hnd hps hbody
    (by rw [hTd]; rfl) (by rw [hTd]; rfl) (by rw [hTd]; rfl) (by rw [hTd]; rfl) htl
    (by rw [hTd]; show newClosing isFn gs.live = [some 0]; rw [hgen.live]; exact newClosing_single _)
    ⟨b, tl, isFn, Bal.bodyCtx c gs name (!rebindsOwnName name ps rest body), _, g2, name, by rw [hTd], hb, rfl, bodyCtx_funcname c gs name _,
      ⟨ex, hfz, hex⟩, hgenb, knownOk_bodyCtx isFn c gs name ps rest _⟩
  rw [Ref.eval]
  show SimF _ m s rs env
    (match Ref.define { rs with clos := rs.clos ++ [{ ps := ps, rest := rest, body := body, env := env }] } env name
        (.fn ((rs.clos ++ [({ ps := ps, rest := rest, body := body, env := env } : Ref.Clos)]).length - 1)) with
     | some s' => .ok .nil s'
     | none => .err { rs with clos := rs.clos ++ [{ ps := ps, rest := rest, body := body, env := env }] })
  have hcid : (rs.clos ++ [({ ps := ps, rest := rest, body := body, env := env } : Ref.Clos)]).length - 1 = rs.clos.length := by
    simp
  rw [hcid]
  generalize hrs1 : ({ rs with clos := rs.clos ++ [{ ps := ps, rest := rest, body := body, env := env }] } : Ref.St) = rs₁
    at rel1 hgood hrext
  have a0 : At s pre (.createClosure gs.fns.length) ([.popStackPutEnv name, .push .nil] ++ post) :=
    ⟨hseg.user, by rw [hseg.code]; simp, hseg.pc⟩
  have r0 : ReachX s (afterClosure s gs.fns.length) := (Reach.step a0 (fun f => exec_createClosure f _ s)).toX
  generalize hs1 : afterClosure s gs.fns.length = s₁ at r0 rel1 hgood hfr01 hfo
  have hcur1 : s₁.curfunc = s.curfunc := hfr01.curfunc
  have a1 : At s₁ (pre ++ [.createClosure gs.fns.length]) (.popStackPutEnv name) ([.push .nil] ++ post) :=
    ⟨by rw [hcur1, hfo]; exact hseg.user, by rw [hcur1, hfo, hseg.code]; simp,
     by subst hs1; show s.pc + 1 = _; rw [hseg.pc]; simp⟩
  have hd1 : s₁.data = some (.fn s.fns.length) :: s.data := by subst hs1; rfl
  have hp := psp_stepF a1 hd1 rel1 hname (valIn_fn hgood)
  have htrfn : trf (mapWith m s.fns.length rs.clos.length) (.fn s.fns.length) = .fn rs.clos.length := by
    show Val.fn (mapWith m s.fns.length rs.clos.length s.fns.length) = _; rw [hmv]
  rw [htrfn] at hp
  obtain ⟨k1, hch1, hfc1⟩ := rel1.ctx
  have hcurlt : s₁.curfunc < s₁.fns.length := hfc1.lt
  cases hdef : Ref.define rs₁ env name (.fn rs.clos.length) with
  | none =>
    rw [hdef] at hp
    simp only
    exact FailsX.of_reach r0 hp.toX
  | some rs₂ =>
    rw [hdef] at hp
    obtain ⟨r2, rel2, ext2⟩ := hp
    simp only
    generalize hs2 : (s₁.jmp (s₁.pc + 1) s.data).bind env name (.fn s.fns.length) = s₂ at r2 rel2
    have hfr12 : FrameF s₁ s₂ := by subst hs2; exact (FrameF.jmp _ _ _).trans (FrameF.bind _ _ _ _)
    have hfn2 : fnOf s₂ s₂.curfunc = fnOf s s.curfunc := by
      rw [hfr12.curfunc, hfr12.fns _ hcurlt, hcur1, hfo]
    have a2 : At s₂ (pre ++ [.createClosure gs.fns.length, .popStackPutEnv name]) (.push .nil) post := by
      refine ⟨by rw [hfn2]; exact hseg.user, by rw [hfn2, hseg.code]; simp, ?_⟩
      subst hs2; subst hs1
      show s.pc + 1 + 1 = _; rw [hseg.pc]; simp; omega
    have r3 := (reach_push a2).toX
    refine ⟨s₂.jmp (s₂.pc + 1) (some .nil :: s₂.data), mapWith m s.fns.length rs.clos.length, .nil,
      ((r0.trans r2.toX).trans r3), ⟨hfn2, ?_, ?_⟩, rfl, rel2.jmp _ _, hmext, hrext.trans ext2,
      (hfr01.trans hfr12).trans (FrameF.jmp _ _ _), vOk_lit .nil (fun _ _ _ => rfl)⟩
    · subst hs2; subst hs1
      show s.pc + 1 + 1 + 1 = _; simp; omega
    · subst hs2; subst hs1; rfl

theorem simF_defn {n : Nat} {self : String} (name : String) (ps : List String) (rest : Option String) (body : List Expr)
    (hform : Ff true self (.defn name ps rest body) = true) (isFn : Nat → Bool) (c : Ctx) (gs : GS)
    (r : (List Instr × Bool) × GS) (hc : (compile isFn c (.defn name ps rest body)).run gs = .ok r)
    {m : Nat → Nat} {s : St} {rs : Ref.St} {env : Nat} {pre post : List Instr}
    (hrel : RelF m s rs env) (hgen : GenOk gs r.2 s) (hseg : Seg s pre r.1.1 post) :
    SimF r.1.1 m s rs env (Ref.eval (n + 1) (.defn name ps rest body) env rs) := by
  rw [Ff] at hform
  simp only [Bool.and_eq_true, bne_iff_ne, ne_eq, decide_eq_true_eq, Bool.not_eq_true',
    List.isEmpty_eq_false_iff, List.all_eq_true, true_and] at hform
  obtain ⟨⟨⟨⟨⟨⟨hrest, hname⟩, hne⟩, hnd⟩, hps⟩, hbody⟩, hff⟩ := hform
  obtain ⟨b, tl, g2, hb, _, hk2⟩ := compileBegin_total_Ff true name body hbody hff isFn (Bal.bodyCtx c gs name (!rebindsOwnName name ps rest body))
    (Bal.allocGs isFn gs name ps rest) (bodyCtx_funcname c gs name _)
  exact simF_defn_core name ps rest body hrest hname hne hnd hps hbody (fzList_of_ff _ _ hff) (fun h => by cases h) isFn c g2 b tl
    hb hk2.1 r hc hrel hgen hseg

end ZygoVerif.Sim
