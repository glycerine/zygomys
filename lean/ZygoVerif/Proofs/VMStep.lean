/-
What one instruction does, as a function of the state: `step i s` is the outcome and the state
`Instruction.Execute` leaves for every instruction that does not re-enter the machine (all but
`callExpr` and `callArr`), written out — no monad, no fuel. `exec_simple_eq` ties it to the model;
every statement about a single instruction is a case analysis on `step`.
The helpers that loop or branch on the stacks get the same treatment first: each is a function on
the stacks (`bindTopRes`, `wrangleRes`, `cutMark`, `exitLoop`, `popThen`; `callRes` for
`CallFunction`) with its equation `run_*`, its inversion on success (`*_ok`) and its value on a
stack of values (`*_of`, `*_vals`).
-/
import ZygoVerif.Proofs.SimMachine
import ZygoVerif.Proofs.Scope
namespace ZygoVerif.Contain
open ZygoVerif.Core ZygoVerif.VM ZygoVerif.Sim

/-- The instructions that do not re-enter the machine: all but `callArr` and `callExpr`, 25 of the model's 27.
Every `exec_simple_*` statement is about this class. Two other classifications exist: `VMSafe.isCall` is its
complement; `RunInv.isCall` also counts `ret`, which leaves the activation (`RunInv.exec_simple_ok` is about the 24
instructions that are neither). -/
def simple : Instr → Bool
  | .callArr _ => false
  | .callExpr _ _ => false
  | _ => true

/-- what `captureControlState` records in state `s` -/
def captureOf (s : St) : CtlState :=
  { curfunc := s.curfunc, pc := s.pc, susp := s.suspended.length, addrSize := s.addr.length,
    linearSize := s.linear.length, dataSize := s.data.length }

theorem run_capture (s : St) : capture.run s = (.ok (captureOf s), s) := rfl

/-- the scope-stack OBJECT that was current when `c` was captured, as seen from `s`: the live
one, or — when lazy forces have set stacks aside since — the oldest one set aside since. -/
def linAt (c : CtlState) (s : St) : List (Option Nat) :=
  if s.suspended.length > c.susp then s.suspended.getD (s.suspended.length - c.susp - 1) [] else s.linear

def suspAt (c : CtlState) (s : St) : List (List (Option Nat)) :=
  if s.suspended.length > c.susp then s.suspended.drop (s.suspended.length - c.susp) else s.suspended

/-- `restoreControlState` as a function -/
def restoreSt (c : CtlState) (s : St) : St :=
  { s with addr := truncate s.addr c.addrSize, linear := truncate (linAt c s) c.linearSize,
           suspended := suspAt c s, data := truncate s.data c.dataSize, curfunc := c.curfunc, pc := c.pc }

theorem run_restore (c : CtlState) (s : St) : (restore c).run s = (.ok (), restoreSt c s) := by
  unfold restore restoreSt linAt suspAt
  rw [run_modify]
  by_cases h : s.suspended.length > c.susp <;> simp only [h, if_true, if_false]

end ZygoVerif.Contain

namespace ZygoVerif.VM
open ZygoVerif.Core ZygoVerif.Sim ZygoVerif.Contain
open ZygoVerif.Scope (setVarSt)

abbrev Res (α : Type) := Except Fault α × St

/-- a computation that only works on the data stack -/
abbrev DRes := Except Fault Unit × List (Option Val)

def St.withData (s : St) (r : DRes) : Res Unit := (r.1, { s with data := r.2 })

theorem run_popN (n : Nat) (s : St) :
    (popN n).run s = if s.data.length < n then (.error .err, s) else
      match (s.data.take n).mapM id with
      | none => (.error .panic, s)
      | some vs => (.ok vs.reverse, { s with data := s.data.drop n }) := by
  unfold popN
  simp only [run_bind, run_get, run_ite, run_err]
  split
  · rfl
  · split <;> rename_i h <;> simp only [h, run_hostPanic, run_bind, run_set, run_pure]

theorem run_popScope (s : St) :
    popScope.run s = match s.linear with
      | [] => (.error .err, s)
      | _ :: rest => (.ok (), { s with linear := rest }) := by
  unfold popScope
  simp only [run_bind, run_get]
  rcases hl : s.linear with _ | ⟨x, rest⟩ <;> simp only [run_err, run_set]

/-- `popScopes n` drops `n` scopes, or fails on the empty stack having dropped what there was -/
theorem run_popScopes : ∀ (n : Nat) (s : St),
    (popScopes n).run s = if n ≤ s.linear.length then (.ok (), { s with linear := s.linear.drop n })
      else (.error .err, { s with linear := [] })
  | 0, s => rfl
  | n + 1, s => by
    rw [popScopes, run_bind, run_popScope]
    rcases hl : s.linear with _ | ⟨x, rest⟩
    · obtain ⟨⟩ := s
      cases hl
      rfl
    · simp only [run_popScopes n, List.length_cons, Nat.add_le_add_iff_right, List.drop_succ_cons]

/-- `LexicalBindSymbol`: into the top scope, unless the name is bound there to a value of another
kind; without a top scope the host panics -/
def bindTopRes (x : String) (v : Val) (s : St) : Res Unit :=
  match s.linear with
  | some id :: _ =>
    if ∀ cur, (scopeOf s id).vars.lookup x = some cur → rebindOk s.heap cur v = true then (.ok (), setVarSt s id x v)
    else (.error .err, s)
  | _ => (.error .panic, s)

theorem run_bindTop (x : String) (v : Val) (s : St) : (bindTop x v).run s = bindTopRes x v s := by
  unfold bindTop bindTopRes
  rw [run_bind, run_get]
  dsimp only
  rcases s.linear with _ | ⟨_ | id, rest⟩
  · rfl
  · rfl
  · dsimp only
    rcases (scopeOf s id).vars.lookup x with _ | cur
    · rw [if_pos (fun _ h => nomatch h)]; rfl
    · dsimp only
      by_cases hr : rebindOk s.heap cur v = true
      · rw [if_pos hr, if_pos (fun c hc => by cases hc; exact hr)]; rfl
      · rw [if_neg hr, if_neg (fun h => hr (h cur rfl))]; rfl

theorem bindTopRes_ok {x : String} {v : Val} {s s' : St} (h : bindTopRes x v s = (.ok (), s')) :
    ∃ id, s' = setVarSt s id x v := by
  unfold bindTopRes at h
  split at h
  · split at h <;> cases h
    exact ⟨_, rfl⟩
  · cases h

theorem bindTopRes_of {x : String} {v : Val} {s : St} {id : Nat} {rest : List (Option Nat)} (hl : s.linear = some id :: rest)
    (h : ∀ cur, (scopeOf s id).vars.lookup x = some cur → rebindOk s.heap cur v = true) :
    bindTopRes x v s = (.ok (), setVarSt s id x v) := by
  rw [bindTopRes, hl]
  exact if_pos h

/-- `wrangleOptargs` on the data stack: the `b - a` operands beyond the fixed ones become one list
(the empty list when there are none) -/
def wrangleRes (a b : Nat) (d : List (Option Val)) : DRes :=
  if b < a ∨ d.length < b - a then (.error .err, d)
  else match (d.take (b - a)).mapM id with
    | none => (.error .panic, d)
    | some vs => (.ok (), some (mkList vs.reverse) :: d.drop (b - a))

theorem run_wrangleOptargs (a b : Nat) (s : St) : (wrangleOptargs a b).run s = s.withData (wrangleRes a b s.data) := by
  unfold wrangleOptargs wrangleRes St.withData
  by_cases h1 : b < a
  · rw [if_pos h1, if_pos (.inl h1)]; rfl
  rw [if_neg h1]
  by_cases h2 : a < b
  · rw [if_pos (show b > a from h2), run_bind, run_popN]
    by_cases h3 : s.data.length < b - a
    · rw [if_pos h3, if_pos (.inr h3)]
    · rw [if_neg h3, if_neg (by omega)]
      rcases (s.data.take (b - a)).mapM id with _ | vs <;> rfl
  · rw [if_neg (show ¬ b > a from h2), if_neg (by omega), show b - a = 0 by omega]; rfl

theorem wrangleRes_ok {a b : Nat} {d d' : List (Option Val)} (h : wrangleRes a b d = (.ok (), d')) :
    a ≤ b ∧ b - a ≤ d.length ∧
      ∃ vs, (d.take (b - a)).mapM id = some vs ∧ d' = some (mkList vs.reverse) :: d.drop (b - a) := by
  unfold wrangleRes at h
  split at h
  · cases h
  · split at h <;> cases h
    exact ⟨by omega, by omega, _, ‹_›, rfl⟩

theorem _root_.ZygoVerif.Sim.mapM_id_map_some {α} : ∀ (l : List α), (l.map some).mapM id = some l
  | [] => rfl
  | a :: l => by
    rw [List.map_cons, List.mapM_cons, Sim.mapM_id_map_some l]
    rfl

/-- on a stack of values: the first `a` stay, the others become one list -/
theorem wrangleRes_vals (a : Nat) (vs : List Val) (D : List (Option Val)) (h : a ≤ vs.length) :
    wrangleRes a vs.length (vs.reverse.map some ++ D) =
      (.ok (), some (mkList (vs.drop a)) :: ((vs.take a).reverse.map some ++ D)) := by
  have hsplit : vs.reverse.map some ++ D = (vs.drop a).reverse.map some ++ ((vs.take a).reverse.map some ++ D) := by
    rw [← List.append_assoc, ← List.map_append, ← List.reverse_append, List.take_append_drop]
  have hlen : ((vs.drop a).reverse.map some).length = vs.length - a := by simp
  rw [wrangleRes, if_neg (by simp; omega), hsplit, List.take_left' hlen, List.drop_left' hlen, Sim.mapM_id_map_some]
  dsimp only
  rw [List.reverse_reverse]

/-- function `f` entered on the operands `d`: the return address is pushed -/
def St.enter (s : St) (f : Nat) (d : List (Option Val)) : St :=
  { s with data := d, addr := some (s.curfunc, s.pc + 1) :: s.addr, curfunc := f, pc := 0 }

/-- `CallFunction`: the `k` operands are there and none is nil; a variadic callee gets the surplus
packed, any other exactly its number of parameters -/
def callRes (f k : Nat) (s : St) : Res Unit :=
  if s.data.length < k then (.error .err, s)
  else if (s.data.take k).any Option.isNone = true then (.error .panic, s)
  else if (fnOf s f).varargs = true then
    match wrangleRes (fnOf s f).nargs k s.data with
    | (.ok _, d) => (.ok (), s.enter f d)
    | (.error e, d) => (.error e, { s with data := d })
  else if k ≠ (fnOf s f).nargs then (.error .err, s)
  else (.ok (), s.enter f s.data)

theorem run_callFunction (f k : Nat) (s : St) : (callFunction f k).run s = callRes f k s := by
  unfold callFunction callRes
  rw [run_bind, run_get]
  dsimp only
  split
  · rfl
  split
  · rfl
  split
  · rw [run_bind, run_wrangleOptargs, St.withData]
    rcases wrangleRes (fnOf s f).nargs k s.data with ⟨_ | u, d⟩ <;> rfl
  · split <;> rfl

theorem callRes_ok {f k : Nat} {s s' : St} (h : callRes f k s = (.ok (), s')) :
    k ≤ s.data.length ∧ (s.data.take k).any Option.isNone = false ∧ ∃ d, s' = s.enter f d ∧
      if (fnOf s f).varargs = true then wrangleRes (fnOf s f).nargs k s.data = (.ok (), d)
      else k = (fnOf s f).nargs ∧ d = s.data := by
  unfold callRes at h
  split at h
  · cases h
  split at h
  · cases h
  rename_i h1 h2
  refine ⟨Nat.le_of_not_lt h1, Bool.eq_false_iff.mpr h2, ?_⟩
  split at h
  · rename_i hv
    split at h <;> cases h
    exact ⟨_, rfl, by rw [if_pos hv]; assumption⟩
  · rename_i hv
    split at h <;> cases h
    exact ⟨_, rfl, by rw [if_neg hv]; exact ⟨Decidable.of_not_not ‹_›, rfl⟩⟩
/-- `CallFunction` on a stack of values -/
theorem callRes_vals (f : Nat) (vs : List Val) (D : List (Option Val)) (s : St) (hd : s.data = vs.reverse.map some ++ D) :
    callRes f vs.length s =
      if (fnOf s f).varargs = true then
        if (fnOf s f).nargs ≤ vs.length then
          (.ok (), s.enter f (some (mkList (vs.drop (fnOf s f).nargs)) :: ((vs.take (fnOf s f).nargs).reverse.map some ++ D)))
        else (.error .err, s)
      else if vs.length = (fnOf s f).nargs then (.ok (), s.enter f s.data) else (.error .err, s) := by
  have hnone : ¬ (s.data.take vs.length).any Option.isNone = true := by
    rw [hd, List.take_left' (by simp)]; simp
  rw [callRes, if_neg (by rw [hd]; simp), if_neg hnone]
  by_cases hv : (fnOf s f).varargs = true
  · rw [if_pos hv, if_pos hv]
    by_cases hn : (fnOf s f).nargs ≤ vs.length
    · rw [if_pos hn, show wrangleRes _ vs.length s.data = _ from hd ▸ wrangleRes_vals _ vs D hn]
    · rw [if_neg hn, wrangleRes, if_pos (.inl (Nat.lt_of_not_le hn))]
  · rw [if_neg hv, if_neg hv]
    by_cases hn : vs.length = (fnOf s f).nargs
    · rw [if_pos hn, if_neg (fun h => h hn)]
    · rw [if_neg hn, if_pos hn]

/-- `PopUntilStackmark` / `ClearStackmark` on the data stack: down to the first mark of loop `l`,
which stays when `keep`; a nil cell on the way is a host panic, no mark an error -/
def cutMark (l : Nat) (keep : Bool) : List (Option Val) → DRes
  | [] => (.error .err, [])
  | none :: rest => (.error .panic, none :: rest)
  | some (.mark l') :: rest =>
    if l' = l then (.ok (), if keep then some (.mark l') :: rest else rest) else cutMark l keep rest
  | some _ :: rest => cutMark l keep rest

/-- the fuel of `popToMark` only matters when it runs out: with more fuel than cells, or whenever it
succeeds, it is `cutMark` (`exec` gives it one more than there are cells) -/
theorem run_popToMark (l : Nat) (keep : Bool) : ∀ (fuel : Nat) (s : St),
    s.data.length < fuel ∨ ((popToMark l keep fuel).run s).1 = .ok () →
    (popToMark l keep fuel).run s = s.withData (cutMark l keep s.data)
  | 0, _, h => by rcases h with h | h <;> cases h
  | fuel + 1, s, h => by
    rw [popToMark, run_bind, run_popData] at h ⊢
    rcases hd : s.data with _ | ⟨_ | v, rest⟩
    · simp only [cutMark, St.withData, ← hd]
    · simp only [cutMark, St.withData, ← hd]
    · rw [hd] at h
      have ih := run_popToMark l keep fuel { s with data := rest }
      cases v <;> simp only [cutMark] <;> try exact ih (h.imp_left Nat.lt_of_succ_lt_succ)
      dsimp only at h ⊢
      split
      · cases keep <;> rfl
      · rename_i hne
        rw [if_neg hne] at h
        exact ih (h.imp_left Nat.lt_of_succ_lt_succ)

/-- values, none of them the loop's mark, above the mark: they go -/
theorem cutMark_of (l : Nat) (keep : Bool) (D : List (Option Val)) : ∀ G : List (Option Val),
    (∀ x ∈ G, ∃ v, x = some v ∧ v ≠ .mark l) →
    cutMark l keep (G ++ some (.mark l) :: D) = (.ok (), if keep then some (.mark l) :: D else D)
  | [], _ => by rw [List.nil_append, cutMark, if_pos rfl]
  | x :: G, h => by
    obtain ⟨v, rfl, hv⟩ := h x List.mem_cons_self
    have ih := cutMark_of l keep D G fun y hy => h y (List.mem_cons_of_mem _ hy)
    cases v <;> simp only [List.cons_append, cutMark] <;> try exact ih
    rw [if_neg fun e => hv (congrArg Val.mark e)]
    exact ih

theorem cutMark_ok (l : Nat) (keep : Bool) : ∀ {d d' : List (Option Val)}, cutMark l keep d = (.ok (), d') →
    ∃ above below, d = above ++ some (.mark l) :: below ∧ some (.mark l) ∉ above ∧
      d' = if keep then some (.mark l) :: below else below
  | [], _, h => by cases h
  | none :: _, _, h => by cases h
  | some v :: rest, d', h => by
    have below : v ≠ .mark l → cutMark l keep rest = (.ok (), d') → ∃ above below,
        some v :: rest = above ++ some (.mark l) :: below ∧ some (.mark l) ∉ above ∧
          d' = if keep then some (.mark l) :: below else below := fun hv hr =>
      let ⟨above, below, h1, h2, h3⟩ := cutMark_ok l keep hr
      ⟨some v :: above, below, by rw [h1]; rfl, by simp [h2, Ne.symm hv], h3⟩
    cases v <;> simp only [cutMark] at h <;> try exact below (by nofun) h
    split at h
    · rename_i hl; subst hl; cases h; exact ⟨[], rest, rfl, by simp, rfl⟩
    · rename_i hne; exact below (fun e => hne (Val.mark.inj e)) h

/-- `break` / `continue`: to the offset `off` from the start of loop `l` in the running function,
`k` scopes dropped -/
def exitLoop (l k : Nat) (off : LoopRec → Int) (s : St) : Res Unit :=
  match findLoopStart (fnOf s s.curfunc).code l with
  | none => (.error .err, s)
  | some pos =>
    if k ≤ s.linear.length then (.ok (), { s with linear := s.linear.drop k, pc := (pos : Int) + off (s.loops.getD l {}) })
    else (.error .err, { s with linear := [] })

theorem exitLoop_of {l : Nat} {off : LoopRec → Int} {s : St} {pos : Nat} {extra rest : List (Option Nat)}
    (hfind : findLoopStart (fnOf s s.curfunc).code l = some pos) (hlin : s.linear = extra ++ rest) :
    exitLoop l extra.length off s = (.ok (), { s with linear := rest, pc := (pos : Int) + off (s.loops.getD l {}) }) := by
  rw [exitLoop, hfind]
  dsimp only
  rw [if_pos (by rw [hlin, List.length_append]; exact Nat.le_add_right _ _), hlin, List.drop_left]

theorem exitLoop_ok {l k : Nat} {off : LoopRec → Int} {s s' : St} (h : exitLoop l k off s = (.ok (), s')) :
    ∃ pos, findLoopStart (fnOf s s.curfunc).code l = some pos ∧ k ≤ s.linear.length ∧
      s' = { s with linear := s.linear.drop k, pc := (pos : Int) + off (s.loops.getD l {}) } := by
  unfold exitLoop at h
  split at h
  · cases h
  · split at h <;> cases h
    exact ⟨_, ‹_›, ‹_›, rfl⟩

/-- with its operand `v` popped (`rest` is left) an instruction goes on as `k v` says -/
def popThen (s : St) (k : Val → List (Option Val) → Res Unit) : Res Unit :=
  match s.data with
  | [] => (.error .err, s)
  | none :: _ => (.error .panic, s)
  | some v :: rest => k v rest

theorem run_popData_bind {β} (f : Val → M β) (s : St) :
    (popData >>= f).run s = match s.data with
      | [] => (.error .err, s)
      | none :: _ => (.error .panic, s)
      | some v :: rest => (f v).run { s with data := rest } := by
  rw [run_bind, run_popData]
  rcases s.data with _ | ⟨_ | v, rest⟩ <;> rfl

theorem popThen_ok {s s' : St} {k : Val → List (Option Val) → Res Unit} (h : popThen s k = (.ok (), s')) :
    ∃ v rest, s.data = some v :: rest ∧ k v rest = (.ok (), s') := by
  unfold popThen at h
  split at h
  · cases h
  · cases h
  · exact ⟨_, _, ‹_›, h⟩

/-- The outcome and the state one instruction leaves. Only the clauses of the instructions with
`Contain.simple i = true` mean anything (`exec_simple_eq`); the two call instructions re-enter the machine and get a
placeholder, so a case analysis on `step` starts by discharging them with `simple i = true`. What a failing
instruction leaves differs from clause to clause (operands already popped, the pc already moved): as in `Execute`. -/
def step : Instr → St → Res Unit
  | .push v, s => (.ok (), s.jmp (s.pc + 1) (some v :: s.data))
  | .pop, s =>
    match s.data with
    | [] => (.ok (), s.jmp (s.pc + 1) [])
    | none :: _ => (.error .panic, s)
    | some _ :: rest => (.ok (), s.jmp (s.pc + 1) rest)
  | .dup, s => popThen s fun v _ => (.ok (), s.jmp (s.pc + 1) (some v :: s.data))
  | .envToStack x, s =>
    match lexLookup s x with
    | some (_, v) => (.ok (), s.jmp (s.pc + 1) (some v :: s.data))
    | none => (.error .err, s)
  | .popStackPutEnv x, s => popThen s fun v rest => bindTopRes x v (s.jmp (s.pc + 1) rest)
  | .update x, s => popThen s fun v rest =>
    match lexLookup (s.jmp (s.pc + 1) rest) x with
    | some (id, _) => (.ok (), setVarSt (s.jmp (s.pc + 1) rest) id x v)
    | none => bindTopRes x v (s.jmp (s.pc + 1) rest)
  | .jump off, s => if s.pc + off < 0 ∨ s.pc + off > curSize s then (.error .err, s) else (.ok (), s.jmp (s.pc + off) s.data)
  | .goto loc, s => if (loc : Int) < 0 ∨ (loc : Int) > curSize s then (.error .err, s) else (.ok (), s.jmp loc s.data)
  | .branch dir off, s => popThen s fun v rest =>
    if dir = truthy v then
      if s.pc + off < 0 ∨ s.pc + off > curSize s then (.error .err, s.jmp s.pc rest) else (.ok (), s.jmp (s.pc + off) rest)
    else (.ok (), s.jmp (s.pc + 1) rest)
  | .ret, s =>
    match s.addr with
    | [] => (.error .err, s)
    | none :: _ => (.error .panic, s)
    | some (f, pc) :: rest => (.ok (), { s with addr := rest, curfunc := f, pc := pc })
  | .addScope, s =>
    (.ok (), { s with scopes := s.scopes ++ [({} : Scope)], linear := some s.scopes.length :: s.linear, pc := s.pc + 1 })
  | .addFuncScope t, s =>
    (.ok (), { s with scopes := s.scopes ++ [({ isFunction := true, myFunction := some t } : Scope)],
                      linear := some s.scopes.length :: s.linear, pc := s.pc + 1 })
  | .removeScope, s =>
    match s.linear with
    | [] => (.error .err, { s with pc := s.pc + 1 })
    | _ :: rest => (.ok (), { s with pc := s.pc + 1, linear := rest })
  | .createClosure t, s =>
    (.ok (), { s with fns := s.fns ++ [({ fnOf s t with closing := closingNow s, parent := some s.curfunc } : FnObj)],
                      data := some (.fn s.fns.length) :: s.data, pc := s.pc + 1 })
  | .prepareCall _ nargs, s =>
    if (!(fnOf s s.curfunc).user && (fnOf s s.curfunc).varargs) = true then
      match wrangleRes (fnOf s s.curfunc).nargs nargs s.data with
      | (.ok _, d) => (.ok (), s.jmp (s.pc + 1) d)
      | (.error e, d) => (.error e, s.jmp s.pc d)
    else (.ok (), s.jmp (s.pc + 1) s.data)
  | .tailGuard x skip, s =>
    match lexLookup s x with
    | some (_, .fn f) => (.ok (), s.jmp (if f = s.curfunc then s.pc + 1 else s.pc + skip) s.data)
    | _ => (.ok (), s.jmp (s.pc + skip) s.data)
  | .pushLazy e, s =>
    (.ok (), { s with lazies := s.lazies ++ [({ e, stack := s.linear, curfunc := s.curfunc, value := none } : LazyObj)],
                      data := some (.lazy s.lazies.length) :: s.data, pc := s.pc + 1 })
  | .loopStart _, s => (.ok (), s.jmp (s.pc + 1) s.data)
  | .label, s => (.ok (), s.jmp (s.pc + 1) s.data)
  | .pushMark l, s => (.ok (), s.jmp (s.pc + 1) (some (.mark l) :: s.data))
  | .popUntilMark l, s => ((cutMark l true s.data).1, s.jmp (s.pc + 1) (cutMark l true s.data).2)
  | .clearMark l, s =>
    match cutMark l false s.data with
    | (.ok _, d) => (.ok (), s.jmp (s.pc + 1) d)
    | (.error e, d) => (.error e, s.jmp s.pc d)
  | .brk l k, s => exitLoop l k (·.breakOff) s
  | .cont l k, s => exitLoop l k (·.contOff) s
  | .assign, s => popThen (s.jmp (s.pc + 1) s.data) fun rhs rest1 => popThen (s.jmp (s.pc + 1) rest1) fun lhs rest =>
    match lhs, rhs with
    | .arr a, .arr b =>
      if (s.heap.get a).isEmpty ∧ (s.heap.get b).isEmpty then (.ok (), s.jmp (s.pc + 1) (some rhs :: rest))
      else (.error .err, s.jmp (s.pc + 1) rest)
    | _, _ => (.error .err, s.jmp (s.pc + 1) rest)
  | .callArr _, s => (.error .timeout, s)
  | .callExpr _ _, s => (.error .timeout, s)

/-- the two instructions that bind a name (`PopStackPutEnv`, `UpdateInstr`), when they succeed: the
operand is popped and written into one scope cell -/
theorem step_bind_ok {i : Instr} {x : String} {s s' : St} (hi : i = .popStackPutEnv x ∨ i = .update x)
    (h : step i s = (.ok (), s')) :
    ∃ v rest id, s.data = some v :: rest ∧ s' = setVarSt (s.jmp (s.pc + 1) rest) id x v := by
  rcases hi with rfl | rfl <;> rw [step] at h <;> obtain ⟨v, rest, hd, h⟩ := popThen_ok h
  · obtain ⟨id, rfl⟩ := bindTopRes_ok h
    exact ⟨v, rest, id, hd, rfl⟩
  · split at h
    · cases h; exact ⟨v, rest, _, hd, rfl⟩
    · obtain ⟨id, rfl⟩ := bindTopRes_ok h
      exact ⟨v, rest, id, hd, rfl⟩


theorem run_exitLoop (l k : Nat) (off : LoopRec → Int) (s : St) :
    (do let s ← get
        match findLoopStart (fnOf s s.curfunc).code l with
        | none => err
        | some pos =>
          popScopes k
          modify (fun s => { s with pc := (pos : Int) + off (s.loops.getD l {}) }) : M Unit).run s = exitLoop l k off s := by
  rw [run_bind, run_get, exitLoop]
  dsimp only
  rcases findLoopStart (fnOf s s.curfunc).code l with _ | pos
  · rfl
  · dsimp only
    rw [run_bind, run_popScopes]
    by_cases hk : k ≤ s.linear.length
    · rw [if_pos hk, if_pos hk]; rfl
    · rw [if_neg hk, if_neg hk]

theorem exec_simple_eq (n : Nat) (i : Instr) (s : St) (h : simple i = true) : (exec (n + 1) i).run s = step i s := by
  cases i with
  | callArr k => cases h
  | callExpr c a => cases h
  | push v => exact exec_push n v s
  | pop => rw [exec_pop, step]; rcases s.data with _ | ⟨_ | v, rest⟩ <;> rfl
  | dup => rw [exec_dup, step, popThen]; rcases s.data with _ | ⟨_ | v, rest⟩ <;> rfl
  | envToStack x => exact exec_envToStack n x s
  | popStackPutEnv x =>
    rw [exec, run_popData_bind, step, popThen]
    rcases s.data with _ | ⟨_ | v, rest⟩ <;> try rfl
    exact run_bindTop x v _
  | update x =>
    rw [exec, run_popData_bind, step, popThen]
    rcases s.data with _ | ⟨_ | v, rest⟩ <;> try rfl
    simp only [run_bind, run_incPc, run_get]
    show (match lexLookup (s.jmp (s.pc + 1) rest) x with
      | some (id, _) => (setInScope id x v : M Unit)
      | none => bindTop x v).run (s.jmp (s.pc + 1) rest) = _
    rcases lexLookup (s.jmp (s.pc + 1) rest) x with _ | ⟨id, w⟩
    · exact run_bindTop x v _
    · rfl
  | jump off => exact exec_jump n off s
  | goto loc => exact exec_goto n loc s
  | branch dir off =>
    rw [exec_branch, step, popThen]
    rcases s.data with _ | ⟨_ | v, rest⟩ <;> rfl
  | ret => exact exec_ret n s
  | addScope => exact exec_addScope n s
  | addFuncScope t => rw [exec]; rfl
  | removeScope => exact exec_removeScope n s
  | createClosure t => rw [exec]; rfl
  | prepareCall x k =>
    rw [exec, run_bind, run_get, step]
    dsimp only
    split
    · rw [run_bind, run_wrangleOptargs, St.withData]
      rcases wrangleRes (fnOf s s.curfunc).nargs k s.data with ⟨_ | u, d⟩ <;> rfl
    · rfl
  | tailGuard x skip =>
    rw [exec, run_bind, run_get, step]
    dsimp only
    split
    · rename_i id f hl
      rw [hl]
      dsimp only
      split <;> rfl
    · rename_i hne
      split
      · rename_i id f hl; exact absurd hl (hne id f)
      · rfl
  | pushLazy e => rw [exec]; rfl
  | loopStart l => exact exec_loopStart n l s
  | label => exact exec_label n s
  | pushMark l => exact exec_pushMark n l s
  | popUntilMark l =>
    rw [exec, run_bind, run_incPc]
    dsimp only
    rw [run_bind, run_get]
    dsimp only
    exact run_popToMark l true _ { s with pc := s.pc + 1 } (.inl (Nat.lt_succ_self _))
  | clearMark l =>
    rw [exec, run_bind, run_get]
    dsimp only
    rw [run_bind, run_popToMark l false _ _ (.inl (Nat.lt_succ_self _)), step, St.withData]
    rcases cutMark l false s.data with ⟨_ | u, d⟩ <;> rfl
  | brk l k => rw [exec]; exact run_exitLoop l k (·.breakOff) s
  | cont l k => rw [exec]; exact run_exitLoop l k (·.contOff) s
  | assign =>
    rw [exec, run_bind, run_incPc]
    dsimp only
    rw [run_popData_bind, step]
    simp only [popThen, St.jmp_data]
    rcases s.data with _ | ⟨_ | r, rest1⟩ <;> try rfl
    dsimp only
    rw [run_popData_bind]
    rcases rest1 with _ | ⟨_ | l, rest⟩ <;> try rfl
    dsimp only
    rw [run_bind, run_get]
    cases l <;> cases r <;> try rfl
    dsimp only
    split <;> rfl

end ZygoVerif.VM
