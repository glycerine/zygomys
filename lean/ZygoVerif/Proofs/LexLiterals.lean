/-
String literals as the printer writes them are read as one token holding exactly the runes of the
value. Inside a literal the lexer looks at nothing but the mode and the buffer (`LitAt`); the escape lemmas of
Proofs/LexString hold from every such state, whatever its look-back ring, and enter `Reads` through `reads_of_inLit`.
-/
import ZygoVerif.Proofs.LexString
import ZygoVerif.Proofs.LexNormal
namespace ZygoVerif.Lexer
open ZygoVerif.PrintData

/-- inside a literal: the mode and the runes collected so far — `InLit` (Proofs/LexString) without the queue, which
`Reads` frames: `InLit s mode b T` is `LitAt mode b s ∧ s.tokens = T` -/
def LitAt (mode : Mode) (b : List Char) (s : LexCore) : Prop := s.state = mode ∧ s.buffer = b

theorem reads_of_inLit {mode mode' : Mode} {b b' : List Char} {l : Char} {w : List Char}
    (h : ∀ s T, InLit s mode b T → ∃ s', feed (.ok s) w = .ok s' ∧ InLit s' mode' b' T) :
    Reads (LitAt mode b) l w [] (LitAt mode' b') := by
  intro s hs _ _
  obtain ⟨s', hf, hs'⟩ := h s s.tokens ⟨hs.1, hs.2, rfl⟩
  exact ⟨s', hf, ⟨hs'.state, hs'.buffer⟩, by rw [hs'.tokens, List.append_nil]⟩

theorem reads_open_quote (l : Char) : Reads (Norm []) l ['"'] [] (LitAt .strLit []) := by
  apply Reads.step
  intro s hs _
  have hst : (pushRing s '"').state = .normal := hs.1
  have hbb : (pushRing s '"').buffer = [] := hs.2
  exact ⟨{ pushRing s '"' with state := .strLit }, by rw [stepMode_normal _ _ hst]; simp [stepNormal, hbb], ⟨rfl, hs.2⟩,
    (List.append_nil _).symm⟩

theorem reads_close_quote (b : List Char) (l : Char) : Reads (LitAt .strLit b) l ['"'] [⟨.string, b⟩] (Norm []) := by
  apply Reads.step
  intro s hs _
  have hst : (pushRing s '"').state = .strLit := hs.1
  refine ⟨{ dumpAs (pushRing s '"') .string with state := .normal }, by rw [stepMode_strLit _ _ hst]; simp, ⟨rfl, rfl⟩, ?_⟩
  show s.tokens ++ [⟨.string, s.buffer⟩] = _
  rw [hs.2]

/-- the text `strconv.Quote` writes for `cs` is read as the string token `cs` -/
theorem reads_string (cs : List Char) (l : Char) : Reads (Norm []) l (quoteStr cs) [⟨.string, cs⟩] (Norm []) := by
  have := Reads.cons (reads_open_quote l) (Reads.trans
    (reads_of_inLit (l := '"') fun s T => quoteBody_reads_back strMode (Or.inl rfl) cs s [] T) (reads_close_quote cs _))
  simpa [quoteStr, strMode] using this

end ZygoVerif.Lexer
