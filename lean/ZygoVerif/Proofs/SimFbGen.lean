/-
C02, execution half — generator-side facts for `break`/`continue`.

`findLoop` on the compile-time loop stack is `findCtx` on the list of enclosing loops (`GsOk`, `findLoop_ctx`,
`findCtx_ok`): this is what the non-local exits of F2 use (Proofs/SimF2Brk.lean, SimF2BrkFor.lean, through `Fx` and `CtxF`).
The fragment Fb (Fc plus `break`/`continue` under enclosing loops) is stated with its generator facts — it lies in `Cp`
(Proofs/GenTotal.lean), so `compile` succeeds — but no simulation is built on it: F2's exits go through `Fx`.
-/
import ZygoVerif.Proofs.SimFc
import ZygoVerif.Proofs.GenTotal
namespace ZygoVerif.Sim
open ZygoVerif.Core ZygoVerif.VM

theorem compileBegin_ls_Fc : ∀ (es : List Expr), FcList es = true → ∀ isFn c gs r, (compileBegin isFn c es).run gs = .ok r → c.funcname = "" →
    LsRes gs r.2 r.1.1 :=
  fun es _ isFn c gs r h _ => (compileBegin_facts es isFn c gs r h).2.ls

theorem compileSC_ls_Fc : ∀ (es : List Expr), FcList es = true → ∀ isFn c gs r, (compileSC isFn c es).run gs = .ok r → c.funcname = "" →
    gs.loops.length ≤ r.2.loops.length ∧ ∀ x ∈ r.1, LsIn x gs.loops.length r.2.loops.length :=
  fun es _ isFn c gs r h _ => ⟨(compileSC_facts es isFn c gs r h).1.loopsLen, fun x hx => ((compileSC_facts es isFn c gs r h).2 x hx).2⟩

theorem compileNewScope_ls_Fc : ∀ (es : List Expr), FcList es = true → ∀ isFn c oldtail gs r,
    (compileNewScope isFn c oldtail es).run gs = .ok r → c.funcname = "" → LsRes gs r.2 r.1.1 :=
  fun es _ isFn c ot gs r h _ => (compileNewScope_facts es isFn c ot gs r h).2.ls

theorem compileAll_ls_Fc : ∀ (es : List Expr), FcList es = true → ∀ isFn c gs r, (compileAll isFn c es).run gs = .ok r → c.funcname = "" →
    LsRes gs r.2 r.1.1 :=
  fun es _ isFn c gs r h _ => (compileAll_facts es isFn c gs r h).ls

theorem compileArms_ls_Fc : ∀ (arms : List (Expr × Expr)), FcArms arms = true → ∀ isFn c gs r,
    (compileArms isFn c arms).run gs = .ok r → c.funcname = "" →
    gs.loops.length ≤ r.2.loops.length ∧ ∀ p ∈ r.1, LsIn p.1 gs.loops.length r.2.loops.length ∧ LsIn p.2 gs.loops.length r.2.loops.length :=
  fun arms _ isFn c gs r h _ => ⟨(compileArms_facts arms isFn c gs r h).1.loopsLen, (compileArms_facts arms isFn c gs r h).2⟩

/-- one enclosing loop of the code being run -/
structure LCtx where
  id : Nat
  label : Option String
  depth : Nat                      -- `gen.scopes` at the `for` (the stored `scopeDepth`)
  start : Nat                      -- index of its `loopStart` in the current function
  brkPos : Int                     -- where `break` lands (`clearMark`)
  contPos : Int                    -- where `continue` lands (the label before the increment)
  lin : List (Option Nat)          -- the linear stack inside the loop's own scope
  fr : Nat                         -- the reference frame of the loop's scope
  D : List (Option Val)            -- the data stack below the loop's mark

/-- the loop a `break`/`continue` with this label operand means -/
def findCtx (Γ : List LCtx) : Option String → Option LCtx
  | none => Γ.head?
  | some x => Γ.find? (fun γ => γ.label == some x)

/-- the compile-time facts: the generator's loop stack is the list of enclosing loops -/
structure GsOk (Γ : List LCtx) (gs : GS) : Prop where
  stack : gs.loopstack = Γ.map (·.id)
  recs : ∀ γ ∈ Γ, γ.id < gs.loops.length ∧ (gs.loops.getD γ.id {}).label = γ.label
    ∧ (gs.loops.getD γ.id {}).scopeDepth = γ.depth

mutual
def Fb : List (Option String) → Expr → Bool
  | ls, .break_ l => lblOk ls l
  | ls, .continue_ l => lblOk ls l
  | ls, .begin_ es => FbList ls es
  | ls, .cond arms d => FbArms ls arms && Fb ls d
  | ls, .let_ seq bs body =>
    (seq || decide ((bs.map (·.1)).Nodup)) && !body.isEmpty && FcBinds bs && FbList ls body
  | ls, .newScope es => !es.isEmpty && FbList ls es
  | ls, .for_ label init test incr body => Fc init && Fc test && Fc incr && FbList (label :: ls) body
  | _, .int v => Fc (.int v)
  | _, .bool v => Fc (.bool v)
  | _, .str v => Fc (.str v)
  | _, .nilLit => Fc .nilLit
  | _, .sym x => Fc (.sym x)
  | _, .arr es => Fc (.arr es)
  | _, .call f args => Fc (.call f args)
  | _, .def_ x e => Fc (.def_ x e)
  | _, .set_ x e => Fc (.set_ x e)
  | _, .and_ es => Fc (.and_ es)
  | _, .or_ es => Fc (.or_ es)
  | _, .fn _ _ _ => false
  | _, .defn _ _ _ _ => false
  | _, .assign _ _ => false
  | _, .bad _ => false
def FbList : List (Option String) → List Expr → Bool
  | _, [] => true
  | ls, e :: es => Fb ls e && FbList ls es
def FbArms : List (Option String) → List (Expr × Expr) → Bool
  | _, [] => true
  | ls, (p, b) :: r => Fc p && Fb ls b && FbArms ls r
end

mutual
theorem fb_of_fc : ∀ (ls : List (Option String)) (e : Expr), Fc e = true → Fb ls e = true
  | ls, .begin_ es, h => by rw [Fc] at h; rw [Fb]; exact fbList_of_fc ls es h
  | ls, .cond arms d, h => by
    rw [Fc] at h; rw [Fb]; simp only [Bool.and_eq_true] at h ⊢
    exact ⟨fbArms_of_fc ls arms h.1, fb_of_fc ls d h.2⟩
  | ls, .let_ seq bs body, h => by
    rw [Fc] at h; rw [Fb]; simp only [Bool.and_eq_true] at h ⊢
    exact ⟨h.1, fbList_of_fc ls body h.2⟩
  | ls, .newScope es, h => by
    rw [Fc] at h; rw [Fb]; simp only [Bool.and_eq_true] at h ⊢
    exact ⟨h.1, fbList_of_fc ls es h.2⟩
  | ls, .for_ label init test incr body, h => by
    rw [Fc] at h; rw [Fb]; simp only [Bool.and_eq_true] at h ⊢
    exact ⟨h.1, fbList_of_fc _ body h.2⟩
  | ls, .int v, h | ls, .bool v, h | ls, .str v, h | ls, .nilLit, h | ls, .sym x, h | ls, .arr es, h
  | ls, .call f args, h | ls, .def_ x e, h | ls, .set_ x e, h | ls, .and_ es, h | ls, .or_ es, h => by rw [Fb]; exact h
  | ls, .break_ _, h | ls, .continue_ _, h | ls, .fn _ _ _, h | ls, .defn _ _ _ _, h | ls, .assign _ _, h
  | ls, .bad _, h => by simp [Fc] at h
theorem fbList_of_fc : ∀ (ls : List (Option String)) (es : List Expr), FcList es = true → FbList ls es = true
  | _, [], _ => by rw [FbList]
  | ls, e :: es, h => by
    rw [FcList] at h; rw [FbList]; simp only [Bool.and_eq_true] at h ⊢
    exact ⟨fb_of_fc ls e h.1, fbList_of_fc ls es h.2⟩
theorem fbArms_of_fc : ∀ (ls : List (Option String)) (arms : List (Expr × Expr)), FcArms arms = true → FbArms ls arms = true
  | _, [], _ => by rw [FbArms]
  | ls, (p, b) :: r, h => by
    rw [FcArms] at h; rw [FbArms]; simp only [Bool.and_eq_true] at h ⊢
    exact ⟨⟨h.1.1, fb_of_fc ls b h.1.2⟩, fbArms_of_fc ls r h.2⟩
end

theorem findLoop_ctx {Γ : List LCtx} {gs : GS} (h : GsOk Γ gs) (l : Option String) :
    findLoop gs l = (findCtx Γ l).map (·.id) := by
  cases l with
  | none => simp only [findLoop, findCtx, h.stack, List.head?_map]
  | some x =>
    simp only [findLoop, findCtx, h.stack]
    have : ∀ (Δ : List LCtx), (∀ γ ∈ Δ, (gs.loops.getD γ.id {}).label = γ.label) →
        (Δ.map (·.id)).find? (fun id => (gs.loops.getD id {}).label == some x)
          = (Δ.find? (fun γ => γ.label == some x)).map (·.id) := by
      intro Δ
      induction Δ with
      | nil => intro _; rfl
      | cons γ Δ ih =>
        intro hΔ
        simp only [List.map_cons, List.find?_cons, hΔ γ (List.mem_cons_self ..)]
        cases γ.label == some x with
        | true => rfl
        | false => exact ih (fun γ' hγ' => hΔ γ' (List.mem_cons_of_mem _ hγ'))
    exact this Γ (fun γ hγ => (h.recs γ hγ).2.1)

/-- a label operand the fragment admits finds its loop -/
theorem findCtx_ok {Γ : List LCtx} {ls : List (Option String)} (hls : Γ.map (·.label) = ls) {l : Option String}
    (h : lblOk ls l = true) : ∃ γ, findCtx Γ l = some γ ∧ γ ∈ Γ := by
  subst hls
  cases l with
  | none =>
    cases Γ with
    | nil => simp [lblOk] at h
    | cons γ Γ => exact ⟨γ, rfl, List.mem_cons_self ..⟩
  | some x =>
    simp only [lblOk, List.contains_iff_mem, List.mem_map] at h
    obtain ⟨γ0, hγ0, hl⟩ := h
    cases hf : Γ.find? (fun γ => γ.label == some x) with
    | none =>
      have := List.find?_eq_none.mp hf γ0 hγ0
      simp [hl] at this
    | some γ => exact ⟨γ, hf, List.mem_of_find?_eq_some hf⟩

/-- the generator state inside a `for`, seen from the list of enclosing loops -/
theorem GsOk.for_ {Γ : List LCtx} {gs : GS} (h : GsOk Γ gs) (c : Ctx) (label : Option String) (γ₀ : LCtx)
    (hid : γ₀.id = gs.loops.length) (hl : γ₀.label = label) (hd : γ₀.depth = c.scopes) :
    GsOk (γ₀ :: Γ) (forGs gs c label) := by
  refine ⟨by simp [forGs, h.stack, hid], fun γ hγ => ?_⟩
  rcases List.mem_cons.mp hγ with rfl | hγ
  · rw [hid]
    refine ⟨by simp [forGs], ?_, ?_⟩ <;> simp [forGs, hl, hd]
  · obtain ⟨h1, h2, h3⟩ := h.recs γ hγ
    refine ⟨by simp [forGs]; omega, ?_, ?_⟩
    · simpa [forGs, List.getD_eq_getElem?_getD, List.getElem?_append_left h1] using h2
    · simpa [forGs, List.getD_eq_getElem?_getD, List.getElem?_append_left h1] using h3

/-- what the four totality statements give -/
abbrev TotRes (gs gs' : GS) (code : List Instr) : Prop := GExt gs gs' ∧ LsRes gs gs' code

/-- the generator's side of `GsOk` -/
theorem GsOk.lsOk {Γ : List LCtx} {gs : GS} (h : GsOk Γ gs) : LsOk (Γ.map (·.label)) gs := fun l hl => by
  obtain ⟨γ, hγ, rfl⟩ := List.mem_map.mp hl
  exact ⟨γ.id, h.stack ▸ List.mem_map_of_mem hγ, (h.recs γ hγ).1, (h.recs γ hγ).2.1⟩

/- Fb adds `break`/`continue` with a label of `ls` to Fc. -/
mutual
theorem cp_of_fb : ∀ (ls : List (Option String)) (e : Expr), Fb ls e = true → Cp true false ls e = true
  | ls, .break_ l, h | ls, .continue_ l, h => by unfold Fb at h; unfold Cp; exact h
  | ls, .begin_ es, h => by unfold Fb at h; unfold Cp; exact cpList_of_fb ls es h
  | ls, .cond arms d, h => by
    unfold Fb at h; unfold Cp; simp only [Bool.and_eq_true] at h ⊢
    exact ⟨cpArms_of_fb ls arms h.1, cp_of_fb ls d h.2⟩
  | ls, .let_ seq bs body, h => by
    unfold Fb at h; unfold Cp; simp only [Bool.and_eq_true] at h ⊢
    exact ⟨cpBinds_of_fc bs ls h.1.2, cpList_of_fb ls body h.2⟩
  | ls, .newScope es, h => by unfold Fb at h; unfold Cp; exact cpList_of_fb ls es (Bool.and_eq_true_iff.mp h).2
  | ls, .for_ l i t s b, h => by
    unfold Fb at h; unfold Cp; simp only [Bool.and_eq_true] at h ⊢
    exact ⟨⟨⟨⟨trivial, cp_of_fc i _ h.1.1.1⟩, cp_of_fc t _ h.1.1.2⟩, cp_of_fc s _ h.1.2⟩, cpList_of_fb _ b h.2⟩
  | ls, .int v, h | ls, .bool v, h | ls, .str v, h | ls, .nilLit, h | ls, .sym x, h | ls, .arr es, h
  | ls, .call f args, h | ls, .def_ x e, h | ls, .set_ x e, h | ls, .and_ es, h | ls, .or_ es, h => by
    unfold Fb at h; exact cp_of_fc _ ls h
  | ls, .fn _ _ _, h | ls, .defn _ _ _ _, h | ls, .assign _ _, h | ls, .bad _, h => by simp [Fb] at h
theorem cpList_of_fb : ∀ (ls : List (Option String)) (es : List Expr), FbList ls es = true → CpList true false ls es = true
  | _, [], _ => by unfold CpList; rfl
  | ls, e :: es, h => by
    unfold FbList at h; unfold CpList; simp only [Bool.and_eq_true] at h ⊢
    exact ⟨cp_of_fb ls e h.1, cpList_of_fb ls es h.2⟩
theorem cpArms_of_fb : ∀ (ls : List (Option String)) (arms : List (Expr × Expr)), FbArms ls arms = true → CpArms true false ls arms = true
  | _, [], _ => by unfold CpArms; rfl
  | ls, (p, b) :: r, h => by
    unfold FbArms at h; unfold CpArms; simp only [Bool.and_eq_true] at h ⊢
    exact ⟨⟨cp_of_fc p ls h.1.1, cp_of_fb ls b h.1.2⟩, cpArms_of_fb ls r h.2⟩
end

theorem compile_total_Fb : ∀ (ls : List (Option String)) (e : Expr), Fb ls e = true → ∀ isFn c gs Γ, c.funcname = "" →
    GsOk Γ gs → Γ.map (·.label) = ls →
    ∃ code t gs', (compile isFn c e).run gs = .ok ((code, t), gs') ∧ code ≠ [] ∧ TotRes gs gs' code := by
  intro ls e he isFn c gs Γ _ hg hls
  obtain ⟨r, h, hf⟩ := compile_ok_Cp (isFn := isFn) e (cp_of_fb ls e he) c (hls ▸ hg.lsOk)
  have hk := compile_facts e isFn c gs r h
  exact ⟨_, _, _, h, hk.1, .of_keep hk.2.1 (hf.1 rfl), hk.2.ls⟩

theorem compileBegin_total_Fb : ∀ (ls : List (Option String)) (es : List Expr), es ≠ [] → FbList ls es = true →
    ∀ isFn c gs Γ, c.funcname = "" → GsOk Γ gs → Γ.map (·.label) = ls →
    ∃ code t gs', (compileBegin isFn c es).run gs = .ok ((code, t), gs') ∧ code ≠ [] ∧ TotRes gs gs' code := by
  intro ls es hne he isFn c gs Γ _ hg hls
  obtain ⟨r, h, hf⟩ := compileBegin_ok_Cp (isFn := isFn) es (cpList_of_fb ls es he) c (hls ▸ hg.lsOk)
  have hk := compileBegin_facts es isFn c gs r h
  exact ⟨_, _, _, h, hk.1 hne, .of_keep hk.2.1 (hf.1 rfl), hk.2.ls⟩

theorem compileBeginAny_total_Fb : ∀ (ls : List (Option String)) (es : List Expr), FbList ls es = true →
    ∀ isFn c gs Γ, c.funcname = "" → GsOk Γ gs → Γ.map (·.label) = ls →
    ∃ code t gs', (compileBegin isFn c es).run gs = .ok ((code, t), gs') ∧ TotRes gs gs' code := by
  intro ls es he isFn c gs Γ _ hg hls
  obtain ⟨r, h, hf⟩ := compileBegin_ok_Cp (isFn := isFn) es (cpList_of_fb ls es he) c (hls ▸ hg.lsOk)
  have hk := compileBegin_facts es isFn c gs r h
  exact ⟨_, _, _, h, .of_keep hk.2.1 (hf.1 rfl), hk.2.ls⟩

theorem compileNewScope_total_Fb : ∀ (ls : List (Option String)) (es : List Expr), es ≠ [] → FbList ls es = true →
    ∀ isFn c oldtail gs Γ, c.funcname = "" → GsOk Γ gs → Γ.map (·.label) = ls →
    ∃ code t gs', (compileNewScope isFn c oldtail es).run gs = .ok ((code, t), gs') ∧ code ≠ [] ∧ TotRes gs gs' code := by
  intro ls es hne he isFn c ot gs Γ _ hg hls
  obtain ⟨r, h, hf⟩ := compileNewScope_ok_Cp (isFn := isFn) es (cpList_of_fb ls es he) c ot (hls ▸ hg.lsOk)
  have hk := compileNewScope_facts es isFn c ot gs r h
  exact ⟨_, _, _, h, hk.1 hne, .of_keep hk.2.1 (hf.1 rfl), hk.2.ls⟩

theorem compileArms_total_Fb : ∀ (ls : List (Option String)) (arms : List (Expr × Expr)), FbArms ls arms = true →
    ∀ isFn c gs Γ, c.funcname = "" → GsOk Γ gs → Γ.map (·.label) = ls →
    ∃ as gs', (compileArms isFn c arms).run gs = .ok (as, gs') ∧ GExt gs gs' ∧ gs.loops.length ≤ gs'.loops.length
      ∧ ∀ p ∈ as, LsIn p.1 gs.loops.length gs'.loops.length ∧ LsIn p.2 gs.loops.length gs'.loops.length := by
  intro ls arms he isFn c gs Γ _ hg hls
  obtain ⟨r, h, hf⟩ := compileArms_ok_Cp (isFn := isFn) arms (cpArms_of_fb ls arms he) c (hls ▸ hg.lsOk)
  have hk := compileArms_facts arms isFn c gs r h
  exact ⟨_, _, h, .of_keep hk.1 (hf.1 rfl), hk.1.loopsLen, hk.2⟩

end ZygoVerif.Sim
