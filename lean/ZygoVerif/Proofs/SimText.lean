/-
C02, execution half — top level: a whole program text, loaded and run by the VM model
(`VM.runText`: LoadExpressions + Run) and evaluated by the reference evaluator (`Ref.runProgram`).

The text layer of every fragment: the state `LoadExpressions` hands to `Run` (`loadedF`, `seg_loadedF`),
what `Run` returns over a segment at the end of the current function (`run_of_reach`), and
`runText_of_run`, which turns that into what `runText` reports.
-/
import ZygoVerif.Proofs.SimControl
import ZygoVerif.Proofs.VMRest
import ZygoVerif.Proofs.GenFacts
import ZygoVerif.Spec.RefEval
namespace ZygoVerif.Sim
open ZygoVerif.Core ZygoVerif.VM

/-- what `captureControlState` records in state `s` -/
def capOf (s : St) : CtlState :=
  { curfunc := s.curfunc, pc := s.pc, susp := s.suspended.length, addrSize := s.addr.length,
    linearSize := s.linear.length, dataSize := s.data.length }

theorem run_capture (s : St) : capture.run s = (.ok (capOf s), s) := rfl

/-- `Run` started on a segment at the end of the current function, when the loop arrives (within `K` instructions,
fuel floor `m`) behind it in the same function with one more value: `Run` pops that value and returns it; the data
stack is as before. -/
theorem run_of_reach {s s' : St} {pre code : List Instr} {v : Val} {K m : Nat} (h : Seg s pre code [])
    (hr : Reach K m s s') (hf : fnOf s' s'.curfunc = fnOf s s.curfunc) (hp : s'.pc = s.pc + (code.length : Int))
    (hd : s'.data = some v :: s.data) (fuel : Nat) (hfu : K + m + 2 ≤ fuel) :
    (run fuel).run s = (.ok v, s'.jmp s'.pc s.data) := by
  obtain ⟨f, rfl⟩ : ∃ f, fuel = f + 1 := ⟨fuel - 1, by omega⟩
  have hsz : curSize s' = curSize s := by unfold VM.curSize; rw [hf]
  have hfin : (runLoop f (capOf s)).run s = (.ok (), s') :=
    hr.finish (Or.inr (by rw [hsz, h.total, hp, h.pc]; simp only [List.length_nil]; omega)) f (by omega) _
  rw [run]
  simp only [run_bind, run_capture, hfin, run_get, hd, List.isEmpty_cons, Bool.false_eq_true, if_false, run_popData]
  rfl

theorem run_of_pushes {s : St} {pre code : List Instr} {v : Val} (h : Seg s pre code [])
    (hp : Pushes code v) (fuel : Nat) (hf : code.length + 3 ≤ fuel) :
    (run fuel).run s = (.ok v, s.jmp (s.pc + code.length) s.data) :=
  run_of_reach h (hp s pre [] h) rfl rfl rfl fuel hf

/-- `runText`, first step: the trace of the previous text is dropped -/
def clearTrace (s : St) : St := { s with trace := [] }

/-- `LoadExpressions`: the new code (after a `pop` when the previous text did not run to its
end) is appended to `__main`, which becomes the current function; `s0` is the state before
the generator ran, `s1` the state after. `loadState (clearTrace s) s1 code` is `VM.loaded s s1 code` by `rfl`. The
proofs read `runText` through `VM.runText_eq`, hence `VM.loaded`; `Rel.loaded`, `AtRest.loaded` and `afterText` are
stated with `loadState`, for a generator that left the tables alone (`s1 = clearTrace s`). -/
def loadState (s0 s1 : St) (code : List Instr) : St :=
  { s1 with fns := s1.fns.set mainFn { fnOf s1 mainFn with
              code := (fnOf s1 mainFn).code ++ (if s0.pc ≥ curSize s0 then [] else [.pop]) ++ code },
            curfunc := mainFn }

/-- `VM.runText_eq` with `loadState` for `VM.loaded` and the report (`VM.finishRun`) written out. -/
theorem runText_eq (fuel : Nat) (es : List Expr) (s : St) : runText fuel es s =
    (let load := (runGen (compileBegin (isFnScope (clearTrace s)) {} es)).run (clearTrace s)
     match load.1 with
     | .error _ => (.done "cerr" "-" [] (depths load.2), load.2, true)
     | .ok (code, _) =>
       let r := (run fuel).run (loadState (clearTrace s) load.2 code)
       match r.1 with
       | .ok v => (.done "ok" (pr r.2.heap v) r.2.trace (depths r.2), r.2, true)
       | .error .err => (.done "err" "-" r.2.trace (depths r.2), r.2, true)
       | .error .panic => (.done "panic" "-" r.2.trace "-", r.2, false)
       | .error .timeout => (.done "timeout" "-" r.2.trace "-", r.2, false)) := rfl

/-- A resting state at top level: `__main` is the current function, it exists, is compiled
code, and the program counter stands at its end (as after `NewZlisp` and after every text
that ran to completion). This is what loading needs to know of the function table. It is not `VM.AtRest`
(Proofs/VMRest.lean), which says that the stacks are empty and `curSize s ≤ s.pc`: neither implies the other, and
the statements about texts of the C02 fragments mean this one. -/
structure AtRest (s : St) : Prop where
  cur : s.curfunc = mainFn
  main : mainFn < s.fns.length
  user : (fnOf s mainFn).user = false
  pc : s.pc = ((fnOf s mainFn).code.length : Int)

/-- the state `runText` leaves after a successful run of `code` appended to `__main` -/
def afterText (s : St) (code : List Instr) : St :=
  (loadState (clearTrace s) (clearTrace s) code).jmp (s.pc + code.length) s.data

theorem run_runGen_gen {α} (g : G α) (s : St) (a : α) (gs' : GS)
    (h : g.run { fns := s.fns, loops := s.loops, loopstack := s.loopstack, live := s.linear } = .ok (a, gs')) :
    (runGen g).run s = (.ok a, withGen s gs') := by
  rw [VM.run_runGen, show g.run s.gs = _ from h]

theorem run_runGen_ok {α} (g : G α) (s : St) (a : α)
    (h : g.run { fns := s.fns, loops := s.loops, loopstack := s.loopstack, live := s.linear }
      = .ok (a, { fns := s.fns, loops := s.loops, loopstack := s.loopstack, live := s.linear })) :
    (runGen g).run s = (.ok a, s) :=
  run_runGen_gen g s a _ h

/-- the state `runText` hands to `Run` when the generator left the tables `gs'`; with the tables of `s` itself it is
`loadState (clearTrace s) (clearTrace s) code` (by `rfl`) -/
def loadedF (s : St) (gs' : GS) (code : List Instr) : St := VM.loaded s (withGen (clearTrace s) gs') code

theorem fnOf_loadedF (s : St) (gs' : GS) (code : List Instr) (id : Nat) :
    fnOf (loadedF s gs' code) id
      = ((List.set gs'.fns mainFn { gs'.fns.getD mainFn {} with
          code := (gs'.fns.getD mainFn {}).code ++ (if (clearTrace s).pc ≥ curSize (clearTrace s) then [] else [.pop]) ++ code })[id]?).getD {} := by
  show (List.set gs'.fns mainFn _).getD id {} = _
  rw [List.getD_eq_getElem?_getD]; rfl

/-- from a resting state `LoadExpressions` appends the code to `__main` as it was, whatever the generator added to
its tables (`KeepFns`: every successful compilation, `compileBegin_facts`) -/
theorem fnOf_loadedF_main {s : St} (hs : AtRest s) {gs' : GS} (code : List Instr)
    (hk : KeepFns { fns := s.fns, loops := s.loops, loopstack := s.loopstack, live := s.linear } gs') :
    fnOf (loadedF s gs' code) mainFn = { fnOf s mainFn with code := (fnOf s mainFn).code ++ code } := by
  have hsz : curSize (clearTrace s) = ((fnOf s mainFn).code.length : Int) := by
    show (if (fnOf s s.curfunc).user then (0 : Int) else ((fnOf s s.curfunc).code.length : Int)) = _
    rw [hs.cur, hs.user]; rfl
  have hpre : (if (clearTrace s).pc ≥ curSize (clearTrace s) then ([] : List Instr) else [.pop]) = [] :=
    if_pos (by rw [hsz]; show s.pc ≥ _; rw [hs.pc]; exact Int.le_refl _)
  rw [fnOf_loadedF, hpre, show gs'.fns.getD mainFn {} = fnOf s mainFn from hk.fns mainFn hs.main]
  simp only [List.getElem?_set_self (Nat.lt_of_lt_of_le hs.main hk.len), Option.getD_some, List.append_nil]

theorem seg_loadedF {s : St} (hs : AtRest s) {gs' : GS} (code : List Instr)
    (hk : KeepFns { fns := s.fns, loops := s.loops, loopstack := s.loopstack, live := s.linear } gs') :
    Seg (loadedF s gs' code) (fnOf s mainFn).code code [] :=
  have hfmain := fnOf_loadedF_main hs code hk
  ⟨by show (fnOf (loadedF s gs' code) mainFn).user = false; rw [hfmain]; exact hs.user,
    by show (fnOf (loadedF s gs' code) mainFn).code = _; rw [hfmain]; simp, hs.pc⟩

theorem AtRest.loaded {s : St} (h : AtRest s) (code : List Instr) :
    Seg (loadState (clearTrace s) (clearTrace s) code) (fnOf s mainFn).code code [] :=
  seg_loadedF h code (KeepFns.refl _)

/-- what `runText` reports for a reference result, with a promise `Q` about the final state -/
def TextOutQ (Q : St → Ref.St → Prop) (out : VM.Outcome × St × Bool) (res : Ref.R Val) : Prop :=
  match res with
  | .ok v rs' => ∃ sf d, out = (.done "ok" (pr rs'.heap v) rs'.trace d, sf, true) ∧ Q sf rs'
  | .err rs' => ∃ sf d, out = (.done "err" "-" rs'.trace d, sf, true)
  | .timeout => True
  | .brk _ _ => False
  | .cont _ _ => False

/-- **A program text, loaded and run.** The generator succeeds on the text; `Run` in the loaded state returns a value
that prints like the reference value, or fails, the traces being the reference's: then `runText` reports what the
reference evaluator yields. Nothing here depends on a fragment or a relation. -/
theorem runText_of_run (Q : St → Ref.St → Prop) (s : St) (p : List Expr) {code : List Instr} {t : Bool} {gs' : GS}
    (hc : (compileBegin (isFnScope s) {} p).run
      { fns := s.fns, loops := s.loops, loopstack := s.loopstack, live := s.linear } = .ok ((code, t), gs'))
    {res : Ref.R Val}
    (h : match res with
      | .ok v rs' => ∃ sf w, (Ev fun fuel => (run fuel).run (loadedF s gs' code) = (.ok w, sf))
          ∧ pr sf.heap w = pr rs'.heap v ∧ sf.trace = rs'.trace ∧ Q sf rs'
      | .err rs' => Ev fun fuel => ∃ sf, (run fuel).run (loadedF s gs' code) = (.error .err, sf) ∧ sf.trace = rs'.trace
      | .timeout => True
      | .brk _ _ => False
      | .cont _ _ => False) :
    Ev fun fuel => TextOutQ Q (runText fuel p s) res := by
  have hg := run_runGen_gen _ (clearTrace s) _ gs' hc
  have e : ∀ fuel, runText fuel p s = finishRun ((run fuel).run (loadedF s gs' code)) := fun fuel => by
    rw [VM.runText_eq, show ({ s with trace := [] } : St) = clearTrace s from rfl, hg]; rfl
  cases res with
  | ok v rs' =>
    obtain ⟨sf, w, hN, hpr, htr, hq⟩ := h
    exact hN.mono fun fuel hrun => ⟨sf, depths sf, by rw [e, hrun, ← hpr, ← htr]; rfl, hq⟩
  | err rs' => exact Ev.mono h fun fuel ⟨sf, hrun, htr⟩ => ⟨sf, depths sf, by rw [e, hrun, ← htr]; rfl⟩
  | timeout => exact .of_forall fun _ => trivial
  | brk l rs' => exact h.elim
  | cont l rs' => exact h.elim

/-- The empty program text: no code is added, `Run` finds the data stack empty and returns nil. (`VM.runText_nil`
is the same step with the report left as `VM.finishRun`, under `curSize s ≤ s.pc` alone.) -/
theorem runText_nil (s : St) (hs : AtRest s) (hd : s.data = []) (fuel : Nat) (hf : 2 ≤ fuel) :
    runText fuel [] s = (.done "ok" "nil" [] (depths s), afterText s [], true) := by
  have hload : (runGen (compileBegin (isFnScope s) {} [])).run (clearTrace s)
      = (.ok ([], false), clearTrace s) := run_runGen_ok _ (clearTrace s) _ (by rw [compileBegin]; rfl)
  have hseg := hs.loaded []
  obtain ⟨f, rfl⟩ : ∃ f, fuel = f + 2 := ⟨fuel - 2, by omega⟩
  have hrun : (run (f + 2)).run (VM.loaded s (clearTrace s) []) = _ :=
    run_at_end (loadState (clearTrace s) (clearTrace s) []) f hd (by rw [hseg.total, hseg.pc]; simp)
  have e : afterText s [] = loadState (clearTrace s) (clearTrace s) [] := by
    have : s.pc + (([] : List Instr).length : Int) = s.pc := by simp
    unfold afterText
    rw [this]
    rfl
  rw [VM.runText_eq, show ({ s with trace := [] } : St) = clearTrace s from rfl, hload, e]
  simp only [hrun, finishRun, pr_nil]
  rfl

theorem refProgram_nil (m : Nat) (rs : Ref.St) :
    Ref.runProgram (m + 1) [] rs = (.ok "nil" [], { rs with trace := [] }) := by
  have h : Ref.evalBegin (m + 1) [] 0 { rs with trace := [] } = .ok .nil { rs with trace := [] } := by
    rw [Ref.evalBegin]; omega
  unfold Ref.runProgram
  simp only [h, pr_nil]

/-- the reference evaluator on a program text that evaluates to `v` without changing the state -/
theorem refProgram_ok (fuel : Nat) (p : List Expr) (rs : Ref.St) (v : Val)
    (h : Ref.evalBegin fuel p 0 { rs with trace := [] } = .ok v { rs with trace := [] }) :
    Ref.runProgram fuel p rs = (.ok (pr rs.heap v) [], { rs with trace := [] }) := by
  unfold Ref.runProgram
  simp only [h]

theorem atRest_initSt : AtRest initSt := ⟨rfl, by decide, rfl, rfl⟩

end ZygoVerif.Sim
