/-
The field table of `fillJsonMap` (`Model/ToGo.lean` `tableOf`/`fieldTable`) and its `EmbedPath`s,
for EVERY embedding depth. The table is the concatenation of one `block` per declaration
(`tableOf_eq_flatMap`), so a fact about tables is a fact about one block plus a fact about
`List.flatMap`; the induction on the depth budget is done once (`fieldTable_ind`).

* `fieldTable_sound`   every entry's path leads — field number by field number, through struct-typed
                       anonymous fields — to a declared field with exactly the entry's key, type and
                       embedded flag (`fieldAt`);
* `fieldTable_paths_nodup`  no two entries have the same path (paths do not "cross-talk": the
                       append-aliasing slip of seed C10-m1 breaks exactly this);
* `resolve_sound`      a key that resolves (json tag, name, capitalised name) resolves to such an entry.
-/
import ZygoVerif.Model.ToGo
namespace ZygoVerif.ToGoPaths
open ZygoVerif.ToGo

/-- the field a path of field numbers leads to (`fld = fld.Field(p.ChildFieldNum)` step by step) -/
def fieldAt (w : World) : List Field → List Nat → Option Field
  | _, [] => none
  | fs, [j] => fs[j]?
  | fs, j :: k :: q =>
    match fs[j]? with
    | some f =>
      match f.ty with
      | .struct s =>
        match w.find s with
        | some d => fieldAt w d.fields (k :: q)
        | none => none
      | _ => none
    | none => none

def keyOf (f : Field) : String := if f.tag != "" then f.tag else f.name

/-- the struct an anonymous struct-typed field embeds -/
def embeddedOf (w : World) (f : Field) : Option SDef :=
  if f.anon then match f.ty with
    | .struct s => w.find s
    | _ => none
  else none

/-- `tableOf`, one declaration unfolded, without pattern matching -/
theorem tableOf_cons (w : World) (sub : List Field → List Nat → List Entry) (f : Field) (rest : List Field)
    (i : Nat) (pre : List Nat) :
    tableOf w sub (f :: rest) i pre =
      ⟨keyOf f, pre ++ [i], f.ty, f.anon⟩ ::
        (((embeddedOf w f).elim [] (fun d => sub d.fields (pre ++ [i]))) ++ tableOf w sub rest (i + 1) pre) := by
  simp only [tableOf, keyOf, embeddedOf]
  cases f.anon <;> simp
  cases f.ty <;> simp
  cases w.find _ <;> simp

/-- what one declaration contributes to the table: the field itself, then — for an embedded
struct — the table of that struct's fields under the field's path -/
def block (w : World) (sub : List Field → List Nat → List Entry) (pre : List Nat) (fi : Field × Nat) : List Entry :=
  ⟨keyOf fi.1, pre ++ [fi.2], fi.1.ty, fi.1.anon⟩ ::
    (embeddedOf w fi.1).elim [] (fun d => sub d.fields (pre ++ [fi.2]))

/-- the table is the blocks of the numbered declarations, one after the other -/
theorem tableOf_eq_flatMap (w : World) (sub : List Field → List Nat → List Entry) :
    ∀ (fs : List Field) (i : Nat) (pre : List Nat), tableOf w sub fs i pre = (fs.zipIdx i).flatMap (block w sub pre) := by
  intro fs
  induction fs with
  | nil => intro i pre; rfl
  | cons f rest ih =>
    intro i pre
    rw [tableOf_cons, ih, List.zipIdx_cons, List.flatMap_cons]
    rfl

/-- Induction on the depth budget, once for all facts about field tables: `Q m` speaks of tables
with `m` levels of embedding; the table with none is empty, and a table with `m + 1` levels is made
of blocks whose inner tables `sub` have `m`. -/
theorem fieldTable_ind (w : World) {Q : Nat → List Field → List Nat → List Entry → Prop}
    (hnil : ∀ fs pre, Q 0 fs pre [])
    (hstep : ∀ m sub, (∀ fs pre, Q m fs pre (sub fs pre)) →
      ∀ fs pre, Q (m + 1) fs pre (fs.zipIdx.flatMap (block w sub pre))) :
    ∀ (n : Nat) (fs : List Field) (pre : List Nat), Q (n + 1) fs pre (fieldTable w n fs 0 pre) := by
  intro n
  induction n with
  | zero => intro fs pre; rw [fieldTable, tableOf_eq_flatMap]; exact hstep 0 _ hnil fs pre
  | succ n ih => intro fs pre; rw [fieldTable, tableOf_eq_flatMap]; exact hstep (n + 1) _ ih fs pre

def Describes (e : Entry) (f : Field) : Prop := e.ty = f.ty ∧ e.anon = f.anon ∧ e.key = keyOf f

/-- every entry of `l` has a path `pre ++ q`, `q` non-empty, leading to the field it describes -/
def SoundUnder (w : World) (all : List Field) (pre : List Nat) (l : List Entry) : Prop :=
  ∀ e ∈ l, ∃ q f, q ≠ [] ∧ e.path = pre ++ q ∧ fieldAt w all q = some f ∧ Describes e f

theorem fieldAt_embedded (w : World) (all : List Field) (i : Nat) (f : Field) (d : SDef)
    (hget : all[i]? = some f) (he : embeddedOf w f = some d) (k : Nat) (q : List Nat) :
    fieldAt w all (i :: k :: q) = fieldAt w d.fields (k :: q) := by
  unfold embeddedOf at he
  split at he
  · split at he
    · rename_i s hty; simp [fieldAt, hget, hty, he]
    · cases he
  · cases he

/-- the entry of declaration `j` itself has path `pre ++ [j]`, those of the struct it embeds
`pre ++ j :: k :: q`, through that struct's own field `k :: q` -/
theorem block_sound (w : World) (sub : List Field → List Nat → List Entry)
    (hsub : ∀ fs' p, SoundUnder w fs' p (sub fs' p)) (fs : List Field) (pre : List Nat) (fi : Field × Nat)
    (hfi : fi ∈ fs.zipIdx) (e : Entry) (he : e ∈ block w sub pre fi) :
    ∃ q f', e.path = pre ++ fi.2 :: q ∧ fieldAt w fs (fi.2 :: q) = some f' ∧ Describes e f' := by
  obtain ⟨f, j⟩ := fi
  have hget : fs[j]? = some f := List.mem_zipIdx_iff_getElem?.1 hfi
  rcases List.mem_cons.1 he with rfl | hin
  · exact ⟨[], f, rfl, by simp [fieldAt, hget], rfl, rfl, rfl⟩
  · cases hemb : embeddedOf w f with
    | none => simp [hemb] at hin
    | some d =>
      simp only [hemb, Option.elim] at hin
      obtain ⟨q, f', hq, hpath, hat, hdesc⟩ := hsub d.fields (pre ++ [j]) e hin
      obtain ⟨k, q', rfl⟩ := List.exists_cons_of_ne_nil hq
      exact ⟨k :: q', f', by simp [hpath], by rw [fieldAt_embedded w fs j f d hget hemb]; exact hat, hdesc⟩

/-- At every depth budget `n`, every entry of the field table of a struct with fields `fs` has a
path that leads to a declared field with the entry's key, type and embedded flag, and no two
entries have the same path (paths do not "cross-talk"). -/
theorem fieldTable_sound_nodup (w : World) : ∀ (n : Nat) (fs : List Field) (pre : List Nat),
    SoundUnder w fs pre (fieldTable w n fs 0 pre) ∧ ((fieldTable w n fs 0 pre).map (·.path)).Nodup := by
  refine fieldTable_ind w (Q := fun _ fs pre l => SoundUnder w fs pre l ∧ (l.map (·.path)).Nodup)
    (fun _ _ => ⟨fun _ h => (nomatch h), List.nodup_nil⟩) ?_
  intro _ sub hsub fs pre
  have hb := block_sound w sub (fun fs' p => (hsub fs' p).1) fs pre
  constructor
  · intro e he
    obtain ⟨fi, hfi, he⟩ := List.mem_flatMap.1 he
    obtain ⟨q, f', hp, hat, hd⟩ := hb fi hfi e he
    exact ⟨fi.2 :: q, f', by simp, hp, hat, hd⟩
  · rw [List.nodup_iff_pairwise_ne, List.pairwise_map, List.pairwise_flatMap]
    constructor
    · -- inside a block: the declaration's own path is a proper prefix of the embedded struct's paths
      rintro ⟨f, j⟩ _
      rw [block, List.pairwise_cons]
      cases embeddedOf w f with
      | none => simp
      | some d =>
        refine ⟨fun e he hp => ?_, List.pairwise_map.1 (List.nodup_iff_pairwise_ne.1 (hsub d.fields (pre ++ [j])).2)⟩
        obtain ⟨q, _, hq, hpath, _⟩ := (hsub d.fields (pre ++ [j])).1 e he
        rw [hpath] at hp
        exact hq (List.self_eq_append_right.1 hp)
    · -- two blocks: their paths differ at the declaration's number
      have hlt : fs.zipIdx.Pairwise (fun a b => a.2 < b.2) :=
        List.pairwise_map.1 (by rw [List.zipIdx_map_snd]; exact List.pairwise_lt_range' ..)
      refine hlt.imp_of_mem fun {a b} ha hb' hab x hx y hy hxy => ?_
      obtain ⟨q1, _, hp1, _⟩ := hb a ha x hx
      obtain ⟨q2, _, hp2, _⟩ := hb b hb' y hy
      rw [hp1, hp2] at hxy
      have := List.append_cancel_left hxy
      simp at this
      omega

theorem fieldTable_sound (w : World) (n : Nat) (fs : List Field) (pre : List Nat) :
    SoundUnder w fs pre (fieldTable w n fs 0 pre) := (fieldTable_sound_nodup w n fs pre).1

theorem fieldTable_paths_nodup (w : World) (n : Nat) (fs : List Field) (pre : List Nat) :
    ((fieldTable w n fs 0 pre).map (·.path)).Nodup := (fieldTable_sound_nodup w n fs pre).2

theorem lookupKey_mem (tbl : List Entry) (k : String) (e : Entry) (h : lookupKey tbl k = some e) :
    e ∈ tbl ∧ e.key = k := by
  simp only [lookupKey] at h
  have hm := List.mem_of_find?_eq_some h
  have hp := List.find?_some h
  exact ⟨by simpa using hm, by simpa using hp⟩

theorem resolve_mem (tbl : List Entry) (b : List Nat) (e : Entry) (h : resolve tbl b = some e) :
    e ∈ tbl ∧ (e.key = bytesToString b ∨ e.key = bytesToString (upperFirst b)) := by
  simp only [resolve] at h
  split at h
  · simp at h
  · split at h
    · rename_i e' he'
      simp only [Option.some.injEq] at h
      subst h
      exact ⟨(lookupKey_mem _ _ _ he').1, Or.inl (lookupKey_mem _ _ _ he').2⟩
    · exact ⟨(lookupKey_mem _ _ _ h).1, Or.inr (lookupKey_mem _ _ _ h).2⟩

/-- `resolve_sound`: whatever key of a record resolves in the field table of a struct — by json tag,
by field name, by capitalised name, at whatever embedding depth — the path recorded for it leads to
a declared field whose json tag (or name) is that key and whose type is the recorded one. -/
theorem resolve_sound (w : World) (n : Nat) (fs : List Field) (b : List Nat) (e : Entry)
    (h : resolve (fieldTable w n fs 0 []) b = some e) :
    ∃ f, e.path ≠ [] ∧ fieldAt w fs e.path = some f ∧ f.ty = e.ty ∧
      (keyOf f = bytesToString b ∨ keyOf f = bytesToString (upperFirst b)) := by
  obtain ⟨hm, hk⟩ := resolve_mem _ _ _ h
  obtain ⟨q, f, hq, hpath, hat, hty, _, hkey⟩ := fieldTable_sound w n fs [] e hm
  simp only [List.nil_append] at hpath
  refine ⟨f, by rw [hpath]; exact hq, by rw [hpath]; exact hat, hty.symm, ?_⟩
  rw [← hkey]; exact hk

end ZygoVerif.ToGoPaths
