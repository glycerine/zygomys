/-
C05 on the executable VM model: contents.

`restore` sets the SIZES whatever happened; the CONTENTS of the restored stacks are those
captured exactly when the state in which the failing instruction stopped still stands on the
stacks of entry (`Extends`): `restore_exact_vm`, `run_error_exact`. Without it the statement
is false — `TruncateToSize` pads with nil cells, and sizes that fit are not enough either
(`vm_extends_counterexample`, `vm_fits_counterexample` in `Props/C05.lean`, on the states
`withMain` below).
-/
import ZygoVerif.Proofs.ContainFrame
namespace ZygoVerif.Contain
open ZygoVerif.Core ZygoVerif.VM ZygoVerif.Sim

/-- `s₁` still stands on the stacks `s` had: nothing below the depths of `s` was touched.
The scope stack is compared on the stack OBJECT that was current in `s` (`linAt`). -/
structure Extends (s s₁ : St) : Prop where
  data : s.data <:+ s₁.data
  linear : s.linear <:+ linAt (captureOf s) s₁
  addr : s.addr <:+ s₁.addr
  susp : s.suspended <:+ s₁.suspended

/-- under `Extends` the restored control state is the captured one,
contents included; everything else is as the failing instruction left it. -/
theorem restore_exact_vm (s s₁ : St) (h : Extends s s₁) :
    restoreSt (captureOf s) s₁ =
      { s₁ with data := s.data, linear := s.linear, addr := s.addr, suspended := s.suspended,
                curfunc := s.curfunc, pc := s.pc } := by
  unfold restoreSt
  rw [suspAt_of_suffix s s₁ h.susp]
  have hd := truncate_of_suffix _ _ h.data
  have hl := truncate_of_suffix _ _ h.linear
  have ha := truncate_of_suffix _ _ h.addr
  show ({ s₁ with addr := truncate s₁.addr s.addr.length, linear := truncate (linAt (captureOf s) s₁) s.linear.length,
                  suspended := s.suspended, data := truncate s₁.data s.data.length, curfunc := s.curfunc, pc := s.pc } : St) = _
  rw [hd, hl, ha]

/-- the frame condition on the three stacks (the part that is NOT unconditional) -/
structure Extends3 (s s₁ : St) : Prop where
  data : s.data <:+ s₁.data
  linear : s.linear <:+ linAt (captureOf s) s₁
  addr : s.addr <:+ s₁.addr

/-- `s₁` is a state in which an instruction stopped with an error, and `Run` entered in `s`
answers that error. -/
def FaultState (fuel : Nat) (s s₁ : St) : Prop :=
  (∃ s₀ i f, (exec f i).run s₀ = (.error .err, s₁)) ∧
  (run fuel).run s = (.error .err, park (restoreSt (captureOf s) s₁))

theorem faultState_exists (fuel : Nat) (s s' : St) (h : (run fuel).run s = (.error .err, s')) :
    ∃ s₁, FaultState fuel s s₁ ∧ s' = park (restoreSt (captureOf s) s₁) := by
  obtain ⟨s0, i, f, s1, hx, rfl⟩ := run_err_shape fuel s s' h
  exact ⟨s1, ⟨⟨s0, i, f, hx⟩, h⟩, rfl⟩

/-- the error exit of `Run`, when the failing instruction stopped in a
state that extends the state of entry: the three stacks, the set-aside scope stacks and the
current function are EQUAL to those of entry, the pc is parked; tables (scopes, functions,
heap, thunks …) are as the failing instruction left them — nothing of them is rolled back. -/
theorem run_error_exact (fuel : Nat) (s s₁ : St) (hf : FaultState fuel s s₁) (hext : Extends s s₁) :
    (run fuel).run s = (.error .err,
      park { s₁ with data := s.data, linear := s.linear, addr := s.addr, suspended := s.suspended,
                     curfunc := s.curfunc, pc := s.pc }) := by
  rw [hf.2, restore_exact_vm s s₁ hext]

def isErr {α} (r : Except Fault α) : Bool := match r with | .error .err => true | _ => false

/-- an interpreter at rest whose main function holds `code`, about to run it -/
def withMain (code : List Instr) (data : List (Option Val)) : St :=
  { initSt with fns := [{ name := "__main", code := code, closing := [some 0] }, { name := "builtin", user := true }],
                data := data }

/-- `Extends` holds at the fault of a well-behaved code: `push 1; ret` (the `ret` fails: no
caller) — and the restored stacks are those of entry. -/
example : isErr ((run 5).run (withMain [.push (.int 1), .ret] [some (.int 9)])).1 = true
    ∧ ((run 5).run (withMain [.push (.int 1), .ret] [some (.int 9)])).2.data = [some (.int 9)]
    ∧ ((run 5).run (withMain [.push (.int 1), .ret] [some (.int 9)])).2.linear = [some 0] := by
  refine ⟨by decide +kernel, by decide +kernel, by decide +kernel⟩

end ZygoVerif.Contain
