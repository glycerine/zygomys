/-
C02, execution half — F2 with `break`/`continue`: the `for` form, the expression step.
-/
import ZygoVerif.Proofs.SimF2Brk
namespace ZygoVerif.Sim
open ZygoVerif.Core ZygoVerif.VM

/-- **A `for` loop whose body may `break`/`continue`** (this loop or an enclosing one). -/
theorem xclaimE_for {n : Nat} (hFE : FClaimE n) (hF : XClaimF n) {ls : List (Option String)} {label : Option String}
    {init test incr : Expr} {body : List Expr} (hinit : Ff true self init = true) (htest : Ff true self test = true)
    (hincr : Ff true self incr = true) (hbody : FxList (label :: ls) self body = true) (isFn : Nat → Bool) (c : Ctx) (gs : GS)
    (r : (List Instr × Bool) × GS)
    (hc : (compile isFn c (.for_ label init test incr body)).run gs = .ok r) (hfn : FnameOk self c)
    (Γ : List LCtx) (hls : Γ.map (·.label) = ls)
    (m : Nat → Nat) (s : St) (rs : Ref.St) (env : Nat) (pre post : List Instr) (hrel : RelF m s rs env)
    (hv : XInv Γ c gs r.2 pre s rs) (hseg : Seg s pre r.1.1 post) :
    SimX r.1.1 Γ m s rs env (Ref.eval (n + 1) (.for_ label init test incr body) env rs) := by
  obtain ⟨rb, g2, hb, ri, g3, hi, rt, g4, ht, rsn, g5, hs, rfl⟩ := compile_for_ok.mp hc
  obtain ⟨hg, hgen, hctx, hlo⟩ := hv
  simp only [forOffs_eq] at hseg hgen hlo ⊢
  have hlf := hgen.loops
  have hfn' : FnameOk self { c with tail := false, scopes := c.scopes + 1 } := hfn
  generalize hγ : forCtx gs.loops.length label c.scopes pre.length
    (pre.length + ri.1.length + rsn.1.length + rt.1.length + rb.1.length + 14) (pre.length + ri.1.length + 6)
    (some s.scopes.length :: s.linear) rs.frames.length s.data = γ₀
  have hγid : γ₀.id = gs.loops.length := by subst hγ; rfl
  have hγlab : γ₀.label = label := by subst hγ; rfl
  have hγdep : γ₀.depth = c.scopes := by subst hγ; rfl
  have hγst : γ₀.start = pre.length := by subst hγ; rfl
  have hγbrk : γ₀.brkPos = ((pre.length + ri.1.length + rsn.1.length + rt.1.length + rb.1.length + 14 : Nat) : Int) := by
    subst hγ; rfl
  have hγcont : γ₀.contPos = ((pre.length + ri.1.length + 6 : Nat) : Int) := by subst hγ; rfl
  have hγlin : γ₀.lin = some s.scopes.length :: s.linear := by subst hγ; rfl
  have hγfr : γ₀.fr = rs.frames.length := by subst hγ; rfl
  have hγD : γ₀.D = s.data := by subst hγ; rfl
  have hg' : GsOk (γ₀ :: Γ) (forGs gs c label) := hg.for_ c label γ₀ hγid hγlab hγdep
  have totb := compileBegin_tot hb
  have toti := (compile_tot hi).2
  have tott := (compile_tot ht).2
  have tots := (compile_tot hs).2
  have lb : gs.loops.length + 1 ≤ g2.loops.length := by have := totb.2.1; rw [forGs_len] at this; exact this
  have li : g2.loops.length ≤ g3.loops.length := toti.2.1
  have lt : g3.loops.length ≤ g4.loops.length := tott.2.1
  have lsn : g4.loops.length ≤ g5.loops.length := tots.2.1
  simp only [forDone_len] at hlo
  have hg0 : GenOk (forGs gs c label) g5 s := ⟨hgen.live, hgen.main, hgen.len, hgen.tmpl,
    hgen.loops.for_body (((totb.1.trans toti.1).trans tott.1).trans tots.1) (KeepFns.refl g5)⟩
  have hgb : GenOk (forGs gs c label) g2 s := hg0.first ((toti.1.trans tott.1).trans tots.1)
  have hgi : GenOk g2 g3 s := (hg0.rest totb.1).first (tott.1.trans tots.1)
  have hgt : GenOk g3 g4 s := (hg0.rest (totb.1.trans toti.1)).first tots.1
  have hgs : GenOk g4 g5 s := hg0.rest ((totb.1.trans toti.1).trans tott.1)
  have hLlt : gs.loops.length < g5.loops.length := by omega
  have hnotin : gs.loops.length ∉ gs.loopstack := by
    rw [hg.stack]
    intro hmem
    obtain ⟨γ, hγm, hid⟩ := List.mem_map.mp hmem
    have := (hg.recs γ hγm).1
    omega
  have hst5 : g5.loopstack.drop 1 = gs.loopstack := by
    rw [((totb.1.trans toti.1).trans (tott.1.trans tots.1)).loopstack]; rfl
  have hrec := hlf.2 gs.loops.length (by rw [forDone_len]; exact hLlt) (by show gs.loops.length ∉ g5.loopstack.drop 1; rw [hst5]; exact hnotin)
  have hself := fun b c => forDone_getD_self g5 gs.loops.length b c hLlt
  have hLs : gs.loops.length < s.loops.length := Nat.lt_of_lt_of_le (by rw [forDone_len]; exact hLlt) hlf.1
  have hcur := hseg.cur
  rw [List.append_assoc, forCode_lay] at hcur
  have hstart : findLoopStart (fnOf s s.curfunc).code gs.loops.length = some pre.length := by
    rw [hseg.code, List.append_assoc, forCode_lay]
    exact findLoopStart_at hlo (Nat.le_refl _) hLlt
  have htake : (pre ++ lFor gs.loops.length ri.1 rsn.1 rt.1 rb.1 post).take
        (pre.length + ri.1.length + 6 + rsn.1.length + 2 + rt.1.length + 3)
      = pre ++ [.loopStart gs.loops.length, .addScope, .pushMark gs.loops.length, .label] ++ ri.1
        ++ [.popUntilMark gs.loops.length, .jump ((rsn.1.length : Int) + 3), .label] ++ rsn.1
        ++ [.popUntilMark gs.loops.length, .label] ++ rt.1 ++ [.branch false ((rb.1.length : Int) + 4), .label] := by
    rw [← forCode_lay, forCode_eq]
    refine (congrArg (List.take _) ?_).trans (List.take_left' (l₂ := rb.1 ++ ([.popUntilMark gs.loops.length,
      .jump (-((rsn.1.length : Int) + rt.1.length + rb.1.length + 6)), .label, .clearMark gs.loops.length, .removeScope,
      .push .nil] ++ post)) ?_)
    · simp only [List.append_assoc, List.cons_append, List.nil_append]
    · simp only [List.length_append, List.length_cons, List.length_nil]; omega
  rw [Ref.eval]
  show SimX _ Γ m s rs env
    (match Ref.eval n init rs.frames.length (Ref.newFrame rs env).2 with
     | .ok _ s' => Ref.loop n label test incr body rs.frames.length s'
     | .brk l s' => if l.isNone ∨ l = label then .ok .nil s' else .brk l s'
     | r => r)
  have hent := fSys.for_enter fBinds fFree hrel hcur (fun s₄ P Q x4 rel4 hseg4 =>
    hFE true self init hinit isFn _ g2 (ri, g3) hi hfn' m s₄ _ _ P Q rel4
      (fun _ => (hgi.mono (s' := s.pushScope) (FnsKeep.of_fns_eq rfl)).frame x4.2.2.toFrame) hseg4)
  cases h1 : Ref.eval n init rs.frames.length (Ref.newFrame rs env).2 with
  | ok vi rs2 =>
    rw [h1] at hent
    obtain ⟨s7, m6, hreach7, hl, hc7, hd7, hfn7, rel7, x7⟩ := hent
    simp only
    have hlin7 : s7.linear = some s.scopes.length :: s.linear := x7.2.2.linear
    have hnl07 : FrameNL s s7 := (FrameNL.pushScope s).trans x7.2.2.toNL
    have hext07 : RExt rs rs2 := RExt.trans ⟨FramesExt.newFrame rs env, fun _ _ hc => hc⟩ x7.2.1
    have hm06 : MExt s m m6 := x7.1
    have hctx7 : CtxF (γ₀ :: Γ) (c.scopes + 1) s7 rs2 := by
      intro γ hmem
      rcases List.mem_cons.mp hmem with rfl | hmem
      · obtain ⟨k, hch, hfc⟩ := rel7.ctx
        refine ⟨by rw [hγid]; exact Nat.lt_of_lt_of_le hLs hnl07.loopsLen, by rw [hfn7, hγid, hγst]; exact hstart, ?_, ?_,
          ⟨[], by rw [hγlin]; exact hlin7, by rw [hγdep]; simp⟩, ?_, ⟨k, ?_, ?_⟩, by rw [hγlin, ← hlin7]; exact rel7.bottom,
          ⟨[], by rw [hγid, hγD]; exact hd7, GoodAbove.nil _⟩⟩
        · rw [hγid, hγst, hγbrk, hnl07.loops _ hLs, hrec, (hself _ _).1]; push_cast; omega
        · rw [hγid, hγst, hγcont, hnl07.loops _ hLs, hrec, (hself _ _).2]; push_cast; omega
        · rw [hγfr, rel7.len]; exact hch.lt
        · rw [hγfr, hγlin, ← hlin7]; exact hch
        · rw [hγlin, ← hlin7]; exact hfc
      · exact hctx.after_nl hfn7 hnl07 hext07 ⟨[some s.scopes.length], hlin7, by simp; omega⟩
          ⟨[some (.mark gs.loops.length)], hd7, fun γ' h' => goodAbove_mark (by have := (hg.recs γ' h').1; omega)⟩ γ hmem
    have hlo7 : LsOut ((pre ++ lFor gs.loops.length ri.1 rsn.1 rt.1 rb.1 post).take
        (pre.length + ri.1.length + 6 + rsn.1.length + 2 + rt.1.length + 3)) (forGs gs c label).loops.length g2.loops.length := by
      rw [htake, forGs_len]
      exact (((((((hlo.mono (Nat.le_succ _) (by omega)).app (lsOut_fHd (Nat.lt_succ_self _))).app
        (toti.2.2.above (Nat.le_refl _))).app (lsOut_fMid _ _ _ _)).app (tots.2.2.above (by omega))).app
        (lsOut_pl _ _ _)).app (tott.2.2.above li)).app (lsOut_fBr _ _ _)
    have hk07 : FnsKeep s s7 := by
      obtain ⟨k0, _, hfc0⟩ := hrel.ctx
      exact FnsKeep.of_nl hnl07 (fns_ne_nil_of_lt hfc0.lt)
    rw [show pre.length + ri.1.length + rsn.1.length + 8 = pre.length + ri.1.length + 6 + rsn.1.length + 2 from by omega] at hc7
    have hloop := hF ls self label test incr body htest hincr hbody isFn _ hfn' _ rb g2 _ rt g4 _ rsn g5 hb ht hs Γ γ₀ hls hγlab
      post _ _ m6 s7 rs2 (by rw [hγid]; exact hl) (by rw [hγid]; exact hc7) (by rw [hγid, hγD]; exact hd7) (by rw [hγlin]; exact hlin7)
      (by rw [hγfr]; exact rel7) ⟨hg', hgb.mono hk07, hctx7, hlo7⟩ (hgt.mono hk07) (hgs.mono hk07)
      (by rw [hγbrk]; congr 1; omega) hγcont
    rw [hγfr, hγid, hγD] at hloop
    cases h2 : Ref.loop n label test incr body rs.frames.length rs2 with
    | ok v rs3 =>
      rw [h2] at hloop
      obtain ⟨s8, m8, G, r8, hc8, hd8, hG8, hfn8, rel8, x8⟩ := hloop
      have hv : v = .nil := ref_loop_nil _ _ _ _ _ _ _ _ _ h2
      subst hv
      exact (fSys.for_exit fBinds fFree hrel hc8 hd8 hG8 (hfn8.trans hfn7) rel8 (x7.trans x8) (hreach7.trans r8)
        (by rw [hseg.pc, forCode_length]; push_cast; omega) : SimF _ m s rs env _).toX
    | err rs3 => rw [h2] at hloop; exact FailsX.of_reach hreach7 hloop
    | timeout => trivial
    | brk l rs3 =>
      rw [h2] at hloop
      exact hloop.imp fun γ ⟨hγ', hj⟩ => ⟨hγ', JumpedB.of_reach hreach7 hfn7 hm06 hext07 hnl07
        (JumpedB.rebase (X₀ := [some (.mark gs.loops.length)]) hj
          (fun γ' h' => goodAbove_mark (by have := (hg.recs γ' h').1; omega)))⟩
    | cont l rs3 =>
      rw [h2] at hloop
      exact hloop.imp fun γ ⟨hγ', hj⟩ => ⟨hγ', JumpedB.of_reach hreach7 hfn7 hm06 hext07 hnl07
        (JumpedB.rebase (X₀ := [some (.mark gs.loops.length)]) hj
          (fun γ' h' => goodAbove_mark (by have := (hg.recs γ' h').1; omega)))⟩
  | err rs2 => rw [h1] at hent; exact hent
  | timeout => trivial
  | brk l rs2 => rw [h1] at hent; exact hent.elim
  | cont l rs2 => rw [h1] at hent; exact hent.elim

theorem xclaimE_succ {n : Nat} (hFE1 : FClaimE (n + 1)) (hFE : FClaimE n) (hL : FClaimL n) (hV : FClaimV n)
    (_hE : XClaimE n) (hB : XClaimB n) (hC : XClaimC n) (hF : XClaimF n) : XClaimE (n + 1) := by
  intro ls self Γ hls e he isFn c gs r hc hfn m s rs env pre post hrel hi hseg
  have hff : Ff true self e = true → SimX r.1.1 Γ m s rs env (Ref.eval (n + 1) e env rs) := fun h =>
    (hFE1 true self e h isFn c gs r hc hfn m s rs env pre post hrel (fun _ => hi.gen) hseg).toX
  -- the bindings of `let`/`letseq` are plain F2
  have hst := fun hf => hclaimE_struct (xBinds Γ) (hB ls self Γ hls) (hC ls self Γ hls)
    (fun seq bs hseq hbs isFn c gs r ha hfn m s rs env pre post hrel hi hseg =>
      hclaimBs fBinds (hL true self) (hV true self) seq bs hseq hbs isFn c gs r ha hfn m s rs env pre post hrel (fun _ => hi.gen) hseg)
    e hf he isFn c gs r hc hfn m s rs env pre post hrel hi hseg
  cases e with
  | break_ l =>
    rw [Fx] at he
    obtain ⟨γ, hγ, hmem⟩ := findCtx_ok hls he
    rw [compile_brk_eq hi.gsok hγ hmem] at hc
    injection hc with hc; subst hc
    rw [Ref.eval]
    exact simX_brk hγ hmem hi.ctx hrel hseg
  | continue_ l =>
    rw [Fx] at he
    obtain ⟨γ, hγ, hmem⟩ := findCtx_ok hls he
    rw [compile_cont_eq hi.gsok hγ hmem] at hc
    injection hc with hc; subst hc
    rw [Ref.eval]
    exact simX_cont hγ hmem hi.ctx hrel hseg
  | begin_ es =>
    cases es with
    | nil => exact hff (by simp [Ff, FfList])
    | cons e0 es0 => exact hst rfl
  | cond arms d => exact hst rfl
  | newScope es => exact hst rfl
  | let_ seq bs body => exact hst rfl
  | for_ label init test incr body =>
    rw [Fx] at he
    simp only [Bool.and_eq_true] at he
    obtain ⟨⟨⟨hi', ht⟩, hs⟩, hb⟩ := he
    exact xclaimE_for hFE hF hi' ht hs hb isFn c gs r hc hfn Γ hls m s rs env pre post hrel hi hseg
  | assign _ _ => simp [Fx] at he
  | bad _ => simp [Fx] at he
  | _ => rw [Fx] at he; exact hff he

theorem xclaims_zero : XClaimE 0 ∧ XClaimB 0 ∧ XClaimC 0 ∧ XClaimF 0 := by
  refine ⟨fun _ _ _ _ => hclaimE_zero _ _, fun _ _ _ _ => hclaimB_zero _, fun _ _ _ _ => hclaimC_zero _, ?_⟩
  intro ls self label test incr body htest hincr hbody isFn c hfn gb rb g2 gt rt g4 gi ri g5 hcb hct hci Γ γ₀ hls hlab
    post full kc m σ rs hl hcur hd hlin hrel hi hgt hgi hbrk hcont
  rw [Ref.loop]; trivial

end ZygoVerif.Sim
