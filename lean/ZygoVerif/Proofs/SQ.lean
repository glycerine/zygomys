/-
Lemmas behind Props/C15: what the generator emits for a written template, clause by clause
(`genSQ_lit` … `genHashBody_cons`: sequences `seqC` and marker frames `frameC` of the code of the
parts), and that every proper form is the writing of an unambiguous template (`decode_ok`). The
key/value sequence of a hash is written, checked and compiled as the array of its keys and values
(`flat`, `genHashBody_flat`), so one induction over templates and their sequences serves every fact
about templates (`Tmpl.induct`); `gen_induct` is that induction with the clauses of the generator
applied. Before them, what both machines of Proofs/SQFresh.lean need of the stack: `toBinding`, `exec`,
`popToMarker_pushAll`, `pushAll_append`, lists against arrays (`listToArray_mkList`, `elems_eq`). What
the emitted code does when run is in Proofs/SQFresh.lean.
-/
import ZygoVerif.Model.SQ
import ZygoVerif.Spec.Subst
namespace ZygoVerif.SQ
open ZygoVerif.Subst

/-- The bindings a host induces: an expression has a value when it compiles and runs. -/
def toBinding (H : Host) : Binding where
  value := fun e => if H.genOK e then H.eval e else none
  mkHash := H.mkHash

def exec (H : Host) (c : Option (List Instr)) (st : Stack) : Option Stack :=
  c.bind (fun c => run H c st)

theorem run_append (H : Host) (a b : List Instr) (st : Stack) :
    run H (a ++ b) st = (run H a st).bind (run H b) := by
  induction a generalizing st with
  | nil => simp [run]
  | cons i is ih =>
    simp only [List.cons_append, run]
    cases step H i st with
    | none => simp
    | some st' => simp [ih]

theorem ofList_eq (xs : List Sexp) : ofList xs = mkList xs := by
  induction xs with
  | nil => rfl
  | cons x xs ih => simp [ofList, mkList, ih]

theorem elems_eq (s : Sexp) : elems s = listToArray s := by
  induction s with
  | nil => rfl
  | cons h t _ iht =>
    simp only [elems, listToArray, iht]
    cases listToArray t <;> rfl
  | atom _ => rfl
  | arr _ _ => rfl
  | hash _ _ _ => rfl

theorem listToArray_mkList (xs : List Sexp) : listToArray (mkList xs) = some xs := by
  induction xs with
  | nil => rfl
  | cons x xs ih => simp [mkList, listToArray, ih]

theorem isList_mkList (xs : List Sexp) : isList (mkList xs) = true := by
  induction xs with
  | nil => rfl
  | cons x xs ih => simpa [mkList, isList] using ih

theorem popToMarker_vals (ys : List Sexp) (st : Stack) :
    popToMarker (ys.map Elem.val ++ .marker :: st) = some (ys, st) := by
  induction ys with
  | nil => rfl
  | cons y ys ih => simp [popToMarker, ih]

theorem popToMarker_pushAll (xs : List Sexp) (st : Stack) :
    popToMarker (pushAll xs (.marker :: st)) = some (xs.reverse, st) := by
  unfold pushAll
  exact popToMarker_vals _ _

theorem pushAll_append (a b : List Sexp) (st : Stack) :
    pushAll (a ++ b) st = pushAll b (pushAll a st) := by
  simp [pushAll]

theorem pushAll_single (v : Sexp) (st : Stack) : pushAll [v] st = .val v :: st := by
  simp [pushAll]

theorem toSexpL_isList (ts : List Tmpl) : isList (toSexpL ts) = true := by
  induction ts with
  | nil => rfl
  | cons t ts ih => simpa [toSexpL, isList] using ih

/-- A list looks like an unquote exactly when the generator reads its writing as one. -/
theorem looksLikeUnquote_eq (t1 : Tmpl) (rest : List Tmpl) :
    looksLikeUnquote (t1 :: rest) = (unqKind t1.toSexp (toSexpL rest)).isSome := by
  cases t1 with
  | lit a =>
    cases a with
    | sym n =>
      match rest with
      | [] => simp [Tmpl.toSexp, toSexpL, unqKind, looksLikeUnquote]
      | [t2] =>
        by_cases h1 : n = "unquote" <;> by_cases h2 : n = "unquote-splicing" <;>
          simp [Tmpl.toSexp, toSexpL, unqKind, looksLikeUnquote, h1, h2]
      | _ :: _ :: _ => simp [Tmpl.toSexp, toSexpL, unqKind, looksLikeUnquote]
    | int n => simp [Tmpl.toSexp, unqKind, looksLikeUnquote]
    | str n => simp [Tmpl.toSexp, unqKind, looksLikeUnquote]
  | unquote e => simp [Tmpl.toSexp, unqKind, looksLikeUnquote]
  | splice e => simp [Tmpl.toSexp, unqKind, looksLikeUnquote]
  | list ts => cases ts <;> simp [Tmpl.toSexp, toSexpL, unqKind, looksLikeUnquote]
  | arr ts => simp [Tmpl.toSexp, unqKind, looksLikeUnquote]
  | hash ty kvs => simp [Tmpl.toSexp, unqKind, looksLikeUnquote]

theorem unqKind_none (t1 : Tmpl) (rest : List Tmpl)
    (h : looksLikeUnquote (t1 :: rest) = false) : unqKind t1.toSexp (toSexpL rest) = none := by
  simpa [looksLikeUnquote_eq] using h

theorem list_shape (ca cb : Option (List Instr)) :
    (do let a ← ca; let b ← cb; some (Instr.marker :: a ++ b ++ [Instr.squash]))
      = (do let a ← ca; let b ← cb; some (a ++ b)).map (fun x => Instr.marker :: x ++ [Instr.squash]) := by
  cases ca <;> cases cb <;> first | rfl | simp

theorem arr_shape (ca cb : Option (List Instr)) :
    (do let a ← ca; let b ← cb; some (Instr.marker :: a ++ [Instr.squash, Instr.explode] ++ b))
      = (do let a ← ca.map (fun a => Instr.marker :: a ++ [Instr.squash, Instr.explode])
            let b ← cb; some (a ++ b)) := by
  cases ca <;> cases cb <;> first | rfl | simp

theorem kv_items_shape (xa xb xc : Option (List Sexp)) :
    (do let a ← xa; let b ← xb; let c ← xc; some (a ++ b ++ c))
      = (do let a ← xa; let b ← (do let a ← xb; let b ← xc; some (a ++ b)); some (a ++ b)) := by
  cases xa <;> cases xb <;> cases xc <;> first | rfl | exact congrArg some (List.append_assoc ..)

def seqC (ca cb : Option (List Instr)) : Option (List Instr) := do let a ← ca; let b ← cb; some (a ++ b)

def frameC (tl : List Instr) (c : Option (List Instr)) : Option (List Instr) :=
  c.map (fun a => .marker :: a ++ tl)

theorem genSQ_lit (H : Host) (a : Atom) : genSQ H (Tmpl.lit a).toSexp = some [.push (.atom a)] := by
  simp [Tmpl.toSexp, genSQ]

theorem genSQ_unquote (H : Host) (e : Sexp) :
    genSQ H (Tmpl.unquote e).toSexp = if H.genOK e then some [.eval e] else none := by
  simp [Tmpl.toSexp, genSQ, isList, unqKind]

theorem genSQ_splice (H : Host) (e : Sexp) :
    genSQ H (Tmpl.splice e).toSexp = if H.genOK e then some [.eval e, .explode] else none := by
  simp [Tmpl.toSexp, genSQ, isList, unqKind]

theorem genSQ_list_nil (H : Host) : genSQ H (Tmpl.list []).toSexp = some [.push .nil] := by
  simp [Tmpl.toSexp, toSexpL, genSQ]

theorem genSQ_list_cons (H : Host) (t1 : Tmpl) (rest : List Tmpl) (h : looksLikeUnquote (t1 :: rest) = false) :
    genSQ H (Tmpl.list (t1 :: rest)).toSexp
      = frameC [.squash] (seqC (genSQ H t1.toSexp) (genListBody H (toSexpL rest))) := by
  simp only [Tmpl.toSexp, toSexpL, genSQ, toSexpL_isList, unqKind_none t1 rest h, list_shape, Bool.not_true,
    Bool.false_eq_true, if_false, frameC, seqC]

theorem genSQ_arr (H : Host) (ts : List Tmpl) :
    genSQ H (Tmpl.arr ts).toSexp = frameC [.vectorize] (genArrBody H (toSexpL ts)) := by
  simp only [Tmpl.toSexp, genSQ, frameC]; cases genArrBody H (toSexpL ts) <;> rfl

theorem genSQ_hash (H : Host) (ty : String) (kvs : List (Tmpl × Tmpl)) :
    genSQ H (Tmpl.hash ty kvs).toSexp = frameC [.hashize ty] (genHashBody H (toSexpKV kvs)) := by
  simp only [Tmpl.toSexp, genSQ, frameC]; cases genHashBody H (toSexpKV kvs) <;> rfl

theorem genListBody_nil (H : Host) : genListBody H (toSexpL []) = some [] := rfl

theorem genListBody_cons (H : Host) (t : Tmpl) (ts : List Tmpl) :
    genListBody H (toSexpL (t :: ts)) = seqC (genSQ H t.toSexp) (genListBody H (toSexpL ts)) := by
  simp only [toSexpL, genListBody, seqC]

theorem genArrBody_nil (H : Host) : genArrBody H (toSexpL []) = some [] := rfl

theorem genArrBody_cons (H : Host) (t : Tmpl) (ts : List Tmpl) :
    genArrBody H (toSexpL (t :: ts))
      = seqC (frameC [.squash, .explode] (genSQ H t.toSexp)) (genArrBody H (toSexpL ts)) := by
  simp only [toSexpL, genArrBody, arr_shape, seqC, frameC]

theorem genHashBody_nil (H : Host) : genHashBody H (toSexpKV []) = some [] := rfl

/-- The key/value sequence of a hash template as one sequence, k0 v0 k1 v1 …: the way it is stored
(`toSexpKV`) and compiled (`genHashBody_flat`). -/
def flat : List (Tmpl × Tmpl) → List Tmpl
  | [] => []
  | p :: r => p.1 :: p.2 :: flat r

theorem wfKV_flat (kvs : List (Tmpl × Tmpl)) : wfKV kvs = wfL (flat kvs) := by
  induction kvs with
  | nil => rfl
  | cons p r ih => simp only [wfKV, flat, wfL, ih, Bool.and_assoc]

/-- The body of a hash is compiled like the body of the array of its keys and values. -/
theorem genHashBody_flat (H : Host) (kvs : List (Tmpl × Tmpl)) :
    genHashBody H (toSexpKV kvs) = genArrBody H (toSexpL (flat kvs)) := by
  induction kvs with
  | nil => rfl
  | cons p r ih =>
    simp only [toSexpKV, flat, toSexpL, genHashBody, genArrBody, ih]
    cases genSQ H p.1.toSexp <;> cases genSQ H p.2.toSexp <;> cases genArrBody H (toSexpL (flat r)) <;>
      first | rfl | simp

theorem genHashBody_cons (H : Host) (k v : Tmpl) (r : List (Tmpl × Tmpl)) :
    genHashBody H (toSexpKV ((k, v) :: r))
      = seqC (frameC [.squash, .explode] (genSQ H k.toSexp))
          (seqC (frameC [.squash, .explode] (genSQ H v.toSexp)) (genHashBody H (toSexpKV r))) := by
  rw [genHashBody_flat, flat, genArrBody_cons, genArrBody_cons, ← genHashBody_flat]

theorem Tmpl.induct {P : Tmpl → Prop} {PL : List Tmpl → Prop}
    (lit : ∀ a, P (.lit a)) (unquote : ∀ e, P (.unquote e)) (splice : ∀ e, P (.splice e))
    (list : ∀ ts, PL ts → P (.list ts)) (arr : ∀ ts, PL ts → P (.arr ts))
    (hash : ∀ ty kvs, PL (flat kvs) → P (.hash ty kvs))
    (nil : PL []) (cons : ∀ t ts, P t → PL ts → PL (t :: ts)) : (∀ t, P t) ∧ (∀ ts, PL ts) :=
  have h : ∀ t, P t := fun t => Tmpl.rec (motive_1 := P) (motive_2 := PL) (motive_3 := fun kvs => PL (flat kvs))
    (motive_4 := fun p => P p.1 ∧ P p.2) lit unquote splice list arr hash nil cons nil
    (fun p r hp hr => cons p.1 _ hp.1 (cons p.2 _ hp.2 hr)) (fun _ _ a b => ⟨a, b⟩) t
  ⟨h, fun ts => by induction ts with
    | nil => exact nil
    | cons t ts ih => exact cons t ts (h t) ih⟩

/-- Induction over the code of written templates: the generator builds the code of a template from
the code of its parts by `seqC` and `frameC` alone; a list body and an array body are the same
sequence, the elements of the latter each in a frame of its own (`elem`). -/
theorem gen_induct (H : Host) {P : Tmpl → Option (List Instr) → Prop}
    {PS : List Tmpl → Option (List Instr) → Prop}
    (lit : ∀ a, P (.lit a) (some [.push (.atom a)]))
    (unquote : ∀ e, P (.unquote e) (if H.genOK e then some [.eval e] else none))
    (splice : ∀ e, P (.splice e) (if H.genOK e then some [.eval e, .explode] else none))
    (list_nil : P (.list []) (some [.push .nil]))
    (list_cons : ∀ t ts c cs, P t c → PS ts cs → P (.list (t :: ts)) (frameC [.squash] (seqC c cs)))
    (arr : ∀ ts c, PS ts c → P (.arr ts) (frameC [.vectorize] c))
    (hash : ∀ ty kvs c, PS (flat kvs) c → P (.hash ty kvs) (frameC [.hashize ty] c))
    (nil : PS [] (some [])) (cons : ∀ t ts c cs, P t c → PS ts cs → PS (t :: ts) (seqC c cs))
    (elem : ∀ t c, P t c → P t (frameC [.squash, .explode] c)) :
    (∀ t, t.WF = true → P t (genSQ H t.toSexp))
    ∧ (∀ ts, wfL ts = true → PS ts (genListBody H (toSexpL ts)))
    ∧ (∀ ts, wfL ts = true → PS ts (genArrBody H (toSexpL ts))) := by
  -- a sequence is met as the body of a list, as the body of an array and as a whole list
  have h := Tmpl.induct (P := fun t => t.WF = true → P t (genSQ H t.toSexp))
    (PL := fun ts => wfL ts = true → PS ts (genListBody H (toSexpL ts)) ∧ PS ts (genArrBody H (toSexpL ts))
      ∧ (looksLikeUnquote ts = false → P (.list ts) (genSQ H (Tmpl.list ts).toSexp)))
    (fun a _ => genSQ_lit H a ▸ lit a) (fun e _ => genSQ_unquote H e ▸ unquote e)
    (fun e _ => genSQ_splice H e ▸ splice e) ?_
    (fun ts ih wf => genSQ_arr H ts ▸ arr ts _ (ih wf).2.1)
    (fun ty kvs ih wf => genSQ_hash H ty kvs ▸ genHashBody_flat H kvs ▸ hash ty kvs _ (ih (wfKV_flat kvs ▸ wf)).2.1)
    (fun _ => ⟨nil, nil, fun _ => genSQ_list_nil H ▸ list_nil⟩) ?_
  · exact ⟨h.1, fun ts wf => (h.2 ts wf).1, fun ts wf => (h.2 ts wf).2.1⟩
  · intro ts ih wf
    simp only [Tmpl.WF, Bool.and_eq_true, Bool.not_eq_true'] at wf
    exact (ih wf.2).2.2 wf.1
  · intro t ts iht ih wf
    simp only [wfL, Bool.and_eq_true] at wf
    have ht := iht wf.1
    have hts := ih wf.2
    exact ⟨genListBody_cons H t ts ▸ cons t ts _ _ ht hts.1,
      genArrBody_cons H t ts ▸ cons t ts _ _ (elem t _ ht) hts.2.1,
      fun hl => genSQ_list_cons H t ts hl ▸ list_cons t ts _ _ ht hts.1⟩

mutual
/-- Forms the property speaks about: no dotted pair anywhere; arrays hold a proper list, a
hash an even one. -/
def Proper : Sexp → Bool
  | .atom _ => true
  | .nil => true
  | .cons h t => Proper h && ProperL t
  | .arr xs => ProperL xs
  | .hash _ flat => ProperKV flat
def ProperL : Sexp → Bool
  | .nil => true
  | .cons h t => Proper h && ProperL t
  | _ => false
def ProperKV : Sexp → Bool
  | .nil => true
  | .cons k (.cons v r) => Proper k && Proper v && ProperKV r
  | _ => false
end

mutual
/-- Reading a form back as a template. -/
def decode : Sexp → Tmpl
  | .atom a => .lit a
  | .nil => .list []
  | .cons h t =>
    match unqKind h t with
    | some (false, e) => .unquote e
    | some (true, e) => .splice e
    | none => .list (decode h :: decodeL t)
  | .arr xs => .arr (decodeL xs)
  | .hash ty flat => .hash ty (decodeKV flat)
def decodeL : Sexp → List Tmpl
  | .cons h t => decode h :: decodeL t
  | _ => []
def decodeKV : Sexp → List (Tmpl × Tmpl)
  | .cons k (.cons v r) => (decode k, decode v) :: decodeKV r
  | _ => []
end

theorem unqKind_some (h t : Sexp) (b : Bool) (e : Sexp) (hk : unqKind h t = some (b, e)) :
    t = .cons e .nil ∧ h = .atom (.sym (if b then "unquote-splicing" else "unquote")) := by
  unfold unqKind at hk
  split at hk
  · rename_i n e'
    split at hk
    · simp only [Option.some.injEq, Prod.mk.injEq] at hk
      obtain ⟨rfl, rfl⟩ := hk
      simp_all
    · split at hk
      · simp only [Option.some.injEq, Prod.mk.injEq] at hk
        obtain ⟨rfl, rfl⟩ := hk
        simp_all
      · simp at hk
  · simp at hk

mutual
theorem decode_ok : (s : Sexp) → Proper s = true → (decode s).toSexp = s ∧ (decode s).WF = true
  | .atom a, _ => by simp [decode, Tmpl.toSexp, Tmpl.WF]
  | .nil, _ => by simp [decode, Tmpl.toSexp, toSexpL, Tmpl.WF, wfL, looksLikeUnquote]
  | .cons h t, hp => by
    simp only [Proper, Bool.and_eq_true] at hp
    simp only [decode]
    cases hk : unqKind h t with
    | some p =>
      obtain ⟨b, e⟩ := p
      obtain ⟨rfl, rfl⟩ := unqKind_some h t b e hk
      cases b <;> simp [Tmpl.toSexp, Tmpl.WF]
    | none =>
      have ih := decode_ok h hp.1
      have il := decodeL_ok t hp.2
      refine ⟨by simp [Tmpl.toSexp, toSexpL, ih.1, il.1], ?_⟩
      simp only [Tmpl.WF, wfL, ih.2, il.2, Bool.and_true, Bool.not_eq_true']
      -- a literal list that looked like an unquote would have been decoded as one
      rw [looksLikeUnquote_eq, ih.1, il.1, hk]; rfl
  | .arr xs, hp => by
    simp only [Proper] at hp
    have il := decodeL_ok xs hp
    simp [decode, Tmpl.toSexp, Tmpl.WF, il.1, il.2]
  | .hash ty flat, hp => by
    simp only [Proper] at hp
    have il := decodeKV_ok flat hp
    simp [decode, Tmpl.toSexp, Tmpl.WF, il.1, il.2]
theorem decodeL_ok : (s : Sexp) → ProperL s = true → toSexpL (decodeL s) = s ∧ wfL (decodeL s) = true
  | .nil, _ => by simp [decodeL, toSexpL, wfL]
  | .cons h t, hp => by
    simp only [ProperL, Bool.and_eq_true] at hp
    have ih := decode_ok h hp.1
    have il := decodeL_ok t hp.2
    simp [decodeL, toSexpL, wfL, ih.1, ih.2, il.1, il.2]
  | .atom _, hp => by simp [ProperL] at hp
  | .arr _, hp => by simp [ProperL] at hp
  | .hash _ _, hp => by simp [ProperL] at hp
theorem decodeKV_ok : (s : Sexp) → ProperKV s = true → toSexpKV (decodeKV s) = s ∧ wfKV (decodeKV s) = true
  | .nil, _ => by simp [decodeKV, toSexpKV, wfKV]
  | .cons k (.cons v r), hp => by
    simp only [ProperKV, Bool.and_eq_true] at hp
    have ik := decode_ok k hp.1.1
    have iv := decode_ok v hp.1.2
    have il := decodeKV_ok r hp.2
    simp [decodeKV, toSexpKV, wfKV, ik.1, ik.2, iv.1, iv.2, il.1, il.2]
  | .cons _ .nil, hp => by simp [ProperKV] at hp
  | .cons _ (.atom _), hp => by simp [ProperKV] at hp
  | .cons _ (.arr _), hp => by simp [ProperKV] at hp
  | .cons _ (.hash _ _), hp => by simp [ProperKV] at hp
  | .atom _, hp => by simp [ProperKV] at hp
  | .arr _, hp => by simp [ProperKV] at hp
  | .hash _ _, hp => by simp [ProperKV] at hp
end

end ZygoVerif.SQ
