/-
Invariants of the generator's state alone. A successful compilation moves the state (`GS`: function table, loop
records, loop stack, live scope stack) along every preorder `Q` that its three kinds of update respect (`GRespects`):
registering a template, filling it in, and the loop record that `GenerateForLoop` pushes around the parts of a `for` and
pops again through a `defer`: `GRespects.walk`, a `GenWalk` for all such `Q`. Its one instance is `Scope.genOK_respects`
(C03: templates capture live scopes only). `KeepFns` is such a `Q` too, but `Sim.factsWalk` proves it together with what
it says of the code, which needs `KeepFns` of the sub-runs at every step.
-/
import ZygoVerif.Proofs.GenFacts
namespace ZygoVerif.VM
open ZygoVerif.Core ZygoVerif.Sim

structure GRespects (Q : GS → GS → Prop) : Prop where
  refl : ∀ gs, Q gs gs
  trans : ∀ {a b c}, Q a b → Q b c → Q a c
  alloc : ∀ isFn gs name ps rest, Q gs (Bal.allocGs isFn gs name ps rest)
  finish : ∀ t b gs, Q gs (Bal.finishGs t b gs)
  /-- the record pushed for the parts of a `for`, completed and popped after them -/
  loop : ∀ (gs g5 : GS) (c : Ctx) (label : Option String) (brk cont : Int),
    Q (forGs gs c label) g5 → Q gs (forDone g5 gs.loops.length brk cont)

namespace GRespects
variable {Q : GS → GS → Prop} (h : GRespects Q)
include h

/-- a preorder the three updates respect, as a walk: every clause composes the moves of its sub-runs -/
@[reducible] def walk (isFn : Nat → Bool) : GenWalk isFn where
  E _ _ gs _ _ g' := Q gs g'
  A _ _ gs _ _ g' := Q gs g'
  C _ _ _ _ gs _ g' := Q gs g'
  B _ _ gs _ _ g' := Q gs g'
  R _ _ gs _ g' := Q gs g'
  S _ _ gs _ g' := Q gs g'
  L _ _ _ gs _ _ g' := Q gs g'
  N _ _ _ gs _ _ g' := Q gs g'
  int _ := h.refl _
  bool _ := h.refl _
  str _ := h.refl _
  nil := h.refl _
  sym _ := h.refl _
  arr _ ih := ih
  call _ _ := h.refl _
  selfCall _ _ _ _ _ ih := ih
  beginNil := h.refl _
  begin_ _ ih := ih
  def_ _ _ ih := ih
  set_ _ _ ih := ih
  cond _ h1 _ h2 := h.trans h1 h2
  and_ _ ih := ih
  or_ _ ih := ih
  let_ _ _ _ h1 _ h2 := h.trans h1 h2
  newScopeNil := h.refl _
  newScope _ ih := ih
  for_ _ _ _ _ hb _ hi _ ht _ hs := h.loop _ _ _ _ _ _ (h.trans hb (h.trans hi (h.trans ht hs)))
  break_ _ := h.refl _
  continue_ _ := h.refl _
  fn _ _ _ _ _ ih := h.trans (h.alloc ..) (h.trans ih (h.finish ..))
  defn _ _ _ _ _ _ ih := h.trans (h.alloc ..) (h.trans ih (h.finish ..))
  assign _ h1 _ h2 := h.trans h1 h2
  allNil := h.refl _
  allCons _ h1 _ h2 := h.trans h1 h2
  argsNil := h.refl _
  argsLazy _ _ ih := ih
  argsCons _ h1 _ h2 := h.trans h1 h2
  beginNilL := h.refl _
  beginOne _ ih := ih
  beginCons _ _ h1 _ h2 := h.trans h1 h2
  armsNil := h.refl _
  armsCons _ h1 _ h2 _ h3 := h.trans h1 (h.trans h2 h3)
  scNil := h.refl _
  scOne _ ih := ih
  scCons _ h1 _ h2 := h.trans h1 h2
  bindsNil := h.refl _
  bindsCons _ _ _ h1 _ h2 := h.trans h1 h2
  nsNil := h.refl _
  nsOne _ ih := ih
  nsCons _ h1 _ h2 := h.trans h1 h2

end GRespects

end ZygoVerif.VM
