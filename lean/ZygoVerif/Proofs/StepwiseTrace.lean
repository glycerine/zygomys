/-
One `ParseTokens` call against the delivery model (C13, `StepwiseIsRun` with its third component, the
statuses of the intermediate calls).

The abstract views of Proofs/ParseChunks forget the piece boundaries, so this part runs on the
concrete interpreter: a run on a state with pieces still to come (`fut = c :: fut'`) is split at the
first delivery into the run on the same state without future pieces (`PState.base` — what one
`ParseTokens` call executes) and the run of the program it rests in on the state after the delivery
(`run_split`). On the lexer that delivery is the protocol's `NewInput`, the last one its `EndInput`
(`deliver_newInput`, `deliver_endInput`).
-/
import ZygoVerif.Proofs.Stepwise
namespace ZygoVerif.Parser
open ZygoVerif.Lexer

/-- the state one `ParseTokens` call works on: no future pieces, nothing recorded -/
def PState.base (s : PState) : PState := { lex := s.lex, exprs := s.exprs }

/-- put the future pieces, the end mark and the recorded statuses of `s` back -/
def PState.restore (s s1 : PState) : PState := { s1 with fut := s.fut, eof := s.eof, trace := s.trace }

theorem PState.restore_base (s : PState) : s.restore s.base = s := by cases s; rfl

theorem PState.base_restore (s s1 : PState) (h1 : s1.fut = []) (h2 : s1.eof = false) (h3 : s1.trace = []) :
    (s.restore s1).base = s1 := by
  cases s1; simp_all [PState.base, PState.restore]

theorem PState.base_size_le (s : PState) : s.base.size ≤ s.size := by
  simp [PState.size, PState.base, PState.runes]
  omega

theorem addNextStream_finished (l : LexState) (p : List Char) : (l.addNextStream p).finished = false := by
  unfold LexState.addNextStream LexState.promote
  cases l.stream with
  | none => cases l.next <;> rfl
  | some st => cases st <;> cases l.next <;> rfl

/-- a delivery of the delivery model is the protocol's `NewInput` … -/
theorem deliver_newInput (s : PState) (p : List Char) (fut : List (List Char)) (st : Status) (h : fut.isEmpty = false) :
    (s.deliver p fut st).lex = s.lex.addNextStream p := by
  have hf := addNextStream_finished s.lex p
  simp only [PState.deliver, h, Bool.and_false]
  rw [← hf]

/-- … and the last one, which brings the end of the input, its `EndInput` -/
theorem deliver_endInput (s : PState) (st : Status) (h : s.eof = true) :
    (s.deliver eofPiece [] st).lex = s.lex.endInput := by
  simp only [PState.deliver, h, List.isEmpty_nil, Bool.and_self]
  rfl

theorem parseTokens_eq (F : Nat) (t : PState) (co : Option Co) (h : co ≠ some .finalYield) :
    PSt.parseTokens F ⟨t.lex, t.exprs, co⟩ = match run (progOf F co).erase t.base with
      | (.ret _, s) => (.done, s.exprs, ⟨s.lex, s.exprs, none⟩)
      | (.stop .more, s) => (.more, s.exprs, ⟨s.lex, s.exprs, (residual (progOf F co) t.base).map .waiting⟩)
      | (.stop st, s) => (st, s.exprs, ⟨s.lex, s.exprs, some .finalYield⟩) := by
  rcases co with _ | (κ | _)
  · rfl
  · rfl
  · exact absurd rfl h

def PeekOut.st : PeekOut → PState
  | .tok _ s => s
  | .stop _ s => s

/-- fields a run without future pieces leaves alone -/
def Ghost (s s1 : PState) : Prop :=
  s1.fut = [] ∧ s1.eof = s.eof ∧ s1.trace = s.trace ∧ s1.lex.finished = s.lex.finished

theorem Ghost.refl (s : PState) (h : s.fut = []) : Ghost s s := ⟨h, rfl, rfl, rfl⟩

theorem Ghost.trans {a b c : PState} (h1 : Ghost a b) (h2 : Ghost b c) : Ghost a c :=
  ⟨h2.1, h2.2.1.trans h1.2.1, h2.2.2.1.trans h1.2.2.1, h2.2.2.2.trans h1.2.2.2⟩
theorem waitRun_ghost (stf : LexCore → Status) (b : Bool) (n : Nat) : ∀ (fuel : Nat) (s : PState), s.fut = [] →
    Ghost s (waitRun stf b n fuel s).st := by
  intro fuel
  induction fuel with
  | zero => intro s h; exact Ghost.refl s h
  | succ m ih =>
    intro s hfut
    rw [waitRun_succ]
    have hsp := lexRound_spec n s.lex
    cases hr : lexRound n s.lex with
    | tok t => exact Ghost.refl s hfut
    | read l' =>
      rw [hr] at hsp
      obtain ⟨_, c, _, _, _, _, hfin⟩ := hsp
      exact Ghost.trans (b := { s with lex := l' }) ⟨hfut, rfl, rfl, hfin⟩ (ih _ hfut)
    | refused l' =>
      rw [hr] at hsp
      obtain ⟨_, c, e, _, _, _, _, hfin⟩ := hsp
      exact ⟨hfut, rfl, rfl, hfin⟩
    | drained => simp only [hfut]; split <;> exact Ghost.refl s hfut

theorem run_ghost {α : Type} (p : Prog α) : ∀ (s : PState), s.fut = [] → Ghost s (run p s).2 := by
  induction p using Prog.wt_induction with
  | pure a => intro s h; exact Ghost.refl s h
  | fail => intro s h; exact Ghost.refl s h
  | wait p w hw ih ihEnd =>
    intro s h
    have g := waitRun_ghost w.stf w.orEnd w.extra (s.size + 1) s h
    rw [run_wt hw]
    cases hp : waitRun w.stf w.orEnd w.extra (s.size + 1) s with
    | tok t s' =>
      rw [hp] at g
      dsimp only
      cases hn : w.next t s'.lex.tokens with
      | none => exact g
      | some x =>
        have g2 : Ghost s (s'.setToks x.2) := g
        exact g2.trans (ih t _ x.1 x.2 hn _ g.1)
    | stop st s' =>
      rw [hp] at g
      cases st with
      | more =>
        dsimp only
        cases he : w.atEnd with
        | none => exact g
        | some q =>
          dsimp only
          cases inLiteral s'.lex.toLexCore with
          | true => exact g
          | false => exact g.trans (ihEnd q he s' g.1)
      | done => exact g
      | err => exact g
  | pushTok t k ih =>
    intro s h
    have g2 : Ghost s (s.setToks (t :: s.lex.tokens)) := ⟨h, rfl, rfl, rfl⟩
    exact g2.trans (ih _ h)
  | pushExpr e k ih =>
    intro s h
    have g2 : Ghost s ({ s with exprs := s.exprs ++ [e] } : PState) := ⟨h, rfl, rfl, rfl⟩
    exact g2.trans (ih _ h)

/-- The loop on a state with pieces still to come, against the loop on the state of one call (`s.base`): a token found,
or an error, is found in the same way; where the call rests, the loop with the pieces delivers the next one and goes on. -/
theorem waitRun_split (stf : LexCore → Status) (b : Bool) (n : Nat) (c' : List Char) (fut' : List (List Char)) :
    ∀ (fuel : Nat) (s : PState), Inv s → s.size < fuel → s.lex.finished = false → s.fut = c' :: fut' →
    waitRun stf b n fuel s = match waitRun stf b n fuel s.base with
      | .tok t s1 => .tok t (s.restore s1)
      | .stop .more s1 =>
        waitRun stf b n (((s.restore s1).deliver c' fut' (stf s1.lex.toLexCore)).size + 1)
          ((s.restore s1).deliver c' fut' (stf s1.lex.toLexCore))
      | .stop st s1 => .stop st (s.restore s1) := by
  intro fuel
  induction fuel with
  | zero => intro s _ h; omega
  | succ m ih =>
    intro s hi hsz hfin hfut
    have hb : s.base.lex = s.lex := rfl
    rw [waitRun_succ, waitRun_succ, hb]
    have hsp := lexRound_spec n s.lex
    cases hr : lexRound n s.lex with
    | tok t => dsimp only; exact congrArg _ (PState.restore_base s).symm
    | refused l' => rfl
    | read l' =>
      rw [hr] at hsp
      obtain ⟨_, c, hp, _, hs, hn, hfin'⟩ := hsp
      exact ih { s with lex := l' } hs (by have := size_read s l' c hp hn; omega) (hfin'.trans hfin) hfut
    | drained =>
      rw [hr] at hsp
      have hbf : s.base.fut = [] := rfl
      simp only [hfut, hbf, hfin, Bool.and_false, Bool.false_eq_true, ↓reduceIte, hb, PState.restore_base]
      obtain ⟨z1, z2⟩ := size_deliver s c' fut' (stf s.lex.toLexCore) hi hsp.1 hfut
      exact waitRun_fuel stf b n _ _ _ z2 (by omega) (Nat.lt_succ_self _)

/-- A wait on the state of one call (`s.base`) against the same wait with the pieces still to come: it
is the abstract wait on the view; a token found, or an error, is found in the same way; where the call
rests, the run with the pieces goes on after the delivery. -/
theorem waitRun_base (stf : LexCore → Status) (b : Bool) (n : Nat) (c' : List Char) (fut' : List (List Char)) (s : PState)
    (hi : Inv s) (hfin : s.lex.finished = false) (hfut : s.fut = c' :: fut') :
    (waitRun stf b n (s.base.size + 1) s.base).toA =
        peekWaitA b n (view s.base).exprs (view s.base).fin (view s.base).runes (view s.base).core ∧
    match waitRun stf b n (s.base.size + 1) s.base with
    | .tok t s1 => Inv s1 ∧ Ghost s.base s1 ∧ waitRun stf b n (s.size + 1) s = .tok t (s.restore s1)
    | .stop .more s1 => Ghost s.base s1 ∧ waitRun stf b n (s.size + 1) s =
        waitRun stf b n (((s.restore s1).deliver c' fut' (stf s1.lex.toLexCore)).size + 1)
          ((s.restore s1).deliver c' fut' (stf s1.lex.toLexCore))
    | .stop st s1 => waitRun stf b n (s.size + 1) s = .stop st (s.restore s1) := by
  have hbi : Inv s.base := hi
  have hfuel : waitRun stf b n (s.size + 1) s.base = waitRun stf b n (s.base.size + 1) s.base :=
    waitRun_fuel stf b n _ _ s.base hbi (by have := s.base_size_le; omega) (Nat.lt_succ_self _)
  have hsplit := waitRun_split stf b n c' fut' (s.size + 1) s hi (Nat.lt_succ_self _) hfin hfut
  rw [hfuel] at hsplit
  have hsim := wait_sim stf b n (s.base.size + 1) s.base hbi (Nat.lt_succ_self _)
  have hg := waitRun_ghost stf b n (s.base.size + 1) s.base rfl
  refine ⟨hsim.1, ?_⟩
  cases hpw : waitRun stf b n (s.base.size + 1) s.base with
  | tok t s1 => rw [hpw] at hsplit hsim hg; exact ⟨hsim.2, hg, hsplit⟩
  | stop st s1 => rw [hpw] at hsplit hg; cases st <;> first | exact ⟨hg, hsplit⟩ | exact hsplit

theorem Ghost.base_restore {s s1 : PState} (g : Ghost s.base s1) : (s.restore s1).base = s1 :=
  PState.base_restore s s1 g.1 g.2.1 g.2.2.1

/-- **A run with pieces still to come, against the call on the state without them** (`s.base`: what
one `ParseTokens` call executes). If the call ends by itself (an error — or a return — before the input
of the current piece is used up), the run with the pieces is that run: the pieces stay where they are,
nothing is recorded. If it comes to rest for lack of input (`suspendA` on the view: in a blocked yield,
or at a top level that answers `done`), the run with the pieces is: that run up to the rest, the
delivery of the next piece with the status of the rest recorded, and the run of the program it rests in. -/
theorem run_split {α : Type} (c' : List Char) (fut' : List (List Char)) (Q : SProg α) :
    ∀ (s : PState), Inv s → s.lex.finished = false → s.fut = c' :: fut' →
    match suspendA Q (view s.base) with
    | none => run Q.erase s = ((run Q.erase s.base).1, s.restore (run Q.erase s.base).2)
    | some (e, κ, v') =>
      ∃ s1 : PState, view s1 = v' ∧
        (e = false → run Q.erase s.base = (.stop .more, s1)) ∧
        (∀ k, e = true → κ = .topGet k → run Q.erase s.base = run (k none).erase s1) ∧
        run Q.erase s = run κ.erase ((s.restore s1).deliver c' fut' (if e then .done else .more)) := by
  induction Q using SProg.wt_induction with
  | pure a => intro s _ _ _; simp only [suspendA, SProg.erase, run, PState.restore_base]
  | fail => intro s _ _ _; simp only [suspendA, SProg.erase, run, PState.restore_base]
  | wait Q w hw ih ihEnd =>
    intro s hi hfin hfut
    obtain ⟨hA, hout⟩ := waitRun_base w.stf w.orEnd w.extra c' fut' s hi hfin hfut
    rw [suspendA_wt hw, run_erase_wt hw, run_erase_wt hw, ← hA]
    cases hpw : waitRun w.stf w.orEnd w.extra (s.base.size + 1) s.base with
    | tok t s1 =>
      rw [hpw] at hout
      obtain ⟨hi1, g, hs⟩ := hout
      have ht : (view s1).core.tokens = s1.lex.tokens := rfl
      have ht' : (s.restore s1).lex.tokens = s1.lex.tokens := rfl
      simp only [PeekOut.toA, hs, ht, ht']
      cases hn : w.next t s1.lex.tokens with
      | none => rfl
      | some x =>
        have g' : Ghost s.base (s1.setToks x.2) := g
        have := ih t _ x.1 x.2 hn (s.restore (s1.setToks x.2)) hi1 (g.2.2.2.trans hfin) hfut
        rw [g'.base_restore] at this
        exact this
    | stop st s1 =>
      rw [hpw] at hout
      cases st with
      | more =>
        obtain ⟨g, hs⟩ := hout
        have hc : (view s1).core = s1.lex.toLexCore := rfl
        simp only [PeekOut.toA, hc]
        refine ⟨s1, rfl, fun he => ?_, fun k he hk => ?_, ?_⟩
        · cases hat : w.atEnd with
          | none => rfl
          | some q =>
            have hl : inLiteral s1.lex.toLexCore = true := by simpa [Wt.ended, hat] using he
            simp only [hl, ↓reduceIte]
        · cases hat : w.atEnd with
          | none => simp [Wt.ended, hat] at he
          | some q =>
            have hl : inLiteral s1.lex.toLexCore = false := by simpa [Wt.ended, hat] using he
            obtain ⟨k', hk', rfl⟩ := SProg.wt?_atEnd hw hat
            cases hk.symm.trans hk'
            simp only [hl, Bool.false_eq_true, ↓reduceIte]
        · rw [hs, run_erase_wt hw, Wt.stf_ended]
      | done => simp only [PeekOut.toA, hout]
      | err => simp only [PeekOut.toA, hout]
  | pushTok t k ih =>
    intro s hi hfin hfut
    exact ih { s with lex := { s.lex with tokens := t :: s.lex.tokens } } hi hfin hfut
  | pushExpr e' k ih =>
    intro s hi hfin hfut
    exact ih { s with exprs := s.exprs ++ [e'] } hi hfin hfut

/-- one `ParseTokens` call and the rest of the delivery (the common shape of `parseBy` and
`deliverRest`) -/
def callThen (F : Nat) (p' : PSt) (tr : List Status) (rest : List (List Char)) : Result × PSt :=
  if (p'.parseTokens F).1 == .err then
    (⟨(p'.parseTokens F).1, (p'.parseTokens F).2.1, tr.reverse⟩, (p'.parseTokens F).2.2)
  else (p'.parseTokens F).2.2.deliverRest F ((p'.parseTokens F).1 :: tr) rest

theorem callThen_err (F : Nat) (p' : PSt) (tr : List Status) (rest : List (List Char))
    (h : (p'.parseTokens F).1 = .err) :
    callThen F p' tr rest = (⟨.err, (p'.parseTokens F).2.1, tr.reverse⟩, (p'.parseTokens F).2.2) := by
  simp only [callThen, h, beq_self_eq_true, ↓reduceIte]

theorem callThen_ok (F : Nat) (p' : PSt) (tr : List Status) (rest : List (List Char)) {st : Status} {ex : List Sexp}
    {p'' : PSt} (h : p'.parseTokens F = (st, ex, p'')) (hst : st ≠ .err) :
    callThen F p' tr rest = p''.deliverRest F (st :: tr) rest := by
  have hb : (st == Status.err) = false := by cases st <;> first | rfl | exact absurd rfl hst
  simp only [callThen, h, hb, Bool.false_eq_true, ↓reduceIte]

theorem deliverRest_cons_eq (F : Nat) (p : PSt) (tr : List Status) (c : List Char) (rest : List (List Char)) :
    p.deliverRest F tr (c :: rest) = callThen F (p.newInput c) tr rest := rfl

theorem parseBy_nil (F : Nat) (p : PSt) (r : Route) : p.parseBy F r [] = p.parseBy F r [[]] := rfl

theorem initState_nil (l : LexState) : initState l [] = initState l [[]] := rfl

theorem parseBy_cons_callThen (F : Nat) (p : PSt) (r : Route) (c : List Char) (rest : List (List Char)) :
    p.parseBy F r (c :: rest) = callThen F (p.start r c) [] rest := rfl

theorem trace_mem_callThen (F : Nat) : ∀ (rest : List (List Char)) (p' : PSt) (tr : List Status) (x : Status),
    x ∈ tr → x ∈ (callThen F p' tr rest).1.trace := by
  intro rest
  induction rest with
  | nil => intro p' tr x hx; unfold callThen; split <;> simp [PSt.deliverRest, hx]
  | cons c rest ih =>
    intro p' tr x hx
    unfold callThen
    split
    · simp [hx]
    · rw [deliverRest_cons_eq]; exact ih _ _ x (List.mem_cons_of_mem _ hx)

theorem parseChunks_run (cs : List (List Char)) :
    (parseChunks cs).status = statusOf (run (topLoop (fuelFor cs)) (initState LexState.init cs)).1 ∧
    (parseChunks cs).exprs = (run (topLoop (fuelFor cs)) (initState LexState.init cs)).2.exprs ∧
    (parseChunks cs).trace = (run (topLoop (fuelFor cs)) (initState LexState.init cs)).2.trace := by
  unfold parseChunks parseChunksFrom
  cases run (topLoop (fuelFor cs)) (initState LexState.init cs) with
  | mk fin s => cases fin <;> exact ⟨rfl, rfl, rfl⟩

end ZygoVerif.Parser
