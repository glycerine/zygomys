/-
C02, execution half — machine level: environments.

* the scope instructions as state transformers;
* `Fails`, `Lands`: how a piece of code ends — in a script error, or behind itself with one more value;
* `Rel s rs env`  — the simulation relation between a VM state and a reference state: the
  scope table and the frame table have the same length and hold the same bindings index by
  index, no scope is a function scope, the linear scope stack is the static chain of `env`
  (ending in the global scope 0), heaps and traces agree, and the current function looks
  nothing up beyond the linear stack;
* under `Rel`, `lexLookup` (the three-stage `LexicalLookupSymbol`) is `Ref.lookup`;
* `scopeOf_bind`/`lookup_setVar`, `scopeOf_pushScope`/`getD_newFrame`: what binding a variable and opening a scope do
  to the scope table and to the frame table, entry by entry — the form in which every relation's maintenance lemmas
  use them.
-/
import ZygoVerif.Proofs.SimControl
import ZygoVerif.Proofs.RefFacts
import ZygoVerif.Proofs.VMStep
namespace ZygoVerif.Sim
open ZygoVerif.Core ZygoVerif.VM

/-- what `setInScope id x v` does to the state -/
def _root_.ZygoVerif.VM.St.bind (s : St) (id : Nat) (x : String) (v : Val) : St :=
  { s with scopes := s.scopes.set id { scopeOf s id with vars := VM.assocSet (scopeOf s id).vars x v } }

theorem run_setInScope (id : Nat) (x : String) (v : Val) (s : St) :
    (setInScope id x v).run s = (.ok (), s.bind id x v) := rfl

/-- `VM.run_bindTop` with the result (`VM.bindTopRes`) written as a `match` on the binding found -/
theorem run_bindTop (x : String) (v : Val) (s : St) :
    (bindTop x v).run s = match s.linear with
      | some id :: _ =>
        (match (scopeOf s id).vars.lookup x with
         | some cur => if rebindOk s.heap cur v then (.ok (), s.bind id x v) else (.error .err, s)
         | none => (.ok (), s.bind id x v))
      | _ => (.error .panic, s) := by
  unfold bindTop
  simp only [run_bind, run_get]
  rcases hl : s.linear with _ | ⟨_ | id, rest⟩
  · simp only [run_hostPanic]
  · simp only [run_hostPanic]
  · simp only
    rcases hv : (scopeOf s id).vars.lookup x with _ | cur
    · simp only [run_setInScope]
    · simp only [run_ite, run_setInScope, run_err]

/-- `PopStackPutEnvInstr` (`def`, `let` bindings, parameters): pop, step, bind in the top scope. -/
theorem exec_popStackPutEnv (f : Nat) (x : String) (s : St) (v : Val) (rest : List (Option Val))
    (hd : s.data = some v :: rest) :
    (exec (f + 1) (.popStackPutEnv x)).run s = (bindTop x v).run (s.jmp (s.pc + 1) rest) := by
  rw [exec_simple_eq f _ s rfl, step, popThen, hd]
  exact (VM.run_bindTop x v _).symm

/-- `UpdateInstr` (`set`): pop, step, assign where the symbol is found, else bind on top. -/
theorem exec_update (f : Nat) (x : String) (s : St) (v : Val) (rest : List (Option Val))
    (hd : s.data = some v :: rest) :
    (exec (f + 1) (.update x)).run s = match lexLookup (s.jmp (s.pc + 1) rest) x with
      | some (id, _) => (.ok (), (s.jmp (s.pc + 1) rest).bind id x v)
      | none => (bindTop x v).run (s.jmp (s.pc + 1) rest) := by
  rw [exec_simple_eq f _ s rfl, step, popThen, hd]
  dsimp only
  rcases lexLookup (s.jmp (s.pc + 1) rest) x with _ | ⟨id, w⟩
  · exact (VM.run_bindTop x v _).symm
  · rfl

/-- From `s` the run loop ends in a script error after at most `K` instructions — for every
enclosing `Run` and every remaining fuel `≥ 1`; the trace of the final state is `tr`. -/
def Fails (K : Nat) (s : St) (tr : List String) : Prop :=
  ∃ k, k ≤ K ∧ ∀ fuel, 1 ≤ fuel → ∀ st, ∃ sf, (runLoop (fuel + k) st).run s = (.error .err, sf) ∧ sf.trace = tr

theorem Fails.mono {K K' : Nat} {s : St} {tr} (h : Fails K s tr) (hK : K ≤ K') : Fails K' s tr := by
  obtain ⟨k, hk, H⟩ := h
  exact ⟨k, Nat.le_trans hk hK, H⟩

theorem Fails.of_reach {K₁ K₂ : Nat} {s s₁ : St} {tr} (h₁ : Reach K₁ 1 s s₁) (h₂ : Fails K₂ s₁ tr) :
    Fails (K₁ + K₂) s tr := by
  obtain ⟨k₁, hk₁, H₁⟩ := h₁
  obtain ⟨k₂, hk₂, H₂⟩ := h₂
  refine ⟨k₂ + k₁, by omega, fun fuel hf st => ?_⟩
  rw [← Nat.add_assoc, H₁ (fuel + k₂) (by omega) st]
  exact H₂ fuel hf st

theorem restore_trace (st : CtlState) (s : St) : ((restore st).run s).2.trace = s.trace := by
  unfold restore
  rw [run_modify]

theorem Fails.step {s se : St} {pre i post} (h : At s pre i post)
    (hx : ∀ f, (exec (f + 1) i).run s = (.error .err, se)) : Fails 1 s se.trace := by
  refine ⟨1, Nat.le_refl _, fun fuel hf st => ?_⟩
  obtain ⟨f, rfl⟩ : ∃ f, fuel = f + 1 := ⟨fuel - 1, by omega⟩
  refine ⟨_, runLoop_step_err h (f + 1) st (hx f), ?_⟩
  exact restore_trace st se

/-- `s'` is `s` moved `n` instructions forward inside the same function, one more value `v`
on the data stack. (What else changed — scopes — is said by `Rel`.) -/
structure Lands (n : Nat) (v : Val) (s s' : St) : Prop where
  fn : fnOf s' s'.curfunc = fnOf s s.curfunc
  pc : s'.pc = s.pc + (n : Int)
  data : s'.data = some v :: s.data

theorem Cur.after {σ σ' : St} {full c Q : List Instr} {k n : Nat} {v : Val} (h : Cur σ full k (c ++ Q))
    (l : Lands n v σ σ') (hn : n = c.length := by rfl) : Cur σ' full (k + c.length) Q :=
  h.skip l.fn (by rw [l.pc, hn])

theorem Seg.move {s s' : St} {pre c post pre' c' post'} (h : Seg s pre c post)
    (hf : fnOf s' s'.curfunc = fnOf s s.curfunc)
    (hc : pre ++ c ++ post = pre' ++ c' ++ post') (hp : s'.pc = (pre'.length : Int)) :
    Seg s' pre' c' post' :=
  ⟨by rw [hf]; exact h.user, by rw [hf, h.code, hc], hp⟩

theorem At.move {s s' : St} {pre c post pre' i' post'} (h : Seg s pre c post)
    (hf : fnOf s' s'.curfunc = fnOf s s.curfunc)
    (hc : pre ++ c ++ post = pre' ++ i' :: post') (hp : s'.pc = (pre'.length : Int)) :
    At s' pre' i' post' :=
  ⟨by rw [hf]; exact h.user, by rw [hf, h.code, hc], hp⟩

/-- The linear scope stack `lin` is the static chain of frame `env`: `env`, its parent, …,
down to the global frame 0 (whose parent is none). Parents are older frames. -/
inductive Chain (frames : List Ref.Frame) : Nat → List (Option Nat) → Prop
  | root (fr : Ref.Frame) : frames[0]? = some fr → fr.parent = none → Chain frames 0 [some 0]
  | cons (env p : Nat) (fr : Ref.Frame) (rest : List (Option Nat)) :
      frames[env]? = some fr → fr.parent = some p → p < env → Chain frames p rest →
      Chain frames env (some env :: rest)

/-- the part of the relation that concerns scopes, heap and trace -/
structure RelCore (s : St) (rs : Ref.St) (env : Nat) : Prop where
  len : s.scopes.length = rs.frames.length
  vars : ∀ i x, (scopeOf s i).vars.lookup x = (rs.frames.getD i {}).vars.lookup x
  nofn : ∀ i, (scopeOf s i).isFunction = false
  chain : Chain rs.frames env s.linear
  heap : s.heap = rs.heap
  trace : s.trace = rs.trace

/-- … and the current function is a top-level one: no parent, closing over the global scope only -/
structure Rel (s : St) (rs : Ref.St) (env : Nat) : Prop extends RelCore s rs env where
  fnpar : (fnOf s s.curfunc).parent = none
  fnclo : (fnOf s s.curfunc).closing = [some 0]

theorem Chain.head {frames env lin} (h : Chain frames env lin) : ∃ rest, lin = some env :: rest := by
  cases h with
  | root => exact ⟨[], rfl⟩
  | cons _ _ _ rest => exact ⟨rest, rfl⟩

theorem lt_of_getElem?_some {α} {l : List α} {i : Nat} {a : α} (h : l[i]? = some a) : i < l.length :=
  (List.getElem?_eq_some_iff.mp h).1

theorem Chain.lt {frames env lin} (h : Chain frames env lin) : env < frames.length := by
  cases h with
  | root fr h0 _ => exact lt_of_getElem?_some h0
  | cons _ p fr rest h0 _ _ _ => exact lt_of_getElem?_some h0

/-- Stage 1 of `LexicalLookupSymbol` over a chain of non-function scopes is the walk along
the static chain (any fuel that covers the chain; `checkCaptures` is irrelevant). -/
theorem lookupUntilFn_chain {s : St} {rs : Ref.St}
    (hvars : ∀ i x, (scopeOf s i).vars.lookup x = (rs.frames.getD i {}).vars.lookup x)
    (hnofn : ∀ i, (scopeOf s i).isFunction = false) (x : String) (cc : Bool) :
    ∀ {env lin}, Chain rs.frames env lin → ∀ fuel, env + 1 ≤ fuel →
      lookupUntilFn s x cc lin = Ref.lookupIn rs.frames fuel env x := by
  intro env lin h
  induction h with
  | root fr h0 hp =>
    intro fuel hf
    obtain ⟨f, rfl⟩ : ∃ f, fuel = f + 1 := ⟨fuel - 1, by omega⟩
    have hv := hvars 0 x
    rw [List.getD_eq_getElem?_getD, h0, Option.getD_some] at hv
    simp only [lookupUntilFn, Ref.lookupIn, h0, hv, hnofn 0, hp]
    cases fr.vars.lookup x <;> rfl
  | cons env p fr rest h0 hp hlt _ ih =>
    intro fuel hf
    obtain ⟨f, rfl⟩ : ∃ f, fuel = f + 1 := ⟨fuel - 1, by omega⟩
    have hv := hvars env x
    rw [List.getD_eq_getElem?_getD, h0, Option.getD_some] at hv
    simp only [lookupUntilFn, Ref.lookupIn, h0, hv, hnofn env, hp]
    cases fr.vars.lookup x with
    | some v => rfl
    | none => exact ih f (by omega)

/-- a chain ends in the global scope: what stage 1 does not find is not in scope 0 either -/
theorem lookupUntilFn_chain_none {s : St} {frames} (x : String) (cc : Bool)
    (hnofn : ∀ i, (scopeOf s i).isFunction = false) :
    ∀ {env lin}, Chain frames env lin → lookupUntilFn s x cc lin = none →
      (scopeOf s 0).vars.lookup x = none := by
  intro env lin h
  induction h with
  | root fr _ _ =>
    intro hn
    simp only [lookupUntilFn, hnofn 0] at hn
    cases hl : (scopeOf s 0).vars.lookup x with
    | none => rfl
    | some v => rw [hl] at hn; cases hn
  | cons env p fr rest _ _ _ _ ih =>
    intro hn
    simp only [lookupUntilFn, hnofn env] at hn
    cases hl : (scopeOf s env).vars.lookup x with
    | none => rw [hl] at hn; exact ih hn
    | some v => rw [hl] at hn; cases hn

/-- stage 1 (and stage 3) of `LexicalLookupSymbol` is the reference lookup -/
theorem RelCore.stage1 {s rs env} (h : RelCore s rs env) (x : String) (cc : Bool) :
    lookupUntilFn s x cc s.linear = Ref.lookup rs env x :=
  lookupUntilFn_chain h.vars h.nofn x cc h.chain _ (by have := h.chain.lt; omega)

theorem Rel.lexLookup {s rs env} (h : Rel s rs env) (x : String) :
    lexLookup s x = Ref.lookup rs env x := by
  have h1 := h.toRelCore.stage1 x
  unfold VM.lexLookup
  rw [h1 false]
  cases hl : Ref.lookup rs env x with
  | some r => rfl
  | none =>
    have h0 := lookupUntilFn_chain_none x false h.nofn h.chain (by rw [h1 false, hl])
    simp only [h.fnpar, Option.isSome_none, Bool.false_eq_true, if_false, h.fnclo, lookupUntilFn, h0, h.nofn 0,
      h1 true, hl]

theorem RelCore.jmp {s rs env} (h : RelCore s rs env) (p : Int) (d : List (Option Val)) : RelCore (s.jmp p d) rs env :=
  ⟨h.len, h.vars, h.nofn, h.chain, h.heap, h.trace⟩

theorem Rel.jmp {s rs env} (h : Rel s rs env) (p : Int) (d : List (Option Val)) : Rel (s.jmp p d) rs env :=
  ⟨h.toRelCore.jmp p d, h.fnpar, h.fnclo⟩

/-! lookups read the scope table, the function table, the linear stack and `curfunc` only -/

theorem lookupWhole_congr {s s' : St} (hs : s'.scopes = s.scopes) (x : String) :
    ∀ l, lookupWhole s' x l = lookupWhole s x l
  | [] => rfl
  | none :: rest => by simp only [lookupWhole]; exact lookupWhole_congr hs x rest
  | some id :: rest => by
    simp only [lookupWhole, scopeOf, hs]
    rw [lookupWhole_congr hs x rest]

theorem lookupUntilFn_congr {s s' : St} (hs : s'.scopes = s.scopes) (hf : s'.fns = s.fns) (x : String) (cc : Bool) :
    ∀ l, lookupUntilFn s' x cc l = lookupUntilFn s x cc l
  | [] => rfl
  | none :: rest => by simp only [lookupUntilFn]; exact lookupUntilFn_congr hs hf x cc rest
  | some id :: rest => by
    simp only [lookupUntilFn, scopeOf, fnOf, hs, hf]
    rw [lookupUntilFn_congr hs hf x cc rest]
    have : ∀ l, lookupWhole s' x l = lookupWhole s x l := lookupWhole_congr hs x
    simp only [this]
    rfl

theorem lookupChain_congr {s s' : St} (hs : s'.scopes = s.scopes) (hf : s'.fns = s.fns) (x : String) :
    ∀ fuel cur, lookupChain s' x fuel cur = lookupChain s x fuel cur
  | 0, _ => rfl
  | fuel + 1, cur => by
    simp only [lookupChain, fnOf, hf]
    rw [lookupUntilFn_congr hs hf]
    simp only [lookupChain_congr hs hf x fuel]

theorem lexLookup_congr {s s' : St} (hs : s'.scopes = s.scopes) (hf : s'.fns = s.fns)
    (hl : s'.linear = s.linear) (hc : s'.curfunc = s.curfunc) (x : String) :
    lexLookup s' x = lexLookup s x := by
  unfold VM.lexLookup
  simp only [fnOf, hf, hl, hc, lookupUntilFn_congr hs hf, lookupChain_congr hs hf]
  rfl

theorem lexLookup_jmp (s : St) (p : Int) (d : List (Option Val)) (x : String) :
    lexLookup (s.jmp p d) x = lexLookup s x :=
  lexLookup_congr (s := s) (s' := s.jmp p d) rfl rfl rfl rfl x

theorem assocSet_eq (l : List (String × Val)) (x : String) (v : Val) : Ref.assocSet l x v = VM.assocSet l x v := rfl

theorem Chain.set_vars {frames : List Ref.Frame} {id : Nat} {fr0 : Ref.Frame} (h0 : frames[id]? = some fr0)
    (vars : List (String × Val)) :
    ∀ {env lin}, Chain frames env lin → Chain (frames.set id { fr0 with vars := vars }) env lin := by
  intro env lin h
  induction h with
  | root fr hf hp =>
    by_cases hid : id = 0
    · subst hid
      rw [hf] at h0; cases h0
      exact Chain.root { fr0 with vars := vars } (List.getElem?_set_self (lt_of_getElem?_some hf)) hp
    · exact Chain.root fr (by rw [List.getElem?_set_ne hid]; exact hf) hp
  | cons env p fr rest hf hp hlt _ ih =>
    by_cases hid : id = env
    · subst hid
      rw [hf] at h0; cases h0
      exact Chain.cons id p { fr0 with vars := vars } rest
        (List.getElem?_set_self (lt_of_getElem?_some hf)) hp hlt ih
    · exact Chain.cons env p fr rest (by rw [List.getElem?_set_ne hid]; exact hf) hp hlt ih

theorem scopeOf_bind (s : St) (id : Nat) (x : String) (v : Val) (i : Nat) :
    scopeOf (s.bind id x v) i =
      if i = id ∧ id < s.scopes.length then { scopeOf s id with vars := VM.assocSet (scopeOf s id).vars x v }
      else scopeOf s i := by
  show (List.set s.scopes id _).getD i {} = _
  simp only [List.getD_eq_getElem?_getD, List.getElem?_set]
  by_cases hi : id = i
  · subst hi
    by_cases hl : id < s.scopes.length
    · have : scopeOf s id = s.scopes[id] := by simp [scopeOf, hl]
      simp [hl, this]
    · simp [hl, scopeOf]
  · have : ¬ i = id := fun h => hi h.symm
    simp [hi, this, scopeOf]

/-- what `setVar` does to the bindings of every frame (the reference side of `scopeOf_bind`) -/
theorem lookup_setVar (rs : Ref.St) (id : Nat) (x : String) (v : Val) (i : Nat) (y : String) :
    ((Ref.setVar rs id x v).frames.getD i {}).vars.lookup y =
      if i = id ∧ id < rs.frames.length ∧ (y == x) = true then some v else (rs.frames.getD i {}).vars.lookup y := by
  unfold Ref.setVar
  cases hid : rs.frames[id]? with
  | none =>
    have : ¬ id < rs.frames.length := fun h => by rw [List.getElem?_eq_getElem h] at hid; cases hid
    simp only [this, false_and, and_false, if_false]
  | some fr0 =>
    have hlt := lt_of_getElem?_some hid
    simp only [List.getD_eq_getElem?_getD, List.getElem?_set]
    by_cases hi : id = i
    · subst hi
      simp only [hlt, if_true, Option.getD_some, hid, assocSet_eq, lookup_assocSet, true_and]
    · have hi' : ¬ i = id := fun e => hi e.symm
      simp only [hi, hi', if_false, false_and]

theorem RelCore.bind {s rs env} (h : RelCore s rs env) (id : Nat) (hid : id < rs.frames.length) (x : String) (v : Val) :
    RelCore (s.bind id x v) (Ref.setVar rs id x v) env := by
  obtain ⟨fr, hfr⟩ : ∃ fr, rs.frames[id]? = some fr := ⟨rs.frames[id], by simp [hid]⟩
  have hset : Ref.setVar rs id x v = { rs with frames := rs.frames.set id { fr with vars := VM.assocSet fr.vars x v } } := by
    unfold Ref.setVar; rw [hfr]; rfl
  have hlen : id < s.scopes.length := by rw [h.len]; exact hid
  rw [hset]
  refine ⟨?_, ?_, ?_, ?_, h.heap, h.trace⟩
  · show (s.scopes.set id _).length = (rs.frames.set id _).length
    simp [h.len]
  · intro i y
    rw [← hset, scopeOf_bind, lookup_setVar]
    by_cases hi : i = id
    · subst hi
      simp only [hlen, hid, and_self, true_and, if_true, lookup_assocSet, h.vars i y]
    · simp only [hi, false_and, if_false]; exact h.vars i y
  · intro i
    rw [scopeOf_bind]
    split
    · exact h.nofn id
    · exact h.nofn i
  · exact Chain.set_vars hfr _ h.chain

theorem Rel.bind {s rs env} (h : Rel s rs env) (id : Nat) (hid : id < rs.frames.length) (x : String) (v : Val) :
    Rel (s.bind id x v) (Ref.setVar rs id x v) env :=
  ⟨h.toRelCore.bind id hid x v, h.fnpar, h.fnclo⟩

/-- `rs'` extends `rs`: every frame of `rs` is still there with the same parent. -/
def FramesExt (rs rs' : Ref.St) : Prop :=
  ∀ (i : Nat) (fr : Ref.Frame), rs.frames[i]? = some fr →
    ∃ fr' : Ref.Frame, rs'.frames[i]? = some fr' ∧ fr'.parent = fr.parent

theorem FramesExt.refl (rs : Ref.St) : FramesExt rs rs := fun _ fr h => ⟨fr, h, rfl⟩

theorem FramesExt.trans {a b c : Ref.St} (h₁ : FramesExt a b) (h₂ : FramesExt b c) : FramesExt a c := by
  intro i fr h
  obtain ⟨fr', h', hp'⟩ := h₁ i fr h
  obtain ⟨fr'', h'', hp''⟩ := h₂ i fr' h'
  exact ⟨fr'', h'', hp''.trans hp'⟩

theorem FramesExt.setVar (rs : Ref.St) (id : Nat) (x : String) (v : Val) : FramesExt rs (Ref.setVar rs id x v) := by
  intro i fr h
  unfold Ref.setVar
  cases hid : rs.frames[id]? with
  | none => exact ⟨fr, h, rfl⟩
  | some fr0 =>
    simp only
    by_cases hi : id = i
    · subst hi
      rw [hid] at h; cases h
      exact ⟨_, List.getElem?_set_self (lt_of_getElem?_some hid), rfl⟩
    · exact ⟨fr, by rw [List.getElem?_set_ne hi]; exact h, rfl⟩

theorem FramesExt.newFrame (rs : Ref.St) (env : Nat) : FramesExt rs (Ref.newFrame rs env).2 := by
  intro i fr h
  refine ⟨fr, ?_, rfl⟩
  show (rs.frames ++ [_])[i]? = some fr
  rw [List.getElem?_append_left (lt_of_getElem?_some h)]; exact h

theorem FramesExt.trace_irrel {rs rs' : Ref.St} (h : FramesExt rs rs') (tr : List String) :
    FramesExt { rs with trace := tr } rs' := h

theorem Chain.ext {frames frames' : List Ref.Frame}
    (hext : ∀ (i : Nat) (fr : Ref.Frame), frames[i]? = some fr →
      ∃ fr' : Ref.Frame, frames'[i]? = some fr' ∧ fr'.parent = fr.parent) :
    ∀ {env lin}, Chain frames env lin → Chain frames' env lin := by
  intro env lin h
  induction h with
  | root fr hf hp =>
    obtain ⟨fr', hf', hp'⟩ := hext 0 fr hf
    exact Chain.root fr' hf' (hp'.trans hp)
  | cons env p fr rest hf hp hlt _ ih =>
    obtain ⟨fr', hf', hp'⟩ := hext env fr hf
    exact Chain.cons env p fr' rest hf' (hp'.trans hp) hlt ih

/-- what `RemoveScopeInstr` does (on a non-empty scope stack) -/
def _root_.ZygoVerif.VM.St.popScope (s : St) : St :=
  { s with pc := s.pc + 1, linear := s.linear.tail }

theorem scopeOf_pushScope (s : St) (i : Nat) :
    scopeOf s.pushScope i = if i < s.scopes.length then scopeOf s i else {} := by
  show (s.scopes ++ [({} : Scope)]).getD i {} = _
  simp only [List.getD_eq_getElem?_getD, scopeOf]
  by_cases hi : i < s.scopes.length
  · rw [List.getElem?_append_left hi, if_pos hi]
  · rw [if_neg hi]
    by_cases hi' : i = s.scopes.length
    · subst hi'; simp
    · rw [List.getElem?_eq_none (by simp; omega)]; rfl

/-- the frames after `newFrame` (the reference side of `scopeOf_pushScope`) -/
theorem getD_newFrame (rs : Ref.St) (env i : Nat) :
    (Ref.newFrame rs env).2.frames.getD i {} =
      if i < rs.frames.length then rs.frames.getD i {} else if i = rs.frames.length then { parent := some env } else {} := by
  show (rs.frames ++ [({ parent := some env } : Ref.Frame)]).getD i {} = _
  simp only [List.getD_eq_getElem?_getD]
  by_cases hi : i < rs.frames.length
  · rw [List.getElem?_append_left hi, if_pos hi]
  · rw [if_neg hi]
    by_cases hi' : i = rs.frames.length
    · subst hi'; simp
    · rw [List.getElem?_eq_none (by simp; omega), if_neg hi']; rfl

/-- `addScope` on the VM, `newFrame` in the reference evaluator -/
theorem RelCore.pushScope {s rs env} (h : RelCore s rs env) :
    RelCore s.pushScope (Ref.newFrame rs env).2 rs.frames.length := by
  have hlt := h.chain.lt
  refine ⟨?_, ?_, ?_, ?_, h.heap, h.trace⟩
  · show (s.scopes ++ [_]).length = (rs.frames ++ [_]).length
    simp [h.len]
  · intro i x
    rw [scopeOf_pushScope, getD_newFrame, h.len]
    split
    · exact h.vars i x
    · split <;> rfl
  · intro i
    rw [scopeOf_pushScope]
    split
    · exact h.nofn i
    · rfl
  · show Chain (rs.frames ++ [_]) rs.frames.length (some s.scopes.length :: s.linear)
    rw [h.len]
    refine Chain.cons rs.frames.length env { parent := some env } s.linear (by simp) rfl hlt ?_
    exact Chain.ext (FramesExt.newFrame rs env) h.chain

theorem Chain.tail {frames : List Ref.Frame} {fr env : Nat} {lin : List (Option Nat)} (h : Chain frames fr lin)
    (f : Ref.Frame) (hf : frames[fr]? = some f) (hp : f.parent = some env) : Chain frames env lin.tail := by
  cases h with
  | root fr0 h0 hp0 => rw [hf] at h0; cases h0; rw [hp] at hp0; cases hp0
  | cons _ p fr0 rest h0 hp0 hlt hrest =>
    rw [hf] at h0; cases h0
    rw [hp] at hp0; cases hp0
    exact hrest

/-- `removeScope`: back in the parent environment -/
theorem RelCore.popScope {s rs fr env} (h : RelCore s rs fr) (f : Ref.Frame) (hf : rs.frames[fr]? = some f)
    (hp : f.parent = some env) : RelCore s.popScope rs env :=
  ⟨h.len, h.vars, h.nofn, h.chain.tail f hf hp, h.heap, h.trace⟩

theorem Rel.pushScope {s rs env} (h : Rel s rs env) :
    Rel s.pushScope (Ref.newFrame rs env).2 rs.frames.length :=
  ⟨h.toRelCore.pushScope, h.fnpar, h.fnclo⟩

theorem Rel.popScope {s rs fr env} (h : Rel s rs fr) (f : Ref.Frame) (hf : rs.frames[fr]? = some f)
    (hp : f.parent = some env) : Rel s.popScope rs env :=
  ⟨h.toRelCore.popScope f hf hp, h.fnpar, h.fnclo⟩

end ZygoVerif.Sim
