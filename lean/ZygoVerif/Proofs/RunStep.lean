/-
One instruction of the top activation, other than a call or `ret`:
executed successfully from a state that satisfies the run-time invariant (`WF`, `Running`), it
leaves a state that satisfies it (`exec_simple_ok`). The step of the stack-effect machine comes
from Proofs/VMRefine.lean; the side conditions of those lemmas (no mark is bound to a name, the
guard's target lies in the function, `break` lands at a non-negative pc, …) are discharged here
from the checker's annotation and the table invariant; the state the instruction leaves is read
off `VM.step`, once per case.
-/
import ZygoVerif.Proofs.RunInv
import ZygoVerif.Proofs.VMBody
namespace ZygoVerif.RunInv
open ZygoVerif.Core ZygoVerif.VM ZygoVerif.Bal ZygoVerif.Refine ZygoVerif.Contain
open ZygoVerif.Scope (setVarSt)


def StoredIn (s : St) (v : Val) : Prop := ∃ sc ∈ s.scopes, ∃ p ∈ sc.vars, p.2 = v

theorem scopeOf_stored {s : St} {id : Nat} {x : String} {v : Val} (h : (scopeOf s id).vars.lookup x = some v) :
    StoredIn s v := by
  unfold scopeOf at h
  rw [List.getD_eq_getElem?_getD] at h
  cases hs : s.scopes[id]? with
  | none => rw [hs] at h; simp at h
  | some sc =>
    rw [hs] at h
    obtain ⟨l1, l2, hl, _⟩ := List.lookup_eq_some_iff.mp h
    exact ⟨sc, List.mem_of_getElem? hs, (x, v), by rw [show sc.vars = _ from hl]; simp, rfl⟩

theorem lexLookup_stored {s : St} {x : String} {id : Nat} {v : Val} (h : lexLookup s x = some (id, v)) : StoredIn s v :=
  let ⟨_, _, _, _, hv⟩ := Scope.firstBinding_some (Scope.lexLookup_eq s x ▸ h)
  scopeOf_stored hv

theorem WF.stored {s : St} (h : WF s) {v : Val} (hv : StoredIn s v) : vok s.fns.length v = true := by
  obtain ⟨sc, hsc, p, hp, rfl⟩ := hv
  exact h.scopes sc hsc p hp


theorem Running.fetchB {b : Base} {s : St} {top : Act} {rest : List Act} (h : Running b s top rest) {i : Instr}
    (hf : (fnOf s s.curfunc).code[s.pc.toNat]? = some i) :
    (fnB s top.f).code[(absC s).pc]? = some (toB s.loops i) := by
  rw [← h.cur]; exact Refine.fetchB hf

theorem Running.astep {b : Base} {s : St} {top : Act} {rest : List Act} (h : Running b s top rest) {i : Instr}
    (hf : (fnOf s s.curfunc).code[s.pc.toNat]? = some i) :
    ∃ a succs, Desc top.D top.S top.A a (absC s) ∧
      astep (fnB s top.f) s.pc.toNat (toB s.loops i) a = .ok succs := by
  obtain ⟨a, hann, hd⟩ := inv_iff.mp h.inv
  obtain ⟨_, succs, hs, _⟩ := h.ok.step.step _ a _ hann (h.fetchB hf)
  exact ⟨a, succs, hd, hs⟩

/-- an instruction that pops `p` operands finds `p` ordinary values on top -/
theorem Running.top_vals {b : Base} {s : St} {top : Act} {rest : List Act} (h : Running b s top rest) {i : Instr}
    (hf : (fnOf s s.curfunc).code[s.pc.toNat]? = some i) {p m : Nat} (he : eff (toB s.loops i) = .simple p m) :
    ∃ tail, s.data.map cellOf = List.replicate p .val ++ tail := by
  obtain ⟨a, succs, hd, hs⟩ := h.astep hf
  simp only [Bal.astep, he] at hs
  split at hs
  · rename_i a' hp
    obtain ⟨tail, ht, _⟩ := hd.1.popPush_ex hp
    exact ⟨tail, ht⟩
  · cases hs

theorem Running.instrOK {b : Base} {s : St} {top : Act} {rest : List Act} (h : Running b s top rest) {i : Instr}
    (hf : (fnOf s s.curfunc).code[s.pc.toNat]? = some i) : instrOK (szS s) i = true := by
  have := h.ok.code
  rw [← h.cur] at this
  exact this i (List.mem_of_getElem? hf)


theorem WF.mk' {s s' : St} (h : WF s) (he : TExt s s')
    (hnew : ∀ id, s.fns.length ≤ id → id < s'.fns.length → FnGood s' id)
    (hls : s'.loopstack = [])
    (hsc : ∀ sc ∈ s'.scopes, ∀ p ∈ sc.vars, vok s'.fns.length p.2 = true)
    (hh : ∀ a ∈ s'.heap.arrs, ∀ v ∈ a, vok s'.fns.length v = true)
    (hlz : ∀ lz ∈ s'.lazies, okL lz.e = true ∧ ∀ v, lz.value = some v → vok s'.fns.length v = true)
    (hd : ∀ c ∈ s'.data, cellOK s'.fns.length c) : WF s' := by
  refine ⟨?_, Nat.le_trans h.two he.fns_len, hls, hsc, hh, hlz, hd⟩
  intro id h2 hlt
  rcases Nat.lt_or_ge id s.fns.length with hid | hid
  · exact (h.fns id h2 hid).ext he hid
  · exact hnew id hid hlt

theorem cells_cons {n : Nat} {c : Option Val} {d : List (Option Val)} (hc : cellOK n c) (hd : ∀ x ∈ d, cellOK n x) :
    ∀ x ∈ c :: d, cellOK n x := by
  intro x hx
  rcases List.mem_cons.mp hx with rfl | hx
  · exact hc
  · exact hd x hx

/-- the table invariant reads the tables and the data cells only: not the other stacks, the
registers, the trace -/
theorem WF.same {s s' : St} (h : WF s) (hd : ∀ c ∈ s'.data, cellOK s.fns.length c)
    (h1 : s'.fns = s.fns := by rfl) (h2 : s'.loops = s.loops := by rfl) (h3 : s'.loopstack = s.loopstack := by rfl)
    (h4 : s'.scopes = s.scopes := by rfl) (h5 : s'.heap = s.heap := by rfl) (h6 : s'.lazies = s.lazies := by rfl) : WF s' :=
  h.mk' (TExt.same h1 h2) (fun id a b => absurd b (by rw [h1]; exact Nat.not_lt.mpr a)) (h3.trans h.loopstack)
    (by rw [h4, h1]; exact h.scopes) (by rw [h5, h1]; exact h.heap) (by rw [h6, h1]; exact h.lazies) (by rw [h1]; exact hd)

theorem WF.setData {s : St} (h : WF s) (d : List (Option Val)) (pc : Int) (hd : ∀ c ∈ d, cellOK s.fns.length c) :
    WF { s with data := d, pc := pc } :=
  h.same hd

theorem WF.setPc {s : St} (h : WF s) (pc : Int) : WF { s with pc := pc } :=
  h.same h.data

theorem WF.data_tail {s : St} (h : WF s) {c : Option Val} {rest : List (Option Val)} (hd : s.data = c :: rest) :
    ∀ x ∈ rest, cellOK s.fns.length x := fun x hx => h.data x (by rw [hd]; exact List.mem_cons_of_mem _ hx)

theorem WF.data_head {s : St} (h : WF s) {c : Option Val} {rest : List (Option Val)} (hd : s.data = c :: rest) :
    cellOK s.fns.length c := h.data c (by rw [hd]; exact List.mem_cons_self)

theorem assocSet_mem (l : List (String × Val)) (x : String) (v : Val) : ∀ p ∈ assocSet l x v, p ∈ l ∨ p = (x, v) := by
  intro p hp
  unfold assocSet at hp
  split at hp
  · simp only [List.mem_map] at hp
    obtain ⟨q, hq, rfl⟩ := hp
    split
    · right; rfl
    · left; exact hq
  · simp only [List.mem_cons] at hp
    rcases hp with rfl | hp
    · right; rfl
    · left; exact hp

theorem WF.setVar {s : St} (h : WF s) (id : Nat) (x : String) (v : Val) (hv : vok s.fns.length v = true) :
    WF (setVarSt s id x v) := by
  refine h.mk' (TExt.same rfl rfl) (fun id h1 h2 => absurd h2 (Nat.not_lt.mpr h1)) h.loopstack ?_ h.heap h.lazies h.data
  intro sc hsc' p hp
  rcases List.mem_or_eq_of_mem_set hsc' with hm | rfl
  · exact h.scopes sc hm p hp
  · rcases assocSet_mem _ x v p hp with hm | rfl
    · unfold scopeOf at hm
      rw [List.getD_eq_getElem?_getD] at hm
      cases hs : s.scopes[id]? with
      | none => rw [hs] at hm; simp at hm
      | some sc0 =>
        rw [hs] at hm
        exact h.scopes sc0 (List.mem_of_getElem? hs) p hm
    · exact hv


structure StepRes (b : Base) (s s' : St) (top : Act) (rest : List Act) : Prop where
  wf : WF s'
  ext : TExt s s'
  run : Running b s' top rest
  susp : s'.suspended = s.suspended

theorem finish_step {b : Base} {s s' : St} {top : Act} {rest : List Act} (hr : Running b s top rest)
    (hw' : WF s') (he : TExt s s') (hc : CStep (fnB s s.curfunc) (absC s) (absC s'))
    (hcur : s'.curfunc = s.curfunc) (haddr : s'.addr = s.addr) (hpc : 0 ≤ s'.pc)
    (hlin : s'.linear = s.linear ∨ (∃ x, s'.linear = x :: s.linear) ∨ (∃ k, s'.linear = s.linear.drop k))
    (hsusp : s'.suspended = s.suspended) : StepRes b s s' top rest := by
  rw [hr.cur] at hc
  have hinv' := inv_step_s _ _ hr.ok.step _ _ _ _ _ hr.inv hc
  have hdepth : b.linear.length ≤ s'.linear.length := by
    obtain ⟨a', _, _, _, _, hsc, _⟩ := hinv'
    have := Chain.depth _ _ _ _ hr.chain
    have hsc' : s'.linear.length = top.S + a'.k := hsc
    omega
  have hsuf : b.linear <:+ s'.linear := by
    rcases hlin with h | ⟨x, h⟩ | ⟨k, h⟩
    · rw [h]; exact hr.lin
    · rw [h]; exact List.IsSuffix.trans hr.lin (List.suffix_cons _ _)
    · rw [h] at hdepth ⊢
      exact suffix_of_drop k hr.lin hdepth
  exact ⟨hw', he, hr.step hc hcur haddr hpc he hsuf, hsusp⟩

theorem step_data {b : Base} {s s' : St} {top : Act} {rest : List Act} (hw : WF s) (hr : Running b s top rest)
    (hc : CStep (fnB s s.curfunc) (absC s) (absC s')) (d : List (Option Val)) (pc : Int)
    (hs' : s' = { s with data := d, pc := pc }) (hd : ∀ c ∈ d, cellOK s.fns.length c) (hpc : 0 ≤ pc) :
    StepRes b s s' top rest := by
  subst hs'
  exact finish_step hr (hw.setData d pc hd) (TExt.same rfl rfl) hc rfl rfl hpc (Or.inl rfl) rfl

theorem litVal_vok {n : Nat} {v : Val} (h : litVal v = true) : vok n v = true := by
  cases v <;> first | rfl | simp [litVal] at h

theorem vok_mkList {n : Nat} (vs : List Val) (h : ∀ v ∈ vs, vok n v = true) : vok n (mkList vs) = true :=
  (vok_valPred n).mkList vs h

/-- the cells of `d` that the checker sees as values, read as values, are storable -/
theorem vals_vok {n : Nat} : ∀ (d : List (Option Val)) (vs : List Val), d.mapM id = some vs →
    (∀ c ∈ d, cellOK n c) → (∀ c ∈ d.map cellOf, c = Cell.val) → ∀ v ∈ vs, vok n v = true
  | [], vs, h, _, _ => by simp at h; subst h; intro v hv; cases hv
  | c :: d, vs, h, hc, hv => by
    cases c with
    | none => simp [List.mapM_cons] at h
    | some w =>
      simp only [List.mapM_cons, id, Option.bind_eq_bind, Option.bind_some] at h
      cases hm : d.mapM id with
      | none => rw [hm] at h; simp at h
      | some ws =>
        rw [hm] at h
        simp only [Option.bind_some, Option.pure_def, Option.some.injEq] at h
        subst h
        intro v hvm
        rcases List.mem_cons.mp hvm with rfl | hvm
        · exact vok_of_cell (hc _ (by simp)) (hv _ (by simp))
        · exact vals_vok d ws hm (fun x hx => hc x (by simp [hx])) (fun x hx => hv x (by simp [hx])) v hvm


/-- the list `wrangleRes` packs is storable when the surplus operands are values -/
theorem WF.wrangled {s : St} (hw : WF s) {a b : Nat} {d' : List (Option Val)} {tail : List Cell}
    (h : wrangleRes a b s.data = (.ok (), d')) (htv : s.data.map cellOf = List.replicate (b - a) .val ++ tail) :
    (∀ c ∈ d', cellOK s.fns.length c) ∧ d'.map cellOf = .val :: tail := by
  obtain ⟨_, _, vs, hm, rfl⟩ := wrangleRes_ok h
  have htake : (s.data.take (b - a)).map cellOf = List.replicate (b - a) Cell.val := by
    rw [List.map_take, htv, List.take_left' (by simp)]
  have hvs : ∀ v ∈ vs, vok s.fns.length v = true :=
    vals_vok _ vs hm (fun c hcm => hw.data c (List.mem_of_mem_take hcm)) fun c hcm => List.eq_of_mem_replicate (htake ▸ hcm)
  refine ⟨cells_cons (cellOK_of_vok (vok_mkList _ fun v hv' => hvs v (List.mem_reverse.mp hv')))
    fun c hcm => hw.data c (List.mem_of_mem_drop hcm), ?_⟩
  rw [List.map_cons, cellOf_plain (plain_mkList _), List.map_drop, htv, List.drop_left' (by simp)]


/-- the table invariant when function objects are appended and stored values stay or are storable -/
theorem WF.grow {s s' : St} (h : WF s) (he : TExt s s')
    (hnew : ∀ id, s.fns.length ≤ id → id < s'.fns.length → FnGood s' id)
    (hls : s'.loopstack = s.loopstack) (hsc : s'.scopes = s.scopes) (hh : s'.heap = s.heap)
    (hlz : ∀ lz ∈ s'.lazies, lz ∈ s.lazies ∨ (okL lz.e = true ∧ ∀ v, lz.value = some v → vok s'.fns.length v = true))
    (hd : ∀ c ∈ s'.data, c ∈ s.data ∨ cellOK s'.fns.length c) : WF s' := by
  have hle := he.fns_len
  refine h.mk' he hnew (by rw [hls]; exact h.loopstack) ?_ ?_ ?_ ?_
  · rw [hsc]; intro sc hsc' p hp; exact vok_mono hle _ (h.scopes sc hsc' p hp)
  · rw [hh]; intro a ha v hv; exact vok_mono hle _ (h.heap a ha v hv)
  · intro lz hlzm
    rcases hlz lz hlzm with hm | hn
    · exact ⟨(h.lazies lz hm).1, fun v hv => vok_mono hle _ ((h.lazies lz hm).2 v hv)⟩
    · exact hn
  · intro c hcm
    rcases hd c hcm with hm | hn
    · exact cellOK_mono hle c (h.data c hm)
    · exact hn

theorem WF.pushScope {s : St} (h : WF s) (sc : Scope) (hsc : sc.vars = []) (pc : Int) :
    WF { s with scopes := s.scopes ++ [sc], linear := some s.scopes.length :: s.linear, pc := pc } := by
  refine h.mk' (TExt.same rfl rfl) (fun id h1 h2 => absurd h2 (Nat.not_lt.mpr h1)) h.loopstack ?_ h.heap h.lazies h.data
  intro sc' hsc' p hp
  rcases List.mem_append.mp hsc' with hm | hm
  · exact h.scopes sc' hm p hp
  · simp only [List.mem_cons, List.mem_nil_iff, or_false] at hm
    rw [hm, hsc] at hp; cases hp

theorem wf_allocThunk {s : St} (hw : WF s) {e : Expr} (hok : okL e = true) : WF (C16.allocThunk e s) := by
  refine hw.grow (TExt.same rfl rfl) (fun j h1 h2 => absurd h2 (Nat.not_lt.mpr h1)) rfl rfl rfl ?_ ?_
  · intro lz hlz
    rcases List.mem_append.mp hlz with hm | hm
    · left; exact hm
    · right
      simp at hm; subst hm
      exact ⟨hok, fun v hv => by cases hv⟩
  · intro c hcm
    rcases List.mem_cons.mp hcm with rfl | hcm
    · right; trivial
    · left; exact hcm

/-- a closure is a copy of its template -/
theorem fnGood_copy {s s' : St} {t id : Nat} (hg : FnGood s t) (hl : s'.loops = s.loops) (hsz : (szS s).le (szS s'))
    {cl : List (Option Nat)} {pr : Option Nat}
    (hfo : fnOf s' id = ({ fnOf s t with closing := cl, parent := pr } : FnObj)) : FnGood s' id := by
  refine ⟨by rw [hfo]; exact hg.user, by rw [hfo]; exact hg.sig, by rw [hfo]; exact hg.code.mono hsz, ?_⟩
  obtain ⟨ann, hv⟩ := hg.verified
  refine ⟨ann, ?_⟩
  have : fnB s' id = fnB s t := by simp only [fnB, hfo, hl]
  rw [this]; exact hv

/-- `prepareCall` of a variadic function finds the surplus operands, ordinary values, on top -/
theorem Running.top_vals_prep {b : Base} {s : St} {top : Act} {rest : List Act} (h : Running b s top rest) {x : String} {k : Nat}
    (hf : (fnOf s s.curfunc).code[s.pc.toNat]? = some (.prepareCall x k)) (hv : (fnOf s s.curfunc).varargs = true) :
    ∃ tail, s.data.map cellOf = List.replicate (k - (fnOf s s.curfunc).nargs) .val ++ tail := by
  obtain ⟨a, succs, hd, hs⟩ := h.astep hf
  have hva : (fnB s top.f).varargs = true := by rw [← h.cur]; exact hv
  have hnf : (fnB s top.f).nfixed = (fnOf s s.curfunc).nargs := by rw [← h.cur]; rfl
  simp only [Bal.astep, toB, eff, hva, if_true] at hs
  split at hs
  · split at hs
    · rename_i a' hp
      obtain ⟨tail, ht, _⟩ := hd.1.popPush_ex hp
      exact ⟨tail, hnf ▸ ht⟩
    · cases hs
  · cases hs

theorem Running.exit_pc {b : Base} {s : St} {top : Act} {rest : List Act} (h : Running b s top rest) {i : Instr}
    (hf : (fnOf s s.curfunc).code[s.pc.toNat]? = some i) {l : Nat} {off : Int} {k pos : Nat}
    (he : eff (toB s.loops i) = .exitLoop l off k) (hp : findLoopStart (fnOf s s.curfunc).code l = some pos) :
    0 ≤ (pos : Int) + off := by
  obtain ⟨a, succs, _, hs⟩ := h.astep hf
  have hlp : loopPos (fnB s top.f).code l = some pos := by
    rw [← h.cur]; show loopPos (B s.loops (fnOf s s.curfunc).code) l = _
    rw [loopPos_B]; exact hp
  simp only [Bal.astep, he, hlp] at hs
  split at hs
  · split at hs
    · split at hs
      · rename_i t ht
        have := target_bound ht
        omega
      · cases hs
    · cases hs
  · cases hs

/-- an operand the checker knows to be a value is storable -/
theorem WF.top_vok {s : St} {v : Val} {rest : List (Option Val)} {tail : List Cell} (hw : WF s)
    (htv : s.data.map cellOf = List.replicate 1 .val ++ tail) (hd : s.data = some v :: rest) : vok s.fns.length v = true := by
  rw [hd] at htv
  exact vok_of_cell (hw.data_head hd) (List.cons.inj htv).1

/-- `break`/`continue` in a `Running` loop: they land at a non-negative pc (`exit_pc`), so the
step of the stack-effect machine exists -/
theorem exit_ok {b : Base} {s s' : St} {top : Act} {rest : List Act} (hw : WF s) (hr : Running b s top rest) {i : Instr}
    (hf : (fnOf s s.curfunc).code[s.pc.toNat]? = some i) {l k : Nat} {off : Int}
    (he : eff (toB s.loops i) = .exitLoop l off k) (hc : 0 ≤ s'.pc → CStep (fnB s s.curfunc) (absC s) (absC s'))
    (h : ∃ pos, findLoopStart (fnOf s s.curfunc).code l = some pos ∧ k ≤ s.linear.length ∧
      s' = { s with linear := s.linear.drop k, pc := (pos : Int) + off }) : StepRes b s s' top rest := by
  obtain ⟨pos, hfl, _, rfl⟩ := h
  have hnn := hr.exit_pc hf he hfl
  refine finish_step hr ?_ (TExt.same rfl rfl) (hc hnn) rfl rfl hnn (Or.inr (Or.inr ⟨k, rfl⟩)) rfl
  exact hw.same hw.data

/-- the instructions that enter or leave an activation -/
def isCall : Instr → Bool
  | .callArr _ => true
  | .callExpr _ _ => true
  | .ret => true
  | _ => false

theorem exec_simple_ok (n : Nat) (b : Base) (s s' : St) (top : Act) (rest : List Act) (i : Instr)
    (hw : WF s) (hr : Running b s top rest) (hf : (fnOf s s.curfunc).code[s.pc.toNat]? = some i)
    (hs : isCall i = false)
    (hex : (exec (n + 1) i).run s = (.ok (), s')) : StepRes b s s' top rest := by
  have hio := hr.instrOK hf
  have hpc := hr.pc
  have hst : step i s = (.ok (), s') :=
    (exec_simple_eq n i s (by cases i <;> first | rfl | cases hs)).symm.trans hex
  -- the instructions that bind a name: the operand is a value (annotation), hence storable
  have bind : ∀ x, i = .popStackPutEnv x ∨ i = .update x → StepRes b s s' top rest := fun x hi => by
    have hc := refines_bind hi n s s' hpc hf hex
    obtain ⟨tail, htv⟩ := hr.top_vals hf (p := 1) (m := 0) (by rcases hi with rfl | rfl <;> rfl)
    obtain ⟨v, rest', id, hd, rfl⟩ := step_bind_ok hi hst
    exact finish_step hr ((hw.setData rest' (s.pc + 1) (hw.data_tail hd)).setVar id x v (hw.top_vok htv hd))
      (TExt.same rfl rfl) hc rfl rfl (Int.le_add_one hpc) (Or.inl rfl) rfl
  cases i with
  | callArr k => cases hs
  | callExpr c a => cases hs
  | ret => cases hs
  | label =>
    have hc := refines_label n s s' hpc hf hex
    cases hst
    exact step_data hw hr hc s.data (s.pc + 1) rfl hw.data (Int.le_add_one hpc)
  | loopStart l =>
    have hc := refines_loopStart l n s s' hpc hf hex
    cases hst
    exact step_data hw hr hc s.data (s.pc + 1) rfl hw.data (Int.le_add_one hpc)
  | push v =>
    simp only [instrOK] at hio
    have hc := refines_push v (vok_plain (litVal_vok (n := 0) hio)) n s s' hpc hf hex
    cases hst
    exact step_data hw hr hc (some v :: s.data) (s.pc + 1) rfl (cells_cons (cellOK_of_vok (litVal_vok hio)) hw.data) (Int.le_add_one hpc)
  | pushMark l =>
    have hc := refines_pushMark l n s s' hpc hf hex
    cases hst
    exact step_data hw hr hc (some (.mark l) :: s.data) (s.pc + 1) rfl (cells_cons trivial hw.data) (Int.le_add_one hpc)
  | pop =>
    have hc := refines_pop n s s' hpc hf hex
    rw [step] at hst
    split at hst <;> cases hst
    · exact step_data hw hr hc [] (s.pc + 1) rfl (by nofun) (Int.le_add_one hpc)
    · rename_i hd
      exact step_data hw hr hc _ (s.pc + 1) rfl (hw.data_tail hd) (Int.le_add_one hpc)
  | dup =>
    have hc := refines_dup n s s' hpc hf hex
    rw [step] at hst
    obtain ⟨v, rest, hd, hst⟩ := popThen_ok hst
    cases hst
    exact step_data hw hr hc (some v :: s.data) (s.pc + 1) rfl (cells_cons (hw.data_head hd) hw.data) (Int.le_add_one hpc)
  | envToStack x =>
    have hplain : ∀ id v, lexLookup s x = some (id, v) → plain v = true :=
      fun id v h => vok_plain (hw.stored (lexLookup_stored h))
    have hc := refines_envToStack x n s s' hpc hf hplain hex
    rw [step] at hst
    split at hst <;> cases hst
    rename_i hl
    exact step_data hw hr hc _ (s.pc + 1) rfl (cells_cons (cellOK_of_vok (hw.stored (lexLookup_stored hl))) hw.data) (Int.le_add_one hpc)
  | jump off =>
    have hc := refines_jump off n s s' hpc hf hex
    rw [step] at hst
    split at hst <;> cases hst
    exact step_data hw hr hc s.data (s.pc + off) rfl hw.data (by omega)
  | goto loc =>
    have hc := refines_goto loc n s s' hpc hf hex
    rw [step] at hst
    split at hst <;> cases hst
    exact step_data hw hr hc s.data (loc : Int) rfl hw.data (by omega)
  | branch dir off =>
    have hc := refines_branch dir off n s s' hpc hf hex
    rw [step] at hst
    obtain ⟨v, rest, hd, hst⟩ := popThen_ok hst
    split at hst
    · split at hst <;> cases hst
      exact step_data hw hr hc rest (s.pc + off) rfl (hw.data_tail hd) (by omega)
    · cases hst
      exact step_data hw hr hc rest (s.pc + 1) rfl (hw.data_tail hd) (Int.le_add_one hpc)
  | tailGuard x skip =>
    have hin : s.pc.toNat + skip ≤ (fnOf s s.curfunc).code.length := by
      obtain ⟨a, succs, _, hs⟩ := hr.astep hf
      simp only [Bal.astep, toB, eff] at hs
      split at hs
      · rename_i t ht
        have := target_bound ht
        have hlen : (fnB s top.f).code.length = (fnOf s s.curfunc).code.length := by
          rw [hr.cur]; show (B s.loops (fnOf s top.f).code).length = _; rw [B_length]
        rw [hlen] at this
        omega
      · cases hs
    have hc := refines_tailGuard x skip n s s' hpc hf hin hex
    rw [step] at hst
    split at hst <;> cases hst
    · exact step_data hw hr hc s.data _ rfl hw.data (by split <;> omega)
    · exact step_data hw hr hc s.data (s.pc + skip) rfl hw.data (by omega)
  | popUntilMark l =>
    have hc := refines_popUntilMark l n s s' hpc hf hex
    rw [step] at hst
    rcases hcm : cutMark l true s.data with ⟨r, d⟩
    rw [hcm] at hst
    cases hst
    obtain ⟨above, below, h1, _, rfl⟩ := cutMark_ok l true hcm
    exact step_data hw hr hc (some (.mark l) :: below) (s.pc + 1) rfl
      (cells_cons trivial fun c hcm => hw.data c (by rw [h1]; simp [hcm])) (Int.le_add_one hpc)
  | clearMark l =>
    have hc := refines_clearMark l n s s' hpc hf hex
    rw [step] at hst
    rcases hcm : cutMark l false s.data with ⟨_ | u, d⟩ <;> rw [hcm] at hst <;> cases hst
    obtain ⟨above, _, h1, _, rfl⟩ := cutMark_ok l false hcm
    exact step_data hw hr hc d (s.pc + 1) rfl (fun c hcm => hw.data c (by rw [h1]; simp [hcm])) (Int.le_add_one hpc)
  | addScope =>
    have hc := refines_addScope n s s' hpc hf hex
    cases hst
    exact finish_step hr (hw.pushScope _ rfl _) (TExt.same rfl rfl) hc rfl rfl (Int.le_add_one hpc) (Or.inr (Or.inl ⟨_, rfl⟩)) rfl
  | addFuncScope t =>
    have hc := refines_addFuncScope t n s s' hpc hf hex
    cases hst
    exact finish_step hr (hw.pushScope _ rfl _) (TExt.same rfl rfl) hc rfl rfl (Int.le_add_one hpc) (Or.inr (Or.inl ⟨_, rfl⟩)) rfl
  | removeScope =>
    have hc := refines_removeScope n s s' hpc hf hex
    rw [step] at hst
    split at hst <;> cases hst
    rename_i hl
    refine finish_step hr ?_ (TExt.same rfl rfl) hc rfl rfl (Int.le_add_one hpc) (Or.inr (Or.inr ⟨1, by simp [hl]⟩)) rfl
    exact hw.same hw.data
  | createClosure t =>
    have hc := refines_createClosure t n s s' hpc hf hex
    cases hst
    have hio' := of_decide_eq_true hio
    have hg := hw.fns t hio'.1 hio'.2
    refine finish_step hr ?_ ⟨⟨_, rfl⟩, ⟨[], by simp⟩⟩ hc rfl rfl (Int.le_add_one hpc) (Or.inl rfl) rfl
    refine hw.grow ⟨⟨_, rfl⟩, ⟨[], by simp⟩⟩ ?_ rfl rfl rfl (fun lz h => Or.inl h) ?_
    · intro id h1 h2
      simp only [List.length_append, List.length_cons, List.length_nil] at h2
      have hid : id = s.fns.length := by omega
      subst hid
      refine fnGood_copy hg rfl ⟨Nat.le_refl _, by simp [szS]⟩ (cl := closingNow s) (pr := some s.curfunc) ?_
      show (s.fns ++ [_]).getD s.fns.length {} = _
      rw [List.getD_eq_getElem?_getD, List.getElem?_append_right (Nat.le_refl _), Nat.sub_self]
      rfl
    · intro c hcm
      rcases List.mem_cons.mp hcm with rfl | hcm
      · right
        show vok _ (Val.fn s.fns.length) = true
        simp only [vok, decide_eq_true_eq, List.length_append, List.length_cons, List.length_nil]
        have := hw.two
        omega
      · left; exact hcm
  | pushLazy e =>
    have hc := refines_pushLazy e n s s' hpc hf hex
    cases hst
    simp only [instrOK] at hio
    exact finish_step hr ((wf_allocThunk hw hio).setPc _) (TExt.same rfl rfl) hc rfl rfl (Int.le_add_one hpc) (Or.inl rfl) rfl
  | popStackPutEnv x => exact bind x (.inl rfl)
  | update x => exact bind x (.inr rfl)
  | assign =>
    have hc := refines_assign n s s' hpc hf hex
    rw [step] at hst
    obtain ⟨r, rest1, hd, hst⟩ := popThen_ok hst
    obtain ⟨l, rest', hd1, hst⟩ := popThen_ok hst
    -- two operands: only two empty arrays are assignable, and the right one is left as the value
    have hres : (∃ b, r = .arr b) ∧ s' = s.jmp (s.pc + 1) (some r :: rest') := by
      split at hst
      · split at hst <;> cases hst
        exact ⟨⟨_, rfl⟩, rfl⟩
      · cases hst
    obtain ⟨⟨bb, rfl⟩, rfl⟩ := hres
    exact step_data hw hr hc _ (s.pc + 1) rfl (cells_cons (cellOK_of_vok rfl) fun c hcm =>
      hw.data c (by rw [show s.data = _ from hd, show rest1 = _ from hd1]; simp [hcm])) (Int.le_add_one hpc)
  | prepareCall x k =>
    have hu : (fnOf s s.curfunc).user = false := by rw [hr.cur]; exact hr.ok.user
    have hc := refines_prepareCall x k n s s' hpc hf hu hex
    rw [step, hu] at hst
    cases hv : (fnOf s s.curfunc).varargs with
    | false =>
      rw [hv, if_neg (by decide)] at hst
      cases hst
      exact step_data hw hr hc s.data (s.pc + 1) rfl hw.data (Int.le_add_one hpc)
    | true =>
      obtain ⟨tail, htv⟩ := hr.top_vals_prep hf hv
      rw [hv, if_pos (by decide)] at hst
      split at hst <;> cases hst
      rename_i hwr
      exact step_data hw hr hc _ (s.pc + 1) rfl (hw.wrangled hwr htv).1 (Int.le_add_one hpc)
  | brk l k => exact exit_ok hw hr hf rfl (refines_brk l k n s s' hpc hf hex) (exitLoop_ok hst)
  | cont l k => exact exit_ok hw hr hf rfl (refines_cont l k n s s' hpc hf hex) (exitLoop_ok hst)

end ZygoVerif.RunInv
