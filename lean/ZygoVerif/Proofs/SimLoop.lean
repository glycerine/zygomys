/-
C02, execution half — `for` loops over the interface of Proofs/SimStep.lean.

A loop keeps its mark on the data stack; whatever its parts leave above the mark, `popUntilMark` and `clearMark` take
away (`GoodAbove`, `exec_popUntilMark_good`, `exec_clearMark_good`). The code of a loop is read from each of its labels on
(`lFor`, `lCont`, `lTest`, `lEnd` of Proofs/GenFacts.lean; `InLoop` places the `continue` label in the function); a
position in it is a cursor `Cur` of Proofs/SimControl.lean.

Over a system with `Sys.Free` — runs of any length, no value a stack mark, no exits — the pieces of a loop are proved
once, each ending in `HAt`: the machine at a position of the function with the loop's mark on top. `Sys.for_enter` goes
into the loop, `Sys.loop_test` and `Sys.loop_incr` are the test and the increment, `Sys.for_exit` goes out of it from its
`clearMark`. The pieces are generic in the system, not in the layout: except for `Sys.pum`, `body_pum`, `HAt` and
`GoodAbove` they are stated over the four-part layout of `for` with its offsets, and another loop form could take over
only those four unless it is compiled to that layout. A loop whose body may `break` or `continue`
(Proofs/SimF2Brk.lean, Proofs/SimF2BrkFor.lean) runs in the system `xSys Γ`, which has exits and so is not `Free`: it
calls the pieces at `fSys` for the parts that have no exit and sorts the exits of the body itself. For a fragment whose bodies do not leave the loop, `HClaimF` is the claim for the iterations against
`Ref.loop` — it ends on the end label, `HAt.label` takes it to the `clearMark` — and `hclaimE_for` is the step of `HClaimE`
for `for`.
-/
import ZygoVerif.Proofs.SimStep
import ZygoVerif.Proofs.SimCallVM
namespace ZygoVerif.Sim
open ZygoVerif.Core ZygoVerif.VM

/-- values above a loop's mark: present, and none of them that loop's mark -/
def GoodAbove (id : Nat) (G : List (Option Val)) : Prop := ∀ x ∈ G, ∃ v, x = some v ∧ v ≠ .mark id

theorem GoodAbove.append {id : Nat} {G H : List (Option Val)} (hg : GoodAbove id G) (hh : GoodAbove id H) :
    GoodAbove id (G ++ H) := by
  intro x hx
  rcases List.mem_append.mp hx with hx | hx
  · exact hg x hx
  · exact hh x hx

theorem GoodAbove.nil (id : Nat) : GoodAbove id [] := fun x hx => by cases hx

theorem GoodAbove.clean {id : Nat} {v : Val} (hv : Clean v) : GoodAbove id [some v] := by
  intro x hx
  simp only [List.mem_singleton] at hx
  exact ⟨v, hx, fun e => by subst e; exact hv⟩

/-- `PopUntilStackmark` under any good values -/
theorem exec_popUntilMark_good (f : Nat) (l : Nat) (s : St) (G : List (Option Val)) (D : List (Option Val))
    (hd : s.data = G ++ some (.mark l) :: D) (hG : GoodAbove l G) :
    (exec (f + 1) (.popUntilMark l)).run s = (.ok (), s.jmp (s.pc + 1) (some (.mark l) :: D)) := by
  rw [exec_simple_eq f _ s rfl, step, hd, cutMark_of l true D G hG]
  rfl

/-- `ClearStackmark` under any good values -/
theorem exec_clearMark_good (f : Nat) (l : Nat) (s : St) (G : List (Option Val)) (D : List (Option Val))
    (hd : s.data = G ++ some (.mark l) :: D) (hG : GoodAbove l G) :
    (exec (f + 1) (.clearMark l)).run s = (.ok (), s.jmp (s.pc + 1) D) := by
  rw [exec_simple_eq f _ s rfl, step, hd, cutMark_of l false D G hG]
  rfl

/-- the `continue` label of a loop stands at position `kc` of the function `full` -/
structure InLoop (full : List Instr) (kc L : Nat) (cs ct cb post : List Instr) : Prop where
  le : kc ≤ full.length
  tl : full.drop kc = lCont L cs ct cb post

/-- a system with unbounded runs, whose values are never stack marks, without exits (`noex` as in `FgP`) -/
structure Sys.Free (Y : Sys) : Prop where
  rch : ∀ {K K' a b}, Y.Rch K a b → Y.Rch K' a b
  fl : ∀ {K K' a t}, Y.Fl K a t → Y.Fl K' a t
  mark : ∀ {w s rs v}, Y.Cl w s rs v → ∀ L, v ≠ .mark L
  noex : ∀ w s rs res, ¬ Y.Ex w s rs res

variable {Y : Sys}

variable (Y) in
/-- the outcome of a piece of loop code: the machine at position `k` of `full` (`tl` from there on), the loop's mark on
top of the data stack -/
def HAt {α : Type} (full : List Instr) (k : Nat) (tl : List Instr) (w : Y.W) (σ : St) (rs : Ref.St) (fr L : Nat)
    (D : List (Option Val)) (res : Ref.R α) : Prop :=
  match res with
  | .ok _ rs' => ∃ σ' w', Y.Rch 0 σ σ' ∧ Cur σ' full k tl ∧ σ'.data = some (.mark L) :: D
      ∧ fnOf σ' σ'.curfunc = fnOf σ σ.curfunc ∧ Y.R w' σ' rs' fr ∧ Y.X w σ rs w' σ' rs'
  | .err rs' => Y.Fl 0 σ rs'.trace
  | .timeout => True
  | .brk _ _ => False
  | .cont _ _ => False

theorem HAt.of_reach (hY : Y.Free) {α : Type} {full tl : List Instr} {k : Nat} {w w₁ : Y.W} {σ σ₁ : St} {rs rs₁ : Ref.St}
    {fr L : Nat} {D : List (Option Val)} {res : Ref.R α} (hr : Y.Rch 0 σ σ₁) (hfn : fnOf σ₁ σ₁.curfunc = fnOf σ σ.curfunc)
    (hx : Y.X w σ rs w₁ σ₁ rs₁) (h : HAt Y full k tl w₁ σ₁ rs₁ fr L D res) : HAt Y full k tl w σ rs fr L D res := by
  cases res with
  | ok a rs' =>
    obtain ⟨σ', w', r, hc, hd, hf, rel, x⟩ := h
    exact ⟨σ', w', hY.rch (Y.rtrans hr r), hc, hd, hf.trans hfn, rel, Y.xtrans hx x⟩
  | err rs' => exact hY.fl (Y.flr hr h)
  | timeout => trivial
  | brk l rs' => exact h
  | cont l rs' => exact h

theorem HAt.label (hY : Y.Free) {α : Type} {full Q : List Instr} {k : Nat} {w : Y.W} {σ : St} {rs : Ref.St}
    {fr L : Nat} {D : List (Option Val)} {res : Ref.R α} (h : HAt Y full k (.label :: Q) w σ rs fr L D res) :
    HAt Y full (k + 1) Q w σ rs fr L D res := by
  cases res with
  | ok a rs' =>
    obtain ⟨σ', w', r, hc, hd, hf, rel, x⟩ := h
    exact ⟨_, w', hY.rch (Y.rtrans r (Y.rch (Reach.step hc.at (fun f => exec_label f σ')))), hc.next rfl rfl, hd, hf,
      Y.rjmp rel _ _, Y.xtrans x (Y.xjmp _ _ _ _ _)⟩
  | _ => exact h

theorem GoodAbove.cons_cl (hY : Y.Free) {w : Y.W} {s : St} {rs : Ref.St} {L : Nat} {v : Val} {G : List (Option Val)}
    (hv : Y.Cl w s rs v) (hG : GoodAbove L G) : GoodAbove L (some v :: G) :=
  fun x hx => (List.mem_cons.mp hx).elim (fun e => ⟨v, e, hY.mark hv L⟩) (hG x)

/-- code `c` (simulating `res`) followed by `popUntilMark L`, started with the mark under good values -/
theorem Sys.pum (hY : Y.Free) {full c Q : List Instr} {k : Nat} {w : Y.W} {σ : St} {rs : Ref.St} {fr L : Nat}
    {D G : List (Option Val)} {res : Ref.R Val} (h : Cur σ full k (c ++ (.popUntilMark L :: Q)))
    (hd : σ.data = G ++ some (.mark L) :: D) (hG : GoodAbove L G) (hsim : Y.Sm c w σ rs fr res) :
    HAt Y full (k + c.length + 1) Q w σ rs fr L D res := by
  rcases Y.cases_plain hY.noex hsim with ⟨v', rs', rfl, σ1, w1, v, r1, l1, -, rel1, x1, hcl⟩ | ⟨rs', rfl, hf⟩ | rfl
  · have h1 := h.after l1
    have hx : ∀ f, (exec (f + 1) (.popUntilMark L)).run σ1 = (.ok (), σ1.jmp (σ1.pc + 1) (some (.mark L) :: D)) :=
      fun f => exec_popUntilMark_good f L σ1 (some v :: G) D (by rw [l1.data, hd]; rfl) (GoodAbove.cons_cl hY hcl hG)
    exact ⟨_, w1, hY.rch (Y.rtrans r1 (Y.rch (Reach.step h1.at hx))), h1.next rfl rfl, rfl, l1.fn, Y.rjmp rel1 _ _,
      Y.xtrans x1 (Y.xjmp _ _ _ _ _)⟩
  · exact hY.fl hf
  · trivial

/-- From the test label of a loop: the label, the test (its simulation is the hypothesis), the exit branch. The
machine stands on the body when the value is truthy, on the loop's end label when not; the mark is on top again. -/
theorem Sys.loop_test (hY : Y.Free) {full cs ct cb post : List Instr} {k : Nat} {w : Y.W} {σ : St} {rs : Ref.St} {fr L : Nat}
    {D : List (Option Val)} {res : Ref.R Val} (h : Cur σ full k (lTest L cs ct cb post)) (hd : σ.data = some (.mark L) :: D)
    (htest : ∀ P Q, Seg (σ.jmp (σ.pc + 1) σ.data) P ct Q → Y.Sm ct w (σ.jmp (σ.pc + 1) σ.data) rs fr res) :
    match (generalizing := false) res with
    | .ok tv rs₁ => ∃ σ' w', Y.Rch 0 σ σ'
        ∧ (truthy tv = true → Cur σ' full (k + ct.length + 3) (cb ++ (.popUntilMark L
            :: .jump (-((cs.length : Int) + ct.length + cb.length + 6)) :: lEnd L post)))
        ∧ (truthy tv = false → Cur σ' full (k + ct.length + cb.length + 5) (lEnd L post))
        ∧ σ'.data = some (.mark L) :: D ∧ fnOf σ' σ'.curfunc = fnOf σ σ.curfunc ∧ Y.R w' σ' rs₁ fr ∧ Y.X w σ rs w' σ' rs₁
    | .err rs₁ => Y.Fl 0 σ rs₁.trace
    | .timeout => True
    | .brk _ _ => False
    | .cont _ _ => False := by
  unfold lTest at h
  have r0 := Y.rch (Reach.step h.at (fun f => exec_label f σ))
  have h1 : Cur (σ.jmp (σ.pc + 1) σ.data) full (k + 1) _ := h.next rfl rfl
  rcases Y.cases_plain hY.noex (htest _ _ h1.seg) with ⟨tv, rs1, rfl, σ2, w2, u2, r2, l2, hv2, rel2, x2, -⟩ | ⟨rs1, rfl, hf⟩ | rfl
  · have htr : truthy tv = truthy u2 := by rw [hv2]; exact Y.truthy_tv w2 u2
    have h2 := h1.after l2
    have hd2 : σ2.data = some u2 :: some (.mark L) :: D := by rw [l2.data, St.jmp_data, hd]
    have x02 := Y.xtrans (Y.xjmp w σ rs (σ.pc + 1) σ.data) x2
    by_cases htv : truthy u2 = true
    · have r3 := Y.rch (reach_branch_fall h2.at hd2 (by rw [htv]; decide))
      have h3 : Cur (σ2.jmp (σ2.pc + 1) (some (.mark L) :: D)) full _ _ := h2.next rfl rfl
      refine ⟨_, w2, hY.rch (Y.rtrans (Y.rtrans (Y.rtrans r0 r2) r3) (Y.rch (Reach.step h3.at (fun f => exec_label f _)))),
        fun _ => (show k + 1 + ct.length + 1 + 1 = k + ct.length + 3 from by omega) ▸ h3.next rfl rfl, fun hh => (by rw [htr, htv] at hh; cases hh), rfl, l2.fn.trans rfl,
        Y.rjmp (Y.rjmp rel2 _ _) _ _, Y.xtrans (Y.xtrans x02 (Y.xjmp _ _ _ _ _)) (Y.xjmp _ _ _ _ _)⟩
    · have hft : truthy u2 = false := by simpa using htv
      have hsz := h2.size
      simp only [List.length_cons, List.length_append, h2.take_length, lEnd] at hsz
      have r3 := Y.rch (reach_branch_taken h2.at hd2 (by rw [hft]) (by rw [h2.pc]; push_cast; omega)
        (by rw [h2.pc, h2.take_length]; simp only [List.length_cons, List.length_append, lEnd]; push_cast; omega))
      refine ⟨_, w2, hY.rch (Y.rtrans (Y.rtrans r0 r2) r3), fun hh => (by rw [htr, hft] at hh; cases hh), fun _ => ?_, rfl,
        l2.fn.trans rfl, Y.rjmp rel2 _ _, Y.xtrans x02 (Y.xjmp _ _ _ _ _)⟩
      refine h2.goto rfl (by rw [St.jmp_pc, h2.pc]; push_cast; omega) (by omega) ?_
      rw [show k + ct.length + cb.length + 5 = (k + 1 + ct.length) + (cb.length + 4) from by omega, h2.tl_add,
        show cb.length + 4 = (cb.length + 1 + 1) + 1 + 1 from rfl]
      simp only [List.drop_succ_cons, List.drop_length_add_append, List.drop_zero]
  · exact hY.fl (Y.flr r0 hf)
  · trivial

/-- the back jump behind the body's `popUntilMark`, to the `continue` label -/
theorem InLoop.back {full cs ct cb post Q : List Instr} {k kc L : Nat} {σ : St} (hl : InLoop full kc L cs ct cb post)
    (h : Cur σ full k (.jump (-((cs.length : Int) + ct.length + cb.length + 6)) :: Q))
    (hk : k = kc + cs.length + ct.length + cb.length + 6) :
    Reach 1 1 σ (σ.jmp (kc : Int) σ.data) ∧ Cur (σ.jmp (kc : Int) σ.data) full kc (lCont L cs ct cb post) := by
  have hpc : σ.pc + -((cs.length : Int) + ct.length + cb.length + 6) = (kc : Int) := by rw [h.pc, hk]; push_cast; omega
  have r := reach_jump h.at (by rw [hpc]; omega) (by rw [hpc, h.size]; have := hl.le; omega)
  rw [hpc] at r
  exact ⟨r, h.goto rfl rfl hl.le hl.tl⟩

/-- From the `continue` label of a loop (reached by the back jump or by a `continue`, the mark under what the body
left): the label, the increment (its simulation is the hypothesis), `popUntilMark` — on the test label again. -/
theorem Sys.loop_incr (hY : Y.Free) {full cs ct cb post : List Instr} {k : Nat} {w : Y.W} {σ : St} {rs : Ref.St} {fr L : Nat}
    {D G : List (Option Val)} {res : Ref.R Val} (h : Cur σ full k (lCont L cs ct cb post))
    (hd : σ.data = G ++ some (.mark L) :: D) (hG : GoodAbove L G)
    (hincr : ∀ P Q, Seg (σ.jmp (σ.pc + 1) σ.data) P cs Q → Y.Sm cs w (σ.jmp (σ.pc + 1) σ.data) rs fr res) :
    HAt Y full (k + cs.length + 2) (lTest L cs ct cb post) w σ rs fr L D res := by
  unfold lCont at h
  have h1 : Cur (σ.jmp (σ.pc + 1) σ.data) full (k + 1) _ := h.next rfl rfl
  have hs := Y.pum hY h1 hd hG (hincr _ _ h1.seg)
  rw [show k + 1 + cs.length + 1 = k + cs.length + 2 from by omega] at hs
  exact HAt.of_reach hY (hY.rch (Y.rch (Reach.step h.at (fun f => exec_label f σ)))) rfl (Y.xjmp _ _ _ _ _) hs

variable (Y) in
/-- One `for` loop from its test label on (after the initialiser): test, exit branch or body, back jump, increment,
again — against `Ref.loop`. The machine stands on the test label with the loop's mark on top of the data stack; it
arrives on the end label with the mark on top again. -/
def HClaimF (Fr : FgP Y) (n : Nat) : Prop :=
  ∀ (label : Option String) (test incr : Expr) (body : List Expr), Fr.F test = true → Fr.F incr = true →
    (body ≠ [] → Fr.FList body = true) →
  ∀ (isFn : Nat → Bool) (c : Ctx) gb rb g2 gt rt g4 gi ri g5, (compileBegin isFn c body).run gb = .ok (rb, g2) →
    (compile isFn c test).run gt = .ok (rt, g4) → (compile isFn c incr).run gi = .ok (ri, g5) → Fr.Cok c →
  ∀ (L : Nat) (post full : List Instr) (kc : Nat) (w : Y.W) (σ : St) (rs : Ref.St) (fr : Nat) (D : List (Option Val)),
    InLoop full kc L ri.1 rt.1 rb.1 post → Cur σ full (kc + ri.1.length + 2) (lTest L ri.1 rt.1 rb.1 post) →
    σ.data = some (.mark L) :: D → Y.R w σ rs fr →
    (∀ pre, Fr.Inv c gb g2 pre w σ rs ∧ Fr.Inv c gt g4 pre w σ rs ∧ Fr.Inv c gi g5 pre w σ rs) →
    HAt Y full (kc + ri.1.length + rt.1.length + rb.1.length + 7) (lEnd L post) w σ rs fr L D
      (Ref.loop n label test incr body fr rs)

/-- an empty body followed by `popUntilMark` -/
theorem Sys.pum_nil (hY : Y.Free) (n : Nat) {full Q : List Instr} {k : Nat} {w : Y.W} {σ : St} {rs : Ref.St} {fr L : Nat}
    {D : List (Option Val)} (h : Cur σ full k (.popUntilMark L :: Q)) (hd : σ.data = some (.mark L) :: D)
    (hrel : Y.R w σ rs fr) : HAt Y full (k + 1) Q w σ rs fr L D (Ref.evalBegin n [] fr rs) := by
  cases n with
  | zero => rw [Ref.evalBegin]; trivial
  | succ m =>
    rw [Ref.evalBegin]
    · have hx : ∀ f, (exec (f + 1) (.popUntilMark L)).run σ = (.ok (), σ.jmp (σ.pc + 1) (some (.mark L) :: D)) :=
        fun f => exec_popUntilMark_good f L σ [] D (by rw [hd]; rfl) (GoodAbove.nil _)
      exact ⟨_, w, hY.rch (Y.rch (Reach.step h.at hx)), h.next rfl rfl, rfl, rfl, Y.rjmp hrel _ _, Y.xjmp _ _ _ _ _⟩
    · omega

/-- the body of a loop followed by `popUntilMark`; the body may be empty -/
theorem body_pum (hY : Y.Free) {Fr : FgP Y} {n : Nat} (hB : HClaimB Y Fr.toFg n) {body : List Expr}
    (hbody : body ≠ [] → Fr.FList body = true) {isFn : Nat → Bool} {c : Ctx} (hfn : Fr.Cok c) {gb rb g2}
    (hcb : (compileBegin isFn c body).run gb = .ok (rb, g2)) {full Q : List Instr} {k : Nat} {w : Y.W} {σ : St}
    {rs : Ref.St} {fr L : Nat} {D : List (Option Val)} (h : Cur σ full k (rb.1 ++ (.popUntilMark L :: Q)))
    (hd : σ.data = some (.mark L) :: D) (hrel : Y.R w σ rs fr) (hinv : Fr.Inv c gb g2 (full.take k) w σ rs) :
    HAt Y full (k + rb.1.length + 1) Q w σ rs fr L D (Ref.evalBegin n body fr rs) := by
  cases body with
  | nil =>
    rw [compileBegin_nil_run] at hcb
    have hrb : rb.1 = [] := by cases hcb; rfl
    rw [hrb] at h ⊢
    exact Y.pum_nil hY n h hd hrel
  | cons e0 es0 =>
    exact Y.pum hY (G := []) h hd (GoodAbove.nil _)
      (hB (e0 :: es0) (by simp) (hbody (by simp)) isFn c gb (rb, g2) hcb hfn w σ rs fr _ _ hrel hinv h.seg)

theorem hclaimF_succ (hY : Y.Free) {Fr : FgP Y} {n : Nat} (hE : HClaimE Y Fr.toFg Fr.F n) (hB : HClaimB Y Fr.toFg n)
    (hF : HClaimF Y Fr n) : HClaimF Y Fr (n + 1) := by
  intro label test incr body htest hincr hbody isFn c gb rb g2 gt rt g4 gi ri g5 hcb hct hci hfn
    L post full kc w σ rs fr D hl hcur hd hrel hinv
  rw [Ref.loop]
  have ht := Y.loop_test hY hcur hd (fun P Q hseg => hE test htest isFn c gt (rt, g4) hct hfn w _ rs fr P Q (Y.rjmp hrel _ _)
    (Fr.inv_x (hinv P).2.1 (Y.xjmp _ _ _ _ _)) hseg)
  cases h1 : Ref.eval n test fr rs with
  | ok tv rs1 =>
    rw [h1] at ht
    obtain ⟨σ4, w4, r4, hcT, hcF, hd4, hfn4, rel4, x4⟩ := ht
    simp only
    refine HAt.of_reach hY r4 hfn4 x4 ?_
    by_cases htv : truthy tv = true
    · rw [if_neg (by rw [htv]; decide)]
      have hb := body_pum hY hB hbody hfn hcb (hcT htv) hd4 rel4 (Fr.inv_x (hinv _).1 x4)
      cases h2 : Ref.evalBegin n body fr rs1 with
      | ok vb rs2 =>
        rw [h2] at hb
        obtain ⟨σ6, w6, r6, hc6, hd6, hfn6, rel6, x6⟩ := hb
        simp only
        obtain ⟨r7, hc7⟩ := hl.back hc6 (by omega)
        have x7 := Y.xtrans x6 (Y.xjmp w6 σ6 rs2 (kc : Int) σ6.data)
        have hs := Y.loop_incr hY hc7 (G := []) hd6 (GoodAbove.nil _) (fun P Q hseg => hE incr hincr isFn c gi (ri, g5) hci hfn
          w6 _ rs2 fr P Q (Y.rjmp (Y.rjmp rel6 _ _) _ _)
          (Fr.inv_x (hinv P).2.2 (Y.xtrans (Y.xtrans x4 x7) (Y.xjmp _ _ _ _ _))) hseg)
        refine HAt.of_reach hY (hY.rch (Y.rtrans r6 (Y.rch r7))) hfn6 x7 ?_
        cases h3 : Ref.eval n incr fr rs2 with
        | ok vs rs3 =>
          rw [h3] at hs
          obtain ⟨σ10, w10, r10, hc10, hd10, hfn10, rel10, x10⟩ := hs
          simp only
          refine HAt.of_reach hY r10 hfn10 x10 ?_
          have xall := Y.xtrans (Y.xtrans x4 x7) x10
          exact hF label test incr body htest hincr hbody isFn c gb rb g2 gt rt g4 gi ri g5 hcb hct hci hfn
            L post full kc w10 σ10 rs3 fr D hl hc10 hd10 rel10
            (fun pre => ⟨Fr.inv_x (hinv pre).1 xall, Fr.inv_x (hinv pre).2.1 xall, Fr.inv_x (hinv pre).2.2 xall⟩)
        | err rs3 => rw [h3] at hs; exact hs
        | timeout => trivial
        | brk l rs3 => rw [h3] at hs; exact hs.elim
        | cont l rs3 => rw [h3] at hs; exact hs.elim
      | err rs2 => rw [h2] at hb; exact hb
      | timeout => trivial
      | brk l rs2 => rw [h2] at hb; exact hb.elim
      | cont l rs2 => rw [h2] at hb; exact hb.elim
    · have hft : truthy tv = false := by simpa using htv
      rw [if_pos (by rw [hft]; rfl)]
      exact ⟨σ4, w4, Y.rch (Reach.refl σ4 |>.mono (Nat.le_refl _) (by simp)), (show kc + ri.1.length + 2 + rt.1.length + rb.1.length + 5
        = kc + ri.1.length + rt.1.length + rb.1.length + 7 from by omega) ▸ hcF hft, hd4, rfl, rel4, Y.xrefl _ _ _⟩
  | err rs1 => rw [h1] at ht; exact ht
  | timeout => trivial
  | brk l rs1 => rw [h1] at ht; exact ht.elim
  | cont l rs1 => rw [h1] at ht; exact ht.elim

theorem hclaimF_zero (Fr : FgP Y) : HClaimF Y Fr 0 :=
  fun _ _ _ _ _ _ _ _ _ _ _ _ _ _ _ _ _ _ _ _ _ _ _ _ _ _ _ _ _ _ _ _ _ _ _ _ => by rw [Ref.loop]; trivial

/-- Into a `for` loop: `loopStart`, `addScope`, `pushMark`, the label, the initialiser (its simulation is the
hypothesis), `popUntilMark`, the jump to the test label — against `newFrame`, `eval init`. The machine stands on the
test label, the loop's mark on top of the data stack, in the loop's scope. -/
theorem Sys.for_enter (hbd : Y.Binds) (hY : Y.Free) {full ci cs ct cb post : List Instr} {k : Nat} {w : Y.W} {s : St} {rs : Ref.St}
    {env L : Nat} {res : Ref.R Val} (hrel : Y.R w s rs env) (h : Cur s full k (lFor L ci cs ct cb post))
    (hinit : ∀ s₄ P Q, Y.X w s.pushScope (Ref.newFrame rs env).2 w s₄ (Ref.newFrame rs env).2 →
      Y.R w s₄ (Ref.newFrame rs env).2 rs.frames.length → Seg s₄ P ci Q →
      Y.Sm ci w s₄ (Ref.newFrame rs env).2 rs.frames.length res) :
    match (generalizing := false) res with
    | .ok _ rs₂ => ∃ s₇ w₆, Y.Rch 0 s s₇ ∧ InLoop full (k + ci.length + 6) L cs ct cb post
        ∧ Cur s₇ full (k + ci.length + cs.length + 8) (lTest L cs ct cb post) ∧ s₇.data = some (.mark L) :: s.data
        ∧ fnOf s₇ s₇.curfunc = fnOf s s.curfunc ∧ Y.R w₆ s₇ rs₂ rs.frames.length
        ∧ Y.X w s.pushScope (Ref.newFrame rs env).2 w₆ s₇ rs₂
    | .err rs₂ => Y.Fl 0 s rs₂.trace
    | .timeout => True
    | .brk _ _ => False
    | .cont _ _ => False := by
  have hloop : InLoop full (k + ci.length + 6) L cs ct cb post := by
    refine ⟨by have := h.length; rw [lFor_length] at this; omega, ?_⟩
    rw [Nat.add_assoc, h.tl_add, lFor, show ci.length + 6 = (ci.length + 1 + 1) + 1 + 1 + 1 + 1 from rfl]
    simp only [List.drop_succ_cons, List.drop_length_add_append, List.drop_zero]
  unfold lFor at h
  have r0 := Reach.step h.at (fun f => exec_loopStart f L s)
  have h1 : Cur (s.jmp (s.pc + 1) s.data) full (k + 1) _ := h.next rfl rfl
  have r1 : Reach 1 1 (s.jmp (s.pc + 1) s.data) (s.pushScope.jmp (s.pc + 1 + 1) s.data) :=
    Reach.step h1.at (fun f => exec_addScope f _)
  have h2 : Cur (s.pushScope.jmp (s.pc + 1 + 1) s.data) full (k + 1 + 1) _ := h1.next rfl rfl
  have r2 := Reach.step h2.at (fun f => exec_pushMark f L _)
  have h3 := h2.next (σ' := (s.pushScope.jmp (s.pc + 1 + 1) s.data).jmp (s.pc + 1 + 1 + 1) (some (.mark L) :: s.data)) rfl rfl
  have r3 := Reach.step h3.at (fun f => exec_label f _)
  have h4 := h3.next (σ' := ((s.pushScope.jmp (s.pc + 1 + 1) s.data).jmp (s.pc + 1 + 1 + 1) (some (.mark L) :: s.data)).jmp
    (s.pc + 1 + 1 + 1 + 1) (some (.mark L) :: s.data)) rfl rfl
  have x4 := Y.xtrans (Y.xtrans (Y.xjmp w s.pushScope (Ref.newFrame rs env).2 (s.pc + 1 + 1) s.data)
    (Y.xjmp _ _ _ (s.pc + 1 + 1 + 1) (some (.mark L) :: s.data))) (Y.xjmp _ _ _ (s.pc + 1 + 1 + 1 + 1) (some (.mark L) :: s.data))
  have rel4 := Y.rjmp (Y.rjmp (Y.rjmp (hbd.rpush hrel) (s.pc + 1 + 1) s.data) (s.pc + 1 + 1 + 1) (some (.mark L) :: s.data))
    (s.pc + 1 + 1 + 1 + 1) (some (.mark L) :: s.data)
  have r04 := hY.rch (K' := 0) (Y.rtrans (Y.rtrans (Y.rtrans (Y.rch r0) (Y.rch r1)) (Y.rch r2)) (Y.rch r3))
  have hs := Y.pum hY (G := []) h4 rfl (GoodAbove.nil _) (hinit _ _ _ x4 rel4 h4.seg)
  cases res with
  | ok vi rs2 =>
    obtain ⟨s6, w6, r6, hc6, hd6, hfn6, rel6, x6⟩ := hs
    have hsz := hc6.size
    simp only [List.length_cons, List.length_append, hc6.take_length, lCont, lTest, lEnd] at hsz
    have r7 := reach_jump hc6.at (by rw [hc6.pc]; push_cast; omega)
      (by rw [hc6.pc, hc6.take_length]; simp only [List.length_cons, List.length_append, lCont, lTest, lEnd]; push_cast; omega)
    refine ⟨_, w6, hY.rch (Y.rtrans (Y.rtrans r04 r6) (Y.rch r7)), hloop, ?_, hd6, hfn6, Y.rjmp rel6 _ _,
      Y.xtrans (Y.xtrans x4 x6) (Y.xjmp _ _ _ _ _)⟩
    refine hc6.goto rfl (by rw [St.jmp_pc, hc6.pc]; push_cast; omega) (by omega) ?_
    rw [show k + ci.length + cs.length + 8 = (k + 1 + 1 + 1 + 1 + ci.length + 1) + (cs.length + 3) from by omega, hc6.tl_add, lCont,
      show cs.length + 3 = (cs.length + 1) + 1 + 1 from rfl]
    simp only [List.drop_succ_cons, List.drop_length_add_append, List.drop_zero]
  | err rs2 => exact hY.fl (Y.flr r04 hs)
  | timeout => trivial
  | brk l rs2 => exact hs
  | cont l rs2 => exact hs

/-- Out of a `for` loop: from the loop's `clearMark` (reached over the end label or by a `break`, the mark under what
the body left), `removeScope`, `push nil` — the loop's value is `nil`, its scope is gone. -/
theorem Sys.for_exit (hbd : Y.Binds) (hY : Y.Free) {full post code : List Instr} {k : Nat} {w w₈ : Y.W} {s s₈ : St} {rs rs₃ : Ref.St}
    {env L : Nat} {G : List (Option Val)} (hrel : Y.R w s rs env)
    (h8 : Cur s₈ full k (.clearMark L :: .removeScope :: .push .nil :: post))
    (hd8 : s₈.data = G ++ some (.mark L) :: s.data) (hG : GoodAbove L G) (hfn8 : fnOf s₈ s₈.curfunc = fnOf s s.curfunc)
    (rel8 : Y.R w₈ s₈ rs₃ rs.frames.length) (x8 : Y.X w s.pushScope (Ref.newFrame rs env).2 w₈ s₈ rs₃)
    (hreach : Y.Rch 0 s s₈) (hlen : (k : Int) + 3 = s.pc + code.length) : Y.Sm code w s rs env (.ok .nil rs₃) := by
  have r10 := Reach.step h8.at (fun f => exec_clearMark_good f L s₈ G s.data hd8 hG)
  have h10 : Cur (s₈.jmp (s₈.pc + 1) s.data) full (k + 1) _ := h8.next rfl rfl
  have rel10 := Y.rjmp rel8 (s₈.pc + 1) s.data
  obtain ⟨rest, hlin⟩ := hbd.lin rel10
  have r11 := reach_removeScope h10.at hlin
  have h11 : Cur (s₈.jmp (s₈.pc + 1) s.data).popScope full (k + 1 + 1) _ := h10.next rfl rfl
  obtain ⟨rel11, x11, -⟩ := hbd.rpop hrel rel10 (Y.xtrans x8 (Y.xjmp _ _ _ _ _))
  have hv := Y.cl_lit w₈ ((s₈.jmp (s₈.pc + 1) s.data).popScope.jmp ((s₈.jmp (s₈.pc + 1) s.data).popScope.pc + 1)
    (some .nil :: s.data)) rs₃ .nil (fun _ _ _ => rfl)
  refine Y.sm_ok.mpr (.inl ⟨_, w₈, .nil, hY.rch (Y.rtrans (Y.rtrans (Y.rtrans hreach (Y.rch r10)) (Y.rch r11))
    (Y.rch (reach_push h11.at))), ⟨hfn8, ?_, rfl⟩, hv.2.symm, Y.rjmp rel11 _ _, Y.xtrans x11 (Y.xjmp _ _ _ _ _), hv.1⟩)
  show s₈.pc + 1 + 1 + 1 = _
  rw [h8.pc, ← hlen]; omega

/-- A `for` loop whose body does not leave it: into the loop, the iterations (`HClaimF`), the end label, out of the
loop — against `newFrame`, `eval init`, `Ref.loop`. -/
theorem hclaimE_for (hbd : Y.Binds) (hY : Y.Free) {Fr : FgP Y} {n : Nat} (hE : HClaimE Y Fr.toFg Fr.F n) (hF : HClaimF Y Fr n)
    {label : Option String} {init test incr : Expr} {body : List Expr} (he : Fr.F (.for_ label init test incr body) = true)
    (isFn : Nat → Bool) (c : Ctx) (gs : GS) (r : (List Instr × Bool) × GS)
    (hc : (compile isFn c (.for_ label init test incr body)).run gs = .ok r) (hfn : Fr.Cok c) (w : Y.W) (s : St) (rs : Ref.St)
    (env : Nat) (pre post : List Instr) (hrel : Y.R w s rs env) (hinv : Fr.Inv c gs r.2 pre w s rs)
    (hseg : Seg s pre r.1.1 post) : Y.Sm r.1.1 w s rs env (Ref.eval (n + 1) (.for_ label init test incr body) env rs) := by
  obtain ⟨hinit, htest, hincr, hbody⟩ := Fr.f_for he
  obtain ⟨rb, g2, hb, ri, g3, hi, rt, g4, ht, rsn, g5, hs, rfl⟩ := compile_for_ok.mp hc
  simp only at hseg hinv ⊢
  have kb := (compileBegin_tot hb).1
  have ki := (compile_tot hi).2.1
  have kt := (compile_tot ht).2.1
  have ks := (compile_tot hs).2.1
  have hcur := hseg.cur
  rw [List.append_assoc, forCode_lay] at hcur
  have hfn' := Fr.cok hfn false (c.scopes + 1)
  have hin := fun pre' => Fr.inv_any (Fr.inv_push (Fr.inv_for hinv (((kb.trans ki).trans kt).trans ks)) env false) pre'
  rw [Ref.eval]
  show Y.Sm _ w s rs env
    (match Ref.eval n init rs.frames.length (Ref.newFrame rs env).2 with
     | .ok _ s' => Ref.loop n label test incr body rs.frames.length s'
     | .brk l s' => if l.isNone ∨ l = label then .ok .nil s' else .brk l s'
     | r => r)
  have hent := Y.for_enter hbd hY hrel hcur (fun s₄ P Q x4 rel4 hseg4 => hE init hinit isFn _ g2 (ri, g3) hi hfn' w s₄ _ _ P Q rel4
    (Fr.inv_x (Fr.inv_range (hin P) kb ki (kt.trans ks)) x4) hseg4)
  cases h1 : Ref.eval n init rs.frames.length (Ref.newFrame rs env).2 with
  | ok vi rs2 =>
    rw [h1] at hent
    obtain ⟨s7, w6, r7, hl, hc7, hd7, hfn7, rel7, x7⟩ := hent
    simp only
    rw [show pre.length + ri.1.length + rsn.1.length + 8 = pre.length + ri.1.length + 6 + rsn.1.length + 2 from by omega] at hc7
    have hloop := (hF label test incr body htest hincr hbody isFn _ _ rb g2 _ rt g4 _ rsn g5 hb ht hs hfn'
      gs.loops.length post _ _ w6 s7 rs2 rs.frames.length s.data hl hc7 hd7 rel7
      (fun pre' => ⟨Fr.inv_x (Fr.inv_range (hin pre') (KeepFns.refl _) kb ((ki.trans kt).trans ks)) x7,
        Fr.inv_x (Fr.inv_range (hin pre') (kb.trans ki) kt ks) x7,
        Fr.inv_x (Fr.inv_range (hin pre') ((kb.trans ki).trans kt) ks (KeepFns.refl _)) x7⟩)).label hY
    cases h2 : Ref.loop n label test incr body rs.frames.length rs2 with
    | ok v rs3 =>
      rw [h2] at hloop
      obtain ⟨s8, w8, r8, hc8, hd8, hfn8, rel8, x8⟩ := hloop
      have hv : v = .nil := ref_loop_nil _ _ _ _ _ _ _ _ _ h2
      subst hv
      exact Y.for_exit hbd hY hrel hc8 (G := []) hd8 (GoodAbove.nil _) (hfn8.trans hfn7) rel8 (Y.xtrans x7 x8)
        (hY.rch (Y.rtrans r7 r8)) (by rw [hseg.pc, forCode_length]; push_cast; omega)
    | err rs3 => rw [h2] at hloop; exact Y.sm_err.mpr (hY.fl (Y.flr r7 hloop))
    | timeout => exact Y.sm_timeout
    | brk l rs3 => rw [h2] at hloop; exact hloop.elim
    | cont l rs3 => rw [h2] at hloop; exact hloop.elim
  | err rs2 => rw [h1] at hent; exact Y.sm_err.mpr (hY.fl hent)
  | timeout => exact Y.sm_timeout
  | brk l rs2 => rw [h1] at hent; exact hent.elim
  | cont l rs2 => rw [h1] at hent; exact hent.elim

end ZygoVerif.Sim
