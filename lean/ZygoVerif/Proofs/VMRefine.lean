/-
The VM model (`Model/VM.lean`) refines the stack-effect machine
(`Model/StackEffect.lean`), instruction by instruction.

`absC s` forgets everything of a VM state but the pc, the kinds of the cells on the data stack
and the depths of the scope and address stacks; `fnB s f` is entry `f` of the function table as
the balance checker sees it. `StepRefines i`: a successful `VM.exec` of instruction `i`,
fetched from the code of the current function, is a `Bal.CStep` of that function between the
abstractions. The effect table `Bal.eff` was written from zygo/vm.go; these lemmas tie it to the
VM model that C02 validates against the real interpreter. Each lemma inverts a successful `exec`
— through the instruction's equation in Proofs/SimMachine.lean, or through `VM.step` where the
instruction works through a helper (`prepareCall`, the binding instructions, the mark pops,
`brk`/`cont`, `assign`) — and exhibits the `CStep` constructor.
-/
import ZygoVerif.Model.VM
import ZygoVerif.Model.StackEffect
import ZygoVerif.Proofs.GenBalancedLoop
import ZygoVerif.Proofs.VMStep
set_option linter.unusedVariables false
namespace ZygoVerif.Refine
open ZygoVerif.Core ZygoVerif.VM ZygoVerif.Bal ZygoVerif.Contain
open ZygoVerif.Scope (setVarSt)


/-- a data-stack cell as the balance checker sees it: a stack-mark or an ordinary value -/
def cellOf : Option Val → Cell
  | some (.mark l) => .mark l
  | _ => .val

def absC (s : St) : CState := ⟨s.pc.toNat, s.data.map cellOf, s.linear.length, s.addr.length⟩

def fnB (s : St) (f : Nat) : Fn :=
  { kind := .fn, nformals := (fnOf s f).params.length, varargs := (fnOf s f).varargs, nfixed := (fnOf s f).nargs,
    code := B s.loops (fnOf s f).code }

def plain : Val → Bool
  | .mark _ => false
  | _ => true

theorem cellOf_plain {v : Val} (h : plain v = true) : cellOf (some v) = .val := by
  cases v <;> first | rfl | cases h

/-- **The refinement, for one instruction**: fetched from the code of the current function at a
non-negative pc and executed successfully, it is a step of the stack-effect machine. -/
def StepRefines (i : Instr) : Prop :=
  ∀ (n : Nat) (s s' : St), 0 ≤ s.pc → (fnOf s s.curfunc).code[s.pc.toNat]? = some i →
    (exec (n + 1) i).run s = (.ok (), s') → CStep (fnB s s.curfunc) (absC s) (absC s')

theorem fetchB {s : St} {i : Instr} (h : (fnOf s s.curfunc).code[s.pc.toNat]? = some i) :
    (fnB s s.curfunc).code[(absC s).pc]? = some (toB s.loops i) := by
  show (B s.loops (fnOf s s.curfunc).code)[s.pc.toNat]? = _
  simp only [B, List.getElem?_map, h]
  rfl

theorem pc_succ {s : St} (h : 0 ≤ s.pc) : (s.pc + 1).toNat = s.pc.toNat + 1 := by omega

theorem run_get_bind {α : Type} (f : St → M α) (s : St) : (do let t ← get; f t : M α).run s = (f s).run s := rfl


theorem refines_label : StepRefines .label := by
  intro n s s' hpc hc hex
  rw [exec] at hex
  cases hex
  have := CStep.simple (f := fnB s s.curfunc) (absC s) _ 0 0 [] (absC s).data (fetchB hc) rfl rfl rfl
  simpa [absC, pc_succ hpc] using this

theorem refines_loopStart (l : Nat) : StepRefines (.loopStart l) := by
  intro n s s' hpc hc hex
  rw [exec] at hex
  cases hex
  have := CStep.simple (f := fnB s s.curfunc) (absC s) _ 0 0 [] (absC s).data (fetchB hc) rfl rfl rfl
  simpa [absC, pc_succ hpc] using this

theorem refines_addScope : StepRefines .addScope := by
  intro n s s' hpc hc hex
  rw [exec] at hex
  cases hex
  have := CStep.scopeUp (f := fnB s s.curfunc) (absC s) _ (fetchB hc) rfl
  simpa [absC, pc_succ hpc] using this

theorem refines_addFuncScope (t : Nat) : StepRefines (.addFuncScope t) := by
  intro n s s' hpc hc hex
  rw [exec] at hex
  cases hex
  have := CStep.scopeUp (f := fnB s s.curfunc) (absC s) _ (fetchB hc) rfl
  simpa [absC, pc_succ hpc] using this

theorem refines_removeScope : StepRefines .removeScope := by
  intro n s s' hpc hc hex
  rw [Sim.exec_removeScope] at hex
  cases hl : s.linear with
  | nil => simp only [hl] at hex; cases hex
  | cons top rest =>
    simp only [hl] at hex
    cases hex
    have := CStep.scopeDown (f := fnB s s.curfunc) (absC s) _ rest.length (fetchB hc) rfl (by simp [absC, hl])
    simpa [absC, pc_succ hpc] using this


theorem refines_push (v : Val) (hv : plain v = true) : StepRefines (.push v) := by
  intro n s s' hpc hc hex
  rw [exec] at hex
  cases hex
  have := CStep.simple (f := fnB s s.curfunc) (absC s) _ 0 1 [] (absC s).data (fetchB hc) rfl rfl rfl
  simpa [absC, pc_succ hpc, cellOf_plain hv] using this

theorem refines_createClosure (t : Nat) : StepRefines (.createClosure t) := by
  intro n s s' hpc hc hex
  rw [exec] at hex
  cases hex
  have := CStep.simple (f := fnB s s.curfunc) (absC s) _ 0 1 [] (absC s).data (fetchB hc) rfl rfl rfl
  simpa [absC, pc_succ hpc, cellOf] using this

theorem refines_pushLazy (e : Expr) : StepRefines (.pushLazy e) := by
  intro n s s' hpc hc hex
  rw [exec] at hex
  cases hex
  have := CStep.simple (f := fnB s s.curfunc) (absC s) _ 0 1 [] (absC s).data (fetchB hc) rfl rfl rfl
  simpa [absC, pc_succ hpc, cellOf] using this

theorem refines_pushMark (l : Nat) : StepRefines (.pushMark l) := by
  intro n s s' hpc hc hex
  rw [exec] at hex
  cases hex
  have := CStep.pushMark (f := fnB s s.curfunc) (absC s) _ l (fetchB hc) rfl
  simpa [absC, pc_succ hpc, cellOf] using this


theorem refines_dup : StepRefines .dup := by
  intro n s s' hpc hc hex
  rw [Sim.exec_dup] at hex
  cases hd : s.data with
  | nil => simp only [hd] at hex; cases hex
  | cons v rest =>
    cases v with
    | none => simp only [hd] at hex; cases hex
    | some v =>
      simp only [hd] at hex
      cases hex
      have := CStep.dup (f := fnB s s.curfunc) (absC s) _ (cellOf (some v)) (rest.map cellOf) (fetchB hc) rfl (by simp [absC, hd])
      simpa [absC, pc_succ hpc, hd] using this

theorem refines_pop : StepRefines .pop := by
  intro n s s' hpc hc hex
  rw [Sim.exec_pop] at hex
  cases hd : s.data with
  | nil =>
    simp only [hd] at hex
    cases hex
    have := CStep.popEmpty (f := fnB s s.curfunc) (absC s) _ (fetchB hc) rfl (by simp [absC, hd])
    simpa [absC, pc_succ hpc, hd] using this
  | cons v rest =>
    cases v with
    | none => simp only [hd] at hex; cases hex
    | some v =>
      simp only [hd] at hex
      cases hex
      have := CStep.popCell (f := fnB s s.curfunc) (absC s) _ (cellOf (some v)) (rest.map cellOf) (fetchB hc) rfl (by simp [absC, hd])
      simpa [absC, pc_succ hpc, hd] using this


theorem curSize_le (s : St) : curSize s ≤ ((fnB s s.curfunc).code.length : Int) := by
  show curSize s ≤ ((B s.loops (fnOf s s.curfunc).code).length : Int)
  simp only [curSize, B_length]
  split <;> omega

theorem refines_jump (off : Int) : StepRefines (.jump off) := by
  intro n s s' hpc hc hex
  rw [Sim.exec_jump] at hex
  have hsz := curSize_le s
  by_cases hb : s.pc + off < 0 ∨ s.pc + off > curSize s
  · rw [if_pos hb] at hex; cases hex
  · rw [if_neg hb] at hex
    cases hex
    have ht : target (absC s).pc off (fnB s s.curfunc).code.length = some (s.pc + off).toNat := by
      apply ZygoVerif.Bal.target_eq
      · show ((s.pc.toNat : Nat) : Int) + off = _
        omega
      · omega
    have := CStep.jump (f := fnB s s.curfunc) (absC s) _ off _ (fetchB hc) rfl ht
    simpa [absC] using this

theorem refines_goto (loc : Nat) : StepRefines (.goto loc) := by
  intro n s s' hpc hc hex
  rw [Sim.exec_goto] at hex
  have hsz := curSize_le s
  by_cases hb : (loc : Int) < 0 ∨ (loc : Int) > curSize s
  · rw [if_pos hb] at hex; cases hex
  · rw [if_neg hb] at hex
    cases hex
    have ht : absTarget (loc : Int) (fnB s s.curfunc).code.length = some loc := by
      unfold absTarget
      rw [if_pos (by omega)]
      simp
    have := CStep.goto (f := fnB s s.curfunc) (absC s) _ (loc : Int) loc (fetchB hc) rfl ht
    simpa [absC] using this

theorem refines_branch (dir : Bool) (off : Int) : StepRefines (.branch dir off) := by
  intro n s s' hpc hc hex
  rw [Sim.exec_branch] at hex
  have hsz := curSize_le s
  cases hd : s.data with
  | nil => simp only [hd] at hex; cases hex
  | cons v rest =>
    cases v with
    | none => simp only [hd] at hex; cases hex
    | some v =>
      simp only [hd] at hex
      by_cases hdir : dir = truthy v
      · rw [if_pos hdir] at hex
        by_cases hb : s.pc + off < 0 ∨ s.pc + off > curSize s
        · rw [if_pos hb] at hex; cases hex
        · rw [if_neg hb] at hex
          cases hex
          have ht : target (absC s).pc off (fnB s s.curfunc).code.length = some (s.pc + off).toNat := by
            apply ZygoVerif.Bal.target_eq
            · show ((s.pc.toNat : Nat) : Int) + off = _
              omega
            · omega
          have := CStep.branchTaken (f := fnB s s.curfunc) (absC s) _ off (cellOf (some v)) (rest.map cellOf) _ (fetchB hc) rfl
            (by simp [absC, hd]) ht
          simpa [absC] using this
      · rw [if_neg hdir] at hex
        cases hex
        have := CStep.branchFall (f := fnB s s.curfunc) (absC s) _ off (cellOf (some v)) (rest.map cellOf) (fetchB hc) rfl
          (by simp [absC, hd])
        simpa [absC, pc_succ hpc] using this


/-- `TailGuardInstr`. The VM adds `skip` to the pc without a bounds check; the stack-effect machine
(like the checker) only has the step when the target lies inside the function — which it does
in generated code (`selfTailCode_skip` of Props/C09.lean). -/
theorem refines_tailGuard (x : String) (skip : Nat) (n : Nat) (s s' : St) (hpc : 0 ≤ s.pc)
    (hc : (fnOf s s.curfunc).code[s.pc.toNat]? = some (.tailGuard x skip))
    (hin : s.pc.toNat + skip ≤ (fnOf s s.curfunc).code.length)
    (hex : (exec (n + 1) (.tailGuard x skip)).run s = (.ok (), s')) :
    CStep (fnB s s.curfunc) (absC s) (absC s') := by
  simp only [exec] at hex
  have ht : target (absC s).pc (skip : Int) (fnB s s.curfunc).code.length = some (s.pc.toNat + skip) := by
    apply target_eq
    · show ((s.pc.toNat : Nat) : Int) + skip = _
      push_cast; rfl
    · show s.pc.toNat + skip ≤ (B s.loops (fnOf s s.curfunc).code).length
      rw [B_length]; exact hin
  have taken : CStep (fnB s s.curfunc) (absC s) (absC { s with pc := s.pc + skip }) := by
    have := CStep.guardTaken (f := fnB s s.curfunc) (absC s) _ (skip : Int) _ (fetchB hc) rfl ht
    have he : (s.pc + (skip : Int)).toNat = s.pc.toNat + skip := by omega
    simpa [absC, he] using this
  have fall : CStep (fnB s s.curfunc) (absC s) (absC { s with pc := s.pc + 1 }) := by
    have := CStep.guardFall (f := fnB s s.curfunc) (absC s) _ (skip : Int) (fetchB hc) rfl
    simpa [absC, pc_succ hpc] using this
  rw [run_get_bind] at hex
  split at hex
  · rename_i f _
    by_cases hf : f = s.curfunc
    · rw [if_pos hf] at hex; cases hex; exact fall
    · rw [if_neg hf] at hex; cases hex; exact taken
  · cases hex; exact taken

theorem plain_mkList : ∀ xs : List Val, plain (mkList xs) = true
  | [] => rfl
  | _ :: _ => rfl

/-- `PrepareCallInstr` of compiled code (fix C09-02: it packs the variadic tail of the running
function) -/
theorem refines_prepareCall (x : String) (nargs : Nat) (n : Nat) (s s' : St) (hpc : 0 ≤ s.pc)
    (hc : (fnOf s s.curfunc).code[s.pc.toNat]? = some (.prepareCall x nargs))
    (hu : (fnOf s s.curfunc).user = false)
    (hex : (exec (n + 1) (.prepareCall x nargs)).run s = (.ok (), s')) :
    CStep (fnB s s.curfunc) (absC s) (absC s') := by
  rw [exec_simple_eq n _ s rfl, step, hu] at hex
  cases hv : (fnOf s s.curfunc).varargs with
  | false =>
    rw [hv, if_neg (by decide)] at hex
    cases hex
    have := CStep.prepareFix (f := fnB s s.curfunc) (absC s) _ nargs (fetchB hc) rfl hv
    simpa [absC, St.jmp, pc_succ hpc] using this
  | true =>
    rw [hv, if_pos (by decide)] at hex
    split at hex <;> cases hex
    rename_i hw
    obtain ⟨h1, h2, vs, _, rfl⟩ := wrangleRes_ok hw
    have := CStep.prepareVar (f := fnB s s.curfunc) (absC s) _ nargs
      ((s.data.take (nargs - (fnOf s s.curfunc).nargs)).map cellOf)
      ((s.data.drop (nargs - (fnOf s s.curfunc).nargs)).map cellOf) (fetchB hc) rfl hv h1
      (by simp only [absC, ← List.map_append, List.take_append_drop])
      (by simp only [List.length_map, List.length_take]; show min _ _ = nargs - (fnOf s s.curfunc).nargs; omega)
    simpa [absC, St.jmp, pc_succ hpc, cellOf_plain (plain_mkList _)] using this


/-- `EnvToStackInstr`: the value pushed is the value bound; it is an ordinary value as long as
no stack-mark was ever bound to a name (verified code never pops a mark as an operand) -/
theorem refines_envToStack (x : String) (n : Nat) (s s' : St) (hpc : 0 ≤ s.pc)
    (hc : (fnOf s s.curfunc).code[s.pc.toNat]? = some (.envToStack x))
    (hplain : ∀ id v, lexLookup s x = some (id, v) → plain v = true)
    (hex : (exec (n + 1) (.envToStack x)).run s = (.ok (), s')) :
    CStep (fnB s s.curfunc) (absC s) (absC s') := by
  rw [Sim.exec_envToStack] at hex
  cases hl : lexLookup s x with
  | none => simp only [hl] at hex; cases hex
  | some r =>
    obtain ⟨id, v⟩ := r
    simp only [hl] at hex
    cases hex
    have := CStep.simple (f := fnB s s.curfunc) (absC s) _ 0 1 [] (absC s).data (fetchB hc) rfl rfl rfl
    simpa [absC, St.jmp, pc_succ hpc, cellOf_plain (hplain id v hl)] using this

/-- the instructions that bind a name pop their operand and write a scope cell -/
theorem refines_bind {i : Instr} {x : String} (hi : i = .popStackPutEnv x ∨ i = .update x) : StepRefines i := by
  intro n s s' hpc hc hex
  have hs : simple i = true ∧ eff (toB s.loops i) = .simple 1 0 := by rcases hi with rfl | rfl <;> exact ⟨rfl, rfl⟩
  obtain ⟨v, rest, id, hd, rfl⟩ := step_bind_ok hi ((exec_simple_eq n i s hs.1).symm.trans hex)
  have := CStep.simple (f := fnB s s.curfunc) (absC s) _ 1 0 [cellOf (some v)] (rest.map cellOf) (fetchB hc) hs.2
    (by simp [absC, hd]) rfl
  show CStep _ _ ⟨(s.pc + 1).toNat, _, _, _⟩
  rw [pc_succ hpc]
  exact this

theorem refines_popStackPutEnv (x : String) : StepRefines (.popStackPutEnv x) := refines_bind (.inl rfl)

theorem refines_update (x : String) : StepRefines (.update x) := refines_bind (.inr rfl)

theorem cellOf_eq_mark {c : Option Val} {l : Nat} (h : cellOf c = .mark l) : c = some (.mark l) := by
  rcases c with _ | v
  · cases h
  · cases v <;> first | (cases h; rfl) | cases h

theorem no_mark_cell {l : Nat} {above : List (Option Val)} (h : some (.mark l) ∉ above) :
    Cell.mark l ∉ above.map cellOf := fun hm =>
  let ⟨_, ha, e⟩ := List.mem_map.mp hm
  h (cellOf_eq_mark e ▸ ha)

theorem popToMark_ok (l : Nat) (keep : Bool) : ∀ (fuel : Nat) (s s' : St),
    (popToMark l keep fuel).run s = (.ok (), s') →
    ∃ above below, s.data = above ++ some (.mark l) :: below ∧ (∀ c ∈ above.map cellOf, c ≠ Cell.mark l) ∧
      s' = { s with data := if keep then some (.mark l) :: below else below } := by
  intro fuel s s' h
  have hc := run_popToMark l keep fuel s (.inr (by rw [h]))
  rw [h] at hc
  rcases hcm : cutMark l keep s.data with ⟨r, d⟩
  rw [hcm] at hc
  cases hc
  obtain ⟨above, below, hd, hn, rfl⟩ := cutMark_ok l keep hcm
  exact ⟨above, below, hd, fun c hcm e => no_mark_cell hn (e ▸ hcm), rfl⟩

theorem refines_popUntilMark (l : Nat) : StepRefines (.popUntilMark l) := by
  intro n s s' hpc hc hex
  rw [exec_simple_eq n _ s rfl, step] at hex
  rcases hcm : cutMark l true s.data with ⟨r, d⟩
  rw [hcm] at hex
  cases hex
  obtain ⟨above, below, h1, h2, rfl⟩ := cutMark_ok l true hcm
  have := CStep.popUntil (f := fnB s s.curfunc) (absC s) _ l (above.map cellOf) (below.map cellOf) (fetchB hc) rfl
    (by simp [absC, h1, cellOf]) (no_mark_cell h2)
  simpa [absC, St.jmp, pc_succ hpc, cellOf] using this

theorem run_then_incPc (m : M Unit) (s : St) :
    (do m; incPc : M Unit).run s =
      match m.run s with
      | (.ok _, s1) => (.ok (), { s1 with pc := s1.pc + 1 })
      | (.error e, s1) => (.error e, s1) := by
  rw [Sim.run_bind]
  rcases m.run s with ⟨_ | _, s1⟩ <;> rfl

theorem refines_clearMark (l : Nat) : StepRefines (.clearMark l) := by
  intro n s s' hpc hc hex
  rw [exec_simple_eq n _ s rfl, step] at hex
  rcases hcm : cutMark l false s.data with ⟨_ | u, d⟩ <;> rw [hcm] at hex <;> cases hex
  obtain ⟨above, _, h1, h2, rfl⟩ := cutMark_ok l false hcm
  have := CStep.clearMark (f := fnB s s.curfunc) (absC s) _ l (above.map cellOf) (d.map cellOf) (fetchB hc) rfl
    (by simp [absC, h1, cellOf]) (no_mark_cell h2)
  simpa [absC, St.jmp, pc_succ hpc] using this


theorem popScopes_ok : ∀ (n : Nat) (s s' : St), (popScopes n).run s = (.ok (), s') →
    n ≤ s.linear.length ∧ s' = { s with linear := s.linear.drop n } := by
  intro n s s' h
  rw [run_popScopes] at h
  split at h <;> cases h
  exact ⟨‹_›, rfl⟩

theorem beq_loopStart (a l : Nat) : (BInstr.loopStart a == BInstr.loopStart l) = (a == l) := by
  by_cases h : a = l
  · subst h; simp
  · have h1 : (a == l) = false := by simpa using h
    have h2 : ¬ (BInstr.loopStart a = BInstr.loopStart l) := by intro he; cases he; exact h rfl
    rw [h1]
    simpa using h2

/-- `FindLoop` on the listing the checker sees = `findLoopStart` on the VM's code -/
theorem loopPos_B (T : List LoopRec) (code : List Instr) (l : Nat) : loopPos (B T code) l = findLoopStart code l := by
  unfold loopPos findLoopStart B
  rw [List.findIdx?_map]
  congr 1
  funext i
  cases i <;> first | exact beq_loopStart _ _ | rfl | simp [toB]

/-- the step of the stack-effect machine for an instruction that leaves a loop: exactly `k` scopes
are dropped — the number in the instruction — and nothing else is written (`VM.exitLoop_ok`) -/
theorem refines_exit {i : Instr} {l k : Nat} {off : Int} {s s' : St} (hc : (fnOf s s.curfunc).code[s.pc.toNat]? = some i)
    (he : eff (toB s.loops i) = .exitLoop l off k)
    (h : ∃ pos, findLoopStart (fnOf s s.curfunc).code l = some pos ∧ k ≤ s.linear.length ∧
      s' = { s with linear := s.linear.drop k, pc := (pos : Int) + off })
    (hnn : 0 ≤ s'.pc) : CStep (fnB s s.curfunc) (absC s) (absC s') := by
  obtain ⟨pos, hf, h1, rfl⟩ := h
  have hlp : loopPos (fnB s s.curfunc).code l = some pos := by
    show loopPos (B s.loops (fnOf s s.curfunc).code) l = _
    rw [loopPos_B]; exact hf
  have := CStep.exitLoop (f := fnB s s.curfunc) (absC s) _ l off k pos (fetchB hc) he hlp hnn h1
  simpa [absC] using this

/-- `BreakInstr`, given that the new pc is not negative (the VM does not check; in generated code
the offsets are positions inside the loop) -/
theorem refines_brk (l k : Nat) (n : Nat) (s s' : St) (hpc : 0 ≤ s.pc)
    (hc : (fnOf s s.curfunc).code[s.pc.toNat]? = some (.brk l k))
    (hex : (exec (n + 1) (.brk l k)).run s = (.ok (), s')) (hnn : 0 ≤ s'.pc) :
    CStep (fnB s s.curfunc) (absC s) (absC s') :=
  refines_exit hc rfl (exitLoop_ok ((exec_simple_eq n _ s rfl).symm.trans hex)) hnn

theorem refines_cont (l k : Nat) (n : Nat) (s s' : St) (hpc : 0 ≤ s.pc)
    (hc : (fnOf s s.curfunc).code[s.pc.toNat]? = some (.cont l k))
    (hex : (exec (n + 1) (.cont l k)).run s = (.ok (), s')) (hnn : 0 ≤ s'.pc) :
    CStep (fnB s s.curfunc) (absC s) (absC s') :=
  refines_exit hc rfl (exitLoop_ok ((exec_simple_eq n _ s rfl).symm.trans hex)) hnn


theorem refines_assign : StepRefines .assign := by
  intro n s s' hpc hc hex
  rw [exec_simple_eq n _ s rfl, step] at hex
  obtain ⟨r, rest1, hd, hex⟩ := popThen_ok hex
  obtain ⟨l, rest, hd1, hex⟩ := popThen_ok hex
  -- only two empty arrays are assignable, and the right one is left as the value
  have hs' : plain r = true ∧ s' = s.jmp (s.pc + 1) (some r :: rest) := by
    split at hex
    · split at hex <;> cases hex
      exact ⟨rfl, rfl⟩
    · cases hex
  obtain ⟨hp, rfl⟩ := hs'
  have hd' : s.data = some r :: some l :: rest := by rw [show s.data = _ from hd, show rest1 = _ from hd1]
  have := CStep.simple (f := fnB s s.curfunc) (absC s) _ 2 1 [cellOf (some r), cellOf (some l)] (rest.map cellOf)
    (fetchB hc) rfl (by simp [absC, hd']) rfl
  show CStep _ _ ⟨(s.pc + 1).toNat, (some r :: rest).map cellOf, _, _⟩
  rw [pc_succ hpc, List.map_cons, cellOf_plain hp]
  exact this


/-- **exec_refines**, full statement: every successful `VM.exec` step taken in the code of the
current function is a step of the stack-effect machine of that function, as the checker sees it,
between the abstractions of the two states — provided the step stays in the activation (a call
has returned: same function, same address depth; `ret` leaves the activation and is the end of
the run of the stack-effect machine, `Bal.AtRet`). -/
def ExecRefines : Prop :=
  ∀ (i : Instr) (n : Nat) (s s' : St), 0 ≤ s.pc → (fnOf s s.curfunc).code[s.pc.toNat]? = some i →
    (exec (n + 1) i).run s = (.ok (), s') → s'.curfunc = s.curfunc → s'.addr.length = s.addr.length → 0 ≤ s'.pc →
    CStep (fnB s s.curfunc) (absC s) (absC s')

/-- the instructions for which the refinement is proved unconditionally (`StepRefines`): every
instruction of the model but `push` of a stack-mark value (never generated), `envToStack`,
`tailGuard`, `prepareCall`, `brk`, `cont` — proved with the side condition each needs
(`refines_envToStack`: no stack-mark is bound to a name; `refines_tailGuard`: the skip target lies
inside the function; `refines_prepareCall`: compiled code; `refines_brk`/`refines_cont`: the new
pc is not negative) — and `callArr`, `callExpr` (the calling contract: needs the induction over
nested runs), `ret` (leaves the activation). -/
theorem exec_refines_partial (i : Instr)
    (h : match i with
      | .push v => plain v = true
      | .envToStack _ | .tailGuard _ _ | .prepareCall _ _ | .brk _ _ | .cont _ _
      | .callArr _ | .callExpr _ _ | .ret => False
      | _ => True) : StepRefines i := by
  cases i with
  | push v => exact refines_push v h
  | pop => exact refines_pop
  | dup => exact refines_dup
  | envToStack x => exact absurd h id
  | popStackPutEnv x => exact refines_popStackPutEnv x
  | update x => exact refines_update x
  | callArr n => exact absurd h id
  | callExpr c a => exact absurd h id
  | jump off => exact refines_jump off
  | goto loc => exact refines_goto loc
  | branch d off => exact refines_branch d off
  | ret => exact absurd h id
  | addScope => exact refines_addScope
  | addFuncScope t => exact refines_addFuncScope t
  | removeScope => exact refines_removeScope
  | createClosure t => exact refines_createClosure t
  | prepareCall x n => exact absurd h id
  | tailGuard x k => exact absurd h id
  | pushLazy e => exact refines_pushLazy e
  | loopStart l => exact refines_loopStart l
  | label => exact refines_label
  | pushMark l => exact refines_pushMark l
  | popUntilMark l => exact refines_popUntilMark l
  | clearMark l => exact refines_clearMark l
  | brk l k => exact absurd h id
  | cont l k => exact absurd h id
  | assign => exact refines_assign

end ZygoVerif.Refine
