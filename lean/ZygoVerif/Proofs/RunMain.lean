/-
The top-level text as the bottom activation.

`runText` appends the code of a text to `mainfunc` and runs the loop from the old end. That
stretch of `mainfunc` is an activation like any other for the calling contract
(`RunInv.allSpec'`), except that it has no return address and ends by running off its end
(`Base.main`). Its annotation does not come from a whole-function verification: the fragment
calculus of Proofs/GenBalanced.lean is generic in the position of the fragment
(`FragOK … ∀ F A L, Placed F A L code as → …`), so the annotation of the text is placed behind
`old.length` unannotated positions (`main_stepVerified`); of the old code only the uniqueness of
its loop ids is used.

`main_loop` is the loop over that activation, `run_loaded` the `Run` on the loaded text, `runText_out` the one
statement about a text of the grammar given to a served interpreter (`Served`), for every class of outcome.
-/
import ZygoVerif.Proofs.RunAct
import ZygoVerif.Proofs.VMRest

namespace ZygoVerif.RunInv
open ZygoVerif.Core ZygoVerif.VM ZygoVerif.Bal ZygoVerif.Refine ZygoVerif.Sim ZygoVerif.Contain


theorem holds_exec {b : Base} {a0 : Act} {s s1 : St} {n : Nat} {i : Instr} {u : Unit} (hh : Holds b a0 [] s) (ha0 : a0.A = 0)
    (hns : ¬ (s.pc = -1 ∨ s.pc ≥ curSize s)) (hi : (fnOf s s.curfunc).code[s.pc.toNat]? = some i)
    (hx : (exec n i).run s = (.ok u, s1)) : Holds b a0 [] s1 ∧ TExt s s1 ∧ s1.suspended = s.suspended := by
  cases n with
  | zero => simp only [VM.exec, run_throw] at hx; cases hx
  | succ m => exact holds_step_ext hh ⟨m, i, hns, hi, hx⟩ (by rw [ha0]; exact Nat.zero_le _)

/-- **The loop over the top-level text**: it keeps the text at the bottom of the stack of activations and stops
only at its end; when it fails there is a fault — a state of the run and the state a failing instruction left
from it — and the result is that state restored and parked. What holds along the loop (`Sim.runLoop_inv`) is `Holds`
and, from a state without nil cells, `NoNil`; the contract `spec'` is asked at the instruction that failed. -/
theorem main_loop (b : Base) (a0 : Act) (ha0 : a0.A = 0) (n : Nat) (st : CtlState) (s : St) (hh : Holds b a0 [] s) :
    Out (NoNil s ∧ b.linear ≠ []) (NoNil s ∧ b.linear ≠ [])
      (fun _ s' => Holds b a0 [] s' ∧ Stopped s' ∧ TExt s s' ∧ s'.suspended = s.suspended)
      (fun s' => ∃ s₀ s₁, TExt s s₀ ∧ s₀.suspended = s.suspended ∧ FaultOK b s₀ s₁ ∧ s' = park (restoreSt st s₁))
      ((runLoop n st).run s) := by
  have key := runLoop_inv
    (I := fun x => Holds b a0 [] x ∧ TExt s x ∧ x.suspended = s.suspended ∧ (NoNil s ∧ b.linear ≠ [] → NoNil x))
    (fun m i x x1 ⟨hx, he, hsu, hg⟩ hns hi hex => by
      obtain ⟨hh1, he1, hs1⟩ := holds_exec hx ha0 hns hi hex
      obtain ⟨hw, _, top, rest, hr, _⟩ := hx
      exact ⟨hh1, he.trans he1, hs1.trans hsu, fun g => ((spec' m).exec b x top rest i hw hr hi).noNil hex ⟨hg g, g.2⟩⟩)
    n st s ⟨hh, TExt.refl s, rfl, fun g => g.1⟩
  rcases e : (runLoop n st).run s with ⟨(_ | _ | _) | u, s'⟩ <;> rw [e] at key
  · obtain h | ⟨s₀, i, m, s₁, ⟨⟨hw, _, top, rest, hr, _⟩, he, hsu, hg⟩, hi, hex, hl⟩ := key
    · cases h
    · rw [loopTail_err] at hl
      cases hl
      exact fun g => ⟨s₀, s₁, he, hsu, ((spec' m).exec b s₀ top rest i hw hr hi).fault (hg g) hex, rfl⟩
  · obtain h | ⟨s₀, i, m, s₁, ⟨⟨hw, _, top, rest, hr, _⟩, _, _, hg⟩, hi, hex, _⟩ := key
    · cases h
    · exact fun g => ((spec' m).exec b s₀ top rest i hw hr hi).noPanic hex ⟨hg g, g.2⟩
  · trivial
  · exact ⟨⟨key.1.1, key.2, key.1.2.1, key.1.2.2.1⟩, key.1.2.2.2⟩

/-- when the loop has stopped, the bottom activation is the only one, and it is the top-level
text (an activation with a return address never runs off its end) -/
theorem main_end {b : Base} {a0 : Act} {s : St} (hh : Holds b a0 [] s) (hst : Stopped s) :
    WF s ∧ Running b s a0 [] ∧ s.addr = [] := by
  obtain ⟨hw, upper, top, rest, hr, hl⟩ := hh
  have hA : top.A = 0 := by
    apply Classical.byContradiction
    intro hne
    obtain ⟨h1, i, h2⟩ := hr.fetch hne
    rcases hst with h | h
    · exact h1 h
    · rw [h2] at h; cases h
  have haddr : s.addr = [] := by
    have := hr.topA
    exact List.length_eq_zero_iff.mp (by omega)
  have hrest : rest = [] := by
    cases rest with
    | nil => rfl
    | cons a r =>
      obtain ⟨r', tail, h1, _⟩ := hr.chain
      rw [haddr] at h1; cases h1
  subst hrest
  cases upper with
  | nil =>
    simp only [List.nil_append, List.cons.injEq, and_true] at hl
    subst hl
    exact ⟨hw, hr, haddr⟩
  | cons u us =>
    exfalso
    have := congrArg List.length hl
    simp at this


/-- the context of code placed in `mainfunc`: loop ids occur once -/
def mainEnv : Env := { loops := [], side := fun F _ => LoopsUnique F.code }

/-- `LoadExpressions` (the generator run of `runText`) on a text of the covered grammar: the
table invariant is kept, every template made on the way is verified, and the code of the text
is a fragment — wherever it is placed in a function whose loop ids are unique — that leaves
one value (nothing for the empty text), no scope, no open region. -/
theorem load_ok {s s1 : St} (isFn : Nat → Bool) (es : List Expr) (code : List Instr) (t : Bool) (hw : WF s)
    (hok : okLs es = true) (h : (runGen (compileBegin isFn {} es)).run s = (.ok (code, t), s1)) :
    WF s1 ∧ TExt s s1 ∧ s1.data = s.data ∧ s1.linear = s.linear ∧ s1.addr = s.addr ∧ s1.curfunc = s.curfunc ∧ s1.pc = s.pc ∧
      s1.trace = s.trace ∧ AllOK (szS s1) code ∧ idsIn code s.loops.length s1.loops.length ∧
      ∃ as τ, FragOK mainEnv (B s1.loops code) as ∧ as[0]? = some restState ∧ as[code.length]? = some τ ∧
        τ.k = 0 ∧ τ.frames = [] ∧ τ.base ≤ 1 := by
  rw [run_runGen] at h
  split at h
  · rename_i a gs' hc
    cases h
    have hc' : compileBegin isFn {} es s.gs = Except.ok ((code, t), gs') := hc
    have hgs := gsok_of_wf hw
    obtain ⟨_, ids, hnil, R⟩ := balL_compileBegin isFn es {} s.gs code t gs' hok hgs hc'
    obtain ⟨hfns, hfr⟩ := R.sem gs'.loops (TOk.self s.gs gs')
    have hcok := cok_compileBegin isFn es {} s.gs code t gs' hok hgs hw.two hc'
    have hext : TExt s (withGen s gs') := ⟨R.ext.fns, R.ext.loops⟩
    have hls : (withGen s gs').loopstack = [] := by
      show gs'.loopstack = []
      rw [R.ext.stack]; exact hw.loopstack
    refine ⟨?_, hext, rfl, rfl, rfl, rfl, rfl, rfl, hcok.code, ids, ?_⟩
    · refine hw.grow hext ?_ (by rw [hls]; exact hw.loopstack.symm) rfl rfl (fun lz h => Or.inl h) (fun c h => Or.inl h)
      intro id h1 h2
      have hget : gs'.fns[id]? = some (fnOf (withGen s gs') id) := by
        show gs'.fns[id]? = some (gs'.fns.getD id {})
        have h2' : id < gs'.fns.length := h2
        rw [List.getD_eq_getElem?_getD, List.getElem?_eq_getElem h2']
        rfl
      obtain ⟨hcode, huser, hsig⟩ := hcok.fns id _ h1 hget
      exact ⟨huser, hsig, hcode, hfns id _ h1 hget⟩
    · by_cases hne : es = []
      · have := hnil hne
        subst this
        refine ⟨[restState], restState, ⟨rfl, fun x hx => ?_, fun F A L _ _ i hi => ?_⟩, rfl, rfl, rfl, rfl, Nat.zero_le _⟩
        · simp only [List.mem_cons, List.not_mem_nil, or_false] at hx; subst hx; decide
        · simp [B] at hi
      · have hinv : GInv 0 {} s.gs mainEnv gs'.loops restState := by
          refine ⟨by decide, rfl, fun F A h => h, fun m hm => by simp [restState, openMarks] at hm, ?_, fun ht => by cases ht⟩
          intro id hid
          have : s.gs.loopstack = [] := hw.loopstack
          rw [this] at hid; cases hid
        obtain ⟨mid, hfrag⟩ := hfr hne 0 mainEnv restState hinv
        refine ⟨_, bump restState 1, hfrag, rfl, ?_, rfl, rfl, Nat.le_refl _⟩
        have hl := hfrag.1
        rw [B_length] at hl
        have hml : mid.length + 1 = code.length := by simp at hl; omega
        rw [← hml]
        simp
  · cases h


/-- nothing is claimed about the old code (the run never enters it); behind it, the fragment's states -/
def mainAnn (m : Nat) (as : List AState) : Ann := List.replicate m none ++ as.map some

theorem annAt_mainAnn_lt (m : Nat) (as : List AState) (i : Nat) (h : i < m) : annAt (mainAnn m as) i = none := by
  unfold annAt mainAnn
  rw [List.getElem?_append_left (by simpa using h)]
  simp [h]

theorem annAt_mainAnn_ge (m : Nat) (as : List AState) (i : Nat) : annAt (mainAnn m as) (m + i) = as[i]? := by
  unfold annAt mainAnn
  rw [List.getElem?_append_right (by simp)]
  simp only [List.length_replicate, Nat.add_sub_cancel_left, List.getElem?_map]
  cases as[i]? <;> rfl

theorem mainAnn_end {m n pc : Nat} {as : List AState} {a : AState} (hlen : as.length = n + 1)
    (hann : annAt (mainAnn m as) pc = some a) (hge : m + n ≤ pc) : pc = m + n ∧ as[n]? = some a := by
  have hlt : pc < m + (n + 1) := by
    unfold annAt at hann
    rcases Nat.lt_or_ge pc (mainAnn m as).length with h' | h'
    · simpa [mainAnn, hlen] using h'
    · rw [List.getElem?_eq_none_iff.mpr h'] at hann; cases hann
  have hpc : pc = m + n := by omega
  rw [hpc, annAt_mainAnn_ge] at hann
  exact ⟨hpc, hann⟩

/-- **Placement instead of shifting**: a fragment placed behind `old` in a function whose loop
ids are unique is locally verified there, with the old code left unannotated. -/
theorem main_stepVerified (F : Fn) (old code : List BInstr) (as : List AState) (hF : F.code = old ++ code)
    (hfrag : FragOK mainEnv code as) (hu : LoopsUnique F.code) : StepVerified F (mainAnn old.length as) := by
  obtain ⟨hlen, _, hk⟩ := hfrag
  refine ⟨fun pc a i ha hi => ?_⟩
  rcases Nat.lt_or_ge pc old.length with hlt | hge
  · rw [annAt_mainAnn_lt _ _ _ hlt] at ha; cases ha
  · obtain ⟨j, rfl⟩ : ∃ j, pc = old.length + j := ⟨pc - old.length, by omega⟩
    have hj : j < code.length := by
      have : old.length + j < F.code.length := by
        rcases Nat.lt_or_ge (old.length + j) F.code.length with h | h
        · exact h
        · rw [List.getElem?_eq_none_iff.mpr h] at hi; cases hi
      rw [hF, List.length_append] at this
      omega
    have hplaced : Placed F (mainAnn old.length as) old.length code as := by
      refine ⟨fun i _ => ?_, fun i _ => annAt_mainAnn_ge _ _ _⟩
      rw [hF, List.getElem?_append_right (by omega)]
      simp
    have hok := hk F (mainAnn old.length as) old.length hplaced ⟨hu, fun i hi => by cases hi⟩ j hj
    exact okAt_elim hok ha hi


/-- what is known of `mainfunc` between texts: compiled code of the grammar, loop ids unique
and allocated, the pc at its end -/
structure MainOK (s : St) : Prop where
  user : (fnOf s mainFn).user = false
  code : AllOK (szS s) (fnOf s mainFn).code
  ids : idsIn (fnOf s mainFn).code 0 s.loops.length
  pc : s.pc = ((fnOf s mainFn).code.length : Int)

/-- the state `runText` runs: the code of the text appended to `mainfunc` -/
def loaded (s1 : St) (code : List Instr) : St :=
  { s1 with fns := s1.fns.set mainFn { (fnOf s1 mainFn) with code := (fnOf s1 mainFn).code ++ code }, curfunc := mainFn }

theorem loaded_main (s1 : St) (code : List Instr) (h : 2 ≤ s1.fns.length) :
    fnOf (loaded s1 code) mainFn = { (fnOf s1 mainFn) with code := (fnOf s1 mainFn).code ++ code } := by
  show (s1.fns.set 0 _).getD 0 {} = _
  rw [List.getD_eq_getElem?_getD, List.getElem?_set_self (by omega)]
  rfl

theorem loaded_other (s1 : St) (code : List Instr) (id : Nat) (h : id ≠ 0) : fnOf (loaded s1 code) id = fnOf s1 id := by
  show (s1.fns.set 0 _).getD id {} = s1.fns.getD id {}
  rw [List.getD_eq_getElem?_getD, List.getD_eq_getElem?_getD, List.getElem?_set_ne (by omega)]

theorem loaded_len (s1 : St) (code : List Instr) : (loaded s1 code).fns.length = s1.fns.length := by
  show (s1.fns.set 0 _).length = _
  rw [List.length_set]

theorem wf_loaded {s1 : St} (code : List Instr) (hw : WF s1) : WF (loaded s1 code) := by
  have hl := loaded_len s1 code
  refine ⟨fun id h2 hlt => ?_, by rw [hl]; exact hw.two, hw.loopstack, by rw [hl]; exact hw.scopes, by rw [hl]; exact hw.heap,
    by rw [hl]; exact hw.lazies, by rw [hl]; exact hw.data⟩
  have hg := hw.fns id h2 (by rw [← hl]; exact hlt)
  have hfo := loaded_other s1 code id (by omega)
  have hsz : szS (loaded s1 code) = szS s1 := by simp only [szS, hl]; rfl
  refine ⟨by rw [hfo]; exact hg.user, by rw [hfo]; exact hg.sig, by rw [hfo, hsz]; exact hg.code, ?_⟩
  have : fnB (loaded s1 code) id = fnB s1 id := by
    simp only [fnB, hfo]; rfl
  rw [this]; exact hg.verified


/-- what is known of the state `s1` after `LoadExpressions` and of the code of the text (not yet
appended): nothing on the data and address stacks, `mainfunc`'s loop ids below `N`, those of
the text from `N` on, the text a fragment that starts at rest -/
structure Loaded (s1 : St) (code : List Instr) (as : List AState) (N : Nat) : Prop where
  wf : WF s1
  data : s1.data = []
  addr : s1.addr = []
  user : (fnOf s1 mainFn).user = false
  old : AllOK (szS s1) (fnOf s1 mainFn).code
  oids : idsIn (fnOf s1 mainFn).code 0 N
  ids : idsIn code N s1.loops.length
  le : N ≤ s1.loops.length
  pc : s1.pc = ((fnOf s1 mainFn).code.length : Int)
  cok : AllOK (szS s1) code
  frag : FragOK mainEnv (B s1.loops code) as
  start : as[0]? = some restState

/-- the pseudo caller of the top-level text: no return address -/
def mainBase (s1 : St) : Base := ⟨[], s1.linear, [], mainFn, 0, true⟩

/-- `mainfunc` from the old end on, as an activation -/
def mainAct (s1 : St) (as : List AState) : Act := ⟨mainFn, mainAnn (fnOf s1 mainFn).code.length as, [], s1.linear.length, 0⟩

/-- the loaded state: `mainfunc`, from the old end on, is the one activation, above a base without
return address -/
theorem Loaded.running {s1 : St} {code : List Instr} {as : List AState} {N : Nat} (h : Loaded s1 code as N) :
    WF (loaded s1 code) ∧ Running (mainBase s1) (loaded s1 code) (mainAct s1 as) [] ∧
      (fnOf (loaded s1 code) mainFn).code = (fnOf s1 mainFn).code ++ code ∧
      idsIn ((fnOf s1 mainFn).code ++ code) 0 s1.loops.length ∧ as.length = code.length + 1 := by
  obtain ⟨hw, hd, ha, hu, hold, hoids, hids, hN, hpc, hcode, hfrag, h0⟩ := h
  obtain ⟨s2, hs2⟩ : ∃ s2, s2 = loaded s1 code := ⟨_, rfl⟩
  rw [← hs2]
  have hw2 : WF s2 := by rw [hs2]; exact wf_loaded code hw
  obtain ⟨old, hold'⟩ : ∃ old, old = (fnOf s1 mainFn).code := ⟨_, rfl⟩
  have hmain : fnOf s2 mainFn = { (fnOf s1 mainFn) with code := old ++ code } := by
    rw [hs2, hold']; exact loaded_main s1 code hw.two
  have hsz : szS s2 = szS s1 := by rw [hs2]; simp only [szS, loaded_len]; rfl
  have hloops : s2.loops = s1.loops := by rw [hs2]; rfl
  have hcodeM : (fnOf s2 mainFn).code = old ++ code := by rw [hmain]
  have hidsM : idsIn (old ++ code) 0 s1.loops.length := by
    rw [hold']; exact idsIn_app hoids hids (Nat.zero_le _) hN
  have hBM : (fnB s2 mainFn).code = B s1.loops old ++ B s1.loops code := by
    show B s2.loops (fnOf s2 mainFn).code = _
    rw [hcodeM, hloops]; simp only [B, List.map_append]
  have huniq : LoopsUnique (fnB s2 mainFn).code := by
    apply loopsUnique_of_nodup
    show (lids (B s2.loops (fnOf s2 mainFn).code)).Nodup
    rw [lids_B, hcodeM]; exact nodup_of_idsIn hidsM
  have hstep : StepVerified (fnB s2 mainFn) (mainAnn (B s1.loops old).length as) :=
    main_stepVerified _ _ _ as hBM hfrag huniq
  rw [B_length] at hstep
  have hlenas : as.length = code.length + 1 := by have := hfrag.1; rw [B_length] at this; exact this
  have hpc2 : s2.pc = (old.length : Int) := by rw [hs2, hold']; exact hpc
  have hd2 : s2.data = [] := by rw [hs2]; exact hd
  have ha2 : s2.addr = [] := by rw [hs2]; exact ha
  have hl2 : s2.linear = s1.linear := by rw [hs2]; rfl
  have hact : ActOK s2 (mainAct s1 as) := by
    rw [mainAct, ← hold']
    refine ⟨hstep, fun h => absurd rfl h, ?_, fun h => absurd rfl h, by rw [hmain]; exact hu, ?_, ?_⟩
    · show (mainAnn old.length as).length = (fnB s2 mainFn).code.length + 1
      rw [hBM]; simp only [mainAnn, List.length_append, List.length_replicate, List.length_map, hlenas]; omega
    · have := hw2.two; show 0 < s2.fns.length; omega
    · show AllOK (szS s2) (fnOf s2 mainFn).code
      rw [hcodeM, hsz, hold']; exact AllOK.append hold hcode
  refine ⟨hw2, ⟨by rw [hs2]; rfl, by rw [hpc2]; exact Int.natCast_nonneg _, ?_, hact, ⟨by rfl, by rfl, ?_⟩,
    by rw [hl2]; exact List.suffix_refl _⟩, by rw [hcodeM, hold'], by rw [← hold']; exact hidsM, hlenas⟩
  · apply inv_mk (s' := restState) (own' := [])
    · refine ⟨restState, ?_, le_refl _⟩
      show annAt (mainAnn (fnOf s1 mainFn).code.length as) s2.pc.toNat = _
      rw [hpc2, ← hold']
      have := annAt_mainAnn_ge old.length as 0
      simp only [Nat.add_zero] at this
      rw [Int.toNat_natCast, this, h0]
    · show s2.data.map cellOf = _; rw [hd2]; rfl
    · exact Conc.base 0
    · show s2.linear.length = _; rw [hl2]; rfl
    · show s2.addr.length = _; rw [ha2]; rfl
  · show (if true = true then s2.addr = [] else _)
    rw [if_pos rfl]; exact ha2

theorem Loaded.holds {s1 : St} {code : List Instr} {as : List AState} {N : Nat} (h : Loaded s1 code as N) :
    Holds (mainBase s1) (mainAct s1 as) [] (loaded s1 code) :=
  ⟨h.running.1, [], _, [], h.running.2.1, rfl⟩

theorem loaded_running {s1 : St} (code : List Instr) (as : List AState) (N : Nat)
    (hw : WF s1) (hd : s1.data = []) (ha : s1.addr = [])
    (hu : (fnOf s1 mainFn).user = false) (hold : AllOK (szS s1) (fnOf s1 mainFn).code)
    (hoids : idsIn (fnOf s1 mainFn).code 0 N) (hids : idsIn code N s1.loops.length) (hN : N ≤ s1.loops.length)
    (hpc : s1.pc = ((fnOf s1 mainFn).code.length : Int)) (hcode : AllOK (szS s1) code)
    (hfrag : FragOK mainEnv (B s1.loops code) as) (h0 : as[0]? = some restState) :
    ∃ b a0, b.main = true ∧ a0.A = 0 ∧ b.linear = s1.linear ∧ Holds b a0 [] (loaded s1 code) := by
  exact ⟨mainBase s1, mainAct s1 as, rfl, rfl, rfl,
    (Loaded.mk hw hd ha hu hold hoids hids hN hpc hcode hfrag h0 : Loaded s1 code as N).holds⟩

/-- what `Run` on a loaded text leaves: the interpreter at rest, the table invariant and the facts about `mainfunc` kept -/
structure Rested (s1 s' : St) : Prop where
  wf : WF s'
  main : MainOK s'
  data : s'.data = []
  linear : s'.linear = s1.linear
  addr : s'.addr = []
  loopstack : s'.loopstack = []
  curfunc : s'.curfunc = mainFn

/-- **`Run` on a loaded text.** A value: the interpreter is at rest. An error: it is back at rest — the three stacks
EXACTLY those of entry —, the loop's fault (`main_loop`) being `FaultOK`. No host panic. -/
theorem run_loaded {s1 : St} {code : List Instr} {as : List AState} {N : Nat} (hL : Loaded s1 code as N) (τ : AState)
    (fuel : Nat) (hτ : as[code.length]? = some τ) (hk : τ.k = 0) (hfr : τ.frames = []) (hb : τ.base ≤ 1) :
    Out (NoNil s1) (NoNil s1 ∧ s1.suspended = [])
      (fun v s' => Rested s1 s' ∧ vok s'.fns.length v = true ∧ s'.suspended = s1.suspended)
      (fun s' => Rested s1 s' ∧ s'.suspended = [] ∧ LzOK s') ((run fuel).run (loaded s1 code)) := by
  obtain ⟨hw2, hrun, hcodeM, hidsM, hlenas⟩ := hL.running
  have hh := hL.holds
  obtain ⟨s2, hs2⟩ : ∃ s2, s2 = loaded s1 code := ⟨_, rfl⟩
  rw [← hs2] at hw2 hrun hcodeM hh ⊢
  obtain ⟨old, hold'⟩ : ∃ old, old = (fnOf s1 mainFn).code := ⟨_, rfl⟩
  rw [← hold'] at hcodeM hidsM
  have hloops : s2.loops = s1.loops := by rw [hs2]; rfl
  have hg2 : NoNil s1 → NoNil s2 ∧ (mainBase s1).linear ≠ [] := fun hg => ⟨by rw [hs2]; exact hg.same rfl rfl rfl rfl rfl, hg.lin⟩
  have hd2 : s2.data = [] := by rw [hs2]; exact hL.data
  have ha2 : s2.addr = [] := by rw [hs2]; exact hL.addr
  have hc2 : s2.curfunc = mainFn := by rw [hs2]; rfl
  have hidx : mainFn < s2.fns.length := by have := hw2.two; show 0 < s2.fns.length; omega
  cases fuel with
  | zero => rw [VM.run]; trivial
  | succ n =>
    rw [run_succ_eq, run_bind, run_capture]
    dsimp only
    rw [run_bind]
    have hl := main_loop (mainBase s1) (mainAct s1 as) rfl n (captureOf s2) s2 hh
    rcases e : (runLoop n (captureOf s2)).run s2 with ⟨(_ | _ | _) | u, s3⟩ <;> rw [e] at hl
    · -- the state restored and parked has the tables of the fault state and the stacks and registers of `s2`
      intro ⟨hg, hsu⟩
      obtain ⟨s₀, s₁, q3, q4, hf, rfl⟩ := hl (hg2 hg)
      have hsus2 : s2.suspended = [] := by rw [hs2]; exact hsu
      have hsus1 : s₁.suspended = [] := by rw [hf.susp, q4, hsus2]
      have hext : Extends s2 s₁ := by
        refine ⟨by rw [hd2]; exact List.nil_suffix, ?_, by rw [ha2]; exact List.nil_suffix, by rw [hsus2]; exact List.nil_suffix⟩
        have : linAt (captureOf s2) s₁ = s₁.linear := by
          unfold linAt; rw [hsus1]; simp
        rw [this, show s2.linear = (mainBase s1).linear by rw [hs2]; rfl]
        exact hf.lin
      have he2 : TExt s2 s₁ := q3.trans hf.ext
      have hfo : fnOf s₁ mainFn = fnOf s2 mainFn := he2.fnOf mainFn hidx
      have hux : (fnOf s₁ mainFn).user = false := by rw [hfo]; exact hrun.ok.user
      rw [restore_exact_vm s2 s₁ hext]
      refine ⟨⟨hf.tab.same (by show ∀ c ∈ s2.data, _; rw [hd2]; intro c hc; cases hc), ⟨hux, ?_, ?_, ?_⟩, hd2, by rw [hs2]; rfl, ha2,
        hf.tab.loopstack, hc2⟩, hsus2, hf.lz.same rfl⟩
      · show AllOK (szS s₁) (fnOf s₁ mainFn).code
        rw [hfo]
        exact hrun.ok.code.mono he2.sz
      · show idsIn (fnOf s₁ mainFn).code 0 s₁.loops.length
        rw [hfo, hcodeM]
        exact idsIn_mono hidsM (Nat.le_refl _) (by rw [← hloops]; exact he2.loops_len)
      · show (if (fnOf s₁ s2.curfunc).user then 0 else ((fnOf s₁ s2.curfunc).code.length : Int)) = _
        rw [hc2, hux]; rfl
    · exact fun hg => hl (hg2 hg)
    · trivial
    · obtain ⟨⟨hh3, hst3, he3, hsu3⟩, hg3⟩ := hl
      obtain ⟨hw3, hr3, ha3⟩ := main_end hh3 hst3
      have hok3 := hr3.ok
      have hann3 : (mainAct s1 as).ann = mainAnn old.length as := by rw [hold']; rfl
      have hlen3 : (fnOf s3 mainFn).code.length = old.length + code.length := by
        have h1 : (mainAnn old.length as).length = (fnB s3 mainFn).code.length + 1 := by rw [← hann3]; exact hok3.len
        have : (fnB s3 mainFn).code.length = (fnOf s3 mainFn).code.length := by
          show (B s3.loops (fnOf s3 mainFn).code).length = _; rw [B_length]
        rw [← this]
        have h2 : (mainAnn old.length as).length = old.length + (code.length + 1) := by
          simp only [mainAnn, List.length_append, List.length_replicate, List.length_map, hlenas]
        omega
      have hc3 : s3.curfunc = mainFn := hr3.cur
      obtain ⟨a, own, hann, hdata, hconc, hsc, _⟩ := hr3.inv
      rw [hann3] at hann
      have hpcn := hr3.pc
      have hge : old.length + code.length ≤ s3.pc.toNat := by
        rcases hst3 with h | h
        · rcases h with h | h
          · omega
          · have hcs : curSize s3 = ((fnOf s3 mainFn).code.length : Int) := by
              have hu3 : (fnOf s3 mainFn).user = false := hok3.user
              simp [curSize, hu3, hc3]
            rw [hcs, hlen3] at h
            omega
        · rw [hc3] at h
          have := List.getElem?_eq_none_iff.mp h
          omega
      obtain ⟨hpceq, haτ'⟩ := mainAnn_end hlenas (show annAt (mainAnn old.length as) s3.pc.toNat = some a from hann) hge
      have haτ : a = τ := by rw [hτ] at haτ'; cases haτ'; rfl
      subst haτ
      rw [hfr] at hconc
      have hown : own = List.replicate a.base .val := by cases hconc; rfl
      have hdata3 : s3.data.map cellOf = List.replicate a.base .val := by
        have : (absC s3).data = s3.data.map cellOf := rfl
        rw [← this, hdata, hown]; exact List.append_nil _
      have hlin3 : s3.linear = s1.linear := by
        refine (hr3.lin.eq_of_length ?_).symm
        symm
        have : (absC s3).sc = s3.linear.length := rfl
        rw [← this, hsc, hk]; rfl
      have hmain3 : fnOf s3 mainFn = fnOf s2 mainFn := he3.fnOf mainFn hidx
      have hm3 : MainOK s3 := by
        refine ⟨hok3.user, hok3.code, ?_, ?_⟩
        · rw [hmain3, hcodeM]
          exact idsIn_mono hidsM (Nat.le_refl _) (by rw [← hloops]; exact he3.loops_len)
        · rw [hmain3, hcodeM, List.length_append]
          have := hr3.pc
          omega
      have hsu : s3.suspended = s1.suspended := hsu3.trans (by rw [hs2]; rfl)
      have ht : s3.data.tail = [] :=
        List.eq_nil_of_length_eq_zero (by have := congrArg List.length hdata3; simp at this ⊢; omega)
      dsimp only
      refine (runTail_out hw3 (fun hg => hg3 (hg2 hg)) fun c rest hdd =>
        List.eq_of_mem_replicate (n := a.base) (by rw [← hdata3, hdd]; exact List.mem_cons_self)).imp id id ?_ fun _ h => h
      rintro v _ ⟨hv, hw4, rfl⟩
      exact ⟨⟨hw4, ⟨hm3.user, hm3.code, hm3.ids, hm3.pc⟩, ht, hlin3, ha3, hw3.loopstack, hc3⟩, hv, hsu⟩

/-- the interpreter between texts: the table invariant, the facts about `mainfunc`, at rest -/
structure Served (s : St) : Prop where
  wf : WF s
  main : MainOK s
  rest : AtRest s
  susp : s.suspended = []

theorem load_susp {s s1 : St} {α : Type} (g : G α) (r : α) (h : (runGen g).run s = (.ok r, s1)) : s1.suspended = s.suspended := by
  obtain ⟨_, _, rfl⟩ := runGen_ok h
  rfl

/-- with the pc at the end of `mainfunc` no `pop` is put in front of the text -/
theorem loaded_eq {s : St} (s1 : St) (code : List Instr) (hpc : curSize s ≤ s.pc) : VM.loaded s s1 code = loaded s1 code := by
  unfold VM.loaded loaded
  rw [if_pos hpc, List.append_nil]

theorem runText_loaded (fuel : Nat) (es : List Expr) (s s1 : St) (code : List Instr) (t : Bool) (hpc : curSize s ≤ s.pc)
    (hload : (runGen (compileBegin (isFnScope { s with trace := [] }) {} es)).run { s with trace := [] } = (.ok (code, t), s1)) :
    runText fuel es s = finishRun ((run fuel).run (loaded s1 code)) := by
  rw [runText_eq, show (runGen (compileBegin (isFnScope s) {} es)).run { s with trace := [] } = _ from hload]
  dsimp only
  rw [loaded_eq s1 code hpc]

theorem Rested.served {s s1 s' : St} (h : Rested s1 s') (hs : Served s) (l1 : s1.linear = s.linear) (hsu : s'.suspended = []) :
    Served s' := by
  refine ⟨h.wf, h.main, ⟨h.data, by rw [h.linear, l1]; exact hs.rest.2.1, h.addr, h.loopstack, h.curfunc, ?_⟩, hsu⟩
  have hcs : curSize s' = ((fnOf s' mainFn).code.length : Int) := by
    simp [curSize, h.curfunc, h.main.user]
  rw [hcs, h.main.pc]
  exact Int.le_refl _

/-- **One text of the grammar, served by an interpreter that satisfies the invariants and is at rest.** If it
returns a value the invariants hold afterwards and the interpreter is at rest (`Served`), without nil cells if it
had none; if it ends in an error, from a state without nil cells, the same; from such a state it does not end in
a host panic. (The stacks after an error are those of entry because both ends are at rest; that the restore at the
fault is exact is `run_loaded`.) -/
theorem runText_out (fuel : Nat) (es : List Expr) (s : St) (hs : Served s) (hok : okLs es = true) {cls v d : String}
    {tr : List String} {s' : St} {alive : Bool} (h : runText fuel es s = (Outcome.done cls v tr d, s', alive)) :
    (cls = "ok" → Served s' ∧ (NoNil s → NoNil s')) ∧ (cls = "err" → NoNil s → Served s' ∧ NoNil s') ∧
      (cls = "panic" → ¬ NoNil s) := by
  have ⟨hw, hm, ⟨hd, _, ha, _, _, hpc⟩, hsusp⟩ := hs
  rcases hload : (runGen (compileBegin (isFnScope s) {} es)).run { s with trace := [] } with ⟨e | ⟨code, t⟩, s1⟩
  · rw [runText_eq, hload] at h
    cases h
    exact ⟨by simp, by simp, by simp⟩
  obtain ⟨hw1, he1, d1, l1, a1, c1, p1, _, hcode, hids, as, τ, hfrag, h0, hτ, hk, hfr, hb⟩ :=
    load_ok (isFnScope s) es code t (hw.same hw.data : WF { s with trace := [] }) hok hload
  have hfo : fnOf s1 mainFn = fnOf s mainFn := he1.fnOf mainFn (show 0 < s.fns.length by have := hw.two; omega)
  have su1 : s1.suspended = [] := (load_susp _ _ hload).trans hsusp
  have hg1 : NoNil s → NoNil s1 := fun hg =>
    hg.same d1 l1 a1 (su1.trans hsusp.symm) (by obtain ⟨_, _, rfl⟩ := runGen_ok hload; rfl)
  have hL : Loaded s1 code as s.loops.length :=
    ⟨hw1, d1.trans hd, a1.trans ha, by rw [hfo]; exact hm.user, by rw [hfo]; exact hm.code.mono he1.sz,
      by rw [hfo]; exact hm.ids, hids, he1.loops_len, by rw [p1, hfo]; exact hm.pc, hcode, hfrag, h0⟩
  have hrt := runText_loaded fuel es s s1 code t hpc hload
  have ho := run_loaded hL τ fuel hτ hk hfr hb
  rw [hrt] at h
  rcases hr : (run fuel).run (loaded s1 code) with ⟨(_ | _ | _) | val, s3⟩ <;> rw [hr] at h ho <;> simp only [finishRun] at h <;>
    cases h
  · refine ⟨by simp, fun _ hg => ?_, by simp⟩
    obtain ⟨hR, hsu, hlz⟩ := ho ⟨hg1 hg, su1⟩
    refine ⟨hR.served hs l1 hsu, ⟨?_, ?_, ?_, ?_, hlz.1⟩, ?_, hlz.2⟩
    · rw [hR.data]; exact VMSafe.allSome_nil
    · rw [hR.linear, l1]; exact hg.good.linear
    · rw [hR.addr]; exact VMSafe.allSome_nil
    · rw [hsu]; intro l hl; cases hl
    · rw [hR.linear, l1]; exact hg.lin
  · exact ⟨by simp, by simp, fun _ hg => ho (hg1 hg)⟩
  · exact ⟨by simp, by simp, by simp⟩
  · exact ⟨fun _ => ⟨ho.1.1.served hs l1 (ho.1.2.2.trans su1), fun hg => ho.2 (hg1 hg)⟩, by simp, by simp⟩

/-- **One text of the grammar that returns a value**, served by an interpreter that satisfies
the invariants and is at rest: afterwards the invariants hold and the interpreter is at rest. -/
theorem runText_ok (fuel : Nat) (es : List Expr) (s s' : St) (v : String) (tr : List String) (d : String) (alive : Bool)
    (hs : Served s) (hok : okLs es = true) (h : runText fuel es s = (Outcome.done "ok" v tr d, s', alive)) : Served s' :=
  ((runText_out fuel es s hs hok h).1 rfl).1

end ZygoVerif.RunInv
