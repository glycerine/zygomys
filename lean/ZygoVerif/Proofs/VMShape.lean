/-
What the functions of the VM's mutual block (`Model/VM.lean`) are, stated once.

`builtin` is a chain of tests on the name and matches on the argument list; every invariant
of the block has to visit each of its arms. `builtin_succ_cases` resolves the tests: to
prove something of `builtin (fuel+1) name args` it is enough to prove it of the eleven
programs the body can be — the arms with the shape of `args` already known. Three arms that
only read and write the data heap get names (`substituteLazy`, `primCall`, `allocArr`).

`allMoves`: the induction on the fuel over all thirteen functions, done once, for every
preorder on states that the machine's table updates respect (`Respects`).
-/
import ZygoVerif.Proofs.SimMachine
import ZygoVerif.Proofs.VMRest
namespace ZygoVerif.VM
open ZygoVerif.Core

/-- the `substitute` builtin on a lazy argument: the expression as parsed, never evaluated -/
def substituteLazy (id : Nat) : M Val := do
  let s ← get
  match s.lazies[id]? with
  | none => err
  | some lz =>
    if lz.isValue then pure (lz.value.getD .nil)
    else
      let (v, h) := quoteE lz.e s.heap
      set { s with heap := h }
      pure v

/-- the builtins that are pure functions of their arguments and the data heap -/
def primCall (name : String) (args : List Val) : M Val := do
  let s ← get
  match prim name args s.heap with
  | some (v, h) => set { s with heap := h }; pure v
  | none => err

def allocArr (vs : List Val) : M Val := do
  let s ← get
  let (a, h) := s.heap.alloc vs
  set { s with heap := h }
  pure a

/-- **The body of `builtin`, arm by arm.** `trace` and `probe` append a line to the trace;
`force` and `substitute` take one argument and treat a lazy one specially; `apply` and `map`
take a function and a collection (array or list); every other name is a `prim`. -/
theorem builtin_succ_cases {P : M Val → Prop} (fuel : Nat) (name : String) (args : List Val)
    (trace : P (do
      modify (fun s => { s with trace := s.trace ++ [pr s.heap (args.headD .nil)] })
      pure (args.headD .nil)))
    (probe : P (do
      modify (fun s => { s with trace := s.trace ++
        [s!"P{pr s.heap (args.headD .nil)}:{s.data.length}/{s.linear.length}/{s.addr.length}"] })
      pure .nil))
    (force : ∀ id, args = [.lazy id] → P (forceLazy fuel id))
    (ret : ∀ v, args = [v] → P (pure v))
    (err : P err)
    (subst : ∀ id, args = [.lazy id] → P (substituteLazy id))
    (applyArr : ∀ f r, args = [f, .arr r] → isFunction f = true →
      P (do let s ← get; applyFn fuel f (s.heap.get r)))
    (applyList : ∀ f a b xs, args = [f, .pair a b] → isFunction f = true →
      listToArray (.pair a b) = some xs → P (applyFn fuel f xs))
    (mapArr : ∀ f r, args = [f, .arr r] → isFunction f = true →
      P (do let s ← get; let vs ← mapArr fuel f r 0 (s.heap.get r).length; allocArr vs))
    (mapList : ∀ f a b, args = [f, .pair a b] → isFunction f = true → P (mapList fuel f (.pair a b)))
    (prim : P (primCall name args)) :
    P (builtin (fuel + 1) name args) := by
  unfold builtin
  by_cases h1 : name = "trace"
  · rw [if_pos h1]; exact trace
  rw [if_neg h1]
  by_cases h2 : name = "probe"
  · rw [if_pos h2]; exact probe
  rw [if_neg h2]
  by_cases h3 : name = "force"
  · rw [if_pos h3]
    split
    · exact force _ rfl
    · exact ret _ rfl
    · exact err
  rw [if_neg h3]
  by_cases h4 : name = "substitute"
  · rw [if_pos h4]
    split
    · exact subst _ rfl
    · exact ret _ rfl
    · exact err
  rw [if_neg h4]
  by_cases h5 : name = "apply"
  · rw [if_pos h5]
    split
    · rename_i f coll
      split
      · exact err
      · rename_i hf
        have hf : isFunction f = true := by simpa using hf
        cases coll with
        | arr r => exact applyArr f r rfl hf
        | pair a b =>
          dsimp only
          split
          · rename_i xs hxs
            exact applyList f a b xs rfl hf hxs
          · exact err
        | _ => exact err
    · exact err
  rw [if_neg h5]
  by_cases h6 : name = "map"
  · rw [if_pos h6]
    split
    · rename_i f coll
      split
      · exact err
      · rename_i hf
        have hf : isFunction f = true := by simpa using hf
        split
        · exact mapArr f _ rfl hf
        · exact mapList f _ _ rfl hf
        · exact err
    · exact err
  rw [if_neg h6]
  exact prim

/-! ## Invariants of the whole block

An invariant of the machine is a preorder `R` on states that every function of the block
moves states along, whatever the outcome. `Respects R C` lists what `R` has to allow for
that: the ways in which the machine changes its tables.

What this form can say. `Moves` sees neither the value a function returns nor its outcome, and
`frame` makes `R` blind to the data and address stacks, the registers, the data heap, the trace and
the loop table: "the heap only grows", "the returned value is storable", anything about operands is
not an instance. The calling contract of C04 needs such facts and has an induction of its own
(`RunInv.spec`, Proofs/RunOut.lean). A unary invariant `I` is coded as the preorder
`R s s' := I s → I s' ∧ …` (`Contain.SK`, `Scope.Step`).

`C` says which captured control states may be restored (for most invariants: all). `captureBind`
has to produce `C` of the state captured in an arbitrary `s`, so `C (captureOf s)` must follow from
the premise inside `R s _` (`Contain.keeps_capture_bind`: `base` is set aside in `s`, hence the
recorded number is at least its length). `gen` is about `compile` at run time only; a whole text
also runs `compileBegin` and the load step, which `Respects.runText` asks for separately. `force`
is proved from the text of `forceLazy` in each instance: the body equations (Proofs/VMBody.lean)
stand above this module.

The instances state their results in vocabularies of their own, fixed by the statements of C03, C05
and C16: `Contain.Keeps`, `Scope.Safe`, `VM.PresAt` are `Moves` at one `R`, and `AllKeeps`, `AllSafe`,
`AllPres` are `AllMoves` field by field. -/

/-- running `m` moves every state along `R`, whatever the outcome -/
def Moves (R : St → St → Prop) {α} (m : M α) : Prop := ∀ s, R s (m.run s).2

/-- `h s`, stated so that `m` is read off a goal about `m.run s` -/
theorem Moves.at {R : St → St → Prop} {α} {m : M α} (h : Moves R m) (s : St) : R s (m.run s).2 := h s

theorem Moves.get_bind {R : St → St → Prop} {β} {f : St → M β} (hf : ∀ s, R s ((f s).run s).2) : Moves R (get >>= f) := hf

theorem Moves.modify {R : St → St → Prop} {g : St → St} (hg : ∀ s, R s (g s)) : Moves R (modify g) := hg

theorem Moves.ite {R : St → St → Prop} {α} {c : Prop} [Decidable c] {a b : M α} (ha : Moves R a) (hb : Moves R b) :
    Moves R (if c then a else b) := by
  split <;> assumption

/-- `R` is a preorder on machine states -/
structure Pre (R : St → St → Prop) : Prop where
  refl : ∀ s, R s s
  trans : ∀ {a b c}, R a b → R b c → R a c

namespace Pre
open ZygoVerif.Sim
variable {R : St → St → Prop} (h : Pre R) {α β : Type}
include h

protected theorem pure (a : α) : Moves R (pure a : M α) := fun s => h.refl s
protected theorem throw (e : Fault) : Moves R (throw e : M α) := fun s => h.refl s
protected theorem get : Moves R (get : M St) := fun s => h.refl s

protected theorem bind {m : M α} {f : α → M β} (hm : Moves R m) (hf : ∀ a, Moves R (f a)) : Moves R (m >>= f) := by
  intro s
  rw [run_bind]
  have hs := hm s
  generalize m.run s = p at hs ⊢
  obtain ⟨r | a, s'⟩ := p
  · exact hs
  · exact h.trans hs (hf a s')

/-- an early exit: `if c then throw e` in front of `k` -/
theorem guard {c : Prop} [Decidable c] (e : Fault) {k : Unit → M β} (hk : Moves R (k ())) :
    Moves R (if c then (throw e : M Unit) >>= k else k ()) :=
  Moves.ite (h.bind (h.throw e) fun _ => hk) hk

/-- run `m` from the current state, keep its state, continue on its result: the `guarded` wrapper of
`CallResolved`, and the same shape elsewhere -/
theorem run_set {m : M α} (hm : Moves R m) {k : Except Fault α → M β} (hk : ∀ r, Moves R (k r)) (s : St) :
    R s ((do set (m.run s).2; k (m.run s).1 : M β).run s).2 := by
  rw [run_bind, Sim.run_set]
  have hs := hm s
  generalize m.run s = p at hs ⊢
  exact h.trans hs (hk p.1 p.2)

end Pre

structure Respects (R : St → St → Prop) (C : CtlState → Prop) : Prop extends Pre R where
  /-- what `R` may not depend on: the data and address stacks, the registers (`curfunc`, `pc`), the
  data heap, the trace and the loop table are free as long as the function, scope and thunk tables,
  the live and the set-aside scope stacks and the loop stack stay -/
  frame : ∀ {s s' : St}, s'.fns = s.fns → s'.scopes = s.scopes → s'.loopstack = s.loopstack →
    s'.lazies = s.lazies → s'.linear = s.linear → s'.suspended = s.suspended → R s s'
  setVar : ∀ id x v, Moves R (setInScope id x v)
  dropScope : Moves R popScope
  addScope : ∀ (s : St) (sc : Scope) (pc : Int),
    R s { s with scopes := s.scopes ++ [sc], linear := some s.scopes.length :: s.linear, pc := pc }
  addFn : ∀ (s : St) (f : FnObj), f.closing = closingNow s → R s { s with fns := s.fns ++ [f] }
  /-- a lazy argument over the live stack (`PushLazyInstr`, `PrepareCallExprArgs`) or over none (`Apply`) -/
  addLazy : ∀ (s : St) (z : LazyObj), z.stack = s.linear ∨ z.stack = [] → R s { s with lazies := s.lazies ++ [z] }
  gen : ∀ isFn c e, Moves R (runGen (compile isFn c e))
  captureBind : ∀ {β} {f : CtlState → M β}, (∀ st, C st → Moves R (f st)) → Moves R (capture >>= f)
  restoreTo : ∀ st, C st → Moves R (restore st)
  /-- `Force` gets a field of its own: it is the one place that writes into an existing thunk
  (`lazies.set`) and pushes on `suspended`, and what an invariant says there depends on the thunk -/
  force : ∀ n, (∀ f st, C st → Moves R (nested n f st)) → ∀ id, Moves R (forceLazy (n + 1) id)

namespace Respects
open ZygoVerif.Sim
variable {R : St → St → Prop} {C : CtlState → Prop} (h : Respects R C) {α β : Type}
include h

theorem same {s s' : St} (h1 : s'.fns = s.fns := by rfl) (h2 : s'.scopes = s.scopes := by rfl)
    (h3 : s'.loopstack = s.loopstack := by rfl) (h4 : s'.lazies = s.lazies := by rfl)
    (h5 : s'.linear = s.linear := by rfl) (h6 : s'.suspended = s.suspended := by rfl) : R s s' :=
  h.frame h1 h2 h3 h4 h5 h6

theorem pushData (v : Val) : Moves R (pushData v) := fun _ => h.same
theorem incPc : Moves R incPc := fun _ => h.same

theorem popData : Moves R popData := fun s => by
  rw [run_popData]
  split
  · exact h.refl s
  · exact h.refl s
  · exact h.same

theorem popN (n : Nat) : Moves R (popN n) := Moves.get_bind fun s => by
  split
  · exact h.refl s
  · dsimp only
    split
    · exact h.refl s
    · exact h.same

theorem jumpTo (n : Int) : Moves R (jumpTo n) := fun s => by
  rw [run_jumpTo]
  split
  · exact h.refl s
  · exact h.same

theorem wrangleOptargs (a b : Nat) : Moves R (wrangleOptargs a b) :=
  Moves.ite (h.throw _) (Moves.ite (h.bind (h.popN _) fun _ => h.pushData _) (h.pushData _))

theorem callFunction (f n : Nat) : Moves R (callFunction f n) := by
  have hfin : Moves R (modify fun s => { s with addr := some (s.curfunc, s.pc + 1) :: s.addr, curfunc := f, pc := 0 }) :=
    Moves.modify fun _ => h.same
  exact h.bind h.get fun s => h.guard _ (h.guard _
    (Moves.ite (h.bind (h.wrangleOptargs _ _) fun _ => hfin) (h.guard _ hfin)))

theorem popScopes : ∀ n, Moves R (popScopes n)
  | 0 => h.pure ()
  | n + 1 => h.bind h.dropScope fun _ => popScopes n

theorem popToMark (l : Nat) (k : Bool) : ∀ fuel, Moves R (popToMark l k fuel)
  | 0 => h.throw _
  | fuel + 1 => by
    rw [VM.popToMark]
    refine h.bind h.popData fun v => ?_
    have ih := popToMark l k fuel
    split
    · exact Moves.ite (Moves.ite (h.pushData _) (h.pure _)) ih
    · exact ih

theorem bindTop (x : String) (v : Val) : Moves R (bindTop x v) := Moves.get_bind fun s => by
  split
  · split
    · split
      · exact h.setVar _ _ _ s
      · exact h.refl s
    · exact h.setVar _ _ _ s
  · exact h.refl s

end Respects

structure AllMoves (R : St → St → Prop) (C : CtlState → Prop) (fuel : Nat) : Prop where
  run : Moves R (run fuel)
  runLoop : ∀ st, C st → Moves R (runLoop fuel st)
  exec : ∀ i, Moves R (exec fuel i)
  evalCallExpr : ∀ e, Moves R (evalCallExpr fuel e)
  nested : ∀ f st, C st → Moves R (nested fuel f st)
  prepareArgs : ∀ f i es, Moves R (prepareArgs fuel f i es)
  callResolved : ∀ f args, Moves R (callResolved fuel f args)
  callUser : ∀ name n, Moves R (callUser fuel name n)
  builtin : ∀ name args, Moves R (builtin fuel name args)
  applyFn : ∀ f args, Moves R (applyFn fuel f args)
  mapArr : ∀ f r i n, Moves R (mapArr fuel f r i n)
  mapList : ∀ f l, Moves R (mapList fuel f l)
  forceLazy : ∀ id, Moves R (forceLazy fuel id)

namespace Respects
open ZygoVerif.Sim
variable {R : St → St → Prop} {C : CtlState → Prop} (h : Respects R C) {n : Nat} (ih : AllMoves R C n)
include h ih

theorem run_succ : Moves R (run (n + 1)) := by
  rw [run]
  refine h.captureBind fun st hst => h.bind (ih.runLoop st hst) fun _ => h.bind h.get fun s => ?_
  dsimp only
  split
  · exact h.bind (h.pushData _) fun _ => h.popData
  · exact h.popData

theorem runLoop_succ (st : CtlState) (hst : C st) : Moves R (runLoop (n + 1) st) := by
  rw [runLoop]
  refine Moves.get_bind fun s => ?_
  split
  · exact h.refl s
  split
  · exact h.refl s
  · rename_i instr _
    dsimp only
    rw [run_bind, run_set]
    have hs := ih.exec instr s
    generalize (exec n instr).run s = p at hs ⊢
    refine h.trans hs (Moves.at ?_ p.2)
    split
    · exact ih.runLoop st hst
    · exact h.bind (h.restoreTo st hst) fun _ => h.bind (Moves.modify fun _ => h.same) fun _ => h.throw _
    · exact h.throw _

theorem exec_succ (i : Instr) : Moves R (exec (n + 1) i) := by
  cases i with
  | push v | pushMark l => unfold exec; exact h.bind (h.pushData _) fun _ => h.incPc
  | pop =>
    unfold exec
    refine Moves.get_bind fun s => ?_
    split
    · exact h.incPc s
    · exact h.refl s
    · exact h.same
  | dup =>
    unfold exec
    refine Moves.get_bind fun s => ?_
    split
    · exact h.refl s
    · exact h.refl s
    · exact (h.bind (h.pushData _) fun _ => h.incPc) s
  | envToStack x =>
    unfold exec
    refine Moves.get_bind fun s => ?_
    split
    · exact (h.bind (h.pushData _) fun _ => h.incPc) s
    · exact h.refl s
  | popStackPutEnv x => unfold exec; exact h.bind h.popData fun _ => h.bind h.incPc fun _ => h.bindTop _ _
  | update x =>
    unfold exec
    refine h.bind h.popData fun v => h.bind h.incPc fun _ => Moves.get_bind fun s => ?_
    split
    · exact h.setVar _ _ _ s
    · exact h.bindTop _ _ s
  | callArr k => unfold exec; exact ih.callUser _ _
  | callExpr c a => unfold exec; exact h.bind (ih.evalCallExpr c) fun f => ih.callResolved f a
  | jump o => unfold exec; exact h.bind h.get fun _ => h.jumpTo _
  | goto l => unfold exec; exact h.jumpTo _
  | branch d o =>
    unfold exec
    exact h.bind h.popData fun _ => h.bind h.get fun _ => Moves.ite (h.jumpTo _) h.incPc
  | ret =>
    unfold exec
    refine Moves.get_bind fun s => ?_
    split
    · exact h.refl s
    · exact h.refl s
    · exact h.same
  | addScope => unfold exec; exact Moves.modify fun s => h.addScope s _ _
  | addFuncScope t => unfold exec; exact Moves.modify fun s => h.addScope s _ _
  | removeScope => unfold exec; exact h.bind h.incPc fun _ => h.dropScope
  | createClosure t =>
    unfold exec
    refine h.bind h.incPc fun _ => Moves.get_bind fun s => ?_
    dsimp only
    rw [run_bind, run_set]
    exact h.trans (h.addFn s _ rfl) (h.pushData _ _)
  | prepareCall x k =>
    unfold exec
    refine h.bind h.get fun s => ?_
    dsimp only
    split
    · exact h.bind (h.wrangleOptargs _ _) fun _ => h.incPc
    · exact h.incPc
  | tailGuard x k =>
    unfold exec
    refine Moves.get_bind fun s => ?_
    split
    · split
      · exact h.incPc s
      · exact h.same
    · exact h.same
  | pushLazy e =>
    unfold exec
    refine Moves.get_bind fun s => ?_
    rw [run_bind, run_set]
    exact h.trans (h.addLazy s _ (.inl rfl)) ((h.bind (h.pushData _) fun _ => h.incPc) _)
  | loopStart l | label => unfold exec; exact h.incPc
  | popUntilMark l => unfold exec; exact h.bind h.incPc fun _ => h.bind h.get fun _ => h.popToMark _ _ _
  | clearMark l => unfold exec; exact h.bind h.get fun _ => h.bind (h.popToMark _ _ _) fun _ => h.incPc
  | brk l k | cont l k =>
    unfold exec
    refine h.bind h.get fun s => ?_
    split
    · exact h.throw _
    · exact h.bind (h.popScopes _) fun _ => Moves.modify fun _ => h.same
  | assign =>
    unfold exec
    refine h.bind h.incPc fun _ => h.bind h.popData fun rhs => h.bind h.popData fun lhs => h.bind h.get fun s => ?_
    split
    · exact Moves.ite (h.pushData _) (h.throw _)
    · exact h.throw _

theorem evalCallExpr_succ (e : Expr) : Moves R (evalCallExpr (n + 1) e) := by
  unfold evalCallExpr
  split
  · refine h.bind h.get fun s => ?_
    split
    · exact h.pure _
    · exact h.throw _
  · refine h.bind h.get fun s0 => h.bind (h.gen _ _ _) fun p => ?_
    obtain ⟨code, t⟩ := p
    dsimp only
    split
    · exact h.pure _
    · refine h.captureBind fun st hst => Moves.get_bind fun s => ?_
      rw [run_bind, Sim.run_mkFunction]
      exact h.trans (h.addFn s _ rfl) ((h.bind (Moves.modify fun _ => h.same) fun _ => ih.nested _ st hst) _)

theorem nested_succ (f : Nat) (st : CtlState) (hst : C st) : Moves R (nested (n + 1) f st) := by
  rw [nested]
  refine Moves.get_bind fun s => ?_
  dsimp only
  rw [run_bind, run_set]
  have hs := (h.bind (h.callFunction f 0) fun _ => ih.run) s
  generalize (VM.callFunction f 0 >>= fun _ => run n).run s = p at hs ⊢
  refine h.trans hs (Moves.at ?_ p.2)
  split
  · exact h.bind (h.restoreTo st hst) fun _ => h.pure _
  · exact h.bind (h.restoreTo st hst) fun _ => h.throw _
  · exact h.throw _

theorem prepareArgs_succ (f : Option FnObj) (i : Nat) : ∀ es, Moves R (prepareArgs (n + 1) f i es)
  | [] => by simp only [prepareArgs]; exact h.pure _
  | e :: es => by
    unfold prepareArgs
    refine Moves.ite (Moves.get_bind fun s => ?_) ?_
    · rw [run_bind, run_set]
      exact h.trans (h.addLazy s _ (.inl rfl)) ((h.bind (h.pushData _) fun _ => ih.prepareArgs _ _ _) _)
    · exact h.bind (ih.evalCallExpr e) fun _ => h.bind (h.pushData _) fun _ => ih.prepareArgs _ _ _

/-- `CallResolved` runs the call under a guard that cuts the data stack back on an error -/
theorem callResolved_succ (f : Val) (args : List Expr) : Moves R (callResolved (n + 1) f args) := by
  rw [callResolved]
  refine h.bind h.get fun s0 => ?_
  have guarded : ∀ m : M Unit, Moves R m → Moves R (do
      let s ← get
      let r : Except Fault Unit × St := m.run s
      set r.2
      match r.1 with
      | .ok _ => pure ()
      | .error .err => do modify (fun s => { s with data := truncate s.data s0.data.length }); throw .err
      | .error flt => throw flt : M Unit) := by
    intro m hm
    refine Moves.get_bind fun s => ?_
    dsimp only
    rw [run_bind, run_set]
    have hs := hm s
    generalize m.run s = p at hs ⊢
    refine h.trans hs (Moves.at ?_ p.2)
    split
    · exact h.pure _
    · exact h.bind (Moves.modify fun _ => h.same) fun _ => h.throw _
    · exact h.throw _
  have hp := ih.prepareArgs
  dsimp only
  split
  · exact guarded _ (h.bind (hp _ _ _) fun _ => h.callFunction _ _)
  · exact guarded _ (h.bind (hp _ _ _) fun _ => ih.callUser _ _)
  · exact guarded _ (h.bind (hp _ _ _) fun _ => h.throw _)
  · exact Moves.ite (h.bind (h.pushData _) fun _ => h.incPc) (h.throw _)

theorem callUser_succ (name : String) (nargs : Nat) : Moves R (callUser (n + 1) name nargs) := by
  rw [callUser]
  refine h.bind h.get fun s0 => h.guard _ (h.guard _ (h.bind (h.popN _) fun args => h.captureBind fun st hst =>
    h.bind (Moves.modify fun _ => h.same) fun _ => Moves.get_bind fun s => ?_))
  rw [run_bind, run_set]
  have hs := ih.builtin name args s
  generalize (builtin n name args).run s = p at hs ⊢
  refine h.trans hs (Moves.at ?_ p.2)
  split
  · refine h.bind (h.pushData _) fun _ => Moves.get_bind fun s2 => ?_
    split
    · split
      · exact h.same
      · exact h.refl _
    · exact h.same
  · exact h.throw _
  · exact h.bind (h.restoreTo st hst) fun _ => h.throw _

theorem applyFn_succ (f : Val) (args : List Val) : Moves R (applyFn (n + 1) f args) := by
  unfold applyFn
  split
  · exact ih.builtin _ _
  · rename_i id
    refine h.captureBind fun st hst => h.bind (Moves.modify fun _ => h.same) fun _ => Moves.get_bind fun s => ?_
    dsimp only
    rw [run_bind, run_set]
    refine h.trans (List.foldlRecOn (motive := fun p : St × Nat => R s p.1) args _ (h.refl s) fun p hp v _ => h.trans hp ?_)
      (Moves.at (Moves.get_bind fun s2 => ?_) _)
    · obtain ⟨s1, i⟩ := p
      dsimp only
      split
      · exact h.trans (h.addLazy s1 _ (.inr rfl)) h.same
      · exact h.same
    · rw [run_bind, run_set]
      have hs := (h.bind (h.callFunction id args.length) fun _ => ih.run) s2
      generalize (VM.callFunction id args.length >>= fun _ => run n).run s2 = p at hs ⊢
      refine h.trans hs (Moves.at ?_ p.2)
      split
      · exact h.pure _
      · exact h.bind (h.restoreTo st hst) fun _ => h.throw _
      · exact h.throw _
  · exact h.throw _

theorem mapArr_succ (f : Val) (r i k : Nat) : Moves R (mapArr (n + 1) f r i k) := by
  rw [mapArr]
  exact Moves.ite (h.pure _) (h.bind h.get fun _ => h.bind (ih.applyFn _ _) fun _ => h.bind (ih.mapArr _ _ _ _) fun _ => h.pure _)

theorem mapList_succ (f l : Val) : Moves R (mapList (n + 1) f l) := by
  unfold mapList
  split
  · exact h.pure _
  · exact h.bind (ih.applyFn _ _) fun _ => h.bind (ih.mapList _ _) fun _ => h.pure _
  · exact h.throw _

theorem builtin_succ (name : String) (args : List Val) : Moves R (builtin (n + 1) name args) := by
  have heap : ∀ (s : St) (hp : DataHeap), R s { s with heap := hp } := fun _ _ => h.same
  refine builtin_succ_cases n name args (h.bind (Moves.modify fun _ => h.same) fun _ => h.pure _)
    (h.bind (Moves.modify fun _ => h.same) fun _ => h.pure _) (fun id _ => ih.forceLazy id) (fun v _ => h.pure v) (h.throw _)
    (fun id _ => Moves.get_bind fun s => ?_) (fun f r _ _ => h.bind h.get fun _ => ih.applyFn f _)
    (fun f _ _ xs _ _ _ => ih.applyFn f xs)
    (fun f r _ _ => h.bind h.get fun _ => h.bind (ih.mapArr f r 0 _) fun vs => Moves.get_bind fun s => heap s _)
    (fun f a b _ _ => ih.mapList f _) (Moves.get_bind fun s => ?_)
  · split
    · exact h.refl s
    · split
      · exact h.refl s
      · exact heap s _
  · split
    · exact heap s _
    · exact h.refl s

end Respects

theorem allMoves {R : St → St → Prop} {C : CtlState → Prop} (h : Respects R C) : ∀ fuel, AllMoves R C fuel
  | 0 =>
    have t {α} : Moves R (throw .timeout : M α) := h.throw _
    ⟨by unfold run; exact t, fun _ _ => by unfold runLoop; exact t, fun _ => by unfold exec; exact t,
      fun _ => by unfold evalCallExpr; exact t, fun _ _ _ => by unfold nested; exact t,
      fun _ _ _ => by unfold prepareArgs; exact t, fun _ _ => by unfold callResolved; exact t,
      fun _ _ => by unfold callUser; exact t, fun _ _ => by unfold builtin; exact t, fun _ _ => by unfold applyFn; exact t,
      fun _ _ _ _ => by unfold mapArr; exact t, fun _ _ => by unfold mapList; exact t, fun _ => by unfold forceLazy; exact t⟩
  | n + 1 =>
    have ih := allMoves h n
    { run := h.run_succ ih
      runLoop := h.runLoop_succ ih
      exec := h.exec_succ ih
      evalCallExpr := h.evalCallExpr_succ ih
      nested := h.nested_succ ih
      prepareArgs := h.prepareArgs_succ ih
      callResolved := h.callResolved_succ ih
      callUser := h.callUser_succ ih
      builtin := h.builtin_succ ih
      applyFn := h.applyFn_succ ih
      mapArr := h.mapArr_succ ih
      mapList := h.mapList_succ ih
      forceLazy := h.force n ih.nested }

/-- **A whole text.** `runText` drops the trace, compiles the text at load time, appends its code to `__main` and runs:
if `R` also allows the load step — the generator on a list of top-level forms, and new code for `__main` — every text
moves the interpreter along `R`, whatever its outcome. -/
theorem Respects.runText {R : St → St → Prop} {C : CtlState → Prop} (h : Respects R C)
    (hgen : ∀ isFn es, Moves R (runGen (compileBegin isFn {} es))) (hmain : ∀ s s1 code, R s1 (loaded s s1 code))
    (fuel : Nat) (es : List Expr) (s : St) : R s (runText fuel es s).2.1 := by
  rw [runText_eq]
  have hg := h.trans (h.same : R s { s with trace := [] }) (hgen (isFnScope s) es _)
  split <;> rename_i hc <;> rw [hc] at hg
  · exact hg
  · rw [finishRun_state]
    exact h.trans hg (h.trans (hmain ..) ((allMoves h fuel).run _))

end ZygoVerif.VM
