/-
Lazy lexing = eager lexing. The parser asks the lexer for runes only when it needs another
token (`runA` on a view ⟨lexer core, runes not yet read, expressions, end-of-input mark⟩). When the whole
remaining text is lexed without an error, every parser program gives the same result on the
view in which all of it has been lexed already: programs only look at the queue through
instructions that first wait for the tokens they look at (Model/Parser `Prog`), and the lexer
never reads its own queue (Proofs/LexTokens).
-/
import ZygoVerif.Proofs.ParseChunks
import ZygoVerif.Proofs.LexTokens
namespace ZygoVerif.Parser
open ZygoVerif.Lexer

theorem feed_tokens_append (c cf : LexCore) (rs : List Char) (h : feed (.ok c) rs = .ok cf) :
    ∃ new, cf.tokens = c.tokens ++ new := by
  have hp := feed_pre c.tokens (.ok { c with tokens := [] }) rs
  have hc : (Outcome.ok { c with tokens := [] } : Outcome LexCore).pre c.tokens = .ok c := by
    simp [Outcome.pre, pre]
  rw [hc, h] at hp
  cases hf : feed (.ok { c with tokens := [] }) rs with
  | ok c0 =>
    rw [hf] at hp
    simp only [Outcome.pre, Outcome.ok.injEq] at hp
    exact ⟨c0.tokens, by rw [hp]; rfl⟩
  | err e c0 => rw [hf] at hp; simp [Outcome.pre] at hp

theorem step_ok_of_feed (c cf : LexCore) (r : Char) (rs : List Char) (h : feed (.ok c) (r :: rs) = .ok cf) :
    ∃ c', step c r = .ok c' ∧ feed (.ok c') rs = .ok cf := by
  rw [feed_ok_cons] at h
  cases hs : step c r with
  | ok c' => exact ⟨c', rfl, by rw [hs] at h; exact h⟩
  | err e c' => rw [hs, feed_err] at h; cases h

/-- the lexer never reads its own queue: taking the head token off commutes with lexing on -/
theorem feed_drop_head (c cf : LexCore) (t : Token) (ts : List Token) (rs : List Char) (htk : c.tokens = t :: ts)
    (h : feed (.ok c) rs = .ok cf) :
    cf.tokens = t :: cf.tokens.tail ∧
      feed (.ok { c with tokens := ts }) rs = .ok { cf with tokens := cf.tokens.tail } := by
  have hc : c = pre [t] { c with tokens := ts } := by simp [pre, htk.symm]
  have hp := feed_pre [t] (.ok { c with tokens := ts }) rs
  have hc' : (Outcome.ok { c with tokens := ts } : Outcome LexCore).pre [t] = .ok c := by
    simp only [Outcome.pre]; rw [← hc]
  rw [hc', h] at hp
  cases hf : feed (.ok { c with tokens := ts }) rs with
  | ok c0 =>
    rw [hf] at hp
    simp only [Outcome.pre, Outcome.ok.injEq] at hp
    have htail : ({ cf with tokens := cf.tokens.tail } : LexCore) = c0 := by rw [hp]; simp [pre]
    exact ⟨by rw [hp]; rfl, by rw [htail]⟩
  | err e c0 => rw [hf] at hp; simp [Outcome.pre] at hp

theorem headIf_append (n : Nat) (c cf : LexCore) (new : List Token) (t : Token)
    (ht : cf.tokens = c.tokens ++ new) (h : headIf n c = some t) : headIf n cf = some t := by
  unfold headIf at h ⊢
  split at h
  · rename_i hlt
    have : n < cf.tokens.length := by rw [ht, List.length_append]; omega
    rw [if_pos this, ht]
    cases hc : c.tokens with
    | nil => rw [hc] at hlt; simp at hlt
    | cons a b => rw [hc] at h; simpa using h
  · cases h

/-- the two ways of waiting for `n+1` tokens agree -/
theorem peekWait_ahead (b : Bool) (n : Nat) (ex : List Sexp) (fin : Bool) (rs : List Char) (c cf : LexCore)
    (h : feed (.ok c) rs = .ok cf) :
    (∃ t c1 rs1, peekWaitA b n ex fin rs c = .tok t ⟨c1, rs1, ex, fin⟩ ∧ peekWaitA b n ex fin [] cf = .tok t ⟨cf, [], ex, fin⟩ ∧
        feed (.ok c1) rs1 = .ok cf ∧ (b = false → n < c1.tokens.length)) ∨
    (peekWaitA b n ex fin rs c = .stop .more ⟨cf, [], ex, fin⟩ ∧ peekWaitA b n ex fin [] cf = .stop .more ⟨cf, [], ex, fin⟩) := by
  induction rs generalizing c with
  | nil =>
    have hc : c = cf := by simpa [feed_nil] using h
    subst hc
    cases hh : headIf n c with
    | some t =>
      left
      refine ⟨t, c, [], by simp [peekWaitA, hh], by simp [peekWaitA, hh], rfl, fun _ => ?_⟩
      unfold headIf at hh; split at hh
      · assumption
      · cases hh
    | none =>
      cases hbf : (b && fin) with
      | true =>
        left
        exact ⟨Token.endTk, c, [], by simp [peekWaitA, hh, hbf], by simp [peekWaitA, hh, hbf], rfl,
          fun hb => by simp [hb] at hbf⟩
      | false => right; simp [peekWaitA, hh, hbf]
  | cons r rs ih =>
    cases hh : headIf n c with
    | some t =>
      left
      obtain ⟨new, hnew⟩ := feed_tokens_append c cf (r :: rs) h
      have hcf := headIf_append n c cf new t hnew hh
      refine ⟨t, c, r :: rs, by simp [peekWaitA, hh], by simp [peekWaitA, hcf], h, fun _ => ?_⟩
      unfold headIf at hh; split at hh
      · assumption
      · cases hh
    | none =>
      obtain ⟨c', hs, hf⟩ := step_ok_of_feed c cf r rs h
      have := ih c' hf
      simpa [peekWaitA, hh, hs] using this

/-- how a waiting instruction goes on with the queue: it leaves it as it is, reads `tokens[i]`, or takes the head off
(and then it is not `peekAfterSign`, so the head is there). `runA_ahead` rests on these being the only shapes of `next`. -/
theorem Prog.wt?_queue {α : Type} {p : Prog α} {w} (hw : p.wt? = some w) :
    (∃ k : Token → Prog α, ∀ t ts, w.next t ts = some (k t, ts)) ∨
    (w.orEnd = false ∧ ∃ k : Token → Prog α, ∀ t ts, w.next t ts = match ts[w.extra]? with | some t' => some (k t', ts) | none => none) ∨
    (w.orEnd = false ∧ ∃ k : Token → Prog α, ∀ t ts, w.next t ts = some (k t, ts.tail)) := by
  cases p <;> cases hw
  · exact .inl ⟨_, fun _ _ => rfl⟩
  · exact .inl ⟨_, fun _ _ => rfl⟩
  · exact .inr (.inl ⟨rfl, _, fun _ _ => rfl⟩)
  · exact .inr (.inr ⟨rfl, _, fun _ _ => rfl⟩)
  · exact .inr (.inr ⟨rfl, _, fun _ _ => rfl⟩)

/-- **lazy = eager**, for every parser program: when the remaining runes `rl` are lexed without an error, the
program gives the same result on the view in which all of them have been lexed already -/
theorem runA_ahead {α : Type} (p : Prog α) (cl ce : LexCore) (rl : List Char) (ex : List Sexp) (fin : Bool)
    (h : feed (.ok cl) rl = .ok ce) :
    (runA p ⟨cl, rl, ex, fin⟩).1 = (runA p ⟨ce, [], ex, fin⟩).1 ∧
      (runA p ⟨cl, rl, ex, fin⟩).2.exprs = (runA p ⟨ce, [], ex, fin⟩).2.exprs := by
  induction p using Prog.wt_induction generalizing cl ce rl ex with
  | pure a => exact ⟨rfl, rfl⟩
  | fail => exact ⟨rfl, rfl⟩
  | wait p w hw ih ihEnd =>
    rw [runA_wt hw, runA_wt hw]
    rcases peekWait_ahead w.orEnd w.extra ex fin rl cl ce h with ⟨t, c1, rs1, h1, h2, h3, hlen⟩ | ⟨h1, h2⟩
    · rw [h1, h2]
      dsimp only
      obtain ⟨new, hnew⟩ := feed_tokens_append c1 ce rs1 h3
      rcases Prog.wt?_queue hw with ⟨k, hk⟩ | ⟨hb, k, hk⟩ | ⟨hb, k, hk⟩
      · rw [hk, hk]; exact ih t _ _ _ (hk t c1.tokens) c1 ce rs1 ex h3
      · have hq : ce.tokens[w.extra]? = c1.tokens[w.extra]? := by rw [hnew, List.getElem?_append_left (hlen hb)]
        rw [hk, hk, hq]
        cases hc : c1.tokens[w.extra]? with
        | none => exact ⟨rfl, rfl⟩
        | some t' => exact ih t c1.tokens _ _ (by rw [hk, hc]) c1 ce rs1 ex h3
      · rw [hk, hk]
        cases htk : c1.tokens with
        | nil => have := hlen hb; rw [htk] at this; simp at this
        | cons t0 ts =>
          exact ih t _ _ _ (hk t c1.tokens) { c1 with tokens := ts } { ce with tokens := ce.tokens.tail } rs1 ex
            (feed_drop_head c1 ce t0 ts rs1 htk h3).2
    · rw [h1, h2]
      dsimp only
      cases he : w.atEnd with
      | none => exact ⟨rfl, rfl⟩
      | some q =>
        dsimp only
        cases inLiteral ce with
        | true => exact ⟨rfl, rfl⟩
        | false => exact ihEnd q he ce ce [] ex rfl
  | pushTok t k ih =>
    simp only [runA]
    refine ih _ _ rl ex ?_
    have hp := feed_pre [t] (.ok cl) rl
    rw [h] at hp
    simpa [Outcome.pre, pre] using hp
  | pushExpr e k ih => exact ih cl ce rl _ h

end ZygoVerif.Parser
