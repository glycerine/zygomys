/-
C02, execution half — the steps of the segment lemmas that do not depend on the relation.

The segment lemmas of F0c (nothing is related), of Fv (`Rel`, a bound on the number of instructions), of Fc (`RelC`, no
bound, values free of stack marks) and of F2 (`RelF`: closures up to a renaming of function ids; inside loops; in tail
position of a function body) go through the same forms with the same arguments. This file holds those arguments once.

`Sys` is what they use of a relation: the relation `R w` with its witness, the preorder `X` along which a run moves a
configuration, how a value of the machine reads on the reference side (`tv`) and for which values (`Cl`), what it means
for the machine to reach a state and to fail (`Rch`, `Fl`), the ways `Ex` of leaving code other than by landing behind
it, and the simulation statement `Sm`, given by what it says for each kind of reference result. Three records of
properties say what only some steps need: `Sys.Binds` (here) for binding, lookup and scopes, `Sys.Free`
(Proofs/SimLoop.lean) for loops, `Sys.Nest` (Proofs/SimCall.lean) for the operands of calls. A relation becomes a system
by a definition `…Sys` with theorems `…Binds`, `…Free`, `…Nest` next to it.

`Fg Y` is a fragment compiled under the system `Y`: its classes of expressions, the contexts it is compiled in (`Cok`) and
the invariant `Inv` that ties compiled code to the configuration it runs in. `FgP Y` extends it for the fragments whose
code is left by landing only (F0c, Fv, Fc, F2 outside loops and tail position), with the classes closed under the forms
that bind and that have operands; F2 inside loops, F2 in tail position and the program texts of F2c are an `Fg` only.

The claims are the segment lemmas at one reference fuel `n`: `HClaimE Y Fr P n` for the expressions of a class `P`
against `Ref.eval n`, `HClaimB` for statement lists (`evalBegin`), `HClaimC` for arms (`evalCond`), `HClaimS` for `and`/`or`,
`HClaimV` for lists of values, `HClaimL` and `HClaimBs` for the bindings of `letseq` and of either `let`. Each has a step
from `n` to `n + 1` and holds at `0`, where the reference has given up; `hclaimE_struct`, `hclaimE_pure` and `hclaimE_core`
are the step of `HClaimE` for the forms whose last part stands for the whole, for the forms without bindings, and for all
forms the fragments share. The file of a fragment gives the system and the fragment, proves the step for the forms of its
own, and closes the induction on `n`. A form is added to a fragment without touching the records: its class of
expressions is widened and its step gets a case.
-/
import ZygoVerif.Proofs.SimCallEnv
import ZygoVerif.Proofs.GenFacts
namespace ZygoVerif.Sim
open ZygoVerif.Core ZygoVerif.VM

/-- length arithmetic about concatenated code -/
macro "lenarith" : tactic =>
  `(tactic| (first | omega | (simp only [List.length_append, List.length_cons, List.length_nil]; done)
                   | (simp only [List.length_append, List.length_cons, List.length_nil]; omega)))

/-- the function table is kept and the loop ids in the code are the ones allocated -/
abbrev TotX (gs gs' : GS) (code : List Instr) : Prop := KeepFns gs gs' ∧ LsRes gs gs' code

theorem TotX.seq {gs g1 g2 : GS} {a b code : List Instr} (h₁ : TotX gs g1 a) (h₂ : TotX g1 g2 b)
    (h : ∀ x y, LsIn a x y → LsIn b x y → LsIn code x y) : TotX gs g2 code :=
  have g : GenRes gs g2 code := GenRes.seq ⟨h₁.1, h₁.2.2⟩ ⟨h₂.1, h₂.2.2⟩ h
  ⟨g.1, g.ls⟩

theorem compile_tot {e : Expr} {isFn c gs r} (h : (compile isFn c e).run gs = .ok r) : r.1.1 ≠ [] ∧ TotX gs r.2 r.1.1 :=
  ⟨(compile_facts e isFn c gs r h).1, (compile_facts e isFn c gs r h).2.1, (compile_facts e isFn c gs r h).2.ls⟩

theorem compileBegin_tot {es : List Expr} {isFn c gs r} (h : (compileBegin isFn c es).run gs = .ok r) : TotX gs r.2 r.1.1 :=
  ⟨(compileBegin_facts es isFn c gs r h).2.1, (compileBegin_facts es isFn c gs r h).2.ls⟩

theorem compileNewScope_tot {es : List Expr} {isFn c oldtail gs r} (h : (compileNewScope isFn c oldtail es).run gs = .ok r) :
    TotX gs r.2 r.1.1 :=
  ⟨(compileNewScope_facts es isFn c oldtail gs r h).2.1, (compileNewScope_facts es isFn c oldtail gs r h).2.ls⟩

theorem compileArms_tot {arms : List (Expr × Expr)} {isFn c gs r} (h : (compileArms isFn c arms).run gs = .ok r) :
    KeepFns gs r.2 ∧ gs.loops.length ≤ r.2.loops.length
      ∧ ∀ p ∈ r.1, LsIn p.1 gs.loops.length r.2.loops.length ∧ LsIn p.2 gs.loops.length r.2.loops.length :=
  ⟨(compileArms_facts arms isFn c gs r h).1, (compileArms_facts arms isFn c gs r h).1.loopsLen,
    (compileArms_facts arms isFn c gs r h).2⟩

/-- no `loopStart` before the code carries an id the code's compile allocates -/
def LsOut (pre : List Instr) (a b : Nat) : Prop := ∀ l, Instr.loopStart l ∈ pre → l < a ∨ b ≤ l

theorem LsOut.mono {pre : List Instr} {a b a' b' : Nat} (h : LsOut pre a b) (ha : a ≤ a') (hb : b' ≤ b) : LsOut pre a' b' :=
  fun l hl => (h l hl).elim (fun h1 => Or.inl (Nat.lt_of_lt_of_le h1 ha)) (fun h2 => Or.inr (Nat.le_trans hb h2))

theorem LsOut.app {pre code : List Instr} {a b : Nat} (h : LsOut pre a b) (hc : LsOut code a b) : LsOut (pre ++ code) a b :=
  fun l hl => (List.mem_append.mp hl).elim (h l) (hc l)

theorem LsIn.below {code : List Instr} {x y a b : Nat} (h : LsIn code x y) (hy : y ≤ a) : LsOut code a b :=
  fun l hl => Or.inl (Nat.lt_of_lt_of_le (h l hl).2 hy)

theorem LsIn.above {code : List Instr} {x y a b : Nat} (h : LsIn code x y) (hx : b ≤ x) : LsOut code a b :=
  fun l hl => Or.inr (Nat.le_trans hx (h l hl).1)

theorem lsOut_one (i : Instr) (a b : Nat) (hi : ∀ l, Instr.loopStart l ≠ i := by intro l h; cases h) : LsOut [i] a b :=
  fun l hl => by simp only [List.mem_singleton] at hl; exact absurd hl (hi l)

theorem lsOut_pop (a b : Nat) : LsOut [Instr.pop] a b := lsOut_one _ a b

/-- A relation `R w` between VM states and reference states, indexed by a witness `w` that a run may extend (the
map from function ids to closure ids; nothing for the first-order fragments); the machine's side of a result, `Rch K`
and `Fl K` (they contain `Reach K 1` and `Fails K`; a system that counts instructions keeps `K`); how a value of the
machine reads on the reference side (`tv w`), for the values that satisfy `Cl`; the names a form may bind (`OkB`) and
look up (`OkS`); what a run may do to a configuration (`X`: a preorder along which the witness, the function table, the
frames only grow and `Cl`, `tv` are stable); the ways `Ex` in which code may be left other than by landing behind it (a
`break`, the return of the whole activation; closed under what happens in front of the code); the simulation statement
`Sm`, given by its meaning on each kind of result. -/
structure Sys where
  W : Type
  R : W → St → Ref.St → Nat → Prop
  Rch : Nat → St → St → Prop
  Fl : Nat → St → List String → Prop
  X : W → St → Ref.St → W → St → Ref.St → Prop
  tv : W → Val → Val
  Cl : W → St → Ref.St → Val → Prop
  OkB : String → Prop
  OkS : String → Prop
  Ex : W → St → Ref.St → Ref.R Val → Prop
  Sm : List Instr → W → St → Ref.St → Nat → Ref.R Val → Prop
  sm_ok : ∀ {code w s rs env v' rs'}, Sm code w s rs env (.ok v' rs') ↔
    (∃ s' w' v, Rch code.length s s' ∧ Lands code.length v s s' ∧ v' = tv w' v ∧ R w' s' rs' env ∧ X w s rs w' s' rs'
      ∧ Cl w' s' rs' v) ∨ Ex w s rs (.ok v' rs')
  sm_err : ∀ {code w s rs env rs'}, Sm code w s rs env (.err rs') ↔ Fl code.length s rs'.trace
  sm_timeout : ∀ {code w s rs env}, Sm code w s rs env .timeout
  sm_brk : ∀ {code w s rs env l rs'}, Sm code w s rs env (.brk l rs') ↔ Ex w s rs (.brk l rs')
  sm_cont : ∀ {code w s rs env l rs'}, Sm code w s rs env (.cont l rs') ↔ Ex w s rs (.cont l rs')
  ex_moved : ∀ {K k w s rs w₁ s₁ rs₁ res}, Rch K s s₁ → Moved k s s₁ → X w s rs w₁ s₁ rs₁ → Ex w₁ s₁ rs₁ res → Ex w s rs res
  /-- not a case of `ex_moved`: `X` does not take a configuration to the one with a fresh scope and frame on top -/
  ex_push : ∀ {w s rs env res}, Reach 1 1 s s.pushScope → Ex w s.pushScope (Ref.newFrame rs env).2 res → Ex w s rs res
  rch : ∀ {K s s'}, Reach K 1 s s' → Rch K s s'
  rtrans : ∀ {K₁ K₂ a b c}, Rch K₁ a b → Rch K₂ b c → Rch (K₁ + K₂) a c
  rmono : ∀ {K K' a b}, Rch K a b → K ≤ K' → Rch K' a b
  fl : ∀ {K s tr}, Fails K s tr → Fl K s tr
  flr : ∀ {K₁ K₂ s s₁ tr}, Rch K₁ s s₁ → Fl K₂ s₁ tr → Fl (K₁ + K₂) s tr
  flmono : ∀ {K K' s tr}, Fl K s tr → K ≤ K' → Fl K' s tr
  xrefl : ∀ w s rs, X w s rs w s rs
  xtrans : ∀ {w₁ s₁ rs₁ w₂ s₂ rs₂ w₃ s₃ rs₃}, X w₁ s₁ rs₁ w₂ s₂ rs₂ → X w₂ s₂ rs₂ w₃ s₃ rs₃ → X w₁ s₁ rs₁ w₃ s₃ rs₃
  xjmp : ∀ w s rs p d, X w s rs w (s.jmp p d) rs
  cl_ext : ∀ {w s rs w' s' rs' v}, Cl w s rs v → X w s rs w' s' rs' → Cl w' s' rs' v
  tv_ext : ∀ {w s rs w' s' rs' v}, Cl w s rs v → X w s rs w' s' rs' → tv w' v = tv w v
  /-- a value with no function id, builtin or stack mark in it — said as: no renaming `tr m β μ` (Proofs/SimTr.lean)
  changes it — satisfies `Cl` and reads as itself; the literals and `nil` are such values -/
  cl_lit : ∀ w s rs v, (∀ m β μ, tr m β μ v = v) → Cl w s rs v ∧ tv w v = v
  truthy_tv : ∀ w v, truthy (tv w v) = truthy v
  rjmp : ∀ {w s rs env}, R w s rs env → ∀ p d, R w (s.jmp p d) rs env

/-- what the steps that bind, look up and open scopes read of the relation: the current frame is on top of the live
stack, frames and scopes hold the same bindings through `tv`, `rebindOk`, the traces and the three-stage lookup agree; the
relation survives a binding, a fresh scope, leaving it, and a reordering of a frame's bindings -/
structure Sys.Binds (Y : Sys) : Prop where
  /-- `X` says that each side has only grown, not that the sides agree: a binding on either side, in any scope, under
  any name, is such a move -/
  xbind : ∀ w s rs id x v id' x' v', Y.X w s rs w (s.bind id x v) (Ref.setVar rs id' x' v')
  rbind : ∀ {w s rs env}, Y.R w s rs env → ∀ id, id < rs.frames.length → ∀ {x v}, Y.OkB x → Y.Cl w s rs v →
    Y.R w (s.bind id x v) (Ref.setVar rs id x (Y.tv w v)) env
  lt : ∀ {w s rs env}, Y.R w s rs env → env < rs.frames.length
  lin : ∀ {w s rs env}, Y.R w s rs env → ∃ rest, s.linear = some env :: rest
  vars : ∀ {w s rs env}, Y.R w s rs env → ∀ i x, (rs.frames.getD i {}).vars.lookup x = ((scopeOf s i).vars.lookup x).map (Y.tv w)
  rebind : ∀ {w s rs env}, Y.R w s rs env → ∀ a b, rebindOk rs.heap (Y.tv w a) (Y.tv w b) = rebindOk s.heap a b
  trace : ∀ {w s rs env}, Y.R w s rs env → s.trace = rs.trace
  lex : ∀ {w s rs env}, Y.R w s rs env → ∀ x, (lexLookup s x).map (fun p => (p.1, Y.tv w p.2)) = Ref.lookup rs env x
  cl_lookup : ∀ {w s rs env x id v}, Y.R w s rs env → Y.OkS x → lexLookup s x = some (id, v) → Y.Cl w s rs v
  rpush : ∀ {w s rs env}, Y.R w s rs env → Y.R w s.pushScope (Ref.newFrame rs env).2 rs.frames.length
  rwith : ∀ {w s rs fr fr0 va vb env}, Y.R w s (withVars rs fr fr0 vb) env → rs.frames[fr]? = some fr0 →
    (∀ y, va.lookup y = vb.lookup y) → Y.R w s (withVars rs fr fr0 va) env
  xwith : ∀ {w s rs w' s' rs' fr fr0 va vb}, Y.X w s rs w' s' (withVars rs' fr fr0 vb) → (∀ y, va.lookup y = vb.lookup y) →
    Y.X w s rs w' s' (withVars rs' fr fr0 va)
  rpop : ∀ {w s rs env w₃ s₃ rs₃}, Y.R w s rs env → Y.R w₃ s₃ rs₃ rs.frames.length →
    Y.X w s.pushScope (Ref.newFrame rs env).2 w₃ s₃ rs₃ →
    Y.R w₃ s₃.popScope rs₃ env ∧ Y.X w s rs w₃ s₃.popScope rs₃ ∧ ∀ v, Y.Cl w₃ s₃ rs₃ v → Y.Cl w₃ s₃.popScope rs₃ v

variable {Y : Sys}

/-- the run does not land behind the code: an error, a timeout of the reference, or one of the exits -/
def Sys.Gone (Y : Sys) (K : Nat) (w : Y.W) (s : St) (rs : Ref.St) : Ref.R Val → Prop
  | .err rs' => Y.Fl K s rs'.trace
  | .timeout => True
  | r => Y.Ex w s rs r

def Sys.Landed (Y : Sys) (code : List Instr) (w : Y.W) (s : St) (rs : Ref.St) (env : Nat) (v' : Val) (rs' : Ref.St) : Prop :=
  ∃ s' w' v, Y.Rch code.length s s' ∧ Lands code.length v s s' ∧ v' = Y.tv w' v ∧ Y.R w' s' rs' env ∧ Y.X w s rs w' s' rs'
    ∧ Y.Cl w' s' rs' v

theorem Sys.sm_iff {code : List Instr} {w : Y.W} {s : St} {rs : Ref.St} {env : Nat} {res : Ref.R Val} :
    Y.Sm code w s rs env res ↔ (∃ v' rs', res = .ok v' rs' ∧ Y.Landed code w s rs env v' rs') ∨ Y.Gone code.length w s rs res := by
  cases res with
  | ok v' rs' =>
    rw [Y.sm_ok]
    exact ⟨fun h => h.imp (fun h => ⟨v', rs', rfl, h⟩) id, fun h => h.imp (fun ⟨_, _, e, h⟩ => by cases e; exact h) id⟩
  | err rs' => rw [Y.sm_err]; exact ⟨Or.inr, fun h => h.elim (fun ⟨_, _, e, _⟩ => by cases e) id⟩
  | timeout => exact ⟨fun _ => Or.inr trivial, fun _ => Y.sm_timeout⟩
  | brk l rs' => rw [Y.sm_brk]; exact ⟨Or.inr, fun h => h.elim (fun ⟨_, _, e, _⟩ => by cases e) id⟩
  | cont l rs' => rw [Y.sm_cont]; exact ⟨Or.inr, fun h => h.elim (fun ⟨_, _, e, _⟩ => by cases e) id⟩

theorem Sys.of_gone {code : List Instr} {w : Y.W} {s : St} {rs : Ref.St} {env : Nat} {res : Ref.R Val}
    (h : Y.Gone code.length w s rs res) : Y.Sm code w s rs env res := Y.sm_iff.mpr (Or.inr h)

theorem Sys.gone_mono {K K' : Nat} {w : Y.W} {s : St} {rs : Ref.St} {res : Ref.R Val} (h : Y.Gone K w s rs res) (hK : K ≤ K') :
    Y.Gone K' w s rs res := by
  cases res with
  | err rs' => exact Y.flmono h hK
  | _ => exact h

/-- what does not land behind code that is reached by a balanced move does not land behind the whole -/
theorem Sys.gone_moved {K₁ K₂ k : Nat} {w w₁ : Y.W} {s s₁ : St} {rs rs₁ : Ref.St} {res : Ref.R Val} (hr : Y.Rch K₁ s s₁)
    (hm : Moved k s s₁) (hx : Y.X w s rs w₁ s₁ rs₁) (h : Y.Gone K₂ w₁ s₁ rs₁ res) : Y.Gone (K₁ + K₂) w s rs res := by
  cases res with
  | err rs' => exact Y.flr hr h
  | timeout => trivial
  | _ => exact Y.ex_moved hr hm hx h

theorem Sys.gone_push {K : Nat} {w : Y.W} {s : St} {rs : Ref.St} {env : Nat} {res : Ref.R Val} (hr : Reach 1 1 s s.pushScope)
    (h : Y.Gone K w s.pushScope (Ref.newFrame rs env).2 res) : Y.Gone (1 + K) w s rs res := by
  cases res with
  | err rs' => exact Y.flr (Y.rch hr) h
  | timeout => trivial
  | _ => exact Y.ex_push hr h

/-- a result that is not a value passes through the enclosing form unchanged -/
theorem Sys.pass {code c₁ : List Instr} {w : Y.W} {s : St} {rs : Ref.St} {env : Nat} {res : Ref.R Val}
    (h₁ : Y.Sm c₁ w s rs env res) (hnot : ∀ v rs', res ≠ .ok v rs') (hK : c₁.length ≤ code.length) :
    Y.Sm code w s rs env res :=
  (Y.sm_iff.mp h₁).elim (fun ⟨v, rs', e, _⟩ => absurd e (hnot v rs')) (fun h => Y.of_gone (Y.gone_mono h hK))

theorem Sys.seq {code c₂ : List Instr} {w w₁ : Y.W} {s s₁' : St} {rs rs₁ : Ref.St} {env K₁ k : Nat} {res : Ref.R Val}
    (hreach : Y.Rch K₁ s s₁') (hmoved : Moved k s s₁') (hx : Y.X w s rs w₁ s₁' rs₁)
    (h₂ : Y.Sm c₂ w₁ s₁' rs₁ env res) (hK : K₁ + c₂.length ≤ code.length) (hk : k + c₂.length = code.length) :
    Y.Sm code w s rs env res := by
  rcases Y.sm_iff.mp h₂ with ⟨v', rs', rfl, s₂, w₂, v, r, l, hv, rel, x, cl⟩ | hg
  · exact Y.sm_ok.mpr (.inl ⟨s₂, w₂, v, Y.rmono (Y.rtrans hreach r) hK, hk ▸ hmoved.lands l, hv, rel, Y.xtrans hx x, cl⟩)
  · exact Y.of_gone (Y.gone_mono (Y.gone_moved hreach hmoved hx hg) hK)

/-- `cond`, after the body of the chosen arm: the `jump` behind the form -/
theorem Sys.cond_exit {p b rest pre post : List Instr} {w w₁ : Y.W} {s s₁' : St} {rs rs₁ : Ref.St} {env K₁ : Nat}
    {res : Ref.R Val}
    (h : Seg s pre (p ++ [.branch false (b.length + 2)] ++ b ++ [.jump (rest.length + 1)] ++ rest) post)
    (hreach : Y.Rch K₁ s s₁') (hmoved : Moved (p.length + 1) s s₁') (hx : Y.X w s rs w₁ s₁' rs₁)
    (h₂ : Y.Sm b w₁ s₁' rs₁ env res) (hK : K₁ ≤ p.length + 1) :
    Y.Sm (p ++ [.branch false (b.length + 2)] ++ b ++ [.jump (rest.length + 1)] ++ rest) w s rs env res := by
  have hlen : (p ++ [Instr.branch false (b.length + 2)] ++ b ++ [Instr.jump (rest.length + 1)] ++ rest).length
      = p.length + 1 + b.length + 1 + rest.length := by simp; omega
  rcases Y.sm_iff.mp h₂ with ⟨v', rs', rfl, s₂, w₂, v, r, l, hv, rel, x, cl⟩ | hg
  · obtain ⟨r3, l3⟩ := glue_cond_exit h (hmoved.lands l)
    exact Y.sm_ok.mpr (.inl ⟨_, w₂, v, Y.rmono (Y.rtrans (Y.rtrans hreach r) (Y.rch r3)) (by rw [hlen]; omega), l3, hv,
      Y.rjmp rel _ _, Y.xtrans (Y.xtrans hx x) (Y.xjmp _ _ _ _ _), Y.cl_ext cl (Y.xjmp _ _ _ _ _)⟩)
  · exact Y.of_gone (Y.gone_mono (Y.gone_moved hreach hmoved hx hg) (by rw [hlen]; omega))

/-- `let`/`letseq`/`newScope`: `addScope`, the inner code in the fresh scope (reference: in the fresh frame),
`removeScope` -/
theorem Sys.scoped (hbd : Y.Binds) {inner pre post : List Instr} {w : Y.W} {s : St} {rs : Ref.St} {env : Nat} {res : Ref.R Val}
    (h : Seg s pre ([.addScope] ++ inner ++ [.removeScope]) post) (hrel : Y.R w s rs env)
    (hin : Y.Sm inner w s.pushScope (Ref.newFrame rs env).2 rs.frames.length res) :
    Y.Sm ([.addScope] ++ inner ++ [.removeScope]) w s rs env res := by
  obtain ⟨r1, m1⟩ := glue_addScope h
  have hlen : ([Instr.addScope] ++ inner ++ [Instr.removeScope]).length = 1 + inner.length + 1 := by simp; omega
  rcases Y.sm_iff.mp hin with ⟨v', rs3, rfl, s3, w3, v, r, l, hv, rel3, x3, cl⟩ | hg
  · obtain ⟨rest, hlin⟩ := hbd.lin rel3
    obtain ⟨r4, l4⟩ := glue_removeScope h (m1.lands l) hlin
    obtain ⟨rel4, x4, cl4⟩ := hbd.rpop hrel rel3 x3
    exact Y.sm_ok.mpr (.inl ⟨_, w3, v, Y.rmono (Y.rtrans (Y.rtrans (Y.rch r1) r) (Y.rch r4)) (by rw [hlen]; omega), l4, hv,
      rel4, x4, cl4 v cl⟩)
  · exact Y.of_gone (Y.gone_mono (Y.gone_push r1 hg) (by rw [hlen]; omega))

theorem Sys.push {w : Y.W} {s : St} {rs : Ref.St} {env : Nat} {pre post : List Instr} (v : Val) (hv : ∀ m β μ, tr m β μ v = v)
    (hrel : Y.R w s rs env) (h : Seg s pre [.push v] post) : Y.Sm [.push v] w s rs env (.ok v rs) :=
  Y.sm_ok.mpr (.inl ⟨s.jmp (s.pc + 1) (some v :: s.data), w, v, Y.rch (reach_push h.head), ⟨rfl, by simp, rfl⟩,
    (Y.cl_lit w s rs v hv).2.symm, Y.rjmp hrel _ _, Y.xjmp _ _ _ _ _, (Y.cl_lit _ _ _ v hv).1⟩)

theorem Sys.sym (hbd : Y.Binds) {w : Y.W} {s : St} {rs : Ref.St} {env : Nat} {pre post : List Instr} (x : String) (n : Nat) (hx : Y.OkS x)
    (hrel : Y.R w s rs env) (h : Seg s pre [.envToStack x] post) :
    Y.Sm [.envToStack x] w s rs env (Ref.eval (n + 1) (.sym x) env rs) := by
  rw [Ref.eval, ← hbd.lex hrel x]
  cases hv : lexLookup s x with
  | none =>
    have : Fails 1 s s.trace := Fails.step h.head (fun f => by rw [exec_envToStack, hv])
    rw [hbd.trace hrel] at this
    exact Y.sm_err.mpr (Y.fl this)
  | some r =>
    obtain ⟨id, v⟩ := r
    exact Y.sm_ok.mpr (.inl ⟨s.jmp (s.pc + 1) (some v :: s.data), w, v, Y.rch (Reach.step h.head (fun f => by rw [exec_envToStack, hv])),
      ⟨rfl, by simp, rfl⟩, rfl, Y.rjmp hrel _ _, Y.xjmp _ _ _ _ _, Y.cl_ext (hbd.cl_lookup hrel hx hv) (Y.xjmp _ _ _ _ _)⟩)

/-- `popStackPutEnv x` with `v` on top of the data stack, in related states: the VM binds in its top scope exactly when
the reference evaluator's `define` succeeds in the current frame. -/
theorem Sys.psp_step (hbd : Y.Binds) {w : Y.W} {s₁ : St} {rs₁ : Ref.St} {env : Nat} {P Q : List Instr} {x : String} {v : Val}
    {D : List (Option Val)} (a : At s₁ P (.popStackPutEnv x) Q) (hd : s₁.data = some v :: D) (rel1 : Y.R w s₁ rs₁ env)
    (hx : Y.OkB x) (hcv : Y.Cl w s₁ rs₁ v) :
    match Ref.define rs₁ env x (Y.tv w v) with
    | some rs₂ => Reach 1 1 s₁ ((s₁.jmp (s₁.pc + 1) D).bind env x v)
        ∧ Y.R w ((s₁.jmp (s₁.pc + 1) D).bind env x v) rs₂ env ∧ Y.X w s₁ rs₁ w ((s₁.jmp (s₁.pc + 1) D).bind env x v) rs₂
    | none => Fails 1 s₁ rs₁.trace := by
  obtain ⟨rest, hlin⟩ := hbd.lin rel1
  have hlt := hbd.lt rel1
  obtain ⟨fr, hfr⟩ : ∃ fr, rs₁.frames[env]? = some fr := ⟨rs₁.frames[env], by simp [hlt]⟩
  have hv := hbd.vars rel1 env x
  rw [List.getD_eq_getElem?_getD, hfr, Option.getD_some] at hv
  have hx' : ∀ f, (exec (f + 1) (.popStackPutEnv x)).run s₁ = (bindTop x v).run (s₁.jmp (s₁.pc + 1) D) :=
    fun f => exec_popStackPutEnv f x _ v D hd
  have hb := run_bindTop x v (s₁.jmp (s₁.pc + 1) D)
  rw [show (s₁.jmp (s₁.pc + 1) D).linear = some env :: rest from hlin] at hb
  simp only at hb
  rw [show scopeOf (s₁.jmp (s₁.pc + 1) D) env = scopeOf s₁ env from rfl] at hb
  rw [ref_define_eq rs₁ env x (Y.tv w v) fr hfr, hv]
  have hok : (bindTop x v).run (s₁.jmp (s₁.pc + 1) D) = (.ok (), (s₁.jmp (s₁.pc + 1) D).bind env x v) →
      Reach 1 1 s₁ ((s₁.jmp (s₁.pc + 1) D).bind env x v)
        ∧ Y.R w ((s₁.jmp (s₁.pc + 1) D).bind env x v) (Ref.setVar rs₁ env x (Y.tv w v)) env
        ∧ Y.X w s₁ rs₁ w ((s₁.jmp (s₁.pc + 1) D).bind env x v) (Ref.setVar rs₁ env x (Y.tv w v)) := fun hb' =>
    ⟨Reach.step a (fun f => (hx' f).trans hb'),
      hbd.rbind (Y.rjmp rel1 _ _) env hlt hx (Y.cl_ext hcv (Y.xjmp _ _ _ _ _)),
      Y.xtrans (Y.xjmp _ _ _ _ _) (hbd.xbind _ _ _ _ _ _ _ _ _)⟩
  have herr : (bindTop x v).run (s₁.jmp (s₁.pc + 1) D) = (.error .err, s₁.jmp (s₁.pc + 1) D) →
      Fails 1 s₁ rs₁.trace := fun hb' => by
    have hf := Fails.step a (fun f => (hx' f).trans hb')
    rw [show (s₁.jmp (s₁.pc + 1) D).trace = rs₁.trace from hbd.trace (Y.rjmp rel1 _ _)] at hf
    exact hf
  cases hl : (scopeOf s₁ env).vars.lookup x with
  | none =>
    rw [hl] at hb
    exact hok hb
  | some cur =>
    rw [hl] at hb
    simp only [Option.map_some] at hb ⊢
    rw [hbd.rebind rel1 cur v]
    rw [show (s₁.jmp (s₁.pc + 1) D).heap = s₁.heap from rfl] at hb
    by_cases hr : rebindOk s₁.heap cur v = true
    · rw [if_pos hr] at hb ⊢
      exact hok hb
    · rw [if_neg hr] at hb ⊢
      exact herr hb

/-- `def x e`, after `e` has produced `v`: `dup`, then bind in the top scope (re-binding rule) -/
theorem Sys.def_tail (hbd : Y.Binds) {w w₁ : Y.W} {s s₁ : St} {rs rs₁ : Ref.St} {env : Nat} {pre post ce : List Instr} {x : String} {v : Val}
    (h : Seg s pre (ce ++ [.dup, .popStackPutEnv x]) post) (hx : Y.OkB x)
    (r1 : Y.Rch ce.length s s₁) (l1 : Lands ce.length v s s₁) (rel1 : Y.R w₁ s₁ rs₁ env) (x1 : Y.X w s rs w₁ s₁ rs₁)
    (hcv : Y.Cl w₁ s₁ rs₁ v) :
    Y.Sm (ce ++ [.dup, .popStackPutEnv x]) w s rs env
      (match Ref.define rs₁ env x (Y.tv w₁ v) with | some s' => .ok (Y.tv w₁ v) s' | none => .err rs₁) := by
  obtain ⟨r2, a3⟩ := glue_dup h l1
  have hlen : (ce ++ [Instr.dup, Instr.popStackPutEnv x]).length = ce.length + 1 + 1 := by simp
  have hp := Y.psp_step hbd a3 (D := some v :: s.data) rfl (Y.rjmp rel1 _ _) hx (Y.cl_ext hcv (Y.xjmp _ _ _ _ _))
  cases hdef : Ref.define rs₁ env x (Y.tv w₁ v) with
  | none =>
    rw [hdef] at hp
    exact Y.sm_err.mpr (Y.flmono (Y.flr (Y.rtrans r1 (Y.rch r2)) (Y.fl hp)) (by rw [hlen]; exact Nat.le_refl _))
  | some rs₂ =>
    rw [hdef] at hp
    obtain ⟨r3, rel3, x3⟩ := hp
    refine Y.sm_ok.mpr (.inl ⟨_, w₁, v, Y.rmono (Y.rtrans (Y.rtrans r1 (Y.rch r2)) (Y.rch r3)) (by rw [hlen]; exact Nat.le_refl _),
      ⟨l1.fn, ?_, rfl⟩, rfl, rel3, Y.xtrans x1 (Y.xtrans (Y.xjmp _ _ _ _ _) x3),
      Y.cl_ext hcv (Y.xtrans (Y.xjmp _ _ _ _ _) x3)⟩)
    show s₁.pc + 1 + 1 = _
    rw [l1.pc, hlen]; push_cast; omega

/-- `set x e`, after `e` has produced `v`: `dup`, then assign where the symbol is found, else bind in the top scope -/
theorem Sys.set_tail (hbd : Y.Binds) {w w₁ : Y.W} {s s₁ : St} {rs rs₁ : Ref.St} {env : Nat} {pre post ce : List Instr} {x : String} {v : Val}
    (h : Seg s pre (ce ++ [.dup, .update x]) post) (hxb : Y.OkB x)
    (r1 : Y.Rch ce.length s s₁) (l1 : Lands ce.length v s s₁) (rel1 : Y.R w₁ s₁ rs₁ env) (x1 : Y.X w s rs w₁ s₁ rs₁)
    (hcv : Y.Cl w₁ s₁ rs₁ v) :
    Y.Sm (ce ++ [.dup, .update x]) w s rs env
      (match Ref.lookup rs₁ env x with
       | some (fr, _) => .ok (Y.tv w₁ v) (Ref.setVar rs₁ fr x (Y.tv w₁ v))
       | none => .ok (Y.tv w₁ v) (Ref.setVar rs₁ env x (Y.tv w₁ v))) := by
  obtain ⟨r2, a3⟩ := glue_dup h l1
  obtain ⟨rest, hlin⟩ := hbd.lin rel1
  have hlt := hbd.lt rel1
  obtain ⟨fr, hfr⟩ : ∃ fr, rs₁.frames[env]? = some fr := ⟨rs₁.frames[env], by simp [hlt]⟩
  have hv := hbd.vars rel1 env x
  rw [List.getD_eq_getElem?_getD, hfr, Option.getD_some] at hv
  have hlen : (ce ++ [Instr.dup, Instr.update x]).length = ce.length + 1 + 1 := by simp
  have hll : (lexLookup (s₁.jmp (s₁.pc + 1 + 1) (some v :: s.data)) x).map (fun p => (p.1, Y.tv w₁ p.2)) = Ref.lookup rs₁ env x := by
    exact hbd.lex (Y.rjmp rel1 _ _) x
  have hx : ∀ f, (exec (f + 1) (.update x)).run (s₁.jmp (s₁.pc + 1) (some v :: some v :: s.data))
      = match lexLookup (s₁.jmp (s₁.pc + 1 + 1) (some v :: s.data)) x with
        | some (id, _) => (.ok (), (s₁.jmp (s₁.pc + 1 + 1) (some v :: s.data)).bind id x v)
        | none => (bindTop x v).run (s₁.jmp (s₁.pc + 1 + 1) (some v :: s.data)) := fun f => by
    rw [exec_update f x _ v (some v :: s.data) rfl]
    rfl
  have hok : ∀ id, id < rs₁.frames.length →
      (∀ f, (exec (f + 1) (.update x)).run (s₁.jmp (s₁.pc + 1) (some v :: some v :: s.data))
        = (.ok (), (s₁.jmp (s₁.pc + 1 + 1) (some v :: s.data)).bind id x v)) →
      Y.Sm (ce ++ [.dup, .update x]) w s rs env (.ok (Y.tv w₁ v) (Ref.setVar rs₁ id x (Y.tv w₁ v))) := by
    intro id hid hx'
    have x3 : Y.X w₁ s₁ rs₁ w₁ ((s₁.jmp (s₁.pc + 1 + 1) (some v :: s.data)).bind id x v) (Ref.setVar rs₁ id x (Y.tv w₁ v)) :=
      Y.xtrans (Y.xjmp _ _ _ _ _) (hbd.xbind _ _ _ _ _ _ _ _ _)
    refine Y.sm_ok.mpr (.inl ⟨(s₁.jmp (s₁.pc + 1 + 1) (some v :: s.data)).bind id x v, w₁, v,
      Y.rmono (Y.rtrans (Y.rtrans r1 (Y.rch r2)) (Y.rch (Reach.step a3 hx'))) (by rw [hlen]; exact Nat.le_refl _),
      ⟨l1.fn, ?_, rfl⟩, rfl, hbd.rbind (Y.rjmp rel1 _ _) id hid hxb (Y.cl_ext hcv (Y.xjmp _ _ _ _ _)), Y.xtrans x1 x3,
      Y.cl_ext hcv x3⟩)
    show s₁.pc + 1 + 1 = _
    rw [l1.pc, hlen]; push_cast; omega
  cases hvl : lexLookup (s₁.jmp (s₁.pc + 1 + 1) (some v :: s.data)) x with
  | some r' =>
    obtain ⟨id', w'⟩ := r'
    rw [hvl] at hll
    rw [← hll]
    refine hok id' (ref_lookupIn_lt _ x _ _ id' _ hll.symm) (fun f => ?_)
    rw [hx f, hvl]
  | none =>
    rw [hvl] at hll
    rw [← hll]
    refine hok env hlt (fun f => ?_)
    rw [hx f, hvl]
    simp only
    have hb := run_bindTop x v (s₁.jmp (s₁.pc + 1 + 1) (some v :: s.data))
    rw [show (s₁.jmp (s₁.pc + 1 + 1) (some v :: s.data)).linear = some env :: rest from hlin] at hb
    simp only at hb
    have htop : (scopeOf s₁ env).vars.lookup x = none := by
      have := ref_lookup_none_top rs₁ env x fr hfr hll.symm
      rw [hv] at this
      cases hh : (scopeOf s₁ env).vars.lookup x with
      | none => rfl
      | some w => rw [hh] at this; cases this
    rw [show scopeOf (s₁.jmp (s₁.pc + 1 + 1) (some v :: s.data)) env = scopeOf s₁ env from rfl, htop] at hb
    exact hb

/-- A fragment compiled under system `Y`: its classes of expressions (`FStmt`: a statement that is not the last of its
list; `FPred`: the test of a `cond` arm), the contexts it is compiled in, and the invariant `Inv c gs gs' pre w s rs`
that ties a piece of code — compiled in context `c` while the generator went from `gs` to `gs'`, standing behind
`pre` in its function — to the configuration it runs in. The fields about `Inv` are what a step calls to descend into a
part of its form: `inv_range` for the interval of generator states of the part, `inv_pre` for the code of the earlier
parts that now stands in front (its loop ids lie outside the interval: `LsIn.below`, `LsIn.above`, `lsOut_one`),
`inv_adv` for the moves the earlier parts made, `inv_tail` and `cok` because a part is compiled with its own `tail` and
`scopes`, `inv_push` for the parts inside the scope of `let` and `newScope`. The fields about the classes take a form
of the fragment apart. -/
structure Fg (Y : Sys) where
  F : Expr → Bool
  FStmt : Expr → Bool
  FPred : Expr → Bool
  FList : List Expr → Bool
  FArms : List (Expr × Expr) → Bool
  FBinds : List (String × Expr) → Bool
  Cok : Ctx → Prop
  Inv : Ctx → GS → GS → List Instr → Y.W → St → Ref.St → Prop
  cok : ∀ {c : Ctx}, Cok c → ∀ t sc, Cok { c with tail := t, scopes := sc }
  inv_tail : ∀ {c gs gs' pre w s rs}, Inv c gs gs' pre w s rs → ∀ t, Inv { c with tail := t } gs gs' pre w s rs
  inv_range : ∀ {c gs gs' pre w s rs g₁ g₂}, Inv c gs gs' pre w s rs → KeepFns gs g₁ → KeepFns g₁ g₂ → KeepFns g₂ gs' →
    Inv c g₁ g₂ pre w s rs
  inv_pre : ∀ {c gs gs' pre w s rs mid}, Inv c gs gs' pre w s rs → LsOut mid gs.loops.length gs'.loops.length →
    Inv c gs gs' (pre ++ mid) w s rs
  inv_adv : ∀ {c gs gs' pre w s rs k w' s' rs'}, Inv c gs gs' pre w s rs → Moved k s s' → Y.X w s rs w' s' rs' →
    Inv c gs gs' pre w' s' rs'
  inv_push : ∀ {c gs gs' pre w s rs}, Inv c gs gs' pre w s rs → ∀ env t,
    Inv { c with tail := t, scopes := c.scopes + 1 } gs gs' (pre ++ [.addScope]) w s.pushScope (Ref.newFrame rs env).2
  flist_one : ∀ {e}, FList [e] = true → F e = true
  flist_cons : ∀ {e e' es}, FList (e :: e' :: es) = true → FStmt e = true ∧ FList (e' :: es) = true
  farms_cons : ∀ {p b r}, FArms ((p, b) :: r) = true → FPred p = true ∧ F b = true ∧ FArms r = true
  f_begin : ∀ {es}, F (.begin_ es) = true → FList es = true
  f_cond : ∀ {arms d}, F (.cond arms d) = true → FArms arms = true ∧ F d = true
  f_newScope : ∀ {es}, F (.newScope es) = true → es ≠ [] ∧ FList es = true
  f_let : ∀ {seq bs body}, F (.let_ seq bs body) = true →
    (seq = true ∨ (bs.map (·.1)).Nodup) ∧ body ≠ [] ∧ FBinds bs = true ∧ FList body = true

variable (Y) in
/-- the segment lemma at reference fuel `n` for the expressions of class `P` -/
def HClaimE (Fr : Fg Y) (P : Expr → Bool) (n : Nat) : Prop :=
  ∀ e, P e = true → ∀ isFn c gs r, (compile isFn c e).run gs = .ok r → Fr.Cok c →
    ∀ w s rs env pre post, Y.R w s rs env → Fr.Inv c gs r.2 pre w s rs → Seg s pre r.1.1 post →
      Y.Sm r.1.1 w s rs env (Ref.eval n e env rs)

variable (Y) in
def HClaimB (Fr : Fg Y) (n : Nat) : Prop :=
  ∀ es, es ≠ [] → Fr.FList es = true → ∀ isFn c gs r, (compileBegin isFn c es).run gs = .ok r → Fr.Cok c →
    ∀ w s rs env pre post, Y.R w s rs env → Fr.Inv c gs r.2 pre w s rs → Seg s pre r.1.1 post →
      Y.Sm r.1.1 w s rs env (Ref.evalBegin n es env rs)

variable (Y) in
/-- the arms were compiled from `gs`, the default (before them) from `gs0` -/
def HClaimC (Fr : Fg Y) (n : Nat) : Prop :=
  ∀ arms d, Fr.FArms arms = true → Fr.F d = true → ∀ isFn c gs r gs0 rd,
    (compileArms isFn c arms).run gs = .ok r → (compile isFn c d).run gs0 = .ok rd → Fr.Cok c →
    ∀ w s rs env pre post, Y.R w s rs env → Fr.Inv c gs r.2 pre w s rs → Fr.Inv c gs0 rd.2 pre w s rs →
      rd.2.loops.length ≤ gs.loops.length → Seg s pre (asmCond r.1 rd.1.1) post →
      Y.Sm (asmCond r.1 rd.1.1) w s rs env (Ref.evalCond n arms d env rs)

variable (Y) in
/-- `HClaimE` in a position behind which the enclosing form goes on: a value is delivered by landing behind the code,
not by an exit -/
def HClaimN (Fr : Fg Y) (P : Expr → Bool) (n : Nat) : Prop :=
  ∀ e, P e = true → ∀ isFn c gs r, (compile isFn c e).run gs = .ok r → Fr.Cok c →
    ∀ w s rs env pre post, Y.R w s rs env → Fr.Inv c gs r.2 pre w s rs → Seg s pre r.1.1 post →
      Y.Sm r.1.1 w s rs env (Ref.eval n e env rs)
        ∧ ∀ v' rs', Ref.eval n e env rs = .ok v' rs' → Y.Landed r.1.1 w s rs env v' rs'

variable {Fr : Fg Y}

/-- a system whose only exits abandon the enclosing forms as well -/
theorem HClaimE.toN {P : Expr → Bool} {n : Nat} (hno : ∀ w s rs v' rs', ¬ Y.Ex w s rs (.ok v' rs')) (h : HClaimE Y Fr P n) :
    HClaimN Y Fr P n := fun e he isFn c gs r hc hfn w s rs env pre post hrel hinv hseg =>
  have ih := h e he isFn c gs r hc hfn w s rs env pre post hrel hinv hseg
  ⟨ih, fun _ _ h1 => (Y.sm_ok.mp (h1 ▸ ih)).resolve_right (hno _ _ _ _ _)⟩

theorem hclaimB_succ {n : Nat} (hS : HClaimN Y Fr Fr.FStmt n) (hE : HClaimE Y Fr Fr.F n) (hB : HClaimB Y Fr n) :
    HClaimB Y Fr (n + 1) := by
  intro es hne hes isFn c gs r hc hfn w s rs env pre post hrel hinv hseg
  match es, hne with
  | [e], _ =>
    rw [compileBegin_one] at hc
    rw [Ref.evalBegin]
    exact hE e (Fr.flist_one hes) isFn c gs r hc hfn w s rs env pre post hrel hinv hseg
  | e :: e' :: es', _ =>
    obtain ⟨he, hes'⟩ := Fr.flist_cons hes
    obtain ⟨ra, gs1, ha, rb, gs2, hb, rfl⟩ := compileBegin_cons_ok.mp hc
    obtain ⟨hane', tot1⟩ := compile_tot ha
    have tot2 := compileBegin_tot hb
    have hane : ra.1.isEmpty = false := by simpa [List.isEmpty_eq_false_iff] using hane'
    simp only [hane, Bool.false_eq_true, if_false] at hseg hinv ⊢
    rw [Ref.evalBegin]
    · obtain ⟨ih, hl⟩ := hS e he isFn _ gs (ra, gs1) ha (Fr.cok hfn false c.scopes) w s rs env pre ([.pop] ++ rb.1 ++ post) hrel
        (Fr.inv_tail (Fr.inv_range hinv (KeepFns.refl _) tot1.1 tot2.1) false) (hseg.refocus (by simp))
      cases h1 : Ref.eval n e env rs with
      | ok v1 rs1 =>
        obtain ⟨s1, w1, u1, r1, l1, -, rel1, x1, -⟩ := hl v1 rs1 h1
        obtain ⟨r2, m2⟩ := glue_pop hseg l1
        have x2 := Y.xtrans x1 (Y.xjmp w1 s1 rs1 (s1.pc + 1) s.data)
        have ih2 := hB (e' :: es') (by simp) hes' isFn c gs1 (rb, gs2) hb hfn w1 _ rs1 env _ post (Y.rjmp rel1 _ _)
          (Fr.inv_adv (Fr.inv_pre (Fr.inv_range hinv tot1.1 tot2.1 (KeepFns.refl _))
            ((tot1.2.2.below (Nat.le_refl _)).app (lsOut_pop _ _))) m2 x2)
          (hseg.moved m2 (c₁ := ra.1 ++ [.pop]) (c₂ := rb.1) (post' := post) rfl (by simp))
        exact Y.seq (Y.rtrans r1 (Y.rch r2)) m2 x2 ih2 (by lenarith) (by lenarith)
      | _ => rw [h1] at ih; exact Y.pass ih (fun _ _ hh => by cases hh) (by lenarith)
    · intro hh; cases hh

theorem hclaimC_succ {n : Nat} (hP : HClaimN Y Fr Fr.FPred n) (hE : HClaimE Y Fr Fr.F n) (hC : HClaimC Y Fr n) :
    HClaimC Y Fr (n + 1) := by
  intro arms d harms hd isFn c gs r gs0 rd hc hcd hfn w s rs env pre post hrel hinv hinvd hdl hseg
  match arms with
  | [] =>
    rw [compileArms_nil_run] at hc; cases hc
    rw [Ref.evalCond]
    simp only [asmCond] at hseg ⊢
    exact hE d hd isFn c gs0 rd hcd hfn w s rs env pre post hrel hinvd hseg
  | (p, b) :: arms' =>
    obtain ⟨hp', hb', harms'⟩ := Fr.farms_cons harms
    obtain ⟨rest, gs1, hrest, rp, gs2, hp, rb, gs3, hb, rfl⟩ := compileArms_cons_ok.mp hc
    have totr := compileArms_tot hrest
    have totp := (compile_tot hp).2
    have totb := (compile_tot hb).2
    have l01 : gs.loops.length ≤ gs1.loops.length := totr.2.1
    have l12 : gs1.loops.length ≤ gs2.loops.length := totp.2.1
    rw [Ref.evalCond]
    simp only [asmCond] at hseg hinv ⊢
    obtain ⟨ih, hl⟩ := hP p hp' isFn _ gs1 (rp, gs2) hp (Fr.cok hfn false c.scopes) w s rs env pre _ hrel
      (Fr.inv_tail (Fr.inv_range hinv totr.1 totp.1 totb.1) false) (hseg.refocus (c' := rp.1)
      (post' := [.branch false (rb.1.length + 2)] ++ rb.1 ++ [.jump ((asmCond rest rd.1.1).length + 1)]
        ++ asmCond rest rd.1.1 ++ post) (by simp))
    cases h1 : Ref.eval n p env rs with
    | ok v1 rs1 =>
      obtain ⟨s1, w1, u1, r1, l1, hv1, rel1, x1, -⟩ := hl v1 rs1 h1
      simp only
      have htr : truthy v1 = truthy u1 := by rw [hv1]; exact Y.truthy_tv w1 u1
      by_cases ht : truthy u1 = true
      · rw [htr, if_pos ht]
        obtain ⟨r2, m2⟩ := glue_brn_fall hseg l1 ht
        have x2 := Y.xtrans x1 (Y.xjmp w1 s1 rs1 (s1.pc + 1) s.data)
        have ih2 := hE b hb' isFn c gs2 (rb, gs3) hb hfn w1 _ rs1 env _ _ (Y.rjmp rel1 _ _)
          (Fr.inv_adv (Fr.inv_pre (Fr.inv_range hinv (totr.1.trans totp.1) totb.1 (KeepFns.refl _))
            ((totp.2.2.below (Nat.le_refl _)).app (lsOut_one (.branch false (rb.1.length + 2)) _ _))) m2 x2)
          (hseg.moved m2 (c₁ := rp.1 ++ [.branch false (rb.1.length + 2)]) (c₂ := rb.1)
            (post' := [.jump ((asmCond rest rd.1.1).length + 1)] ++ asmCond rest rd.1.1 ++ post)
            (by simp) (by simp))
        exact Y.cond_exit hseg (Y.rtrans r1 (Y.rch r2)) m2 x2 ih2 (Nat.le_refl _)
      · rw [htr, if_neg ht]
        obtain ⟨r2, m2⟩ := glue_brn_taken hseg l1 (by simpa using ht)
        have x2 := Y.xtrans x1 (Y.xjmp w1 s1 rs1 (s1.pc + ((rb.1.length : Int) + 2)) s.data)
        have hmid : ∀ a b', b' ≤ gs1.loops.length → LsOut (rp.1 ++ [.branch false (rb.1.length + 2)] ++ rb.1
            ++ [.jump ((asmCond rest rd.1.1).length + 1)]) a b' := fun a b' hb' =>
          (((totp.2.2.above hb').app (lsOut_one (.branch false (rb.1.length + 2)) _ _)).app
            (totb.2.2.above (Nat.le_trans hb' l12))).app (lsOut_one (.jump ((asmCond rest rd.1.1).length + 1)) _ _)
        have ih2 := hC arms' d harms' hd isFn c gs (rest, gs1) gs0 rd hrest hcd hfn w1 _ rs1 env _ post (Y.rjmp rel1 _ _)
          (Fr.inv_adv (Fr.inv_pre (Fr.inv_range hinv (KeepFns.refl _) totr.1 (totp.1.trans totb.1)) (hmid _ _ (Nat.le_refl _))) m2 x2)
          (Fr.inv_adv (Fr.inv_pre hinvd (hmid _ _ (Nat.le_trans hdl l01))) m2 x2) hdl
          (hseg.moved m2 (c₁ := rp.1 ++ [.branch false (rb.1.length + 2)] ++ rb.1
              ++ [.jump ((asmCond rest rd.1.1).length + 1)]) (c₂ := asmCond rest rd.1.1) (post' := post)
            (by simp) (by lenarith))
        exact Y.seq (Y.rtrans r1 (Y.rch r2)) m2 x2 ih2 (by lenarith) (by lenarith)
    | _ => rw [h1] at ih; exact Y.pass ih (fun _ _ hh => by cases hh) (by lenarith)

variable (Y) in
/-- as `Sm` for code that pushes a list of values, first value deepest (the initialisers of `let`, the elements of an
array literal) -/
def HSimL (code : List Instr) (w : Y.W) (s : St) (rs : Ref.St) (env : Nat) (res : Ref.R (List Val)) : Prop :=
  match res with
  | .ok vs' rs' => ∃ (s' : St) (w' : Y.W) (vs : List Val), Y.Rch code.length s s' ∧ fnOf s' s'.curfunc = fnOf s s.curfunc
      ∧ s'.pc = s.pc + (code.length : Int) ∧ s'.data = vs.reverse.map some ++ s.data ∧ vs' = vs.map (Y.tv w')
      ∧ Y.R w' s' rs' env ∧ Y.X w s rs w' s' rs' ∧ ∀ v ∈ vs, Y.Cl w' s' rs' v
  | .err rs' => Y.Fl code.length s rs'.trace
  | .timeout => True
  | .brk _ _ => False
  | .cont _ _ => False

variable (Y) in
/-- as `Sm` for code that leaves no value (bindings) -/
def HSimU (code : List Instr) (w : Y.W) (s : St) (rs : Ref.St) (env : Nat) (res : Ref.R Unit) : Prop :=
  match res with
  | .ok _ rs' => ∃ s' w', Y.Rch code.length s s' ∧ Moved code.length s s' ∧ Y.R w' s' rs' env ∧ Y.X w s rs w' s' rs'
  | .err rs' => Y.Fl code.length s rs'.trace
  | .timeout => True
  | .brk _ _ => False
  | .cont _ _ => False

/-- a fragment whose code is left by landing only, whose invariant does not look at the data stack or the program
counter (`inv_x`, `inv_any`), and whose forms have their parts in the fragment again. `inv_for`: the parts of a `for` are
compiled with the loop's record on the generator's loop stack (`forGs`) and the record is completed afterwards
(`forDone`); the invariant of the form gives that of the parts. `noex` speaks of the system alone; `Sys.Free` and
`Sys.Nest` repeat it, since the pieces of a loop and the operands of a call are stated without a fragment. -/
structure FgP (Y : Sys) extends Fg Y where
  noex : ∀ w s rs res, ¬ Y.Ex w s rs res
  inv_x : ∀ {c gs gs' pre w s rs w' s' rs'}, Inv c gs gs' pre w s rs → Y.X w s rs w' s' rs' → Inv c gs gs' pre w' s' rs'
  inv_any : ∀ {c gs gs' pre w s rs}, Inv c gs gs' pre w s rs → ∀ pre', Inv c gs gs' pre' w s rs
  inv_for : ∀ {c gs g5 label b₁ b₂ pre w s rs}, Inv c gs (forDone g5 gs.loops.length b₁ b₂) pre w s rs →
    KeepFns (forGs gs c label) g5 → Inv c (forGs gs c label) g5 pre w s rs
  fvals_cons : ∀ {e es}, FList (e :: es) = true → F e = true ∧ FList es = true
  fbinds_cons : ∀ {x e r}, FBinds ((x, e) :: r) = true → Y.OkB x ∧ F e = true ∧ FBinds r = true
  fbinds_rhs : ∀ {bs}, FBinds bs = true → FList (bs.map (·.2)) = true
  f_sym : ∀ {x}, F (.sym x) = true → Y.OkS x
  f_def : ∀ {x e}, F (.def_ x e) = true → Y.OkB x ∧ F e = true
  f_set : ∀ {x e}, F (.set_ x e) = true → Y.OkB x ∧ F e = true
  f_and : ∀ {es}, F (.and_ es) = true → FList es = true
  f_or : ∀ {es}, F (.or_ es) = true → FList es = true
  f_for : ∀ {l i t s b}, F (.for_ l i t s b) = true → F i = true ∧ F t = true ∧ F s = true ∧ (b ≠ [] → FList b = true)

/-- in a plain fragment every value is delivered by landing -/
theorem FgP.toN (Fr : FgP Y) {P : Expr → Bool} {n : Nat} (h : HClaimE Y Fr.toFg P n) : HClaimN Y Fr.toFg P n :=
  HClaimE.toN (fun w s rs _ _ => Fr.noex w s rs _) h

/-- without exits: a value and a landing, an error and a failing run, or a timeout -/
theorem Sys.cases_plain (hno : ∀ w s rs res, ¬ Y.Ex w s rs res) {code : List Instr} {w : Y.W} {s : St} {rs : Ref.St} {env : Nat}
    {res : Ref.R Val} (h : Y.Sm code w s rs env res) :
    (∃ v' rs', res = .ok v' rs' ∧ Y.Landed code w s rs env v' rs') ∨ (∃ rs', res = .err rs' ∧ Y.Fl code.length s rs'.trace)
      ∨ res = .timeout := by
  rcases Y.sm_iff.mp h with h | h
  · exact .inl h
  · cases res with
    | err rs' => exact .inr (.inl ⟨rs', rfl, h⟩)
    | timeout => exact .inr (.inr rfl)
    | _ => exact (hno _ _ _ _ h).elim

variable (Y) in
def HClaimV (Fr : FgP Y) (n : Nat) : Prop :=
  ∀ es, Fr.FList es = true → ∀ isFn c gs r, (compileAll isFn c es).run gs = .ok r → Fr.Cok c →
    ∀ w s rs env pre post, Y.R w s rs env → Fr.Inv c gs r.2 pre w s rs → Seg s pre r.1.1 post →
      HSimL Y r.1.1 w s rs env (Ref.evalList n es env rs)

/-- one more value in front of a list of values being pushed; any other outcome of the rest is the outcome -/
theorem hsimL_cons {code ca cb : List Instr} {w w₁ : Y.W} {s s₁ : St} {rs rs₁ : Ref.St} {env : Nat} {u₁ : Val}
    {res₂ : Ref.R (List Val)} (hcode : code = ca ++ cb)
    (r1 : Y.Rch ca.length s s₁) (l1 : Lands ca.length u₁ s s₁) (x1 : Y.X w s rs w₁ s₁ rs₁)
    (hcl1 : Y.Cl w₁ s₁ rs₁ u₁) (h2 : HSimL Y cb w₁ s₁ rs₁ env res₂) :
    HSimL Y code w s rs env (match (generalizing := false) res₂ with | .ok vs s => .ok (Y.tv w₁ u₁ :: vs) s | r => r) := by
  subst hcode
  cases res₂ with
  | ok vs' rs2 =>
    obtain ⟨s2, w2, vs, r2, hfn2, hpc2, hdata2, hvs2, rel2, x2, hcl2⟩ := h2
    refine ⟨s2, w2, u₁ :: vs, Y.rmono (Y.rtrans r1 r2) (by lenarith), hfn2.trans l1.fn, ?_, ?_, ?_, rel2, Y.xtrans x1 x2,
      fun v hv => ?_⟩
    · rw [hpc2, l1.pc]; simp only [List.length_append]; push_cast; omega
    · rw [hdata2, l1.data]; simp
    · rw [List.map_cons, Y.tv_ext hcl1 x2, hvs2]
    · rcases List.mem_cons.mp hv with rfl | hv
      · exact Y.cl_ext hcl1 x2
      · exact hcl2 v hv
  | err rs2 => exact Y.flmono (Y.flr r1 (show Y.Fl cb.length s₁ rs2.trace from h2)) (by lenarith)
  | timeout => trivial
  | brk l rs2 => exact h2
  | cont l rs2 => exact h2

theorem hclaimV_succ {Fr : FgP Y} {n : Nat} (hE : HClaimE Y Fr.toFg Fr.F n) (hV : HClaimV Y Fr n) : HClaimV Y Fr (n + 1) := by
  intro es hes isFn c gs r hc hfn w s rs env pre post hrel hinv hseg
  match es with
  | [] =>
    rw [compileAll_nil_run] at hc; cases hc
    rw [Ref.evalList]
    · exact ⟨s, w, [], Y.rch (Reach.refl s |>.mono (Nat.le_refl _) (by simp)), rfl, by simp, by simp, rfl, hrel, Y.xrefl _ _ _,
        fun v hv => by cases hv⟩
    · omega
  | e :: es' =>
    obtain ⟨he, hes'⟩ := Fr.fvals_cons hes
    obtain ⟨ra, gs1, ha, rb, gs2, hb, rfl⟩ := compileAll_cons_ok.mp hc
    have tot1 := (compile_tot ha).2
    have tot2 := compileAll_facts _ _ _ _ _ hb
    rw [Ref.evalList]
    rcases Y.cases_plain Fr.noex (hE e he isFn _ gs (ra, gs1) ha hfn w s rs env pre (rb.1 ++ post) hrel
      (Fr.inv_range hinv (KeepFns.refl _) tot1.1 tot2.1) (hseg.refocus (by simp)))
      with ⟨v1, rs1, h1, s1, w1, u1, r1, l1, hv1, rel1, x1, hcl1⟩ | ⟨rs1, h1, hf⟩ | h1
    · rw [h1, hv1]
      exact hsimL_cons rfl r1 l1 x1 hcl1 (hV es' hes' isFn _ gs1 (rb, gs2) hb (Fr.cok hfn ra.2 c.scopes) w1 s1 rs1 env (pre ++ ra.1) post rel1
        (Fr.inv_tail (Fr.inv_x (Fr.inv_pre (Fr.inv_range hinv tot1.1 tot2.1 (KeepFns.refl _)) (tot1.2.2.below (Nat.le_refl _))) x1) ra.2)
        (hseg.move l1.fn (by simp) (by rw [l1.pc, hseg.pc]; simp)))
    · rw [h1]; exact Y.flmono hf (by lenarith)
    · rw [h1]; trivial

/-- the reference's version of a list of (name, VM value) pairs -/
def Sys.tvPairs (Y : Sys) (w : Y.W) (ps : List (String × Val)) : List (String × Val) := ps.map (fun p => (p.1, Y.tv w p.2))

theorem Sys.tvPairs_zip (w : Y.W) : ∀ (names : List String) (vs : List Val),
    Y.tvPairs w (names.zip vs) = names.zip (vs.map (Y.tv w))
  | [], _ => rfl
  | _ :: _, [] => rfl
  | x :: xs, v :: vs => by
    simp only [Sys.tvPairs, List.zip_cons_cons, List.map_cons, List.cons.injEq, true_and]
    exact Sys.tvPairs_zip w xs vs

/-- A run of `popStackPutEnv` instructions over matching values on the data stack is `defineAll` in the current frame. -/
theorem Sys.defineAll (hbd : Y.Binds) {w : Y.W} : ∀ (ps : List (String × Val)) (s : St) (rs : Ref.St) (fr : Nat) (P Q : List Instr)
    (D : List (Option Val)), (∀ p ∈ ps, Y.OkB p.1) → (∀ p ∈ ps, Y.Cl w s rs p.2) →
    Seg s P (ps.map (fun p => Instr.popStackPutEnv p.1)) Q → s.data = ps.map (fun p => some p.2) ++ D → Y.R w s rs fr →
    match ZygoVerif.Sim.defineAll rs fr (Y.tvPairs w ps) with
    | some rs' => ∃ s', Reach ps.length 1 s s' ∧ fnOf s' s'.curfunc = fnOf s s.curfunc
        ∧ s'.pc = s.pc + (ps.length : Int) ∧ s'.data = D ∧ Y.R w s' rs' fr ∧ Y.X w s rs w s' rs'
    | none => Fails ps.length s rs.trace
  | [], s, rs, fr, P, Q, D, _, _, _, hd, hrel => by
    simp only [Sys.tvPairs, List.map_nil, ZygoVerif.Sim.defineAll]
    exact ⟨s, Reach.refl s |>.mono (Nat.le_refl _) (by simp), rfl, by simp, by simpa using hd, hrel, Y.xrefl _ _ _⟩
  | (x, v) :: ps, s, rs, fr, P, Q, D, hok, hcl, hseg, hd, hrel => by
    simp only [List.map_cons] at hseg hd
    have a1 : At s P (.popStackPutEnv x) (ps.map (fun p => Instr.popStackPutEnv p.1) ++ Q) := hseg.head
    have hp := Y.psp_step hbd a1 hd hrel (hok (x, v) List.mem_cons_self) (hcl (x, v) List.mem_cons_self)
    simp only [Sys.tvPairs, List.map_cons, ZygoVerif.Sim.defineAll]
    cases hdef : Ref.define rs fr x (Y.tv w v) with
    | none =>
      rw [hdef] at hp
      exact Fails.mono hp (by simp)
    | some rs1 =>
      rw [hdef] at hp
      obtain ⟨r1, rel1, x1⟩ := hp
      simp only
      have hseg1 : Seg ((s.jmp (s.pc + 1) (ps.map (fun p => some p.2) ++ D)).bind fr x v) (P ++ [.popStackPutEnv x])
          (ps.map (fun p => Instr.popStackPutEnv p.1)) Q :=
        hseg.move (s' := (s.jmp (s.pc + 1) (ps.map (fun p => some p.2) ++ D)).bind fr x v) rfl (by simp)
          (by show s.pc + 1 = _; rw [hseg.pc]; simp)
      have ih := Sys.defineAll hbd ps _ rs1 fr _ Q D (fun p hp => hok p (List.mem_cons_of_mem _ hp))
        (fun p hp => Y.cl_ext (hcl p (List.mem_cons_of_mem _ hp)) x1) hseg1 rfl rel1
      unfold Sys.tvPairs at ih
      cases hda : ZygoVerif.Sim.defineAll rs1 fr (ps.map (fun p => (p.1, Y.tv w p.2))) with
      | none =>
        rw [hda] at ih
        rw [ref_define_trace hdef] at ih
        exact (Fails.of_reach r1 ih).mono (by simp; omega)
      | some rs' =>
        rw [hda] at ih
        obtain ⟨s', r2, hfn, hpc, hdata, rel', x'⟩ := ih
        refine ⟨s', (r1.trans r2).mono (by simp; omega) (by simp), hfn, ?_, hdata, rel', Y.xtrans x1 x'⟩
        rw [hpc]
        show s.pc + 1 + (ps.length : Int) = s.pc + (((x, v) :: ps).length : Int)
        simp only [List.length_cons]; push_cast; omega

theorem FgP.binds_names (Fr : FgP Y) : ∀ (bs : List (String × Expr)), Fr.FBinds bs = true → ∀ x ∈ bs.map (·.1), Y.OkB x
  | [], _, x, hx => by cases hx
  | (y, e) :: bs, h, x, hx => by
    obtain ⟨h1, _, h3⟩ := Fr.fbinds_cons h
    rcases List.mem_cons.mp hx with rfl | hx
    · exact h1
    · exact Fr.binds_names bs h3 x hx

/-- the bindings of a parallel `let` (initialisers, then the `popStackPutEnv`s in reverse order), against `evalList`
followed by `bindAll`: the machine binds the last name first, the reference the first; with pairwise distinct names the
frames agree as maps (`defineAll_reverse`) -/
theorem hletpar_binds (hbd : Y.Binds) {Fr : FgP Y} {n : Nat} (hV : HClaimV Y Fr n) {bs : List (String × Expr)}
    (isFn : Nat → Bool) (c : Ctx) (gs : GS) (r : (List Instr × Bool) × GS)
    (ha : (compileBinds isFn c false bs).run gs = .ok r) (hfn : Fr.Cok c)
    (hnd : (bs.map (·.1)).Nodup) (hbs : Fr.FBinds bs = true)
    (w : Y.W) (s : St) (rs : Ref.St) (fr : Nat) (pre post : List Instr) (hrel : Y.R w s rs fr)
    (hinv : Fr.Inv c gs r.2 pre w s rs)
    (hseg : Seg s pre (r.1.1 ++ (bs.map (fun p => Instr.popStackPutEnv p.1)).reverse) post) :
    HSimU Y (r.1.1 ++ (bs.map (fun p => Instr.popStackPutEnv p.1)).reverse) w s rs fr
      (match Ref.evalList n (bs.map (·.2)) fr rs with
       | .ok vs s => (match Ref.bindAll s fr (bs.map (·.1)) vs with
          | some s => .ok () s
          | none => .err s)
       | .err s => .err s | .brk l s => .brk l s | .cont l s => .cont l s | .timeout => .timeout) := by
  have hL := hV _ (Fr.fbinds_rhs hbs) isFn c gs r (compileBinds_par_as_all ha) hfn w s rs fr pre
    ((bs.map (fun p => Instr.popStackPutEnv p.1)).reverse ++ post) hrel hinv (hseg.refocus (by simp))
  cases h1 : Ref.evalList n (bs.map (·.2)) fr rs with
  | ok vs' rs2 =>
    rw [h1] at hL
    obtain ⟨s2, w2, vs, r2, hfn2, hpc2, hdata2, hvs2, rel2, x2, hcl2⟩ := hL
    simp only
    have hlen : vs.length = bs.length := by
      have := ref_evalList_length _ _ _ _ _ _ h1
      rw [hvs2] at this
      simpa using this
    have hmapI : ((bs.map (·.1)).zip vs).reverse.map (fun p => Instr.popStackPutEnv p.1)
        = (bs.map (fun p => Instr.popStackPutEnv p.1)).reverse := by
      rw [List.map_reverse]
      congr 1
      have : ((bs.map (·.1)).zip vs).map (fun p => Instr.popStackPutEnv p.1)
          = (((bs.map (·.1)).zip vs).map (·.1)).map Instr.popStackPutEnv := by rw [List.map_map]; rfl
      rw [this, List.map_fst_zip (by simp [hlen]), List.map_map]; rfl
    have hmapD : ((bs.map (·.1)).zip vs).reverse.map (fun p => some p.2) = vs.reverse.map some := by
      have : ((bs.map (·.1)).zip vs).map (fun p => some p.2)
          = (((bs.map (·.1)).zip vs).map (·.2)).map some := by rw [List.map_map]; rfl
      rw [List.map_reverse, List.map_reverse, this, List.map_snd_zip (by simp [hlen])]
    have hndz : ((Y.tvPairs w2 ((bs.map (·.1)).zip vs)).map (·.1)).Nodup := by
      rw [Sys.tvPairs_zip, List.map_fst_zip (by simp [hlen])]; exact hnd
    have hsegB : Seg s2 (pre ++ r.1.1)
        (((bs.map (·.1)).zip vs).reverse.map (fun p => Instr.popStackPutEnv p.1)) post := by
      rw [hmapI]
      exact hseg.move hfn2 (by simp) (by rw [hpc2, hseg.pc]; simp)
    have hvm := Y.defineAll hbd ((bs.map (·.1)).zip vs).reverse s2 rs2 fr _ _ s.data
      (fun p hp => Fr.binds_names bs hbs p.1 (List.of_mem_zip (show (p.1, p.2) ∈ _ from List.mem_reverse.mp hp)).1)
      (fun p hp => hcl2 p.2 (List.of_mem_zip (show (p.1, p.2) ∈ _ from List.mem_reverse.mp hp)).2) hsegB
      (by rw [hmapD]; exact hdata2) rel2
    have hlt2 := hbd.lt rel2
    obtain ⟨fr0, hfr0⟩ : ∃ fr0, rs2.frames[fr]? = some fr0 := ⟨rs2.frames[fr], by simp [hlt2]⟩
    have hrev := defineAll_reverse rs2 fr fr0 hfr0 (Y.tvPairs w2 ((bs.map (·.1)).zip vs)) hndz
    rw [bindAll_eq_defineAll, hvs2, ← Sys.tvPairs_zip]
    rw [show Y.tvPairs w2 ((bs.map (·.1)).zip vs).reverse = (Y.tvPairs w2 ((bs.map (·.1)).zip vs)).reverse from List.map_reverse] at hvm
    cases hfwd : defineAll rs2 fr (Y.tvPairs w2 ((bs.map (·.1)).zip vs)) with
    | some a =>
      cases hbwd : defineAll rs2 fr (Y.tvPairs w2 ((bs.map (·.1)).zip vs)).reverse with
      | some b =>
        rw [hfwd, hbwd] at hrev
        rw [hbwd] at hvm
        obtain ⟨va, vb, hva, hvb, hlook⟩ := hrev
        obtain ⟨s3, r3, hfn3, hpc3, hdata3, rel3, x3⟩ := hvm
        simp only
        rw [hvb] at rel3 x3
        have rel3a : Y.R w2 s3 a fr := by rw [hva]; exact hbd.rwith rel3 hfr0 hlook
        have m3 : Moved (r.1.1 ++ (bs.map (fun p => Instr.popStackPutEnv p.1)).reverse).length s s3 :=
          ⟨hfn3.trans hfn2, by
            rw [hpc3, hpc2]; simp only [List.length_append, List.length_reverse, List.length_map, List.length_zip, hlen, Nat.min_self]
            push_cast; omega, hdata3⟩
        exact ⟨s3, w2, Y.rmono (Y.rtrans r2 (Y.rch r3)) (by
          simp only [List.length_append, List.length_reverse, List.length_map, List.length_zip, hlen, Nat.min_self]; omega),
          m3, rel3a, Y.xtrans x2 (by rw [hva]; exact hbd.xwith x3 hlook)⟩
      | none =>
        rw [hfwd, hbwd] at hrev
        exact hrev.elim
    | none =>
      cases hbwd : defineAll rs2 fr (Y.tvPairs w2 ((bs.map (·.1)).zip vs)).reverse with
      | some b =>
        rw [hfwd, hbwd] at hrev
        exact hrev.elim
      | none =>
        rw [hbwd] at hvm
        simp only
        refine Y.flmono (Y.flr r2 (Y.fl hvm)) ?_
        simp only [List.length_append, List.length_reverse, List.length_map, List.length_zip, hlen, Nat.min_self]
        omega
  | err rs2 => rw [h1] at hL; exact Y.flmono hL (by lenarith)
  | timeout => trivial
  | brk l rs2 => rw [h1] at hL; exact hL.elim
  | cont l rs2 => rw [h1] at hL; exact hL.elim

variable (Y) in
def HClaimS (Fr : FgP Y) (n : Nat) : Prop :=
  ∀ isOr es, Fr.FList es = true → ∀ isFn c gs r, (compileSC isFn c es).run gs = .ok r → Fr.Cok c →
    ∀ w s rs env pre post, Y.R w s rs env → Fr.Inv c gs r.2 pre w s rs → Seg s pre (asmSC isOr r.1) post →
      Y.Sm (asmSC isOr r.1) w s rs env (Ref.evalAndOr n isOr es env rs)

variable (Y) in
def HClaimL (Fr : FgP Y) (n : Nat) : Prop :=
  ∀ bs, Fr.FBinds bs = true → ∀ isFn c gs r, (compileBinds isFn c true bs).run gs = .ok r → Fr.Cok c →
    ∀ w s rs env pre post, Y.R w s rs env → Fr.Inv c gs r.2 pre w s rs → Seg s pre r.1.1 post →
      HSimU Y r.1.1 w s rs env (Ref.evalLetSeq n bs env rs)

theorem hclaimS_succ {Fr : FgP Y} {n : Nat} (hE : HClaimE Y Fr.toFg Fr.F n) (hS : HClaimS Y Fr n) : HClaimS Y Fr (n + 1) := by
  intro isOr es hes isFn c gs r hc hfn w s rs env pre post hrel hinv hseg
  match es with
  | [] =>
    rw [compileSC_nil_run] at hc; cases hc
    rw [Ref.evalAndOr]
    · simp only [asmSC] at hseg ⊢
      exact Y.push _ (fun _ _ _ => rfl) hrel hseg
    · omega
  | [e] =>
    obtain ⟨ra, gs1, ha, rfl⟩ := compileSC_one_ok.mp hc
    rw [Ref.evalAndOr]
    simp only [asmSC] at hseg ⊢
    exact hE e (Fr.fvals_cons hes).1 isFn c gs (ra, gs1) ha hfn w s rs env pre post hrel hinv hseg
  | e :: e' :: es' =>
    obtain ⟨he, hes'⟩ := Fr.fvals_cons hes
    obtain ⟨rest, gs1, hrest, ra, gs2, ha, rfl⟩ := compileSC_cons_ok.mp hc
    have totr := (compileSC_facts _ _ _ _ _ hrest).1
    have tota := (compile_tot ha).2
    have hlen := compileSC_length hrest
    obtain ⟨r0, rs0, hr0⟩ : ∃ r0 rs0, rest = r0 :: rs0 := by
      cases rest with
      | nil => simp at hlen
      | cons r0 rs0 => exact ⟨r0, rs0, rfl⟩
    have hasm : asmSC isOr (ra.1 :: rest)
        = ra.1 ++ [.dup, .branch isOr ((asmSC isOr rest).length + 2), .pop] ++ asmSC isOr rest := by
      rw [hr0]; simp only [asmSC]
    simp only [hasm] at hseg hinv ⊢
    rw [Ref.evalAndOr]
    · rcases Y.cases_plain Fr.noex (hE e he isFn _ gs1 (ra, gs2) ha (Fr.cok hfn false c.scopes) w s rs env pre _ hrel
          (Fr.inv_tail (Fr.inv_range hinv totr tota.1 (KeepFns.refl _)) false) (hseg.refocus (c' := ra.1)
          (post' := [.dup, .branch isOr ((asmSC isOr rest).length + 2), .pop] ++ asmSC isOr rest ++ post) (by simp)))
        with ⟨v1, rs1, h1, s1, w1, u1, r1, l1, hv1, rel1, x1, cl1⟩ | ⟨rs1, h1, hf⟩ | h1
      · rw [h1]
        simp only
        have htr : truthy v1 = truthy u1 := by rw [hv1]; exact Y.truthy_tv w1 u1
        by_cases ht : (truthy u1 == isOr) = true
        · rw [htr, if_pos ht]
          obtain ⟨r2, l2⟩ := glue_sc_stop hseg l1 (by simpa using ht)
          exact Y.sm_ok.mpr (.inl ⟨_, w1, u1, Y.rmono (Y.rtrans r1 (Y.rch r2)) (by lenarith), l2, hv1, Y.rjmp rel1 _ _,
            Y.xtrans x1 (Y.xjmp _ _ _ _ _), Y.cl_ext cl1 (Y.xjmp _ _ _ _ _)⟩)
        · rw [htr, if_neg ht]
          obtain ⟨r2, m2⟩ := glue_sc_go hseg l1 (by simpa using ht)
          have x2 := Y.xtrans x1 (Y.xjmp w1 s1 rs1 (s1.pc + 3) s.data)
          have ih2 := hS isOr (e' :: es') hes' isFn c gs (rest, gs1) hrest hfn w1 _ rs1 env _ post (Y.rjmp rel1 _ _)
            (Fr.inv_x (Fr.inv_pre (Fr.inv_range hinv (KeepFns.refl _) totr tota.1)
              ((tota.2.2.above (Nat.le_refl _)).app (fun l hl => by simp at hl))) x2)
            (hseg.moved m2 (c₁ := ra.1 ++ [.dup, .branch isOr ((asmSC isOr rest).length + 2), .pop])
              (c₂ := asmSC isOr rest) (post' := post) (by simp) (by simp))
          exact Y.seq (Y.rtrans r1 (Y.rch r2)) m2 x2 ih2 (by lenarith) (by lenarith)
      · rw [h1]; exact Y.sm_err.mpr (Y.flmono hf (by lenarith))
      · rw [h1]; exact Y.sm_timeout
    · intro hh; cases hh

theorem hclaimL_succ (hbd : Y.Binds) {Fr : FgP Y} {n : Nat} (hE : HClaimE Y Fr.toFg Fr.F n) (hL : HClaimL Y Fr n) : HClaimL Y Fr (n + 1) := by
  intro bs hbs isFn c gs r hc hfn w s rs env pre post hrel hinv hseg
  match bs with
  | [] =>
    rw [compileBinds_nil_run] at hc; cases hc
    rw [Ref.evalLetSeq]
    · exact ⟨s, w, Y.rch (Reach.refl s |>.mono (Nat.le_refl _) (by simp)), Moved.refl s, hrel, Y.xrefl _ _ _⟩
    · omega
  | (x, e) :: bs' =>
    obtain ⟨hx, he, hbs'⟩ := Fr.fbinds_cons hbs
    obtain ⟨ra, gs1, ha, rb, gs2, hb, rfl⟩ := compileBinds_cons_ok.mp hc
    have tot1 := (compile_tot ha).2
    have tot2 := compileBinds_facts _ _ _ _ _ _ hb
    simp only [↓reduceIte] at hseg hinv ⊢
    rw [Ref.evalLetSeq]
    rcases Y.cases_plain Fr.noex (hE e he isFn _ gs (ra, gs1) ha hfn w s rs env pre ([.popStackPutEnv x] ++ rb.1 ++ post) hrel
        (Fr.inv_range hinv (KeepFns.refl _) tot1.1 tot2.1) (hseg.refocus (by simp)))
      with ⟨v1, rs1, h1, s1, w1, u1, r1, l1, hv1, rel1, x1, hcl1⟩ | ⟨rs1, h1, hf⟩ | h1
    · rw [h1, hv1]
      simp only
      have a2 : At s1 (pre ++ ra.1) (.popStackPutEnv x) (rb.1 ++ post) :=
        hseg.landed l1 (c₁ := ra.1) (by simp) rfl
      have hp := Y.psp_step hbd a2 l1.data rel1 hx hcl1
      cases hdef : Ref.define rs1 env x (Y.tv w1 u1) with
      | none =>
        rw [hdef] at hp
        exact Y.flmono (Y.flr r1 (Y.fl hp)) (by lenarith)
      | some rs2 =>
        rw [hdef] at hp
        obtain ⟨r2, rel2, x2⟩ := hp
        simp only
        have m2 : Moved (ra.1.length + 1) s ((s1.jmp (s1.pc + 1) s.data).bind env x u1) :=
          ⟨l1.fn, by show s1.pc + 1 = _; rw [l1.pc]; push_cast; omega, rfl⟩
        have x12 := Y.xtrans x1 x2
        have ih2 := hL bs' hbs' isFn _ gs1 (rb, gs2) hb (Fr.cok hfn ra.2 c.scopes) w1 _ rs2 env _ post rel2
          (Fr.inv_tail (Fr.inv_x (Fr.inv_pre (Fr.inv_range hinv tot1.1 tot2.1 (KeepFns.refl _))
            ((tot1.2.2.below (Nat.le_refl _)).app (lsOut_one (.popStackPutEnv x) _ _))) x12) ra.2)
          (hseg.moved m2 (c₁ := ra.1 ++ [.popStackPutEnv x]) (c₂ := rb.1) (post' := post) rfl (by simp))
        cases h2 : Ref.evalLetSeq n bs' env rs2 with
        | ok u rs3 =>
          rw [h2] at ih2
          obtain ⟨s3, w3, r3, m3, rel3, x3⟩ := ih2
          exact ⟨s3, w3, Y.rmono (Y.rtrans (Y.rtrans r1 (Y.rch r2)) r3) (by lenarith),
            ⟨m3.fn.trans m2.fn, by rw [m3.pc, m2.pc]; simp only [List.length_append, List.length_cons, List.length_nil]; push_cast; omega,
              m3.data.trans m2.data⟩, rel3, Y.xtrans x12 x3⟩
        | err rs3 => rw [h2] at ih2; exact Y.flmono (Y.flr (Y.rtrans r1 (Y.rch r2)) ih2) (by lenarith)
        | timeout => trivial
        | brk l rs3 => rw [h2] at ih2; exact ih2.elim
        | cont l rs3 => rw [h2] at ih2; exact ih2.elim
    · rw [h1]; exact Y.flmono hf (by lenarith)
    · rw [h1]; trivial

/-- what `Ref.eval` does for `let`/`letseq` between `newFrame` and the body -/
def refBinds (n : Nat) (seq : Bool) (bs : List (String × Expr)) (fr : Nat) (rs : Ref.St) : Ref.R Unit :=
  if seq then Ref.evalLetSeq n bs fr rs else
    match Ref.evalList n (bs.map (·.2)) fr rs with
    | .ok vs s => (match Ref.bindAll s fr (bs.map (·.1)) vs with
      | some s => .ok () s
      | none => .err s)
    | .err s => .err s | .brk l s => .brk l s | .cont l s => .cont l s | .timeout => .timeout

theorem ref_eval_let (n : Nat) (seq : Bool) (bs : List (String × Expr)) (body : List Expr) (env : Nat) (rs : Ref.St) :
    Ref.eval (n + 1) (.let_ seq bs body) env rs =
      match refBinds n seq bs rs.frames.length (Ref.newFrame rs env).2 with
      | .ok _ s => Ref.evalBegin n body rs.frames.length s
      | .err s => .err s | .brk l s => .brk l s | .cont l s => .cont l s | .timeout => .timeout := by
  rw [Ref.eval]
  show (if seq = true then _ else _) = _
  cases seq
  · simp only [refBinds, Ref.newFrame, Bool.false_eq_true, if_false]
    generalize Ref.evalList n (bs.map (·.2)) rs.frames.length _ = r
    cases r with
    | ok vs s => simp only; cases Ref.bindAll s rs.frames.length (bs.map (·.1)) vs <;> rfl
    | _ => rfl
  · simp only [refBinds, if_true]; rfl

/-- the `popStackPutEnv`s of a parallel `let`, last name first; `letseq` binds as it goes -/
def popsCode (seq : Bool) (bs : List (String × Expr)) : List Instr :=
  if seq then [] else (bs.map (fun p => Instr.popStackPutEnv p.1)).reverse

theorem lsOut_popsCode (seq : Bool) (bs : List (String × Expr)) (a b : Nat) : LsOut (popsCode seq bs) a b := fun l hl => by
  unfold popsCode at hl
  split at hl
  · cases hl
  · simp only [List.mem_reverse, List.mem_map] at hl; obtain ⟨_, _, hh⟩ := hl; cases hh

variable (Y) in
/-- the bindings of `let`/`letseq`, in the scope just opened: afterwards the machine stands on the body -/
def HClaimBs (Fr : Fg Y) (n : Nat) : Prop :=
  ∀ seq bs, (seq = true ∨ (bs.map (·.1)).Nodup) → Fr.FBinds bs = true → ∀ isFn c gs r,
    (compileBinds isFn c seq bs).run gs = .ok r → Fr.Cok c →
    ∀ w s rs env pre post, Y.R w s rs env → Fr.Inv c gs r.2 pre w s rs → Seg s pre (r.1.1 ++ popsCode seq bs) post →
      HSimU Y (r.1.1 ++ popsCode seq bs) w s rs env (refBinds n seq bs env rs)

theorem hclaimBs (hbd : Y.Binds) {Fr : FgP Y} {n : Nat} (hL : HClaimL Y Fr n) (hV : HClaimV Y Fr n) : HClaimBs Y Fr.toFg n := by
  intro seq bs hseq hbs isFn c gs r ha hfn w s rs env pre post hrel hinv hseg
  cases seq
  · exact hletpar_binds hbd hV isFn c gs r ha hfn (hseq.resolve_left (by decide)) hbs w s rs env pre post hrel hinv hseg
  · simp only [popsCode, refBinds, if_true, List.append_nil] at hseg ⊢
    exact hL bs hbs isFn c gs r ha hfn w s rs env pre post hrel hinv hseg

/-- the step for a non-empty `begin` and for `cond`: the statement list, the arms -/
theorem hclaimE_bc {n : Nat} (hB : HClaimB Y Fr n) (hC : HClaimC Y Fr n) (e : Expr)
    (hform : (match e with | .begin_ (_ :: _) | .cond _ _ => true | _ => false) = true)
    (he : Fr.F e = true) (isFn : Nat → Bool) (c : Ctx) (gs : GS) (r : (List Instr × Bool) × GS)
    (hc : (compile isFn c e).run gs = .ok r) (hfn : Fr.Cok c) (w : Y.W) (s : St) (rs : Ref.St) (env : Nat)
    (pre post : List Instr) (hrel : Y.R w s rs env) (hinv : Fr.Inv c gs r.2 pre w s rs) (hseg : Seg s pre r.1.1 post) :
    Y.Sm r.1.1 w s rs env (Ref.eval (n + 1) e env rs) := by
  cases e with
  | begin_ es =>
    cases es with
    | nil => cases hform
    | cons e0 es0 =>
      rw [compile_begin_cons] at hc
      rw [Ref.eval]
      exact hB (e0 :: es0) (by simp) (Fr.f_begin he) isFn c gs r hc hfn w s rs env pre post hrel hinv hseg
  | cond arms d =>
    have he := Fr.f_cond he
    obtain ⟨rd, gs1, hd, as, gs2, has, rfl⟩ := compile_cond_ok.mp hc
    have totd := (compile_tot hd).2
    have tota := compileArms_tot has
    rw [Ref.eval]
    exact hC arms d he.1 he.2 isFn c gs1 (as, gs2) gs (rd, gs1) has hd hfn w s rs env pre post hrel
      (Fr.inv_range hinv totd.1 tota.1 (KeepFns.refl _)) (Fr.inv_range hinv (KeepFns.refl _) totd.1 tota.1) (Nat.le_refl _) hseg
  | _ => cases hform

/-- the step for the forms whose last part stands in the position of the whole: `begin`, `cond`, `newScope`, `let`. The
four are fixed in the statement and each has its field in `Fg` (`f_begin` … `f_let`): a further form of this kind is
a field, a line in every instance, and an arm here. -/
theorem hclaimE_struct (hbd : Y.Binds) {n : Nat} (hB : HClaimB Y Fr n) (hC : HClaimC Y Fr n) (hLet : HClaimBs Y Fr n) (e : Expr)
    (hform : (match e with | .begin_ (_ :: _) | .cond _ _ | .newScope _ | .let_ _ _ _ => true | _ => false) = true)
    (he : Fr.F e = true) (isFn : Nat → Bool) (c : Ctx) (gs : GS) (r : (List Instr × Bool) × GS)
    (hc : (compile isFn c e).run gs = .ok r) (hfn : Fr.Cok c) (w : Y.W) (s : St) (rs : Ref.St) (env : Nat)
    (pre post : List Instr) (hrel : Y.R w s rs env) (hinv : Fr.Inv c gs r.2 pre w s rs) (hseg : Seg s pre r.1.1 post) :
    Y.Sm r.1.1 w s rs env (Ref.eval (n + 1) e env rs) := by
  cases e with
  | begin_ es =>
    cases es with
    | nil => cases hform
    | cons e0 es0 => exact hclaimE_bc hB hC _ rfl he isFn c gs r hc hfn w s rs env pre post hrel hinv hseg
  | cond arms d => exact hclaimE_bc hB hC _ rfl he isFn c gs r hc hfn w s rs env pre post hrel hinv hseg
  | newScope es =>
    have he := Fr.f_newScope he
    cases es with
    | nil => exact absurd rfl he.1
    | cons e0 es0 =>
      obtain ⟨ra, gs1, ha, rfl⟩ := compile_newScope_cons_ok.mp hc
      rw [Ref.eval]
      show Y.Sm _ w s rs env (Ref.evalBegin n (e0 :: es0) rs.frames.length (Ref.newFrame rs env).2)
      exact Y.scoped hbd hseg hrel (hB (e0 :: es0) he.1 he.2 isFn _ gs (ra, gs1) (compileNewScope_as_begin he.1 ha)
        (Fr.cok hfn c.tail (c.scopes + 1)) w _ _ _ _ _ (hbd.rpush hrel) (Fr.inv_push hinv env c.tail)
        (hseg.moved (glue_addScope hseg).2 (c₁ := [.addScope]) (post' := [.removeScope] ++ post) (by simp) rfl))
  | let_ seq bs body =>
    obtain ⟨hseq, hbody, hbs, hbl⟩ := Fr.f_let he
    obtain ⟨ra, gs1, ha, rb, gs2, hb, rfl⟩ := compile_let_ok.mp hc
    have tot1 := compileBinds_facts bs isFn _ seq gs _ ha
    have tot2 := compileBegin_tot hb
    have hcode : ([Instr.addScope] ++ ra.1 ++ (if seq then [] else (bs.map (fun p => Instr.popStackPutEnv p.1)).reverse)
        ++ rb.1 ++ [Instr.removeScope]) = [Instr.addScope] ++ (ra.1 ++ popsCode seq bs ++ rb.1) ++ [Instr.removeScope] := by
      simp only [popsCode, List.append_assoc]
    simp only [hcode] at hseg hinv ⊢
    rw [ref_eval_let]
    refine Y.scoped hbd hseg hrel ?_
    have hseg1 : Seg s.pushScope (pre ++ [.addScope]) (ra.1 ++ popsCode seq bs ++ rb.1) ([.removeScope] ++ post) :=
      hseg.moved (glue_addScope hseg).2 (c₁ := [.addScope]) (post' := [.removeScope] ++ post) (by simp) rfl
    have hU := hLet seq bs hseq hbs isFn _ gs (ra, gs1) ha (Fr.cok hfn false (c.scopes + 1)) w _ _ _ _ _ (hbd.rpush hrel)
      (Fr.inv_range (Fr.inv_push hinv env false) (KeepFns.refl _) tot1.1 tot2.1)
      (hseg1.refocus (c' := ra.1 ++ popsCode seq bs) (post' := rb.1 ++ ([.removeScope] ++ post)) (by simp))
    cases h1 : refBinds n seq bs rs.frames.length (Ref.newFrame rs env).2 with
    | ok u rs2 =>
      rw [h1] at hU
      obtain ⟨s2, w2, r2, mv2, rel2, x2⟩ := hU
      have ihb := hB body hbody hbl isFn _ gs1 (rb, gs2) hb (Fr.cok hfn c.tail (c.scopes + 1)) w2 s2 rs2 _ _ _ rel2
        (Fr.inv_adv (Fr.inv_pre (Fr.inv_range (Fr.inv_push hinv env c.tail) tot1.1 tot2.1 (KeepFns.refl _))
          ((tot1.2.below (Nat.le_refl _)).app (lsOut_popsCode seq bs _ _))) mv2 x2)
        (hseg1.moved mv2 (c₁ := ra.1 ++ popsCode seq bs) (c₂ := rb.1) (post' := [.removeScope] ++ post) (by simp) rfl)
      exact Y.seq r2 mv2 x2 ihb (by simp only [List.length_append]; exact Nat.le_refl _) (by simp only [List.length_append])
    | err rs2 => rw [h1] at hU; exact Y.sm_err.mpr (Y.flmono hU (by simp only [List.length_append]; omega))
    | timeout => exact Y.sm_timeout
    | brk l rs2 => rw [h1] at hU; exact hU.elim
    | cont l rs2 => rw [h1] at hU; exact hU.elim
  | _ => cases hform

/-- the forms `hclaimE_core` treats, which every plain fragment has; a constructor that is not listed is for the step
of the fragment itself -/
def coreForm : Expr → Bool
  | .int _ | .bool _ | .str _ | .nilLit | .sym _ | .begin_ _ | .def_ _ _ | .set_ _ _ | .cond _ _ | .and_ _ | .or_ _
  | .newScope _ | .let_ _ _ _ => true
  | _ => false

/-- the forms without bindings: literals, `begin`, `cond`, `and`, `or` -/
def pureForm : Expr → Bool
  | .int _ | .bool _ | .str _ | .nilLit | .begin_ _ | .cond _ _ | .and_ _ | .or_ _ => true
  | _ => false

theorem hclaimE_pure {Fr : FgP Y} {n : Nat} (hB : HClaimB Y Fr.toFg n) (hC : HClaimC Y Fr.toFg n) (hS : HClaimS Y Fr n)
    (e : Expr) (hpure : pureForm e = true) (he : Fr.F e = true) (isFn : Nat → Bool) (c : Ctx) (gs : GS)
    (r : (List Instr × Bool) × GS) (hc : (compile isFn c e).run gs = .ok r) (hfn : Fr.Cok c) (w : Y.W) (s : St) (rs : Ref.St)
    (env : Nat) (pre post : List Instr) (hrel : Y.R w s rs env) (hinv : Fr.Inv c gs r.2 pre w s rs)
    (hseg : Seg s pre r.1.1 post) : Y.Sm r.1.1 w s rs env (Ref.eval (n + 1) e env rs) := by
  cases e with
  | int x =>
    rw [compile_int_run] at hc; cases hc
    rw [Ref.eval]; exact Y.push _ (fun _ _ _ => rfl) hrel hseg
  | bool x =>
    rw [compile_bool_run] at hc; cases hc
    rw [Ref.eval]; exact Y.push _ (fun _ _ _ => rfl) hrel hseg
  | str x =>
    rw [compile_str_run] at hc; cases hc
    rw [Ref.eval]; exact Y.push _ (fun _ _ _ => rfl) hrel hseg
  | nilLit =>
    rw [compile_nil_run] at hc; cases hc
    rw [Ref.eval]; exact Y.push _ (fun _ _ _ => rfl) hrel hseg
  | begin_ es =>
    cases es with
    | nil =>
      rw [compile_begin_nil_run] at hc; cases hc
      rw [Ref.eval]
      cases n with
      | zero => rw [Ref.evalBegin]; exact Y.sm_timeout
      | succ m =>
        rw [Ref.evalBegin]
        · exact Y.push _ (fun _ _ _ => rfl) hrel hseg
        · omega
    | cons e0 es0 => exact hclaimE_bc hB hC _ rfl he isFn c gs r hc hfn w s rs env pre post hrel hinv hseg
  | cond arms d => exact hclaimE_bc hB hC _ rfl he isFn c gs r hc hfn w s rs env pre post hrel hinv hseg
  | and_ es =>
    obtain ⟨cs, gs1, hcs, rfl⟩ := compile_and_ok.mp hc
    rw [Ref.eval]
    exact hS false es (Fr.f_and he) isFn c gs (cs, gs1) hcs hfn w s rs env pre post hrel hinv hseg
  | or_ es =>
    obtain ⟨cs, gs1, hcs, rfl⟩ := compile_or_ok.mp hc
    rw [Ref.eval]
    exact hS true es (Fr.f_or he) isFn c gs (cs, gs1) hcs hfn w s rs env pre post hrel hinv hseg
  | _ => cases hpure

theorem hclaimE_core (hbd : Y.Binds) {Fr : FgP Y} {n : Nat} (hE : HClaimE Y Fr.toFg Fr.F n) (hB : HClaimB Y Fr.toFg n)
    (hC : HClaimC Y Fr.toFg n) (hS : HClaimS Y Fr n) (hL : HClaimL Y Fr n) (hV : HClaimV Y Fr n) (e : Expr)
    (hcore : coreForm e = true) (he : Fr.F e = true) (isFn : Nat → Bool) (c : Ctx) (gs : GS) (r : (List Instr × Bool) × GS)
    (hc : (compile isFn c e).run gs = .ok r) (hfn : Fr.Cok c) (w : Y.W) (s : St) (rs : Ref.St) (env : Nat)
    (pre post : List Instr) (hrel : Y.R w s rs env) (hinv : Fr.Inv c gs r.2 pre w s rs) (hseg : Seg s pre r.1.1 post) :
    Y.Sm r.1.1 w s rs env (Ref.eval (n + 1) e env rs) := by
  have hpu := fun hp => hclaimE_pure hB hC hS e hp he isFn c gs r hc hfn w s rs env pre post hrel hinv hseg
  have hst := fun hf => hclaimE_struct hbd hB hC (hclaimBs hbd hL hV) e hf he isFn c gs r hc hfn w s rs env pre post hrel hinv hseg
  cases e with
  | sym x =>
    rw [compile_sym_run] at hc; cases hc
    exact Y.sym hbd x n (Fr.f_sym he) hrel hseg
  | def_ x e1 =>
    obtain ⟨hx, he⟩ := Fr.f_def he
    obtain ⟨ra, gs1, ha, rfl⟩ := compile_def_ok.mp hc
    rw [Ref.eval]
    have ih := hE e1 he isFn _ gs (ra, gs1) ha (Fr.cok hfn false c.scopes) w s rs env pre ([.dup, .popStackPutEnv x] ++ post) hrel
      (Fr.inv_tail hinv false) (hseg.refocus (by simp))
    cases h1 : Ref.eval n e1 env rs with
    | ok v rs1 =>
      rw [h1] at ih
      obtain ⟨s1, w1, u1, r1, l1, hv1, rel1, x1, cl1⟩ := (Y.sm_ok.mp ih).resolve_right (Fr.noex _ _ _ _)
      rw [hv1]
      exact Y.def_tail hbd hseg hx r1 l1 rel1 x1 cl1
    | _ => rw [h1] at ih; exact Y.pass ih (fun _ _ hh => by cases hh) (by lenarith)
  | set_ x e1 =>
    obtain ⟨hx, he⟩ := Fr.f_set he
    obtain ⟨ra, gs1, ha, rfl⟩ := compile_set_ok.mp hc
    rw [Ref.eval]
    have ih := hE e1 he isFn _ gs (ra, gs1) ha (Fr.cok hfn false c.scopes) w s rs env pre ([.dup, .update x] ++ post) hrel
      (Fr.inv_tail hinv false) (hseg.refocus (by simp))
    cases h1 : Ref.eval n e1 env rs with
    | ok v rs1 =>
      rw [h1] at ih
      obtain ⟨s1, w1, u1, r1, l1, hv1, rel1, x1, cl1⟩ := (Y.sm_ok.mp ih).resolve_right (Fr.noex _ _ _ _)
      rw [hv1]
      exact Y.set_tail hbd hseg hx r1 l1 rel1 x1 cl1
    | _ => rw [h1] at ih; exact Y.pass ih (fun _ _ hh => by cases hh) (by lenarith)
  | newScope es => exact hst rfl
  | let_ seq bs body => exact hst rfl
  | int _ | bool _ | str _ | nilLit | begin_ _ | cond _ _ | and_ _ | or_ _ => exact hpu rfl
  | _ => cases hcore

theorem hclaimE_zero (Fr : Fg Y) (P : Expr → Bool) : HClaimE Y Fr P 0 :=
  fun _ _ _ _ _ _ _ _ _ _ _ _ _ _ _ _ _ => by rw [Ref.eval]; exact Y.sm_timeout

theorem hclaimB_zero (Fr : Fg Y) : HClaimB Y Fr 0 :=
  fun _ _ _ _ _ _ _ _ _ _ _ _ _ _ _ _ _ _ => by rw [Ref.evalBegin]; exact Y.sm_timeout

theorem hclaimC_zero (Fr : Fg Y) : HClaimC Y Fr 0 :=
  fun _ _ _ _ _ _ _ _ _ _ _ _ _ _ _ _ _ _ _ _ _ _ _ _ => by rw [Ref.evalCond]; exact Y.sm_timeout

theorem hclaimS_zero (Fr : FgP Y) : HClaimS Y Fr 0 :=
  fun _ _ _ _ _ _ _ _ _ _ _ _ _ _ _ _ _ _ => by rw [Ref.evalAndOr]; exact Y.sm_timeout

theorem hclaimL_zero (Fr : FgP Y) : HClaimL Y Fr 0 :=
  fun _ _ _ _ _ _ _ _ _ _ _ _ _ _ _ _ _ => by rw [Ref.evalLetSeq]; trivial

theorem hclaimV_zero (Fr : FgP Y) : HClaimV Y Fr 0 :=
  fun _ _ _ _ _ _ _ _ _ _ _ _ _ _ _ _ _ => by rw [Ref.evalList]; trivial

end ZygoVerif.Sim
