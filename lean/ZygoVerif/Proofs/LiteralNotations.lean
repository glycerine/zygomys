/-
Every integer notation, from the spelling to the reader's answer: the spelling is one atom, the
cascade of `DecodeAtom` classifies it (hex / octal / binary / decimal with underscores, signed /
uint64 suffix in base 10, 16, 8), and the conversion gives the positional value of the digits —
or a refusal when the value does not fit the type. Uses the glue of Proofs/LiteralRead.
-/
import ZygoVerif.Proofs.LiteralRead
import ZygoVerif.Proofs.LiteralSpec
namespace ZygoVerif.Literal
open ZygoVerif ZygoVerif.Lexer ZygoVerif.Parser ZygoVerif.NumLit ZygoVerif.Spec.DataValue
open ZygoVerif.EvalData ZygoVerif.ReadPrint

theorem ascii_forall (P : Char → Prop) (h : ∀ n, n < 128 → P (Char.ofNat n)) (c : Char) (hc : c.toNat < 128) : P c := by
  have := h c.toNat hc
  rwa [Char.ofNat_toNat] at this

theorem isHexC_lt (c : Char) (h : isHexC c = true) : c.toNat < 128 := by
  simp only [isHexC, isDig, Bool.or_eq_true, Bool.and_eq_true, decide_eq_true_eq] at h
  have e9 : '9'.toNat = 57 := by decide
  have ef : 'f'.toNat = 102 := by decide
  have eF : 'F'.toNat = 70 := by decide
  rcases h with (h | h) | h
  · have h2 : c.toNat ≤ '9'.toNat := h.2
    omega
  · have h2 : c.toNat ≤ 'f'.toNat := h.2
    omega
  · have h2 : c.toNat ≤ 'F'.toNat := h.2
    omega

structure HexFacts (c : Char) : Prop where
  plain : isSpecial c = false
  nL : c ≠ 'L'
  nColon : c ≠ ':'

theorem hexFacts_table : ∀ n, n < 128 → isHexC (Char.ofNat n) = true →
    (isSpecial (Char.ofNat n) = false ∧ Char.ofNat n ≠ 'L' ∧ Char.ofNat n ≠ ':') := by
  decide +kernel

theorem hexFacts (c : Char) (h : isHexC c = true) : HexFacts c := by
  have := ascii_forall (fun c => isHexC c = true →
    (isSpecial c = false ∧ c ≠ 'L' ∧ c ≠ ':')) hexFacts_table c (isHexC_lt c h) h
  exact ⟨this.1, this.2.1, this.2.2⟩

/-- a digit rune and its value: below ten for the decimal digits alone, whose code is `48 + d` -/
theorem digitVal_some (c : Char) (d : Nat) (h : digitVal c = some d) :
    isHexC c = true ∧ (d < 10 → c.toNat = 48 + d) := by
  unfold digitVal at h
  simp only [isHexC, isDig, Bool.or_eq_true, Bool.and_eq_true, decide_eq_true_eq]
  have e : '0'.toNat = 48 ∧ 'a'.toNat = 97 ∧ 'A'.toNat = 65 := by decide
  by_cases h1 : '0' ≤ c ∧ c ≤ '9'
  · rw [if_pos h1] at h
    have : '0'.toNat ≤ c.toNat := h1.1
    exact ⟨.inl (.inl h1), fun _ => by cases h; omega⟩
  rw [if_neg h1] at h
  by_cases h2 : 'a' ≤ c ∧ c ≤ 'f'
  · rw [if_pos h2] at h
    have : 'a'.toNat ≤ c.toNat := h2.1
    exact ⟨.inl (.inr h2), fun _ => by cases h; omega⟩
  rw [if_neg h2] at h
  by_cases h3 : 'A' ≤ c ∧ c ≤ 'F'
  · rw [if_pos h3] at h
    have : 'A'.toNat ≤ c.toNat := h3.1
    exact ⟨.inr h3, fun _ => by cases h; omega⟩
  rw [if_neg h3] at h
  cases h

theorem digitVal?_isSome (base : Nat) (c : Char) (h : (digitVal? base c).isSome = true) :
    ∃ d, d < base ∧ digitVal c = some d := by
  rw [digitVal?_eq] at h
  cases hd : digitVal c with
  | none => rw [hd] at h; cases h
  | some d =>
    rw [hd, Option.bind_some] at h
    by_cases hlt : d < base
    · exact ⟨d, hlt, rfl⟩
    · rw [if_neg hlt] at h; cases h

theorem digitVal?_hex (base : Nat) (c : Char) (h : (digitVal? base c).isSome = true) : isHexC c = true := by
  obtain ⟨d, _, hd⟩ := digitVal?_isSome base c h
  exact (digitVal_some c d hd).1

/-- **a digit of a base up to ten** is one of the `base` characters `Char.ofNat (48 + d)`: a fact about the
digits of such a base is a table of `base` rows -/
theorem digit_cases (base : Nat) (hb : base ≤ 10) (P : Char → Prop) (hp : ∀ d, d < base → P (Char.ofNat (48 + d)))
    (c : Char) (h : (digitVal? base c).isSome = true) : P c := by
  obtain ⟨d, hlt, hd⟩ := digitVal?_isSome base c h
  have := hp d hlt
  rwa [← (digitVal_some c d hd).2 (by omega), Char.ofNat_toNat] at this

theorem mapM_some_all (base : Nat) : ∀ (ds : List Char) (l : List Nat), ds.mapM (digitVal? base) = some l →
    ∀ c ∈ ds, (digitVal? base c).isSome = true := by
  intro ds
  induction ds with
  | nil => intro l _ c hc; cases hc
  | cons a r ih =>
    intro l h c hc
    simp only [List.mapM_cons] at h
    cases ha : digitVal? base a with
    | none => rw [ha] at h; simp at h
    | some d =>
      rw [ha] at h
      cases hr : r.mapM (digitVal? base) with
      | none => rw [hr] at h; simp at h
      | some l' =>
        simp only [List.mem_cons] at hc
        rcases hc with rfl | hc
        · rw [ha]; rfl
        · exact ih l' hr c hc

theorem digitsOf_some (base : Nat) (ds : List Char) (l : List Nat) (h : digitsOf base ds = some l) :
    ds ≠ [] ∧ ∀ c ∈ ds, (digitVal? base c).isSome = true := by
  unfold digitsOf at h
  split at h
  · cases h
  · rename_i hne
    exact ⟨by intro hn; rw [hn] at hne; simp at hne, mapM_some_all base ds l h⟩

theorem digitsOf_hex (base : Nat) (ds : List Char) (l : List Nat) (h : digitsOf base ds = some l) :
    ds ≠ [] ∧ ∀ c ∈ ds, isHexC c = true :=
  ⟨(digitsOf_some base ds l h).1, fun c hc => digitVal?_hex base c ((digitsOf_some base ds l h).2 c hc)⟩

theorem getLast?_in (ds : List Char) (hne : ds ≠ []) : ∃ c, ds.getLast? = some c ∧ c ∈ ds :=
  ⟨ds.getLast hne, List.getLast?_eq_some_getLast hne, List.getLast_mem hne⟩

theorem getLast?_cons2 (a b : Char) (ds : List Char) (hne : ds ≠ []) : (a :: b :: ds).getLast? = ds.getLast? := by
  cases ds with
  | nil => exact absurd rfl hne
  | cons d r => simp [List.getLast?_cons_cons]

/-- the common part for `0k<digits>`: everything before `HexRegex` says no -/
theorem based_prefix (k : Char) (ds : List Char) (hk : isDigU k = false) (hne : ds ≠ [])
    (hd : ∀ c ∈ ds, isHexC c = true) :
    ('0' :: k :: ds).getLast? ≠ some ':' ∧ ('0' :: k :: ds) ≠ ['&'] ∧ ('0' :: k :: ds) ≠ ['\\'] ∧
    boolRe ('0' :: k :: ds) = false ∧ uint64Re ('0' :: k :: ds) = false ∧ decimalRe ('0' :: k :: ds) = false := by
  obtain ⟨l, hl, hlm⟩ := getLast?_in ds hne
  have hf := hexFacts l (hd l hlm)
  have hlast : ('0' :: k :: ds).getLast? = some l := by rw [getLast?_cons2 _ _ _ hne, hl]
  refine ⟨?_, by simp, by simp, boolRe_head '0' _ (by decide) (by decide), uint64Re_last _ l hlast hf.nL, ?_⟩
  · rw [hlast]; intro h; exact hf.nColon (Option.some.inj h)
  · have : dropMinus ('0' :: k :: ds) = '0' :: k :: ds := rfl
    simp [decimalRe, this, digThenDigU, hk]

theorem plain_based (k : Char) (ds : List Char) (hk : isSpecial k = false) (hd : ∀ c ∈ ds, isHexC c = true) :
    ∀ c ∈ '0' :: k :: ds, isSpecial c = false := by
  intro c hc
  simp only [List.mem_cons] at hc
  rcases hc with rfl | rfl | hc
  · decide
  · exact hk
  · exact (hexFacts c (hd c hc)).plain

/-- the reader's answer for a spelling of the value `nv`: the one number the specification names
(`denote`), a refusal when the value does not fit its type -/
def answer (nv : NumVal) : Option (List Sexp) := (denote nv).map fun e => [e]

theorem numeralValue_of (base : Nat) (ds : List Char) (l : List Nat) (h : digitsOf base ds = some l) :
    numeralValue base ds = if posValue base l < 2 ^ 63 then some (.int (posValue base l : Nat)) else none := by
  simp [numeralValue, h]

/-- from the conversion of the token (its own range test `c`) to the reader's answer -/
theorem answer_of_int (text : List Char) (tok : Token) (v : Int) (c : Prop) [Decidable c]
    (hc : c ↔ (-(2 : Int) ^ 63 ≤ v ∧ v < 2 ^ 63))
    (hr : ∀ o, atomOfTok tok = some o → readAll text = o.map fun e => [e])
    (ha : atomOfTok tok = some (if c then some (.int v) else none)) :
    readAll text = answer (.int v) := by
  rw [hr _ ha, answer, denote, if_congr hc rfl rfl]

/-- a based literal `0k<digits>`, once the cascade has made the token `typ` of it and the parser
converts that token as a numeral in `base`: read as Σ dᵢ·baseⁿ⁻¹⁻ⁱ, refused beyond int64 -/
theorem read_based (k : Char) (typ : TokType) (base : Nat) (ds : List Char) (l : List Nat)
    (h : digitsOf base ds = some l) (hk : isSpecial k = false) (htyp : isLitTyp typ = true)
    (hdec : decodeAtom ('0' :: k :: ds) = .ok ⟨typ, ds⟩)
    (hlit : ∀ c r, isHexC c = true → atomOfTok ⟨typ, c :: r⟩ = some (numeralValue base (c :: r))) :
    readAll ('0' :: k :: ds) = answer (.int (posValue base l)) := by
  obtain ⟨hne, hd⟩ := digitsOf_hex base ds l h
  have hr := read_plain_atom ('0' :: k :: ds) _ (by simp) hdec (plain_based k ds hk hd) htyp
  cases ds with
  | nil => exact absurd rfl hne
  | cons c r =>
    refine answer_of_int _ _ (posValue base l : Nat) (posValue base l < 2 ^ 63) (by omega) hr ?_
    rw [hlit c r (hd c (by simp)), numeralValue_of base _ l h]

/-- **hex** `0x<digits>`: read as Σ dᵢ·16ⁿ⁻¹⁻ⁱ, refused beyond int64 -/
theorem read_hex (ds : List Char) (l : List Nat) (h : digitsOf 16 ds = some l) :
    readAll ('0' :: 'x' :: ds) = answer (.int (posValue 16 l)) := by
  obtain ⟨hne, hd⟩ := digitsOf_hex 16 ds l h
  obtain ⟨p0, p1, p2, p3, p4, p5⟩ := based_prefix 'x' ds (by decide) hne hd
  have hall : ds.all isHexC = true := by rw [List.all_eq_true]; exact hd
  have hre : hexRe ('0' :: 'x' :: ds) = true := by simp [hexRe, hexPlus, hall, List.isEmpty_eq_false_iff.2 hne]
  have hdec : decodeAtom ('0' :: 'x' :: ds) = .ok ⟨.hex, ds⟩ := by
    simp only [decodeAtom_cascade _ p0 p1 p2, p3, p4, p5, hre, Bool.false_eq_true, ↓reduceIte]; rfl
  exact read_based 'x' .hex 16 ds l h (by decide) rfl hdec literal_hex

/-- **octal** `0o<digits>` -/
theorem read_oct (ds : List Char) (l : List Nat) (h : digitsOf 8 ds = some l) :
    readAll ('0' :: 'o' :: ds) = answer (.int (posValue 8 l)) := by
  obtain ⟨hne, hd⟩ := digitsOf_hex 8 ds l h
  obtain ⟨p0, p1, p2, p3, p4, p5⟩ := based_prefix 'o' ds (by decide) hne hd
  have hall : ds.all (fun c => '0' ≤ c && c ≤ '7') = true := by
    rw [List.all_eq_true]; intro c hc
    exact digit_cases 8 (by decide) (fun c => ('0' ≤ c && c ≤ '7') = true) (by decide) c ((digitsOf_some 8 ds l h).2 c hc)
  have hre : octRe ('0' :: 'o' :: ds) = true := by simp only [octRe, hall, List.isEmpty_eq_false_iff.2 hne]; rfl
  have hx : hexRe ('0' :: 'o' :: ds) = false := rfl
  have hdec : decodeAtom ('0' :: 'o' :: ds) = .ok ⟨.oct, ds⟩ := by
    simp only [decodeAtom_cascade _ p0 p1 p2, p3, p4, p5, hx, hre, Bool.false_eq_true, ↓reduceIte]; rfl
  exact read_based 'o' .oct 8 ds l h (by decide) rfl hdec literal_oct

/-- **binary** `0b<digits>` -/
theorem read_binary (ds : List Char) (l : List Nat) (h : digitsOf 2 ds = some l) :
    readAll ('0' :: 'b' :: ds) = answer (.int (posValue 2 l)) := by
  obtain ⟨hne, hd⟩ := digitsOf_hex 2 ds l h
  obtain ⟨p0, p1, p2, p3, p4, p5⟩ := based_prefix 'b' ds (by decide) hne hd
  have hall : ds.all (fun c => c == '0' || c == '1') = true := by
    rw [List.all_eq_true]; intro c hc
    exact digit_cases 2 (by decide) (fun c => (c == '0' || c == '1') = true) (by decide) c ((digitsOf_some 2 ds l h).2 c hc)
  have hre : binaryRe ('0' :: 'b' :: ds) = true := by simp only [binaryRe, hall, List.isEmpty_eq_false_iff.2 hne]; rfl
  have hx : hexRe ('0' :: 'b' :: ds) = false := rfl
  have ho : octRe ('0' :: 'b' :: ds) = false := rfl
  have hdec : decodeAtom ('0' :: 'b' :: ds) = .ok ⟨.binary, ds⟩ := by
    simp only [decodeAtom_cascade _ p0 p1 p2, p3, p4, p5, hx, ho, hre, Bool.false_eq_true, ↓reduceIte]; rfl
  exact read_based 'b' .binary 2 ds l h (by decide) rfl hdec literal_binary

theorem isDig_isDigU (c : Char) (h : isDig c = true) : isDigU c = true := by simp [isDigU, h]

/-- `digitsUnderscores` of the specification is `[0-9][_0-9]*` of the lexer -/
theorem digitsUnderscores_iff (body : List Char) (h : digitsUnderscores body = true) :
    ∃ c r, body = c :: r ∧ isDig c = true ∧ ∀ x ∈ r, isDigU x = true := by
  cases body with
  | nil => simp [digitsUnderscores] at h
  | cons c r =>
    simp only [digitsUnderscores, Bool.and_eq_true, List.all_eq_true] at h
    exact ⟨c, r, rfl, h.1, fun x hx => h.2 x hx⟩

theorem filter_minus (body : List Char) : ('-' :: body).filter (· != '_') = '-' :: body.filter (· != '_') := by
  rw [List.filter_cons]; simp

/-- **decimal without a sign** `D[D_]*`: read as the positional value of its digits (underscores
dropped), refused beyond int64 -/
theorem read_decimal (body : List Char) (l : List Nat) (hb : digitsUnderscores body = true)
    (h : digitsOf 10 (dropUnderscores body) = some l) : readAll body = answer (.int (posValue 10 l)) := by
  obtain ⟨c, r, rfl, hc, hr⟩ := digitsUnderscores_iff body hb
  have hdec := decodeAtom_of_decimalRe _ (decimalRe_of_shape c r hc hr).1
  have hpl : ∀ x ∈ c :: r, isSpecial x = false := by
    intro x hx; simp only [List.mem_cons] at hx
    rcases hx with rfl | hx
    · exact isDigU_plain _ (isDig_isDigU _ hc)
    · exact isDigU_plain x (hr x hx)
  have hrd := read_plain_atom (c :: r) _ (by simp) hdec hpl (by rfl)
  refine answer_of_int _ _ (posValue 10 l : Nat) (posValue 10 l < 2 ^ 63) (by omega) hrd ?_
  rw [literal_decimal c r hc, numeralValue_of 10 _ l h]

/-- **negative decimal** `-D[D_]*`: the minus sign and the digits are ONE atom (the sign look-back at
the start of a text), read as minus the positional value; refused below −2⁶³ -/
theorem read_neg_decimal (body : List Char) (l : List Nat) (hb : digitsUnderscores body = true)
    (h : digitsOf 10 (dropUnderscores body) = some l) : readAll ('-' :: body) = answer (.int (-(posValue 10 l : Nat))) := by
  obtain ⟨c, r, rfl, hc, hr⟩ := digitsUnderscores_iff body hb
  have hdec := decodeAtom_of_decimalRe _ (decimalRe_of_shape c r hc hr).2
  have hpl : ∀ x ∈ r, isSpecial x = false := fun x hx => isDigU_plain x (hr x hx)
  have hrd := read_atom ('-' :: c :: r) _ (.neg c r hc hpl ⟨_, hdec⟩) hdec (by rfl)
  have hat : atomOfTok ⟨.decimal, '-' :: c :: r⟩ =
      some (if posValue 10 l ≤ 2 ^ 63 then some (.int (-(posValue 10 l : Nat))) else none) := by
    have hn : natOfDigits 10 ((c :: r).filter (· != '_')) = some (posValue 10 l) := by
      rw [natOfDigits_eq_posValue]
      have : digitsOf 10 ((c :: r).filter (· != '_')) = some l := h
      rw [this]; rfl
    simp only [atomOfTok, filter_minus, parseInt64, hn]
    by_cases hle : posValue 10 l ≤ 2 ^ 63 <;> simp
  exact answer_of_int _ _ _ (posValue 10 l ≤ 2 ^ 63) (by omega) hrd hat

theorem answer_of_uint (text : List Char) (tok : Token) (base : Nat) (ds : List Char) (l : List Nat)
    (hr : ∀ o, atomOfTok tok = some o → readAll text = o.map fun e => [e])
    (hl : digitsOf base ds = some l)
    (ha : atomOfTok tok = some ((parseUint64 base ds).map Sexp.uint)) :
    readAll text = answer (.uint (posValue base l)) := by
  have hp : parseUint64 base ds = if posValue base l < 2 ^ 64 then some (posValue base l) else none := by
    simp [parseUint64, natOfDigits_eq_posValue, hl]
  rw [hr _ ha, hp, answer, denote, apply_ite (Option.map Sexp.uint)]
  rfl

/-- the conversion of a uint64 token: `ParseUint` of the digits in the base the prefix names — `uintBase`, as in
the specification. (The parser also asks for more than two runes before it looks at the prefix: that only
concerns `0x`/`0o` without a digit, an error either way.) -/
theorem atomOfTok_uint64 (d : List Char) :
    atomOfTok ⟨.uint64, d ++ "ULL".toList⟩ = some ((parseUint64 (uintBase d).1 (uintBase d).2).map Sexp.uint) := by
  simp only [atomOfTok, ULL_take]
  rcases uintBase_cases d with ⟨r, rfl, hb⟩ | ⟨r, rfl, hb⟩ | ⟨hb, hx, ho⟩ <;> rw [hb]
  · cases r with
    | nil => rfl
    | cons a b => rw [if_pos (by simp)]; rfl
  · cases r with
    | nil => rfl
    | cons a b => rw [if_pos (by simp)]; rfl
  · by_cases hlen : d.length > 2
    · rw [if_pos hlen]
      split
      · exact absurd rfl (ho _)
      · exact absurd rfl (hx _)
      · rfl
    · rw [if_neg hlen]

/-- **`<decimal digits>ULL`, `0x<hex digits>ULL`, `0o<octal digits>ULL`**: the digits behind the prefix, in the
base it names, are read as their positional value, as a uint64; refused from 2⁶⁴ on -/
theorem read_uint (d : List Char) (l : List Nat) (h : digitsOf (uintBase d).1 (uintBase d).2 = some l) :
    readAll (d ++ "ULL".toList) = answer (.uint (posValue (uintBase d).1 l)) := by
  obtain ⟨hne, hd⟩ := digitsOf_hex _ _ l h
  have hall : (uintBase d).2.all isHexC = true := by rw [List.all_eq_true]; exact hd
  have hne' := List.isEmpty_eq_false_iff.2 hne
  have hd' : uint64Re (d ++ "ULL".toList) = true ∧ ∀ c ∈ d, isSpecial c = false := by
    rw [uint64Re_append]
    rcases uintBase_cases d with ⟨r, rfl, hb⟩ | ⟨r, rfl, hb⟩ | ⟨hb, _, _⟩ <;> rw [hb] at hall hne' hd
    · exact ⟨by simp [hexPlus, hall, hne'], plain_based 'x' r (by decide) hd⟩
    · exact ⟨by simp [hexPlus, hall, hne'], plain_based 'o' r (by decide) hd⟩
    · exact ⟨by simp [hexPlus, hall, hne'], fun c hc => (hexFacts c (hd c hc)).plain⟩
  have hr := read_plain_atom (d ++ "ULL".toList) _ (List.append_ne_nil_of_right_ne_nil _ (by decide))
    (decodeAtom_of_uint64Re _ hd'.1) (plain_ULL d hd'.2) (by rfl)
  exact answer_of_uint _ _ _ _ l hr h (atomOfTok_uint64 d)

end ZygoVerif.Literal
