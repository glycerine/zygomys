/-
The pieces of the walk over the runs of the generator for the
WHOLE core language of Model/Gen.lean (the walk itself: Proofs/GenBalancedAll.lean): the
covered grammar `okL`, the shape of the conclusions (`Res`: the generator state only grows, every
template allocated on the way is a verified function, the code is a fragment from `σ` to
`σ + 1 value` in every context that satisfies the invariant `GInv`), the self tail-call sequence,
`break`/`continue`, the loop from its four parts, and a whole function from its body.
-/
import ZygoVerif.Proofs.GenBalancedInv
namespace ZygoVerif.Bal
open ZygoVerif.VM ZygoVerif.Core
open ZygoVerif.Sim (forGs forDone forCode)

mutual
/-- Every core form. Side conditions: the body of `let`/`letseq`/`fn`/`defn` is not empty (what
the elaborator guarantees), the head and the operands of every call are in the grammar (they are
compiled at run time by `EvalCallExpression`), and no call has the empty name or a generated name
`__anon<n>` as its head (such a call inside the anonymous function of that name would be compiled as a self
tail call without an arity check: C09-02). `.bad` is let through, as in `okA`: `compile` throws on it. -/
def okL : Expr → Bool
  | .int _ => true
  | .bool _ => true
  | .str _ => true
  | .nilLit => true
  | .sym _ => true
  | .arr es => okLs es
  | .call (.sym h) args => !anonLike h && okLs args
  | .call f args => okL f && okLs args
  | .begin_ es => okLs es
  | .def_ _ e => okL e
  | .set_ _ e => okL e
  | .cond arms d => okLArms arms && okL d
  | .and_ es => okLs es
  | .or_ es => okLs es
  | .let_ _ bs body => okLBinds bs && !body.isEmpty && okLs body
  | .newScope es => okLs es
  | .for_ _ i t s body => okL i && okL t && okL s && okLs body
  | .break_ _ => true
  | .continue_ _ => true
  | .fn _ _ body => !body.isEmpty && okLs body
  | .defn _ _ _ body => !body.isEmpty && okLs body
  | .assign l r => okL l && okL r
  | .bad _ => true
def okLs : List Expr → Bool
  | [] => true
  | e :: es => okL e && okLs es
def okLArms : List (Expr × Expr) → Bool
  | [] => true
  | (p, b) :: r => okL p && okL b && okLArms r
def okLBinds : List (String × Expr) → Bool
  | [] => true
  | (_, e) :: r => okL e && okLBinds r
end

theorem okL_let {seq : Bool} {bs : List (String × Expr)} {body : List Expr} (h : okL (.let_ seq bs body) = true) :
    okLBinds bs = true ∧ body ≠ [] ∧ okLs body = true := by
  have h : (okLBinds bs && !body.isEmpty && okLs body) = true := h
  simpa [and_assoc] using h

theorem okL_body {body : List Expr} (h : (!body.isEmpty && okLs body) = true) : body ≠ [] ∧ okLs body = true := by
  simpa using h

theorem okL_for {l : Option String} {i t s : Expr} {body : List Expr} (h : okL (.for_ l i t s body) = true) :
    okL i = true ∧ okL t = true ∧ okL s = true ∧ okLs body = true := by
  have h : (okL i && okL t && okL s && okLs body) = true := h
  simpa [and_assoc] using h

theorem okL_call_sym {hd : String} {args : List Expr} (h : okL (.call (.sym hd) args) = true) :
    anonLike hd = false ∧ okLs args = true := by
  have h : (!anonLike hd && okLs args) = true := h
  simpa using h

def FragE (c : Ctx) (gs : GS) (T : List LoopRec) (code : List Instr) : Prop :=
  ∀ d Γ σ, GInv d c gs Γ T σ → ExprFrag Γ (B T code) σ (bump σ 1)

def FragS (c : Ctx) (gs : GS) (T : List LoopRec) (code : List Instr) (n : Nat) : Prop :=
  ∀ d Γ σ, GInv d c gs Γ T σ → SeqFrag Γ (B T code) σ (bump σ n)

structure Res (gs gs' : GS) (P : List LoopRec → Prop) : Prop where
  ext : Ext gs gs'
  sem : ∀ T, TOk gs gs' T → FnsOK gs gs' T ∧ P T

theorem Res.pure {gs : GS} {P : List LoopRec → Prop} (h : ∀ T, P T) : Res gs gs P :=
  ⟨Ext.refl gs, fun T _ => ⟨FnsOK.refl gs T, h T⟩⟩

theorem Res.seq {gs gs1 gs2 : GS} {P1 P2 : List LoopRec → Prop} (r1 : Res gs gs1 P1) (r2 : Res gs1 gs2 P2) :
    Res gs gs2 (fun T => P1 T ∧ P2 T) :=
  ⟨r1.ext.trans r2.ext, fun T hT =>
    ⟨(r1.sem T (hT.left r1.ext r2.ext)).1.trans (r2.sem T (hT.right r1.ext r2.ext)).1 r2.ext,
     (r1.sem T (hT.left r1.ext r2.ext)).2, (r2.sem T (hT.right r1.ext r2.ext)).2⟩⟩

theorem Res.mono {gs gs' : GS} {P Q : List LoopRec → Prop} (r : Res gs gs' P) (h : ∀ T, TOk gs gs' T → P T → Q T) :
    Res gs gs' Q :=
  ⟨r.ext, fun T hT => ⟨(r.sem T hT).1, h T hT (r.sem T hT).2⟩⟩

theorem efrag_removeScopes (Γ : Env) (σ : AState) (hσ : σ.wf = true) :
    ∀ m, SeqFrag Γ (List.replicate m BInstr.removeScope) (deeper σ m) σ
  | 0 => by
    have : deeper σ 0 = σ := rfl
    rw [this]; exact sfrag_nil Γ σ
  | m + 1 => by
    have ih := efrag_removeScopes Γ σ hσ m
    have one := efrag_scopeDown Γ (deeper σ m) (by rw [wf_deeper]; exact hσ)
    have hd : deeper (deeper σ m) 1 = deeper σ (m + 1) := rfl
    rw [hd] at one
    have := sfrag_of_e (efrag_seq_s one ih)
    simpa [List.replicate_succ] using this

/-- the self tail-call sequence behind the operands: `prepareCall; removeScope × (scopes+1); goto 0`;
nothing falls through, `τ` (the annotation behind the jump) is arbitrary -/
theorem efrag_tailcall (Γ : Env) (T : List LoopRec) (h : String) (n scopes : Nat) (σ : AState) (fo : FnObj)
    (hσ : σ.wf = true) (hfr : σ.frames = []) (hb : σ.base = 0) (hk : σ.k = scopes + 1)
    (hside : ∀ F A, Γ.side F A →
      annAt A 0 = some ⟨0, [], fo.nargs + (if fo.varargs then 1 else 0)⟩ ∧ F.varargs = fo.varargs ∧ F.nfixed = fo.nargs)
    (har : if fo.varargs then fo.nargs ≤ n else n = fo.nargs) (τ : AState) (hτ : τ.wf = true) :
    ExprFrag Γ (B T ([.prepareCall h n] ++ List.replicate (scopes + 1) .removeScope ++ [.goto 0])) (bump σ n) τ := by
  obtain ⟨k, frames, base⟩ := σ
  simp only at hfr hb hk
  subst hfr hb hk
  have p1 : ExprFrag Γ [BInstr.prepareCall n] ⟨scopes + 1, [], n⟩ ⟨scopes + 1, [], fo.nargs + (if fo.varargs then 1 else 0)⟩ := by
    apply efrag_instr Γ _ _ _ (wf_flat _ _) (wf_flat _ _)
    intro F A L ha1 henv
    obtain ⟨_, hva, hnf⟩ := hside F A henv.1
    refine ⟨[(L + 1, ⟨scopes + 1, [], fo.nargs + (if fo.varargs then 1 else 0)⟩)], ?_, .cons ha1 (le_refl _) .nil⟩
    cases hv : fo.varargs with
    | true =>
      rw [hv] at har hva
      simp only [if_true] at har
      have hle : n - fo.nargs ≤ n := Nat.sub_le _ _
      simp only [astep, eff, hva, hnf, if_true, har, popPush, hle]
      congr 5
      omega
    | false =>
      rw [hv] at har hva
      simp only [Bool.false_eq_true, if_false] at har
      simp [astep, eff, hva, har]
  have p2 := efrag_removeScopes Γ ⟨0, [], fo.nargs + (if fo.varargs then 1 else 0)⟩ (wf_flat _ _) (scopes + 1)
  have hd : deeper (⟨0, [], fo.nargs + (if fo.varargs then 1 else 0)⟩ : AState) (scopes + 1)
      = ⟨scopes + 1, [], fo.nargs + (if fo.varargs then 1 else 0)⟩ := by simp [deeper]
  rw [hd] at p2
  have p3 : ExprFrag Γ [BInstr.goto 0] ⟨0, [], fo.nargs + (if fo.varargs then 1 else 0)⟩ τ := by
    apply efrag_instr Γ _ _ _ (wf_flat _ _) hτ
    intro F A L hp henv
    obtain ⟨h0, _, _⟩ := hside F A henv.1
    exact ⟨[(0, ⟨0, [], fo.nargs + (if fo.varargs then 1 else 0)⟩)], by simp [astep, eff, absTarget], .cons h0 (le_refl _) .nil⟩
  have := efrag_seq (efrag_seq_s p1 p2) p3
  simpa [B, toB, bump, List.map_replicate] using this

theorem findLoop_mem {gs : GS} {l : Option String} {id : Nat} (h : findLoop gs l = some id) : id ∈ gs.loopstack := by
  cases l with
  | none =>
    simp only [findLoop] at h
    exact List.mem_of_mem_head? h
  | some x =>
    simp only [findLoop] at h
    exact List.mem_of_find?_eq_some h

theorem frag_exitLoop (c : Ctx) (gs : GS) (T : List LoopRec) (id : Nat) (isBrk : Bool) (hmem : id ∈ gs.loopstack) :
    FragE c gs T [if isBrk then Instr.brk id (c.scopes - ((gs.loops.getD id {}).scopeDepth + 1))
                  else Instr.cont id (c.scopes - ((gs.loops.getD id {}).scopeDepth + 1))] := by
  intro d Γ σ hinv
  have hτ : (bump σ 1).wf = true := by rw [wf_bump]; exact hinv.wf
  have hk := hinv.k
  -- the two instructions differ only in which offset of the loop's record they carry
  have key : ∀ (ins : BInstr) (off : Int), eff ins = .exitLoop id off (c.scopes - ((gs.loops.getD id {}).scopeDepth + 1)) →
      (off = (T.getD id {}).breakOff ∨ off = (T.getD id {}).contOff) → ExprFrag Γ [ins] σ (bump σ 1) := by
    intro ins off he hoff
    refine efrag_exit Γ ins id off _ σ (bump σ 1) he hinv.wf hτ ((hinv.loops id hmem).symm.imp (fun h => h) ?_)
    rintro ⟨info, hm, h1, h2, h3, h4, h5, h6, h7⟩
    exact ⟨info, hm, h1, hoff.imp (·.trans h2.symm) (·.trans h3.symm), h4, h5, by omega, by omega⟩
  cases isBrk
  · exact key _ _ rfl (.inr rfl)
  · exact key _ _ rfl (.inl rfl)

theorem forCode_B (T : List LoopRec) (loop : Nat) (i t s b : List Instr) :
    B T (forCode loop i t s b) = forShape loop (B T i ++ [.popUntilMark loop]) (B T t) (B T s ++ [.popUntilMark loop])
      (B T b ++ [.popUntilMark loop]) ((s.length : Int) + 3) ((b.length : Int) + 4) (-((s.length : Int) + t.length + b.length + 6)) := by
  rw [Sim.forCode_lFor]
  simp only [Sim.lFor, Sim.lCont, Sim.lTest, Sim.lEnd, forShape, B, List.map_cons, List.map_append, List.map_nil, toB,
    List.append_assoc, List.cons_append, List.nil_append]

theorem GSok.for_ {gs : GS} (h : GSok gs) (c : Ctx) (label : Option String) : GSok (forGs gs c label) := by
  intro id hid
  simp only [forGs, List.mem_cons, List.length_append, List.length_cons, List.length_nil] at hid ⊢
  rcases hid with rfl | hid
  · omega
  · have := h id hid; omega

theorem frag_forCode (c : Ctx) (gs : GS) (hg : GSok gs) (label : Option String) (T : List LoopRec) (i t s b : List Instr)
    (g2 g3 g4 : GS) (e2 : Ext (forGs gs c label) g2) (e3 : Ext g2 g3) (e4 : Ext g3 g4)
    (hT : (T.getD gs.loops.length {}).breakOff = (Sim.forOffs gs.loops.length i t s b).1 ∧
          (T.getD gs.loops.length {}).contOff = (Sim.forOffs gs.loops.length i t s b).2)
    (hb : b = [] ∨ FragE { c with tail := false, scopes := c.scopes + 1 } (forGs gs c label) T b)
    (hi : FragE { c with tail := false, scopes := c.scopes + 1 } g2 T i)
    (ht : FragE { c with tail := false, scopes := c.scopes + 1 } g3 T t)
    (hs : FragE { c with tail := false, scopes := c.scopes + 1 } g4 T s) :
    FragE c gs T (forCode gs.loops.length i t s b) := by
  intro d Γ σ hinv
  have hgA := hg.for_ c label
  have hfresh : gs.loops.length ∉ openMarks σ.frames := fun hm => Nat.lt_irrefl _ (hinv.marks _ hm)
  have inv0 := hinv.enter hg label ⟨.exact, 0⟩
  have invJ := hinv.enter hg label ⟨.junk, 0⟩
  have hoff := Sim.forOffs_eq gs.loops.length i t s b
  rw [forCode_B]
  have pum : ∀ cnt, ExprFrag (Γ.enter (loopInfo gs.loops.length σ (T.getD gs.loops.length {}).breakOff
      (T.getD gs.loops.length {}).contOff)) [.popUntilMark gs.loops.length] (inLoop gs.loops.length σ cnt) (L0 gs.loops.length σ) :=
    fun cnt => efrag_popUntil _ gs.loops.length σ cnt hinv.wf hfresh
  refine frag_for Γ gs.loops.length σ _ _ _ _ (T.getD gs.loops.length {}).breakOff (T.getD gs.loops.length {}).contOff
    _ _ _ hinv.wf hfresh hinv.uniq ?_ ?_ ?_ ?_ ?_ ?_ ?_ ?_ ?_
  · simp only [List.length_append, List.length_cons, List.length_nil, B_length]; push_cast; omega
  · simp only [List.length_append, List.length_cons, List.length_nil, B_length]; push_cast; omega
  · rw [hT.2, hoff]; simp only [List.length_append, List.length_cons, List.length_nil, B_length]; omega
  · rw [hT.2, hoff]; simp only [List.length_append, List.length_cons, List.length_nil, B_length]; push_cast; omega
  · rw [hT.1, hoff]; simp only [List.length_append, List.length_cons, List.length_nil, B_length]; omega
  · have := hi d _ _ (inv0.ext e2 hgA)
    exact efrag_seq this (pum _)
  · exact ht d _ _ (inv0.ext (e2.trans e3) hgA)
  · have := hs d _ _ (invJ.ext ((e2.trans e3).trans e4) hgA)
    exact efrag_seq this (pum _)
  · rcases hb with rfl | hb
    · simpa [B] using pum ⟨.exact, 0⟩
    · exact efrag_seq (hb d _ _ inv0) (pum _)

/-- the context of a function body: no enclosing loop of its own; loop ids occur once, loops
allocated before the function (`< N`) do not occur in it, instruction 0 is annotated with the
entry state -/
def fnEnv (N nargs : Nat) (va : Bool) : Env :=
  { loops := [],
    side := fun F A => LoopsUnique F.code ∧ (∀ l, l < N → loopPos F.code l = none) ∧
      annAt A 0 = some ⟨0, [], nargs + (if va then 1 else 0)⟩ ∧ F.varargs = va ∧ F.nfixed = nargs }

theorem ilids_fnCode (t : Nat) (params : List String) (b : List Instr) : ilids (fnCode t params b) = ilids b := by
  have hp : ∀ ps : List String, ilids (ps.map Instr.popStackPutEnv) = [] := by
    intro ps
    induction ps with
    | nil => rfl
    | cons x xs ih => simp [ilids_cons, ilid?, ih]
  have hr : ilids ((params.map Instr.popStackPutEnv).reverse) = [] := by
    rw [← List.map_reverse]; exact hp _
  simp only [fnCode, List.append_assoc, List.cons_append, List.nil_append, ilids_append, hr,
    ilids_plain_cons _ _ (rfl : ilid? (Instr.addFuncScope _) = none)]
  have : ilids [Instr.removeScope, Instr.ret] = [] := rfl
  rw [this]; simp

/-- A whole function: prologue (`addFuncScope`, formals bound last first), a body that is a
fragment in the function's own context, epilogue (`removeScope; ret`): verified. -/
theorem fn_verified (T : List LoopRec) (f : FnObj) (t N M : Nat) (b : List Instr)
    (hcode : f.code = fnCode t f.params b) (hnf : f.params.length = f.nargs + (if f.varargs then 1 else 0))
    (hids : idsIn b N M)
    (hfrag : ExprFrag (fnEnv N f.nargs f.varargs) (B T b) ⟨1, [], 0⟩ ⟨1, [], 1⟩) : FnVerified T f := by
  have p0 : ExprFrag (fnEnv N f.nargs f.varargs) [BInstr.addFuncScope] ⟨0, [], f.params.length⟩ ⟨1, [], f.params.length⟩ := by
    have := efrag_scopeUp (fnEnv N f.nargs f.varargs) .addFuncScope ⟨0, [], f.params.length⟩ (wf_flat _ _) rfl
    simpa [deeper] using this
  have p1 := popParams (fnEnv N f.nargs f.varargs) T f.params ⟨1, [], 0⟩ (wf_flat _ _)
  have hb1 : bump (⟨1, [], 0⟩ : AState) f.params.length = ⟨1, [], f.params.length⟩ := by simp [bump]
  rw [hb1] at p1
  have p3 : ExprFrag (fnEnv N f.nargs f.varargs) [BInstr.removeScope] ⟨1, [], 1⟩ retState := by
    have := efrag_scopeDown (fnEnv N f.nargs f.varargs) retState (wf_flat _ _)
    simpa [deeper, retState] using this
  have hall := efrag_seq (efrag_seq (efrag_seq_s p0 p1) hfrag) p3
  obtain ⟨mid, hfr⟩ := hall
  let F : Fn := { kind := .fn, nformals := f.params.length, varargs := f.varargs, nfixed := f.nargs, code := B T f.code }
  have hentry : F.entry = ⟨0, [], f.params.length⟩ := rfl
  refine ⟨(F.entry :: mid ++ [retState]).map some ++ [none], ?_⟩
  apply verify_of_frag_ret (fnEnv N f.nargs f.varargs) F
    ([BInstr.addFuncScope] ++ B T (List.map Instr.popStackPutEnv f.params).reverse ++ B T b ++ [BInstr.removeScope]) mid
  · show B T f.code = _
    rw [hcode]
    simp [fnCode, B, toB, List.append_assoc]
  · rw [hentry]; exact hfr
  · have hl : lids F.code = ilids b := by
      show lids (B T f.code) = _
      rw [lids_B, hcode, ilids_fnCode]
    refine ⟨⟨(loops_of_idsIn hl hids).1, (loops_of_idsIn hl hids).2, ?_, rfl, rfl⟩, fun i hi => by cases hi⟩
    rw [annAt_append_none _ 0 (by simp)]
    show some F.entry = _
    rw [hentry, hnf]

end ZygoVerif.Bal
