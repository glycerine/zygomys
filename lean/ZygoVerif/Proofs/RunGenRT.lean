/-
Compiling at run time (`EvalCallExpression`, `Force`) only adds verified
functions: the table invariant `WF` is kept by `runGen (compile … e)` for an expression of the
covered grammar, and the helper `code ++ [ret]` is a verified function object.
-/
import ZygoVerif.Proofs.RunStep
import ZygoVerif.Proofs.VMRest
namespace ZygoVerif.RunInv
open ZygoVerif.Core ZygoVerif.VM ZygoVerif.Bal ZygoVerif.Refine ZygoVerif.Contain

theorem gsok_of_wf {s : St} (h : WF s) : GSok s.gs := by
  intro id hid
  have : s.gs.loopstack = [] := h.loopstack
  rw [this] at hid
  cases hid

/-- the operand helper: `Generate(e)` followed by `ret`, for every expression of the covered grammar -/
theorem operand_verified (isFn : Nat → Bool) (e : Expr) (gs gs' : GS) (code : List Instr) (t : Bool)
    (hok : okL e = true) (hgs : GSok gs) (h : compile isFn {} e gs = Except.ok ((code, t), gs')) :
    (∃ ann, verify { kind := .fn, nformals := 0, varargs := false, nfixed := 0, code := B gs'.loops (code ++ [Instr.ret]) } ann = true) ∧
      FnsOK gs gs' gs'.loops := by
  obtain ⟨_, ids, R⟩ := balL_compile isFn e {} gs code t gs' hok hgs h
  obtain ⟨hf, hfr⟩ := R.sem gs'.loops (TOk.self gs gs')
  refine ⟨?_, hf⟩
  have hinv : GInv 0 {} gs (topEnv gs.loops.length) gs'.loops restState := by
    refine ⟨by decide, rfl, fun F A h => h.1, fun m hm => by simp [restState, openMarks] at hm, ?_, fun ht => by cases ht⟩
    intro id hid
    right
    intro F A h
    exact h.2 id (hgs id hid)
  obtain ⟨mid, hfrag⟩ := hfr 0 (topEnv gs.loops.length) restState hinv
  let F : Fn := { kind := .fn, nformals := 0, varargs := false, nfixed := 0, code := B gs'.loops (code ++ [Instr.ret]) }
  have hentry : F.entry = restState := rfl
  have hb : bump restState 1 = retState := rfl
  refine ⟨(F.entry :: mid ++ [retState]).map some ++ [none], ?_⟩
  apply verify_of_frag_ret (topEnv gs.loops.length) F (B gs'.loops code) mid
  · show B gs'.loops (code ++ [Instr.ret]) = _
    simp [B, toB]
  · rw [hentry, ← hb]; exact hfrag
  · have hl : lids F.code = ilids code := by
      show lids (B gs'.loops (code ++ [Instr.ret])) = _
      rw [lids_B, ilids_append]
      have : ilids [Instr.ret] = [] := rfl
      rw [this, List.append_nil]
    refine ⟨⟨?_, ?_⟩, fun i hi => by cases hi⟩
    · apply loopsUnique_of_nodup
      rw [hl]; exact nodup_of_idsIn ids
    · intro l hlN
      apply loopPos_none
      rw [hl]
      intro hm
      have := (mem_range_of_idsIn ids l hm).1
      omega

theorem wf_runGen {s s1 : St} (isFn : Nat → Bool) (e : Expr) (code : List Instr) (t : Bool) (hw : WF s) (hok : okL e = true)
    (h : (runGen (compile isFn {} e)).run s = (.ok (code, t), s1)) :
    WF s1 ∧ TExt s s1 ∧ s1.data = s.data ∧ s1.linear = s.linear ∧ s1.addr = s.addr ∧ s1.curfunc = s.curfunc ∧ s1.pc = s.pc ∧
      s1.suspended = s.suspended ∧ s1.scopes = s.scopes ∧ s1.heap = s.heap ∧ s1.lazies = s.lazies ∧
      AllOK (szS s1) code ∧
      ∃ ann, verify { kind := .fn, nformals := 0, varargs := false, nfixed := 0, code := B s1.loops (code ++ [Instr.ret]) } ann = true := by
  rw [run_runGen] at h
  split at h
  · rename_i a gs' hc
    cases h
    have hc' : compile isFn {} e s.gs = Except.ok ((code, t), gs') := hc
    have hgs := gsok_of_wf hw
    obtain ⟨_, _, R⟩ := balL_compile isFn e {} s.gs code t gs' hok hgs hc'
    obtain ⟨hver, hfns⟩ := operand_verified isFn e s.gs gs' code t hok hgs hc'
    have hcok := cok_compile isFn e {} s.gs code t gs' hok hgs hw.two hc'
    have hext : TExt s (withGen s gs') := ⟨R.ext.fns, R.ext.loops⟩
    have hls : (withGen s gs').loopstack = [] := by
      show gs'.loopstack = []
      rw [R.ext.stack]; exact hw.loopstack
    refine ⟨?_, hext, rfl, rfl, rfl, rfl, rfl, rfl, rfl, rfl, rfl, hcok.code, hver⟩
    refine hw.grow hext ?_ (by rw [hls]; exact hw.loopstack.symm) rfl rfl (fun lz h => Or.inl h) (fun c h => Or.inl h)
    intro id h1 h2
    have hget : gs'.fns[id]? = some (fnOf (withGen s gs') id) := by
      show gs'.fns[id]? = some (gs'.fns.getD id {})
      have h2' : id < gs'.fns.length := h2
      rw [List.getD_eq_getElem?_getD, List.getElem?_eq_getElem h2']
      rfl
    obtain ⟨hcode, huser, hsig⟩ := hcok.fns id _ h1 hget
    exact ⟨huser, hsig, hcode, hfns id _ h1 hget⟩
  · cases h

theorem wf_mkThunk {s : St} (name : String) (code : List Instr) (cl : List (Option Nat)) (par : Option Nat) (hw : WF s)
    (hc : AllOK (szS s) code)
    (hv : ∃ ann, verify { kind := .fn, nformals := 0, varargs := false, nfixed := 0, code := B s.loops (code ++ [Instr.ret]) } ann = true) :
    WF { s with fns := s.fns ++ [({ name, code := code ++ [.ret], closing := cl, parent := par } : FnObj)] } := by
  have hfo : fnOf { s with fns := s.fns ++ [({ name, code := code ++ [.ret], closing := cl, parent := par } : FnObj)] } s.fns.length
      = ({ name, code := code ++ [.ret], closing := cl, parent := par } : FnObj) := by
    show (s.fns ++ [_]).getD s.fns.length {} = _
    rw [List.getD_eq_getElem?_getD, List.getElem?_append_right (Nat.le_refl _), Nat.sub_self]
    rfl
  have hg : FnGood { s with fns := s.fns ++ [({ name, code := code ++ [.ret], closing := cl, parent := par } : FnObj)] } s.fns.length := by
    refine ⟨by rw [hfo], by rw [hfo]; rfl, ?_, ?_⟩
    · rw [hfo]
      refine AllOK.append (hc.mono ⟨Nat.le_refl _, by simp [szS]⟩) (fun i hi => ?_)
      simp at hi; subst hi; rfl
    · obtain ⟨ann, hann⟩ := hv
      refine ⟨ann, ?_⟩
      simp only [fnB, hfo]
      exact hann
  refine hw.grow ⟨⟨_, rfl⟩, ⟨[], by simp⟩⟩ ?_ rfl rfl rfl (fun lz h => Or.inl h) (fun c h => Or.inl h)
  intro id h1 h2
  simp only [List.length_append, List.length_cons, List.length_nil] at h2
  have : id = s.fns.length := by omega
  subst this
  exact hg

end ZygoVerif.RunInv
