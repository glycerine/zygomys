/-
C02, execution half — the glue instructions the generator puts between the code of
sub-expressions (`pop`, `brn`/`jump` of `cond`, `dup; br; pop` of `and`/`or`, `dup` before a
`def`/`set`), executed from an arbitrary state that has just run the preceding sub-expression
(`Lands`). Unlike `Pushes`, nothing is assumed about the rest of the state, so the
sub-expressions may have effects (on scopes). The `pushes_*` combinators at the end are these lemmas read at code that
changes nothing else: the jump arithmetic of `asmBegin`, `asmCond` and `asmSC` is done once, in the `glue_*` lemmas.
-/
import ZygoVerif.Proofs.SimEnv
namespace ZygoVerif.Sim
open ZygoVerif.Core ZygoVerif.VM

/-- `s'` is `s` moved `k` instructions forward in the same function, same data stack. -/
structure Moved (k : Nat) (s s' : St) : Prop where
  fn : fnOf s' s'.curfunc = fnOf s s.curfunc
  pc : s'.pc = s.pc + (k : Int)
  data : s'.data = s.data

theorem Moved.refl (s : St) : Moved 0 s s := ⟨rfl, by simp, rfl⟩

theorem Moved.lands {k m : Nat} {s s₁ s₂ : St} {w : Val} (h₁ : Moved k s s₁) (h₂ : Lands m w s₁ s₂) :
    Lands (k + m) w s s₂ :=
  ⟨h₂.fn.trans h₁.fn, by rw [h₂.pc, h₁.pc]; push_cast; omega, by rw [h₂.data, h₁.data]⟩

theorem Lands.jmp {n : Nat} {v : Val} {s s₁ : St} (h : Lands n v s s₁) (k : Nat) (p : Int)
    (hp : p = s₁.pc + ((k : Nat) : Int) - n) :
    Lands k v s (s₁.jmp p s₁.data) :=
  ⟨h.fn, by rw [St.jmp_pc, hp, h.pc]; omega, h.data⟩

theorem Seg.moved {s s' : St} {pre c post c₁ c₂ post' : List Instr} {k : Nat} (h : Seg s pre c post) (m : Moved k s s')
    (hc : c ++ post = c₁ ++ c₂ ++ post') (hk : c₁.length = k) : Seg s' (pre ++ c₁) c₂ post' :=
  h.move m.fn (by rw [List.append_assoc, hc]; simp) (by rw [m.pc, h.pc]; simp [hk])

theorem Seg.landed {s s' : St} {pre c post c₁ post' : List Instr} {i : Instr} {n : Nat} {v : Val}
    (h : Seg s pre c post) (l : Lands n v s s') (hc : c ++ post = c₁ ++ i :: post') (hk : c₁.length = n) :
    At s' (pre ++ c₁) i post' :=
  At.move h l.fn (by rw [List.append_assoc, hc]; simp) (by rw [l.pc, h.pc]; simp [hk])

/-- total size of the current function, seen from a `Lands`/`Moved` state -/
theorem Seg.total' {s s' : St} {pre c post} (h : Seg s pre c post) (hf : fnOf s' s'.curfunc = fnOf s s.curfunc) :
    curSize s' = ((pre.length + c.length + post.length : Nat) : Int) := by
  have := h.total
  unfold VM.curSize at this ⊢
  rw [hf]; exact this

theorem glue_pop {s s₁ : St} {pre post a b : List Instr} {v : Val}
    (h : Seg s pre (a ++ [.pop] ++ b) post) (l : Lands a.length v s s₁) :
    Reach 1 1 s₁ (s₁.jmp (s₁.pc + 1) s.data) ∧ Moved (a.length + 1) s (s₁.jmp (s₁.pc + 1) s.data) :=
  ⟨reach_pop (h.landed l (c₁ := a) (i := Instr.pop) (post' := b ++ post) (by simp) rfl) l.data,
   ⟨l.fn, by rw [St.jmp_pc, l.pc]; push_cast; omega, rfl⟩⟩

theorem glue_brn_fall {s s₁ : St} {pre post p b rest : List Instr} {v : Val}
    (h : Seg s pre (p ++ [.branch false (b.length + 2)] ++ b ++ [.jump (rest.length + 1)] ++ rest) post)
    (l : Lands p.length v s s₁) (hv : truthy v = true) :
    Reach 1 1 s₁ (s₁.jmp (s₁.pc + 1) s.data) ∧ Moved (p.length + 1) s (s₁.jmp (s₁.pc + 1) s.data) :=
  ⟨reach_branch_fall (h.landed l (c₁ := p) (i := Instr.branch false (b.length + 2))
      (post' := b ++ [Instr.jump (rest.length + 1)] ++ rest ++ post) (by simp) rfl) l.data (by rw [hv]; decide),
   ⟨l.fn, by rw [St.jmp_pc, l.pc]; push_cast; omega, rfl⟩⟩

theorem glue_brn_taken {s s₁ : St} {pre post p b rest : List Instr} {v : Val}
    (h : Seg s pre (p ++ [.branch false (b.length + 2)] ++ b ++ [.jump (rest.length + 1)] ++ rest) post)
    (l : Lands p.length v s s₁) (hv : truthy v = false) :
    Reach 1 1 s₁ (s₁.jmp (s₁.pc + ((b.length : Int) + 2)) s.data)
    ∧ Moved (p.length + 1 + b.length + 1) s (s₁.jmp (s₁.pc + ((b.length : Int) + 2)) s.data) := by
  have a := h.landed l (c₁ := p) (i := Instr.branch false (b.length + 2))
    (post' := b ++ [Instr.jump (rest.length + 1)] ++ rest ++ post) (by simp) rfl
  refine ⟨reach_branch_taken a l.data (by rw [hv]) ?_ ?_, ⟨l.fn, ?_, rfl⟩⟩
  · rw [l.pc, h.pc]; omega
  · rw [l.pc, h.pc]; simp only [List.length_append, List.length_cons, List.length_nil]; omega
  · rw [St.jmp_pc, l.pc]; push_cast; omega

/-- the `jump` behind the body of the chosen arm lands behind the whole `cond` -/
theorem glue_cond_exit {s s₂ : St} {pre post p b rest : List Instr} {w : Val}
    (h : Seg s pre (p ++ [.branch false (b.length + 2)] ++ b ++ [.jump (rest.length + 1)] ++ rest) post)
    (l : Lands (p.length + 1 + b.length) w s s₂) :
    Reach 1 1 s₂ (s₂.jmp (s₂.pc + ((rest.length : Int) + 1)) s₂.data)
    ∧ Lands (p ++ [Instr.branch false (b.length + 2)] ++ b ++ [Instr.jump (rest.length + 1)] ++ rest).length w s
        (s₂.jmp (s₂.pc + ((rest.length : Int) + 1)) s₂.data) := by
  have a := h.landed l (c₁ := p ++ [Instr.branch false (b.length + 2)] ++ b) (i := Instr.jump (rest.length + 1))
    (post' := rest ++ post) (by simp) (by simp; omega)
  refine ⟨reach_jump a ?_ ?_, ⟨l.fn, ?_, l.data⟩⟩
  · rw [l.pc, h.pc]; omega
  · rw [l.pc, h.pc]; simp only [List.length_append, List.length_cons, List.length_nil]; omega
  · rw [St.jmp_pc, l.pc]; simp only [List.length_append, List.length_cons, List.length_nil]; push_cast; omega

theorem glue_dup {s s₁ : St} {pre post c : List Instr} {i : Instr} {v : Val}
    (h : Seg s pre (c ++ [.dup, i]) post) (l : Lands c.length v s s₁) :
    Reach 1 1 s₁ (s₁.jmp (s₁.pc + 1) (some v :: some v :: s.data))
    ∧ At (s₁.jmp (s₁.pc + 1) (some v :: some v :: s.data)) (pre ++ c ++ [.dup]) i post := by
  have a1 := h.landed l (c₁ := c) (i := Instr.dup) (post' := [i] ++ post) (by simp) rfl
  refine ⟨(reach_dup a1 l.data).cast (by rw [l.data]), ?_⟩
  exact At.move h l.fn (by simp) (by rw [St.jmp_pc, l.pc, h.pc]; simp; omega)

theorem glue_sc_stop {s s₁ : St} {pre post c rest : List Instr} {isOr : Bool} {v : Val}
    (h : Seg s pre (c ++ [.dup, .branch isOr (rest.length + 2), .pop] ++ rest) post)
    (l : Lands c.length v s s₁) (hv : truthy v = isOr) :
    Reach 2 1 s₁ (s₁.jmp (s₁.pc + 1 + ((rest.length : Int) + 2)) (some v :: s.data))
    ∧ Lands (c ++ [Instr.dup, Instr.branch isOr (rest.length + 2), Instr.pop] ++ rest).length v s
        (s₁.jmp (s₁.pc + 1 + ((rest.length : Int) + 2)) (some v :: s.data)) := by
  obtain ⟨r1, a2⟩ := glue_dup (i := .branch isOr (rest.length + 2))
    (h.refocus (post' := [.pop] ++ rest ++ post) (by simp)) l
  have r2 := reach_branch_taken a2 (v := v) (rest := some v :: s.data) rfl hv.symm
    (by rw [St.jmp_pc, l.pc, h.pc]; omega)
    (by rw [St.jmp_pc, l.pc, h.pc]; simp only [List.length_append, List.length_cons, List.length_nil]; omega)
  refine ⟨((r1.trans r2).mono (by omega) (by simp)).cast ?_, ⟨l.fn, ?_, rfl⟩⟩
  · rw [St.jmp_jmp, St.jmp_pc]
  · rw [St.jmp_pc, l.pc]; simp only [List.length_append, List.length_cons, List.length_nil]; push_cast; omega

theorem glue_sc_go {s s₁ : St} {pre post c rest : List Instr} {isOr : Bool} {v : Val}
    (h : Seg s pre (c ++ [.dup, .branch isOr (rest.length + 2), .pop] ++ rest) post)
    (l : Lands c.length v s s₁) (hv : truthy v ≠ isOr) :
    Reach 3 1 s₁ (s₁.jmp (s₁.pc + 3) s.data) ∧ Moved (c.length + 3) s (s₁.jmp (s₁.pc + 3) s.data) := by
  obtain ⟨r1, a2⟩ := glue_dup (i := .branch isOr (rest.length + 2))
    (h.refocus (post' := [.pop] ++ rest ++ post) (by simp)) l
  have r2 := reach_branch_fall a2 (v := v) (rest := some v :: s.data) rfl (fun e => hv e.symm)
  have a3 : At ((s₁.jmp (s₁.pc + 1) (some v :: some v :: s.data)).jmp ((s₁.jmp (s₁.pc + 1) (some v :: some v :: s.data)).pc + 1) (some v :: s.data))
      (pre ++ c ++ [.dup, .branch isOr (rest.length + 2)]) .pop (rest ++ post) :=
    At.move h l.fn (by simp) (by simp only [St.jmp_pc, l.pc, h.pc]; simp; omega)
  have r3 := reach_pop a3 (v := v) (rest := s.data) rfl
  refine ⟨(((r1.trans r2).trans r3).mono (by omega) (by simp)).cast ?_, ⟨l.fn, ?_, rfl⟩⟩
  · simp only [St.jmp_jmp, St.jmp_pc]
    exact St.jmp_congr _ (by omega) rfl
  · rw [St.jmp_pc, l.pc]; push_cast; omega

theorem glue_addScope {s : St} {pre post inner : List Instr}
    (h : Seg s pre ([.addScope] ++ inner ++ [.removeScope]) post) :
    Reach 1 1 s s.pushScope ∧ Moved 1 s s.pushScope :=
  ⟨Reach.step (i := .addScope) (post := inner ++ [.removeScope] ++ post) ⟨h.user, by rw [h.code]; simp, h.pc⟩
      (fun f => exec_addScope f s),
   ⟨rfl, rfl, rfl⟩⟩

theorem reach_removeScope {s : St} {P Q : List Instr} {a : Option Nat} {rest : List (Option Nat)} (h : At s P .removeScope Q)
    (hlin : s.linear = a :: rest) : Reach 1 1 s s.popScope :=
  Reach.step h (fun f => by
    rw [exec_removeScope, hlin]
    show _ = (Except.ok (), { s with pc := s.pc + 1, linear := s.linear.tail })
    rw [hlin]; rfl)

theorem glue_removeScope {s s₃ : St} {pre post inner : List Instr} {v : Val} {a : Option Nat} {rest : List (Option Nat)}
    (h : Seg s pre ([.addScope] ++ inner ++ [.removeScope]) post) (l : Lands (1 + inner.length) v s s₃)
    (hlin : s₃.linear = a :: rest) :
    Reach 1 1 s₃ s₃.popScope ∧ Lands ([Instr.addScope] ++ inner ++ [Instr.removeScope]).length v s s₃.popScope := by
  have a3 : At s₃ (pre ++ [.addScope] ++ inner) .removeScope post :=
    At.move h l.fn (by simp) (by rw [l.pc, h.pc]; simp; omega)
  refine ⟨reach_removeScope a3 hlin, ⟨l.fn, ?_, l.data⟩⟩
  show s₃.pc + 1 = _
  rw [l.pc]; simp only [List.length_append, List.length_cons, List.length_nil]; push_cast; omega

/-- `Pushes` read as the glue lemmas want it: the code `c` of the first sub-expression of a form runs to its end
and `Lands` … -/
theorem Pushes.head {c code : List Instr} {v : Val} (hc : Pushes c v) {s : St} {pre post post' : List Instr}
    (h : Seg s pre code post) (e : code ++ post = c ++ post') :
    Reach c.length 1 s (s.jmp (s.pc + c.length) (some v :: s.data))
      ∧ Lands c.length v s (s.jmp (s.pc + c.length) (some v :: s.data)) :=
  ⟨hc _ _ _ (h.refocus e), rfl, rfl, rfl⟩

/-- … and so does that of a later one, reached `k` instructions into the form with the data stack as it was. -/
theorem Pushes.lands {c : List Instr} {v : Val} (hc : Pushes c v) {s s' : St} {pre post : List Instr} {k : Nat}
    (h : Seg s' pre c post) (m : Moved k s s') :
    Reach c.length 1 s' (s'.jmp (s'.pc + c.length) (some v :: s.data))
      ∧ Lands (k + c.length) v s (s'.jmp (s'.pc + c.length) (some v :: s.data)) :=
  ⟨(hc _ _ _ h).cast (by rw [m.data]), m.lands ⟨rfl, rfl, by rw [St.jmp_data, m.data]⟩⟩

/-- `GenerateBegin`: `a; pop; b` yields the value of `b`. -/
theorem pushes_seq_pop {a b : List Instr} {v w : Val} (ha : Pushes a v) (hb : Pushes b w) :
    Pushes (a ++ [.pop] ++ b) w := by
  intro s pre post h
  obtain ⟨r1, l1⟩ := ha.head h (by simp only [List.append_assoc]; rfl)
  obtain ⟨r2, m2⟩ := glue_pop h l1
  obtain ⟨r3, -⟩ := hb.lands (h.moved m2 (c₁ := a ++ [.pop]) (c₂ := b) (post' := post) (by rfl)
    (by simp only [List.length_append, List.length_cons, List.length_nil])) m2
  refine (((r1.trans r2).trans r3).mono (by simp only [List.length_append, List.length_cons, List.length_nil]; omega) (by simp)).cast ?_
  simp only [St.jmp_jmp, St.jmp_pc]
  exact St.jmp_congr _ (by simp only [List.length_append, List.length_cons, List.length_nil]; push_cast; omega) rfl

/-- `GenerateCond`, test truthy: the `brn` falls through, the body runs, the `jump` lands
exactly behind the whole form. -/
theorem pushes_cond_true {p b rest : List Instr} {v w : Val} (hp : Pushes p v) (hv : truthy v = true)
    (hb : Pushes b w) :
    Pushes (p ++ [.branch false (b.length + 2)] ++ b ++ [.jump (rest.length + 1)] ++ rest) w := by
  intro s pre post h
  obtain ⟨r1, l1⟩ := hp.head h (by simp only [List.append_assoc]; rfl)
  obtain ⟨r2, m2⟩ := glue_brn_fall h l1 hv
  obtain ⟨r3, l3⟩ := hb.lands (h.moved m2 (c₁ := p ++ [.branch false (b.length + 2)]) (c₂ := b)
    (post' := [.jump (rest.length + 1)] ++ rest ++ post) (by simp only [List.append_assoc])
    (by simp only [List.length_append, List.length_cons, List.length_nil])) m2
  obtain ⟨r4, -⟩ := glue_cond_exit h l3
  refine ((((r1.trans r2).trans r3).trans r4).mono (by simp only [List.length_append, List.length_cons, List.length_nil]; omega) (by simp)).cast ?_
  simp only [St.jmp_jmp, St.jmp_pc, St.jmp_data]
  exact St.jmp_congr _ (by simp only [List.length_append, List.length_cons, List.length_nil]; push_cast; omega) rfl

/-- `GenerateCond`, test falsy: the `brn` lands exactly on the first instruction of the
remaining arms. -/
theorem pushes_cond_false {p b rest : List Instr} {v w : Val} (hp : Pushes p v) (hv : truthy v = false)
    (hr : Pushes rest w) :
    Pushes (p ++ [.branch false (b.length + 2)] ++ b ++ [.jump (rest.length + 1)] ++ rest) w := by
  intro s pre post h
  obtain ⟨r1, l1⟩ := hp.head h (by simp only [List.append_assoc]; rfl)
  obtain ⟨r2, m2⟩ := glue_brn_taken h l1 hv
  obtain ⟨r3, -⟩ := hr.lands (h.moved m2 (c₁ := p ++ [.branch false (b.length + 2)] ++ b ++ [.jump (rest.length + 1)])
    (c₂ := rest) (post' := post) (by rfl) (by simp only [List.length_append, List.length_cons, List.length_nil])) m2
  refine (((r1.trans r2).trans r3).mono (by simp only [List.length_append, List.length_cons, List.length_nil]; omega) (by simp)).cast ?_
  simp only [St.jmp_jmp, St.jmp_pc]
  exact St.jmp_congr _ (by simp only [List.length_append, List.length_cons, List.length_nil]; push_cast; omega) rfl

/-- `GenerateShortCircuit`, the arm decides (`and`: falsy, `or`: truthy): the `br` after the
`dup` lands exactly behind the whole form, the duplicated value is the result. -/
theorem pushes_sc_stop {isOr : Bool} {c rest : List Instr} {v : Val} (hc : Pushes c v)
    (hv : truthy v = isOr) :
    Pushes (c ++ [.dup, .branch isOr (rest.length + 2), .pop] ++ rest) v := by
  intro s pre post h
  obtain ⟨r1, l1⟩ := hc.head h (by simp only [List.append_assoc]; rfl)
  obtain ⟨r2, -⟩ := glue_sc_stop h l1 hv
  refine ((r1.trans r2).mono (by simp only [List.length_append, List.length_cons, List.length_nil]; omega) (by simp)).cast ?_
  simp only [St.jmp_jmp, St.jmp_pc]
  exact St.jmp_congr _ (by simp only [List.length_append, List.length_cons, List.length_nil]; push_cast; omega) rfl

/-- `GenerateShortCircuit`, the arm does not decide: fall through the `br`, `pop` the copy,
go on with the remaining arms. -/
theorem pushes_sc_go {isOr : Bool} {c rest : List Instr} {v w : Val} (hc : Pushes c v)
    (hv : truthy v ≠ isOr) (hr : Pushes rest w) :
    Pushes (c ++ [.dup, .branch isOr (rest.length + 2), .pop] ++ rest) w := by
  intro s pre post h
  obtain ⟨r1, l1⟩ := hc.head h (by simp only [List.append_assoc]; rfl)
  obtain ⟨r2, m2⟩ := glue_sc_go h l1 hv
  obtain ⟨r3, -⟩ := hr.lands (h.moved m2 (c₁ := c ++ [.dup, .branch isOr (rest.length + 2), .pop]) (c₂ := rest)
    (post' := post) (by rfl) (by simp only [List.length_append, List.length_cons, List.length_nil])) m2
  refine (((r1.trans r2).trans r3).mono (by simp only [List.length_append, List.length_cons, List.length_nil]; omega) (by simp)).cast ?_
  simp only [St.jmp_jmp, St.jmp_pc]
  exact St.jmp_congr _ (by simp only [List.length_append, List.length_cons, List.length_nil]; push_cast; omega) rfl

end ZygoVerif.Sim
