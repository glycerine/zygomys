/-
From "the spelling is one atom that `DecodeAtom` classifies as token `t`" to "the reader (lexer +
parser model, `readAll`) answers what the parser's conversion of `t` answers": the glue between
the cascade lemmas (Proofs/DecodeAtom, LexNumbers), the conversion lemmas (Proofs/LiteralValue)
and the reader as a whole (lazy = eager lexing, the top-level loop).
-/
import ZygoVerif.Proofs.ReadPrintMain
import ZygoVerif.Proofs.LiteralValue
import ZygoVerif.Model.EvalData
namespace ZygoVerif.ReadPrint
open ZygoVerif ZygoVerif.Lexer ZygoVerif.Parser ZygoVerif.PrintData ZygoVerif.EvalData

/-- **one token, whole reader**: a text that the lexer (from the fresh state, followed by the end of
input) turns into the single token `t` is read as what `ParseExpression`'s switch makes of `t`. -/
theorem read_one_token (text : List Char) (t : Token)
    (hlex : Lex ⟨.normal, [], [], '\x00'⟩ (text ++ ['\n']) ⟨.normal, [], [t], '\n'⟩) :
    (∀ e, (∀ f, parseExprTok (f + 1) t = Prog.pure e) → readAll text = some [e]) ∧
    ((∀ f, parseExprTok (f + 1) t = Prog.fail) → readAll text = none) := by
  obtain ⟨h1, h2⟩ := read_of_tokens text t [] hlex LexState.init [text] (by simp)
  constructor
  · intro e he
    obtain ⟨a, b⟩ := h1 e (by rw [he]; exact Consumes.pure e)
    have a' : (parseChunks [text]).status = .done := a
    have b' : (parseChunks [text]).exprs = [e] := b
    simp [readAll, a', b']
  · intro he
    have a' : (parseChunks [text]).status = .err := h2 (he _)
    simp [readAll, a']

/-- the literal tokens go through `atomOfTok` -/
def isLitTyp (t : TokType) : Bool :=
  t == .decimal || t == .hex || t == .oct || t == .binary || t == .uint64 || t == .float

theorem parseExprTok_lit (typ : TokType) (str : List Char) (h : isLitTyp typ = true) (f : Nat) :
    parseExprTok (f + 1) ⟨typ, str⟩ = match atomOfTok ⟨typ, str⟩ with
      | some (some e) => Prog.pure e
      | some none => Prog.fail
      | none => Prog.fail := by
  -- the literal types fall through the `switch` to `atomOfTok`; the named cases are not literal types
  rw [parseExprTok]
  split <;> first | (rename_i heq; cases heq; cases h) | rfl

/-- **one atom, whole reader**: a spelling that reaches the buffer as one pending atom (`WordText`) and that
`DecodeAtom` classifies as the literal token `tok` is read as the conversion `o` of `tok`: the number
when the conversion succeeds, a refusal when it fails. -/
theorem read_atom (text : List Char) (tok : Token) (hw : WordText text) (hdec : decodeAtom text = .ok tok)
    (htyp : isLitTyp tok.typ = true) (o : Option Sexp) (ha : atomOfTok tok = some o) :
    readAll text = o.map fun e => [e] := by
  have h1 := (Reads.trans (reads_word hw '\x00' fun _ => by decide)
    (reads_closer text _ '\n' (by decide) hw.flushable)).lex []
  have h2 : Lex ⟨.normal, [], [], '\x00'⟩ (text ++ ['\n']) ⟨.normal, [], [tok], '\n'⟩ := by
    have hc : closerToks '\n' = [] := by decide
    simpa [hw.flush hdec, hc] using h1
  obtain ⟨r1, r2⟩ := read_one_token text tok h2
  obtain ⟨typ, str⟩ := tok
  cases o with
  | some e => exact r1 e fun f => by rw [parseExprTok_lit typ str htyp f, ha]
  | none => exact r2 fun f => by rw [parseExprTok_lit typ str htyp f, ha]

/-- a spelling made of runes the normal mode just collects -/
theorem read_plain_atom (text : List Char) (tok : Token) (hne : text ≠ []) (hdec : decodeAtom text = .ok tok)
    (hpl : ∀ c ∈ text, isSpecial c = false) (htyp : isLitTyp tok.typ = true) (o : Option Sexp)
    (ha : atomOfTok tok = some o) : readAll text = o.map fun e => [e] :=
  read_atom text tok (.plain text hne hpl ⟨tok, hdec⟩) hdec htyp o ha

end ZygoVerif.ReadPrint
