/-
The bodies of the functions of the VM's mutual block, as functions of the
result of the computation they wrap: `nested` and `applyFn` around their `CallFunction; Run` (`handOn`),
`evalCallExpr` and `forceLazy` around the nested evaluation of freshly compiled code,
`prepareArgs` operand by operand, `callResolved` under its guard (`guardTail`), `callUser` around
the Go builtin (`userTail`), and the arms of `builtin` that run no code. What `VM.step` is for an
instruction these equations are for the other functions of the block: the calling contract
(Proofs/RunOut.lean), the call steps of the simulation (Proofs/Sim*.lean) and the decision points of
C16 (Proofs/LazyCalls.lean) read the bodies through them. The intermediate states carry the names the
statements of C16 and C02 use: `C16.lazyPos`, `allocThunk`, `forceEntry`, `forceFinish` and `Sim.inBuiltin` are
defined here.
-/
import ZygoVerif.Proofs.VMStep
import ZygoVerif.Proofs.VMShape
namespace ZygoVerif.C16
open ZygoVerif.Core ZygoVerif.VM

/-- The run-time decision of `PrepareCallExprArgs` for argument position `i` of callee `f`
(`none`: the callee is not a compiled function). -/
def lazyPos (f : Option FnObj) (i : Nat) : Bool :=
  match f with
  | some fo => !fo.user && fo.hasLazyFormals && fo.isLazyCallArg i
  | none => false

/-- All that happens to the machine state when an argument is delayed: one new thunk holding
the expression and the *current* scope stack and function, one operand naming it. -/
def allocThunk (e : Expr) (s : St) : St :=
  { s with lazies := s.lazies ++ [({ e, stack := s.linear, curfunc := s.curfunc, value := none } : LazyObj)],
           data := some (.lazy s.lazies.length) :: s.data }

/-- the state in which the argument expression starts to run when it is forced -/
def forceEntry (lz : LazyObj) (code : List Instr) (s1 : St) : St :=
  { s1 with fns := s1.fns ++ [({ name := "lazyArgForce", code := code ++ [.ret], closing := lz.stack,
                                  parent := some lz.curfunc } : FnObj)],
            suspended := s1.linear :: s1.suspended, linear := lz.stack, pc := -2 }

/-- what `capture` records in `s`: `Contain.captureOf s`, under the name the statements of C16 use -/
def ctlOf (s : St) : CtlState :=
  { curfunc := s.curfunc, pc := s.pc, susp := s.suspended.length, addrSize := s.addr.length,
    linearSize := s.linear.length, dataSize := s.data.length }

/-- storing the value of a forced lazy argument -/
def forceFinish (id : Nat) (lz : LazyObj) (v : Val) : M Val := do
  modify (fun s => { s with lazies := s.lazies.set id ({ lz with value := some v } : LazyObj) })
  pure v

end ZygoVerif.C16

namespace ZygoVerif.VM
open ZygoVerif.Core ZygoVerif.Sim ZygoVerif.Contain ZygoVerif.C16

/-- the loop does not fetch in `s`: the pc is parked at `-1` or behind the code, or there is no instruction at it
(the disjunction `Sim.runLoop_stop` asks for) -/
def Stopped (s : St) : Prop :=
  (s.pc = -1 ∨ s.pc ≥ curSize s) ∨ (fnOf s s.curfunc).code[s.pc.toNat]? = none

/-- how an evaluator hands on the result of its nested `CallFunction; Run`: an error restores the
control state `st` (a normal return too when `back`), a panic or timeout passes through -/
def handOn {α} (st : CtlState) (back : Bool) : Except Fault α × St → Except Fault α × St
  | (.ok v, s2) => (.ok v, if back then restoreSt st s2 else s2)
  | (.error .err, s2) => (.error .err, restoreSt st s2)
  | (.error flt, s2) => (.error flt, s2)

theorem run_nested (n f : Nat) (st : CtlState) (s : St) :
    (nested (n + 1) f st).run s = handOn st true ((do callFunction f 0; run n : M Val).run s) := by
  rw [nested, run_bind, run_get]
  dsimp only
  rw [run_bind, run_set]
  rcases (do callFunction f 0; run n : M Val).run s with ⟨r, s2⟩
  rcases r with (_ | _ | _) | v <;> simp only [handOn, run_bind, run_restore, run_pure, run_throw, if_true]

/-- a value handed to a lazy formal by `Apply`: a lazy argument that is forced already -/
def lazyValObj (v : Val) : LazyObj := { e := .nilLit, stack := [], curfunc := 0, value := some v, isValue := true }

def pushLazyVal (s : St) (v : Val) : St :=
  { s with lazies := s.lazies ++ [lazyValObj v], data := some (.lazy s.lazies.length) :: s.data }

def pushVal (s : St) (v : Val) : St := { s with data := some v :: s.data }

/-- the operands of `Apply` pushed, those for lazy formals (counted from position `i`) wrapped
(`C16.applyWrap`, Proofs/LazyCalls.lean, is one step of this as a fold: the form the statements of C16 use) -/
def applyWrap (fo : FnObj) : List Val → St → Nat → St
  | [], s, _ => s
  | v :: rest, s, i => applyWrap fo rest (if fo.isLazyCallArg i then pushLazyVal s v else pushVal s v) (i + 1)

theorem applyWrap_eq (fo : FnObj) : ∀ (args : List Val) (s : St) (i : Nat),
    (args.foldl (fun (p : St × Nat) v =>
      if fo.isLazyCallArg p.2 then
        ({ p.1 with lazies := p.1.lazies ++ [({ e := .nilLit, stack := [], curfunc := 0, value := some v, isValue := true } : LazyObj)],
                    data := some (.lazy p.1.lazies.length) :: p.1.data }, p.2 + 1)
      else ({ p.1 with data := some v :: p.1.data }, p.2 + 1)) (s, i)).1 = applyWrap fo args s i
  | [], _, _ => rfl
  | v :: rest, s, i => by
    rw [List.foldl_cons, applyWrap]
    split <;> exact applyWrap_eq fo rest _ _

theorem run_applyFn_fn (n id : Nat) (args : List Val) (s : St) :
    (applyFn (n + 1) (.fn id) args).run s =
      handOn (captureOf s) false
        ((do callFunction id args.length; run n : M Val).run (applyWrap (fnOf s id) args { s with pc := -2 } 0)) := by
  rw [applyFn, run_bind, run_capture]
  dsimp only
  rw [run_bind, run_modify]
  dsimp only
  rw [run_bind, run_get]
  dsimp only
  rw [run_bind, run_set]
  dsimp only
  rw [run_bind, run_get]
  dsimp only
  rw [run_bind, run_set, applyWrap_eq, show fnOf { s with pc := -2 } id = fnOf s id from rfl]
  rcases (do callFunction id args.length; run n : M Val).run (applyWrap (fnOf s id) args { s with pc := -2 } 0) with ⟨r, s2⟩
  rcases r with (_ | _ | _) | v <;> simp only [handOn, run_bind, run_restore, run_pure, run_throw, Bool.false_eq_true, if_false]

/-- the helper function object `evalCallExpr` and `forceLazy` make around compiled code -/
def thunkObj (name : String) (code : List Instr) (cl : List (Option Nat)) (par : Option Nat) : FnObj :=
  { name, code := code ++ [.ret], closing := cl, parent := par }

/-- the state in which `nested` is called on a helper `o` registered for freshly compiled code. `pc := -2` (as in
`applyFn`): `callFunction` saves `pc + 1 = -1` as return address, and `-1` is where `runLoop` stops, so the nested
`Run` ends when the helper returns. `C16.forceEntry lz code s1` is this state at `o := thunkObj "lazyArgForce" …`. -/
def thunkSt (s1 : St) (o : FnObj) (lin : List (Option Nat)) (susp : List (List (Option Nat))) : St :=
  { s1 with fns := s1.fns ++ [o], linear := lin, suspended := susp, pc := -2 }

/-- a state whose function table is that of `s` with `o` appended: `o` is the new entry, the old ones stay -/
theorem fnOf_append_self {t s : St} {o : FnObj} (h : t.fns = s.fns ++ [o]) : fnOf t s.fns.length = o := by
  show t.fns.getD s.fns.length {} = o
  rw [h]; simp

theorem fnOf_append_old {t s : St} {o : FnObj} (h : t.fns = s.fns ++ [o]) {id : Nat} (hid : id < s.fns.length) :
    fnOf t id = fnOf s id := by
  show t.fns.getD id {} = s.fns.getD id {}
  rw [h]; simp only [List.getD_eq_getElem?_getD, List.getElem?_append_left hid]

/-- `nested` on a freshly registered parameterless helper `o`: enter it (`s2`), `Run`, hand the result on -/
theorem run_nested_thunk (n : Nat) (s1 : St) (o : FnObj) (lin : List (Option Nat)) (susp : List (List (Option Nat)))
    (st : CtlState) (hv : o.varargs = false) (hn : o.nargs = 0) (s2 : St)
    (h2 : s2 = (thunkSt s1 o lin susp).enter s1.fns.length s1.data) :
    (nested (n + 1) s1.fns.length st).run (thunkSt s1 o lin susp) = handOn st true ((run n).run s2) := by
  have hf : fnOf (thunkSt s1 o lin susp) s1.fns.length = o := fnOf_append_self rfl
  rw [run_nested, run_bind, run_callFunction, callRes, if_neg (Nat.not_lt_zero _), if_neg (by simp), hf, hv,
    if_neg Bool.false_ne_true, hn, if_neg (fun h => h rfl), h2]
  rfl

theorem run_evalCallExpr_sym (n : Nat) (x : String) (s : St) :
    (evalCallExpr (n + 1) (.sym x)).run s =
      match lexLookup s x with
      | some (_, v) => (.ok v, s)
      | none => (.error .err, s) := by
  rw [evalCallExpr, run_bind, run_get]
  dsimp only
  rcases lexLookup s x with _ | ⟨_, v⟩ <;> rfl

/-- **`EvalCallExpression` of a callee that is not a name**: compiled on the spot and — unless the
code is empty — run as a nested evaluation in a helper function over the live stack. -/
theorem run_evalCallExpr (n : Nat) (e : Expr) (s : St) (he : ∀ x, e ≠ .sym x) :
    (evalCallExpr (n + 1) e).run s =
      match (runGen (compile (isFnScope s) {} e)).run s with
      | (.error er, s1) => (.error er, s1)
      | (.ok (code, _), s1) =>
        if code.isEmpty then (.ok .nil, s1)
        else (nested n s1.fns.length (captureOf s1)).run
          (thunkSt s1 (thunkObj "callExprEval" code (closingNow s1) (some s1.curfunc)) s1.linear s1.suspended) := by
  unfold evalCallExpr
  split
  · exact absurd rfl (he _)
  · rw [run_bind, run_get]
    dsimp only
    rw [run_bind]
    rcases (runGen (compile (isFnScope s) {} e)).run s with ⟨_ | ⟨code, t⟩, s1⟩
    · rfl
    · dsimp only
      split
      · rfl
      · rw [run_bind, run_capture]
        dsimp only
        rw [run_bind, run_get]
        dsimp only
        rw [run_bind, run_mkFunction]
        dsimp only
        rw [run_bind, run_modify]
        rfl

/-- **`Force`**: a lazy argument forced before hands out its value; else its expression is
compiled and — unless the code is empty — run as a nested evaluation over the stack it captured,
the live stack set aside; the value is stored. -/
theorem run_forceLazy (n id : Nat) (s : St) :
    (forceLazy (n + 1) id).run s =
      match s.lazies[id]? with
      | none => (.error .err, s)
      | some lz =>
        match lz.value with
        | some v => (.ok v, s)
        | none =>
          match (runGen (compile (isFnScope s) {} lz.e)).run s with
          | (.error er, s1) => (.error er, s1)
          | (.ok (code, _), s1) =>
            if code.isEmpty then (forceFinish id lz .nil).run s1
            else (nested n s1.fns.length (captureOf s1) >>= forceFinish id lz).run
              (thunkSt s1 (thunkObj "lazyArgForce" code lz.stack (some lz.curfunc)) lz.stack (s1.linear :: s1.suspended)) := by
  rw [forceLazy, run_bind, run_get]
  dsimp only
  rcases s.lazies[id]? with _ | lz
  · rfl
  dsimp only
  rcases lz.value with _ | v
  · dsimp only
    rw [run_bind]
    rcases (runGen (compile (isFnScope s) {} lz.e)).run s with ⟨_ | ⟨code, t⟩, s1⟩
    · rfl
    dsimp only
    split
    · rfl
    · rw [run_bind, run_mkFunction]
      dsimp only
      rw [run_bind, run_capture]
      dsimp only
      rw [run_bind, run_modify]
      rfl
  · rfl

theorem forceLazy_memo (fuel id : Nat) (s0 : St) (lz : LazyObj) (v : Val)
    (hl : s0.lazies[id]? = some lz) (hv : lz.value = some v) : (forceLazy (fuel + 1) id).run s0 = (.ok v, s0) := by
  rw [run_forceLazy, hl]
  dsimp only
  rw [hv]

theorem forceLazy_none (fuel id : Nat) (s0 : St) (hl : s0.lazies[id]? = none) :
    (forceLazy (fuel + 1) id).run s0 = (.error .err, s0) := by
  rw [run_forceLazy, hl]

/-- **One operand of `prepareArgs`**: pushed unevaluated for a lazy formal, else evaluated by a
nested run and pushed; then the rest. -/
theorem run_prepareArgs_cons (n : Nat) (f : Option FnObj) (i : Nat) (e : Expr) (es : List Expr) (s : St) :
    (prepareArgs (n + 1) f i (e :: es)).run s =
      if lazyPos f i then (prepareArgs n f (i + 1) es).run (allocThunk e s)
      else match (evalCallExpr n e).run s with
        | (.ok v, s0) => (prepareArgs n f (i + 1) es).run { s0 with data := some v :: s0.data }
        | (.error er, s0) => (.error er, s0) := by
  conv => lhs; unfold prepareArgs
  show (if lazyPos f i = true then _ else _ : M Unit).run s = _
  split
  · rfl
  · simp only [run_bind]
    rcases (evalCallExpr n e).run s with ⟨_ | v, s0⟩ <;> rfl

/-- the guard of `CallResolved`: an error of the call truncates the data stack to its size at entry -/
def guardTail (start : Nat) : Except Fault Unit × St → Except Fault Unit × St
  | (.ok u, s1) => (.ok u, s1)
  | (.error .err, s1) => (.error .err, { s1 with data := truncate s1.data start })
  | (.error flt, s1) => (.error flt, s1)

theorem run_guarded (start : Nat) (m : M Unit) (s : St) :
    (do
      let s ← get
      let r : Except Fault Unit × St := m.run s
      set r.2
      match r.1 with
      | .ok _ => pure ()
      | .error .err => do modify (fun s => { s with data := truncate s.data start }); throw .err
      | .error flt => throw flt : M Unit).run s = guardTail start (m.run s) := by
  simp only [run_bind, run_get, run_set]
  rcases m.run s with ⟨(_ | _ | _) | u, s1⟩ <;> rfl

/-- **`CallResolved`**: a compiled function, a Go builtin and a type constructor get their operands
and are called under the guard; any other value is its own result when there are no operands. -/
theorem run_callResolved (n : Nat) (f : Val) (args : List Expr) (s : St) :
    (callResolved (n + 1) f args).run s =
      match f with
      | .fn id => guardTail s.data.length
          ((do prepareArgs n (some (fnOf s id)) 0 args; callFunction id args.length : M Unit).run s)
      | .builtin name => guardTail s.data.length ((do prepareArgs n none 0 args; callUser n name args.length : M Unit).run s)
      | .arr _ => guardTail s.data.length ((do prepareArgs n none 0 args; err : M Unit).run s)
      | _ => if args.isEmpty then (.ok (), { s with data := some f :: s.data, pc := s.pc + 1 }) else (.error .err, s) := by
  rw [callResolved, run_bind, run_get]
  cases f with
  | fn id => exact run_guarded _ _ s
  | builtin name => exact run_guarded _ _ s
  | arr r => exact run_guarded _ _ s
  | _ => dsimp only; split <;> rfl

/-- the state in which the Go builtin runs: arguments popped, return address pushed -/
def _root_.ZygoVerif.Sim.inBuiltin (s : St) (D : List (Option Val)) : St :=
  { s with data := D, addr := some (s.curfunc, s.pc + 1) :: s.addr, curfunc := builtinFn, pc := -1 }

/-- what `CallUserFunction` makes of the builtin's result: the value is pushed and the caller
resumed; a timeout passes through; an error or a recovered panic restores the control state -/
def userTail (s : St) (k : Nat) : Except Fault Val × St → Except Fault Unit × St
  | (.ok v, s3) =>
    if s3.addr.length > s.addr.length then
      match s3.addr with
      | some (f, pc) :: rest => (.ok (), { s3 with data := some v :: s3.data, addr := rest, curfunc := f, pc := pc })
      | _ => (.error .panic, { s3 with data := some v :: s3.data })
    else (.ok (), { s3 with data := some v :: s3.data, curfunc := s.curfunc, pc := s.pc + 1 })
  | (.error .timeout, s3) => (.error .timeout, s3)
  | (.error _, s3) => (.error .err, restoreSt (captureOf { s with data := s.data.drop k }) s3)

theorem userTail_ok (s : St) (k : Nat) (v : Val) (s3 : St) (ha : s3.addr = some (s.curfunc, s.pc + 1) :: s.addr) :
    userTail s k (.ok v, s3) =
      (.ok (), { s3 with data := some v :: s3.data, addr := s.addr, curfunc := s.curfunc, pc := s.pc + 1 }) := by
  simp only [userTail, ha, List.length_cons, gt_iff_lt, Nat.lt_succ_self, if_true]

theorem mapM_id_none {α} : ∀ (l : List (Option α)), l.any Option.isNone = true → l.mapM id = none
  | [], h => by cases h
  | none :: _, _ => rfl
  | some a :: rest, h => by
    have := mapM_id_none rest (by simpa using h)
    simp [List.mapM_cons, this]

/-- **The body of `callUser`**: too few operands, a nil cell among them, or the builtin run on
the operands popped. -/
theorem callUser_cases {P : Except Fault Unit × St → Prop} (n : Nat) (name : String) (k : Nat) (s : St)
    (short : s.data.length < k → P (.error .err, s))
    (nil : (s.data.take k).mapM id = none → P (.error .panic, s))
    (call : ∀ vs, (s.data.take k).mapM id = some vs → P (userTail s k ((builtin n name vs.reverse).run (inBuiltin s (s.data.drop k))))) :
    P ((callUser (n + 1) name k).run s) := by
  rw [callUser, run_bind, run_get]
  dsimp only
  by_cases h0 : s.data.length < k
  · simp only [h0, if_true, run_bind, run_err]; exact short h0
  · by_cases h00 : (s.data.take k).any Option.isNone = true
    · simp only [h0, h00, if_true, if_false, run_bind, run_hostPanic]
      exact nil (mapM_id_none _ h00)
    · simp only [h0, h00, if_false, run_bind, Bool.false_eq_true]
      rw [run_popN]
      simp only [h0, if_false]
      cases hm : (s.data.take k).mapM id with
      | none => exact nil hm
      | some vs =>
        simp only [run_capture, run_modify, run_get, run_set]
        have := call vs hm
        rcases hb : (builtin n name vs.reverse).run (inBuiltin s (s.data.drop k)) with ⟨r, s3⟩
        rw [hb] at this
        have hb' : (builtin n name vs.reverse).run
            { s with data := s.data.drop k, addr := some (s.curfunc, s.pc + 1) :: s.addr, curfunc := builtinFn, pc := -1 } = (r, s3) := hb
        rw [hb']
        rcases r with (_ | _ | _) | v
        · simpa only [userTail, run_bind, run_restore, run_throw] using this
        · simpa only [userTail, run_bind, run_restore, run_throw] using this
        · simpa only [userTail, run_throw] using this
        · simp only [run_bind, run_pushData, run_get]
          simp only [userTail] at this
          split <;> rename_i hlen <;> simp only [captureOf] at hlen <;> simp only [hlen, if_true, if_false] at this
          · split <;> rename_i hsa <;> simp only [hsa] at this <;> simpa only [run_set, run_hostPanic] using this
          · simp only [run_set]; exact this

theorem take_vals (args : List Val) (D : List (Option Val)) :
    ((args.reverse.map some ++ D).take args.length).mapM id = some args.reverse ∧
      (args.reverse.map some ++ D).drop args.length = D := by
  have hlen : (args.reverse.map some).length = args.length := by simp
  rw [← hlen, List.take_left, List.drop_left, mapM_id_map_some]
  exact ⟨rfl, rfl⟩

/-- `callUser` on a stack of values: the builtin runs on them -/
theorem run_callUser_vals (f : Nat) (name : String) (args : List Val) (D : List (Option Val)) (s : St)
    (hd : s.data = args.reverse.map some ++ D) :
    (callUser (f + 1) name args.length).run s = userTail s args.length ((builtin f name args).run (inBuiltin s D)) := by
  obtain ⟨hm, hdrop⟩ := take_vals args D
  rw [← hd] at hm hdrop
  refine callUser_cases (P := fun r => r = userTail s args.length ((builtin f name args).run (inBuiltin s D))) f name args.length s
    (fun h => absurd h (by rw [hd]; simp)) (fun h => by rw [hm] at h; cases h) (fun vs hvs => ?_)
  rw [hm] at hvs
  cases hvs
  rw [List.reverse_reverse, hdrop]

theorem run_substituteLazy (id : Nat) (s : St) :
    (substituteLazy id).run s =
      match s.lazies[id]? with
      | none => (.error .err, s)
      | some lz =>
        if lz.isValue then (.ok (lz.value.getD .nil), s)
        else (.ok (quoteE lz.e s.heap).1, { s with heap := (quoteE lz.e s.heap).2 }) := by
  rw [substituteLazy, run_bind, run_get]
  dsimp only
  cases s.lazies[id]? with
  | none => rfl
  | some lz => dsimp only; split <;> rfl

theorem run_primCall (name : String) (args : List Val) (s : St) :
    (primCall name args).run s =
      match prim name args s.heap with
      | some (v, h) => (.ok v, { s with heap := h })
      | none => (.error .err, s) := by
  rw [primCall, run_bind, run_get]
  dsimp only
  rcases prim name args s.heap with _ | ⟨v, h⟩ <;> rfl

/-- **`Force`, for any preorder.** What `R` has to allow, seen from the state `s` the force starts in (where the
thunk `lz` is read): `enter` — once the thunk's code is compiled (state `s1`), registering the helper and
installing the thunk's stack over the live one set aside, then whatever the nested run does from there (the record
captured in `s1` may be assumed good); `fin` — storing the value in whatever state has been reached. -/
theorem force_moves {R : St → St → Prop} {C : CtlState → Prop} (pre : Pre R)
    (gen : ∀ isFn c e, Moves R (runGen (compile isFn c e)))
    (n : Nat) (ih : ∀ f st, C st → Moves R (nested n f st)) (id : Nat) (s : St)
    (enter : ∀ lz s1 code t, s.lazies[id]? = some lz → lz.value = none → R s s1 →
      (C (captureOf s1) → R (thunkSt s1 (thunkObj "lazyArgForce" code lz.stack (some lz.curfunc)) lz.stack
        (s1.linear :: s1.suspended)) t) → R s t)
    (fin : ∀ lz t v, s.lazies[id]? = some lz → lz.value = none → R s t → R s ((forceFinish id lz v).run t).2) :
    R s ((forceLazy (n + 1) id).run s).2 := by
  rw [run_forceLazy]
  cases hlz : s.lazies[id]? with
  | none => exact pre.refl s
  | some lz =>
    dsimp only
    cases hv : lz.value with
    | some v => exact pre.refl s
    | none =>
      dsimp only
      have h1 := gen (isFnScope s) {} lz.e s
      generalize (runGen (compile (isFnScope s) {} lz.e)).run s = p at h1 ⊢
      obtain ⟨_ | ⟨code, _⟩, s1⟩ := p
      · exact h1
      · dsimp only
        split
        · exact fin lz s1 .nil hlz hv h1
        · rw [run_bind]
          have h2 := fun hc => ih s1.fns.length (captureOf s1) hc
            (thunkSt s1 (thunkObj "lazyArgForce" code lz.stack (some lz.curfunc)) lz.stack (s1.linear :: s1.suspended))
          generalize (nested n s1.fns.length (captureOf s1)).run
            (thunkSt s1 (thunkObj "lazyArgForce" code lz.stack (some lz.curfunc)) lz.stack (s1.linear :: s1.suspended)) = q at h2 ⊢
          obtain ⟨r, t⟩ := q
          have ht : R s t := enter lz s1 code t hlz hv h1 h2
          cases r with
          | error e => exact ht
          | ok v => exact fin lz t v hlz hv ht

end ZygoVerif.VM
