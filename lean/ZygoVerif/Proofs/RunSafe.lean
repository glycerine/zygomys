/-
No host panic, and no nil cell where code continues.

What the calling contract (Proofs/RunOut.lean) says about host panics (`SSpec`), and its leaves: from a
state that satisfies the table invariant, whose stacks hold no nil cell and whose scope stack is not empty (`NoNil`), no
function of the mutual block ends in a host panic, and when it returns normally the state is `NoNil`
again. Nil cells only come from `restoreControlState` growing a stack; on the way of a normal
return every restore is exact (`restoreSt_same`), and after an error nothing runs any more
(every evaluator re-raises), so the padding `Run`'s restore may leave never meets an instruction.
The host panics of the model are: a nil cell under a typed pop, a nil return address, a bind on
an empty scope stack.
-/
import ZygoVerif.Proofs.RunErr
import ZygoVerif.Proofs.RunCall2
import ZygoVerif.Proofs.C01VM
namespace ZygoVerif.RunInv
open ZygoVerif.Core ZygoVerif.VM ZygoVerif.Bal ZygoVerif.Refine ZygoVerif.Sim ZygoVerif.Contain

/-- no nil cell on any stack, a scope to bind in, and every lazy argument still to be forced
captured a non-empty scope stack -/
structure NoNil (s : St) : Prop where
  good : VMSafe.Good s
  lin : s.linear ≠ []
  lz : ∀ z ∈ s.lazies, z.value = none → z.stack ≠ []

theorem NoNil.lzok {s : St} (h : NoNil s) : LzOK s := ⟨h.good.lazies, h.lz⟩

/-- `m` does not end in a host panic from `s`, and if it returns normally the state is `NoNil` -/
def Safe {α} (m : M α) (s : St) : Prop :=
  ∀ r s', m.run s = (r, s') → r ≠ .error .panic ∧ (∀ a, r = .ok a → NoNil s')

/-- `Contain.simple` (every instruction but `callArr`, `callExpr`: what `VM.step` describes) is the complement of
`VMSafe.isCall`; `RunInv.isCall` (Proofs/RunStep.lean) also counts `ret`, which leaves an activation. -/
theorem simple_isCall (i : Instr) (h : simple i = true) : VMSafe.isCall i = false := by
  cases i <;> first | rfl | cases h

theorem exec_simple_safe {b : Base} {s : St} {top : Act} {rest : List Act} (hg : NoNil s) (hr : Running b s top rest)
    (hb : b.linear ≠ []) {i : Instr} (hf : (fnOf s s.curfunc).code[s.pc.toNat]? = some i) (hs : simple i = true) (n : Nat) :
    ((exec (n + 1) i).run s).1 ≠ .error .panic ∧ NoNil ((exec (n + 1) i).run s).2 := by
  obtain ⟨hgood, hpan⟩ := VMSafe.exec_step_safe n i (simple_isCall i hs) s hg.good
  obtain ⟨hl, _⟩ := exec_simple_above_la hr hf hs n
  have hne : ((exec (n + 1) i).run s).2.linear ≠ [] := by
    intro h0
    rw [h0] at hl
    exact hb (List.eq_nil_of_suffix_nil hl)
  refine ⟨fun hp => hne (hpan hp), hgood, hne, ?_⟩
  by_cases hp : ∃ e, i = .pushLazy e
  · obtain ⟨e, rfl⟩ := hp
    rw [exec]
    simp only [run_bind, run_get, run_set, run_pushData, run_incPc]
    intro z hz hv
    rcases List.mem_append.mp hz with hm | hm
    · exact hg.lz z hm hv
    · simp only [List.mem_cons, List.mem_nil_iff, or_false] at hm
      subst hm
      exact hg.lin
  · rw [exec_simple_lz n i s hs (fun e he => hp ⟨e, he⟩)]
    exact hg.lz

theorem NoNil.same {s s' : St} (h : NoNil s) (h1 : s'.data = s.data) (h2 : s'.linear = s.linear) (h3 : s'.addr = s.addr)
    (h4 : s'.suspended = s.suspended) (h5 : s'.lazies = s.lazies) : NoNil s' :=
  ⟨⟨by rw [h1]; exact h.good.data, by rw [h2]; exact h.good.linear, by rw [h3]; exact h.good.addr,
    by rw [h4]; exact h.good.susp, by rw [h5]; exact h.good.lazies⟩, by rw [h2]; exact h.lin, by rw [h5]; exact h.lz⟩

theorem NoNil.setData {s : St} (h : NoNil s) (d : List (Option Val)) (hd : VMSafe.allSome d) : NoNil { s with data := d } :=
  ⟨⟨hd, h.good.linear, h.good.addr, h.good.susp, h.good.lazies⟩, h.lin, h.lz⟩

theorem NoNil.push {s : St} (h : NoNil s) (v : Val) : NoNil { s with data := some v :: s.data } :=
  h.setData _ (VMSafe.allSome_cons h.good.data)

theorem res_err {α} {s' : St} : (Except.error Fault.err : Except Fault α) ≠ .error .panic ∧
    (∀ a, (Except.error Fault.err : Except Fault α) = .ok a → NoNil s') := ⟨(by intro h; cases h), fun a ha => (by cases ha)⟩
theorem res_timeout {α} {s' : St} : (Except.error Fault.timeout : Except Fault α) ≠ .error .panic ∧
    (∀ a, (Except.error Fault.timeout : Except Fault α) = .ok a → NoNil s') := ⟨(by intro h; cases h), fun a ha => (by cases ha)⟩
theorem res_ok {α} {s' : St} (a : α) (h : NoNil s') : (Except.ok a : Except Fault α) ≠ .error .panic ∧
    (∀ a', (Except.ok a : Except Fault α) = .ok a' → NoNil s') := ⟨(by intro h; cases h), fun _ _ => h⟩

theorem Safe.bind {α β} {m : M α} {k : α → M β} {s : St} (hm : Safe m s)
    (hk : ∀ a s1, m.run s = (.ok a, s1) → NoNil s1 → Safe (k a) s1) : Safe (m >>= k) s := by
  intro r s' h
  rw [run_bind] at h
  rcases hr : m.run s with ⟨r1, s1⟩
  rw [hr] at h
  obtain ⟨hn, hg⟩ := hm r1 s1 hr
  cases r1 with
  | ok a => exact hk a s1 hr (hg a rfl) r s' h
  | error e =>
    cases h
    cases e with
    | err => exact res_err
    | panic => exact absurd rfl hn
    | timeout => exact res_timeout

theorem wrangle_frame (a b : Nat) (s : St) :
    ((wrangleOptargs a b).run s).2.linear = s.linear ∧ ((wrangleOptargs a b).run s).2.suspended = s.suspended ∧
      ((wrangleOptargs a b).run s).2.loopstack = s.loopstack := by
  rw [run_wrangleOptargs]; exact ⟨rfl, rfl, rfl⟩

/-- `CallFunction` touches the data stack, the address stack and the control registers only,
whatever its outcome -/
theorem callFunction_tab (f k : Nat) (s s' : St) (r : Except Fault Unit) (h : (callFunction f k).run s = (r, s')) :
    Tab s s' ∧ s'.linear = s.linear ∧ s'.suspended = s.suspended ∧ s'.loopstack = s.loopstack := by
  rw [run_callFunction, callRes] at h
  repeat' split at h
  all_goals cases h; exact ⟨Tab.of_eq, rfl, rfl, rfl⟩

theorem callFunction_safe' (f k : Nat) (s : St) (hg : NoNil s) : Safe (callFunction f k) s := by
  intro r s' hr
  obtain ⟨hgood, hpan⟩ := VMSafe.callFunction_safe f k s hg.good
  obtain ⟨ht, hl, _, _⟩ := callFunction_tab f k s s' r hr
  have hz := ht.lazies
  rw [hr] at hgood hpan
  have hne : s'.linear ≠ [] := by rw [hl]; exact hg.lin
  exact ⟨fun hp => hne (hpan (by rw [hp])), fun a _ => ⟨hgood, hne, by rw [hz]; exact hg.lz⟩⟩

theorem runTail_safe (s : St) (hg : NoNil s) : Safe runTail s := by
  intro r s' hr
  unfold runTail at hr
  simp only [run_bind, run_get] at hr
  rcases hd : s.data with _ | ⟨c, rest⟩
  · simp only [hd, List.isEmpty_nil, if_true, run_bind, run_pushData, run_popData] at hr
    cases hr
    exact res_ok _ (hg.same (by rw [hd]) rfl rfl rfl rfl)
  · cases c with
    | none => exact absurd rfl (hg.good.data none (by rw [hd]; exact List.mem_cons_self))
    | some w =>
      simp only [hd, List.isEmpty_cons, Bool.false_eq_true, if_false, run_popData] at hr
      cases hr
      refine res_ok _ (hg.setData rest ?_)
      have := hg.good.data; rw [hd] at this; exact VMSafe.allSome_tail this

/-- the specifications "no host panic, `NoNil` on a normal return" of the mutual block, at one fuel; read off `Spec n`
(Proofs/RunOut.lean) by `Spec.sSpec` -/
structure SSpec (n : Nat) : Prop where
  exec : ∀ (b : Base) (s : St) (top : Act) (rest : List Act) (i : Instr), NoNil s → WF s → Running b s top rest → b.linear ≠ [] →
    (fnOf s s.curfunc).code[s.pc.toNat]? = some i → Safe (exec n i) s
  resolved : ∀ (s : St) (f : Val) (args : List Expr), NoNil s → WF s → vok s.fns.length f = true → okLs args = true →
    Safe (callResolved n f args) s
  loop : ∀ (b : Base) (st : CtlState) (s : St), NoNil s → WF s → Live b s → b.linear ≠ [] → b.pc = -2 → b.main = false →
    Safe (runLoop n st) s
  run : ∀ (b : Base) (s : St) (top : Act), NoNil s → WF s → Running b s top [] → b.linear ≠ [] → b.pc = -2 → b.main = false →
    Safe (run n) s
  nested : ∀ (f : Nat) (st : CtlState) (s : St), NoNil s → WF s → 2 ≤ f → f < s.fns.length →
    (fnOf s f).params.length = 0 → s.pc = -2 → ∀ r s', (nested n f st).run s = (r, s') →
    r ≠ .error .panic ∧ (∀ v, r = .ok v → ∃ s2, s' = restoreSt st s2 ∧ NoNil s2 ∧ s2.data.length = s.data.length ∧
      s2.linear = s.linear ∧ s2.addr = s.addr ∧ s2.suspended = s.suspended ∧ TExt s s2)
  eval : ∀ (e : Expr) (s : St), NoNil s → WF s → okL e = true → Safe (evalCallExpr n e) s
  prep : ∀ (f : Option FnObj) (i : Nat) (args : List Expr) (s : St), NoNil s → WF s → okLs args = true → Safe (prepareArgs n f i args) s
  user : ∀ (name : String) (k : Nat) (s : St) (tail : List Cell), NoNil s → WF s →
    s.data.map cellOf = List.replicate k .val ++ tail → Safe (callUser n name k) s
  builtin : ∀ (name : String) (args : List Val) (s : St), NoNil s → WF s → s.pc = -1 → (∀ a ∈ args, vok s.fns.length a = true) →
    Safe (builtin n name args) s
  apply : ∀ (f : Val) (args : List Val) (s : St), NoNil s → WF s → s.pc = -1 → vok s.fns.length f = true →
    (∀ a ∈ args, vok s.fns.length a = true) → Safe (applyFn n f args) s
  mapArr : ∀ (f : Val) (r i k : Nat) (s : St), NoNil s → WF s → s.pc = -1 → vok s.fns.length f = true → Safe (mapArr n f r i k) s
  mapList : ∀ (f l : Val) (s : St), NoNil s → WF s → s.pc = -1 → vok s.fns.length f = true → vok s.fns.length l = true →
    Safe (mapList n f l) s
  force : ∀ (id : Nat) (s : St), NoNil s → WF s → Safe (forceLazy n id) s

/-- a lazy argument appended to the table and pushed -/
theorem NoNil.addLazy {s : St} (hg : NoNil s) (z : LazyObj) (hz : VMSafe.allSome z.stack) (hv : z.value = none → z.stack ≠ []) :
    NoNil { s with lazies := s.lazies ++ [z], data := some (.lazy s.lazies.length) :: s.data } :=
  ⟨⟨VMSafe.allSome_cons hg.good.data, hg.good.linear, hg.good.addr, hg.good.susp,
      List.forall_mem_append.mpr ⟨hg.good.lazies, List.forall_mem_singleton.mpr hz⟩⟩, hg.lin,
    List.forall_mem_append.mpr ⟨hg.lz, List.forall_mem_singleton.mpr hv⟩⟩

theorem NoNil.allocThunk {s : St} (hg : NoNil s) (e : Expr) : NoNil (C16.allocThunk e s) :=
  hg.addLazy _ hg.good.linear fun _ => hg.lin

theorem NoNil.inBuiltin {s : St} (hg : NoNil s) (k : Nat) : NoNil (inBuiltin s (s.data.drop k)) :=
  ⟨⟨VMSafe.allSome_drop hg.good.data k, hg.good.linear, VMSafe.allSome_cons hg.good.addr, hg.good.susp, hg.good.lazies⟩, hg.lin, hg.lz⟩

theorem NoNil.table {s s' : St} (h : NoNil s) (h1 : s'.data = s.data) (h2 : s'.linear = s.linear) (h3 : s'.addr = s.addr)
    (h4 : s'.suspended = s.suspended) (h5 : s'.lazies = s.lazies) : NoNil s' := h.same h1 h2 h3 h4 h5

theorem noNil_applyWrap (fo : FnObj) : ∀ (args : List Val) (s : St) (i : Nat), NoNil s → NoNil (applyWrap fo args s i)
  | [], s, i, hg => hg
  | v :: rest, s, i, hg => by
    rw [applyWrap]
    split
    · exact noNil_applyWrap fo rest _ (i + 1) (hg.addLazy _ VMSafe.allSome_nil nofun)
    · exact noNil_applyWrap fo rest _ (i + 1) (hg.push v)

/-- `noNil_applyWrap`, said of the fold as it stands in the body of `applyFn` -/
theorem applyWrap_nonil (fo : FnObj) : ∀ (args : List Val) (s : St) (i : Nat), NoNil s →
    NoNil (args.foldl (fun (p : St × Nat) v =>
      if fo.isLazyCallArg p.2 then
        ({ p.1 with lazies := p.1.lazies ++ [({ e := .nilLit, stack := [], curfunc := 0, value := some v, isValue := true } : LazyObj)],
                    data := some (.lazy p.1.lazies.length) :: p.1.data }, p.2 + 1)
      else ({ p.1 with data := some v :: p.1.data }, p.2 + 1)) (s, i)).1 :=
  fun args s i hg => by rw [applyWrap_eq]; exact noNil_applyWrap fo args s i hg

theorem forceFinish_safe (id : Nat) (lz : LazyObj) (w : Val) (t0 : St) (hg0 : NoNil t0) (hst : VMSafe.allSome lz.stack) :
    Safe (C16.forceFinish id lz w) t0 := by
  intro r s' h
  cases h
  refine res_ok _ ⟨⟨hg0.good.data, hg0.good.linear, hg0.good.addr, hg0.good.susp, ?_⟩, hg0.lin, ?_⟩
  · intro z hz
    rcases List.mem_or_eq_of_mem_set hz with hm | rfl
    · exact hg0.good.lazies z hm
    · exact hst
  · intro z hz hv
    rcases List.mem_or_eq_of_mem_set hz with hm | rfl
    · exact hg0.lz z hm hv
    · cases hv

/-- the state the code of a lazy argument runs in: over the stack it captured, the live one set aside -/
theorem NoNil.forceSt {s1 : St} (hg1 : NoNil s1) {o : FnObj} {stack : List (Option Nat)} (hst : VMSafe.allSome stack)
    (hne : stack ≠ []) : NoNil (thunkSt s1 o stack (s1.linear :: s1.suspended)) := by
  refine ⟨⟨hg1.good.data, hst, hg1.good.addr, ?_, hg1.good.lazies⟩, hne, hg1.lz⟩
  intro l hl
  rcases List.mem_cons.mp hl with rfl | hl
  · exact hg1.good.linear
  · exact hg1.good.susp l hl

end ZygoVerif.RunInv
