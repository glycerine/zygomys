/-
JSON-like values without hashes: the printed text is the printed text of a data value (`toRead`),
that value is in the domain of `read (print v) = v`, and it evaluates to the JSON-like value again.
`nil` prints as `nil`, is read as the SYMBOL `nil` (the known finding of the data half) — and that
symbol evaluates to nil: by evaluation the round trip closes.
-/
import ZygoVerif.Proofs.ReadPrintMain
import ZygoVerif.Model.EvalData
import ZygoVerif.Spec.DataValue
namespace ZygoVerif.ReadPrint
open ZygoVerif ZygoVerif.Lexer ZygoVerif.Parser ZygoVerif.PrintData ZygoVerif.EvalData ZygoVerif.Spec.DataValue

mutual
/-- the data value the reader makes of the printed text of a JSON-like value -/
def toRead : JV → Sexp
  | .nil => .sym "nil".toList false false
  | .bool b => .bool b
  | .int v => .int v
  | .flt b sci => .float b sci
  | .str s => .str s false
  | .arr es => .array (toReadList es) false
  | .hash _ => .emptyHash
def toReadList : List JV → List Sexp
  | [] => []
  | e :: r => toRead e :: toReadList r
end

mutual
/-- no hash anywhere inside, every float finite -/
def hashFree : JV → Bool
  | .flt b _ => isFiniteBits b
  | .arr es => hashFreeList es
  | .hash _ => false
  | _ => true
def hashFreeList : List JV → Bool
  | [] => true
  | e :: r => hashFree e && hashFreeList r
end

theorem symOK_nil : symOK "nil".toList = true := by decide +kernel

mutual
theorem print_toRead (ff : FloatFmt) : (v : JV) → hashFree v = true → printSexp ff (toRead v) = printJ ff v
  | .nil, _ => rfl
  | .bool b, _ => rfl
  | .int v, _ => rfl
  | .flt b sci, _ => rfl
  | .str s, _ => rfl
  | .arr es, h => by
    simp only [hashFree] at h
    simp only [toRead, printSexp, printJ, print_toReadList ff es h]
    rfl
  | .hash _, h => by simp [hashFree] at h
theorem print_toReadList (ff : FloatFmt) : (es : List JV) → hashFreeList es = true →
    printElems ff (toReadList es) = printJElems ff es
  | [], _ => rfl
  | [a], h => by
    simp only [hashFreeList, Bool.and_eq_true] at h
    simp only [toReadList, printElems, printJElems, print_toRead ff a h.1]
  | a :: b :: r, h => by
    simp only [hashFreeList, Bool.and_eq_true] at h
    have h2 := print_toReadList ff (b :: r) (by simp only [hashFreeList, Bool.and_eq_true]; exact h.2)
    simp only [toReadList] at h2
    simp only [toReadList, printElems, printJElems, print_toRead ff a h.1, h2]
end

mutual
theorem okV_toRead : (v : JV) → isJsonLike v = true → hashFree v = true → okV (toRead v) = true
  | .nil, _, _ => by simp only [toRead, okV, okAtom, symOK_nil]; rfl
  | .bool b, _, _ => rfl
  | .int v, h, _ => by simpa only [toRead, okV, okAtom, isJsonLike] using h
  | .flt b sci, _, h => by simpa only [toRead, okV, okAtom, hashFree] using h
  | .str s, _, _ => rfl
  | .arr es, h, hf => by
    simp only [isJsonLike] at h
    simp only [hashFree] at hf
    simp only [toRead, okV, okList_toRead es h hf]
    rfl
  | .hash _, _, h => by simp [hashFree] at h
theorem okList_toRead : (es : List JV) → isJsonLikeList es = true → hashFreeList es = true →
    okList (toReadList es) = true
  | [], _, _ => rfl
  | a :: r, h, hf => by
    simp only [isJsonLikeList, Bool.and_eq_true] at h
    simp only [hashFreeList, Bool.and_eq_true] at hf
    simp only [toReadList, okList, okV_toRead a h.1 hf.1, okList_toRead r h.2 hf.2]
    rfl
end

mutual
theorem eval_toRead : (v : JV) → hashFree v = true → evalData (toRead v) = some v
  | .nil, _ => by simp only [toRead, evalData]; rfl
  | .bool b, _ => by simp only [toRead, evalData]
  | .int v, _ => by simp only [toRead, evalData]
  | .flt b sci, _ => by simp only [toRead, evalData]
  | .str s, _ => by simp only [toRead, evalData]
  | .arr es, h => by
    simp only [hashFree] at h
    simp only [toRead, evalData, evalList_toRead es h]
    rfl
  | .hash _, h => by simp [hashFree] at h
theorem evalList_toRead : (es : List JV) → hashFreeList es = true → evalList (toReadList es) = some es
  | [], _ => by simp only [toReadList, evalList]
  | a :: r, h => by
    simp only [hashFreeList, Bool.and_eq_true] at h
    simp only [toReadList, evalList, eval_toRead a h.1, evalList_toRead r h.2]
end

end ZygoVerif.ReadPrint
