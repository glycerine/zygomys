/-
Lemmas for C14: the printed form and the JSON encoding, as ropes.
-/
import ZygoVerif.Proofs.HashRefine
namespace ZygoVerif.Hash
variable {K V : Type} {o : KeyOps K}

theorem dropLast_sep {α : Type} (f : α → String) (sep x : String) (l : List α) (hl : l ≠ []) :
    (x :: l.flatMap (fun e => [f e, sep])).dropLast = x :: (l.map f).intersperse sep := by
  induction l generalizing x with
  | nil => exact absurd rfl hl
  | cons a r ih =>
    cases r with
    | nil => simp
    | cons b r' =>
      have := ih sep (by simp)
      simp only [List.flatMap_cons, List.cons_append, List.nil_append, List.map_cons] at this ⊢
      rw [List.dropLast_cons_of_ne_nil (by simp), List.dropLast_cons_of_ne_nil (by simp), this]
      simp [List.intersperse]

theorem sep_shift {α : Type} (f : α → String) (sep x : String) (l : List α) :
    x :: sep :: l.flatMap (fun e => [f e, sep]) = (x :: l.flatMap (fun e => [sep, f e])) ++ [sep] := by
  induction l generalizing x with
  | nil => rfl
  | cons a r ih =>
    simp only [List.flatMap_cons, List.cons_append, List.nil_append]
    rw [ih (f a)]
    simp

theorem flatMap_entries (ko : List K) (g : K → Option V) (f : K × V → List String) :
    ko.flatMap (fun k => match g k with | some v => f (k, v) | none => []) =
      (ko.filterMap (entry g)).flatMap f := by
  induction ko with
  | nil => rfl
  | cons a r ih =>
    have hga : g a = none ∨ ∃ x, g a = some x := by cases g a <;> simp
    rcases hga with hg | ⟨x, hg⟩
    · simp only [List.flatMap_cons, List.filterMap_cons, entry, hg, Option.map_none, List.nil_append]
      exact ih
    · simp only [List.flatMap_cons, List.filterMap_cons, entry, hg, Option.map_some]
      rw [ih]

theorem map_nonempty_iff (h : Hash K V) (I : Inv o h) :
    h.map.length > 0 ↔ abs o h ≠ [] := by
  rw [← msum_pos_iff _ I.bucketNe, I.count, ← abs_length h I, ← List.length_pos_iff]
  omega

theorem strRope_inv (sh : Show K V) (h : Hash K V) (I : Inv o h) :
    strRope o sh h = Spec.strRope sh (abs o h) := by
  have hb : h.keyOrder.flatMap (fun k => match get? o h k with
          | some v => [sh.inHash k ++ ":" ++ sh.val v, " "] | none => []) =
      (abs o h).flatMap (fun e => [sh.inHash e.1 ++ ":" ++ sh.val e.2, " "]) :=
    flatMap_entries h.keyOrder (get? o h) (fun e => [sh.inHash e.1 ++ ":" ++ sh.val e.2, " "])
  have hdef : strRope o sh h =
      if h.map.length > 0 then
        ("{" :: h.keyOrder.flatMap (fun k => match get? o h k with
          | some v => [sh.inHash k ++ ":" ++ sh.val v, " "] | none => [])).dropLast ++ ["}"]
      else ("{" :: h.keyOrder.flatMap (fun k => match get? o h k with
          | some v => [sh.inHash k ++ ":" ++ sh.val v, " "] | none => [])) ++ ["}"] := rfl
  rw [hdef, hb]
  unfold Spec.strRope
  by_cases hne : abs o h = []
  · have : ¬ h.map.length > 0 := fun hp => (map_nonempty_iff h I).1 hp hne
    simp only [this, if_false]
    rw [hne]; rfl
  · have : h.map.length > 0 := (map_nonempty_iff h I).2 hne
    simp only [this, if_true]
    rw [dropLast_sep (fun e : K × V => sh.inHash e.1 ++ ":" ++ sh.val e.2) " " "{" _ hne]
    rfl

theorem jsonFields_live (sh : Show K V) (h : Hash K V) (ko : List K)
    (hl : ∀ k ∈ ko, (get? o h k).isSome = true) :
    jsonFields o sh h ko = some ((ko.filterMap (entry (get? o h))).flatMap
      (fun e => [sh.jsonKey e.1 ++ ":" ++ sh.val e.2, ", "])) := by
  induction ko with
  | nil => rfl
  | cons a r ih =>
    obtain ⟨x, hx⟩ := Option.isSome_iff_exists.1 (hl a List.mem_cons_self)
    simp only [jsonFields, hx, ih (fun k hk => hl k (List.mem_cons_of_mem _ hk)), Option.map_some,
      List.filterMap_cons, entry, List.flatMap_cons]

theorem jsonRope_inv (sh : Show K V) (h : Hash K V) (I : Inv o h) :
    jsonRope o sh h = some (Spec.jsonRope sh (abs o h)) := by
  unfold jsonRope Spec.jsonRope
  have hlen := abs_length h I
  by_cases hne : abs o h = []
  · have h0 : h.keyOrder.length = 0 := by rw [← hlen, hne]; rfl
    simp [h0, hne]
  · have h0 : ¬ h.keyOrder.length = 0 := by
      rw [← hlen]; intro h'; exact hne (List.length_eq_zero_iff.1 h')
    have hemp : (abs o h).isEmpty = false := List.isEmpty_eq_false_iff.2 hne
    have hjf : jsonFields o sh h h.keyOrder = some ((abs o h).flatMap
        (fun e => [sh.jsonKey e.1 ++ ":" ++ sh.val e.2, ", "])) :=
      jsonFields_live sh h h.keyOrder I.koLive
    simp only [h0, if_false, hjf, hemp, Bool.false_eq_true]
    show some _ = _
    congr 1
    have hko : h.keyOrder.flatMap (fun k => [sh.jsonKey k, ", "]) =
        (abs o h).flatMap (fun e => [sh.jsonKey e.1, ", "]) := by
      conv => lhs; rw [← abs_keys h I]
      rw [List.flatMap_map]
    rw [hko]
    have e1 := sep_shift (fun e : K × V => sh.jsonKey e.1 ++ ":" ++ sh.val e.2) ", "
      "{\"Atype\":\"hash\"" (abs o h)
    have e2 := dropLast_sep (fun e : K × V => sh.jsonKey e.1) ", " "\"zKeyOrder\":[" (abs o h) hne
    simp only [List.cons_append, List.nil_append] at e1 ⊢
    generalize hA : (abs o h).flatMap (fun e => [sh.jsonKey e.1 ++ ":" ++ sh.val e.2, ", "]) = A at e1 ⊢
    generalize hB : (abs o h).flatMap (fun e => [sh.jsonKey e.1, ", "]) = B at e2 ⊢
    have step : "{\"Atype\":\"hash\"" :: ", " :: (A ++ ["\"zKeyOrder\":["] ++ B) =
        ("{\"Atype\":\"hash\"" :: ", " :: A) ++ ("\"zKeyOrder\":[" :: B) := by simp
    rw [step, e1, List.dropLast_append_of_ne_nil (by simp), e2]
    simp

end ZygoVerif.Hash
