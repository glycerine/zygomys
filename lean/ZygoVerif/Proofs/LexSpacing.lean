/-
C06 `lex_spacing`: a sequence of tokens written with blanks only where the lexer needs
them is lexed to exactly those tokens (induction over the token list).

`Piece` is one token as it is written; `Item = (gap, piece)` is a piece with the blanks before
it. `Sit` is what the lexer knows after the pieces read so far (`Pend`ing situation, last rune); what it has queued
is accounted for piece by piece (`item_owes`): `emitsFrom` is what is queued WHILE a piece is read, `Pend.owes` what
the situation it leaves will still queue (a word in the buffer, a one-rune operator whose successor is not known);
together they are the tokens of the piece. `Sit.Good` is the invariant of the induction `reads_items` (a pending
buffer holds a well-formed atom, in a look-ahead the last rune is the operator rune). `afterPiece` is the situation
after the next item, `stepOK` the condition under which the lexer model really gets there, and `LegalFrom` asks for
it at every item. The side
conditions of `stepOK` in the tight case (`g = []`) are the content:
  * two words need a blank (`startOK`: a word must start on an empty buffer);
  * a signed numeral must follow a rune after which a sign may start a number;
  * a one-rune operator directly followed by a rune that completes a two-rune operator
    (`opMerges`) or, for `-` after such a rune, by a digit (`signGlues`) — the sign look-back;
  * `/` directly followed by `/`, `*` or `=`;
  * `+`/`-` directly after a pending `…e` whose front is a numeral (`sciGlues`).
`Spec/Spacing.lean` states these conditions on the characters alone; `Proofs/LexSpacingSpec.lean`
shows that they imply `LegalFrom`.
-/
import ZygoVerif.Proofs.LexSpacingSteps
namespace ZygoVerif.Lexer
open ZygoVerif.PrintData

/-- one token of an infix block as it is written -/
inductive Piece where
  | word (w : List Char)       -- name, dotted path, numeral
  | op1 (o : Char)             -- one-rune operator + - * < > = ! & |
  | op2 (o c : Char)           -- two-rune operator of BuiltinOpRegex
  | slash                      -- /
  | assign                     -- :=
  | brace (c : Char)           -- ( ) [ ] { }
  | sep (c : Char)             -- , ;
  | str (cs : List Char)       -- "…" as strconv.Quote writes it
  | chr (v : Nat)              -- '…' as strconv.QuoteRune writes it
  deriving Repr, DecidableEq

namespace Piece

def text : Piece → List Char
  | word w => w
  | op1 o => [o]
  | op2 o c => [o, c]
  | slash => ['/']
  | assign => [':', '=']
  | brace c => [c]
  | sep c => [c]
  | str cs => quoteStr cs
  | chr v => quoteRune v

def toks : Piece → List Token
  | word w => flush w
  | op1 o => [⟨.symbol, [o]⟩]
  | op2 o c => [op2Tok o c]
  | slash => [⟨.symbol, ['/']⟩]
  | assign => [⟨.freshAssign, ":=".toList⟩]
  | brace c => [braceTok c]
  | sep c => [sepTok c]
  | str cs => [⟨.string, cs⟩]
  | chr v => [⟨.char, [Char.ofNat v]⟩]

def OK : Piece → Prop
  | word w => WordText w
  | op1 o => isOpRune o = true
  | op2 o c => isOpRune o = true ∧ opMerges o c = true
  | slash => True
  | assign => True
  | brace c => isBrace c = true
  | sep c => c = ',' ∨ c = ';'
  | str _ => True
  | chr v => v.isValidChar

/-- first rune of the text (`'\x00'` never occurs: every text is non-empty) -/
def first (R : Piece) : Char := R.text.headD '\x00'

end Piece

structure Sit where
  q : Pend
  l : Char

def Sit.Good (σ : Sit) : Prop :=
  match σ.q with
  | .norm b => Flushable b
  | .op1 o _ => σ.l = o ∧ isOpRune o = true
  | .slash b => σ.l = '/' ∧ Flushable b

def startOK (b : List Char) (l : Char) : Piece → Prop
  | .word w => b = [] ∧ (negStart w = true → canStartSignedNumberAfter l = true)
  | .str _ => b = []
  | .chr _ => b = []
  | .op1 o => sciGlues b l o = false
  | .op2 o _ => sciGlues b l o = false
  | _ => True

def afterFrom (b : List Char) (l : Char) (R : Piece) : Sit :=
  match R with
  | .word w => ⟨.norm w, lastOf l w⟩
  | .op1 o => ⟨.op1 o l, o⟩
  | .slash => ⟨.slash b, '/'⟩
  | R => ⟨.norm [], lastOf l R.text⟩

def emitsFrom (b : List Char) (R : Piece) : List Token :=
  match R with
  | .word _ => flush b
  | .op1 _ => flush b
  | .slash => []
  | R => flush b ++ R.toks

theorem afterFrom_owes (b : List Char) (l : Char) (R : Piece) :
    emitsFrom b R ++ (afterFrom b l R).q.owes = flush b ++ R.toks := by
  cases R <;> simp [afterFrom, emitsFrom, Pend.owes, Piece.toks, flush]

theorem afterFrom_good (b : List Char) (l : Char) (R : Piece) (hR : R.OK) (hf : Flushable b) : (afterFrom b l R).Good := by
  cases R with
  | word w => exact hR.flushable
  | op1 o => exact ⟨rfl, hR⟩
  | slash => exact ⟨rfl, hf⟩
  | _ => exact Or.inl rfl

theorem afterFrom_l (b : List Char) (l : Char) (R : Piece) : (afterFrom b l R).l = lastOf l R.text := by
  cases R <;> simp [afterFrom, Piece.text]

theorem opMerges_second : ∀ o c, opMerges o c = true → c ∈ ['+', '-', '=', '>', '*', '!', '&', '|'] := by
  intro o c hm
  simp only [opMerges, builtinOpRe, List.any_eq_true] at hm
  obtain ⟨x, hx, he⟩ := hm
  have he' : x.toList = [o, c] := by simpa using he
  have : builtinOps.all (fun x => match x.toList with
      | [_, c] => ['+', '-', '=', '>', '*', '!', '&', '|'].contains c | _ => true) = true := by decide +kernel
  have h := List.all_eq_true.1 this x hx
  rw [he'] at h
  simpa using h

theorem reads_piece (R : Piece) (hR : R.OK) (b : List Char) (l : Char) (hf : Flushable b) (hs : startOK b l R) :
    Reads (Norm b) l R.text (emitsFrom b R) (afterFrom b l R).q.Holds := by
  cases R with
  | word w =>
    obtain ⟨rfl, hl⟩ := hs
    exact reads_word hR l hl
  | op1 o => exact reads_opRune b l o hR hf hs
  | op2 o c =>
    have hc := opMerges_second o c hR.2
    obtain ⟨hd, hdot⟩ : isDig c = false ∧ c ≠ '.' := by
      simp only [List.mem_cons, List.not_mem_nil, or_false] at hc
      rcases hc with rfl | rfl | rfl | rfl | rfl | rfl | rfl | rfl <;> decide
    exact Reads.cons (reads_opRune b l o hR.1 hf hs) (reads_op2 o l o c hR.2 hd hdot)
  | slash => exact reads_slash b l
  | assign => exact reads_freshAssign b l hf
  | brace c =>
    obtain ⟨h1, h2⟩ := closer_brace c hR
    have := reads_closer b l c h1 hf
    rwa [h2] at this
  | sep c =>
    obtain ⟨h1, h2⟩ := closer_sep c hR
    have := reads_closer b l c h1 hf
    rwa [h2] at this
  | str cs =>
    have hb : b = [] := hs
    subst hb
    exact reads_string cs l
  | chr v =>
    have hb : b = [] := hs
    subst hb
    exact reads_char v hR l

abbrev Item := List Char × Piece

def renderItems : List Item → List Char
  | [] => []
  | (g, R) :: rest => g ++ R.text ++ renderItems rest

/-- the buffer the next piece starts on -/
def baseOf (σ : Sit) (g : List Char) : List Char :=
  match g, σ.q with
  | [], .norm b => b
  | _, _ => []

/-- what is queued before the next piece starts: a gap, or a piece behind a pending operator, settles what is owed -/
def preToks (σ : Sit) (g : List Char) : List Token :=
  match g, σ.q with
  | [], .norm _ => []
  | _, _ => σ.q.owes

def afterPiece (σ : Sit) (g : List Char) (R : Piece) : Sit :=
  afterFrom (baseOf σ g) (lastOf σ.l g) R

/-- the text of the next piece does not interact with the pending situation (`c` its first rune);
`-.` where a signed number may start is followed by a rune that is no digit -/
def noGlue (q : Pend) (text : List Char) : Prop :=
  let c := text.headD '\x00'
  match q with
  | .norm _ => True
  | .op1 o p => opMerges o c = false ∧ signGlues o p c = false ∧
      (dotGlues o p c = true → ∃ x rest, text = '.' :: x :: rest ∧ isDig x = false)
  | .slash _ => c ≠ '/' ∧ c ≠ '*' ∧ opMerges '/' c = false

def stepOK (σ : Sit) (g : List Char) (R : Piece) : Prop :=
  (∀ c ∈ g, isBlank c = true) ∧ R.OK ∧ startOK (baseOf σ g) (lastOf σ.l g) R ∧ (g = [] → noGlue σ.q R.text)

def LegalFrom (σ : Sit) : List Item → Prop
  | [] => True
  | (g, R) :: rest => stepOK σ g R ∧ LegalFrom (afterPiece σ g R) rest

def runSit (σ : Sit) : List Item → Sit
  | [] => σ
  | (g, R) :: rest => runSit (afterPiece σ g R) rest

/-- what the lexer asks of a rune next to a blank -/
theorem blank_facts (c : Char) (hc : isBlank c = true) :
    canStartSignedNumberAfter c = true ∧ isDig c = false ∧ c ≠ '/' ∧ c ≠ '*' ∧ c ≠ '.' ∧
    c ∉ ['+', '-', '=', '>', '*', '!', '&', '|'] := by
  simp only [isBlank, Bool.or_eq_true, beq_iff_eq] at hc
  rcases hc with ((rfl | rfl) | rfl) | rfl <;> decide

theorem preToks_owes (σ : Sit) (g : List Char) : preToks σ g ++ flush (baseOf σ g) = σ.q.owes := by
  obtain ⟨q, l⟩ := σ
  cases g with
  | cons c g => simp [preToks, baseOf, flush]
  | nil => cases q <;> simp [preToks, baseOf, flush, Pend.owes]

theorem baseOf_flushable (σ : Sit) (hg : σ.Good) (g : List Char) : Flushable (baseOf σ g) := by
  obtain ⟨q, l⟩ := σ
  cases g with
  | cons c g => exact Or.inl (by simp [baseOf])
  | nil =>
    cases q with
    | norm b => exact hg
    | op1 o p => exact Or.inl (by simp [baseOf])
    | slash b => exact Or.inl (by simp [baseOf])

/-- Reading on from a pending situation, tight: a text that does not interact with it is read as from the normal mode —
on the pending buffer, or, behind a pending operator, on an empty buffer with what the situation owes queued first. This
is the one place where the three instances of settling are used. -/
theorem reads_tight (σ : Sit) (hg : σ.Good) {text : List Char} {ts : List Token} {Q : LexCore → Prop}
    (hne : text ≠ []) (hglue : noGlue σ.q text) (h : Reads (Norm (baseOf σ [])) σ.l text ts Q) :
    Reads σ.q.Holds σ.l text (preToks σ [] ++ ts) Q := by
  obtain ⟨q, l⟩ := σ
  cases text with
  | nil => exact absurd rfl hne
  | cons c rest =>
    cases q with
    | norm b => exact h
    | op1 o p =>
      obtain ⟨hm, hsg, hdg⟩ := hglue
      simp only [List.headD_cons] at hm hsg hdg
      by_cases hd : dotGlues o p c = true
      · obtain ⟨x, rest', htx, hx⟩ := hdg hd
        simp only [dotGlues, Bool.and_eq_true, beq_iff_eq] at hd
        obtain ⟨⟨rfl, hp⟩, -⟩ := hd
        rw [htx] at h ⊢
        exact Reads.settle (u := ['.', x]) (fun s hs => settle_minusDot s p x hs hp hx) h
      · exact Reads.settle (u := [c]) (fun s hs => settle_op1 s o p c hs hm hsg (by simpa using hd)) h
    | slash b =>
      obtain ⟨hc1, hc2, hm⟩ := hglue
      obtain rfl : l = '/' := hg.1
      exact Reads.settle (u := [c]) (fun s hs => settle_slash s b c hs hg.2 hc1 hc2 hm) h

theorem noGlue_blank (q : Pend) (c : Char) (hc : isBlank c = true) : noGlue q [c] := by
  obtain ⟨-, hd, h1, h2, hdot, hop⟩ := blank_facts c hc
  have hm : ∀ o, opMerges o c = false := fun o => Bool.eq_false_iff.2 fun h => hop (opMerges_second o c h)
  cases q with
  | norm b => trivial
  | op1 o p => exact ⟨hm o, by simp [signGlues, hd], fun h => by simp [dotGlues, hdot] at h⟩
  | slash b => exact ⟨h1, h2, hm '/'⟩

/-- a blank settles every pending situation -/
theorem reads_blank_any (σ : Sit) (hg : σ.Good) (c : Char) (hc : isBlank c = true) :
    Reads σ.q.Holds σ.l [c] σ.q.owes (Norm []) := by
  obtain ⟨hcl, hct⟩ := closer_blank c hc
  have h := reads_closer (baseOf σ []) σ.l c hcl (baseOf_flushable σ hg [])
  rw [hct, List.append_nil] at h
  have := reads_tight σ hg (List.cons_ne_nil c []) (noGlue_blank σ.q c hc) h
  rwa [preToks_owes] at this

/-- a non-empty gap: the first blank settles, the others are skipped -/
theorem reads_gap (σ : Sit) (hg : σ.Good) (c : Char) (g : List Char) (hc : ∀ x ∈ c :: g, isBlank x = true) :
    Reads σ.q.Holds σ.l (c :: g) σ.q.owes (Norm []) := by
  have := Reads.cons (reads_blank_any σ hg c (hc c (by simp))) (reads_blanks g (fun x hx => hc x (by simp [hx])) c)
  rwa [List.append_nil] at this

theorem Piece.text_ne_nil (R : Piece) (hR : R.OK) : R.text ≠ [] := by
  cases R with
  | word w => exact hR.ne_nil
  | str cs => simp [Piece.text, quoteStr]
  | chr v => simp [Piece.text, quoteRune]
  | _ => simp [Piece.text]

theorem reads_item (σ : Sit) (hg : σ.Good) (g : List Char) (R : Piece) (h : stepOK σ g R) :
    Reads σ.q.Holds σ.l (g ++ R.text) (preToks σ g ++ emitsFrom (baseOf σ g) R) (afterPiece σ g R).q.Holds := by
  obtain ⟨hblank, hR, hstart, hglue⟩ := h
  cases g with
  | cons c g =>
    have hb : baseOf σ (c :: g) = [] := by simp [baseOf]
    have hp : preToks σ (c :: g) = σ.q.owes := by simp [preToks]
    rw [afterPiece, hb, hp]
    rw [hb] at hstart
    exact Reads.trans (reads_gap σ hg c g hblank) (reads_piece R hR [] _ (Or.inl rfl) hstart)
  | nil => exact reads_tight σ hg (R.text_ne_nil hR) (hglue rfl) (reads_piece R hR _ _ (baseOf_flushable σ hg []) hstart)

theorem afterPiece_good (σ : Sit) (hg : σ.Good) (g : List Char) (R : Piece) (hR : R.OK) : (afterPiece σ g R).Good :=
  afterFrom_good _ _ R hR (baseOf_flushable σ hg g)

/-- what is queued while an item is read, followed by what the new situation owes, is what the old situation owed
followed by the tokens of the piece -/
theorem item_owes (σ : Sit) (g : List Char) (R : Piece) :
    preToks σ g ++ emitsFrom (baseOf σ g) R ++ (afterPiece σ g R).q.owes = σ.q.owes ++ R.toks := by
  rw [List.append_assoc, afterPiece, afterFrom_owes, ← List.append_assoc, preToks_owes]

def itemToks (items : List Item) : List Token := items.flatMap (fun it => it.2.toks)

theorem reads_items (items : List Item) (σ : Sit) (hg : σ.Good) (h : LegalFrom σ items) :
    ∃ ts, Reads σ.q.Holds σ.l (renderItems items) ts (runSit σ items).q.Holds ∧ (runSit σ items).Good ∧
      (runSit σ items).l = lastOf σ.l (renderItems items) ∧ ts ++ (runSit σ items).q.owes = σ.q.owes ++ itemToks items := by
  induction items generalizing σ with
  | nil => exact ⟨[], Reads.nil _ _, hg, rfl, by simp [runSit, itemToks]⟩
  | cons it rest ih =>
    obtain ⟨g, R⟩ := it
    obtain ⟨h1, h2⟩ := h
    have hl : (afterPiece σ g R).l = lastOf σ.l (g ++ R.text) := by rw [afterPiece, afterFrom_l, lastOf_append]
    obtain ⟨ts, i1, i2, i3, i4⟩ := ih (afterPiece σ g R) (afterPiece_good σ hg g R h1.2.1) h2
    rw [hl] at i1 i3
    refine ⟨preToks σ g ++ emitsFrom (baseOf σ g) R ++ ts, ?_, i2, ?_, ?_⟩
    · exact Reads.trans (reads_item σ hg g R h1) i1
    · show (runSit (afterPiece σ g R) rest).l = lastOf σ.l ((g ++ R.text) ++ renderItems rest)
      simp only [i3, lastOf_append]
    · show (preToks σ g ++ emitsFrom (baseOf σ g) R ++ ts) ++ (runSit (afterPiece σ g R) rest).q.owes = _
      rw [List.append_assoc _ ts, i4, ← List.append_assoc, item_owes, List.append_assoc]
      simp [itemToks]

/-- from the normal state with an empty buffer, a legal spacing of
the pieces followed by a blank is lexed to exactly their tokens; nothing is left pending. -/
theorem lex_spacing_blank (items : List Item) (T : List Token) (l0 c : Char) (hc : isBlank c = true)
    (h : LegalFrom ⟨.norm [], l0⟩ items) :
    Lex ⟨.normal, [], T, l0⟩ (renderItems items ++ [c]) ⟨.normal, [], T ++ itemToks items, c⟩ := by
  obtain ⟨ts, h1, h2, h3, h4⟩ := reads_items items ⟨.norm [], l0⟩ (Or.inl rfl) h
  have h5 := reads_blank_any _ h2 c hc
  rw [h3] at h5
  have := (Reads.trans h1 h5).lex T
  rw [h4] at this
  simpa [Pend.owes, flush] using this

end ZygoVerif.Lexer
