/-
Lemmas for Props/C01: the index-trace models of the generator prologues
(`Model/GenSites.lean`) never reach a panic, whatever the argument list is, as long as the
recursive `Generate` calls (`sub`) do not.
-/
import ZygoVerif.Model.GenSites
namespace ZygoVerif.GenSites

def NoPanic {α} (m : P α) : Prop := m ≠ .error .panic

theorem np_pure {α} (a : α) : NoPanic (pure a : P α) := by
  intro h; cases h

theorem np_err {α} : NoPanic (err : P α) := by
  intro h; cases h

theorem np_bind {α β} {m : P α} {f : α → P β} (hm : NoPanic m)
    (hf : ∀ a, m = .ok a → NoPanic (f a)) : NoPanic (m >>= f) := by
  cases m with
  | error e =>
    cases e with
    | err => intro h; cases h
    | panic => exact absurd rfl hm
  | ok a => exact hf a rfl

theorem np_ite {α} {c : Prop} [Decidable c] {a b : P α} (ha : NoPanic a) (hb : NoPanic b) :
    NoPanic (if c then a else b) := by
  split
  · exact ha
  · exact hb

theorem np_guard {c : Prop} [Decidable c] : NoPanic (failIf c) := by
  unfold failIf
  split
  · intro h; cases h
  · exact np_pure _

theorem guard_ok {c : Prop} [Decidable c] {u : PUnit} (h : failIf c = .ok u) : ¬ c := by
  intro hc
  unfold failIf at h
  rw [if_pos hc] at h
  cases h

/-- an arity guard in front of `f`: behind it the guarded condition fails -/
theorem np_guarded {β} {c : Prop} [Decidable c] {f : PUnit → P β} (h : ¬ c → NoPanic (f ⟨⟩)) :
    NoPanic (failIf c >>= f) :=
  np_bind np_guard fun _ hg => h (guard_ok hg)

theorem idx_np {α} (l : List α) (i : Int) (h0 : 0 ≤ i) (h1 : i < l.length) : NoPanic (idx l i) := by
  unfold idx
  have : i.toNat < l.length := by omega
  simp only [h0, if_true]
  rw [List.getElem?_eq_getElem this]
  exact np_pure _

theorem sliceFrom_np {α} (l : List α) (i : Int) (h0 : 0 ≤ i) (h1 : i ≤ l.length) : NoPanic (sliceFrom l i) := by
  unfold sliceFrom
  simp only [h0, h1, and_self, if_true]
  exact np_pure _

theorem sliceTo_np {α} (l : List α) (j : Int) (h0 : 0 ≤ j) (h1 : j ≤ l.length) : NoPanic (sliceTo l j) := by
  unfold sliceTo
  simp only [h0, h1, and_self, if_true]
  exact np_pure _

theorem sliceTo_ok {α} {l r : List α} {j : Int} (h : sliceTo l j = .ok r) : (r.length : Int) = j ∧ 0 ≤ j ∧ j ≤ l.length := by
  unfold sliceTo at h
  split at h
  · rename_i hc
    injection h with h; subst h
    refine ⟨?_, hc.1, hc.2⟩
    simp only [List.length_take]
    omega
  · cases h

theorem sliceFrom_ok {α} {l r : List α} {i : Int} (h : sliceFrom l i = .ok r) : (r.length : Int) = l.length - i := by
  unfold sliceFrom at h
  split at h
  · rename_i hc
    injection h with h; subst h
    simp only [List.length_drop]
    omega
  · cases h

theorem slice_np {α} (l : List α) (i j : Int) (h0 : 0 ≤ i) (h1 : i ≤ j) (h2 : j ≤ l.length) : NoPanic (slice l i j) := by
  unfold slice
  simp only [h0, h1, h2, and_self, if_true]
  exact np_pure _

variable {sub : Arg → P Unit}

theorem each_np (hs : ∀ a, NoPanic (sub a)) : ∀ l, NoPanic (each sub l)
  | [] => np_pure _
  | a :: as => np_bind (hs a) (fun _ _ => each_np hs as)

theorem genBegin_np (hs : ∀ a, NoPanic (sub a)) (args : List Arg) : NoPanic (genBegin sub args) := by
  unfold genBegin
  simp only
  split
  · exact np_pure _
  · rename_i hne
    have hpos : (0 : Int) < args.length := by omega
    refine np_bind (sliceTo_np _ _ (by omega) (by omega)) (fun front _ => ?_)
    refine np_bind (each_np hs _) (fun _ _ => ?_)
    refine np_bind (idx_np _ _ (by omega) (by omega)) (fun last _ => hs last)

theorem scArms_np (hs : ∀ a, NoPanic (sub a)) (args : List Arg) :
    ∀ k, k ≤ args.length → NoPanic (scArms sub args k)
  | 0, _ => np_pure _
  | k + 1, h => by
    unfold scArms
    refine np_bind (idx_np _ _ (by omega) (by omega)) (fun a _ => ?_)
    exact np_bind (hs a) (fun _ _ => scArms_np hs args k (by omega))

theorem genShortCircuit_np (hs : ∀ a, NoPanic (sub a)) (args : List Arg) :
    NoPanic (genShortCircuit sub args) := by
  unfold genShortCircuit
  simp only
  split
  · exact np_pure _
  · refine np_bind (idx_np _ _ (by omega) (by omega)) (fun last _ => ?_)
    exact np_bind (hs last) (fun _ _ => scArms_np hs args _ (by omega))

theorem condArms_np (hs : ∀ a, NoPanic (sub a)) (args : List Arg) :
    ∀ k, 2 * k < args.length → NoPanic (condArms sub args k)
  | 0, _ => np_pure _
  | k + 1, h => by
    unfold condArms
    refine np_bind (idx_np _ _ (by omega) (by omega)) (fun p _ => ?_)
    refine np_bind (hs p) (fun _ _ => ?_)
    refine np_bind (idx_np _ _ (by omega) (by omega)) (fun b _ => ?_)
    exact np_bind (hs b) (fun _ _ => condArms_np hs args k (by omega))

theorem genCond_np (hs : ∀ a, NoPanic (sub a)) (args : List Arg) : NoPanic (genCond sub args) := by
  unfold genCond
  split
  · exact np_err
  · rename_i hodd
    refine np_bind (idx_np _ _ (by omega) (by omega)) (fun d _ => ?_)
    exact np_bind (hs d) (fun _ _ => condArms_np hs args _ (by omega))

theorem buildSexpFun_np (hs : ∀ a, NoPanic (sub a)) (formals body : List Arg) :
    NoPanic (buildSexpFun sub formals body) := by
  unfold buildSexpFun
  refine np_guarded fun _ => ?_
  refine np_bind ?_ (fun _ _ => genBegin_np hs body)
  split
  · rename_i hge
    refine np_bind (idx_np _ _ (by omega) (by omega)) (fun amp _ => ?_)
    split
    · refine np_bind (idx_np _ _ (by omega) (by omega)) (fun _ _ => ?_)
      exact np_bind (slice_np _ _ _ (by omega) (by omega) (by omega)) (fun _ _ => np_pure _)
    · exact np_pure _
  · exact np_pure _

theorem genFn_np (hs : ∀ a, NoPanic (sub a)) (args : List Arg) : NoPanic (genFn sub args) := by
  unfold genFn
  refine np_guarded fun hlen => ?_
  refine np_bind (idx_np _ _ (by omega) (by omega)) (fun a0 _ => ?_)
  split
  · refine np_bind (sliceFrom_np _ _ (by omega) (by omega)) (fun body _ => ?_)
    exact buildSexpFun_np hs _ _
  · exact np_err

theorem genDefn_np (hs : ∀ a, NoPanic (sub a)) (nameOk : String → Bool) (args : List Arg) :
    NoPanic (genDefn sub nameOk args) := by
  unfold genDefn
  refine np_guarded fun hlen => ?_
  refine np_bind (idx_np _ _ (by omega) (by omega)) (fun a1 _ => ?_)
  split
  · refine np_bind (idx_np _ _ (by omega) (by omega)) (fun a0 _ => ?_)
    split
    · refine np_bind np_guard (fun _ _ => ?_)
      refine np_bind (sliceFrom_np _ _ (by omega) (by omega)) (fun body _ => ?_)
      exact buildSexpFun_np hs _ _
    · exact np_err
  · exact np_err

theorem genDef_np (hs : ∀ a, NoPanic (sub a)) (lhsOk : String → Bool) (args : List Arg) :
    NoPanic (genDef sub lhsOk args) := by
  unfold genDef
  refine np_guarded fun hlen => ?_
  refine np_bind (idx_np _ _ (by omega) (by omega)) (fun a0 _ => ?_)
  refine np_bind ?_ (fun _ _ => ?_)
  · split
    · refine np_bind (idx_np _ _ (by omega) (by omega)) (fun a _ => hs a)
    · refine np_bind (idx_np _ _ (by omega) (by omega)) (fun a _ => ?_)
      split
      · split
        · exact np_pure _
        · exact np_err
      · exact np_err
  · exact np_bind (idx_np _ _ (by omega) (by omega)) (fun a _ => hs a)

theorem mdefTargets_np (args : List Arg) : ∀ k i, i + k ≤ args.length → NoPanic (mdefTargets args k i)
  | 0, _, _ => np_pure _
  | k + 1, i, h => by
    unfold mdefTargets
    refine np_bind (idx_np _ _ (by omega) (by omega)) (fun a _ => ?_)
    split
    · exact mdefTargets_np args k (i + 1) (by omega)
    · exact mdefTargets_np args k (i + 1) (by omega)
    · exact np_err

theorem genMultiDef_np (hs : ∀ a, NoPanic (sub a)) (args : List Arg) : NoPanic (genMultiDef sub args) := by
  unfold genMultiDef
  refine np_guarded fun hlen => ?_
  refine np_bind (mdefTargets_np args _ 0 (by omega)) (fun _ _ => ?_)
  exact np_bind (idx_np _ _ (by omega) (by omega)) (fun a _ => hs a)

theorem letBinds_np (bs : List Arg) : ∀ k i, 2 * (i + k) ≤ bs.length → NoPanic (letBinds bs k i)
  | 0, _, _ => np_pure _
  | k + 1, i, h => by
    unfold letBinds
    refine np_bind (idx_np _ _ (by omega) (by omega)) (fun l _ => ?_)
    refine np_guarded fun _ => ?_
    refine np_bind (idx_np _ _ (by omega) (by omega)) (fun r _ => ?_)
    exact np_bind (letBinds_np bs k (i + 1) (by omega)) (fun _ _ => np_pure _)

theorem genLet_np (hs : ∀ a, NoPanic (sub a)) (args : List Arg) : NoPanic (genLet sub args) := by
  unfold genLet
  refine np_guarded fun hlen => ?_
  refine np_bind (idx_np _ _ (by omega) (by omega)) (fun a0 _ => ?_)
  split
  · refine np_guarded fun hev => ?_
    refine np_bind (letBinds_np _ _ 0 (by omega)) (fun rs _ => ?_)
    refine np_bind (each_np hs rs) (fun _ _ => ?_)
    refine np_bind (sliceFrom_np _ _ (by omega) (by omega)) (fun body _ => ?_)
    exact genBegin_np hs body
  · exact np_err

theorem genAssert_np (hs : ∀ a, NoPanic (sub a)) (args : List Arg) : NoPanic (genAssert sub args) := by
  unfold genAssert
  refine np_guarded fun hlen => ?_
  refine np_bind (idx_np _ _ (by omega) (by omega)) (fun a _ => ?_)
  refine np_bind (hs a) (fun _ _ => ?_)
  exact np_bind (idx_np _ _ (by omega) (by omega)) (fun _ _ => np_pure _)

theorem genMacexpand_np (args : List Arg) : NoPanic (genMacexpand args) := by
  unfold genMacexpand
  refine np_guarded fun hlen => ?_
  exact np_bind (idx_np _ _ (by omega) (by omega)) (fun _ _ => np_pure _)

theorem genSyntaxQuote_np (args : List Arg) : NoPanic (genSyntaxQuote args) := by
  unfold genSyntaxQuote
  refine np_guarded fun hlen => ?_
  exact idx_np _ _ (by omega) (by omega)

theorem genBreak_np (args : List Arg) : NoPanic (genBreak args) := by
  unfold genBreak
  refine np_guarded fun _ => ?_
  split
  · rename_i h1
    refine np_bind (idx_np _ _ (by omega) (by omega)) (fun a _ => ?_)
    split
    · exact np_pure _
    · exact np_pure _
    · exact np_err
  · exact np_pure _

theorem genPackage_np (hs : ∀ a, NoPanic (sub a)) (args : List Arg) : NoPanic (genPackage sub args) := by
  unfold genPackage
  refine np_guarded fun hlen => ?_
  refine np_bind (idx_np _ _ (by omega) (by omega)) (fun name _ => ?_)
  refine np_bind ?_ (fun _ _ => ?_)
  · split
    · exact np_pure _
    · exact np_pure _
    · exact np_err
  refine np_bind ?_ (fun _ _ => ?_)
  · split
    · refine np_bind (slice_np _ _ _ (by omega) (by omega) (by omega)) (fun mid _ => each_np hs mid)
    · exact np_pure _
  · exact np_bind (idx_np _ _ (by omega) (by omega)) (fun a _ => hs a)

theorem genReturn_np (hs : ∀ a, NoPanic (sub a)) (args : List Arg) : NoPanic (genReturn sub args) :=
  each_np hs args

theorem bind_ok_inv {α β} {m : P α} {f : α → P β} {b : β} (h : (m >>= f) = .ok b) :
    ∃ a, m = .ok a ∧ f a = .ok b := by
  cases m with
  | error e => cases h
  | ok a => exact ⟨a, rfl, h⟩

theorem genFor_np (hs : ∀ a, NoPanic (sub a)) (args : List Arg) : NoPanic (genFor sub args) := by
  unfold genFor
  refine np_guarded fun hlen => ?_
  refine np_bind (idx_np _ _ (by omega) (by omega)) (fun a0 _ => ?_)
  refine np_bind ?_ (fun labelled _ => ?_)
  · split
    · exact np_pure _
    · exact np_pure _
    · exact np_err
    · exact np_pure _
    · exact np_err
  refine np_bind ?_ (fun control hc => ?_)
  · split
    · refine np_guarded fun hlen2 => ?_
      refine np_bind (idx_np _ _ (by omega) (by omega)) (fun a1 _ => ?_)
      split
      · exact np_pure _
      · exact np_err
    · split
      · exact np_pure _
      · exact np_err
  refine np_guarded fun h3 => ?_
  have hstart : labelled = true → ¬ ((args.length : Int) < 2) := by
    intro hl
    rw [if_pos hl] at hc
    obtain ⟨u, hu, _⟩ := bind_ok_inv hc
    exact guard_ok hu
  refine np_bind ?_ (fun body _ => ?_)
  · cases labelled with
    | true =>
      have := hstart rfl
      exact sliceFrom_np _ _ (by simp) (by simp; omega)
    | false => exact sliceFrom_np _ _ (by simp) (by simp; omega)
  refine np_bind (genBegin_np hs body) (fun _ _ => ?_)
  have hc3 : control.length = 3 := by
    by_cases h : control.length = 3
    · exact h
    · exact absurd h h3
  refine np_bind (idx_np _ _ (by omega) (by omega)) (fun i _ => ?_)
  refine np_bind (hs i) (fun _ _ => ?_)
  refine np_bind (idx_np _ _ (by omega) (by omega)) (fun t _ => ?_)
  refine np_bind (hs t) (fun _ _ => ?_)
  exact np_bind (idx_np _ _ (by omega) (by omega)) (fun s _ => hs s)

theorem genAssignment_np (hs : ∀ a, NoPanic (sub a)) (p : PairShape) (pos : Nat) (hp : p.proper = true) :
    NoPanic (genAssignment sub p pos) := by
  unfold genAssignment
  refine np_bind ?_ (fun _ _ => ?_)
  · unfold listToArrayOrPanic
    rw [if_pos hp]
    exact np_pure _
  refine np_guarded fun _ => ?_
  refine np_bind ?_ (fun _ _ => hs _)
  exact np_guard

end ZygoVerif.GenSites
