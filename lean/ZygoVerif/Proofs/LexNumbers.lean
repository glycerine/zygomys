/-
Integers as the printer writes them (`strconv.Itoa`): the numeral is made of decimal digits,
is lexed as one atom, classified as a decimal token and converted back to the same integer —
for every 64-bit integer. The sign is read through the one-rune look-ahead behind an operator rune, whose step is
characterised once (`stepBuiltin_eq`, from the state `step_ahead`): the next rune makes the operator the sign of a numeral
(`signGlues`), `-.` (`dotGlues`), a two-rune operator (`opMerges`), or leaves it an operator of its own; `reads_minus_digit`
and `reads_minus_dot_digit` are the first two, `reads_op2` and `settle_op1` (Proofs/LexSpacingSteps) the others.
-/
import ZygoVerif.Proofs.LexLiterals
import ZygoVerif.Proofs.DecodeAtom
import ZygoVerif.Model.Parser
namespace ZygoVerif.Lexer
open ZygoVerif.PrintData ZygoVerif.NumLit

def digitChar (d : Nat) : Char := Char.ofNat (48 + d)

theorem isDig_digitChar : ∀ d, d < 10 → isDig (Char.ofNat (48 + d)) = true := by decide
theorem digitVal_digitChar : ∀ d, d < 10 → digitVal (Char.ofNat (48 + d)) = some d := by decide
theorem isSpecial_digitChar : ∀ d, d < 10 → isSpecial (Char.ofNat (48 + d)) = false := by decide
theorem digitChar_ne_underscore : ∀ d, d < 10 → Char.ofNat (48 + d) ≠ '_' := by decide

theorem decDigits_all (p : Char → Prop) (hp : ∀ d, d < 10 → p (Char.ofNat (48 + d))) :
    ∀ f n, ∀ c ∈ decDigits f n, p c := by
  intro f
  induction f with
  | zero =>
    intro n c hc
    simp only [decDigits, List.mem_singleton] at hc
    subst hc; exact hp _ (Nat.mod_lt _ (by decide))
  | succ f ih =>
    intro n c hc
    unfold decDigits at hc
    split at hc
    · rename_i hlt
      simp only [List.mem_singleton] at hc
      subst hc; exact hp _ hlt
    · simp only [List.mem_append, List.mem_singleton] at hc
      rcases hc with hc | hc
      · exact ih _ c hc
      · subst hc; exact hp _ (Nat.mod_lt _ (by decide))

theorem decDigits_ne_nil (f n : Nat) : decDigits f n ≠ [] := by
  cases f with
  | zero => simp [decDigits]
  | succ f => unfold decDigits; split <;> simp

theorem natDec_isDig (n : Nat) : ∀ c ∈ natDec n, isDig c = true :=
  decDigits_all (fun c => isDig c = true) isDig_digitChar n n

theorem natDec_not_special (n : Nat) : ∀ c ∈ natDec n, isSpecial c = false :=
  decDigits_all (fun c => isSpecial c = false) isSpecial_digitChar n n

theorem natDec_ne_nil (n : Nat) : natDec n ≠ [] := decDigits_ne_nil n n

theorem natOfDigits_snoc (ds : List Char) (c : Char) (m d : Nat) (hm : natOfDigits 10 ds = some m)
    (hd : digitVal c = some d) (hlt : d < 10) : natOfDigits 10 (ds ++ [c]) = some (m * 10 + d) := by
  unfold natOfDigits at hm ⊢
  have hne : ds.isEmpty = false := by
    cases ds with
    | nil => simp at hm
    | cons a b => rfl
  have hne2 : (ds ++ [c]).isEmpty = false := by simp
  simp only [hne, Bool.false_eq_true, ↓reduceIte] at hm
  simp only [hne2, Bool.false_eq_true, ↓reduceIte, List.foldl_append, List.foldl_cons, List.foldl_nil, hm, hornerStep, hd, hlt]

theorem natOfDigits_single (c : Char) (d : Nat) (hd : digitVal c = some d) (hlt : d < 10) :
    natOfDigits 10 [c] = some d := by
  simp [natOfDigits, hornerStep, hd, hlt]

/-- `strconv.ParseUint(strconv.FormatUint(n, 10), 10, …)` gives `n` back (before the range check) -/
theorem natOfDigits_decDigits : ∀ f n, n < 10 ^ (f + 1) → natOfDigits 10 (decDigits f n) = some n := by
  intro f
  induction f with
  | zero =>
    intro n hn
    have : n % 10 = n := Nat.mod_eq_of_lt (by simpa using hn)
    simp only [decDigits, this]
    exact natOfDigits_single _ n (digitVal_digitChar n (by simpa using hn)) (by simpa using hn)
  | succ f ih =>
    intro n hn
    unfold decDigits
    split
    · rename_i hlt
      exact natOfDigits_single _ n (digitVal_digitChar n hlt) hlt
    · have hq : n / 10 < 10 ^ (f + 1) := by
        rw [Nat.div_lt_iff_lt_mul (by decide)]
        calc n < 10 ^ (f + 1 + 1) := hn
          _ = 10 ^ (f + 1) * 10 := by rw [Nat.pow_succ]
      have h1 := ih (n / 10) hq
      have hd := digitVal_digitChar (n % 10) (Nat.mod_lt _ (by decide))
      rw [natOfDigits_snoc _ _ _ _ h1 hd (Nat.mod_lt _ (by decide))]
      congr 1
      omega

theorem natOfDigits_natDec (n : Nat) : natOfDigits 10 (natDec n) = some n := by
  apply natOfDigits_decDigits n n
  have h1 : n < 10 ^ n := Nat.lt_pow_self (by decide)
  have h2 : 10 ^ n ≤ 10 ^ (n + 1) := Nat.pow_le_pow_right (by decide) (Nat.le_succ n)
  omega

theorem digThenDigU_digits (ds : List Char) (hne : ds ≠ []) (hd : ∀ c ∈ ds, isDig c = true) : digThenDigU ds = true := by
  cases ds with
  | nil => exact absurd rfl hne
  | cons d r =>
    simp only [digThenDigU, hd d (by simp), Bool.true_and, List.all_eq_true]
    intro c hc; simp [isDigU, hd c (by simp [hc])]

theorem isDigU_plain (c : Char) (h : isDigU c = true) : isSpecial c = false := by
  simp only [isDigU, Bool.or_eq_true, beq_iff_eq] at h
  rcases h with h | rfl
  · exact isDig_cases (fun c => isSpecial c = false) isSpecial_digitChar c h
  · decide

theorem decimalRe_signed_digits (neg : Bool) (ds : List Char) (hne : ds ≠ []) (hd : ∀ c ∈ ds, isDig c = true) :
    decimalRe ((if neg then ['-'] else []) ++ ds) = true := by
  cases neg with
  | true => exact digThenDigU_digits ds hne hd
  | false =>
    cases ds with
    | nil => exact absurd rfl hne
    | cons d r =>
      have : dropMinus (d :: r) = d :: r := dropMinus_cons (isDig_facts d (hd d (by simp))).2.2.2.2.2.2.1 r
      simp only [Bool.false_eq_true, ↓reduceIte, List.nil_append, decimalRe, this]
      exact digThenDigU_digits (d :: r) hne hd

theorem decodeAtom_itoa (v : Int) : decodeAtom (itoa v) = .ok ⟨.decimal, itoa v⟩ := by
  apply decodeAtom_of_decimalRe
  unfold itoa
  split
  · exact decimalRe_signed_digits true _ (natDec_ne_nil _) (natDec_isDig _)
  · exact decimalRe_signed_digits false _ (natDec_ne_nil _) (natDec_isDig _)

theorem filter_underscore_digits (ds : List Char) (hd : ∀ c ∈ ds, isDig c = true) :
    ds.filter (· != '_') = ds := by
  rw [List.filter_eq_self]
  intro c hc
  have := (isDig_facts c (hd c hc)).2.2.2.2.2.2.2
  simpa using this

/-- for every 64-bit integer: the decimal token of `strconv.Itoa v` converts back to `v` -/
theorem atomOfTok_itoa (v : Int) (h1 : -(2 : Int) ^ 63 ≤ v) (h2 : v < 2 ^ 63) :
    Parser.atomOfTok ⟨.decimal, itoa v⟩ = some (some (.int v)) := by
  simp only [Parser.atomOfTok]
  unfold itoa
  split
  · rename_i hneg
    have hf : ('-' :: natDec v.natAbs).filter (· != '_') = '-' :: natDec v.natAbs := by
      rw [List.filter_cons]
      simp [filter_underscore_digits _ (natDec_isDig _)]
    rw [hf]
    simp only [parseInt64, natOfDigits_natDec]
    have : v.natAbs ≤ 2 ^ 63 := by omega
    simp only [this, ↓reduceIte, Option.map_some]
    have hv : -(v.natAbs : Int) = v := by omega
    rw [hv]
  · rename_i hpos
    rw [filter_underscore_digits _ (natDec_isDig _)]
    have hne := natDec_ne_nil v.toNat
    have hd := natDec_isDig v.toNat
    cases hds : natDec v.toNat with
    | nil => exact absurd hds hne
    | cons d r =>
      have g := isDig_facts d (hd d (by rw [hds]; simp))
      have hnm : d ≠ '-' := g.2.2.2.2.2.2.1
      have hnp : d ≠ '+' := by
        intro h; subst h; have := hd '+' (by rw [hds]; simp); revert this; decide
      have hp : parseInt64 10 (d :: r) = (match natOfDigits 10 (d :: r) with
          | some n => if n < 2 ^ 63 then some (n : Int) else none
          | none => none) := by
        unfold parseInt64
        split
        · rename_i heq; simp only [List.cons.injEq] at heq; exact absurd heq.1 hnm
        · rename_i heq; simp only [List.cons.injEq] at heq; exact absurd heq.1 hnp
        · rfl
      rw [hp, ← hds, natOfDigits_natDec]
      have : v.toNat < 2 ^ 63 := by omega
      simp only [this, ↓reduceIte, Option.map_some]
      have hv : (v.toNat : Int) = v := by omega
      rw [hv]

theorem stepMode_builtin (s : LexCore) (r : Char) (h : s.state = .builtinOperator) : stepMode s r = stepBuiltin s r := by
  simp only [stepMode, h]

/-- `o` followed by `c` is a two-rune operator of `BuiltinOpRegex` -/
def opMerges (o c : Char) : Bool := builtinOpRe [o, c]

/-- `-` followed by a digit where a signed number may start: the sign of a numeral -/
def signGlues (o p c : Char) : Bool := o == '-' && canStartSignedNumberAfter p && isDig c

/-- `-.` where a signed number may start: the next rune decides between `-.5` and the symbol `-`
(LexerMinusDot, repo fix C12-05) -/
def dotGlues (o p c : Char) : Bool := o == '-' && canStartSignedNumberAfter p && c == '.'

theorem neg_atom_iff (c : Char) : (floatRe ['-', c] || decimalRe ['-', c]) = isDig c := by
  have h1 : floatRe ['-', c] = false := by
    simp only [floatRe, dropMinus]
    unfold floatBody
    split
    · rename_i heq
      simp only [List.cons.injEq] at heq
      obtain ⟨_, rfl⟩ := heq
      simp [digThenDigU]
    · rename_i heq
      simp only [List.cons.injEq] at heq
      obtain ⟨rfl, rfl⟩ := heq
      split <;> simp
    · rfl
  have h2 : decimalRe ['-', c] = isDig c := by simp [decimalRe, dropMinus, digThenDigU]
  rw [h1, h2]; rfl

theorem stepBuiltin_eq (s : LexCore) (c : Char) :
    stepBuiltin s c =
      (if signGlues s.prevrune s.preBuiltinRune c then .ok { s with state := .normal, buffer := s.buffer ++ [s.prevrune, c] }
       else if dotGlues s.prevrune s.preBuiltinRune c then .ok { s with state := .minusDot }
       else if opMerges s.prevrune c then
         .ok (appendToken { s with state := .normal } ⟨.symbol,
           if [s.prevrune, c] == "&&".toList then "and".toList else if [s.prevrune, c] == "||".toList then "or".toList else [s.prevrune, c]⟩)
       else stepNormal (appendToken { s with state := .normal } ⟨.symbol, [s.prevrune]⟩) c) := by
  have key : (s.prevrune == '-' && canStartSignedNumberAfter s.preBuiltinRune &&
      (floatRe [s.prevrune, c] || decimalRe [s.prevrune, c])) = signGlues s.prevrune s.preBuiltinRune c := by
    unfold signGlues
    by_cases hm : s.prevrune = '-'
    · rw [hm, neg_atom_iff]
    · rw [beq_eq_false_iff_ne.2 hm]; rfl
  unfold stepBuiltin dotGlues opMerges
  dsimp only
  rw [key]

def op2Tok (o c : Char) : Token :=
  ⟨.symbol, if [o, c] == "&&".toList then "and".toList else if [o, c] == "||".toList then "or".toList else [o, c]⟩

/-- one rune from the look-ahead: the sign of a numeral, `-.`, the second rune of a two-rune operator, or anything else —
then the operator is queued and the rune is read in the normal mode -/
theorem step_ahead (s : LexCore) (o p c : Char) (h : OpAhead o p s) :
    stepMode (pushRing s c) c =
      (if signGlues o p c then .ok { pushRing s c with state := .normal, buffer := (pushRing s c).buffer ++ [o, c] }
       else if dotGlues o p c then .ok { pushRing s c with state := .minusDot }
       else if opMerges o c then .ok (appendToken { pushRing s c with state := .normal } (op2Tok o c))
       else stepNormal (appendToken { pushRing s c with state := .normal } ⟨.symbol, [o]⟩) c) := by
  obtain ⟨hst, -, rfl, rfl⟩ := h
  rw [stepMode_builtin _ _ (show (pushRing s c).state = .builtinOperator from hst), stepBuiltin_eq]
  rfl

theorem reads_minus_start (l : Char) : Reads (Norm []) l ['-'] [] (OpAhead '-' l) :=
  reads_opRune [] l '-' (by decide) (Or.inl rfl) (by simp [sciGlues, sciPrefix, utf8Len])

/-- `-` followed by a digit after a rune that can precede a signed number: a negative numeral begins -/
theorem reads_minus_digit (l d : Char) (hl : canStartSignedNumberAfter l = true) (hd : isDig d = true) :
    Reads (Norm []) l ['-', d] [] (Norm ['-', d]) := by
  refine Reads.cons (reads_minus_start l) (Reads.step fun s h _ => ?_)
  have h1 : signGlues '-' l d = true := by simp [signGlues, hl, hd]
  refine ⟨_, (step_ahead s _ _ _ h).trans (if_pos h1), ⟨rfl, ?_⟩, (List.append_nil _).symm⟩
  show s.buffer ++ ['-', d] = ['-', d]
  rw [h.2.1]; rfl

/-- `-.` followed by a digit after a rune that can precede a signed number: a negative fraction
without integer part begins (repo fix C12-05) -/
theorem reads_minus_dot_digit (l d : Char) (hl : canStartSignedNumberAfter l = true) (hd : isDig d = true) :
    Reads (Norm []) l ['-', '.', d] [] (Norm ['-', '.', d]) := by
  refine Reads.cons (reads_minus_start l) (Reads.cons (Q := fun s => s.state = .minusDot ∧ s.buffer = [])
    (ts := []) (ts' := []) (Reads.step fun s h _ => ?_) (Reads.step ?_))
  · have h1 : signGlues '-' l '.' = false := by simp [signGlues, isDig]
    have h2 : dotGlues '-' l '.' = true := by simp [dotGlues, hl]
    exact ⟨_, (step_ahead s _ _ _ h).trans ((if_neg (ne_true_of_eq_false h1)).trans (if_pos h2)), ⟨rfl, h.2.1⟩,
      (List.append_nil _).symm⟩
  · intro s ⟨hst, hb⟩ _
    have hst' : (pushRing s d).state = .minusDot := hst
    have hdd : ('0' ≤ d && d ≤ '9') = true := hd
    refine ⟨{ pushRing s d with state := .normal, buffer := (pushRing s d).buffer ++ ['-', '.', d] }, ?_, ⟨rfl, ?_⟩,
      (List.append_nil _).symm⟩
    · simp only [stepMode, hst', stepMinusDot, hdd, ↓reduceIte]
    · show s.buffer ++ ['-', '.', d] = ['-', '.', d]
      rw [hb]; rfl

theorem canStart_lead : ∀ l ∈ ['\x00', ' ', '(', '['], canStartSignedNumberAfter l = true := by decide

end ZygoVerif.Lexer
