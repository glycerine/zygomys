/-
C05 on the executable VM model (`Model/VM.lean`): the error exit of `Run`.

`runLoop`'s error arm is `restore st; pc := curSize; throw err`, and nothing else in `run` can
produce `Fault.err`. So whatever the failing instruction did — at ANY depth of re-entry
(`callExpr → evalCallExpr → nested → run`, `callUser → builtin → applyFn/forceLazy → run`:
all of that happens inside the opaque `exec fuel instr` of this loop) — the state in which
`run` returns the error is `park (restoreSt st s₁)` for the captured control state `st` and
the state `s₁` in which the failing instruction stopped. `restore` sets the three stack
SIZES unconditionally (`truncate` cuts or pads), `curfunc` and `pc`.

No hypothesis on the instruction set, the code, the stacks or the call depth.
-/
import ZygoVerif.Proofs.VMStep
namespace ZygoVerif.Contain
open ZygoVerif.Core ZygoVerif.VM ZygoVerif.Sim

theorem truncate_length {α} (l : List (Option α)) (n : Nat) : (truncate l n).length = n := by
  unfold truncate
  split
  · simp only [List.length_drop]; omega
  · simp only [List.length_append, List.length_replicate]; omega

/-- what lies deeper than a cut stays: the frame condition of an instruction (`Top.frame`) and of `restore`
(`suffix_suspAt`) -/
theorem suffix_drop {α} {base l : List α} (h : base <:+ l) {j : Nat} (hj : base.length + j ≤ l.length) :
    base <:+ l.drop j := by
  have := List.drop_suffix_drop_left l (show j ≤ l.length - base.length by omega)
  rwa [← List.suffix_iff_eq_drop.mp h] at this

/-- `TruncateToSize` down to (or at) the present size keeps the deepest `n` cells … -/
theorem truncate_of_suffix {α} (l base : List (Option α)) (h : base <:+ l) :
    truncate l base.length = base := by
  unfold truncate
  rw [if_pos h.length_le]
  exact (List.suffix_iff_eq_drop.mp h).symm

/-- … and above the present size it PADS with nil cells on top. -/
theorem truncate_pad {α} (l : List (Option α)) (n : Nat) (h : l.length < n) :
    truncate l n = List.replicate (n - l.length) none ++ l := by
  unfold truncate
  rw [if_neg (by omega)]

/-- `restore` takes set-aside stacks off down to the recorded number; it never pads -/
theorem suspAt_eq_drop (c : CtlState) (s : St) : suspAt c s = s.suspended.drop (s.suspended.length - c.susp) := by
  unfold suspAt
  split
  · rfl
  · rw [Nat.sub_eq_zero_of_le (Nat.le_of_not_gt ‹_›), List.drop_zero]

theorem suspAt_of_suffix (s s₁ : St) (h : s.suspended <:+ s₁.suspended) :
    suspAt (captureOf s) s₁ = s.suspended := by
  rw [suspAt_eq_drop]
  exact (List.suffix_iff_eq_drop.mp h).symm

theorem suffix_suspAt {base : List (List (Option Nat))} {c : CtlState} {s : St} (h : base <:+ s.suspended)
    (hc : base.length ≤ c.susp) : base <:+ suspAt c s := by
  rw [suspAt_eq_drop]
  exact suffix_drop h (by have := h.length_le; omega)

/-- **`restore` pops the stack of scope stacks**, the live one on top of those a lazy force set aside, down to the one
that was live at the capture: `linAt` is what comes to the top, `suspAt` what stays underneath. -/
theorem linAt_cons_suspAt (c : CtlState) (s : St) :
    linAt c s :: suspAt c s = (s.linear :: s.suspended).drop (s.suspended.length - c.susp) := by
  unfold linAt suspAt
  split
  · obtain ⟨k, hk⟩ : ∃ k, s.suspended.length - c.susp = k + 1 := ⟨s.suspended.length - c.susp - 1, by omega⟩
    rw [hk, List.drop_succ_cons, Nat.add_sub_cancel, List.getD_eq_getElem?_getD, List.getElem?_eq_getElem (by omega)]
    exact (List.drop_eq_getElem_cons (by omega)).symm
  · rw [Nat.sub_eq_zero_of_le (Nat.le_of_not_gt ‹_›), List.drop_zero]

/-- hence a scope stack `lin` that still lies in that stack, over the recorded number of others, is the one `restore`
makes live again (before cutting it to size): the nested evaluation came back with the live stack (`lin` is it), or
a force set it aside and nothing took it off (`lin` is the newest set aside) -/
theorem restore_scopeStacks (c : CtlState) (s : St) (lin : List (Option Nat)) (susp : List (List (Option Nat)))
    (h : (lin :: susp) <:+ (s.linear :: s.suspended)) (hc : susp.length = c.susp) :
    linAt c s = lin ∧ suspAt c s = susp := by
  have e := List.suffix_iff_eq_drop.mp h
  rw [List.length_cons, List.length_cons, Nat.add_sub_add_right, hc, ← linAt_cons_suspAt] at e
  exact List.cons.inj e.symm

/-- **`restore` after a nested evaluation that came back to the recorded sizes**: nothing is cut or padded, the scope
stack that was live at the capture is live again, `curfunc` and `pc` are reset. With `lin := s.linear` (nothing set aside
since) only the two registers change; with `s.suspended = lin :: susp` a force's stack comes back. -/
theorem restoreSt_sized (c : CtlState) (s : St) (lin : List (Option Nat)) (susp : List (List (Option Nat)))
    (h : (lin :: susp) <:+ (s.linear :: s.suspended)) (hs : susp.length = c.susp) (hd : s.data.length = c.dataSize)
    (ha : s.addr.length = c.addrSize) (hl : lin.length = c.linearSize) :
    restoreSt c s = { s with linear := lin, suspended := susp, curfunc := c.curfunc, pc := c.pc } := by
  obtain ⟨h1, h2⟩ := restore_scopeStacks c s lin susp h hs
  have self {α} (l : List (Option α)) : truncate l l.length = l := truncate_of_suffix l l (List.suffix_refl l)
  rw [restoreSt, h1, h2, ← hd, ← ha, ← hl, self, self, self]

/-- `TruncateToSize` invents no cell but nil -/
theorem mem_truncate {α} {l : List (Option α)} {n : Nat} {c : Option α} (h : c ∈ truncate l n) : c ∈ l ∨ c = none := by
  unfold truncate at h
  split at h
  · exact Or.inl (List.mem_of_mem_drop h)
  · rcases List.mem_append.mp h with h | h
    · exact Or.inr (List.eq_of_mem_replicate h)
    · exact Or.inl h

/-- `env.pc = env.CurrentFunctionSize()` — the program counter parked behind the code. -/
def park (s : St) : St := { s with pc := curSize s }

theorem loopTail_err (n : Nat) (st : CtlState) (s1 : St) :
    loopTail n st (.error .err, s1) = (.error .err, park (restoreSt st s1)) := by
  simp only [loopTail, run_restore]; rfl

structure SizedAs (c : CtlState) (s' : St) : Prop where
  data : s'.data.length = c.dataSize
  linear : s'.linear.length = c.linearSize
  addr : s'.addr.length = c.addrSize
  curfunc : s'.curfunc = c.curfunc
  pcEnd : s'.pc = curSize s'
  susp : s'.suspended.length ≤ c.susp

theorem restore_park_sized (c : CtlState) (s : St) : SizedAs c (park (restoreSt c s)) where
  data := truncate_length _ _
  linear := truncate_length _ _
  addr := truncate_length _ _
  curfunc := rfl
  pcEnd := rfl
  susp := by
    show (suspAt c s).length ≤ c.susp
    rw [suspAt_eq_drop, List.length_drop]
    omega

/-- what restore/park leave alone: every table of the interpreter (scope cells, function
objects, loop records, thunks, data heap, trace) -/
structure SameStore (a b : St) : Prop where
  scopes : a.scopes = b.scopes
  fns : a.fns = b.fns
  loops : a.loops = b.loops
  loopstack : a.loopstack = b.loopstack
  lazies : a.lazies = b.lazies
  heap : a.heap = b.heap
  trace : a.trace = b.trace

theorem SameStore.rfl' (a : St) : SameStore a a := ⟨rfl, rfl, rfl, rfl, rfl, rfl, rfl⟩

theorem restore_park_sameStore (c : CtlState) (s : St) : SameStore (park (restoreSt c s)) s :=
  ⟨rfl, rfl, rfl, rfl, rfl, rfl, rfl⟩

/-- **The only way `runLoop` returns `err`**: some instruction of THIS loop (fetched in a state
`s₀` of this loop, executed with some fuel) returned `err` in state `s₁`; the loop answers
with `restore st` applied to `s₁` and the pc parked. An invariant `P` of the instruction steps
is carried to the fault state `s₁`. -/
theorem runLoop_err_inv (P : St → Prop) (hP : ∀ f i s₀, P s₀ → P ((exec f i).run s₀).2)
    (fuel : Nat) (st : CtlState) (s s' : St) (hp : P s) (h : (runLoop fuel st).run s = (.error .err, s')) :
    ∃ s₁, P s₁ ∧ (∃ s₀ i f, (exec f i).run s₀ = (.error .err, s₁)) ∧ s' = park (restoreSt st s₁) := by
  have := runLoop_inv (I := P) (fun m i s s1 hs _ _ hx => by have := hP m i s hs; rwa [hx] at this) fuel st s hp
  rw [h] at this
  obtain e | ⟨s₀, i, m, s₁, hs₀, _, hx, hl⟩ := this
  · cases e
  · rw [loopTail_err] at hl
    cases hl
    exact ⟨s₁, by have := hP m i s₀ hs₀; rwa [hx] at this, ⟨s₀, i, m, hx⟩, rfl⟩

def runTail : M Val := do
  let s ← get
  if s.data.isEmpty then pushData .nil
  popData

theorem runTail_not_err (s s' : St) : runTail.run s ≠ (.error .err, s') := by
  unfold runTail
  simp only [run_bind, run_get]
  rcases hd : s.data with _ | ⟨_ | v, rest⟩
  · simp only [List.isEmpty_nil, if_true]
    intro h; cases h
  · simp only [List.isEmpty_cons, Bool.false_eq_true, if_false, run_popData, hd]
    intro h; cases h
  · simp only [List.isEmpty_cons, Bool.false_eq_true, if_false, run_popData, hd]
    intro h; cases h

theorem run_succ_eq (fuel : Nat) : run (fuel + 1) = (do let st ← capture; runLoop fuel st; runTail) := by
  rw [run]; rfl

/-- **The only way `Run` returns `err`** — the same, with the control state captured at entry. -/
theorem run_err_inv (P : St → Prop) (hP : ∀ f i s₀, P s₀ → P ((exec f i).run s₀).2) (fuel : Nat) (s s' : St) (hp : P s)
    (h : (run fuel).run s = (.error .err, s')) :
    ∃ s₁, P s₁ ∧ (∃ s₀ i f, (exec f i).run s₀ = (.error .err, s₁)) ∧ s' = park (restoreSt (captureOf s) s₁) := by
  cases fuel with
  | zero => rw [run] at h; cases h
  | succ fuel =>
    rw [run_succ_eq] at h
    simp only [run_bind, run_capture] at h
    rcases hl : (runLoop fuel (captureOf s)).run s with ⟨r, s2⟩
    rw [hl] at h
    cases r with
    | ok u => exact absurd h (runTail_not_err s2 s')
    | error flt =>
      dsimp only at h
      injection h with h1 h2
      subst h2
      injection h1 with h1
      subst h1
      exact runLoop_err_inv P hP fuel _ s s2 hp hl

theorem run_err_shape (fuel : Nat) (s s' : St) (h : (run fuel).run s = (.error .err, s')) :
    ∃ s₀ i f s₁, (exec f i).run s₀ = (.error .err, s₁) ∧ s' = park (restoreSt (captureOf s) s₁) :=
  let ⟨s₁, _, ⟨s₀, i, f, hx⟩, e⟩ := run_err_inv (fun _ => True) (fun _ _ _ _ => trivial) fuel s s' trivial h
  ⟨s₀, i, f, s₁, hx, e⟩

/-- whatever state `s` `Run` was entered in (any call depth, any stacks)
and whatever ran: when `Run` returns an error, the address, scope and data stacks have exactly
the sizes they had on entry, `curfunc` is the function of entry, the pc is parked behind its
code, and no scope stack set aside after entry remains. -/
theorem run_error_sized (fuel : Nat) (s s' : St) (h : (run fuel).run s = (.error .err, s')) :
    SizedAs (captureOf s) s' := by
  obtain ⟨_, _, _, s1, _, rfl⟩ := run_err_shape fuel s s' h
  exact restore_park_sized _ _

theorem runLoop_error_sized (fuel : Nat) (st : CtlState) (s s' : St)
    (h : (runLoop fuel st).run s = (.error .err, s')) : SizedAs st s' := by
  obtain ⟨s1, _, _, rfl⟩ := runLoop_err_inv (fun _ => True) (fun _ _ _ _ => trivial) fuel st s s' trivial h
  exact restore_park_sized _ _

end ZygoVerif.Contain
