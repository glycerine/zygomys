/-
C02, execution half — top level: a program text of the fragment Fc (Fv with binder names
that are not builtin names, plus calls of first-order builtins, array literals and `for`), loaded
and run by the VM model and evaluated by the reference evaluator, from related states at rest (`RelC`, `AtRest`;
`relC_initSt`: the initial states are such).
-/
import ZygoVerif.Proofs.SimFc
import ZygoVerif.Proofs.SimFvTop
namespace ZygoVerif.Sim
open ZygoVerif.Core ZygoVerif.VM

theorem run_of_landsE {s s' : St} {pre code : List Instr} {v : Val} (h : Seg s pre code [])
    (hr : ReachX s s') (hl : Lands code.length v s s') :
    ∃ N, ∀ fuel, N ≤ fuel → (run fuel).run s = (.ok v, s'.jmp s'.pc s.data) :=
  hr.elim fun K ⟨m, hr⟩ => ⟨K + m + 2, fun fuel hf => run_of_reach h hr hl.fn hl.pc hl.data fuel hf⟩

theorem globals_initSt : Globals Ref.initSt := by
  intro h hh
  refine ⟨?_, fun i hi => ?_⟩
  · revert h; decide
  · cases i with
    | zero => omega
    | succ i => rfl

theorem lookup_builtins (x : String) (v : Val) : ∀ (names : List String),
    (names.map (fun n => (n, Val.builtin n))).lookup x = some v → v = .builtin x ∧ x ∈ names
  | [], h => by simp at h
  | n :: names, h => by
    simp only [List.map_cons, List.lookup_cons] at h
    by_cases hx : (x == n) = true
    · rw [hx] at h
      have hxn : x = n := by simpa using hx
      subst hxn
      simp only [Option.some.injEq] at h
      exact ⟨h.symm, by simp⟩
    · have hx' : (x == n) = false := by simpa using hx
      rw [hx'] at h
      obtain ⟨h1, h2⟩ := lookup_builtins x v names h
      exact ⟨h1, List.mem_cons_of_mem _ h2⟩

theorem initVars_lookup (x : String) (v : Val)
    (h : ([("nil", Val.nil), ("null", Val.nil)] ++ VM.globalNames.map (fun n => (n, Val.builtin n))).lookup x = some v) :
    v = .nil ∨ (v = .builtin x ∧ x ∈ VM.globalNames) := by
  simp only [List.cons_append, List.nil_append, List.lookup_cons] at h
  split at h
  · left; injection h with h; exact h.symm
  · split at h
    · left; injection h with h; exact h.symm
    · right; exact lookup_builtins x v _ h

theorem cleanSt_initSt : CleanSt Ref.initSt := by
  refine ⟨fun i x v hv => ?_, fun r y hy => ?_⟩
  · cases i with
    | zero =>
      rcases initVars_lookup x v hv with rfl | ⟨rfl, _⟩ <;> trivial
    | succ i => exact absurd hv (by show (List.lookup x ([] : List (String × Val))) ≠ some v; simp)
  · exact absurd hy (by show y ∉ ([] : List Val); simp)

theorem relC_initSt : RelC initSt Ref.initSt 0 :=
  ⟨rel_initSt.toRelCore, FnChainOk.root 0 (by decide) rfl ⟨[], rfl⟩, globals_initSt, cleanSt_initSt⟩

/-- loading a text whose compilation registered no function keeps the relation -/
theorem relC_loaded {s : St} {rs : Ref.St} (h : RelC s rs 0) (hs : AtRest s) {gs' : GS} (hf : gs'.fns = s.fns)
    (code : List Instr) : RelC (loadedF s gs' code) { rs with trace := [] } 0 := by
  have hpar : ∀ id, (fnOf (loadedF s gs' code) id).parent = (fnOf s id).parent := by
    intro id
    rw [fnOf_loadedF, hf, List.getElem?_set]
    by_cases hid : mainFn = id
    · subst hid; simp only [hs.main, if_true, Option.getD_some]; rfl
    · simp only [hid, if_false]; rw [← List.getD_eq_getElem?_getD]; rfl
  have hclo : ∀ id, (fnOf (loadedF s gs' code) id).closing = (fnOf s id).closing := by
    intro id
    rw [fnOf_loadedF, hf, List.getElem?_set]
    by_cases hid : mainFn = id
    · subst hid; simp only [hs.main, if_true, Option.getD_some]; rfl
    · simp only [hid, if_false]; rw [← List.getD_eq_getElem?_getD]; rfl
  refine ⟨⟨h.len, h.vars, h.nofn, h.chain, h.heap, rfl⟩, ?_, h.globals, h.clean⟩
  have hcur : (loadedF s gs' code).curfunc = s.curfunc := hs.cur.symm
  rw [hcur]
  exact h.fnchain.congr (s := s) (s' := loadedF s gs' code) rfl
    (by show (List.set gs'.fns mainFn _).length = _; rw [hf]; simp) hpar hclo

/-- what `runText` must report for a reference result -/
def TextOut (out : VM.Outcome × St × Bool) (res : Ref.R Val) : Prop := TextOutQ (fun _ _ => True) out res

/-- A non-empty Fc program text, loaded and run, from a resting VM state related to the
reference state: with enough fuel, `runText` reports class `ok` with the value and trace of the
reference evaluator, or class `err` with the reference trace — whichever the reference yields. -/
theorem runText_Fc (s : St) (rs : Ref.St) (p : List Expr) (hne : p ≠ []) (hp : FcList p = true)
    (hs : AtRest s) (hrel : RelC s rs 0) (n : Nat) :
    ∃ N, ∀ fuel, N ≤ fuel → TextOut (runText fuel p s) (Ref.evalBegin n p 0 { rs with trace := [] }) := by
  obtain ⟨code, t, gs', hc, -, hfns⟩ := compileBegin_total_Fc p hne hp (isFnScope s) {}
    s.gs rfl
  have hseg := seg_loadedF hs code (compileBegin_facts p _ _ _ _ hc).2.1
  have hsim := segment_Fc_begin p hne hp _ {} rfl _ code t _ hc _ _ 0 _ [] (relC_loaded hrel hs hfns.fns code) hseg n
  refine runText_of_run _ s p hc ?_
  cases hres : Ref.evalBegin n p 0 { rs with trace := [] } with
  | ok v rs' =>
    rw [hres] at hsim
    obtain ⟨s1, r, l, rel1, -⟩ := hsim
    exact ⟨_, v, run_of_landsE hseg r l, congrArg (pr · v) rel1.heap, rel1.trace, trivial⟩
  | err rs' => rw [hres] at hsim; exact run_of_failsE hsim
  | timeout => trivial
  | brk l rs' => rw [hres] at hsim; exact hsim.elim
  | cont l rs' => rw [hres] at hsim; exact hsim.elim

end ZygoVerif.Sim
