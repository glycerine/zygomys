/-
Lemmas for C09 about the model generator (`Model/Gen.lean`): which context (`Ctx.tail`,
`Ctx.scopes`) a sub-expression is compiled under, that its code is a contiguous
segment of the code of the enclosing form, and that the generator reaches it with the tables it
started with still standing (`Emits`; `knownFn_keep`: a registered function is the same one there).
-/
import ZygoVerif.Proofs.GenFacts
import ZygoVerif.Spec.TailPos
namespace ZygoVerif.Tail
open ZygoVerif.Core ZygoVerif.VM ZygoVerif.TailSpec
open ZygoVerif.Bal
open ZygoVerif.Sim (KeepFns compile_facts compileSC_facts compileArms_facts compileBinds_facts)

def Seg (code sub : List Instr) : Prop := ∃ pre post, code = pre ++ sub ++ post

theorem Seg.refl (c : List Instr) : Seg c c := ⟨[], [], by simp⟩

theorem Seg.trans {a b c : List Instr} (h1 : Seg a b) (h2 : Seg b c) : Seg a c := by
  obtain ⟨p1, q1, rfl⟩ := h1
  obtain ⟨p2, q2, rfl⟩ := h2
  exact ⟨p1 ++ p2, q2 ++ q1, by simp [List.append_assoc]⟩

theorem Seg.left {b s : List Instr} (a : List Instr) (h : Seg b s) : Seg (a ++ b) s := by
  obtain ⟨p, q, rfl⟩ := h
  exact ⟨a ++ p, q, by simp [List.append_assoc]⟩

theorem Seg.right {a s : List Instr} (b : List Instr) (h : Seg a s) : Seg (a ++ b) s := by
  obtain ⟨p, q, rfl⟩ := h
  exact ⟨p, q ++ b, by simp [List.append_assoc]⟩

theorem Seg.mid (a s b : List Instr) : Seg (a ++ s ++ b) s := ⟨a, b, rfl⟩

theorem seg_asmCond_dflt (as : List (List Instr × List Instr)) (d : List Instr) : Seg (asmCond as d) d := by
  induction as with
  | nil => exact Seg.refl _
  | cons a as ih =>
    obtain ⟨p, b⟩ := a
    simp only [asmCond]
    exact Seg.left _ ih

theorem seg_asmCond_arm {as : List (List Instr × List Instr)} {p b : List Instr} (d : List Instr)
    (h : (p, b) ∈ as) : Seg (asmCond as d) p ∧ Seg (asmCond as d) b := by
  induction as with
  | nil => cases h
  | cons a as ih =>
    obtain ⟨p', b'⟩ := a
    simp only [asmCond]
    rcases List.mem_cons.mp h with h | h
    · cases h
      constructor
      · exact ⟨[], [Instr.branch false (↑b.length + 2)] ++ b ++ [Instr.jump (↑(asmCond as d).length + 1)] ++ asmCond as d,
          by simp [List.append_assoc]⟩
      · exact ⟨p ++ [Instr.branch false (↑b.length + 2)], [Instr.jump (↑(asmCond as d).length + 1)] ++ asmCond as d,
          by simp [List.append_assoc]⟩
    · exact ⟨Seg.left _ (ih h).1, Seg.left _ (ih h).2⟩

theorem seg_asmSC {cs : List (List Instr)} {x : List Instr} (isOr : Bool) (h : x ∈ cs) : Seg (asmSC isOr cs) x := by
  induction cs with
  | nil => cases h
  | cons c cs ih =>
    cases cs with
    | nil =>
      simp only [List.mem_singleton] at h
      subst h
      simp only [asmSC]
      exact Seg.refl _
    | cons c' cs' =>
      simp only [asmSC]
      rcases List.mem_cons.mp h with h | h
      · subst h
        exact ⟨[], [Instr.dup, Instr.branch isOr (↑(asmSC isOr (c' :: cs')).length + 2), Instr.pop] ++ asmSC isOr (c' :: cs'),
          by simp [List.append_assoc]⟩
      · exact Seg.left _ (ih h)

abbrev off (c : Ctx) : Ctx := { c with tail := false }

/-- Inside a run of the generator that started in `gs`, `s` is compiled under `c'` — in a state whose tables
extend those of `gs` (`KeepFns`: what a name of `known` denotes there is what it denoted in `gs`) — and its
code is a segment of `code`. -/
def Emits (isFn : Nat → Bool) (gs : GS) (c' : Ctx) (s : Expr) (code : List Instr) : Prop :=
  ∃ gs1 r1, KeepFns gs gs1 ∧ compile isFn c' s gs1 = .ok r1 ∧ Seg code r1.1.1

theorem Emits.mono {isFn gs c' s a b} (h : Emits isFn gs c' s b) (hs : Seg a b) : Emits isFn gs c' s a := by
  obtain ⟨gs1, r1, hk, h1, h2⟩ := h
  exact ⟨gs1, r1, hk, h1, hs.trans h2⟩

theorem Emits.after {isFn gs gs' c' s a} (h : Emits isFn gs' c' s a) (hk : KeepFns gs gs') : Emits isFn gs c' s a := by
  obtain ⟨gs1, r1, hk1, h1, h2⟩ := h
  exact ⟨gs1, r1, hk.trans hk1, h1, h2⟩

theorem keep_compile {isFn : Nat → Bool} {c : Ctx} {e : Expr} {gs : GS} {r} (h : compile isFn c e gs = .ok r) :
    KeepFns gs r.2 :=
  (compile_facts e isFn c gs r h).2.1

/-- `gen.Tail` after a `Generate*` call is only ever `true` when it was `true` before
(several leave it cleared; none sets it). -/
theorem flag_mono (isFn : Nat → Bool) :
    (∀ (c : Ctx) (e : Expr), ∀ gs r, compile isFn c e gs = .ok r → r.1.2 = true → c.tail = true) ∧
    (∀ (c : Ctx) (oldtail : Bool) (es : List Expr), ∀ gs r, compileNewScope isFn c oldtail es gs = .ok r → r.1.2 = true → oldtail = true) ∧
    (∀ (c : Ctx) (seq : Bool) (bs : List (String × Expr)), ∀ gs r, compileBinds isFn c seq bs gs = .ok r → r.1.2 = true → c.tail = true) ∧
    (∀ (_ : Ctx) (_ : List Expr), True) ∧
    (∀ (_ : Ctx) (_ : List (Expr × Expr)), True) ∧
    (∀ (c : Ctx) (es : List Expr), ∀ gs r, compileBegin isFn c es gs = .ok r → r.1.2 = true → c.tail = true) ∧
    (∀ (_ : Ctx) (_ : Option FnObj) (_ : Nat) (_ : List Expr), True) ∧
    (∀ (c : Ctx) (es : List Expr), ∀ gs r, compileAll isFn c es gs = .ok r → r.1.2 = true → c.tail = true) :=
  ⟨fun _ e _ _ h => ((Sim.factsWalk isFn).of_compile e h).2.1, fun _ _ es _ _ h => ((Sim.factsWalk isFn).of_compileNewScope es h).2.1,
   fun _ _ bs _ _ h => ((Sim.factsWalk isFn).of_compileBinds bs h).1, fun _ _ => trivial, fun _ _ => trivial,
   fun _ es _ _ h => ((Sim.factsWalk isFn).of_compileBegin es h).2.1, fun _ _ _ _ => trivial,
   fun _ es _ _ h => ((Sim.factsWalk isFn).of_compileAll es h).1⟩

theorem begin_last {isFn : Nat → Bool} {c : Ctx} {e : Expr} :
    ∀ {es : List Expr} {gs : GS} {r}, compileBegin isFn c es gs = .ok r → es.getLast? = some e →
      Emits isFn gs c e r.1.1 := by
  intro es
  induction es with
  | nil => intro gs r _ hl; cases hl
  | cons x xs ih =>
    intro gs r h hl
    cases xs with
    | nil =>
      rw [Sim.compileBegin_one] at h
      simp only [List.getLast?_singleton, Option.some.injEq] at hl
      subst hl
      exact ⟨gs, r, .refl gs, h, Seg.refl _⟩
    | cons y ys =>
      obtain ⟨a, gs1, h1, b, gs2, h2, rfl⟩ := Sim.compileBegin_cons_ok.mp h
      have hl' : (y :: ys).getLast? = some e := by simpa [List.getLast?_cons_cons] using hl
      exact ((ih h2 hl').after (keep_compile h1)).mono (Seg.left _ (Seg.refl _))

theorem begin_inner {isFn : Nat → Bool} {c : Ctx} {e : Expr} :
    ∀ {es : List Expr} {gs : GS} {r}, compileBegin isFn c es gs = .ok r → e ∈ es.dropLast →
      Emits isFn gs (off c) e r.1.1 := by
  intro es
  induction es with
  | nil => intro gs r _ hm; cases hm
  | cons x xs ih =>
    intro gs r h hm
    cases xs with
    | nil => simp at hm
    | cons y ys =>
      obtain ⟨a, gs1, h1, b, gs2, h2, rfl⟩ := Sim.compileBegin_cons_ok.mp h
      simp only [List.dropLast_cons_cons, List.mem_cons] at hm
      rcases hm with rfl | hm
      · exact ⟨gs, (a, gs1), .refl gs, h1, Seg.right _ (Seg.right _ (Seg.refl _))⟩
      · exact ((ih h2 hm).after (keep_compile h1)).mono (Seg.left _ (Seg.refl _))

theorem sc_last {isFn : Nat → Bool} {c : Ctx} {e : Expr} :
    ∀ {es : List Expr} {gs : GS} {r}, compileSC isFn c es gs = .ok r → es.getLast? = some e →
      ∃ gs1 r1, KeepFns gs gs1 ∧ compile isFn c e gs1 = .ok r1 ∧ r1.1.1 ∈ r.1 := by
  intro es
  induction es with
  | nil => intro gs r _ hl; cases hl
  | cons x xs ih =>
    intro gs r h hl
    cases xs with
    | nil =>
      obtain ⟨a, gs1, h1, rfl⟩ := Sim.compileSC_one_ok.mp h
      simp only [List.getLast?_singleton, Option.some.injEq] at hl
      subst hl
      exact ⟨gs, (a, gs1), .refl gs, h1, by simp⟩
    | cons y ys =>
      obtain ⟨rest, gs1, h1, a, gs2, _, rfl⟩ := Sim.compileSC_cons_ok.mp h
      have hl' : (y :: ys).getLast? = some e := by simpa [List.getLast?_cons_cons] using hl
      obtain ⟨g, r1, hk, hc, hm⟩ := ih h1 hl'
      exact ⟨g, r1, hk, hc, List.mem_cons_of_mem _ hm⟩

/-- the later arms are compiled first: an earlier one starts from the state they leave -/
theorem sc_inner {isFn : Nat → Bool} {c : Ctx} {e : Expr} :
    ∀ {es : List Expr} {gs : GS} {r}, compileSC isFn c es gs = .ok r → e ∈ es.dropLast →
      ∃ gs1 r1, KeepFns gs gs1 ∧ compile isFn (off c) e gs1 = .ok r1 ∧ r1.1.1 ∈ r.1 := by
  intro es
  induction es with
  | nil => intro gs r _ hm; cases hm
  | cons x xs ih =>
    intro gs r h hm
    cases xs with
    | nil => simp at hm
    | cons y ys =>
      obtain ⟨rest, gs1, h1, a, gs2, h2, rfl⟩ := Sim.compileSC_cons_ok.mp h
      simp only [List.dropLast_cons_cons, List.mem_cons] at hm
      rcases hm with rfl | hm
      · exact ⟨gs1, (a, gs2), (compileSC_facts _ _ _ _ _ h1).1, h2, by simp⟩
      · obtain ⟨g, r1, hk, hc, hmem⟩ := ih h1 hm
        exact ⟨g, r1, hk, hc, List.mem_cons_of_mem _ hmem⟩

theorem arms_mem {isFn : Nat → Bool} {c : Ctx} {p b : Expr} :
    ∀ {arms : List (Expr × Expr)} {gs : GS} {r}, compileArms isFn c arms gs = .ok r → (p, b) ∈ arms →
      ∃ gp rp gb rb, KeepFns gs gp ∧ compile isFn (off c) p gp = .ok rp ∧
        KeepFns gs gb ∧ compile isFn c b gb = .ok rb ∧ (rp.1.1, rb.1.1) ∈ r.1 := by
  intro arms
  induction arms with
  | nil => intro gs r _ hm; cases hm
  | cons a arms ih =>
    intro gs r h hm
    obtain ⟨p', b'⟩ := a
    obtain ⟨rest, gs1, h1, pc, gs2, h2, bc, gs3, h3, rfl⟩ := Sim.compileArms_cons_ok.mp h
    rcases List.mem_cons.mp hm with heq | hm
    · cases heq
      have hk := (compileArms_facts _ _ _ _ _ h1).1
      exact ⟨gs1, (pc, gs2), gs2, (bc, gs3), hk, h2, hk.trans (keep_compile h2), h3, by simp⟩
    · obtain ⟨gp, rp, gb, rb, hkp, hp, hkb, hb, hmem⟩ := ih h1 hm
      exact ⟨gp, rp, gb, rb, hkp, hp, hkb, hb, List.mem_cons_of_mem _ hmem⟩


/-! ## `GenerateAll` (array elements) and the initialisers of `GenerateLet`: the flag threads
through, and stays cleared -/

theorem flag_off {isFn : Nat → Bool} {c : Ctx} {e : Expr} {gs gs1 : GS} {a : List Instr} {t : Bool}
    (h : compile isFn (off c) e gs = .ok ((a, t), gs1)) : t = false := by
  cases t with
  | false => rfl
  | true => exact absurd ((flag_mono isFn).1 _ _ _ _ h rfl) (by simp)

theorem all_mem {isFn : Nat → Bool} {c : Ctx} {e : Expr} :
    ∀ {es : List Expr} {gs : GS} {r}, compileAll isFn (off c) es gs = .ok r → e ∈ es →
      Emits isFn gs (off c) e r.1.1 := by
  intro es
  induction es with
  | nil => intro gs r _ hm; cases hm
  | cons x xs ih =>
    intro gs r h hm
    obtain ⟨⟨a, t⟩, gs1, h1, ⟨b, t'⟩, gs2, h2, rfl⟩ := Sim.compileAll_cons_ok.mp h
    cases flag_off h1
    rcases List.mem_cons.mp hm with rfl | hm
    · exact ⟨gs, ((a, false), gs1), .refl gs, h1, Seg.right _ (Seg.refl _)⟩
    · exact ((ih h2 hm).after (keep_compile h1)).mono (Seg.left _ (Seg.refl _))

theorem binds_mem {isFn : Nat → Bool} {c : Ctx} {seq : Bool} {x : String} {e : Expr} :
    ∀ {bs : List (String × Expr)} {gs : GS} {r}, compileBinds isFn (off c) seq bs gs = .ok r → (x, e) ∈ bs →
      Emits isFn gs (off c) e r.1.1 := by
  intro bs
  induction bs with
  | nil => intro gs r _ hm; cases hm
  | cons y ys ih =>
    intro gs r h hm
    obtain ⟨x', e'⟩ := y
    obtain ⟨⟨a, t⟩, gs1, h1, ⟨b, t'⟩, gs2, h2, rfl⟩ := Sim.compileBinds_cons_ok.mp h
    cases flag_off h1
    rcases List.mem_cons.mp hm with heq | hm
    · cases heq
      exact ⟨gs, ((a, false), gs1), .refl gs, h1, Seg.right _ (Seg.right _ (Seg.refl _))⟩
    · exact ((ih h2 hm).after (keep_compile h1)).mono (Seg.left _ (Seg.refl _))

theorem tailStep_emits {isFn : Nat → Bool} {e m : Expr} {sc : Bool} (st : TailStep e m sc)
    {t : Bool} {k : Nat} {f : String} {kn : List (String × Nat)} {gs : GS} {r}
    (h : compile isFn ⟨t, k, f, kn⟩ e gs = .ok r) :
    Emits isFn gs ⟨t, k + sc.toNat, f, kn⟩ m r.1.1 := by
  cases st with
  | condArm hm =>
    obtain ⟨⟨dc, _⟩, gs1, hd, as, _, h2, rfl⟩ := Sim.compile_cond_ok.mp h
    obtain ⟨gp, rp, gb, rb, _, _, hk, hb, hmem⟩ := arms_mem h2 hm
    exact ⟨gb, rb, (keep_compile hd).trans hk, hb, (seg_asmCond_arm dc hmem).2⟩
  | condDefault =>
    obtain ⟨⟨dc, x⟩, gs1, h1, as, _, _, rfl⟩ := Sim.compile_cond_ok.mp h
    exact ⟨gs, ((dc, x), gs1), .refl gs, h1, seg_asmCond_dflt as dc⟩
  | @beginLast es _ hl =>
    cases es with
    | nil => cases hl
    | cons x xs => exact begin_last h hl
  | letLast hl =>
    obtain ⟨⟨rhs, _⟩, gs1, h1, ⟨b, tb⟩, _, h2, rfl⟩ := Sim.compile_let_ok.mp h
    exact ((begin_last h2 hl).after (compileBinds_facts _ _ _ _ _ _ h1).1).mono (Seg.right _ (Seg.left _ (Seg.refl _)))
  | @newScopeLast es _ hl =>
    cases es with
    | nil => cases hl
    | cons x xs =>
      obtain ⟨⟨code1, tb⟩, _, h1, rfl⟩ := Sim.compile_newScope_cons_ok.mp h
      exact (begin_last (Sim.compileNewScope_as_begin (List.cons_ne_nil _ _) h1) hl).mono (Seg.right _ (Seg.left _ (Seg.refl _)))
  | andLast hl =>
    obtain ⟨cs, _, h1, rfl⟩ := Sim.compile_and_ok.mp h
    obtain ⟨g, r1, hk, hc, hmem⟩ := sc_last h1 hl
    exact ⟨g, r1, hk, hc, seg_asmSC false hmem⟩
  | orLast hl =>
    obtain ⟨cs, _, h1, rfl⟩ := Sim.compile_or_ok.mp h
    obtain ⟨g, r1, hk, hc, hmem⟩ := sc_last h1 hl
    exact ⟨g, r1, hk, hc, seg_asmSC true hmem⟩

theorem nonTailStep_emits {isFn : Nat → Bool} {e m : Expr} (st : NonTailStep e m)
    {t : Bool} {k : Nat} {f : String} {kn : List (String × Nat)} {gs : GS} {r}
    (h : compile isFn ⟨t, k, f, kn⟩ e gs = .ok r) :
    ∃ k', Emits isFn gs ⟨false, k', f, kn⟩ m r.1.1 := by
  cases st with
  | condTest hm =>
    obtain ⟨⟨dc, _⟩, gs1, hd, as, _, h2, rfl⟩ := Sim.compile_cond_ok.mp h
    obtain ⟨gp, rp, gb, rb, hk, hp, _, _, hmem⟩ := arms_mem h2 hm
    exact ⟨k, gp, rp, (keep_compile hd).trans hk, hp, (seg_asmCond_arm dc hmem).1⟩
  | @beginInner es _ hm =>
    cases es with
    | nil => cases hm
    | cons x xs => exact ⟨k, begin_inner h hm⟩
  | letInit hm =>
    obtain ⟨⟨rhs, t1⟩, gs1, h1, ⟨b, tb⟩, _, _, rfl⟩ := Sim.compile_let_ok.mp h
    exact ⟨k + 1, (binds_mem (c := ⟨t, k + 1, f, kn⟩) h1 hm).mono
      (Seg.right _ (Seg.right _ (Seg.right _ (Seg.left _ (Seg.refl _)))))⟩
  | letInner hm =>
    obtain ⟨⟨rhs, _⟩, gs1, h1, ⟨b, tb⟩, _, h2, rfl⟩ := Sim.compile_let_ok.mp h
    exact ⟨k + 1, ((begin_inner h2 hm).after (compileBinds_facts _ _ _ _ _ _ h1).1).mono (Seg.right _ (Seg.left _ (Seg.refl _)))⟩
  | @newScopeInner es _ hm =>
    cases es with
    | nil => cases hm
    | cons x xs =>
      obtain ⟨⟨code1, tb⟩, _, h1, rfl⟩ := Sim.compile_newScope_cons_ok.mp h
      exact ⟨k + 1, (begin_inner (c := ⟨t, k + 1, f, kn⟩) (Sim.compileNewScope_as_begin (List.cons_ne_nil _ _) h1) hm).mono
        (Seg.right _ (Seg.left _ (Seg.refl _)))⟩
  | andInner hm =>
    obtain ⟨cs, _, h1, rfl⟩ := Sim.compile_and_ok.mp h
    obtain ⟨g, r1, hk, hc, hmem⟩ := sc_inner h1 hm
    exact ⟨k, g, r1, hk, hc, seg_asmSC false hmem⟩
  | orInner hm =>
    obtain ⟨cs, _, h1, rfl⟩ := Sim.compile_or_ok.mp h
    obtain ⟨g, r1, hk, hc, hmem⟩ := sc_inner h1 hm
    exact ⟨k, g, r1, hk, hc, seg_asmSC true hmem⟩
  | arrElem hm =>
    obtain ⟨⟨code1, t1⟩, _, h1, rfl⟩ := Sim.compile_arr_ok.mp h
    exact ⟨k, (all_mem (c := ⟨t, k, f, kn⟩) h1 hm).mono (Seg.right _ (Seg.refl _))⟩
  | defRhs =>
    obtain ⟨⟨code1, t1⟩, _, h1, rfl⟩ := Sim.compile_def_ok.mp h
    exact ⟨k, gs, _, .refl gs, h1, Seg.right _ (Seg.refl _)⟩
  | setRhs =>
    obtain ⟨⟨code1, t1⟩, _, h1, rfl⟩ := Sim.compile_set_ok.mp h
    exact ⟨k, gs, _, .refl gs, h1, Seg.right _ (Seg.refl _)⟩
  | assignLhs =>
    obtain ⟨⟨a, ta⟩, gs1, h1, ⟨b, tb⟩, _, _, rfl⟩ := Sim.compile_assign_ok.mp h
    exact ⟨k, gs, _, .refl gs, h1, Seg.right _ (Seg.right _ (Seg.refl _))⟩
  | assignRhs =>
    obtain ⟨⟨a, ta⟩, gs1, h1, ⟨b, tb⟩, _, h2, rfl⟩ := Sim.compile_assign_ok.mp h
    exact ⟨k, gs1, _, keep_compile h1, h2, Seg.right _ (Seg.left _ (Seg.refl _))⟩

/-- (a, "if") + (b): what is in tail position is compiled with the caller's flag and with
`scopes` = the scopes on entry plus the scopes crossed. -/
theorem tailAt_emits {isFn : Nat → Bool} {n : Nat} {e s : Expr} (p : TailAt n e s) :
    ∀ {t : Bool} {k : Nat} {f : String} {kn : List (String × Nat)} {gs : GS} {r},
      compile isFn ⟨t, k, f, kn⟩ e gs = .ok r → Emits isFn gs ⟨t, k + n, f, kn⟩ s r.1.1 := by
  induction p with
  | here => intro t k f kn gs r h; exact ⟨gs, r, .refl gs, h, Seg.refl _⟩
  | @step e m s sc n st _ ih =>
    intro t k f kn gs r h
    obtain ⟨gs1, r1, hk, h1, hseg⟩ := tailStep_emits st h
    have := ((ih h1).after hk).mono hseg
    have hk : k + sc.toNat + n = k + (n + sc.toNat) := by omega
    rw [hk] at this
    exact this

theorem inline_off_emits {isFn : Nat → Bool} {e s : Expr} (p : Inline e s) :
    ∀ {k : Nat} {f : String} {kn : List (String × Nat)} {gs : GS} {r},
      compile isFn ⟨false, k, f, kn⟩ e gs = .ok r → ∃ k', Emits isFn gs ⟨false, k', f, kn⟩ s r.1.1 := by
  induction p with
  | here => intro k f kn gs r h; exact ⟨k, gs, r, .refl gs, h, Seg.refl _⟩
  | tail st _ ih =>
    intro k f kn gs r h
    obtain ⟨gs1, r1, hk, h1, hseg⟩ := tailStep_emits st h
    obtain ⟨k', hk'⟩ := ih h1
    exact ⟨k', (hk'.after hk).mono hseg⟩
  | nonTail st _ ih =>
    intro k f kn gs r h
    obtain ⟨k1, gs1, r1, hk, h1, hseg⟩ := nonTailStep_emits st h
    obtain ⟨k', hk'⟩ := ih h1
    exact ⟨k', (hk'.after hk).mono hseg⟩

/-- (a, "only if"): one non-tail step on the way and the flag is cleared. -/
theorem nonTailAt_emits {isFn : Nat → Bool} {e s : Expr} (p : NonTailAt e s) :
    ∀ {t : Bool} {k : Nat} {f : String} {kn : List (String × Nat)} {gs : GS} {r},
      compile isFn ⟨t, k, f, kn⟩ e gs = .ok r → ∃ k', Emits isFn gs ⟨false, k', f, kn⟩ s r.1.1 := by
  induction p with
  | nonTail st hi =>
    intro t k f kn gs r h
    obtain ⟨k1, gs1, r1, hk, h1, hseg⟩ := nonTailStep_emits st h
    obtain ⟨k', hk'⟩ := inline_off_emits hi h1
    exact ⟨k', (hk'.after hk).mono hseg⟩
  | tail st _ ih =>
    intro t k f kn gs r h
    obtain ⟨gs1, r1, hk, h1, hseg⟩ := tailStep_emits st h
    obtain ⟨k', hk'⟩ := ih h1
    exact ⟨k', (hk'.after hk).mono hseg⟩

/-- the arity test of `GenerateCallBySymbol` (fix c9a2ccf): the known function, if any, takes
`n` arguments. -/
def ArityOk (fo : Option FnObj) (n : Nat) : Bool :=
  match fo with
  | some fo => if fo.varargs then decide (fo.nargs ≤ n) else n == fo.nargs
  | none => true

/-- The function a name of `known` denotes is settled when its template is registered: later states of the
generator hold the same template under that index, so the arity test of a self call gives the same answer
wherever in the body the call stands. -/
theorem knownFn_keep {kn : List (String × Nat)} {f : String} {gs gs1 : GS} (hk : KeepFns gs gs1)
    (hkn : ∀ t, kn.lookup f = some t → t < gs.fns.length) :
    ((kn.lookup f).bind fun t => gs1.fns[t]?) = (kn.lookup f).bind fun t => gs.fns[t]? := by
  cases h : kn.lookup f with
  | none => rfl
  | some t =>
    have ht := hkn t h
    have ht1 : t < gs1.fns.length := Nat.lt_of_lt_of_le ht hk.len
    have := hk.fns t ht
    simp only [List.getD_eq_getElem?_getD, List.getElem?_eq_getElem ht, List.getElem?_eq_getElem ht1, Option.getD_some] at this
    show gs1.fns[t]? = gs.fns[t]?
    rw [List.getElem?_eq_getElem ht, List.getElem?_eq_getElem ht1, this]

theorem self_call_tail {isFn : Nat → Bool} {k : Nat} {f : String} {kn : List (String × Nat)}
    {args : List Expr} {gs : GS} {r} (h : compile isFn ⟨true, k, f, kn⟩ (.call (.sym f) args) gs = .ok r)
    (harity : ArityOk ((kn.lookup f).bind fun t => gs.fns[t]?) args.length = true) :
    ∃ argcode, r.1.1 = [Instr.tailGuard f (argcode.length + k + 4)] ++ argcode ++ [Instr.prepareCall f args.length] ++
      List.replicate (k + 1) Instr.removeScope ++ [Instr.goto 0, Instr.callExpr (.sym f) args] := by
  have h : (compile isFn ⟨true, k, f, kn⟩ (.call (.sym f) args)).run gs = .ok r := h
  rw [Sim.compile_call_eq, if_pos ⟨by simp, harity⟩] at h
  split at h
  · cases h; exact ⟨_, rfl⟩
  · cases h

/-- a self call in tail position with the wrong number of arguments is an ordinary call (it
reports the arity error at run time like any other call). -/
theorem self_call_wrong_arity {isFn : Nat → Bool} {k : Nat} {f : String} {kn : List (String × Nat)}
    {args : List Expr} {gs : GS} {r} (h : compile isFn ⟨true, k, f, kn⟩ (.call (.sym f) args) gs = .ok r)
    (harity : ArityOk ((kn.lookup f).bind fun t => gs.fns[t]?) args.length = false) :
    r.1.1 = [Instr.callExpr (.sym f) args] := by
  have h : (compile isFn ⟨true, k, f, kn⟩ (.call (.sym f) args)).run gs = .ok r := h
  have ha : ¬ Sim.arityOk (Sim.knownFn ⟨true, k, f, kn⟩ gs f) args.length = true := by
    rw [show Sim.arityOk (Sim.knownFn ⟨true, k, f, kn⟩ gs f) args.length = false from harity]; simp
  rw [Sim.compile_call_eq, if_neg (fun hh => ha hh.2)] at h
  cases h; rfl

theorem call_off {isFn : Nat → Bool} {k : Nat} {f h : String} {kn : List (String × Nat)}
    {args : List Expr} {gs : GS} {r} (hc : compile isFn ⟨false, k, f, kn⟩ (.call (.sym h) args) gs = .ok r) :
    r.1.1 = [Instr.callExpr (.sym h) args] := by
  have hc : (compile isFn ⟨false, k, f, kn⟩ (.call (.sym h) args)).run gs = .ok r := hc
  rw [Sim.compile_call_eq, if_neg (by simp)] at hc
  cases hc; rfl

end ZygoVerif.Tail
