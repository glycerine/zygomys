/-
What a pure builtin (`Core.prim`) can return, whatever its name: a constant, an operand or a part of
one, an element of an array of the heap, or a list of such values — with the heap as it was, with
one fresh array of such values, or with one cell set to such values. Stated for any predicate on
values that holds of the constants and of array references and is decided part by part on pairs
(`ValPred`), so that "storable" (C04), "nothing at all" (the heap only grows, C02) and any other
such property are instances of one walk over the names (`prim_keeps`). On `Model/Prim.lean` only.
-/
import ZygoVerif.Model.Prim
namespace ZygoVerif.Core

theorem _root_.ZygoVerif.Sim.prim_array (args : List Val) (h : DataHeap) : prim "array" args h = some (h.alloc args) := by
  unfold prim
  simp [isCmp]

/-- A property of values that the builtins cannot break. It must hold of EVERY constant and of EVERY
array reference (a builtin may return a fresh one) and be decided part by part on pairs; on function
ids, builtin names, lazy ids, marks and symbols it is free, since a builtin hands those on from its
operands and from the heap's cells and never makes one. "Storable" qualifies (`RunInv.vok_valPred`);
"every array id is below `n`" (`Alias.ValBelow`) does not. -/
structure ValPred (Q : Val → Prop) : Prop where
  nil : Q .nil
  bool : ∀ b, Q (.bool b)
  int : ∀ v, Q (.int v)
  str : ∀ s, Q (.str s)
  arr : ∀ r, Q (.arr r)
  pair : ∀ a b, Q (.pair a b) ↔ Q a ∧ Q b

/-- the three shapes of the heap a builtin leaves; what it stores satisfies `Q` -/
inductive HeapStep (Q : Val → Prop) (h : DataHeap) : DataHeap → Prop
  | same : HeapStep Q h h
  | alloc (xs : List Val) : (∀ x ∈ xs, Q x) → HeapStep Q h (h.alloc xs).2
  | set (r : Nat) (xs : List Val) : (∀ x ∈ xs, Q x) → HeapStep Q h (h.set r xs)

/-- no cell is dropped or renumbered -/
theorem HeapStep.le {Q : Val → Prop} {h h' : DataHeap} (s : HeapStep Q h h') : h.arrs.length ≤ h'.arrs.length := by
  cases s with
  | same => exact Nat.le_refl _
  | alloc xs _ => simp [DataHeap.alloc]
  | set r xs _ => simp [DataHeap.set]

namespace ValPred
variable {Q : Val → Prop} (hQ : ValPred Q)
include hQ

theorem mkList : ∀ (vs : List Val), (∀ v ∈ vs, Q v) → Q (mkList vs)
  | [], _ => hQ.nil
  | v :: vs, h => (hQ.pair _ _).mpr ⟨h v (by simp), mkList vs (fun x hx => h x (by simp [hx]))⟩

theorem listToArray : ∀ (l : Val) (xs : List Val), listToArray l = some xs → Q l → ∀ x ∈ xs, Q x
  | .nil, xs, h, _ => by simp [Core.listToArray] at h; subst h; intro x hx; cases hx
  | .pair a t, xs, h, hv => by
    simp only [Core.listToArray, Option.map_eq_some_iff] at h
    obtain ⟨ys, hy, rfl⟩ := h
    intro x hx
    rcases List.mem_cons.mp hx with rfl | hx
    · exact ((hQ.pair _ _).mp hv).1
    · exact listToArray t ys hy ((hQ.pair _ _).mp hv).2 x hx
  | .bool _, _, h, _ | .int _, _, h, _ | .str _, _, h, _ | .arr _, _, h, _ | .fn _, _, h, _
  | .builtin _, _, h, _ | .lazy _, _, h, _ | .mark _, _, h, _ | .sym _, _, h, _ => by
    simp [Core.listToArray] at h

omit hQ in
theorem concatArrs {h : DataHeap} (hh : ∀ r, ∀ x ∈ h.get r, Q x) : ∀ (rest : List Val) (acc out : List Val),
    (∀ v ∈ acc, Q v) → concatArrs h acc rest = some out → ∀ v ∈ out, Q v
  | [], acc, out, ha, hc => by simp only [Core.concatArrs, Option.some.injEq] at hc; subst hc; exact ha
  | x :: rest, acc, out, ha, hc => by
    cases x <;> simp only [Core.concatArrs] at hc <;> try (cases hc)
    rename_i r
    refine concatArrs hh rest _ out ?_ hc
    intro v hv
    rcases List.mem_append.mp hv with h1 | h1
    · exact ha v h1
    · exact hh r v h1

theorem concatLists : ∀ (bs : List Val) (a out : Val), Q a → (∀ b ∈ bs, Q b) → concatLists a bs = some out → Q out
  | [], a, out, ha, _, hc => by simp only [Core.concatLists, Option.some.injEq] at hc; subst hc; exact ha
  | b :: bs, a, out, ha, hb, hc => by
    simp only [Core.concatLists] at hc
    split at hc
    · rename_i xs ys hx hy
      split at hc
      · cases hc
      · rename_i r hr
        refine concatLists bs _ out ?_ (fun x hx' => hb x (by simp [hx'])) hc
        apply hQ.mkList
        intro v hv
        rcases List.mem_append.mp hv with h1 | h1
        · exact hQ.listToArray a xs hx ha v h1
        · exact hQ.listToArray b ys hy (hb b (by simp)) v h1
    · cases hc

end ValPred

/-- **What a builtin can return.** If the operands and the elements of the heap's arrays satisfy `Q`,
so does the value returned, and the heap is the one found, that heap after ONE `alloc`, or that heap
after ONE `set` of a cell (`aset`), of values that satisfy `Q`. Name by name, as `prim` tests them. -/
theorem prim_keeps {Q : Val → Prop} (hQ : ValPred Q) {name : String} {args : List Val} {h h' : DataHeap} {v : Val}
    (ha : ∀ a ∈ args, Q a) (hh : ∀ r, ∀ x ∈ h.get r, Q x) (hp : prim name args h = some (v, h')) :
    Q v ∧ HeapStep Q h h' := by
  unfold prim at hp
  by_cases c0 : name = "+" ∨ name = "-" ∨ name = "*"
  · rw [if_pos c0] at hp
    split at hp
    · cases hp
    · split at hp
      · split at hp <;> cases hp
        exact ⟨hQ.int _, .same⟩
      · split at hp <;> cases hp
        exact ⟨ha _ (by simp), .same⟩
    · split at hp <;> cases hp
      exact ⟨hQ.int _, .same⟩
  rw [if_neg c0] at hp
  by_cases c1 : name = "mod"
  · rw [if_pos c1] at hp
    split at hp
    · split at hp <;> cases hp
      exact ⟨hQ.int _, .same⟩
    · cases hp
  rw [if_neg c1] at hp
  by_cases c2 : isCmp name = true
  · rw [if_pos c2] at hp
    split at hp
    · obtain ⟨w, _, hw⟩ := Option.map_eq_some_iff.mp hp
      cases hw
      exact ⟨hQ.bool _, .same⟩
    · cases hp
  rw [if_neg c2] at hp
  by_cases c3 : name = "not"
  · rw [if_pos c3] at hp
    split at hp <;> cases hp
    exact ⟨hQ.bool _, .same⟩
  rw [if_neg c3] at hp
  by_cases c4 : name = "cons"
  · rw [if_pos c4] at hp
    split at hp <;> cases hp
    exact ⟨(hQ.pair _ _).mpr ⟨ha _ (by simp), ha _ (by simp)⟩, .same⟩
  rw [if_neg c4] at hp
  by_cases c5 : name = "first"
  · rw [if_pos c5] at hp
    split at hp
    · cases hp
      exact ⟨((hQ.pair _ _).mp (ha _ List.mem_cons_self)).1, .same⟩
    · obtain ⟨w, hw1, hw⟩ := Option.map_eq_some_iff.mp hp
      cases hw
      exact ⟨hh _ _ (List.mem_of_mem_head? hw1), .same⟩
    · cases hp
  rw [if_neg c5] at hp
  by_cases c6 : name = "rest"
  · rw [if_pos c6] at hp
    split at hp
    · cases hp
      exact ⟨((hQ.pair _ _).mp (ha _ List.mem_cons_self)).2, .same⟩
    · split at hp <;> cases hp
      · exact ⟨hQ.arr _, .same⟩
      · rename_i hg
        exact ⟨hQ.arr _, .alloc _ (fun x hx => hh _ x (by rw [hg]; simp [hx]))⟩
    · cases hp
      exact ⟨hQ.nil, .same⟩
    · cases hp
  rw [if_neg c6] at hp
  by_cases c7 : name = "second"
  · rw [if_pos c7] at hp
    split at hp
    · cases hp
      exact ⟨((hQ.pair _ _).mp ((hQ.pair _ _).mp (ha _ List.mem_cons_self)).2).1, .same⟩
    · split at hp <;> cases hp
      rename_i hg
      exact ⟨hh _ _ (by rw [hg]; simp), .same⟩
    · cases hp
  rw [if_neg c7] at hp
  by_cases c8 : name = "list"
  · rw [if_pos c8] at hp
    cases hp
    exact ⟨hQ.mkList _ ha, .same⟩
  rw [if_neg c8] at hp
  by_cases c9 : name = "array"
  · rw [if_pos c9] at hp
    cases hp
    exact ⟨hQ.arr _, .alloc _ ha⟩
  rw [if_neg c9] at hp
  by_cases c10 : name = "len"
  · rw [if_pos c10] at hp
    split at hp
    iterate 3 (cases hp; exact ⟨hQ.int _, .same⟩)
    · obtain ⟨w, _, hw⟩ := Option.map_eq_some_iff.mp hp
      cases hw
      exact ⟨hQ.int _, .same⟩
    · cases hp
  rw [if_neg c10] at hp
  by_cases c11 : name = "append"
  · rw [if_pos c11] at hp
    split at hp <;> cases hp
    refine ⟨hQ.arr _, .alloc _ (fun x hx => ?_)⟩
    rcases List.mem_append.mp hx with h1 | h1
    · exact hh _ x h1
    · simp at h1; subst h1; exact ha _ (by simp)
  rw [if_neg c11] at hp
  by_cases c12 : name = "concat"
  · rw [if_pos c12] at hp
    split at hp
    · obtain ⟨w, hw1, hw⟩ := Option.map_eq_some_iff.mp hp
      cases hw
      exact ⟨hQ.arr _, .alloc _ (ValPred.concatArrs hh _ _ _ (hh _) hw1)⟩
    · obtain ⟨w, _, hw⟩ := Option.map_eq_some_iff.mp hp
      cases hw
      exact ⟨hQ.str _, .same⟩
    · cases hp
      exact ⟨ha _ (by simp), .same⟩
    · obtain ⟨w, hw1, hw⟩ := Option.map_eq_some_iff.mp hp
      cases hw
      exact ⟨hQ.concatLists _ _ _ (ha _ (by simp)) (fun b hb => ha b (by simp [hb])) hw1, .same⟩
    · cases hp
  rw [if_neg c12] at hp
  by_cases c13 : name = "aget"
  · rw [if_pos c13] at hp
    split at hp
    · obtain ⟨w, hw1, hw⟩ := Option.map_eq_some_iff.mp hp
      cases hw
      exact ⟨hh _ _ (List.mem_of_getElem? (Option.eq_some_of_filter_eq_some hw1)), .same⟩
    · rename_i r i d
      cases hp
      refine ⟨?_, .same⟩
      cases hf : Option.filter (fun x => decide (i.toInt ≥ 0)) (h.get r)[i.toInt.toNat]? with
      | none => exact ha _ (by simp)
      | some x => exact hh _ _ (List.mem_of_getElem? (Option.eq_some_of_filter_eq_some hf))
    · cases hp
  rw [if_neg c13] at hp
  by_cases c14 : name = "aset"
  · rw [if_pos c14] at hp
    split at hp
    · split at hp <;> cases hp
      refine ⟨hQ.nil, .set _ _ (fun x hx => ?_)⟩
      rcases List.mem_or_eq_of_mem_set hx with h1 | rfl
      · exact hh _ x h1
      · exact ha _ (by simp)
    · cases hp
  rw [if_neg c14] at hp
  cases hp

end ZygoVerif.Core
