/-
The annotated parser and the suspended coroutine of `Model/Abandon`. One walk over its eight functions (`Par`,
`parAll`) shows that forgetting the annotation gives the parser of `Model/Parser` (`erase_topLoop`), that fuel `f`
is fuel `f + 1` with subtrees cut off by `fail` (`SProg.le`), and that the expression parsers never ask the top level
for a token (`SProg.noTop`). `suspendA` says where a run on a view comes to rest for
lack of input and in which program; that program is the rest of the run (`resume_is_rest_of_run`) and
is what the concrete `residual` keeps (`residual_of_suspendA`); `runA_append` says both that and that a program which ends
by itself never looks at later input. The six instructions that wait for a token are one case of every induction over
programs (`SProg.wt?`, `run_erase_wt` … `residual_wt`, `SProg.wt_induction`; `Wt` is in Proofs/ParseChunks).
-/
import ZygoVerif.Model.Abandon
import ZygoVerif.Proofs.ParseChunks
namespace ZygoVerif.Parser
open ZygoVerif.Lexer

theorem SProg.erase_bind {α β : Type} (p : SProg α) (f : α → SProg β) :
    (p.bind f).erase = p.erase.bind (fun a => (f a).erase) := by
  induction p with
  | pure a => rfl
  | fail => rfl
  | waitPeek n k ih => simp only [SProg.bind, SProg.erase, Prog.bind, ih]
  | waitLoop on k _ ih => simp only [SProg.bind, SProg.erase, Prog.bind, ih]
  | signPeek k ih => simp only [SProg.bind, SProg.erase, Prog.bind, ih]
  | peekAt n k ih => simp only [SProg.bind, SProg.erase, Prog.bind, ih]
  | getTok k ih => simp only [SProg.bind, SProg.erase, Prog.bind, ih]
  | topGet k ih => simp only [SProg.bind, SProg.erase, Prog.bind, ih]
  | pushTok t k ih => simp only [SProg.bind, SProg.erase, Prog.bind, ih]
  | pushExpr e k ih => simp only [SProg.bind, SProg.erase, Prog.bind, ih]

theorem erase_bind_eq {α β : Type} {p : SProg α} {f : α → SProg β} {p' : Prog α} {f' : α → Prog β}
    (hp : p.erase = p') (hf : ∀ a, (f a).erase = f' a) : (p >>= f).erase = p' >>= f' := by
  rw [← hp, ← funext hf]; exact SProg.erase_bind p f

inductive SProg.le {α : Type} : SProg α → SProg α → Prop
  | fail (q : SProg α) : SProg.le .fail q
  | pure (a : α) : SProg.le (.pure a) (.pure a)
  | waitPeek (n : Nat) (k k' : Token → SProg α) : (∀ t, SProg.le (k t) (k' t)) → SProg.le (.waitPeek n k) (.waitPeek n k')
  | waitLoop (on on' : SProg α) (k k' : Token → SProg α) : SProg.le on on' → (∀ t, SProg.le (k t) (k' t)) →
      SProg.le (.waitLoop on k) (.waitLoop on' k')
  | signPeek (k k' : Token → SProg α) : (∀ t, SProg.le (k t) (k' t)) → SProg.le (.signPeek k) (.signPeek k')
  | peekAt (n : Nat) (k k' : Token → SProg α) : (∀ t, SProg.le (k t) (k' t)) → SProg.le (.peekAt n k) (.peekAt n k')
  | getTok (k k' : Token → SProg α) : (∀ t, SProg.le (k t) (k' t)) → SProg.le (.getTok k) (.getTok k')
  | topGet (k k' : Option Token → SProg α) : (∀ t, SProg.le (k t) (k' t)) → SProg.le (.topGet k) (.topGet k')
  | pushTok (t : Token) (k k' : SProg α) : SProg.le k k' → SProg.le (.pushTok t k) (.pushTok t k')
  | pushExpr (e : Sexp) (k k' : SProg α) : SProg.le k k' → SProg.le (.pushExpr e k) (.pushExpr e k')

theorem SProg.le_refl {α : Type} (p : SProg α) : SProg.le p p := by
  induction p with
  | pure a => exact .pure a
  | fail => exact .fail _
  | waitPeek n k ih => exact .waitPeek n k k ih
  | waitLoop on k ih1 ih2 => exact .waitLoop on on k k ih1 ih2
  | signPeek k ih => exact .signPeek k k ih
  | peekAt n k ih => exact .peekAt n k k ih
  | getTok k ih => exact .getTok k k ih
  | topGet k ih => exact .topGet k k ih
  | pushTok t k ih => exact .pushTok t k k ih
  | pushExpr e k ih => exact .pushExpr e k k ih

theorem SProg.le_bind {α β : Type} {p p' : SProg α} {f f' : α → SProg β} (h : SProg.le p p')
    (hf : ∀ a, SProg.le (f a) (f' a)) : SProg.le (p.bind f) (p'.bind f') := by
  induction h with
  | fail q => exact .fail _
  | pure a => exact hf a
  | waitPeek n k k' _ ih => exact .waitPeek n _ _ ih
  | waitLoop on on' k k' _ _ ih1 ih2 => exact .waitLoop _ _ _ _ ih1 ih2
  | signPeek k k' _ ih => exact .signPeek _ _ ih
  | peekAt n k k' _ ih => exact .peekAt n _ _ ih
  | getTok k k' _ ih => exact .getTok _ _ ih
  | topGet k k' _ ih => exact .topGet _ _ ih
  | pushTok t k k' _ ih => exact .pushTok t _ _ ih
  | pushExpr e k k' _ ih => exact .pushExpr e _ _ ih

/-- no `topGet` anywhere in the program (nor in what it does when a wait loop is stopped) -/
inductive SProg.noTop {α : Type} : SProg α → Prop
  | pure (a : α) : SProg.noTop (.pure a)
  | fail : SProg.noTop .fail
  | waitPeek (n : Nat) (k : Token → SProg α) : (∀ t, SProg.noTop (k t)) → SProg.noTop (.waitPeek n k)
  | waitLoop (on : SProg α) (k : Token → SProg α) : SProg.noTop on → (∀ t, SProg.noTop (k t)) → SProg.noTop (.waitLoop on k)
  | signPeek (k : Token → SProg α) : (∀ t, SProg.noTop (k t)) → SProg.noTop (.signPeek k)
  | peekAt (n : Nat) (k : Token → SProg α) : (∀ t, SProg.noTop (k t)) → SProg.noTop (.peekAt n k)
  | getTok (k : Token → SProg α) : (∀ t, SProg.noTop (k t)) → SProg.noTop (.getTok k)
  | pushTok (t : Token) (k : SProg α) : SProg.noTop k → SProg.noTop (.pushTok t k)
  | pushExpr (e : Sexp) (k : SProg α) : SProg.noTop k → SProg.noTop (.pushExpr e k)

theorem SProg.noTop_bind {α β : Type} {p : SProg α} {f : α → SProg β} (h : p.noTop) (hf : ∀ a, (f a).noTop) :
    (p.bind f).noTop := by
  induction h with
  | pure a => exact hf a
  | fail => exact .fail
  | waitPeek n k _ ih => exact .waitPeek n _ ih
  | waitLoop on k _ _ ih1 ih2 => exact .waitLoop _ _ ih1 ih2
  | signPeek k _ ih => exact .signPeek _ ih
  | peekAt n k _ ih => exact .peekAt n _ ih
  | getTok k _ ih => exact .getTok _ ih
  | pushTok t k _ ih => exact .pushTok t _ ih
  | pushExpr e k _ ih => exact .pushExpr e _ ih

/-- What a function of the annotated parser at some fuel (`p`) has to do with the same function at the next fuel
(`p'`) and with the function of `Model/Parser` (`q`): `q` is `p` without the annotation, `p'` is `p` with some
`fail`s replaced, and `p` never asks the top level for a token. The three are kept by `bind`, `if` and the wait
loop, so one walk over the eight functions gives all three. -/
structure Par {α : Type} (p p' : SProg α) (q : Prog α) : Prop where
  erase : p.erase = q
  le : SProg.le p p'
  noTop : p.noTop

namespace Par

theorem bind {α β : Type} {p p' : SProg α} {q : Prog α} {f f' : α → SProg β} {g : α → Prog β}
    (h : Par p p' q) (hf : ∀ a, Par (f a) (f' a) (g a)) : Par (p >>= f) (p' >>= f') (q >>= g) :=
  ⟨erase_bind_eq h.erase fun a => (hf a).erase, SProg.le_bind h.le fun a => (hf a).le,
   SProg.noTop_bind h.noTop fun a => (hf a).noTop⟩

theorem ite {α : Type} (c : Prop) [Decidable c] {a a' b b' : SProg α} {x y : Prog α}
    (h1 : Par a a' x) (h2 : Par b b' y) : Par (if c then a else b) (if c then a' else b') (if c then x else y) := by
  split <;> assumption

/-- an instruction sequence without recursive call -/
theorem leaf {α : Type} {p : SProg α} (h : p.noTop) : Par p p p.erase := ⟨rfl, SProg.le_refl p, h⟩

theorem pure {α : Type} (a : α) : Par (Pure.pure a : SProg α) (Pure.pure a) (Pure.pure a) := leaf (.pure a)
theorem fail {α : Type} : Par (S.fail : SProg α) S.fail Parser.fail := leaf .fail
theorem waitPeek (n : Nat) : Par (S.waitPeek n) (S.waitPeek n) (Parser.waitPeek n) := leaf (.waitPeek _ _ fun _ => .pure _)
theorem signPeek : Par S.signPeek S.signPeek Parser.signPeek := leaf (.signPeek _ fun _ => .pure _)
theorem popTok : Par S.popTok S.popTok Parser.popTok := leaf (.getTok _ fun _ => .pure _)
theorem tokAt (i : Nat) : Par (S.tokAt i) (S.tokAt i) (Parser.tokAt i) := leaf (.peekAt _ _ fun _ => .pure _)
theorem pushTok (t : Token) : Par (S.pushTok t) (S.pushTok t) (Parser.pushTok t) := leaf (.pushTok _ _ (.pure _))

theorem loop {k k' : Token → SProg Sexp} {q : Token → Prog Sexp} (hk : ∀ t, Par (k t) (k' t) (q t)) :
    Par (S.loopPeek k) (S.loopPeek k') (Parser.waitPeek 0 >>= q) :=
  ⟨erase_bind_eq (p := S.waitPeek 0) rfl fun t => (hk t).erase, .waitLoop _ _ _ _ (SProg.le_refl _) fun t => (hk t).le,
   .waitLoop _ _ (.pure _) fun t => (hk t).noTop⟩

end Par

def ParAll (f : Nat) : Prop :=
  (∀ tok, Par (S.parseExprTok f tok) (S.parseExprTok (f + 1) tok) (parseExprTok f tok)) ∧
  (∀ t e, Par (S.skipComments f t e) (S.skipComments (f + 1) t e) (skipComments f t e)) ∧
  (Par (S.parseExprNested f) (S.parseExprNested (f + 1)) (parseExprNested f)) ∧
  (∀ e, Par (S.parseList f e) (S.parseList (f + 1) e) (parseList f e)) ∧
  (∀ a, Par (S.parseArray f a) (S.parseArray (f + 1) a) (parseArray f a)) ∧
  (∀ a, Par (S.parseInfix f a) (S.parseInfix (f + 1) a) (parseInfix f a)) ∧
  (∀ a, Par (S.parseBlockComment f a) (S.parseBlockComment (f + 1) a) (parseBlockComment f a)) ∧
  (Par (S.parseBacktick f) (S.parseBacktick (f + 1)) (parseBacktick f))

/-- Each function at fuel `f + 1` is one `do` block over the functions at fuel `f`, the same block in `Model/Parser`
and in `Model/Abandon`: the proof term follows the block. -/
theorem parAll_succ (f : Nat) (h : ParAll f) : ParAll (f + 1) := by
  obtain ⟨hT, hS, hN, hL, hA, hI, hC, hB⟩ := h
  have nested (g : Sexp → Sexp) : Par (S.parseExprNested f >>= fun e => pure (g e))
      (S.parseExprNested (f + 1) >>= fun e => pure (g e)) (parseExprNested f >>= fun e => pure (g e)) :=
    hN.bind fun _ => .pure _
  refine ⟨fun tok => ?_, fun t e => ?_, ?_, fun e => ?_, fun a => ?_, fun a => ?_, fun a => ?_, ?_⟩
  · rw [S.parseExprTok, S.parseExprTok, parseExprTok]
    -- the `match`es of the two models are different functions: split one, rewrite the other
    split
    all_goals rename_i heq; simp only [heq]
    · exact hL _
    · exact hA _
    · refine (Par.waitPeek 0).bind fun tok2 => (hS _ _).bind fun r => ?_
      have asHash := (Par.pushTok hashTok).bind fun _ => hL .rcurly
      split
      all_goals rename_i heq; simp only [heq]
      · exact (Par.tokAt _).bind fun _ => .ite _ (hI _) asHash
      · exact Par.popTok.bind fun _ => .pure _
      · exact (Par.tokAt _).bind fun _ => .ite _ asHash (hI _)
      · exact (Par.tokAt _).bind fun _ => (Par.tokAt _).bind fun _ => .ite _ asHash (hI _)
      · exact hI _
    · exact nested _
    · exact nested _
    · exact nested _
    · exact nested _
    · exact hB
    · exact hC _
    · refine .ite _ (Par.signPeek.bind fun _ => .ite _ (Par.popTok.bind fun _ => ?_) (.pure _)) (.pure _)
      cases NumLit.parseFloat (tok.str ++ "Inf".toList)
      · exact .fail
      · exact .pure _
    · rcases atomOfTok tok with _ | _ | _
      · exact .fail
      · exact .fail
      · exact .pure _
  · rw [S.skipComments, S.skipComments, skipComments]
    exact .ite _ (Par.bind (.ite _ ((Par.tokAt _).bind fun _ => .pure _) (.pure _)) fun _ =>
      Par.bind (.ite _ ((Par.tokAt _).bind fun _ => .pure _) (.pure _)) fun _ => hS _ _) (.pure _)
  · rw [S.parseExprNested, S.parseExprNested, parseExprNested]
    exact (Par.waitPeek 0).bind fun _ => Par.popTok.bind fun _ => hT _
  · rw [S.parseList, S.parseList, parseList]
    exact .loop fun tok => .ite _ (Par.popTok.bind fun _ => .pure _)
      (hN.bind fun head => (Par.waitPeek 0).bind fun tok => .ite _
        (Par.popTok.bind fun _ => hN.bind fun _ => (Par.waitPeek 0).bind fun _ => Par.popTok.bind fun _ =>
          .ite _ .fail (.pure _))
        ((hL e).bind fun _ => .pure _))
  · rw [S.parseArray, S.parseArray, parseArray]
    exact .loop fun tok => .ite _ (Par.popTok.bind fun _ => hA _)
      (.ite _ (Par.popTok.bind fun _ => .pure _) (hN.bind fun _ => hA _))
  · rw [S.parseInfix, S.parseInfix, parseInfix]
    exact .loop fun tok => .ite _ (Par.popTok.bind fun _ => .ite _ (.pure _) (.pure _)) (hN.bind fun _ => hI _)
  · rw [S.parseBlockComment, S.parseBlockComment, parseBlockComment]
    exact .loop fun tok => Par.popTok.bind fun _ => .ite _ (.pure _) (.ite _ (hC _) .fail)
  · rw [S.parseBacktick, S.parseBacktick, parseBacktick]
    exact .loop fun tok => Par.popTok.bind fun _ => .ite _ (.pure _) .fail

theorem parAll (f : Nat) : ParAll f := by
  induction f with
  | zero =>
    exact ⟨fun _ => ⟨rfl, .fail _, .fail⟩, fun _ _ => ⟨rfl, .fail _, .fail⟩, ⟨rfl, .fail _, .fail⟩, fun _ => ⟨rfl, .fail _, .fail⟩,
      fun _ => ⟨rfl, .fail _, .fail⟩, fun _ => ⟨rfl, .fail _, .fail⟩, fun _ => ⟨rfl, .fail _, .fail⟩, ⟨rfl, .fail _, .fail⟩⟩
  | succ n ih => exact parAll_succ n ih

/-- **The annotated parser is the parser.** Forgetting what a stopped `yield` does turns
`S.topLoop` into `Model/Parser.topLoop`, instruction by instruction: the two are one program,
and every theorem about `run (topLoop f)` is a theorem about `run (S.topLoop f).erase`. -/
theorem erase_topLoop (f : Nat) : (S.topLoop f).erase = topLoop f := by
  induction f with
  | zero => simp only [S.topLoop, topLoop, S.fail, fail, SProg.erase]
  | succ n ih =>
    rw [S.topLoop, topLoop]
    simp only [bind, pure, S.topGet, topGet, S.pushExpr, pushExpr, SProg.erase, SProg.bind, Prog.bind]
    congr 1; funext t
    cases t with
    | none => rfl
    | some tok => simp only [SProg.erase_bind, SProg.erase, ((parAll n).1 tok).erase, ih]

def Fin.isMore {α : Type} : Fin α → Bool
  | .stop .more => true
  | _ => false

/-- a waiting instruction at the head: what a suspended coroutine is blocked in -/
def SProg.isWait {α : Type} : SProg α → Bool
  | .waitPeek _ _ | .waitLoop _ _ | .signPeek _ | .peekAt _ _ | .getTok _ | .topGet _ => true
  | _ => false

/-- where a run on a view comes to rest for lack of input: `(ended, κ, v')` — the program `κ`
(its head is the instruction that found no input) on the view `v'`; `ended` = the top level
answered `done` (the Go iterator returns; the next `ParseTokens` starts a new one, which is the
same loop), otherwise a coroutine stays blocked in a "more input needed" yield -/
def suspendA {α : Type} : SProg α → View → Option (Bool × SProg α × View)
  | .pure _, _ => none
  | .fail, _ => none
  | .waitPeek n k, v =>
    (match peekWaitA false n v.exprs v.fin v.runes v.core with
     | .tok t v' => suspendA (k t) v'
     | .stop .more v' => some (false, .waitPeek n k, v')
     | .stop _ _ => none)
  | .waitLoop on k, v =>
    (match peekWaitA false 0 v.exprs v.fin v.runes v.core with
     | .tok t v' => suspendA (k t) v'
     | .stop .more v' => some (false, .waitLoop on k, v')
     | .stop _ _ => none)
  | .signPeek k, v =>
    (match peekWaitA true 0 v.exprs v.fin v.runes v.core with
     | .tok t v' => suspendA (k t) v'
     | .stop .more v' => some (false, .signPeek k, v')
     | .stop _ _ => none)
  | .topGet k, v =>
    (match topGetA v.exprs v.fin v.runes v.core with
     | .tok t v' => suspendA (k (some t)) v'
     | .finished .done v' => some (true, .topGet k, v')
     | .finished .more v' => some (false, .topGet k, v')
     | .finished .err _ => none)
  | .peekAt i k, v =>
    (match peekWaitA false i v.exprs v.fin v.runes v.core with
     | .tok _ v' =>
       (match v'.core.tokens[i]? with
        | some t => suspendA (k t) v'
        | none => none)
     | .stop .more v' => some (false, .peekAt i k, v')
     | .stop _ _ => none)
  | .getTok k, v =>
    (match peekWaitA false 0 v.exprs v.fin v.runes v.core with
     | .tok t v' => suspendA (k t) { v' with core := { v'.core with tokens := v'.core.tokens.tail } }
     | .stop .more v' => some (false, .getTok k, v')
     | .stop _ _ => none)
  | .pushTok t k, v => suspendA k { v with core := { v.core with tokens := t :: v.core.tokens } }
  | .pushExpr e k, v => suspendA k { v with exprs := v.exprs ++ [e] }

def SProg.wt? {α : Type} : SProg α → Option (Wt (SProg α))
  | .waitPeek n k => some ⟨false, n, fun t ts => some (k t, ts), none⟩
  | .waitLoop _ k => some ⟨false, 0, fun t ts => some (k t, ts), none⟩
  | .signPeek k => some ⟨true, 0, fun t ts => some (k t, ts), none⟩
  | .peekAt i k => some ⟨false, i, fun _ ts => match ts[i]? with | some t => some (k t, ts) | none => none, none⟩
  | .getTok k => some ⟨false, 0, fun t ts => some (k t, ts.tail), none⟩
  | .topGet k => some ⟨false, 0, fun t ts => some (k (some t), ts.tail), some (k none)⟩
  | _ => none

theorem SProg.erase_wt {α : Type} {p : SProg α} {w} (h : p.wt? = some w) : p.erase.wt? = some (w.map SProg.erase) := by
  cases p with
  | peekAt i k =>
    cases h
    simp only [SProg.erase, Prog.wt?, Wt.map, Option.some.injEq, Wt.mk.injEq, true_and, Option.map_none, and_true]
    funext t ts
    cases ts[i]? <;> rfl
  | _ => cases h <;> rfl

theorem run_erase_wt {α : Type} {p : SProg α} {w} (h : p.wt? = some w) (s : PState) :
    run p.erase s = match waitRun w.stf w.orEnd w.extra (s.size + 1) s with
      | .tok t s' => (match w.next t s'.lex.tokens with
        | some (q, ts) => run q.erase (s'.setToks ts)
        | none => (.stop .err, s'))
      | .stop .more s' => (match w.atEnd with
        | some q => if inLiteral s'.lex.toLexCore then (.stop .more, s') else run q.erase s'
        | none => (.stop .more, s'))
      | .stop _ s' => (.stop .err, s') := by
  rw [run_wt (SProg.erase_wt h), Wt.stf_map]
  dsimp only [Wt.map]
  cases waitRun w.stf w.orEnd w.extra (s.size + 1) s with
  | tok t s' => dsimp only; cases w.next t s'.lex.tokens <;> rfl
  | stop st s' =>
    cases st with
    | more => dsimp only; cases w.atEnd <;> rfl
    | done => rfl
    | err => rfl

theorem runA_erase_wt {α : Type} {p : SProg α} {w} (h : p.wt? = some w) (v : View) :
    runA p.erase v = match peekWaitA w.orEnd w.extra v.exprs v.fin v.runes v.core with
      | .tok t v' => (match w.next t v'.core.tokens with
        | some (q, ts) => runA q.erase (v'.setToks ts)
        | none => (.stop .err, v'))
      | .stop .more v' => (match w.atEnd with
        | some q => if inLiteral v'.core then (.stop .more, v') else runA q.erase v'
        | none => (.stop .more, v'))
      | .stop _ v' => (.stop .err, v') := by
  rw [runA_wt (SProg.erase_wt h)]
  dsimp only [Wt.map]
  cases peekWaitA w.orEnd w.extra v.exprs v.fin v.runes v.core with
  | tok t v' => dsimp only; cases w.next t v'.core.tokens <;> rfl
  | stop st v' =>
    cases st with
    | more => dsimp only; cases w.atEnd <;> rfl
    | done => rfl
    | err => rfl

/-- the top level answers `done`: the input is used up outside a literal -/
def Wt.ended {P : Type} (w : Wt P) (c : LexCore) : Bool := w.atEnd.isSome && !inLiteral c

theorem Wt.stf_ended {P : Type} (w : Wt P) (c : LexCore) : w.stf c = if w.ended c then .done else .more := by
  unfold Wt.stf Wt.ended litStatus
  cases w.atEnd with
  | none => rfl
  | some q => dsimp only; cases inLiteral c <;> rfl

theorem suspendA_wt {α : Type} {p : SProg α} {w} (h : p.wt? = some w) (v : View) :
    suspendA p v = match peekWaitA w.orEnd w.extra v.exprs v.fin v.runes v.core with
      | .tok t v' => (match w.next t v'.core.tokens with
        | some (q, ts) => suspendA q (v'.setToks ts)
        | none => none)
      | .stop .more v' => some (w.ended v'.core, p, v')
      | .stop _ _ => none := by
  cases p with
  | waitPeek n k => cases h; rw [suspendA]; rfl
  | waitLoop on k => cases h; rw [suspendA]; rfl
  | signPeek k => cases h; rw [suspendA]; rfl
  | getTok k => cases h; rw [suspendA]; rfl
  | peekAt i k => cases h; rw [suspendA]; cases peekWaitA false i v.exprs v.fin v.runes v.core with
    | tok t v' => dsimp only; cases v'.core.tokens[i]? <;> rfl
    | stop st v' => cases st <;> rfl
  | topGet k =>
    cases h; rw [suspendA, topGetA_eq]
    cases hp : peekWaitA false 0 v.exprs v.fin v.runes v.core with
    | tok t v' => rfl
    | stop st v' =>
      rcases peekWaitA_stop_cases _ _ _ _ _ _ _ _ hp with rfl | rfl
      · dsimp only [PeekOutA.toTop, Wt.ended]; cases inLiteral v'.core <;> rfl
      · rfl
  | pure a => cases h
  | fail => cases h
  | pushTok t k => cases h
  | pushExpr e k => cases h

theorem residual_wt {α : Type} {p : SProg α} {w} (h : p.wt? = some w) (s : PState) :
    residual p s = match waitRun w.stf w.orEnd w.extra (s.size + 1) s with
      | .tok t s' => (match w.next t s'.lex.tokens with
        | some (q, ts) => residual q (s'.setToks ts)
        | none => none)
      | .stop .more s' => (match w.atEnd with
        | some q => if inLiteral s'.lex.toLexCore then some p else residual q s'
        | none => some p)
      | .stop _ _ => none := by
  cases p with
  | waitPeek n k => cases h; rw [residual, peekWaitRun_eq]; rfl
  | waitLoop on k => cases h; rw [residual, peekWaitRun_eq]; rfl
  | signPeek k => cases h; rw [residual, peekWaitRun_eq]; rfl
  | getTok k => cases h; rw [residual, peekWaitRun_eq]; rfl
  | peekAt i k => cases h; rw [residual, peekWaitRun_eq]; dsimp only [Wt.stf]; cases waitRun (fun _ => Status.more) false i (s.size + 1) s with
    | tok t s' => dsimp only; cases s'.lex.tokens[i]? <;> rfl
    | stop st s' => cases st <;> rfl
  | topGet k =>
    cases h; rw [residual, topGetRun_eq]
    dsimp only [Wt.stf]
    cases hp : waitRun litStatus false 0 (s.size + 1) s with
    | tok t s' => rfl
    | stop st s' =>
      rcases waitRun_stop_cases _ _ _ _ _ _ _ hp with rfl | rfl
      · dsimp only [PeekOut.toTop, litStatus]; cases inLiteral s'.lex.toLexCore <;> rfl
      · rfl
  | pure a => cases h
  | fail => cases h
  | pushTok t k => cases h
  | pushExpr e k => cases h

theorem SProg.wt_induction {α : Type} {motive : SProg α → Prop}
    (pure : ∀ a, motive (.pure a)) (fail : motive .fail)
    (wait : ∀ p w, p.wt? = some w → (∀ t ts q ts', w.next t ts = some (q, ts') → motive q) →
      (∀ q, w.atEnd = some q → motive q) → motive p)
    (pushTok : ∀ t k, motive k → motive (.pushTok t k)) (pushExpr : ∀ e k, motive k → motive (.pushExpr e k)) :
    ∀ p, motive p := by
  intro p
  induction p with
  | pure a => exact pure a
  | fail => exact fail
  | waitPeek n k ih => exact wait _ _ rfl (fun t ts q ts' h => by cases h; exact ih t) (fun q h => nomatch h)
  | waitLoop on k _ ih => exact wait _ _ rfl (fun t ts q ts' h => by cases h; exact ih t) (fun q h => nomatch h)
  | signPeek k ih => exact wait _ _ rfl (fun t ts q ts' h => by cases h; exact ih t) (fun q h => nomatch h)
  | peekAt i k ih =>
    refine wait _ _ rfl (fun t ts q ts' h => ?_) (fun q h => nomatch h)
    dsimp only at h
    split at h
    · cases h; exact ih _
    · cases h
  | getTok k ih => exact wait _ _ rfl (fun t ts q ts' h => by cases h; exact ih t) (fun q h => nomatch h)
  | topGet k ih => exact wait _ _ rfl (fun t ts q ts' h => by cases h; exact ih _) (fun q h => by cases h; exact ih _)
  | pushTok t k ih => exact pushTok t k ih
  | pushExpr e k ih => exact pushExpr e k ih

/-- more input behind the input of a look-ahead that found a token, ran out, or failed (end of
input not signalled while the first part is read); an error found in the first part is found with
any continuation -/
theorem peekWaitA_append (b : Bool) (n : Nat) (ex : List Sexp) (rs : List Char) (c : LexCore)
    (more : List Char) (fin' : Bool) :
    match peekWaitA b n ex false rs c with
    | .tok t v' => v'.exprs = ex ∧ v'.fin = false ∧ peekWaitA b n ex fin' (rs ++ more) c = .tok t ⟨v'.core, v'.runes ++ more, ex, fin'⟩
    | .stop .more v' => v'.runes = [] ∧ v'.exprs = ex ∧
        peekWaitA b n ex fin' (rs ++ more) c = peekWaitA b n ex fin' more v'.core
    | .stop .err v' => v'.exprs = ex ∧ peekWaitA b n ex fin' (rs ++ more) c = .stop .err ⟨v'.core, v'.runes ++ more, ex, fin'⟩
    | .stop .done _ => True := by
  induction rs generalizing c with
  | nil =>
    simp only [peekWaitA, List.nil_append]
    cases h : headIf n c with
    | some t => simp [peekWaitA_headIf _ _ _ _ _ _ _ h]
    | none => simp
  | cons r rs ih =>
    simp only [peekWaitA, List.cons_append]
    cases h : headIf n c with
    | some t => simp
    | none =>
      simp only
      cases hs : step c r with
      | ok c' => exact ih c'
      | err e c' => simp

/-- **More input behind the input of a run.** A program that comes to rest on a view for lack of input (a coroutine
blocked in a "more input needed" yield, or the top level answered `done`) rests on a view with no input left and, when
more input follows, goes on as the program it rests in from the state it rests in; a program that ends by itself never
looks at what follows. For every program, whatever the end-of-input mark of the continuation. -/
theorem runA_append {α : Type} (p : SProg α) (v : View) (hfin : v.fin = false) :
    (∀ e κ v', suspendA p v = some (e, κ, v') → v'.runes = []) ∧
    ∀ more fin', runA p.erase ⟨v.core, v.runes ++ more, v.exprs, fin'⟩ = match suspendA p v with
      | some (_, κ, v') => runA κ.erase ⟨v'.core, more, v'.exprs, fin'⟩
      | none => ((runA p.erase v).1,
          ⟨(runA p.erase v).2.core, (runA p.erase v).2.runes ++ more, (runA p.erase v).2.exprs, fin'⟩) := by
  induction p using SProg.wt_induction generalizing v with
  | pure a => exact ⟨fun _ _ _ h => (nomatch h), fun _ _ => rfl⟩
  | fail => exact ⟨fun _ _ _ h => (nomatch h), fun _ _ => rfl⟩
  | wait p w hw ih _ =>
    have A := fun more fin' => peekWaitA_append w.orEnd w.extra v.exprs v.runes v.core more fin'
    rw [suspendA_wt hw, runA_erase_wt hw, hfin]
    cases hp : peekWaitA w.orEnd w.extra v.exprs false v.runes v.core with
    | tok t v1 =>
      simp only [hp] at A ⊢
      cases hn : w.next t v1.core.tokens with
      | none =>
        exact ⟨fun _ _ _ h => (nomatch h), fun more fin' => by
          rw [runA_erase_wt hw, (A more fin').2.2]; simp only [hn, (A more fin').1]⟩
      | some x =>
        obtain ⟨i1, i2⟩ := ih t _ x.1 x.2 hn (v1.setToks x.2) (A [] false).2.1
        refine ⟨i1, fun more fin' => ?_⟩
        rw [runA_erase_wt hw, (A more fin').2.2]
        simp only [hn]
        rw [← (A more fin').1]; exact i2 more fin'
    | stop st v1 =>
      rcases peekWaitA_stop_cases _ _ _ _ _ _ _ _ hp with rfl | rfl <;> simp only [hp] at A ⊢
      · exact ⟨fun _ _ _ h => by cases h; exact (A [] false).1, fun more fin' => by
          rw [runA_erase_wt hw, runA_erase_wt hw, (A more fin').2.2, (A more fin').2.1]⟩
      · exact ⟨fun _ _ _ h => (nomatch h), fun more fin' => by
          rw [runA_erase_wt hw, (A more fin').2]; simp only [(A more fin').1]⟩
  | pushTok t k ih => exact ih { v with core := { v.core with tokens := t :: v.core.tokens } } hfin
  | pushExpr e' k ih => exact ih { v with exprs := v.exprs ++ [e'] } hfin

/-- **The suspended program is the rest of the run**: the first half of `runA_append`. -/
theorem resume_is_rest_of_run {α : Type} (p : SProg α) (v : View) (hfin : v.fin = false)
    (e : Bool) (κ : SProg α) (v' : View) (h : suspendA p v = some (e, κ, v')) :
    v'.runes = [] ∧ ∀ more fin',
      runA p.erase ⟨v.core, v.runes ++ more, v.exprs, fin'⟩ = runA κ.erase ⟨v'.core, more, v'.exprs, fin'⟩ :=
  ⟨(runA_append p v hfin).1 e κ v' h, fun more fin' => by rw [(runA_append p v hfin).2 more fin', h]⟩

/-- the concrete `residual` (what `PSt.parseTokens` keeps as the coroutine) is the program the
abstract run comes to rest in, whenever that is a blocked coroutine -/
theorem residual_of_suspendA {α : Type} (p : SProg α) (s : PState) (hi : Inv s)
    (κ : SProg α) (v' : View) (h : suspendA p (view s) = some (false, κ, v')) :
    residual p s = some κ ∧ view (run p.erase s).2 = v' ∧ (run p.erase s).1.isMore = true := by
  induction p using SProg.wt_induction generalizing s with
  | pure a => cases h
  | fail => cases h
  | wait p w hw ih _ =>
    obtain ⟨hA, hinv⟩ := wait_sim w.stf w.orEnd w.extra (s.size + 1) s hi (Nat.lt_succ_self _)
    have hv := view_fields s
    rw [suspendA_wt hw, hv.1, hv.2.1, hv.2.2.1, hv.2.2.2, ← hA] at h
    rw [residual_wt hw, run_erase_wt hw]
    cases hpw : waitRun w.stf w.orEnd w.extra (s.size + 1) s with
    | tok t s' =>
      rw [hpw] at hinv
      have ht : (view s').core.tokens = s'.lex.tokens := rfl
      simp only [hpw, PeekOut.toA, ht] at h ⊢
      cases hn : w.next t s'.lex.tokens with
      | none => simp [hn] at h
      | some x => simp only [hn] at h ⊢; exact ih t _ x.1 x.2 hn (s'.setToks x.2) hinv h
    | stop st s' =>
      simp only [hpw, PeekOut.toA] at h
      cases st with
      | more =>
        simp only [Option.some.injEq, Prod.mk.injEq] at h
        obtain ⟨he, rfl, rfl⟩ := h
        dsimp only
        cases hat : w.atEnd with
        | none => exact ⟨rfl, rfl, rfl⟩
        | some q =>
          have hl : inLiteral s'.lex.toLexCore = true := by simpa [Wt.ended, hat, view] using he
          simp [hl, Fin.isMore]
      | done => cases h
      | err => cases h
  | pushTok t k ih => exact ih (s.setToks (t :: s.lex.tokens)) hi h
  | pushExpr e k ih => exact ih { s with exprs := s.exprs ++ [e] } hi h

theorem SProg.wt?_bind {α β : Type} {p : SProg α} (f : α → SProg β) {w} (hw : p.wt? = some w) :
    (p.bind f).wt? = some (w.map (·.bind f)) := by
  cases p with
  | peekAt i k =>
    cases hw
    simp only [SProg.bind, SProg.wt?, Wt.map, Option.some.injEq, Wt.mk.injEq, true_and, Option.map_none, and_true]
    funext t ts
    cases ts[i]? <;> rfl
  | _ => cases hw <;> rfl

/-- only the top level has a continuation for the end of the input; `suspendA_true` and `run_split` read the `k none`
of the `topGet` the program rests in off `atEnd` through this -/
theorem SProg.wt?_atEnd {α : Type} {p : SProg α} {w} (hw : p.wt? = some w) {q : SProg α} (hq : w.atEnd = some q) :
    ∃ k, p = .topGet k ∧ q = k none := by
  cases p <;> cases hw <;> cases hq
  exact ⟨_, rfl, rfl⟩

theorem suspendA_bind {α β : Type} (p : SProg α) (f : α → SProg β) (v : View) :
    suspendA (p.bind f) v = match suspendA p v with
      | some (e, κ, v') => some (e, κ.bind f, v')
      | none => match runA p.erase v with
        | (.ret a, v1) => suspendA (f a) v1
        | (.stop _, _) => none := by
  induction p using SProg.wt_induction generalizing v with
  | pure a => rfl
  | fail => rfl
  | wait p w hw ih _ =>
    rw [suspendA_wt (SProg.wt?_bind f hw), suspendA_wt hw, runA_erase_wt hw]
    dsimp only [Wt.map]
    cases peekWaitA w.orEnd w.extra v.exprs v.fin v.runes v.core with
    | tok t v1 =>
      dsimp only
      cases hn : w.next t v1.core.tokens with
      | none => rfl
      | some x => exact ih t _ x.1 x.2 hn _
    | stop st v1 =>
      cases st with
      | more => simp [Wt.ended]
      | done => rfl
      | err => rfl
  | pushTok t k ih => exact ih _
  | pushExpr e k ih => exact ih _

/-- a program that rests at a top level that answered `done` has, on that input, done what it does
up to there, and goes on as if the top level had answered "no token" -/
theorem suspendA_true {α : Type} (p : SProg α) (v : View) (κ : SProg α) (v' : View)
    (h : suspendA p v = some (true, κ, v')) :
    ∃ k, κ = .topGet k ∧ runA p.erase v = runA (k none).erase v' := by
  induction p using SProg.wt_induction generalizing v with
  | pure a => cases h
  | fail => cases h
  | wait p w hw ih _ =>
    rw [suspendA_wt hw] at h
    rw [runA_erase_wt hw]
    cases hp : peekWaitA w.orEnd w.extra v.exprs v.fin v.runes v.core with
    | tok t v1 =>
      simp only [hp] at h ⊢
      cases hn : w.next t v1.core.tokens with
      | none => simp [hn] at h
      | some x => simp only [hn] at h ⊢; exact ih t _ x.1 x.2 hn _ h
    | stop st v1 =>
      cases st with
      | more =>
        simp only [hp, Option.some.injEq, Prod.mk.injEq] at h ⊢
        obtain ⟨he, rfl, rfl⟩ := h
        cases hat : w.atEnd with
        | none => simp [Wt.ended, hat] at he
        | some q =>
          obtain ⟨k, rfl, rfl⟩ := SProg.wt?_atEnd hw hat
          have hl : inLiteral v1.core = false := by simpa [Wt.ended, hat] using he
          exact ⟨k, rfl, by simp only [hl, Bool.false_eq_true, ↓reduceIte]⟩
      | done => simp [hp] at h
      | err => simp [hp] at h
  | pushTok t k ih => exact ih _ h
  | pushExpr e k ih => exact ih _ h

/-- a program that does not come to rest for lack of input ends by itself: it returns or fails -/
theorem suspendA_none_stop {α : Type} (p : SProg α) (v : View) (h : suspendA p v = none)
    (st : Status) (hst : (runA p.erase v).1 = .stop st) : st = .err := by
  induction p using SProg.wt_induction generalizing v with
  | pure a => cases hst
  | fail => cases hst; rfl
  | wait p w hw ih _ =>
    rw [suspendA_wt hw] at h
    rw [runA_erase_wt hw] at hst
    cases hp : peekWaitA w.orEnd w.extra v.exprs v.fin v.runes v.core with
    | tok t v1 =>
      simp only [hp] at h hst
      cases hn : w.next t v1.core.tokens with
      | none => simp only [hn] at hst; cases hst; rfl
      | some x => simp only [hn] at h hst; exact ih t _ x.1 x.2 hn _ h hst
    | stop st' v1 =>
      cases st' with
      | more => simp [hp] at h
      | done => simp only [hp] at hst; cases hst; rfl
      | err => simp only [hp] at hst; cases hst; rfl
  | pushTok t k ih => exact ih _ h hst
  | pushExpr e k ih => exact ih _ h hst

end ZygoVerif.Parser
