/-
C02, execution half — F3: `apply` and `map` with user closures. The Go builtin calls back into the
machine (`Apply`: arguments pushed — at lazy positions as already forced lazy argument objects —,
`CallFunction`, a nested `Run`), against `Ref.applyValues`/`Ref.mapArr`/`Ref.mapList`. The callee may be
a closure object (`FClaimU` at lower fuel) or again a Go builtin (`force`, `apply`, `map`, first-order).
-/
import ZygoVerif.Proofs.SimF2Lazy
import ZygoVerif.Proofs.MapErr

namespace ZygoVerif.Sim
open ZygoVerif.Core ZygoVerif.VM

/-- a lazy argument object made from a value (`NewValueLazyArg`) -/
def valLazy (v : Val) : LazyObj := { e := .nilLit, stack := [], curfunc := 0, value := some v, isValue := true }
/-- … and the thunk the reference evaluator makes -/
def valThunk (v : Val) : Ref.Thunk := { e := .nilLit, env := 0, value := some v, isValue := true }

/-- the arguments `Apply` hands over: at lazy positions the index of the object made for the value -/
def wrapVals (la : Nat → Bool) : Nat → Nat → List Val → List Val
  | _, _, [] => []
  | i, n, v :: vs => if la i then .lazy n :: wrapVals la (i + 1) (n + 1) vs else v :: wrapVals la (i + 1) n vs

def wrapLz (la : Nat → Bool) : Nat → List Val → List Val
  | _, [] => []
  | i, v :: vs => if la i then v :: wrapLz la (i + 1) vs else wrapLz la (i + 1) vs

theorem wrapVals_length (la : Nat → Bool) : ∀ (i n : Nat) (vs : List Val), (wrapVals la i n vs).length = vs.length
  | _, _, [] => rfl
  | i, n, v :: vs => by
    unfold wrapVals
    split <;> simp [wrapVals_length la]

theorem wrapVals_map (la : Nat → Bool) (f : Val → Val) (hf : ∀ n, f (.lazy n) = .lazy n) :
    ∀ (i n : Nat) (vs : List Val), wrapVals la i n (vs.map f) = (wrapVals la i n vs).map f
  | _, _, [] => rfl
  | i, n, v :: vs => by
    simp only [List.map_cons, wrapVals]
    split
    · rw [List.map_cons, hf, wrapVals_map la f hf]
    · rw [List.map_cons, wrapVals_map la f hf]

theorem wrapLz_map (la : Nat → Bool) (f : Val → Val) : ∀ (i : Nat) (vs : List Val), wrapLz la i (vs.map f) = (wrapLz la i vs).map f
  | _, [] => rfl
  | i, v :: vs => by
    simp only [List.map_cons, wrapLz]
    split
    · rw [List.map_cons, wrapLz_map la f]
    · rw [wrapLz_map la f]

theorem wrapLz_mem (la : Nat → Bool) : ∀ (i : Nat) (vs : List Val) (v : Val), v ∈ wrapLz la i vs → v ∈ vs
  | _, [], _, h => by cases h
  | i, w :: vs, v, h => by
    unfold wrapLz at h
    split at h
    · rcases List.mem_cons.mp h with rfl | h
      · exact List.mem_cons_self
      · exact List.mem_cons_of_mem _ (wrapLz_mem la _ vs v h)
    · exact List.mem_cons_of_mem _ (wrapLz_mem la _ vs v h)

/-- a wrapped argument is an argument or names one of the new objects -/
theorem wrapVals_mem (la : Nat → Bool) : ∀ (i n : Nat) (vs : List Val) (v : Val), v ∈ wrapVals la i n vs →
    v ∈ vs ∨ ∃ k, v = .lazy k
  | _, _, [], _, h => by cases h
  | i, n, w :: vs, v, h => by
    unfold wrapVals at h
    split at h
    · rcases List.mem_cons.mp h with rfl | h
      · exact Or.inr ⟨n, rfl⟩
      · rcases wrapVals_mem la _ _ vs v h with h | h
        · exact Or.inl (List.mem_cons_of_mem _ h)
        · exact Or.inr h
    · rcases List.mem_cons.mp h with rfl | h
      · exact Or.inl List.mem_cons_self
      · rcases wrapVals_mem la _ _ vs v h with h | h
        · exact Or.inl (List.mem_cons_of_mem _ h)
        · exact Or.inr h

/-- the state after `Apply` pushed the arguments -/
def wrapped (s : St) (la : Nat → Bool) (vs : List Val) : St :=
  { s with lazies := s.lazies ++ (wrapLz la 0 vs).map valLazy,
           data := (wrapVals la 0 s.lazies.length vs).reverse.map some ++ s.data }

theorem applyWrap_vals (fo : FnObj) : ∀ (vs : List Val) (s : St) (i : Nat),
    applyWrap fo vs s i
      = { s with lazies := s.lazies ++ (wrapLz fo.isLazyCallArg i vs).map valLazy,
                 data := (wrapVals fo.isLazyCallArg i s.lazies.length vs).reverse.map some ++ s.data }
  | [], s, i => by simp [applyWrap, wrapLz, wrapVals]
  | v :: vs, s, i => by
    rw [applyWrap, applyWrap_vals fo vs _ (i + 1)]
    by_cases hl : fo.isLazyCallArg i = true
    · simp [wrapLz, wrapVals, hl, pushLazyVal, valLazy, lazyValObj]
    · have hl' : fo.isLazyCallArg i = false := by simpa using hl
      simp [wrapLz, wrapVals, hl', pushVal]

theorem ref_wrap_fold (c : Ref.Clos) : ∀ (vs : List Val) (rs : Ref.St) (acc : List Val) (i : Nat),
    vs.foldl (fun (p : Ref.St × List Val × Nat) v =>
        if p.2.2 < c.ps.length && Ref.isLazyParam (c.ps.getD p.2.2 "") then
          ({ p.1 with thunks := p.1.thunks ++ [{ e := .nilLit, env := 0, value := some v, isValue := true }] },
           p.2.1 ++ [.lazy p.1.thunks.length], p.2.2 + 1)
        else (p.1, p.2.1 ++ [v], p.2.2 + 1)) (rs, acc, i)
      = ({ rs with thunks := rs.thunks ++ (wrapLz (lazyAtC c) i vs).map valThunk },
         acc ++ wrapVals (lazyAtC c) i rs.thunks.length vs, i + vs.length)
  | [], rs, acc, i => by simp [wrapLz, wrapVals]
  | v :: vs, rs, acc, i => by
    rw [List.foldl_cons]
    by_cases hl : lazyAtC c i = true
    · have hl2 : (decide (i < c.ps.length) && Ref.isLazyParam (c.ps.getD i "")) = true := hl
      simp only [hl2, if_true]
      rw [ref_wrap_fold c vs _ _ (i + 1)]
      simp [wrapLz, wrapVals, hl, valThunk]
      omega
    · have hl' : lazyAtC c i = false := by simpa using hl
      have hl2 : (decide (i < c.ps.length) && Ref.isLazyParam (c.ps.getD i "")) = false := hl'
      simp only [hl2, Bool.false_eq_true, if_false]
      rw [ref_wrap_fold c vs _ _ (i + 1)]
      simp [wrapLz, wrapVals, hl']
      omega

/-- `Apply` of a function object: the arguments pushed, `CallFunction`, a nested `Run`; an error restores the
control state -/
theorem vm_applyFn_fn (fuel id : Nat) (args : List Val) (s : St) :
    (VM.applyFn (fuel + 1) (.fn id) args).run s =
      match ((do callFunction id args.length; run fuel : M Val)).run
          { s with pc := -2, lazies := s.lazies ++ (wrapLz (fnOf s id).isLazyCallArg 0 args).map valLazy,
                   data := (wrapVals (fnOf s id).isLazyCallArg 0 s.lazies.length args).reverse.map some ++ s.data } with
      | (.ok v, s') => (.ok v, s')
      | (.error .err, s') => (.error .err, ((restore (capOf s)).run s').2)
      | (.error flt, s') => (.error flt, s') := by
  rw [run_applyFn_fn, applyWrap_vals]
  generalize (do callFunction id args.length; run fuel : M Val).run _ = res
  rcases res with ⟨(_ | _ | _) | v, s'⟩ <;> simp only [handOn, Contain.run_restore, Bool.false_eq_true, if_false] <;> rfl

theorem vm_applyFn_builtin (fuel : Nat) (name : String) (args : List Val) (s : St) :
    (VM.applyFn (fuel + 1) (.builtin name) args).run s = (builtin fuel name args).run s := by
  rw [VM.applyFn]

theorem ref_applyValues_fn (fuel cid : Nat) (xs : List Val) (rs : Ref.St) (c : Ref.Clos) (hc : rs.clos[cid]? = some c) :
    Ref.applyValues (fuel + 1) (.fn cid) xs rs =
      Ref.applyFn fuel (.fn cid) (wrapVals (lazyAtC c) 0 rs.thunks.length xs)
        { rs with thunks := rs.thunks ++ (wrapLz (lazyAtC c) 0 xs).map valThunk } := by
  rw [Ref.applyValues]
  simp only [hc]
  have := ref_wrap_fold c xs rs [] 0
  rw [this]
  simp

theorem ref_applyValues_builtin (fuel : Nat) (name : String) (xs : List Val) (rs : Ref.St) :
    Ref.applyValues (fuel + 1) (.builtin name) xs rs = Ref.applyFn fuel (.builtin name) xs rs := by
  rw [Ref.applyValues]
  intro id h; cases h

/-- **Already forced lazy argument objects** (made by `Apply` from values) against the thunks the reference
evaluator makes: same slots, memos related from the start -/
theorem RelF.allocVals {m s rs env} (h : RelF m s rs env) (L : List Val) (hL : ∀ v ∈ L, VOk m s rs v) :
    RelF m { s with lazies := s.lazies ++ L.map valLazy } { rs with thunks := rs.thunks ++ (L.map (trf m)).map valThunk } env := by
  have E : ExtF m s rs m { s with lazies := s.lazies ++ L.map valLazy }
      { rs with thunks := rs.thunks ++ (L.map (trf m)).map valThunk } :=
    ExtF.of_eq rfl (Nat.le_refl _) (fun _ _ => rfl) ⟨fun i fr hf => ⟨fr, hf, rfl⟩, fun _ _ hc' => hc'⟩
  refine h.move E h.len (entries_kept m rfl rfl) h.par h.bottom (h.ctx_grow E) h.heap (h.hok.grow E) h.trace ⟨?_, ?_⟩
  · show (s.lazies ++ L.map valLazy).length = (rs.thunks ++ (L.map (trf m)).map valThunk).length
    simp [h.lz.1]
  · intro id lz hl
    have hl' : (s.lazies ++ L.map valLazy)[id]? = some lz := hl
    by_cases hid : id < s.lazies.length
    · rw [List.getElem?_append_left hid] at hl'
      obtain ⟨th, h1, h2⟩ := h.lz.2 id lz hl'
      refine ⟨th, ?_, h2.grow E⟩
      show (rs.thunks ++ _)[id]? = some th
      rw [List.getElem?_append_left (by rw [← h.lz.1]; exact hid)]; exact h1
    · have hge : s.lazies.length ≤ id := Nat.le_of_not_lt hid
      rw [List.getElem?_append_right hge, List.getElem?_map] at hl'
      cases hv : L[id - s.lazies.length]? with
      | none => rw [hv] at hl'; cases hl'
      | some v =>
        rw [hv] at hl'
        simp only [Option.map_some, Option.some.injEq] at hl'
        subst hl'
        refine ⟨valThunk (trf m v), ?_, ⟨rfl, fun w hw => ?_, fun hn => by cases hn⟩⟩
        · show (rs.thunks ++ (L.map (trf m)).map valThunk)[id]? = _
          rw [List.getElem?_append_right (by rw [← h.lz.1]; exact hge), ← h.lz.1, List.getElem?_map, List.getElem?_map, hv]
          rfl
        · have : w = v := by injection hw with hw; exact hw.symm
          subst this
          exact (hL w (List.mem_of_getElem? hv)).grow E

/-- `Apply` of a function value to values, inside the frame of a Go builtin, against `Ref.applyValues` -/
def AClaim (n : Nat) : Prop :=
  ∀ (m : Nat → Nat) (s : St) (rs : Ref.St) (env : Nat) (fv : Val) (vs : List Val) (D : List (Option Val)), RelF m s rs env →
    VOk m s rs fv → isFunction fv = true → (∀ v ∈ vs, VOk m s rs v) →
    BOk m s rs env D (fun fuel => (VM.applyFn fuel fv vs).run (inBuiltin s D)) (Ref.applyValues n (trf m fv) (vs.map (trf m)) rs)

theorem st_eq_inBuiltin (s'' s : St) (D : List (Option Val)) (ha : s''.addr = some (s.curfunc, s.pc + 1) :: s.addr)
    (hc : s''.curfunc = builtinFn) (hp : s''.pc = -1) :
    ({ s'' with data := D } : St) = inBuiltin { s'' with curfunc := s.curfunc, pc := s.pc, addr := s.addr } D := by
  cases s''
  simp only at ha hc hp
  subst ha hc hp
  rfl

theorem aclaim_succ {j : Nat} (hU : FClaimU j) (hB : ∀ name, okB name → BClaim j name) : AClaim (j + 1) := by
  intro m s rs env fv vs D hrel hfv hfn hvs
  cases fv with
  | fn vid =>
    have hg : GoodFn m s rs vid := hfv.fn
    obtain ⟨c, hc1, hrest, hnd, hokp, hbody, hparams, hnargs, hvar, huser, _⟩ := hg.clo
    show BOk m s rs env D _ (Ref.applyValues (j + 1) (.fn (m vid)) (vs.map (trf m)) rs)
    rw [ref_applyValues_fn j (m vid) _ rs c hc1]
    have hla : (fnOf s vid).isLazyCallArg = lazyAtC c :=
      funext fun i => (isLazyVM_eq huser i).symm.trans (isLazyVM_clo huser hparams hnargs hvar i)
    rw [wrapLz_map, wrapVals_map (lazyAtC c) (trf m) (fun _ => rfl), ← hrel.lz.1]
    generalize hL : wrapLz (lazyAtC c) 0 vs = L
    generalize hws : wrapVals (lazyAtC c) 0 s.lazies.length vs = ws
    have hLok : ∀ v ∈ L, VOk m s rs v := fun v hv => hvs v (wrapLz_mem _ _ _ v (by rw [hL]; exact hv))
    have hwlen : ws.length = vs.length := by rw [← hws]; exact wrapVals_length _ _ _ _
    -- the state in which `CallFunction` is executed, and the reference state with the new thunks
    let sW : St := { inBuiltin s D with pc := -2, lazies := s.lazies ++ L.map valLazy, data := ws.reverse.map some ++ D }
    let rsW : Ref.St := { rs with thunks := rs.thunks ++ (L.map (trf m)).map valThunk }
    have hunf : ∀ fuel, (VM.applyFn (fuel + 1) (.fn vid) vs).run (inBuiltin s D) =
        match ((do callFunction vid ws.length; run fuel : M Val)).run sW with
        | (.ok v, s') => (.ok v, s')
        | (.error .err, s') => (.error .err, ((restore (capOf (inBuiltin s D))).run s').2)
        | (.error flt, s') => (.error flt, s') := by
      intro fuel
      rw [vm_applyFn_fn, hwlen]
      simp only [show fnOf (inBuiltin s D) vid = fnOf s vid from rfl, show (inBuiltin s D).lazies = s.lazies from rfl, hla, hL, hws]
      rfl
    have hrW : RExt rs rsW := ⟨fun i fr hf => ⟨fr, hf, rfl⟩, fun _ _ hc' => hc'⟩
    have relW : RelF m (sW.withCur s.curfunc) rsW env :=
      (hrel.allocVals L hLok).of_same rfl rfl rfl rfl rfl rfl (hrel.allocVals L hLok).heap (hrel.allocVals L hLok).trace
        (hrel.allocVals L hLok).hok
    have goodW : GoodFn m sW rsW vid := hg.grow (ExtF.of_eq rfl (Nat.le_refl _) (fun _ _ => rfl) hrW)
    have hokW : ∀ v ∈ ws, VOk m sW rsW v := by
      intro v hv
      rw [← hws] at hv
      rcases wrapVals_mem _ _ _ _ v hv with h | ⟨k, rfl⟩
      · exact (hvs v h).grow (ExtF.of_eq rfl (Nat.le_refl _) (fun _ _ => rfl) hrW)
      · exact valIn_of_const (fun _ _ _ => rfl)
    cases j with
    | zero => rw [Ref.applyFn]; trivial
    | succ i =>
    by_cases har : arOk c.rest c.ps.length ws.length
    · have hcf : (callFunction vid ws.length).run sW = (.ok (), enteredA sW vid c.rest c.ps.length ws D) := by
        rw [run_callFunction_clo vid c.rest c.ps.length ws D sW rfl hvar hnargs, if_pos har]
      have hu := hU m sW rsW env vid c ws D s.curfunc relW goodW hc1 rfl hokW har
      cases h2 : Ref.applyFn (i + 1) (.fn (m vid)) (ws.map (trf m)) rsW with
      | ok v' rs' =>
        rw [h2] at hu
        obtain ⟨s'', m', v, r, hpc, hdat, hv, rel'', hm', ext', fr'', hcl''⟩ := hu
        obtain ⟨M, hM⟩ := run_reach_halt r (by rw [hpc]; rfl) hdat
        have heq := st_eq_inBuiltin s'' s D (by rw [fr''.addr]; rfl) (by rw [fr''.curfunc]; rfl) (by rw [hpc]; rfl)
        obtain ⟨M', hM'⟩ : Ev fun fuel => (VM.applyFn fuel (.fn vid) vs).run (inBuiltin s D)
            = (.ok v, inBuiltin { s'' with curfunc := s.curfunc, pc := s.pc, addr := s.addr } D) :=
          Ev.shift 1 ⟨M, hM⟩ fun f e => by
            rw [hunf f, run_bind, hcf]
            simp only
            rw [e, heq]
        exact ⟨M', _, m', v, hM', rfl, hv, rel''.of_same rfl rfl rfl rfl rfl rfl rel''.heap rel''.trace rel''.hok,
          fun id hid => hm' id hid, hrW.trans ext',
          ⟨⟨fr''.linear, rfl, rfl, fr''.susp, fr''.fnsLen, fr''.fns, fr''.loopsLen, fr''.loops⟩, fr''.scLen, fr''.flags⟩,
          hcl''.grow (ExtF.of_eq rfl (Nat.le_refl _) (fun _ _ => rfl) (RExt.refl _))⟩
      | err rs' =>
        rw [h2] at hu
        exact Ev.shift 1 (run_of_failsE hu) fun f ⟨sf, hrun, htr⟩ =>
          ⟨_, by show (VM.applyFn (f + 1) (.fn vid) vs).run (inBuiltin s D) = _
                 rw [hunf f, run_bind, hcf]; simp only; rw [hrun], by rw [restore_trace]; exact htr⟩
      | timeout => trivial
      | brk l rs' => rw [h2] at hu; exact hu.elim
      | cont l rs' => rw [h2] at hu; exact hu.elim
    · have hcf : (callFunction vid ws.length).run sW = (.error .err, sW) := by
        rw [run_callFunction_clo vid c.rest c.ps.length ws D sW rfl hvar hnargs, if_neg har]
      rw [ref_applyFn_arity i (m vid) _ rsW c hc1 (by rw [List.length_map]; exact har)]
      exact Ev.shift 1 (Ev.of_forall fun _ => trivial) fun f _ =>
        ⟨_, by show (VM.applyFn (f + 1) (.fn vid) vs).run (inBuiltin s D) = _
               rw [hunf f, run_bind, hcf], by rw [restore_trace]; exact hrel.trace⟩
  | builtin name =>
    have hn : okB name := hfv.builtin
    show BOk m s rs env D _ (Ref.applyValues (j + 1) (.builtin name) (vs.map (trf m)) rs)
    rw [ref_applyValues_builtin]
    exact (hB name hn m s rs env vs D hrel hvs).shift (fun fuel => vm_applyFn_builtin fuel name vs _)
  | _ => cases hfn

/-- what `apply` does with its arguments: `onApp f xs` for a function and a collection, else `onErr` -/
def applySpec {α} (vs : List Val) (heapGet : Nat → List Val) (onErr : α) (onApp : Val → List Val → α) : α :=
  match vs with
  | [f, coll] =>
    if !isFunction f then onErr else
    (match coll with
     | .arr r => onApp f (heapGet r)
     | .pair a b => (match listToArray (.pair a b) with
       | some xs => onApp f xs
       | none => onErr)
     | _ => onErr)
  | _ => onErr

def mapSpec {α} (vs : List Val) (onErr : α) (onArr : Val → Nat → α) (onList : Val → Val → α) : α :=
  match vs with
  | [f, coll] =>
    if !isFunction f then onErr else
    (match coll with
     | .arr r => onArr f r
     | .pair a b => onList f (.pair a b)
     | _ => onErr)
  | _ => onErr

theorem ref_applyFn_apply (k : Nat) (vs : List Val) (rs : Ref.St) :
    Ref.applyFn (k + 1) (.builtin "apply") vs rs =
      applySpec vs rs.heap.get (.err rs) (fun f xs => Ref.applyValues k f xs rs) := by
  rw [Ref.applyFn.eq_def]
  simp only []
  rw [if_neg (show ¬ "apply" = "trace" by decide), if_neg (show ¬ "apply" = "probe" by decide),
    if_neg (show ¬ "apply" = "force" by decide), if_neg (show ¬ "apply" = "substitute" by decide), if_pos True.intro]
  unfold applySpec
  rcases vs with _ | ⟨f, _ | ⟨c, _ | ⟨d, r⟩⟩⟩
  · rfl
  · rfl
  · cases c <;> rfl
  · rfl

theorem run_builtin_apply (fuel : Nat) (vs : List Val) (s : St) :
    (builtin (fuel + 1) "apply" vs).run s =
      applySpec vs s.heap.get (.error .err, s) (fun f xs => (VM.applyFn fuel f xs).run s) := by
  rw [builtin.eq_def]
  simp only []
  rw [if_neg (show ¬ "apply" = "trace" by decide), if_neg (show ¬ "apply" = "probe" by decide),
    if_neg (show ¬ "apply" = "force" by decide), if_neg (show ¬ "apply" = "substitute" by decide), if_pos True.intro]
  unfold applySpec
  rcases vs with _ | ⟨f, _ | ⟨c, _ | ⟨d, r⟩⟩⟩
  · rfl
  · rfl
  · by_cases hf : (!isFunction f) = true
    · simp only [hf, if_true]; rfl
    · simp only [hf, if_false, Bool.false_eq_true]
      cases c with
      | arr r => simp only [run_bind, run_get]
      | pair a b =>
        simp only [run_bind, run_get]
        cases listToArray (.pair a b) <;> rfl
      | _ => simp only [run_bind, run_get, run_err] <;> rfl
  · rfl

/-- the two evaluators take the same branch of `apply` -/
theorem applySpec_rel {α β} (P : α → β → Prop) (f : Val → Val) (hf : ∀ v, isFunction (f v) = isFunction v)
    (hl : ∀ v, listToArray (f v) = (listToArray v).map (List.map f)) (harr : ∀ r, f (.arr r) = .arr r)
    (hpair : ∀ a b, f (.pair a b) = .pair (f a) (f b))
    (hshape : ∀ v, (∀ r, v ≠ .arr r) → (∀ a b, v ≠ .pair a b) → (∀ r, f v ≠ .arr r) ∧ (∀ a b, f v ≠ .pair a b))
    (vs : List Val) (g g' : Nat → List Val) (hg : ∀ r, g' r = (g r).map f)
    (e : α) (e' : β) (app : Val → List Val → α) (app' : Val → List Val → β) (he : P e e')
    (happ : ∀ fv xs, fv ∈ vs → isFunction fv = true →
      ((∃ r, .arr r ∈ vs ∧ xs = g r) ∨ (∃ c, c ∈ vs ∧ listToArray c = some xs)) → P (app fv xs) (app' (f fv) (xs.map f))) :
    P (applySpec vs g e app) (applySpec (vs.map f) g' e' app') := by
  unfold applySpec
  rcases vs with _ | ⟨fv, _ | ⟨c, _ | ⟨d, r⟩⟩⟩
  · exact he
  · exact he
  · simp only [List.map_cons, List.map_nil, hf]
    by_cases hfn : (!isFunction fv) = true
    · simp only [hfn, if_true]; exact he
    · simp only [hfn, if_false, Bool.false_eq_true]
      have hfn' : isFunction fv = true := by simpa using hfn
      cases c with
      | arr r =>
        rw [harr]
        simp only [hg]
        exact happ fv (g r) (by simp) hfn' (Or.inl ⟨r, by simp, rfl⟩)
      | pair a b =>
        have hl' := hl (.pair a b)
        rw [hpair] at hl' ⊢
        simp only [hl']
        cases hla : listToArray (.pair a b) with
        | none => exact he
        | some xs => exact happ fv xs (by simp) hfn' (Or.inr ⟨.pair a b, by simp, hla⟩)
      | nil => have := hshape .nil (fun _ h => by cases h) (fun _ _ h => by cases h); cases hv : f .nil <;> first | exact he | exact absurd hv (this.1 _) | exact absurd hv (this.2 _ _)
      | bool x => have := hshape (.bool x) (fun _ h => by cases h) (fun _ _ h => by cases h); cases hv : f (.bool x) <;> first | exact he | exact absurd hv (this.1 _) | exact absurd hv (this.2 _ _)
      | int x => have := hshape (.int x) (fun _ h => by cases h) (fun _ _ h => by cases h); cases hv : f (.int x) <;> first | exact he | exact absurd hv (this.1 _) | exact absurd hv (this.2 _ _)
      | str x => have := hshape (.str x) (fun _ h => by cases h) (fun _ _ h => by cases h); cases hv : f (.str x) <;> first | exact he | exact absurd hv (this.1 _) | exact absurd hv (this.2 _ _)
      | fn x => have := hshape (.fn x) (fun _ h => by cases h) (fun _ _ h => by cases h); cases hv : f (.fn x) <;> first | exact he | exact absurd hv (this.1 _) | exact absurd hv (this.2 _ _)
      | builtin x => have := hshape (.builtin x) (fun _ h => by cases h) (fun _ _ h => by cases h); cases hv : f (.builtin x) <;> first | exact he | exact absurd hv (this.1 _) | exact absurd hv (this.2 _ _)
      | lazy x => have := hshape (.lazy x) (fun _ h => by cases h) (fun _ _ h => by cases h); cases hv : f (.lazy x) <;> first | exact he | exact absurd hv (this.1 _) | exact absurd hv (this.2 _ _)
      | mark x => have := hshape (.mark x) (fun _ h => by cases h) (fun _ _ h => by cases h); cases hv : f (.mark x) <;> first | exact he | exact absurd hv (this.1 _) | exact absurd hv (this.2 _ _)
      | sym x => have := hshape (.sym x) (fun _ h => by cases h) (fun _ _ h => by cases h); cases hv : f (.sym x) <;> first | exact he | exact absurd hv (this.1 _) | exact absurd hv (this.2 _ _)
  · exact he

theorem applySpec_fun {α β} (vs : List Val) (g : Nat → List Val) (e : β → α) (app : Val → List Val → β → α) (x : β) :
    applySpec vs g e app x = applySpec vs g (e x) (fun f xs => app f xs x) := by
  unfold applySpec
  rcases vs with _ | ⟨fv, _ | ⟨c, _ | ⟨d, r⟩⟩⟩
  · rfl
  · rfl
  · by_cases hfn : (!isFunction fv) = true
    · simp only [hfn, if_true]
    · simp only [hfn, if_false, Bool.false_eq_true]
      cases c with
      | pair a b => simp only []; cases listToArray (.pair a b) <;> rfl
      | _ => rfl
  · rfl

theorem vOk_listToArray {m s rs} : ∀ (c : Val) (xs : List Val), VOk m s rs c → listToArray c = some xs → ∀ x ∈ xs, VOk m s rs x
  | .nil, xs, _, h => by simp only [listToArray, Option.some.injEq] at h; subst h; intro x hx; cases hx
  | .pair a t, xs, hc, h => by
    simp only [listToArray] at h
    cases ht : listToArray t with
    | none => rw [ht] at h; cases h
    | some ys =>
      rw [ht] at h
      simp only [Option.map_some, Option.some.injEq] at h
      subst h
      intro x hx
      rcases List.mem_cons.mp hx with rfl | hx
      · exact (ValIn.pair hc).1
      · exact vOk_listToArray t ys (ValIn.pair hc).2 ht x hx
  | .bool _, _, _, h => by cases h
  | .int _, _, _, h => by cases h
  | .str _, _, _, h => by cases h
  | .arr _, _, _, h => by cases h
  | .fn _, _, _, h => by cases h
  | .builtin _, _, _, h => by cases h
  | .lazy _, _, _, h => by cases h
  | .mark _, _, _, h => by cases h
  | .sym _, _, _, h => by cases h

theorem trf_shape (m : Nat → Nat) (v : Val) (h1 : ∀ r, v ≠ .arr r) (h2 : ∀ a b, v ≠ .pair a b) :
    (∀ r, trf m v ≠ .arr r) ∧ (∀ a b, trf m v ≠ .pair a b) := by
  cases v with
  | arr r => exact absurd rfl (h1 r)
  | pair a b => exact absurd rfl (h2 a b)
  | _ => exact ⟨(fun _ h => by cases h), (fun _ _ h => by cases h)⟩

theorem bclaim_apply {k : Nat} (hA : AClaim k) : BClaim (k + 1) "apply" := by
  intro m s rs env vs D hrel hvs
  rw [ref_applyFn_apply]
  refine BOk.shift (run := fun fuel => applySpec vs s.heap.get (.error .err, inBuiltin s D)
    (fun fv xs => (VM.applyFn fuel fv xs).run (inBuiltin s D))) (fun fuel => run_builtin_apply fuel vs _) ?_
  have hfun : (fun fuel => applySpec vs s.heap.get (.error .err, inBuiltin s D)
        (fun fv xs => (VM.applyFn fuel fv xs).run (inBuiltin s D)))
      = applySpec vs s.heap.get (fun _ => (.error .err, inBuiltin s D))
        (fun fv xs fuel => (VM.applyFn fuel fv xs).run (inBuiltin s D)) := by
    funext fuel; rw [applySpec_fun]
  rw [hfun]
  refine applySpec_rel (fun run res => BOk m s rs env D run res) (trf m) (fun v => isFunction_tr m id id v)
    (fun v => listToArray_tr m id id v) (fun _ => rfl) (fun _ _ => rfl) (trf_shape m) vs s.heap.get rs.heap.get
    (fun r => by rw [hrel.heap, trHeap_get]) _ _ _ _ ⟨0, fun fuel _ => ⟨inBuiltin s D, rfl, hrel.trace⟩⟩ ?_
  intro fv xs hfv hfn hxs
  refine hA m s rs env fv xs D hrel (hvs fv hfv) hfn ?_
  rcases hxs with ⟨r, _, rfl⟩ | ⟨c, hc, hl⟩
  · exact HeapIn.get hrel.hok r
  · exact vOk_listToArray c xs (hvs c hc) hl

/-- as `BOk`, for a computation that returns a list of values -/
def BOkL (m : Nat → Nat) (s : St) (rs : Ref.St) (env : Nat) (D : List (Option Val)) (run : Nat → Except Fault (List Val) × St)
    (res : Ref.R (List Val)) : Prop :=
  match res with
  | .ok vs' rs' => ∃ (M : Nat) (s' : St) (m' : Nat → Nat) (vs : List Val),
      (∀ fuel, M ≤ fuel → run fuel = (.ok vs, inBuiltin s' D))
      ∧ s'.pc = s.pc ∧ vs' = vs.map (trf m') ∧ RelF m' s' rs' env
      ∧ MExt s m m' ∧ RExt rs rs' ∧ FrameF s s' ∧ ∀ v ∈ vs, VOk m' s' rs' v
  | .err rs' => ∃ M, ∀ fuel, M ≤ fuel → ∃ se, run fuel = (.error .err, se) ∧ se.trace = rs'.trace
  | .timeout => True
  | .brk _ _ => False
  | .cont _ _ => False

def MArrClaim (n : Nat) : Prop :=
  ∀ (m : Nat → Nat) (s : St) (rs : Ref.St) (env : Nat) (fv : Val) (r i cnt : Nat) (D : List (Option Val)), RelF m s rs env →
    VOk m s rs fv → isFunction fv = true →
    BOkL m s rs env D (fun fuel => (VM.mapArr fuel fv r i cnt).run (inBuiltin s D)) (Ref.mapArr n (trf m fv) r i cnt rs)

def MListClaim (n : Nat) : Prop :=
  ∀ (m : Nat → Nat) (s : St) (rs : Ref.St) (env : Nat) (fv l : Val) (D : List (Option Val)), RelF m s rs env →
    VOk m s rs fv → isFunction fv = true → VOk m s rs l →
    BOk m s rs env D (fun fuel => (VM.mapList fuel fv l).run (inBuiltin s D)) (Ref.mapList n (trf m fv) (trf m l) rs)

theorem getD_map_tr (m : Nat → Nat) (l : List Val) (i : Nat) : (l.map (trf m)).getD i .nil = trf m (l.getD i .nil) := by
  simp only [List.getD_eq_getElem?_getD, List.getElem?_map]
  cases l[i]? <;> rfl

theorem vOk_getD {m s rs} (l : List Val) (i : Nat) (h : ∀ x ∈ l, VOk m s rs x) : VOk m s rs (l.getD i .nil) := by
  simp only [List.getD_eq_getElem?_getD]
  cases hl : l[i]? with
  | none => exact vOk_lit .nil (fun _ _ _ => rfl)
  | some x => exact h x (List.mem_of_getElem? hl)

theorem marr_succ {j : Nat} (hA : AClaim j) (hM : MArrClaim j) : MArrClaim (j + 1) := by
  intro m s rs env fv r i cnt D hrel hfv hfn
  rw [Ref.mapArr]
  by_cases hi : i ≥ cnt
  · simp only [hi, if_true]
    obtain ⟨M, hM⟩ : Ev fun fuel => (VM.mapArr fuel fv r i cnt).run (inBuiltin s D) = (.ok [], inBuiltin s D) :=
      Ev.shift 1 (Ev.of_forall fun _ => trivial) fun f _ => by rw [VM.mapArr, if_pos hi]; rfl
    exact ⟨M, s, m, [], hM, rfl, rfl, hrel, MExt.refl _ _, RExt.refl _, FrameF.refl _, fun v hv => by cases hv⟩
  · simp only [hi, if_false]
    have hx : (rs.heap.get r).getD i .nil = trf m ((s.heap.get r).getD i .nil) := by
      rw [hrel.heap, trHeap_get, getD_map_tr]
    have hxok : VOk m s rs ((s.heap.get r).getD i .nil) := vOk_getD _ _ (HeapIn.get hrel.hok r)
    have ha := hA m s rs env fv [(s.heap.get r).getD i .nil] D hrel hfv hfn
      (fun v hv => by rw [List.mem_singleton.mp hv]; exact hxok)
    rw [hx]
    simp only [List.map_cons, List.map_nil] at ha
    have hunf : ∀ fuel, (VM.mapArr (fuel + 1) fv r i cnt).run (inBuiltin s D) =
        match (VM.applyFn fuel fv [(s.heap.get r).getD i .nil]).run (inBuiltin s D) with
        | (.ok v, s1) =>
          (match (VM.mapArr fuel fv r (i + 1) cnt).run s1 with
           | (.ok vs, s2) => (.ok (v :: vs), s2)
           | (.error e, s2) => (.error e, s2))
        | (.error e, s1) => (.error e, s1) := fun fuel => VM.mapArr_step_run fuel fv r i cnt hi _
    cases h1 : Ref.applyValues j (trf m fv) [trf m ((s.heap.get r).getD i .nil)] rs with
    | ok v' rs1 =>
      rw [h1] at ha
      obtain ⟨M1, s1, m1, v, hr1, hpc1, hv1, rel1, hm1, ext1, fr1, hcl1⟩ := ha
      simp only
      have hr1 : ∀ fuel, M1 ≤ fuel → (VM.applyFn fuel fv [(s.heap.get r).getD i .nil]).run (inBuiltin s D)
          = (.ok v, inBuiltin s1 D) := hr1
      have hfv1 : VOk m1 s1 rs1 fv := VOk.ext hfv fr1 ext1 hm1
      have ih := hM m1 s1 rs1 env fv r (i + 1) cnt D rel1 hfv1 hfn
      rw [VOk.tr_ext hfv hm1] at ih
      cases h2 : Ref.mapArr j (trf m fv) r (i + 1) cnt rs1 with
      | ok vs' rs2 =>
        rw [h2] at ih
        obtain ⟨M2, s2, m2, vs, hr2, hpc2, hvs2, rel2, hm2, ext2, fr2, hcl2⟩ := ih
        have hr2 : ∀ fuel, M2 ≤ fuel → (VM.mapArr fuel fv r (i + 1) cnt).run (inBuiltin s1 D) = (.ok vs, inBuiltin s2 D) := hr2
        obtain ⟨M, hM⟩ : Ev fun fuel => (VM.mapArr fuel fv r i cnt).run (inBuiltin s D) = (.ok (v :: vs), inBuiltin s2 D) :=
          Ev.shift 1 (Ev.and ⟨M1, hr1⟩ ⟨M2, hr2⟩) fun f ⟨e1, e2⟩ => by
            rw [hunf f, e1]
            simp only
            rw [e2]
        refine ⟨M, s2, m2, v :: vs, hM, by rw [hpc2, hpc1], ?_, rel2, hm1.trans hm2 fr1.fnsLen,
          ext1.trans ext2, fr1.trans fr2, fun w hw => ?_⟩
        · rw [List.map_cons, hv1, hvs2, VOk.tr_ext hcl1 hm2]
        · rcases List.mem_cons.mp hw with rfl | hw
          · exact VOk.ext hcl1 fr2 ext2 hm2
          · exact hcl2 w hw
      | err rs2 =>
        rw [h2] at ih
        exact Ev.shift 1 (Ev.and ⟨M1, hr1⟩ ih) fun f ⟨e1, se, hse, htr⟩ =>
          have hse : (VM.mapArr f fv r (i + 1) cnt).run (inBuiltin s1 D) = (.error .err, se) := hse
          ⟨se, by show (VM.mapArr (f + 1) fv r i cnt).run (inBuiltin s D) = _
                  rw [hunf f, e1]; simp only; rw [hse], htr⟩
      | timeout => trivial
      | brk l rs2 => rw [h2] at ih; exact ih.elim
      | cont l rs2 => rw [h2] at ih; exact ih.elim
    | err rs1 =>
      rw [h1] at ha
      exact Ev.shift 1 ha fun f ⟨se, hse, htr⟩ =>
        have hse : (VM.applyFn f fv [(s.heap.get r).getD i .nil]).run (inBuiltin s D) = (.error .err, se) := hse
        ⟨se, by show (VM.mapArr (f + 1) fv r i cnt).run (inBuiltin s D) = _; rw [hunf f, hse], htr⟩
    | timeout => trivial
    | brk l rs1 => rw [h1] at ha; exact ha.elim
    | cont l rs1 => rw [h1] at ha; exact ha.elim

theorem mlist_succ {j : Nat} (hA : AClaim j) (hM : MListClaim j) : MListClaim (j + 1) := by
  intro m s rs env fv l D hrel hfv hfn hl
  have herr : ∀ (hn : l ≠ .nil) (hp : ∀ a b, l ≠ .pair a b),
      BOk m s rs env D (fun fuel => (VM.mapList fuel fv l).run (inBuiltin s D)) (.err rs) := by
    intro hn hp
    refine Ev.shift 1 (Ev.of_forall fun _ => trivial) fun f _ => ⟨inBuiltin s D, ?_, hrel.trace⟩
    show (VM.mapList (f + 1) fv l).run (inBuiltin s D) = _
    rw [VM.mapList.eq_def]
    cases l with
    | nil => exact absurd rfl hn
    | pair a b => exact absurd rfl (hp a b)
    | _ => rfl
  cases l with
  | nil =>
    show BOk m s rs env D _ (Ref.mapList (j + 1) (trf m fv) .nil rs)
    rw [Ref.mapList]
    obtain ⟨M, hM⟩ : Ev fun fuel => (VM.mapList fuel fv .nil).run (inBuiltin s D) = (.ok .nil, inBuiltin s D) :=
      Ev.shift 1 (Ev.of_forall fun _ => trivial) fun f _ => by rw [VM.mapList]; rfl
    exact ⟨M, s, m, .nil, hM, rfl, rfl, hrel, MExt.refl _ _, RExt.refl _, FrameF.refl _, vOk_lit .nil (fun _ _ _ => rfl)⟩
  | pair a b =>
    show BOk m s rs env D _ (Ref.mapList (j + 1) (trf m fv) (.pair (trf m a) (trf m b)) rs)
    rw [Ref.mapList]
    have hab := ValIn.pair hl
    have ha := hA m s rs env fv [a] D hrel hfv hfn (fun v hv => by rw [List.mem_singleton.mp hv]; exact hab.1)
    simp only [List.map_cons, List.map_nil] at ha
    cases h1 : Ref.applyValues j (trf m fv) [trf m a] rs with
    | ok v' rs1 =>
      rw [h1] at ha
      obtain ⟨M1, s1, m1, v, hr1, hpc1, hv1, rel1, hm1, ext1, fr1, hcl1⟩ := ha
      have hr1 : ∀ fuel, M1 ≤ fuel → (VM.applyFn fuel fv [a]).run (inBuiltin s D) = (.ok v, inBuiltin s1 D) := hr1
      simp only
      have hfv1 : VOk m1 s1 rs1 fv := VOk.ext hfv fr1 ext1 hm1
      have hb1 : VOk m1 s1 rs1 b := VOk.ext hab.2 fr1 ext1 hm1
      have ih := hM m1 s1 rs1 env fv b D rel1 hfv1 hfn hb1
      rw [VOk.tr_ext hfv hm1, VOk.tr_ext hab.2 hm1] at ih
      cases h2 : Ref.mapList j (trf m fv) (trf m b) rs1 with
      | ok t' rs2 =>
        rw [h2] at ih
        obtain ⟨M2, s2, m2, t, hr2, hpc2, ht2, rel2, hm2, ext2, fr2, hcl2⟩ := ih
        have hr2 : ∀ fuel, M2 ≤ fuel → (VM.mapList fuel fv b).run (inBuiltin s1 D) = (.ok t, inBuiltin s2 D) := hr2
        obtain ⟨M, hM⟩ : Ev fun fuel => (VM.mapList fuel fv (.pair a b)).run (inBuiltin s D) = (.ok (.pair v t), inBuiltin s2 D) :=
          Ev.shift 1 (Ev.and ⟨M1, hr1⟩ ⟨M2, hr2⟩) fun f ⟨e1, e2⟩ => by
            rw [VM.mapList_cons_run, e1]
            simp only
            rw [e2]
        refine ⟨M, s2, m2, .pair v t, hM, by rw [hpc2, hpc1], ?_, rel2, hm1.trans hm2 fr1.fnsLen,
          ext1.trans ext2, fr1.trans fr2, valIn_pair (VOk.ext hcl1 fr2 ext2 hm2) hcl2⟩
        show Val.pair v' t' = .pair (trf m2 v) (trf m2 t)
        rw [hv1, ht2, VOk.tr_ext hcl1 hm2]
      | err rs2 =>
        rw [h2] at ih
        exact Ev.shift 1 (Ev.and ⟨M1, hr1⟩ ih) fun f ⟨e1, se, hse, htr⟩ =>
          have hse : (VM.mapList f fv b).run (inBuiltin s1 D) = (.error .err, se) := hse
          ⟨se, by show (VM.mapList (f + 1) fv (.pair a b)).run (inBuiltin s D) = _
                  rw [VM.mapList_cons_run, e1]; simp only; rw [hse], htr⟩
      | timeout => trivial
      | brk l rs2 => rw [h2] at ih; exact ih.elim
      | cont l rs2 => rw [h2] at ih; exact ih.elim
    | err rs1 =>
      rw [h1] at ha
      exact Ev.shift 1 ha fun f ⟨se, hse, htr⟩ =>
        have hse : (VM.applyFn f fv [a]).run (inBuiltin s D) = (.error .err, se) := hse
        ⟨se, by show (VM.mapList (f + 1) fv (.pair a b)).run (inBuiltin s D) = _; rw [VM.mapList_cons_run, hse], htr⟩
    | timeout => trivial
    | brk l rs1 => rw [h1] at ha; exact ha.elim
    | cont l rs1 => rw [h1] at ha; exact ha.elim
  | _ =>
    rw [Ref.mapList.eq_def]
    exact herr (fun h => by cases h) (fun _ _ h => by cases h)

theorem ref_applyFn_map (k : Nat) (vs : List Val) (rs : Ref.St) :
    Ref.applyFn (k + 1) (.builtin "map") vs rs =
      mapSpec vs (.err rs)
        (fun f r => match Ref.mapArr k f r 0 (rs.heap.get r).length rs with
          | .ok ws s => .ok (s.heap.alloc ws).1 { s with heap := (s.heap.alloc ws).2 }
          | .err s => .err s | .brk l s => .brk l s | .cont l s => .cont l s | .timeout => .timeout)
        (fun f l => Ref.mapList k f l rs) := by
  rw [Ref.applyFn.eq_def]
  simp only []
  rw [if_neg (show ¬ "map" = "trace" by decide), if_neg (show ¬ "map" = "probe" by decide),
    if_neg (show ¬ "map" = "force" by decide), if_neg (show ¬ "map" = "substitute" by decide),
    if_neg (show ¬ "map" = "apply" by decide), if_pos True.intro]
  unfold mapSpec
  rcases vs with _ | ⟨f, _ | ⟨c, _ | ⟨d, r⟩⟩⟩
  · rfl
  · rfl
  · by_cases hf : (!isFunction f) = true
    · simp only [hf, if_true]
    · simp only [hf, if_false, Bool.false_eq_true]
      cases c with
      | arr r => simp only []; cases Ref.mapArr k f r 0 (rs.heap.get r).length rs <;> rfl
      | _ => rfl
  · rfl

/-- the array case of `map` on the machine: the results are collected and stored in a new array -/
def vmMapArr (fuel : Nat) (f : Val) (r : Nat) (s : St) : Except Fault Val × St :=
  match (VM.mapArr fuel f r 0 (s.heap.get r).length).run s with
  | (.ok ws, s2) => (.ok (s2.heap.alloc ws).1, { s2 with heap := (s2.heap.alloc ws).2 })
  | (.error e, s2) => (.error e, s2)

theorem run_builtin_map (fuel : Nat) (vs : List Val) (s : St) :
    (builtin (fuel + 1) "map" vs).run s =
      mapSpec vs (.error .err, s) (fun f r => vmMapArr fuel f r s) (fun f l => (VM.mapList fuel f l).run s) := by
  rw [builtin.eq_def]
  simp only []
  rw [if_neg (show ¬ "map" = "trace" by decide), if_neg (show ¬ "map" = "probe" by decide),
    if_neg (show ¬ "map" = "force" by decide), if_neg (show ¬ "map" = "substitute" by decide),
    if_neg (show ¬ "map" = "apply" by decide), if_pos True.intro]
  unfold mapSpec
  rcases vs with _ | ⟨f, _ | ⟨c, _ | ⟨d, r⟩⟩⟩
  · rfl
  · rfl
  · by_cases hf : (!isFunction f) = true
    · simp only [hf, if_true]; rfl
    · simp only [hf, if_false, Bool.false_eq_true]
      cases c with
      | arr r =>
        simp only [run_bind, run_get, vmMapArr]
        rcases (VM.mapArr fuel f r 0 (s.heap.get r).length).run s with ⟨r1, s1⟩
        cases r1 with
        | error e => rfl
        | ok ws => simp only [run_set, run_pure]
      | pair a b => rfl
      | _ => rfl
  · rfl

theorem mapSpec_fun {α β} (vs : List Val) (e : β → α) (oa : Val → Nat → β → α) (ol : Val → Val → β → α) (x : β) :
    mapSpec vs e oa ol x = mapSpec vs (e x) (fun f r => oa f r x) (fun f l => ol f l x) := by
  unfold mapSpec
  rcases vs with _ | ⟨fv, _ | ⟨c, _ | ⟨d, r⟩⟩⟩
  · rfl
  · rfl
  · by_cases hfn : (!isFunction fv) = true
    · simp only [hfn, if_true]
    · simp only [hfn, if_false, Bool.false_eq_true]
      cases c <;> rfl
  · rfl

theorem mapSpec_rel {α β} (P : α → β → Prop) (m : Nat → Nat) (vs : List Val)
    (e : α) (e' : β) (oa : Val → Nat → α) (oa' : Val → Nat → β) (ol : Val → Val → α) (ol' : Val → Val → β) (he : P e e')
    (harr : ∀ fv r, fv ∈ vs → isFunction fv = true → P (oa fv r) (oa' (trf m fv) r))
    (hlist : ∀ fv l, fv ∈ vs → l ∈ vs → isFunction fv = true → P (ol fv l) (ol' (trf m fv) (trf m l))) :
    P (mapSpec vs e oa ol) (mapSpec (vs.map (trf m)) e' oa' ol') := by
  unfold mapSpec
  rcases vs with _ | ⟨fv, _ | ⟨c, _ | ⟨d, r⟩⟩⟩
  · exact he
  · exact he
  · simp only [List.map_cons, List.map_nil, isFunction_tr]
    by_cases hfn : (!isFunction fv) = true
    · simp only [hfn, if_true]; exact he
    · simp only [hfn, if_false, Bool.false_eq_true]
      have hfn' : isFunction fv = true := by simpa using hfn
      cases c with
      | arr r => exact harr fv r (by simp) hfn'
      | pair a b => exact hlist fv (.pair a b) (by simp) (by simp) hfn'
      | _ => exact he
  · exact he

theorem bclaim_map {k : Nat} (hMA : MArrClaim k) (hML : MListClaim k) : BClaim (k + 1) "map" := by
  intro m s rs env vs D hrel hvs
  rw [ref_applyFn_map]
  refine BOk.shift (run := fun fuel => mapSpec vs (.error .err, inBuiltin s D) (fun fv r => vmMapArr fuel fv r (inBuiltin s D))
    (fun fv l => (VM.mapList fuel fv l).run (inBuiltin s D))) (fun fuel => run_builtin_map fuel vs _) ?_
  have hfun : (fun fuel => mapSpec vs (.error .err, inBuiltin s D) (fun fv r => vmMapArr fuel fv r (inBuiltin s D))
        (fun fv l => (VM.mapList fuel fv l).run (inBuiltin s D)))
      = mapSpec vs (fun _ => (.error .err, inBuiltin s D)) (fun fv r fuel => vmMapArr fuel fv r (inBuiltin s D))
        (fun fv l fuel => (VM.mapList fuel fv l).run (inBuiltin s D)) := by
    funext fuel; rw [mapSpec_fun]
  rw [hfun]
  refine mapSpec_rel (fun run res => BOk m s rs env D run res) m vs _ _ _ _ _ _
    ⟨0, fun fuel _ => ⟨inBuiltin s D, rfl, hrel.trace⟩⟩ ?_ ?_
  · intro fv r hfv hfn
    have hlen : (rs.heap.get r).length = (s.heap.get r).length := by rw [hrel.heap, trHeap_get, List.length_map]
    rw [hlen]
    have ih := hMA m s rs env fv r 0 (s.heap.get r).length D hrel (hvs fv hfv) hfn
    cases h1 : Ref.mapArr k (trf m fv) r 0 (s.heap.get r).length rs with
    | ok ws' rs1 =>
      rw [h1] at ih
      obtain ⟨M1, s1, m1, ws, hr1, hpc1, hws, rel1, hm1, ext1, fr1, hcl1⟩ := ih
      have hr1 : ∀ fuel, M1 ≤ fuel → (VM.mapArr fuel fv r 0 (s.heap.get r).length).run (inBuiltin s D) = (.ok ws, inBuiltin s1 D) := hr1
      simp only
      have hal := trHeap_alloc m1 id id s1.heap ws
      have hheap2 : (rs1.heap.alloc ws').2 = trHeap m1 id id (s1.heap.alloc ws).2 := by
        rw [rel1.heap, hws, hal]
      have hv2 : (rs1.heap.alloc ws').1 = trf m1 (s1.heap.alloc ws).1 := by
        rw [rel1.heap, hws, hal]
      have hhok : HOk m1 s1 rs1 (s1.heap.alloc ws).2 := heapIn_alloc rel1.hok ws hcl1
      have hrelF : RelF m1 { s1 with heap := (s1.heap.alloc ws).2 } { rs1 with heap := (rs1.heap.alloc ws').2 } env :=
        rel1.of_same rfl rfl rfl rfl rfl rfl hheap2 rel1.trace hhok
      have hfrF : FrameF s1 { s1 with heap := (s1.heap.alloc ws).2 } :=
        ⟨⟨rfl, rfl, rfl, rfl, Nat.le_refl _, fun _ _ => rfl, Nat.le_refl _, fun _ _ => rfl⟩, Nat.le_refl _, fun _ _ => rfl⟩
      have hrext : RExt rs1 { rs1 with heap := (rs1.heap.alloc ws').2 } := ⟨fun i fr hf => ⟨fr, hf, rfl⟩, fun _ _ hc => hc⟩
      refine ⟨M1, { s1 with heap := (s1.heap.alloc ws).2 }, m1, (s1.heap.alloc ws).1, fun fuel hf => ?_, hpc1, hv2, hrelF, hm1,
        ext1.trans hrext, fr1.trans hfrF, ?_⟩
      · show vmMapArr fuel fv r (inBuiltin s D) = _
        unfold vmMapArr
        show (match (VM.mapArr fuel fv r 0 (s.heap.get r).length).run (inBuiltin s D) with
          | (.ok ws, s2) => _ | (.error e, s2) => _) = _
        rw [hr1 fuel hf]
        rfl
      · have : (s1.heap.alloc ws).1 = .arr s1.heap.arrs.length := by simp [DataHeap.alloc]
        rw [this]
        exact valIn_of_const (fun _ _ _ => rfl)
    | err rs1 =>
      rw [h1] at ih
      obtain ⟨M1, hr1⟩ := ih
      refine ⟨M1, fun fuel hf => ?_⟩
      obtain ⟨se, hse, htr⟩ := hr1 fuel hf
      have hse : (VM.mapArr fuel fv r 0 (s.heap.get r).length).run (inBuiltin s D) = (.error .err, se) := hse
      refine ⟨se, ?_, htr⟩
      show vmMapArr fuel fv r (inBuiltin s D) = _
      unfold vmMapArr
      show (match (VM.mapArr fuel fv r 0 (s.heap.get r).length).run (inBuiltin s D) with
        | (.ok ws, s2) => _ | (.error e, s2) => _) = _
      rw [hse]
    | timeout => trivial
    | brk l rs1 => rw [h1] at ih; exact ih.elim
    | cont l rs1 => rw [h1] at ih; exact ih.elim
  · intro fv l hfv hl hfn
    exact hML m s rs env fv l D hrel (hvs fv hfv) hfn (hvs l hl)

theorem hclaims : ∀ n, (∀ j, j < n → FClaimE j ∧ FClaimU j) →
    (∀ name, okB name → BClaim n name) ∧ AClaim n ∧ MArrClaim n ∧ MListClaim n
  | 0, _ => by
    refine ⟨fun name _ m s rs env vs D _ _ => ?_, fun m s rs env fv vs D _ _ _ _ => ?_,
      fun m s rs env fv r i cnt D _ _ _ => ?_, fun m s rs env fv l D _ _ _ _ => ?_⟩
    · rw [Ref.applyFn]; trivial
    · rw [Ref.applyValues]; trivial
    · rw [Ref.mapArr]; trivial
    · rw [Ref.mapList]; trivial
  | n + 1, hlow => by
    obtain ⟨hB, hA, hMA, hML⟩ := hclaims n (fun j hj => hlow j (Nat.lt_succ_of_lt hj))
    refine ⟨fun name hn => ?_, aclaim_succ (hlow n (Nat.lt_succ_self n)).2 hB, marr_succ hA hMA, mlist_succ hA hML⟩
    rcases hn with hn | hn | hn | hn
    · exact bclaim_fo hn
    · subst hn; exact bclaim_force (fun j hj => (hlow j (Nat.lt_succ_of_lt hj)).1)
    · subst hn; exact bclaim_apply hA
    · subst hn; exact bclaim_map hMA hML

/-- a call whose callee symbol denotes `force`, `apply` or `map` -/
theorem fclaimH {k : Nat} (hlow : ∀ j, j < k + 1 → FClaimE j ∧ FClaimU j) (hA : FClaimA (k + 1)) :
    ∀ name, hoB name → FClaimH k name :=
  fun name hn => fclaimH_of_bclaim hA ((hclaims (k + 1) hlow).1 name (Or.inr hn))

end ZygoVerif.Sim
