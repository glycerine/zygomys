/-
Character literals as the printer writes them (`strconv.QuoteRune`) are read as one character
token holding the rune — for every valid code point.
-/
import ZygoVerif.Proofs.LexLiterals
import ZygoVerif.Proofs.DecodeAtom
namespace ZygoVerif.Lexer
open ZygoVerif.PrintData

theorem reads_open_squote (l : Char) : Reads (Norm []) l ['\''] [] (LitAt .runeLit ['\'']) := by
  apply Reads.step
  intro s hs _
  have hst : (pushRing s '\'').state = .normal := hs.1
  have hbb : (pushRing s '\'').buffer = [] := hs.2
  refine ⟨{ pushRing s '\'' with buffer := (pushRing s '\'').buffer ++ ['\''], state := .runeLit }, ?_, ⟨rfl, ?_⟩,
    (List.append_nil _).symm⟩
  · rw [stepMode_normal _ _ hst]; simp [stepNormal, hbb]
  · show s.buffer ++ ['\''] = ['\'']; rw [hs.2]; rfl

theorem reads_close_squote (c l : Char) : Reads (LitAt .runeLit ['\'', c]) l ['\''] [⟨.char, [c]⟩] (Norm []) := by
  apply Reads.step
  intro s hs _
  have hst : (pushRing s '\'').state = .runeLit := hs.1
  have hbb : (pushRing s '\'').buffer = ['\'', c] := hs.2
  have hd : dumpBuffer { pushRing s '\'' with buffer := (pushRing s '\'').buffer ++ ['\''] } =
      .ok (appendToken { pushRing s '\'' with buffer := [] } ⟨.char, [c]⟩) := by
    rw [dumpBuffer_atom { pushRing s '\'' with buffer := (pushRing s '\'').buffer ++ ['\''] } ⟨.char, [c]⟩
      (by simp) (by show decodeAtom ((pushRing s '\'').buffer ++ ['\'']) = _; rw [hbb]; exact decodeAtom_char c)]
  exact ⟨_, stepMode_runeLit_close _ _ hst hd, ⟨rfl, rfl⟩, rfl⟩

theorem reads_char (v : Nat) (hv : v.isValidChar) (l : Char) :
    Reads (Norm []) l (quoteRune v) [⟨.char, [Char.ofNat v]⟩] (Norm []) := by
  have := Reads.cons (reads_open_squote l) (Reads.trans
    (reads_of_inLit (l := '\'') fun s T => escaped_reads_back runeMode (Or.inr rfl) (Char.ofNat v) s ['\''] T)
    (reads_close_squote (Char.ofNat v) _))
  simpa [quoteRune, hv, runeMode] using this

end ZygoVerif.Lexer
