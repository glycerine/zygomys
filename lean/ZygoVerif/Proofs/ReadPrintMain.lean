/-
`read (print v) = v` for the parser model: the printed text, delivered whole (or in any
pieces, by C13) to a parser with any history, yields exactly the one expression `v`.
`read_of_tokens` is the reader as lexer-then-parser for any text: lazy = eager lexing (ReadEager), the top-level loop
on the complete queue, the fuel of `parseChunks`, and its abstract view (`parseChunksFrom_abstract`). `read_print` puts
in the lexing (ReadPrintLex) and the parsing (ReadPrintParse) of printed data and the fuel bound `cost_bound`.
-/
import ZygoVerif.Proofs.ReadPrintLex
import ZygoVerif.Proofs.ReadPrintParse
namespace ZygoVerif.ReadPrint
open ZygoVerif ZygoVerif.Lexer ZygoVerif.Parser ZygoVerif.PrintData

/-! ## the fuel of `parseChunks` suffices

`fuelFor cs = 4 * length + 16` (Model/Parser). The expression of a printed value needs `costTok v`, and
`costTok v + 1 ≤ 4 * length` (`cost_bound`: every nesting level and every element is paid for by at least one
rune of the text); the top-level loop takes two more rounds (`topLoop_one`). The constant leaves room. -/

/-- the text of an atom is not empty: the lexer makes a token of it -/
theorem printAtom_ne_nil (ff : FloatFmt) (hlaw : FloatLaw ff) (a : Sexp) (h : okAtom a = true) :
    1 ≤ (printAtom ff a).length := by
  obtain ⟨b, ts, _, ht, hr⟩ := reads_atom ff hlaw a h '\x00' (by decide)
  cases hp : printAtom ff a with
  | cons _ _ => simp
  | nil =>
    rw [hp] at hr
    obtain ⟨s', hf, hq, htok⟩ := hr LexCore.init ⟨rfl, rfl⟩ ringOK_init lastRune_init
    obtain rfl : LexCore.init = s' := Outcome.ok.inj hf
    obtain rfl : [] = b := hq.2
    obtain rfl : ts = [] := by simpa using htok.symm
    cases ht

theorem cost_all (ff : FloatFmt) (hlaw : FloatLaw ff) :
    (∀ v, okV v = true → costTok v + 1 ≤ 4 * (printSexp ff v).length) ∧
    (∀ t, okTail t = true → costRest t ≤ 4 * (printRest ff t).length) ∧
    (∀ es, okList es = true → costArr es ≤ 4 * (printElems ff es).length + 1) := by
  refine okV_induction_all ?_ ?_ ?_ ?_ ?_ ?_ ?_ ?_ ?_
  · intro h t h1 h2
    simp only [costTok, printSexp, List.length_cons, List.length_append]
    omega
  · intro es h1
    simp only [costTok, printSexp, List.length_cons, List.length_append, List.length_nil]
    omega
  · intro a ha
    have := printAtom_ne_nil ff hlaw a ha
    rw [(okAtom_forms ff a ha).1, (okAtom_costs a ha).1]
    omega
  · intro h t h1 h2
    simp only [costRest, printRest, List.length_cons, List.length_append]
    omega
  · simp [costRest, printRest]
  · intro es h1
    simp only [costRest, printRest, List.length_cons, List.length_append, List.length_nil]
    omega
  · intro a ha
    rw [(okAtom_forms ff a ha).2.1, (okAtom_costs a ha).2]
    simp only [List.length_append, List.length_cons]
    omega
  · simp [costArr, printElems]
  · intro a r h1 h2
    cases r with
    | nil => simp only [costArr, printElems]; omega
    | cons b r =>
      simp only [costArr, printElems, List.length_cons, List.length_append] at h2 ⊢
      omega

theorem cost_bound (ff : FloatFmt) (hlaw : FloatLaw ff) : (v : Sexp) → okV v = true → costTok v + 1 ≤ 4 * (printSexp ff v).length :=
  (cost_all ff hlaw).1

theorem cost_rest_bound (ff : FloatFmt) (hlaw : FloatLaw ff) : (t : Sexp) → okTail t = true → costRest t ≤ 4 * (printRest ff t).length :=
  (cost_all ff hlaw).2.1

theorem cost_arr_bound (ff : FloatFmt) (hlaw : FloatLaw ff) : (es : List Sexp) → okList es = true → costArr es ≤ 4 * (printElems ff es).length + 1 :=
  (cost_all ff hlaw).2.2

theorem topLoop_succ (f : Nat) :
    topLoop (f + 1) = Prog.topGet fun t => match t with
      | none => Prog.pure ()
      | some tok => (parseExprTok f tok).bind fun e => Prog.pushExpr e (topLoop f) := by
  rw [topLoop]
  simp only [bind, pure, topGet, pushExpr, Prog.bind]
  congr 1

theorem topLoop_one (f : Nat) (c : LexCore) (t : Token) (ts : List Token) (v : Sexp)
    (hc : c.tokens = t :: ts) (hl : inLiteral c = false) (hp : Consumes (parseExprTok (f + 1) t) ts v) :
    runA (topLoop (f + 2)) (tv c []) = (.ret (), tv (setToks c []) [v]) := by
  rw [topLoop_succ, runA_topGet_tok _ c [] t ts hc]
  simp only
  rw [runA_bind, hp (setToks c ts) [] [] (by simp [setToks])]
  simp only [runA, tv, setToks, List.nil_append]
  rw [topLoop_succ]
  have := runA_topGet_end (fun t => match t with
      | none => Prog.pure ()
      | some tok => (parseExprTok f tok).bind fun e => Prog.pushExpr e (topLoop f))
    { c with tokens := [] } [v] rfl (by simpa [inLiteral] using hl)
  simpa [tv, runA, Prog.bind] using this

theorem topLoop_fail (f : Nat) (c : LexCore) (t : Token) (ts : List Token)
    (hc : c.tokens = t :: ts) (hp : parseExprTok (f + 1) t = Prog.fail) :
    (runA (topLoop (f + 2)) (tv c [])).1 = .stop .err := by
  rw [topLoop_succ, runA_topGet_tok _ c [] t ts hc]
  simp only [hp]
  rfl

/-- **The reader is lexer, then parser.** A text that the lexer — from the fresh state, the end of input included —
turns into the queue `t :: ts`, delivered in any pieces to a parser with any history, is read as whatever the top-level
loop makes of that queue. `parseChunks` takes the fuel `4 * length + 16`, of which the loop itself uses one turn for
the expression and one for the end. -/
theorem read_of_tokens (text : List Char) (t : Token) (ts : List Token)
    (hlex : Lex ⟨.normal, [], [], '\x00'⟩ (text ++ ['\n']) ⟨.normal, [], t :: ts, '\n'⟩)
    (l : LexState) (cs : List (List Char)) (hcs : cs.flatten = text) :
    (∀ v, Consumes (parseExprTok (4 * text.length + 15) t) ts v →
      (parseChunksFrom l cs).status = .done ∧ (parseChunksFrom l cs).exprs = [v]) ∧
    (parseExprTok (4 * text.length + 15) t = Prog.fail → (parseChunksFrom l cs).status = .err) := by
  obtain ⟨hst, hex⟩ := parseChunksFrom_abstract l cs
  obtain ⟨cf, hfeed, hcf⟩ := hlex LexCore.init ⟨rfl, rfl, rfl, ringOK_init, lastRune_init⟩
  have hrunes : cs.flatten ++ eofPiece = text ++ ['\n'] := by rw [hcs]; rfl
  rw [hrunes] at hst hex
  have hahead := runA_ahead (topLoop (fuelFor cs)) LexCore.init cf (text ++ ['\n']) [] true hfeed
  have hfuel : fuelFor cs = (4 * text.length + 14) + 2 := by simp [fuelFor, hcs]
  constructor
  · intro v hp
    have hlit : inLiteral cf = false := by simp [inLiteral, hcf.state]
    have hrun := topLoop_one (4 * text.length + 14) cf t ts v hcf.tokens hlit hp
    rw [← hfuel] at hrun
    simp only [tv] at hrun
    rw [hrun] at hahead
    obtain ⟨h1, h2⟩ := hahead
    rw [h1] at hst
    rw [h2] at hex
    exact ⟨hst, hex⟩
  · intro hp
    have hrun := topLoop_fail (4 * text.length + 14) cf t ts hcf.tokens hp
    rw [← hfuel] at hrun
    simp only [tv] at hrun
    rw [hrun] at hahead
    rw [hahead.1] at hst
    exact hst

/-- The printed text of a value of the domain, delivered in any pieces to a parser with any history, is
accepted and yields exactly `v`. -/
theorem read_print (ff : FloatFmt) (hlaw : FloatLaw ff) (v : Sexp) (hv : okV v = true) (l : LexState) (cs : List (List Char))
    (hcs : cs.flatten = printSexp ff v) :
    (parseChunksFrom l cs).status = .done ∧ (parseChunksFrom l cs).exprs = [v] := by
  have hlex := lexV ff hlaw v hv [] '\x00' '\n' (by decide) (by decide)
  have hcost := cost_bound ff hlaw v hv
  obtain ⟨t, ts, hts, _, hcons⟩ := parse_val ff hlaw v hv (4 * (printSexp ff v).length + 15) (by omega)
  rw [show ([] ++ toks ff v ++ delimTok '\n' : List Token) = t :: ts by simp [hts, delimTok]] at hlex
  exact (read_of_tokens _ t ts hlex l cs hcs).1 v hcons

end ZygoVerif.ReadPrint
