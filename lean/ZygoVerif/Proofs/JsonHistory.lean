/-
Lemmas for the history theorems of C11 (Props/C11.lean): the store model
(Model/JsonHistory.lean `machine`) satisfies the history laws of Spec/JsonHistory.lean.
-/
import ZygoVerif.Model.JsonHistory
namespace ZygoVerif.Proofs.JsonHistory
open ZygoVerif.Print ZygoVerif.Rfc8259 ZygoVerif.Json ZygoVerif.JsonData ZygoVerif.JsonHistory

variable (c : Codecs) (fp : FloatParse)

theorem op_extends (s : Store) (o : Op) : ∃ ext, (machine c fp).op s o = s ++ ext := by
  cases o with
  | enc f v => exact ⟨[encBytes c f v], rfl⟩
  | dec f h =>
    refine ⟨[], ?_⟩
    simp only [Machine.op, Machine.decodeNow, List.append_nil]
    cases (machine c fp).read s h <;> rfl

theorem ops_extends (l : List Op) : ∀ s : Store, ∃ ext, (machine c fp).ops s l = s ++ ext := by
  induction l with
  | nil => intro s; exact ⟨[], by simp [Machine.ops]⟩
  | cons o r ih =>
    intro s
    obtain ⟨e1, h1⟩ := op_extends c fp s o
    obtain ⟨e2, h2⟩ := ih (s ++ e1)
    refine ⟨e1 ++ e2, ?_⟩
    simp only [Machine.ops, List.foldl_cons] at h2 ⊢
    rw [h1, h2, List.append_assoc]

theorem read_stable (s : Store) (l : List Op) (h : Nat) (hh : h < s.length) :
    (machine c fp).read ((machine c fp).ops s l) h = (machine c fp).read s h := by
  obtain ⟨ext, he⟩ := ops_extends c fp l s
  rw [he]
  simp only [machine, List.getElem?_append_left hh]

theorem read_new (s : Store) (f : Fmt) (v : V) :
    (machine c fp).read ((machine c fp).encode f v s).1 ((machine c fp).encode f v s).2 = encBytes c f v := by
  simp [machine]

theorem decode_pure (s : Store) (f : Fmt) (b : Bytes) :
    ((machine c fp).decode f b s).2 = decBytes c fp f b := rfl

theorem encode_results_stable : EncodeResultsStable (machine c fp) := by
  intro pre post f v
  apply read_stable
  simp [machine]

/-- what the simulation needs of a value: it can be encoded in every format, and the json
and msgpack encodings decode to `norm v` (for `gojson` only stability is judged) -/
def Good (v : V) : Prop :=
  ∀ f, ∃ b, encBytes c f v = some b ∧ (f ≠ .gojson → decBytes c fp f b = some (norm v))

structure SlotRel (ma : Store) (mb : List V) (sa : Slot Bytes) (sb : Slot V) : Prop where
  fmt : sa.fmt = sb.fmt
  h : sa.h = sb.h
  dead : sa.dead = sb.dead
  val : ∃ v, Good c fp v ∧ mb[sb.h]? = some v ∧ sb.snap = some v ∧
        ma[sa.h]? = some (encBytes c sa.fmt v) ∧ sa.snap = encBytes c sa.fmt v

/-- `Good`, also after the original has been mutated by `mv` -/
def GoodC (v : V) : Prop := Good c fp v ∧ ∀ v', setFirstV v = some v' → Good c fp v'

theorem setFirstV_idem {v v' : V} (h : setFirstV v = some v') : setFirstV v' = some v' := by
  unfold setFirstV at h
  split at h
  · cases h; rfl
  · cases h; rfl
  · cases h

theorem goodC_setFirst {v v' : V} (hg : GoodC c fp v) (h : setFirstV v = some v') : GoodC c fp v' :=
  ⟨hg.2 v' h, fun v'' h2 => by rw [setFirstV_idem h] at h2; cases h2; exact hg.2 v' h⟩

structure Rel (a : St Store Bytes) (b : St (List V) V) : Prop where
  results : a.results = b.results
  vals : a.vals = b.vals
  good : ∀ l ∈ a.vals, ∀ v ∈ l, GoodC c fp v
  mlen : a.m.length = b.m.length
  len : a.slots.length = b.slots.length
  slot : ∀ (k : Nat) sa sb, a.slots[k]? = some sa → b.slots[k]? = some sb → SlotRel c fp a.m b.m sa sb

theorem slotRel_mono {ma : Store} {mb : List V} {sa : Slot Bytes} {sb : Slot V} (xa : Store) (xb : List V)
    (h : SlotRel c fp ma mb sa sb) : SlotRel c fp (ma ++ xa) (mb ++ xb) sa sb := by
  obtain ⟨hf, hh, hd, v, hg, hb, hs, ha, hsa⟩ := h
  refine ⟨hf, hh, hd, v, hg, ?_, hs, ?_, hsa⟩
  · have : sb.h < mb.length := (List.getElem?_eq_some_iff.mp hb).1
    rw [List.getElem?_append_left this]; exact hb
  · have : sa.h < ma.length := (List.getElem?_eq_some_iff.mp ha).1
    rw [List.getElem?_append_left this]; exact ha

theorem rel_init (vals : List V) (hg : ∀ v ∈ vals, GoodC c fp v) :
    Rel c fp (St.init (machine c fp) vals) (St.init valueMachine vals) :=
  ⟨rfl, rfl, by intro l hl v hv; simp [St.init] at hl; subst hl; exact hg v hv, rfl, rfl,
   by intro k sa sb h; simp [St.init] at h⟩

/-- a mutation of a result cell acts on the result lists only -/
theorem mutate_sim (a : St Store Bytes) (b : St (List V) V) (hr : Rel c fp a b) (r : Nat) (fn : V → Option V) :
    (mutate a r fn = none ∧ mutate b r fn = none) ∨
    ∃ a' b' o, mutate a r fn = some (a', o) ∧ mutate b r fn = some (b', o) ∧ Rel c fp a' b' := by
  unfold mutate
  rw [← hr.results]
  cases hres : a.results[r]? with
  | none => left; exact ⟨rfl, rfl⟩
  | some cell =>
    right
    cases cell with
    | none => exact ⟨a, b, .na, rfl, rfl, hr⟩
    | some v =>
      cases hfn : fn v with
      | none => exact ⟨a, b, .na, by simp [hfn], by simp [hfn], hr⟩
      | some v' =>
        refine ⟨{ a with results := a.results.set r (some v') }, { b with results := a.results.set r (some v') }, .ok,
          by simp only [hfn], by simp only [hfn], ⟨rfl, hr.vals, hr.good, hr.mlen, hr.len, ?_⟩⟩
        intro k sa sb h1 h2
        exact hr.slot k sa sb h1 h2

/-- the result of a step pair: both malformed, or both answer the same and stay related -/
def Sim (ra : Option (St Store Bytes × Out)) (rb : Option (St (List V) V × Out)) : Prop :=
  (ra = none ∧ rb = none) ∨ ∃ a' b' o, ra = some (a', o) ∧ rb = some (b', o) ∧ Rel c fp a' b'

theorem slot_pair (a : St Store Bytes) (b : St (List V) V) (hr : Rel c fp a b) (s : Nat) :
    (a.slots[s]? = none ∧ b.slots[s]? = none) ∨
    ∃ sa sb, a.slots[s]? = some sa ∧ b.slots[s]? = some sb ∧ SlotRel c fp a.m b.m sa sb := by
  by_cases hs : s < a.slots.length
  · right
    have hs' : s < b.slots.length := hr.len ▸ hs
    exact ⟨a.slots[s], b.slots[s], List.getElem?_eq_getElem hs, List.getElem?_eq_getElem hs',
      hr.slot s _ _ (List.getElem?_eq_getElem hs) (List.getElem?_eq_getElem hs')⟩
  · left
    have hs' : ¬ s < b.slots.length := hr.len ▸ hs
    exact ⟨List.getElem?_eq_none (Nat.le_of_not_lt hs), List.getElem?_eq_none (Nat.le_of_not_lt hs')⟩

theorem enc_sim (a : St Store Bytes) (b : St (List V) V)
    (hr : Rel c fp a b) (f : Fmt) (ip i : Nat) :
    Sim c fp (step (machine c fp) a (.enc f ip i)) (step valueMachine b (.enc f ip i)) := by
  cases hv : (a.vals[ip]?).bind (·[i]?) with
  | none => left; simp [step, ← hr.vals, hv]
  | some v =>
    right
    have hgv : Good c fp v := by
      cases hl : a.vals[ip]? with
      | none => simp [hl] at hv
      | some l =>
        simp only [hl, Option.bind_some] at hv
        exact (hr.good l (List.mem_of_getElem? hl) v (List.mem_of_getElem? hv)).1
    obtain ⟨bts, hb, _⟩ := hgv f
    refine ⟨{ a with m := a.m ++ [encBytes c f v], slots := a.slots ++ [⟨f, a.m.length, encBytes c f v, false⟩] },
            { b with m := b.m ++ [v], slots := b.slots ++ [⟨f, b.m.length, some v, false⟩] }, .ok, ?_, ?_, ?_⟩
    · simp [step, hv, machine, hb]
    · simp [step, ← hr.vals, hv, valueMachine]
    · refine ⟨hr.results, hr.vals, hr.good, by simp [hr.mlen], by simp [hr.len], ?_⟩
      intro k sa sb h1 h2
      by_cases hk : k < a.slots.length
      · have hk' : k < b.slots.length := hr.len ▸ hk
        simp only [List.getElem?_append_left hk] at h1
        simp only [List.getElem?_append_left hk'] at h2
        exact slotRel_mono c fp _ _ (hr.slot k sa sb h1 h2)
      · have hk1 : k = a.slots.length := by
          have := (List.getElem?_eq_some_iff.mp h1).1
          simp at this; omega
        have hk2 : k = b.slots.length := hr.len ▸ hk1
        have e1 : sa = ⟨f, a.m.length, encBytes c f v, false⟩ := by
          rw [hk1] at h1; simpa using h1.symm
        have e2 : sb = ⟨f, b.m.length, some v, false⟩ := by
          rw [hk2] at h2; simpa using h2.symm
        subst e1; subst e2
        exact ⟨rfl, hr.mlen, rfl, v, hgv, by simp, rfl, by simp, rfl⟩

theorem rel_push (a : St Store Bytes) (b : St (List V) V) (hr : Rel c fp a b) (r : Option V) :
    Rel c fp { a with results := a.results ++ [r] } { b with results := b.results ++ [r] } :=
  ⟨by simp [hr.results], hr.vals, hr.good, hr.mlen, hr.len, hr.slot⟩

theorem dec_sim (a : St Store Bytes) (b : St (List V) V)
    (hr : Rel c fp a b) (ip s : Nat) :
    Sim c fp (step (machine c fp) a (.dec ip s)) (step valueMachine b (.dec ip s)) := by
  by_cases hip : ip > 1
  · left; simp [step, hip]
  · rcases slot_pair c fp a b hr s with ⟨h1, h2⟩ | ⟨sa, sb, h1, h2, hf, hh, hd, v, hg, hbv, hsb, hav, hsa⟩
    · left; simp [step, hip, h1, h2]
    · right
      obtain ⟨bts, hb, hdec⟩ := hg sa.fmt
      by_cases hdead : sa.dead = true
      · have hdead' : sb.dead = true := hd ▸ hdead
        exact ⟨_, _, .dead, by simp [step, hip, h1, hdead], by simp [step, hip, h2, hdead'], rel_push c fp a b hr none⟩
      · have hdead' : ¬ sb.dead = true := hd ▸ hdead
        have hra : a.m[sa.h]?.bind id = some bts := by simp [hav, hb]
        by_cases hgj : sa.fmt = .gojson
        · have hgj' : sb.fmt = .gojson := hf ▸ hgj
          have hb' : encBytes c .gojson v = some bts := hgj ▸ hb
          refine ⟨_, _, .sameAsFirst, ?_, ?_, rel_push c fp a b hr none⟩
          · simp [step, hip, h1, hdead, hsa, hb', hgj, hra, machine]
          · simp [step, hip, h2, hdead', hsb, hgj', hbv, valueMachine]
        · have hgj' : ¬ sb.fmt = .gojson := hf ▸ hgj
          have hd1 : (machine c fp).decodeNow a.m sa.fmt sa.h = (a.m, some (norm v)) := by
            simp [Machine.decodeNow, hra, machine, hdec hgj]
          have hd2 : valueMachine.decodeNow b.m sb.fmt sb.h = (b.m, some (norm v)) := by
            simp [Machine.decodeNow, hbv, valueMachine]
          refine ⟨{ a with results := a.results ++ [some (norm v)] }, { b with results := b.results ++ [some (norm v)] },
            .val (norm v), ?_, ?_, rel_push c fp a b hr _⟩
          · simp [step, hip, h1, hdead, hsa, hb, hgj, hd1]
          · simp [step, hip, h2, hdead', hsb, hgj', hd2]

theorem stable_sim (a : St Store Bytes) (b : St (List V) V)
    (hr : Rel c fp a b) (s : Nat) :
    Sim c fp (step (machine c fp) a (.stable s)) (step valueMachine b (.stable s)) := by
  rcases slot_pair c fp a b hr s with ⟨h1, h2⟩ | ⟨sa, sb, h1, h2, hf, hh, hd, v, hg, hbv, hsb, hav, hsa⟩
  · left; simp [step, h1, h2]
  · right
    obtain ⟨bts, hb, _⟩ := hg sa.fmt
    by_cases hdead : sa.dead = true
    · have hdead' : sb.dead = true := hd ▸ hdead
      exact ⟨a, b, .dead, by simp [step, h1, hdead], by simp [step, h2, hdead'], hr⟩
    · have hdead' : ¬ sb.dead = true := hd ▸ hdead
      have hra : a.m[sa.h]?.bind id = some bts := by simp [hav, hb]
      refine ⟨a, b, .same, ?_, ?_, hr⟩
      · simp [step, h1, hdead, hsa, hb, hra, machine]
      · simp [step, h2, hdead', hsb, hbv, valueMachine]

theorem clobber_sim (a : St Store Bytes) (b : St (List V) V)
    (hr : Rel c fp a b) (s : Nat) :
    Sim c fp (step (machine c fp) a (.clobber s)) (step valueMachine b (.clobber s)) := by
  rcases slot_pair c fp a b hr s with ⟨h1, h2⟩ | ⟨sa, sb, h1, h2, hsr⟩
  · left; simp [step, h1, h2]
  · right
    refine ⟨{ a with slots := a.slots.set s { sa with dead := true } }, { b with slots := b.slots.set s { sb with dead := true } },
      .ok, by simp [step, h1], by simp [step, h2], ⟨hr.results, hr.vals, hr.good, hr.mlen, by simp [hr.len], ?_⟩⟩
    intro k ka kb hk1 hk2
    by_cases hks : s = k
    · subst hks
      have l1 : s < a.slots.length := (List.getElem?_eq_some_iff.mp h1).1
      have l2 : s < b.slots.length := (List.getElem?_eq_some_iff.mp h2).1
      simp only [List.getElem?_set_self l1, Option.some.injEq] at hk1
      simp only [List.getElem?_set_self l2, Option.some.injEq] at hk2
      subst hk1; subst hk2
      obtain ⟨hf, hh, _, hv⟩ := hsr
      exact ⟨hf, hh, rfl, hv⟩
    · simp only [List.getElem?_set_ne hks] at hk1 hk2
      exact hr.slot k ka kb hk1 hk2

theorem show_sim (a : St Store Bytes) (b : St (List V) V)
    (hr : Rel c fp a b) (r : Nat) :
    Sim c fp (step (machine c fp) a (.show r)) (step valueMachine b (.show r)) := by
  simp only [step, ← hr.results]
  cases hres : a.results[r]? with
  | none => left; exact ⟨rfl, rfl⟩
  | some cell =>
    right
    cases cell with
    | none => exact ⟨a, b, .na, rfl, rfl, hr⟩
    | some v => exact ⟨a, b, .val v, rfl, rfl, hr⟩

theorem setVal_sim (a : St Store Bytes) (b : St (List V) V) (hr : Rel c fp a b) (ip i : Nat) :
    Sim c fp (step (machine c fp) a (.setVal ip i)) (step valueMachine b (.setVal ip i)) := by
  simp only [step, ← hr.vals]
  cases hl : a.vals[ip]? with
  | none => left; exact ⟨rfl, rfl⟩
  | some l =>
    cases hv : l[i]? with
    | none => left; exact ⟨by simp [hv], by simp [hv]⟩
    | some v =>
      right
      cases hs : setFirstV v with
      | none => exact ⟨a, b, .na, by simp [hv, hs], by simp [hv, hs], hr⟩
      | some v' =>
        refine ⟨{ a with vals := a.vals.set ip (l.set i v') }, { b with vals := a.vals.set ip (l.set i v') }, .ok,
          by simp [hv, hs], by simp [hv, hs], ⟨hr.results, rfl, ?_, hr.mlen, hr.len, hr.slot⟩⟩
        intro l2 hl2 w hw
        rcases List.mem_or_eq_of_mem_set hl2 with hin | rfl
        · exact hr.good l2 hin w hw
        · rcases List.mem_or_eq_of_mem_set hw with hin | rfl
          · exact hr.good l (List.mem_of_getElem? hl) w hin
          · exact goodC_setFirst c fp (hr.good l (List.mem_of_getElem? hl) v (List.mem_of_getElem? hv)) hs

theorem step_sim (a : St Store Bytes) (b : St (List V) V)
    (hr : Rel c fp a b) (s : Step) :
    Sim c fp (step (machine c fp) a s) (step valueMachine b s) := by
  cases s with
  | enc f ip i => exact enc_sim c fp a b hr f ip i
  | dec ip s => exact dec_sim c fp a b hr ip s
  | stable s => exact stable_sim c fp a b hr s
  | clobber s => exact clobber_sim c fp a b hr s
  | setFirst r => exact mutate_sim c fp a b hr r setFirstV
  | setInner r => exact mutate_sim c fp a b hr r setInnerV
  | addKey r => exact mutate_sim c fp a b hr r (addKeyV r)
  | «show» r => exact show_sim c fp a b hr r
  | setVal ip i => exact setVal_sim c fp a b hr ip i

theorem runFrom_sim (steps : List Step) :
    ∀ (a : St Store Bytes) (b : St (List V) V), Rel c fp a b →
      runFrom (machine c fp) a steps = runFrom valueMachine b steps := by
  induction steps with
  | nil => intro a b _; rfl
  | cons s r ih =>
    intro a b hr
    rcases step_sim c fp a b hr s with ⟨h1, h2⟩ | ⟨a', b', o, h1, h2, hr'⟩
    · simp [runFrom, h1, h2]
    · simp [runFrom, h1, h2, ih a' b' hr']

end ZygoVerif.Proofs.JsonHistory
