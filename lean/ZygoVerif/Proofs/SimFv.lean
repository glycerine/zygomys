/-
C02, execution half — variables and scopes.

Fv = F0c + symbol reference, `def`, `set`, non-empty `newScope`, `letseq`, `let` with pairwise distinct names, nested
arbitrarily.

* `Sim code s rs env res` — what the VM does on `code` from `s`, given the reference result `res`
  (from a related reference state, in environment `env`): a value ⇒ the code runs to its end,
  pushes that value, and the final states are related again (`Rel`: same bindings in every
  scope/frame); an error ⇒ the VM run ends in a script error with the same trace; the
  reference evaluator never yields `break`/`continue` on Fv;
* `segment_Fv` — the segment lemma, by induction on the reference evaluator's fuel; the steps are those of
  Proofs/SimStep.lean, instantiated with `Rel` and a bound on the number of instructions (`fvSys`, `fvBinds`, `fvFrag`).

`Sim.of_err`, `Sim.prefix`, `Sim.scoped` and `Seg.inner` state steps for `Sim` itself (`Sys.pass`, `Sys.scoped`); the
segment lemma uses the generic ones.
-/
import ZygoVerif.Proofs.SimGlue
import ZygoVerif.Proofs.SimBind
import ZygoVerif.Proofs.SimStep
import ZygoVerif.Proofs.GenTotal
namespace ZygoVerif.Sim
open ZygoVerif.Core ZygoVerif.VM

mutual
def Fv : Expr → Bool
  | .int _ | .bool _ | .str _ | .nilLit | .sym _ => true
  | .begin_ es => FvList es
  | .def_ _ e => Fv e
  | .set_ _ e => Fv e
  | .cond arms d => FvArms arms && Fv d
  | .and_ es => FvList es
  | .or_ es => FvList es
  | .newScope es => !es.isEmpty && FvList es
  | .let_ seq bs body =>
    (seq || decide ((bs.map (·.1)).Nodup)) && !body.isEmpty && FvBinds bs && FvList body
  | _ => false
def FvList : List Expr → Bool
  | [] => true
  | e :: es => Fv e && FvList es
def FvArms : List (Expr × Expr) → Bool
  | [] => true
  | (p, b) :: r => Fv p && Fv b && FvArms r
def FvBinds : List (String × Expr) → Bool
  | [] => true
  | (_, e) :: r => Fv e && FvBinds r
end

def Sim (code : List Instr) (s : St) (rs : Ref.St) (env : Nat) (res : Ref.R Val) : Prop :=
  match res with
  | .ok v rs' => ∃ s', Reach code.length 1 s s' ∧ Lands code.length v s s' ∧ Rel s' rs' env ∧ FramesExt rs rs'
  | .err rs' => Fails code.length s rs'.trace
  | .timeout => True
  | .brk _ _ => False
  | .cont _ _ => False

/-- Fv as a system: `Rel`, at most `K` instructions, nothing promised of the control stacks or of the values -/
@[reducible] def fvSys : Sys where
  W := Unit
  R _ := Rel
  Rch K := Reach K 1
  Fl := Fails
  X _ _ rs _ _ rs' := FramesExt rs rs'
  tv _ v := v
  Cl _ _ _ _ := True
  OkB _ := True
  OkS _ := True
  Ex _ _ _ _ := False
  Sm code _ := Sim code
  sm_ok := ⟨fun ⟨s', a, b, c, d⟩ => .inl ⟨s', (), _, a, b, rfl, c, d, trivial⟩,
    fun h => h.elim (fun ⟨s', _, _, a, b, hv, c, d, _⟩ => hv ▸ ⟨s', a, b, c, d⟩) False.elim⟩
  sm_err := Iff.rfl
  sm_timeout := trivial
  sm_brk := Iff.rfl
  sm_cont := Iff.rfl
  ex_moved _ _ _ h := h
  ex_push _ h := h
  rch h := h
  rtrans h₁ h₂ := (h₁.trans h₂).mono (Nat.le_refl _) (by simp)
  rmono h hK := h.mono hK (Nat.le_refl _)
  fl h := h
  flr := Fails.of_reach
  flmono := Fails.mono
  xrefl _ _ rs := FramesExt.refl rs
  xtrans := FramesExt.trans
  xjmp _ _ rs _ _ := FramesExt.refl rs
  cl_ext _ _ := trivial
  tv_ext _ _ := rfl
  cl_lit _ _ _ _ _ := ⟨trivial, rfl⟩
  truthy_tv _ _ := rfl
  rjmp h := h.jmp

theorem fvBinds : fvSys.Binds where
  xbind _ _ rs _ _ _ id' x' v' := FramesExt.setVar rs id' x' v'
  rbind h id hid x v _ _ := h.bind id hid x v
  lt h := h.chain.lt
  lin h := h.chain.head
  vars h i x := by rw [h.vars, Option.map_id']
  rebind h a b := by rw [h.heap]
  trace h := h.trace
  lex h x := by rw [Option.map_id']; exact h.lexLookup x
  cl_lookup _ _ _ := trivial
  rpush h := h.pushScope
  rwith h hf hl := h.withVars_congr hf hl
  xwith x _ := x.withVars_congr
  rpop := fun {_ _ rs env _ _ _} _ h x => by
    obtain ⟨f, hf, hp⟩ := x rs.frames.length { parent := some env } (by show (rs.frames ++ [_])[rs.frames.length]? = _; simp)
    exact ⟨h.popScope f hf hp, (FramesExt.newFrame rs env).trans x, fun _ _ => trivial⟩

theorem fvBinds_rhs : ∀ (bs : List (String × Expr)), FvBinds bs = true → FvList (bs.map (·.2)) = true
  | [], _ => rfl
  | (x, e) :: bs, h => by
    rw [FvBinds] at h; simp only [Bool.and_eq_true] at h
    rw [List.map_cons, FvList, h.1, fvBinds_rhs bs h.2]; rfl

@[reducible] def fvFrag : FgP fvSys where
  F := Fv
  FStmt := Fv
  FPred := Fv
  FList := FvList
  FArms := FvArms
  FBinds := FvBinds
  Cok _ := True
  Inv _ _ _ _ _ _ _ := True
  cok _ _ _ := trivial
  inv_tail _ _ := trivial
  inv_range _ _ _ _ := trivial
  inv_pre _ _ := trivial
  inv_adv _ _ _ := trivial
  inv_push _ _ _ := trivial
  inv_x _ _ := trivial
  inv_any _ _ := trivial
  inv_for _ _ := trivial
  noex _ _ _ _ := id
  flist_one h := by rw [FvList] at h; simpa [FvList] using h
  flist_cons h := by rw [FvList] at h; simpa using h
  farms_cons h := by rw [FvArms] at h; simpa [and_assoc] using h
  fvals_cons h := by rw [FvList] at h; simpa using h
  fbinds_cons h := by rw [FvBinds] at h; simpa using h
  fbinds_rhs h := fvBinds_rhs _ h
  f_begin h := by rw [Fv] at h; exact h
  f_sym _ := trivial
  f_def h := by rw [Fv] at h; exact ⟨trivial, h⟩
  f_set h := by rw [Fv] at h; exact ⟨trivial, h⟩
  f_cond h := by rw [Fv] at h; simpa using h
  f_and h := by rw [Fv] at h; exact h
  f_or h := by rw [Fv] at h; exact h
  f_newScope h := by rw [Fv] at h; simpa using h
  f_let h := by rw [Fv] at h; simpa [and_assoc] using h
  f_for h := by simp [Fv] at h

abbrev VClaimE := HClaimE fvSys fvFrag.toFg Fv
abbrev VClaimB := HClaimB fvSys fvFrag.toFg
abbrev VClaimC := HClaimC fvSys fvFrag.toFg
abbrev VClaimS := HClaimS fvSys fvFrag
abbrev VClaimL := HClaimL fvSys fvFrag
abbrev VClaimV := HClaimV fvSys fvFrag

/- Fv has no `for`, `break`, `fn` or `defn`. -/
mutual
theorem cp_of_fv : ∀ (e : Expr), Fv e = true → Cp false false [] e = true
  | .int _, _ | .bool _, _ | .str _, _ | .nilLit, _ | .sym _, _ => by unfold Cp; rfl
  | .begin_ es, h | .and_ es, h | .or_ es, h => by unfold Fv at h; unfold Cp; exact cpList_of_fv es h
  | .def_ _ e, h | .set_ _ e, h => by unfold Fv at h; unfold Cp; exact cp_of_fv e h
  | .cond arms d, h => by
    unfold Fv at h; unfold Cp; simp only [Bool.and_eq_true] at h ⊢
    exact ⟨cpArms_of_fv arms h.1, cp_of_fv d h.2⟩
  | .newScope es, h => by unfold Fv at h; unfold Cp; exact cpList_of_fv es (Bool.and_eq_true_iff.mp h).2
  | .let_ seq bs body, h => by
    unfold Fv at h; unfold Cp; simp only [Bool.and_eq_true] at h ⊢
    exact ⟨cpBinds_of_fv bs h.1.2, cpList_of_fv body h.2⟩
  | .arr _, h | .call _ _, h | .for_ _ _ _ _ _, h | .break_ _, h | .continue_ _, h | .fn _ _ _, h | .defn _ _ _ _, h
  | .assign _ _, h | .bad _, h => by simp [Fv] at h
theorem cpList_of_fv : ∀ (es : List Expr), FvList es = true → CpList false false [] es = true
  | [], _ => by rw [CpList]
  | e :: es, h => by
    rw [FvList] at h; rw [CpList]; simp only [Bool.and_eq_true] at h ⊢
    exact ⟨cp_of_fv e h.1, cpList_of_fv es h.2⟩
theorem cpArms_of_fv : ∀ (arms : List (Expr × Expr)), FvArms arms = true → CpArms false false [] arms = true
  | [], _ => by rw [CpArms]
  | (p, b) :: r, h => by
    rw [FvArms] at h; rw [CpArms]; simp only [Bool.and_eq_true] at h ⊢
    exact ⟨⟨cp_of_fv p h.1.1, cp_of_fv b h.1.2⟩, cpArms_of_fv r h.2⟩
theorem cpBinds_of_fv : ∀ (bs : List (String × Expr)), FvBinds bs = true → CpBinds false false [] bs = true
  | [], _ => by rw [CpBinds]
  | (x, e) :: r, h => by
    rw [FvBinds] at h; rw [CpBinds]; simp only [Bool.and_eq_true] at h ⊢
    exact ⟨cp_of_fv e h.1, cpBinds_of_fv r h.2⟩
end

theorem compileBinds_total_Fv : ∀ (bs : List (String × Expr)), FvBinds bs = true → ∀ isFn c seq gs,
    ∃ code t, (compileBinds isFn c seq bs).run gs = .ok ((code, t), gs) := by
  intro bs he isFn c seq gs
  obtain ⟨⟨⟨code, t⟩, gs'⟩, h, hf⟩ := compileBinds_ok_Cp (isFn := isFn) bs (cpBinds_of_fv bs he) c seq (.nil gs)
  cases hf.2 rfl rfl
  exact ⟨code, t, h⟩

theorem compileArms_total_Fv : ∀ (arms : List (Expr × Expr)), FvArms arms = true → ∀ isFn c gs,
    ∃ as, (compileArms isFn c arms).run gs = .ok (as, gs) := by
  intro arms he isFn c gs
  obtain ⟨⟨as, gs'⟩, h, hf⟩ := compileArms_ok_Cp (isFn := isFn) arms (cpArms_of_fv arms he) c (.nil gs)
  cases hf.2 rfl rfl
  exact ⟨as, h⟩

theorem compile_total_Fv (e : Expr) (he : Fv e = true) (isFn c gs) :
    ∃ code t, (compile isFn c e).run gs = .ok ((code, t), gs) ∧ code ≠ [] := by
  obtain ⟨⟨⟨code, t⟩, gs'⟩, h, hf⟩ := compile_ok_Cp (isFn := isFn) e (cp_of_fv e he) c (.nil gs)
  cases hf.2 rfl rfl
  exact ⟨code, t, h, (compile_facts e isFn c _ _ h).1⟩

theorem compileBegin_total_Fv (es : List Expr) (hne : es ≠ []) (he : FvList es = true) (isFn c gs) :
    ∃ code t, (compileBegin isFn c es).run gs = .ok ((code, t), gs) ∧ code ≠ [] := by
  obtain ⟨⟨⟨code, t⟩, gs'⟩, h, hf⟩ := compileBegin_ok_Cp (isFn := isFn) es (cpList_of_fv es he) c (.nil gs)
  cases hf.2 rfl rfl
  exact ⟨code, t, h, (compileBegin_facts es isFn c _ _ h).1 hne⟩

theorem compileSC_total_Fv : ∀ (es : List Expr), FvList es = true → ∀ isFn c gs,
    ∃ cs, (compileSC isFn c es).run gs = .ok (cs, gs) ∧ ∀ c ∈ cs, c ≠ [] := by
  intro es he isFn c gs
  obtain ⟨⟨cs, gs'⟩, h, hf⟩ := compileSC_ok_Cp (isFn := isFn) es (cpList_of_fv es he) c (.nil gs)
  cases hf.2 rfl rfl
  exact ⟨cs, h, fun x hx => ((compileSC_facts es isFn c _ _ h).2 x hx).1⟩

theorem compileNewScope_total_Fv : ∀ (es : List Expr), es ≠ [] → FvList es = true → ∀ isFn c oldtail gs,
    ∃ code t, (compileNewScope isFn c oldtail es).run gs = .ok ((code, t), gs) ∧ code ≠ [] := by
  intro es hne he isFn c ot gs
  obtain ⟨⟨⟨code, t⟩, gs'⟩, h, hf⟩ := compileNewScope_ok_Cp (isFn := isFn) es (cpList_of_fv es he) c ot (.nil gs)
  cases hf.2 rfl rfl
  exact ⟨code, t, h, (compileNewScope_facts es isFn c ot _ _ h).1 hne⟩

theorem Sim.of_err {code : List Instr} {s : St} {rs : Ref.St} {env : Nat} {rs' : Ref.St} {K : Nat}
    (h : Fails K s rs'.trace) (hK : K ≤ code.length) : Sim code s rs env (.err rs') :=
  h.mono hK

theorem Sim.prefix {code c₁ : List Instr} {s : St} {rs : Ref.St} {env : Nat} {res : Ref.R Val}
    (h₁ : Sim c₁ s rs env res) (hnot : ∀ v rs', res ≠ .ok v rs') (hK : c₁.length ≤ code.length) :
    Sim code s rs env res :=
  fvSys.pass (w := ()) h₁ hnot hK

/-- `let`/`letseq`/`newScope`: `addScope`, the inner code in the fresh scope (reference: in the
fresh frame), `removeScope` -/
theorem Sim.scoped {inner pre post : List Instr} {s : St} {rs : Ref.St} {env : Nat} {res : Ref.R Val}
    (h : Seg s pre ([.addScope] ++ inner ++ [.removeScope]) post)
    (hin : Sim inner s.pushScope (Ref.newFrame rs env).2 rs.frames.length res) :
    Sim ([.addScope] ++ inner ++ [.removeScope]) s rs env res := by
  obtain ⟨r1, m1⟩ := glue_addScope h
  have hlen : ([Instr.addScope] ++ inner ++ [Instr.removeScope]).length = 1 + inner.length + 1 := by simp; omega
  cases res with
  | ok v rs3 =>
    obtain ⟨s3, r, l, rel3, ext3⟩ := hin
    have l' : Lands (1 + inner.length) v s s3 := m1.lands l
    obtain ⟨rest, hlin⟩ := rel3.chain.head
    obtain ⟨f, hf, hp⟩ := ext3 rs.frames.length { parent := some env }
      (by show (rs.frames ++ [_])[rs.frames.length]? = _; simp)
    obtain ⟨r4, l4⟩ := glue_removeScope h l' hlin
    exact ⟨_, ((r1.trans r).trans r4).mono (by rw [hlen]; omega) (by simp), l4, rel3.popScope f hf hp,
      (FramesExt.newFrame rs env).trans ext3⟩
  | err rs3 => exact (Fails.of_reach r1 hin).mono (by rw [hlen]; omega)
  | timeout => trivial
  | brk l rs3 => exact hin
  | cont l rs3 => exact hin

theorem Seg.inner {inner pre post : List Instr} {s : St}
    (h : Seg s pre ([.addScope] ++ inner ++ [.removeScope]) post) :
    Seg s.pushScope (pre ++ [.addScope]) inner ([.removeScope] ++ post) :=
  h.moved (glue_addScope h).2 (c₁ := [.addScope]) (c₂ := inner) (post' := [.removeScope] ++ post) (by simp) rfl

theorem vclaimE_succ {n : Nat} (hE : VClaimE n) (hB : VClaimB n) (hC : VClaimC n) (hS : VClaimS n)
    (hL : VClaimL n) (hV : VClaimV n) : VClaimE (n + 1) := fun e he =>
  hclaimE_core fvBinds hE hB hC hS hL hV e (by cases e <;> first | rfl | (exact absurd he (by simp [Fv]))) he

theorem vclaims : ∀ n, VClaimE n ∧ VClaimB n ∧ VClaimC n ∧ VClaimS n ∧ VClaimL n ∧ VClaimV n
  | 0 => ⟨hclaimE_zero _ _, hclaimB_zero _, hclaimC_zero _, hclaimS_zero _, hclaimL_zero _, hclaimV_zero _⟩
  | n + 1 => by
    obtain ⟨hE, hB, hC, hS, hL, hV⟩ := vclaims n
    have hN := fvFrag.toN hE
    exact ⟨vclaimE_succ hE hB hC hS hL hV, hclaimB_succ hN hE hB, hclaimC_succ hN hE hC, hclaimS_succ hE hS,
      hclaimL_succ fvBinds hE hL, hclaimV_succ hE hV⟩

/-- Segment lemma for Fv (literals, symbols, `def`, `set`, `begin`, `cond`, `and`, `or`, `newScope`, `let`, `letseq`).
In related states (`Rel s rs env`: same bindings scope by scope, linear stack = static chain of
`env`, same heap and trace), with the VM on the first instruction of the code `compile`
produced for `e`, embedded anywhere: if the reference evaluator yields a value, the VM runs the
code to its end within `code.length` instructions, pushes that value, and the states are related
again (the effects on the scopes are the same); if it yields an error, the VM run ends in a
script error with the same trace; it never yields `break`/`continue`. -/
theorem segment_Fv (e : Expr) (he : Fv e = true) (isFn : Nat → Bool) (c : Ctx) (gs : GS)
    (code : List Instr) (t : Bool) (gs' : GS) (hc : (compile isFn c e).run gs = .ok ((code, t), gs'))
    (s : St) (rs : Ref.St) (env : Nat) (pre post : List Instr) (hrel : Rel s rs env) (hseg : Seg s pre code post)
    (n : Nat) : Sim code s rs env (Ref.eval n e env rs) :=
  (vclaims n).1 e he isFn c gs ((code, t), gs') hc trivial () s rs env pre post hrel trivial hseg

theorem segment_Fv_begin (es : List Expr) (hne : es ≠ []) (he : FvList es = true) (isFn : Nat → Bool) (c : Ctx) (gs : GS)
    (code : List Instr) (t : Bool) (gs' : GS) (hc : (compileBegin isFn c es).run gs = .ok ((code, t), gs'))
    (s : St) (rs : Ref.St) (env : Nat) (pre post : List Instr) (hrel : Rel s rs env) (hseg : Seg s pre code post)
    (n : Nat) : Sim code s rs env (Ref.evalBegin n es env rs) :=
  (vclaims n).2.1 es hne he isFn c gs ((code, t), gs') hc trivial () s rs env pre post hrel trivial hseg

end ZygoVerif.Sim
