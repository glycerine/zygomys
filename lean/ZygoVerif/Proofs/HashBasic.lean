/-
Lemmas for C14: the Go map as an association list (`mget`, `mput`, `mdel`, `msum`), read as a total
function from codes to buckets (`bkt`, `mstore`: a missing bucket is an empty one), and one bucket
under HashSet (`bset`) and under the removal of HashDelete (`List.eraseP`).
-/
import ZygoVerif.Model.Hash
namespace ZygoVerif.Hash
variable {K V : Type}

/-- What the proofs need of the language's key equality and of the hash-code function:
`Compare == 0` is an equivalence relation on keys, and equal keys hash alike. Nothing else
is assumed about `code` — collisions between different keys are arbitrary. -/
structure KeyLaws (o : KeyOps K) : Prop where
  refl : ∀ a, o.keq a a = true
  symm : ∀ a b, o.keq a b = true → o.keq b a = true
  trans : ∀ a b c, o.keq a b = true → o.keq b c = true → o.keq a c = true
  code_congr : ∀ a b, o.keq a b = true → o.code a = o.code b

theorem mget_mdel (m : GoMap K V) (c c' : Int) :
    mget (mdel m c) c' = if c' = c then none else mget m c' := by
  induction m with
  | nil => simp [mdel, mget]
  | cons e r ih =>
    obtain ⟨ce, be⟩ := e
    simp only [mdel, mget]
    split <;> split <;> simp_all [mget] <;> grind

theorem mget_mput (m : GoMap K V) (c c' : Int) (b : Bucket K V) :
    mget (mput m c b) c' = if c' = c then some b else mget m c' := by
  by_cases h : c' = c
  · subst h; simp [mput, mget]
  · have : ¬ c = c' := fun h' => h h'.symm
    simp [mput, mget, mget_mdel, h, this]

def mcodes (m : GoMap K V) : List Int := m.map (·.1)

theorem mcodes_mdel_sublist (m : GoMap K V) (c : Int) : (mcodes (mdel m c)).Sublist (mcodes m) := by
  induction m with
  | nil => simp [mdel, mcodes]
  | cons e r ih =>
    obtain ⟨ce, be⟩ := e
    simp only [mdel, mcodes, List.map_cons] at ih ⊢
    split
    · exact List.Sublist.cons _ ih
    · exact List.Sublist.cons_cons _ ih

theorem mcodes_mdel_nodup (m : GoMap K V) (c : Int) (h : (mcodes m).Nodup) :
    (mcodes (mdel m c)).Nodup := h.sublist (mcodes_mdel_sublist m c)

theorem not_mem_mcodes_mdel (m : GoMap K V) (c : Int) : c ∉ mcodes (mdel m c) := by
  induction m with
  | nil => simp [mdel, mcodes]
  | cons e r ih =>
    obtain ⟨ce, be⟩ := e
    simp only [mdel, mcodes] at ih ⊢
    split
    · exact ih
    · simp only [List.map_cons, List.mem_cons, not_or]; exact ⟨fun h => by simp_all, ih⟩

theorem mcodes_mput_nodup (m : GoMap K V) (c : Int) (b : Bucket K V) (h : (mcodes m).Nodup) :
    (mcodes (mput m c b)).Nodup := by
  have h1 := mcodes_mdel_nodup m c h
  have h2 := not_mem_mcodes_mdel m c
  simp only [mcodes, mput, List.map_cons, List.nodup_cons] at *
  exact ⟨h2, h1⟩

theorem mget_none_of_not_mem (m : GoMap K V) (c : Int) (h : c ∉ mcodes m) : mget m c = none := by
  induction m with
  | nil => rfl
  | cons e r ih =>
    obtain ⟨ce, be⟩ := e
    simp only [mcodes, List.map_cons, List.mem_cons, not_or] at h
    have : ¬ ce = c := fun h' => h.1 h'.symm
    simp only [mget, this, if_false]
    exact ih h.2

/-- The bucket of a code, a missing one read as empty: HashSet, HashDelete and HashGetDefault all
treat the two alike. -/
def bkt (m : GoMap K V) (c : Int) : Bucket K V := (mget m c).getD []

/-- `m[c] = b`, or `delete(m, c)` when `b` is empty: the store that keeps empty buckets out of the
map. Both mutators are one `mstore` at the code of their key. -/
def mstore (m : GoMap K V) (c : Int) (b : Bucket K V) : GoMap K V :=
  if b.isEmpty then mdel m c else mput m c b

theorem bkt_all {P : Bucket K V → Prop} (m : GoMap K V) (c : Int) (h0 : P [])
    (hP : ∀ b, mget m c = some b → P b) : P (bkt m c) := by
  unfold bkt
  cases hm : mget m c with
  | none => exact h0
  | some b => exact hP b hm

theorem mget_mstore (m : GoMap K V) (c c' : Int) (b : Bucket K V) :
    mget (mstore m c b) c' = if c' = c then (if b.isEmpty then none else some b) else mget m c' := by
  by_cases hb : b.isEmpty = true <;> by_cases hc : c' = c <;>
    simp [mstore, hb, hc, mget_mdel, mget_mput]

theorem bkt_mstore (m : GoMap K V) (c c' : Int) (b : Bucket K V) :
    bkt (mstore m c b) c' = if c' = c then b else bkt m c' := by
  unfold bkt
  rw [mget_mstore]
  by_cases hc : c' = c
  · rw [if_pos hc, if_pos hc]; cases b <;> rfl
  · rw [if_neg hc, if_neg hc]

/-- a property of every bucket survives a store of a bucket that has it or is empty -/
theorem buckets_mstore {P : Int → Bucket K V → Prop} (m : GoMap K V) (c : Int) (b : Bucket K V)
    (hP : ∀ c' b', mget m c' = some b' → P c' b') (hb : b ≠ [] → P c b) :
    ∀ c' b', mget (mstore m c b) c' = some b' → P c' b' := by
  intro c' b' h
  rw [mget_mstore] at h
  by_cases hc : c' = c
  · subst hc
    rw [if_pos rfl] at h
    by_cases he : b.isEmpty = true
    · rw [if_pos he] at h; cases h
    · rw [if_neg he] at h; cases h; exact hb (by simpa using he)
  · rw [if_neg hc] at h; exact hP _ _ h

theorem mcodes_mstore_nodup (m : GoMap K V) (c : Int) (b : Bucket K V) (h : (mcodes m).Nodup) :
    (mcodes (mstore m c b)).Nodup := by
  unfold mstore
  split
  · exact mcodes_mdel_nodup m c h
  · exact mcodes_mput_nodup m c b h

theorem msum_mdel (m : GoMap K V) (c : Int) (h : (mcodes m).Nodup) :
    msum (mdel m c) = msum m - (bkt m c).length := by
  induction m with
  | nil => simp [mdel, msum, mget, bkt]
  | cons e r ih =>
    obtain ⟨ce, be⟩ := e
    simp only [mcodes, List.map_cons, List.nodup_cons] at h
    have ih' := ih h.2
    by_cases h1 : ce = c
    · subst h1
      have hn : mget r ce = none := mget_none_of_not_mem r ce h.1
      simp only [bkt, hn, Option.getD_none, List.length_nil] at ih'
      simp only [mdel, mget, msum, bkt, if_true, Option.getD_some]
      rw [ih']; omega
    · simp only [bkt] at ih'
      simp only [mdel, mget, msum, bkt, h1, if_false]
      rw [ih']; omega

theorem msum_mstore (m : GoMap K V) (c : Int) (b : Bucket K V) (h : (mcodes m).Nodup) :
    msum (mstore m c b) = msum m - (bkt m c).length + b.length := by
  unfold mstore
  by_cases hb : b.isEmpty = true
  · rw [if_pos hb, msum_mdel m c h, List.isEmpty_iff.1 hb]; simp
  · rw [if_neg hb]; simp only [mput, msum, msum_mdel m c h]; omega

theorem msum_nonneg (m : GoMap K V) : 0 ≤ msum m := by
  induction m with
  | nil => exact Int.le_refl 0
  | cons e r ih => simp only [msum]; omega

/-- with no empty bucket in it, the map has an entry exactly when it holds a pair -/
theorem msum_pos_iff (m : GoMap K V) (hne : ∀ c b, mget m c = some b → b ≠ []) :
    0 < msum m ↔ m.length > 0 := by
  cases m with
  | nil => simp [msum]
  | cons e r =>
    have := List.length_pos_iff.2 (hne e.1 e.2 (by simp [mget]))
    have := msum_nonneg r
    simp only [msum, List.length_cons]; omega

section bucket
variable {o : KeyOps K} (L : KeyLaws o)
include L

theorem keq_left_congr {k k' : K} (h : o.keq k k' = true) (e : K) : o.keq e k = o.keq e k' := by
  cases h1 : o.keq e k <;> cases h2 : o.keq e k' <;> try rfl
  · have := L.trans e k' k h2 (L.symm _ _ h); simp_all
  · have := L.trans e k k' h1 h; simp_all

theorem keq_comm (a b : K) : o.keq a b = o.keq b a := by
  cases h1 : o.keq a b <;> cases h2 : o.keq b a <;> try rfl
  · have := L.symm _ _ h2; simp_all
  · have := L.symm _ _ h1; simp_all

omit L in
/-- the bucket loop of HashGetDefault is `List.find?`; with it `bfind` is `Spec.lookup` on a bucket -/
theorem bfind_eq (b : Bucket K V) (k : K) :
    bfind o b k = (b.find? (fun e => o.keq e.1 k)).map (·.2) := by
  induction b with
  | nil => rfl
  | cons e r ih => simp only [bfind, List.find?_cons, ih]; cases o.keq e.1 k <;> rfl

theorem bfind_congr (b : Bucket K V) {k k' : K} (h : o.keq k k' = true) :
    bfind o b k = bfind o b k' := by
  rw [bfind_eq, bfind_eq, funext fun e : K × V => keq_left_congr L h e.1]

omit L in
theorem bfind_none_iff (b : Bucket K V) (k : K) :
    bfind o b k = none ↔ ∀ e ∈ b, o.keq e.1 k = false := by
  simp only [bfind_eq, Option.map_eq_none_iff, List.find?_eq_none, Bool.not_eq_true]

omit L in
theorem any_eq_bfind_isSome (b : Bucket K V) (k : K) :
    b.any (fun e => o.keq e.1 k) = (bfind o b k).isSome := by
  rw [Bool.eq_iff_iff, List.any_eq_true, bfind_eq, Option.isSome_map, List.find?_isSome]

omit L in
theorem bfind_some_mem (b : Bucket K V) (k : K) (v : V) (h : bfind o b k = some v) :
    ∃ e ∈ b, o.keq e.1 k = true := by
  rw [bfind_eq, Option.map_eq_some_iff] at h
  obtain ⟨e, he, _⟩ := h
  exact ⟨e, List.mem_of_find?_eq_some he, List.find?_some (p := fun e : K × V => o.keq e.1 k) he⟩

omit L in
theorem bfind_append (b b2 : Bucket K V) (k : K) :
    bfind o (b ++ b2) k = (bfind o b k).or (bfind o b2 k) := by
  simp only [bfind_eq, List.find?_append, Option.map_or]

/-- the replace loop of HashSet, seen from a key equal to the one being set -/
theorem bfind_replace_eq (b : Bucket K V) (k k' : K) (v : V) (h : o.keq k k' = true) :
    bfind o (b.map (fun e => if o.keq e.1 k then (k, v) else e)) k' =
      if b.any (fun e => o.keq e.1 k) then some v else none := by
  induction b with
  | nil => rfl
  | cons e r ih =>
    obtain ⟨ke, ve⟩ := e
    simp only [List.map_cons, List.any_cons]
    by_cases hk : o.keq ke k = true
    · simp [bfind, h, hk]
    · have hk' : o.keq ke k = false := by simpa using hk
      have : o.keq ke k' = false := by rw [← keq_left_congr L h ke]; exact hk'
      simp only [hk', Bool.false_eq_true, if_false, bfind, this, ih, Bool.false_or]

/-- … and from any other key -/
theorem bfind_replace_ne (b : Bucket K V) (k k' : K) (v : V) (h : o.keq k k' = false) :
    bfind o (b.map (fun e => if o.keq e.1 k then (k, v) else e)) k' = bfind o b k' := by
  induction b with
  | nil => rfl
  | cons e r ih =>
    obtain ⟨ke, ve⟩ := e
    simp only [List.map_cons]
    by_cases hk : o.keq ke k = true
    · have : o.keq ke k' = false := by
        cases h2 : o.keq ke k'
        · rfl
        · have := L.trans k ke k' (L.symm _ _ hk) h2; simp_all
      simp [bfind, h, this, ih, hk]
    · have hk' : o.keq ke k = false := by simpa using hk
      simp [bfind, ih, hk']

omit L in
/-- the bucket HashSet leaves: every pair whose key equals `k` overwritten by `(k, v)` (the loop has
no `break`), or, where there is none, `(k, v)` appended -/
def bset (o : KeyOps K) (b : Bucket K V) (k : K) (v : V) : Bucket K V :=
  if b.any (fun e => o.keq e.1 k) then b.map (fun e => if o.keq e.1 k then (k, v) else e)
  else b ++ [(k, v)]

omit L in
theorem bset_ne_nil (b : Bucket K V) (k : K) (v : V) : bset o b k v ≠ [] := by
  unfold bset
  split
  · rename_i ha
    intro hm
    rw [List.map_eq_nil_iff] at hm
    subst hm; cases ha
  · simp

omit L in
theorem bset_length (b : Bucket K V) (k : K) (v : V) :
    (bset o b k v).length = if (bfind o b k).isSome then b.length else b.length + 1 := by
  unfold bset
  rw [any_eq_bfind_isSome]
  split <;> simp

/-- HashSet seen from one bucket: the key (in any spelling) now has the new value, every other key
is unchanged. -/
theorem bfind_bset (b : Bucket K V) (k k' : K) (v : V) :
    bfind o (bset o b k v) k' = if o.keq k k' then some v else bfind o b k' := by
  unfold bset
  cases hk : o.keq k k'
  · split
    · exact bfind_replace_ne L b k k' v hk
    · simp [bfind_append, bfind, hk]
  · cases ha : b.any (fun e => o.keq e.1 k)
    · have h1 : bfind o b k' = none := by
        rw [← bfind_congr L b hk]
        rw [any_eq_bfind_isSome] at ha
        cases hb : bfind o b k
        · rfl
        · rw [hb] at ha; cases ha
      simp [bfind_append, bfind, h1, hk]
    · simp [bfind_replace_eq L b k k' v hk, ha]

omit L in
theorem bset_code (b : Bucket K V) (k : K) (v : V) (hb : ∀ e ∈ b, o.code e.1 = o.code k) :
    ∀ e ∈ bset o b k v, o.code e.1 = o.code k := by
  unfold bset
  intro e he
  split at he
  · obtain ⟨e0, he0, rfl⟩ := List.mem_map.1 he
    split
    · rfl
    · exact hb e0 he0
  · rcases List.mem_append.1 he with h1 | h1
    · exact hb e h1
    · rw [List.mem_singleton.1 h1]

theorem bset_pairwise (b : Bucket K V) (k : K) (v : V)
    (pw : b.Pairwise (fun e f => o.keq e.1 f.1 = false)) :
    (bset o b k v).Pairwise (fun e f => o.keq e.1 f.1 = false) := by
  unfold bset
  split
  · -- two overwritten pairs would have been equal before; an overwritten pair and another differ
    -- as the two did before
    rw [List.pairwise_map]
    refine pw.imp ?_
    intro e f hef
    by_cases h1 : o.keq e.1 k = true <;> by_cases h2 : o.keq f.1 k = true
    · have := L.trans _ _ _ h1 (L.symm _ _ h2); simp_all
    · simp only [h1, h2, if_true, Bool.false_eq_true, if_false]
      cases h3 : o.keq k f.1
      · rfl
      · have := L.symm _ _ h3; simp_all
    · have h1' : o.keq e.1 k = false := by simpa using h1
      simp only [h1', h2, if_true, Bool.false_eq_true, if_false]
    · simp only [h1, h2, Bool.false_eq_true, if_false]; exact hef
  · rename_i ha
    rw [List.pairwise_append]
    refine ⟨pw, List.pairwise_singleton _ _, ?_⟩
    intro a ha' f hf
    rw [List.mem_singleton.1 hf]
    simpa using List.any_eq_false.1 (Bool.eq_false_iff.2 ha) a ha'

omit L in
theorem length_eraseP_succ {α : Type} {p : α → Bool} {l : List α} {a : α} (ha : a ∈ l)
    (hp : p a = true) : (l.eraseP p).length + 1 = l.length := by
  rw [List.length_eraseP_of_mem ha hp]
  have := List.length_pos_of_mem ha
  omega

omit L in
theorem erase_length (b : Bucket K V) (k : K) (hs : (bfind o b k).isSome = true) :
    (b.eraseP (fun e => o.keq e.1 k)).length + 1 = b.length := by
  obtain ⟨v, hv⟩ := Option.isSome_iff_exists.1 hs
  obtain ⟨e, he, hq⟩ := bfind_some_mem b k v hv
  exact length_eraseP_succ he hq

omit L in
theorem bremove_eq (b : Bucket K V) (k : K) :
    bremove o b k =
      if (bfind o b k).isSome then some (b.eraseP (fun e => o.keq e.1 k)) else none := by
  induction b with
  | nil => rfl
  | cons e r ih =>
    obtain ⟨ke, ve⟩ := e
    cases hk : o.keq ke k
    · simp only [bremove, bfind, List.eraseP_cons, hk, cond_false, Bool.false_eq_true, if_false, ih]
      cases (bfind o r k).isSome <;> rfl
    · simp only [bremove, bfind, List.eraseP_cons, hk, cond_true, if_true, Option.isSome_some]

omit L in
theorem koRemove_eq (ko : List K) (k : K) : koRemove o ko k = ko.eraseP (fun a => o.keq a k) := by
  induction ko with
  | nil => rfl
  | cons a r ih =>
    simp only [koRemove, List.eraseP_cons, ih]
    cases o.keq a k <;> rfl

omit L in
/-- where no two members satisfy `p` together, erasing the first that does leaves none: why
HashDelete may stop at the first match, in the bucket and in KeyOrder -/
theorem eraseP_all_false {α : Type} {p : α → Bool} {l : List α}
    (pw : l.Pairwise (fun a b => p a = true → p b = false)) : ∀ a ∈ l.eraseP p, p a = false := by
  induction l with
  | nil => intro a h; cases h
  | cons x r ih =>
    rw [List.pairwise_cons] at pw
    intro a ha
    by_cases hx : p x = true
    · rw [List.eraseP_cons_of_pos hx] at ha; exact pw.1 a ha hx
    · rw [List.eraseP_cons_of_neg hx] at ha
      rcases List.mem_cons.1 ha with rfl | h'
      · simpa using hx
      · exact ih pw.2 a h'

theorem keq_excl {a b : K} (hab : o.keq a b = false) (k : K) (ha : o.keq a k = true) :
    o.keq b k = false := by
  cases hb : o.keq b k
  · rfl
  · rw [L.trans a k b ha (L.symm _ _ hb)] at hab; cases hab

/-- HashDelete seen from one bucket: the deleted key (in any spelling) is gone, every other key is
untouched. Needs the bucket's keys to be pairwise different. -/
theorem bfind_erase (b : Bucket K V) (k k' : K)
    (pw : b.Pairwise (fun e f => o.keq e.1 f.1 = false)) :
    bfind o (b.eraseP (fun e => o.keq e.1 k)) k' = if o.keq k k' then none else bfind o b k' := by
  cases hkk : o.keq k k'
  · -- the erased pair is not one that `k'` would have found
    rw [if_neg Bool.false_ne_true]
    clear pw
    induction b with
    | nil => rfl
    | cons e r ih =>
      obtain ⟨ke, ve⟩ := e
      by_cases hk : o.keq ke k = true
      · rw [List.eraseP_cons_of_pos (p := fun e : K × V => o.keq e.1 k) (a := (ke, ve)) hk]
        have : o.keq ke k' = false := by rw [keq_comm L, keq_excl L hkk ke (L.symm _ _ hk)]
        simp only [bfind, this, Bool.false_eq_true, if_false]
      · rw [List.eraseP_cons_of_neg (p := fun e : K × V => o.keq e.1 k) (a := (ke, ve)) hk]
        simp only [bfind, ih]
  · rw [if_pos rfl, bfind_none_iff]
    intro e he
    rw [← keq_left_congr L hkk]
    exact eraseP_all_false (p := fun e : K × V => o.keq e.1 k)
      (pw.imp fun hef => keq_excl L hef k) e he

end bucket

end ZygoVerif.Hash
