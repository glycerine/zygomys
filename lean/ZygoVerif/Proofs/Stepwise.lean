/-
The call-by-call protocol (`PSt`, Model/Abandon) computes what the delivery model (`parseChunks`,
Model/Parser) computes (C13, `StepwiseIsRun`).

Fuel monotonicity: `SProg.le p q` is "the same program with some subtrees cut off by `fail`"; the parser at
fuel `f` is below the parser at fuel `f + 1` (`Proofs/Abandon.parAll`), and a run that does not end in an error is not
changed by putting the subtrees back (`run_le`). The expression
parsers never ask the top level for a token (`SProg.noTop`), which fixes the shape of the programs the
protocol ever keeps (`TL`).
The induction over the pieces is `Proofs/StepwiseFuel.stages`.
-/
import ZygoVerif.Proofs.Abandon
namespace ZygoVerif.Parser
open ZygoVerif.Lexer

/-- a waiting instruction of a program below another is the same wait, and goes on below -/
theorem SProg.le.wt {α : Type} {p p' : SProg α} (h : SProg.le p p') {w} (hw : p.wt? = some w) :
    ∃ w', p'.wt? = some w' ∧ w'.orEnd = w.orEnd ∧ w'.extra = w.extra ∧ w'.stf = w.stf ∧ w'.ended = w.ended ∧
      (∀ t ts x, w.next t ts = some x → ∃ x', w'.next t ts = some x' ∧ x'.2 = x.2 ∧ SProg.le x.1 x'.1) ∧
      (∀ q, w.atEnd = some q → ∃ q', w'.atEnd = some q' ∧ SProg.le q q') ∧ (w.atEnd = none → w'.atEnd = none) := by
  cases h with
  | peekAt n k k' hk =>
    cases hw
    refine ⟨_, rfl, rfl, rfl, rfl, rfl, fun t ts x hx => ?_, fun q hq => (nomatch hq), fun _ => rfl⟩
    dsimp only at hx ⊢
    split at hx
    · cases hx; exact ⟨_, rfl, rfl, hk _⟩
    · cases hx
  | _ =>
    cases hw <;> refine ⟨_, rfl, rfl, rfl, rfl, rfl, fun t ts x hx => ?_, fun q hq => ?_, fun hq => ?_⟩ <;>
      first
        | (cases hx; exact ⟨_, rfl, rfl, by apply_assumption⟩)
        | (cases hq; exact ⟨_, rfl, by apply_assumption⟩)
        | rfl
        | cases hq

theorem run_le {α : Type} {p q : SProg α} (h : SProg.le p q) (s : PState) (hne : (run p.erase s).1 ≠ .stop .err) :
    run q.erase s = run p.erase s := by
  induction p using SProg.wt_induction generalizing q s with
  | pure a => cases h; rfl
  | fail => exact absurd rfl hne
  | wait p w hw ih ihEnd =>
    obtain ⟨w', hw', e1, e2, e3, _, hnext, hend, hnone⟩ := h.wt hw
    rw [run_erase_wt hw] at hne ⊢
    rw [run_erase_wt hw', e1, e2, e3]
    cases hp : waitRun w.stf w.orEnd w.extra (s.size + 1) s with
    | tok t s' =>
      simp only [hp] at hne ⊢
      cases hn : w.next t s'.lex.tokens with
      | none => simp [hn] at hne
      | some x =>
        obtain ⟨x', hx', hts, hle⟩ := hnext _ _ _ hn
        simp only [hn, hx', hts] at hne ⊢
        exact ih t _ x.1 x.2 hn hle _ hne
    | stop st s' =>
      cases st with
      | more =>
        simp only [hp] at hne ⊢
        cases he : w.atEnd with
        | none => rw [hnone he]
        | some q0 =>
          obtain ⟨q', hq', hle⟩ := hend q0 he
          simp only [he, hq'] at hne ⊢
          cases hl : inLiteral s'.lex.toLexCore with
          | true => rfl
          | false => simp only [hl, Bool.false_eq_true, ↓reduceIte] at hne ⊢; exact ihEnd q0 he hle s' hne
      | done => rfl
      | err => rfl
  | pushTok t k ih => cases h with | pushTok _ _ k' hk => exact ih hk _ hne
  | pushExpr e k ih => cases h with | pushExpr _ _ k' hk => exact ih hk _ hne

theorem SProg.le_trans {α : Type} {p q r : SProg α} (h1 : SProg.le p q) (h2 : SProg.le q r) : SProg.le p r := by
  induction h1 generalizing r with
  | fail q => exact .fail _
  | pure a => exact h2
  | waitPeek n k k' _ ih => cases h2 with | waitPeek _ _ k'' h => exact .waitPeek n k k'' (fun t => ih t (h t))
  | waitLoop on on' k k' _ _ ih1 ih2 =>
    cases h2 with | waitLoop _ on'' _ k'' g1 g2 => exact .waitLoop on on'' k k'' (ih1 g1) (fun t => ih2 t (g2 t))
  | signPeek k k' _ ih => cases h2 with | signPeek _ k'' h => exact .signPeek k k'' (fun t => ih t (h t))
  | peekAt n k k' _ ih => cases h2 with | peekAt _ _ k'' h => exact .peekAt n k k'' (fun t => ih t (h t))
  | getTok k k' _ ih => cases h2 with | getTok _ k'' h => exact .getTok k k'' (fun t => ih t (h t))
  | topGet k k' _ ih => cases h2 with | topGet _ k'' h => exact .topGet k k'' (fun t => ih t (h t))
  | pushTok t k k' _ ih => cases h2 with | pushTok _ _ k'' h => exact .pushTok t k k'' (ih h)
  | pushExpr e k k' _ ih => cases h2 with | pushExpr _ _ k'' h => exact .pushExpr e k k'' (ih h)

theorem S_parseExprTok_le (f d : Nat) (tok : Token) : SProg.le (S.parseExprTok f tok) (S.parseExprTok (f + d) tok) := by
  induction d with
  | zero => exact SProg.le_refl _
  | succ d ih => exact SProg.le_trans ih ((parAll (f + d)).1 tok).le

/-- what `ParsingIter` does with a parsed expression: append it to the reply, next round -/
def afterExpr (f : Nat) (e : Sexp) : SProg Unit := .pushExpr e (S.topLoop f)

theorem topLoop_succ_eq (f : Nat) : S.topLoop (f + 1) =
    .topGet (fun t => match t with
      | none => .pure ()
      | some tok => (S.parseExprTok f tok).bind (afterExpr f)) := by
  rw [S.topLoop]
  simp only [bind, pure, S.topGet, SProg.bind]
  congr 1

/-- one turn of the `ParsingIter` loop: where it comes to rest … -/
theorem suspendA_topLoop_succ (f : Nat) (v : View) :
    suspendA (S.topLoop (f + 1)) v = match topGetA v.exprs v.fin v.runes v.core with
      | .tok t v1 => suspendA ((S.parseExprTok f t).bind (afterExpr f)) v1
      | .finished .done v1 => some (true, S.topLoop (f + 1), v1)
      | .finished .more v1 => some (false, S.topLoop (f + 1), v1)
      | .finished .err _ => none := by
  rw [topLoop_succ_eq]
  conv => lhs; unfold suspendA
  cases topGetA v.exprs v.fin v.runes v.core with
  | tok t v1 => rfl
  | finished st v1 => cases st <;> rfl

/-- … and what it does -/
theorem runA_topLoop_succ (f : Nat) (v : View) :
    runA (S.topLoop (f + 1)).erase v = match topGetA v.exprs v.fin v.runes v.core with
      | .tok t v1 => runA ((S.parseExprTok f t).bind (afterExpr f)).erase v1
      | .finished .done v1 => (.ret (), v1)
      | .finished st v1 => (.stop st, v1) := by
  rw [topLoop_succ_eq]
  conv => lhs; unfold SProg.erase runA
  cases topGetA v.exprs v.fin v.runes v.core with
  | tok t v1 => rfl
  | finished st v1 => cases st <;> rfl

theorem S_topLoop_le_succ (f : Nat) : SProg.le (S.topLoop f) (S.topLoop (f + 1)) := by
  induction f with
  | zero => exact .fail _
  | succ n ih =>
    rw [topLoop_succ_eq, topLoop_succ_eq]
    refine .topGet _ _ fun t => ?_
    cases t with
    | none => exact .pure ()
    | some tok => exact SProg.le_bind ((parAll n).1 tok).le fun e => .pushExpr e _ _ ih

theorem S_topLoop_le (f g : Nat) (h : f ≤ g) : SProg.le (S.topLoop f) (S.topLoop g) := by
  induction h with
  | refl => exact SProg.le_refl _
  | step _ ih => exact SProg.le_trans ih (S_topLoop_le_succ _)

/-- The only outcome of the model that fuel can cause is the error (`fail` at
fuel 0; there is no separate timeout outcome); a parse that does not end in an error is the same
parse with any larger fuel — same outcome, same final state. -/
theorem run_fuel_mono (f g : Nat) (h : f ≤ g) (s : PState) (hne : (run (topLoop f) s).1 ≠ .stop .err) :
    run (topLoop g) s = run (topLoop f) s := by
  rw [← erase_topLoop] at hne
  rw [← erase_topLoop, ← erase_topLoop]
  exact run_le (S_topLoop_le f g h) s hne

theorem SProg.noTop.wt {α : Type} {p : SProg α} (hp : p.noTop) {w} (hw : p.wt? = some w) :
    w.atEnd = none ∧ ∀ t ts x, w.next t ts = some x → x.1.noTop := by
  cases hp with
  | peekAt n k hk =>
    cases hw
    refine ⟨rfl, fun t ts x hn => ?_⟩
    dsimp only at hn
    split at hn
    · cases hn; exact hk _
    · cases hn
  | _ => cases hw <;> exact ⟨rfl, fun t ts x hn => by cases hn; apply_assumption⟩

theorem noTop_suspendA {α : Type} {p : SProg α} (hp : p.noTop) (v : View) (e : Bool) (κ : SProg α) (v' : View)
    (h : suspendA p v = some (e, κ, v')) : e = false ∧ κ.noTop := by
  induction p using SProg.wt_induction generalizing v with
  | pure a => cases h
  | fail => cases h
  | wait p w hw ih _ =>
    obtain ⟨hat, hnx⟩ := hp.wt hw
    rw [suspendA_wt hw] at h
    cases hq : peekWaitA w.orEnd w.extra v.exprs v.fin v.runes v.core with
    | tok t v1 =>
      simp only [hq] at h
      cases hn : w.next t v1.core.tokens with
      | none => simp [hn] at h
      | some x => simp only [hn] at h; exact ih t _ x.1 x.2 hn (hnx _ _ _ hn) _ h
    | stop st v1 =>
      cases st <;> simp only [hq, Option.some.injEq, Prod.mk.injEq, reduceCtorEq] at h
      obtain ⟨rfl, rfl, _⟩ := h
      exact ⟨by simp [Wt.ended, hat], hp⟩
  | pushTok t k ih => cases hp with | pushTok _ _ hk => exact ih hk _ h
  | pushExpr e' k ih => cases hp with | pushExpr _ _ hk => exact ih hk _ h

/-- The programs `PSt.parseTokens` runs: the `ParsingIter` loop at some fuel, or an expression parser
(which never asks the top level) followed by the rest of the loop. -/
inductive TL (F : Nat) : SProg Unit → Prop
  | top (f : Nat) (h : f ≤ F) : TL F (S.topLoop f)
  | inner (f : Nat) (h : f + 1 ≤ F) (P : SProg Sexp) (hP : P.noTop) : TL F (P.bind (afterExpr f))

/-- where `Q` can come to rest: at a top level that answered `done`, in a `topLoop (f + 1)` within the fuel `F`; in a
blocked yield, in a program of `TL F` again; and if it does not rest, it failed -/
def SLfor (F : Nat) (Q : SProg Unit) : Prop := ∀ v : View,
  (∀ κ v', suspendA Q v = some (true, κ, v') → ∃ f, f + 1 ≤ F ∧ κ = S.topLoop (f + 1)) ∧
  (∀ κ v', suspendA Q v = some (false, κ, v') → TL F κ) ∧
  (suspendA Q v = none → (runA Q.erase v).1 = .stop .err)

theorem SL_inner (F f : Nat) (hle : f + 1 ≤ F) (ihtop : SLfor F (S.topLoop f)) (P : SProg Sexp) (hP : P.noTop) :
    SLfor F (P.bind (afterExpr f)) := by
  intro v
  rw [suspendA_bind, SProg.erase_bind, runA_bind]
  cases hs : suspendA P v with
  | some x =>
    obtain ⟨e, κ0, v0⟩ := x
    obtain ⟨rfl, hκ⟩ := noTop_suspendA hP v e κ0 v0 hs
    refine ⟨?_, ?_, ?_⟩
    · intro κ v' h; simp at h
    · intro κ v' h
      simp only [Option.some.injEq, Prod.mk.injEq, true_and] at h
      obtain ⟨rfl, _⟩ := h
      exact .inner f hle κ0 hκ
    · intro h; simp at h
  | none =>
    simp only
    cases hr : runA P.erase v with
    | mk r v1 =>
      cases r with
      | ret a =>
        simp only [afterExpr, suspendA, SProg.erase, runA]
        exact ihtop _
      | stop st =>
        have hst := suspendA_none_stop P v hs st (by rw [hr])
        subst hst
        refine ⟨?_, ?_, ?_⟩
        · intro κ v' h; simp at h
        · intro κ v' h; simp at h
        · intro _; rfl

theorem SL_top (F : Nat) : ∀ f, f ≤ F → SLfor F (S.topLoop f) := by
  intro f
  induction f with
  | zero =>
    intro _ v
    rw [S.topLoop]
    simp [S.fail, suspendA, SProg.erase, runA]
  | succ f ih =>
    intro hle v
    rw [suspendA_topLoop_succ, runA_topLoop_succ]
    cases topGetA v.exprs v.fin v.runes v.core with
    | tok t v1 => exact SL_inner F f hle (ih (by omega)) (S.parseExprTok f t) ((parAll f).1 t).noTop v1
    | finished st v1 =>
      cases st with
      | done => exact ⟨fun κ v' h => by cases h; exact ⟨f, hle, rfl⟩, fun κ v' h => (nomatch h), fun h => (nomatch h)⟩
      | more => exact ⟨fun κ v' h => (nomatch h), fun κ v' h => by cases h; exact .top (f + 1) hle, fun h => (nomatch h)⟩
      | err => exact ⟨fun κ v' h => (nomatch h), fun κ v' h => (nomatch h), fun _ => rfl⟩

theorem SL_of_TL (F : Nat) (Q : SProg Unit) (h : TL F Q) : SLfor F Q := by
  cases h with
  | top f hle => exact SL_top F f hle
  | inner f hle P hP => exact SL_inner F f hle (SL_top F f (by omega)) P hP

/-- the program the next `ParseTokens` call runs -/
def progOf (F : Nat) : Option Co → SProg Unit
  | some (.waiting κ) => κ
  | _ => S.topLoop F

def statusOf : Fin Unit → Status
  | .ret _ => .done
  | .stop st => st

end ZygoVerif.Parser
