/-
Lemmas for C14: HashSet and HashDelete are each ONE store of a new bucket at the code of their key,
plus bookkeeping (`set_eq`, `del_eq`); how `get?` (HashGetDefault) sees them follows from the bucket.
-/
import ZygoVerif.Proofs.HashBasic
namespace ZygoVerif.Hash
variable {K V : Type} {o : KeyOps K}

theorem get?_eq (h : Hash K V) (k : K) : get? o h k = bfind o (bkt h.map (o.code k)) k := by
  unfold get? bkt
  cases mget h.map (o.code k) <;> rfl

/-- The three arms of HashSet (no bucket, key found, key new) are one: the bucket of the key's
code, a missing one read as empty, goes through `bset`; KeyOrder and NumKeys grow exactly when
the key did not resolve. -/
theorem set_eq (h : Hash K V) (k : K) (v : V) :
    set o h k v =
      { map := mstore h.map (o.code k) (bset o (bkt h.map (o.code k)) k v)
        keyOrder := if (get? o h k).isSome then h.keyOrder else h.keyOrder ++ [k]
        numKeys := if (get? o h k).isSome then h.numKeys else h.numKeys + 1 } := by
  have hst : ∀ b, mstore h.map (o.code k) (bset o b k v) = mput h.map (o.code k) (bset o b k v) :=
    fun b => if_neg (by simpa using bset_ne_nil b k v)
  rw [hst, get?_eq, ← any_eq_bfind_isSome]
  unfold bkt
  cases hm : mget h.map (o.code k) with
  | none => simp only [set, hm]; rfl
  | some b =>
    cases ha : b.any (fun e => o.keq e.1 k) <;> simp only [set, hm, bset, Option.getD_some, ha] <;> rfl

/-- HashDelete (after fixes/C14-01) touches the state only when the key resolves, and then stores
its bucket with the first matching pair erased. -/
theorem del_eq (h : Hash K V) (k : K) :
    del o h k =
      if (get? o h k).isSome then
        { map := mstore h.map (o.code k) ((bkt h.map (o.code k)).eraseP (fun e => o.keq e.1 k))
          keyOrder := koRemove o h.keyOrder k
          numKeys := h.numKeys - 1 }
      else h := by
  rw [get?_eq]
  unfold bkt mstore
  cases hm : mget h.map (o.code k) with
  | none => simp only [del, hm]; rfl
  | some b =>
    cases hs : (bfind o b k).isSome <;> simp only [del, hm, bremove_eq, Option.getD_some, hs] <;> rfl

theorem set_keyOrder (h : Hash K V) (k : K) (v : V) :
    (set o h k v).keyOrder = if (get? o h k).isSome then h.keyOrder else h.keyOrder ++ [k] := by
  rw [set_eq]

theorem del_keyOrder (h : Hash K V) (k : K) :
    (del o h k).keyOrder = if (get? o h k).isSome then koRemove o h.keyOrder k else h.keyOrder := by
  rw [del_eq]; split <;> rfl

theorem del_missing (h : Hash K V) (k : K) (hn : get? o h k = none) : del o h k = h := by
  rw [del_eq, hn]; rfl

variable (L : KeyLaws o)
include L

theorem code_ne_keq_false {k k' : K} (h : o.code k' ≠ o.code k) : o.keq k k' = false := by
  cases hk : o.keq k k'
  · rfl
  · exact absurd (L.code_congr _ _ hk).symm h

theorem get?_congr (h : Hash K V) {k k' : K} (hk : o.keq k k' = true) : get? o h k = get? o h k' := by
  rw [get?_eq, get?_eq, L.code_congr _ _ hk]
  exact bfind_congr L _ hk

/-- what `get?` finds after a store at the code of `k`, when the new bucket answers as `r` says -/
theorem get?_mstore (h h2 : Hash K V) (k k' : K) (b' : Bucket K V) (r : Option V)
    (e : h2.map = mstore h.map (o.code k) b')
    (hb : bfind o b' k' = if o.keq k k' then r else bfind o (bkt h.map (o.code k)) k') :
    get? o h2 k' = if o.keq k k' then r else get? o h k' := by
  rw [get?_eq, get?_eq, e, bkt_mstore]
  by_cases hc : o.code k' = o.code k
  · rw [if_pos hc, hb, hc]
  · rw [if_neg hc, code_ne_keq_false L hc]; rfl

/-- HashSet then HashGetDefault: the key (in any spelling) now has the new value, every other
key is unchanged. No invariant needed. -/
theorem get?_set (h : Hash K V) (k k' : K) (v : V) :
    get? o (set o h k v) k' = if o.keq k k' then some v else get? o h k' :=
  get?_mstore L h _ k k' _ _ (by rw [set_eq]) (bfind_bset L _ k k' v)

/-- HashDelete then HashGetDefault: the key (in any spelling) is gone, every other key is
unchanged — provided the buckets hold pairwise different keys. -/
theorem get?_del (h : Hash K V) (k k' : K)
    (pw : ∀ c b, mget h.map c = some b → b.Pairwise (fun e f => o.keq e.1 f.1 = false)) :
    get? o (del o h k) k' = if o.keq k k' then none else get? o h k' := by
  rw [del_eq]
  cases hs : (get? o h k).isSome
  · rw [if_neg Bool.false_ne_true]
    cases hk : o.keq k k'
    · rfl
    · rw [← get?_congr L h hk]; simpa using hs
  · exact get?_mstore L h _ k k' _ _ rfl
      (bfind_erase L _ k k' (bkt_all _ _ List.Pairwise.nil (pw _)))

end ZygoVerif.Hash
