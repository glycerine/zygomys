/-
`map` never swallows an error (C05, "errors are never swallowed into a successful result"):
on the VM model, the outcome of `map` over a list / an array is, element by element, the outcome
of the callback, from every state, for every callback and fuel: the two equations below. That
the first failing application IS the outcome of the whole `map` is read off them in
`Props/C05.lean`.
-/
import ZygoVerif.Proofs.SimMachine
namespace ZygoVerif.VM
open ZygoVerif.Core

/-- one element of `MapList`: the callback's fault is handed on unchanged, with the state the
callback left; otherwise the rest of the list decides -/
theorem mapList_cons_run (n : Nat) (f a b : Val) (s : St) :
    (mapList (n+1) f (.pair a b)).run s =
      match (applyFn n f [a]).run s with
      | (.ok v, s1) =>
        (match (mapList n f b).run s1 with
         | (.ok t, s2) => (.ok (.pair v t), s2)
         | (.error e, s2) => (.error e, s2))
      | (.error e, s1) => (.error e, s1) := by
  rw [mapList]
  simp only [Sim.run_bind, Sim.run_pure]
  rcases (applyFn n f [a]).run s with ⟨_ | v, s1⟩
  · rfl
  · dsimp only
    rcases (mapList n f b).run s1 with ⟨_ | t, s2⟩ <;> rfl

/-- one element of `MapArray` (`i < n`): the callback's fault is handed on unchanged; otherwise
the remaining elements decide -/
theorem mapArr_step_run (k : Nat) (f : Val) (r i n : Nat) (hi : ¬ i ≥ n) (s : St) :
    (mapArr (k+1) f r i n).run s =
      match (applyFn k f [(s.heap.get r).getD i .nil]).run s with
      | (.ok v, s1) =>
        (match (mapArr k f r (i + 1) n).run s1 with
         | (.ok vs, s2) => (.ok (v :: vs), s2)
         | (.error e, s2) => (.error e, s2))
      | (.error e, s1) => (.error e, s1) := by
  rw [mapArr]
  simp only [hi, if_false, Sim.run_bind, Sim.run_get, Sim.run_pure]
  rcases (applyFn k f [(s.heap.get r).getD i .nil]).run s with ⟨_ | v, s1⟩
  · rfl
  · dsimp only
    rcases (mapArr k f r (i + 1) n).run s1 with ⟨_ | vs, s2⟩ <;> rfl

end ZygoVerif.VM
