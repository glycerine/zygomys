/-
The walk over the successful runs of the eight `compile*` functions of
Model/Gen.lean (`balLWalk`, on `GenWalk`) for the whole core grammar (`okL`): loops, break/continue,
function templates, self tail calls. See Proofs/GenBalancedLoopGen.lean for the shapes of the conclusions;
that loop ids are fresh and the flag only falls is read off `Sim.factsWalk`.
-/
import ZygoVerif.Proofs.GenBalancedLoopGen
namespace ZygoVerif.Bal
open ZygoVerif.VM ZygoVerif.Core
open ZygoVerif.Sim (forGs forDone forCode)

theorem res_atom (c : Ctx) (gs : GS) (i : Instr) (he : ∀ T, eff (toB T i) = .simple 0 1) :
    Res gs gs (fun T => FragE c gs T [i]) :=
  Res.pure (fun T d Γ σ hinv => by simpa [B] using efrag_push Γ (toB T i) σ hinv.wf (he T))

theorem GSok.alloc {gs : GS} (h : GSok gs) (isFn : Nat → Bool) (name : String) (ps : List String) (rest : Option String) :
    GSok (allocGs isFn gs name ps rest) := h

theorem params_len (ps : List String) (rest : Option String) :
    (ps ++ rest.toList).length = ps.length + (if rest.isSome then 1 else 0) := by
  cases rest <;> simp

theorem selfOK_body (isFn : Nat → Bool) (c : Ctx) (gs : GS) (name : String) (ps : List String) (rest : Option String)
    (selfTail : Bool) :
    SelfOK (bodyCtx c gs name selfTail) (allocGs isFn gs name ps rest) (fnEnv gs.loops.length ps.length rest.isSome) := by
  cases selfTail with
  | false => left; exact anonLike_empty
  | true =>
    by_cases hn : name.isEmpty = true
    · left
      simp only [bodyCtx, if_true, tmplName, hn]
      exact anonLike_gen _
    · right
      refine ⟨gs.fns.length, tmplOf isFn gs name ps rest, ?_, ?_, ?_⟩
      · simp [bodyCtx, tmplName, hn]
      · simp [allocGs]
      · intro F A h
        exact h.2.2

/-- the body of a template, compiled in the template's own context, makes the template a
verified function; templates nested in the body are verified too -/
theorem template_res (isFn : Nat → Bool) (c : Ctx) (gs g2 : GS) (name : String) (ps : List String) (rest : Option String)
    (selfTail : Bool) (body : List Expr) (b : List Instr) (hne : body ≠ []) (hgs : GSok gs)
    (hids : idsIn b gs.loops.length g2.loops.length)
    (ih : Res (allocGs isFn gs name ps rest) g2
      (fun T => body ≠ [] → FragE (bodyCtx c gs name selfTail) (allocGs isFn gs name ps rest) T b)) :
    Res gs (finishGs gs.fns.length b g2) (fun _ => True) := by
  refine ⟨Ext.finish ih.ext, fun T hT => ⟨?_, trivial⟩⟩
  have hT' : TOk (allocGs isFn gs name ps rest) g2 T := hT
  obtain ⟨hf2, hfr⟩ := ih.sem T hT'
  intro i f hi hf
  by_cases hit : i = gs.fns.length
  · subst hit
    rw [finishGs_get_self ih.ext] at hf
    cases hf
    refine fn_verified T _ gs.fns.length gs.loops.length g2.loops.length b rfl (params_len ps rest) hids ?_
    have hinv : GInv 1 (bodyCtx c gs name selfTail) (allocGs isFn gs name ps rest)
        (fnEnv gs.loops.length ps.length rest.isSome) T ⟨1, [], 0⟩ := by
      refine ⟨wf_flat _ _, rfl, fun F A h => h.1, fun m hm => by simp [openMarks] at hm, ?_, ?_⟩
      · intro id hid
        right
        intro F A h
        exact h.2.1 id (hgs id hid)
      · intro _
        exact ⟨rfl, rfl, rfl, selfOK_body isFn c gs name ps rest selfTail⟩
    exact hfr hne 1 _ _ hinv
  · rw [finishGs_get_ne (Ne.symm hit)] at hf
    refine hf2 i f ?_ hf
    simp only [allocGs, List.length_append, List.length_cons, List.length_nil]
    omega

/-- the self tail call, from its operands: the guard, the operands inline, the tail sequence, and
behind the jump the ordinary call the guard skips to -/
theorem res_selfcall {c : Ctx} {gs gs' : GS} {hd : String} {args : List Expr} {argcode : List Instr}
    (hnanon : anonLike hd = false) (htail : c.tail = true) (hname : hd = c.funcname)
    (harity : Sim.arityOk (Sim.knownFn c gs hd) args.length = true)
    (hres : Res gs gs' (fun T => FragS { c with tail := false } gs T argcode args.length)) :
    Res gs gs' (fun T => FragE c gs T (Sim.tailCode hd c.scopes args argcode)) := by
  unfold Sim.tailCode
  refine hres.mono (fun T _ hf d Γ σ hinv => ?_)
  obtain ⟨hfr, hb, hd1, hso⟩ := hinv.tail htail
  rcases hso with hanon | ⟨t0, fo, hl, hget, hside⟩
  · rw [← hname, hnanon] at hanon; cases hanon
  · have a := hf d Γ σ hinv.off
    unfold Sim.knownFn at harity
    rw [hname, hl] at harity
    simp only [Option.bind_some, hget, Sim.arityOk] at harity
    have har : if fo.varargs then fo.nargs ≤ args.length else args.length = fo.nargs := by
      cases hv : fo.varargs with
      | true => rw [hv] at harity; simpa using harity
      | false => rw [hv] at harity; simpa using harity
    have hk : σ.k = c.scopes + 1 := by have := hinv.k; omega
    -- operands and tail sequence: from σ, nothing falls through; annotated σ behind the jump
    have tc := efrag_tailcall Γ T hd args.length c.scopes σ fo hinv.wf hfr hb hk hside har σ hinv.wf
    have x := sfrag_seq_e a tc
    have hlen : ((B T argcode ++ B T ([Instr.prepareCall hd args.length] ++
        List.replicate (c.scopes + 1) Instr.removeScope ++ [Instr.goto 0])).length : Int)
        + 1 = ((argcode.length + c.scopes + 4 : Nat) : Int) := by
      simp only [List.length_append, B_length, List.length_cons, List.length_nil, List.length_replicate]
      push_cast; omega
    have g := efrag_guard_skip (Γ := Γ) ((argcode.length + c.scopes + 4 : Nat) : Int) hlen.symm hinv.wf x
    have call := efrag_push Γ (.callExpr args.length) σ hinv.wf rfl
    have := efrag_seq g call
    simpa [B, toB, List.append_assoc] using this

theorem res_for {c : Ctx} {gs g2 g3 g4 g5 : GS} {label : Option String} {body : List Expr} {b i t s : List Instr} (hgs : GSok gs)
    (hbnil : body = [] → b = [])
    (Rb : Res (forGs gs c label) g2 (fun T => body ≠ [] → FragE { c with tail := false, scopes := c.scopes + 1 } (forGs gs c label) T b))
    (Ri : Res g2 g3 (fun T => FragE { c with tail := false, scopes := c.scopes + 1 } g2 T i))
    (Rt : Res g3 g4 (fun T => FragE { c with tail := false, scopes := c.scopes + 1 } g3 T t))
    (Rs : Res g4 g5 (fun T => FragE { c with tail := false, scopes := c.scopes + 1 } g4 T s)) :
    Res gs (forDone g5 gs.loops.length (Sim.forOffs gs.loops.length i t s b).1 (Sim.forOffs gs.loops.length i t s b).2)
      (fun T => FragE c gs T (forCode gs.loops.length i t s b)) := by
  have e25 := ((Rb.ext.trans Ri.ext).trans Rt.ext).trans Rs.ext
  have hlenA := Sim.forGs_len gs c label
  have hlen5 := Sim.forDone_len g5 gs.loops.length (Sim.forOffs gs.loops.length i t s b).1 (Sim.forOffs gs.loops.length i t s b).2
  refine ⟨Ext.for_ e25, fun T hT => ?_⟩
  have l5 := e25.loops_len
  rw [hlenA] at l5
  have hT5 : TOk (forGs gs c label) g5 T := by
    intro l hlo hhi
    rw [hlenA] at hlo
    rw [hT l (by omega) (by rw [hlen5]; exact hhi), forDone_getD_ne (by omega)]
  obtain ⟨hf, ⟨⟨pb, pi⟩, pt⟩, ps⟩ := (((Rb.seq Ri).seq Rt).seq Rs).sem T hT5
  have hTl := hT gs.loops.length (Nat.le_refl _) (by rw [hlen5]; omega)
  obtain ⟨hbo, hco⟩ := forDone_getD_self (brk := (Sim.forOffs gs.loops.length i t s b).1)
    (cont := (Sim.forOffs gs.loops.length i t s b).2) e25
  refine ⟨hf, frag_forCode c gs hgs label T i t s b g2 g3 g4 Rb.ext Ri.ext Rt.ext
    ⟨by rw [hTl]; exact hbo, by rw [hTl]; exact hco⟩ ?_ pi pt ps⟩
  by_cases hbe : body = []
  · left; exact hbnil hbe
  · right; exact pb hbe

theorem off_of_flag {t ct : Bool} (h : t = true → ct = true) (hc : ct = false) : t = false := by
  cases t
  · rfl
  · rw [h rfl] at hc; cases hc

/-- Under `GInv` the code of every form of the covered grammar is a fragment from `σ` to `σ` + one value, and every template
allocated on the way is a verified function: as a walk. The states in between are related by the `Ext` of the parts. -/
@[reducible] def balLWalk (isFn : Nat → Bool) : GenWalk isFn where
  E c e gs a _ g' := okL e = true → GSok gs → Res gs g' (fun T => FragE c gs T a)
  A c es gs a _ g' := okLs es = true → GSok gs → c.tail = false → Res gs g' (fun T => FragS c gs T a es.length)
  C c _ _ args gs a g' := okLs args = true → GSok gs → c.tail = false → Res gs g' (fun T => FragS c gs T a args.length)
  B c es gs a _ g' := okLs es = true → GSok gs → Res gs g' (fun T => es ≠ [] → FragE c gs T a)
  R c arms gs as g' := okLArms arms = true → GSok gs → Res gs g' (fun T => ∀ a ∈ as, ∀ d Γ σ, GInv d c gs Γ T σ →
    ExprFrag Γ (B T a.1) σ (bump σ 1) ∧ ExprFrag Γ (B T a.2) σ (bump σ 1))
  S c es gs cs g' := okLs es = true → GSok gs →
    Res gs g' (fun T => ∀ x ∈ cs, ∀ d Γ σ, GInv d c gs Γ T σ → ExprFrag Γ (B T x) σ (bump σ 1))
  L c seq bs gs a _ g' := okLBinds bs = true → GSok gs → c.tail = false →
    Res gs g' (fun T => FragS c gs T a (if seq then 0 else bs.length))
  N c ot es gs a _ g' := okLs es = true → es ≠ [] → GSok gs →
    Res gs g' (fun T => ∀ d Γ σ, GInv d { c with tail := ot } gs Γ T σ → ExprFrag Γ (B T a) σ (bump σ 1))
  int _ _ _ := res_atom _ _ _ (fun _ => rfl)
  bool _ _ _ := res_atom _ _ _ (fun _ => rfl)
  str _ _ _ := res_atom _ _ _ (fun _ => rfl)
  nil _ _ := res_atom _ _ _ (fun _ => rfl)
  sym _ _ _ := res_atom _ _ _ (fun _ => rfl)
  arr _ ih hok hgs := (ih hok hgs rfl).mono (fun T _ hf d Γ σ hinv => efrag_arr hinv.wf (hf d Γ σ hinv.off))
  call _ _ _ _ := res_atom _ _ _ (fun _ => rfl)
  selfCall _ htail hname harity _ ih hok hgs :=
    res_selfcall (okL_call_sym hok).1 htail hname harity (ih (okL_call_sym hok).2 hgs rfl)
  beginNil _ _ := res_atom _ _ _ (fun _ => rfl)
  begin_ _ ih hok hgs := (ih hok hgs).mono (fun T _ hf => hf (by simp))
  def_ _ _ ih hok hgs := (ih hok hgs).mono (fun T _ hf d Γ σ hinv => efrag_store _ rfl hinv.wf (hf d Γ σ hinv.off))
  set_ _ _ ih hok hgs := (ih hok hgs).mono (fun T _ hf d Γ σ hinv => efrag_store _ rfl hinv.wf (hf d Γ σ hinv.off))
  cond _ ihd _ iha hok hgs :=
    have hok := Bool.and_eq_true_iff.mp hok
    have Rd := ihd hok.2 hgs
    (Rd.seq (iha hok.1 (hgs.ext Rd.ext))).mono (fun T _ hf d Γ σ hinv =>
      bal_asmCond Γ T σ (bump σ 1) hinv.wf _ (hf.1 d Γ σ hinv) _ (fun a hm => hf.2 a hm d Γ σ (hinv.ext Rd.ext hgs)))
  and_ _ ih hok hgs := (ih hok hgs).mono (fun T _ hf d Γ σ hinv =>
    bal_asmSC Γ T false σ hinv.wf _ (fun y hy => hf y hy d Γ σ hinv))
  or_ _ ih hok hgs := (ih hok hgs).mono (fun T _ hf d Γ σ hinv =>
    bal_asmSC Γ T true σ hinv.wf _ (fun y hy => hf y hy d Γ σ hinv))
  let_ _ _ _ ihr _ ihb hok hgs :=
    have hok := okL_let hok
    have Rr := ihr hok.1 hgs rfl
    (Rr.seq (ihb hok.2.2 (hgs.ext Rr.ext))).mono (fun T _ hf d Γ σ hinv =>
      efrag_let hinv.wf (hf.1 d Γ _ hinv.deeper.off) (hf.2 hok.2.1 d Γ _ (hinv.deeper.ext Rr.ext hgs)))
  newScopeNil _ _ := res_atom _ _ _ (fun _ => rfl)
  newScope _ ih hok hgs := (ih hok (by simp) hgs).mono (fun T _ hf d Γ σ hinv => efrag_scope hinv.wf (hf d Γ _ hinv.deeper))
  for_ c _ label hb ihb _ ihi _ iht _ ihs hok hgs := by
    obtain ⟨hoi, hot, hos, hob⟩ := okL_for hok
    have hgA := hgs.for_ c label
    have Rb := ihb hob hgA
    have Ri := ihi hoi (hgA.ext Rb.ext)
    have Rt := iht hot ((hgA.ext Rb.ext).ext Ri.ext)
    have Rs := ihs hos (((hgA.ext Rb.ext).ext Ri.ext).ext Rt.ext)
    refine res_for hgs (fun hbe => ?_) Rb Ri Rt Rs
    subst hbe
    rw [Sim.compileBegin_nil_run] at hb
    cases hb
    rfl
  break_ hf _ _ := Res.pure (fun T => frag_exitLoop _ _ T _ true (findLoop_mem hf))
  continue_ hf _ _ := Res.pure (fun T => frag_exitLoop _ _ T _ false (findLoop_mem hf))
  fn c gs ps rest hb ih hok hgs :=
    have hok := okL_body hok
    (template_res isFn c gs _ "" ps rest true _ _ hok.1 hgs ((Sim.factsWalk isFn).of_compileBegin _ hb).2.2.ids
      (ih hok.2 (hgs.alloc isFn "" ps rest))).mono (fun T _ _ d Γ σ hinv => efrag_push Γ _ σ hinv.wf rfl)
  defn c gs name ps rest hb ih hok hgs :=
    have hok := okL_body hok
    (template_res isFn c gs _ name ps rest _ _ _ hok.1 hgs ((Sim.factsWalk isFn).of_compileBegin _ hb).2.2.ids
      (ih hok.2 (hgs.alloc isFn name ps rest))).mono (fun T _ _ d Γ σ hinv => efrag_defn _ name hinv.wf)
  assign _ iha _ ihb hok hgs :=
    have hok := Bool.and_eq_true_iff.mp hok
    have Ra := iha hok.1 hgs
    (Ra.seq (ihb hok.2 (hgs.ext Ra.ext))).mono (fun T _ hf d Γ σ hinv =>
      efrag_assign hinv.wf (hf.1 d Γ σ hinv.off) (hf.2 d Γ _ ((hinv.off.ext Ra.ext hgs).bump rfl 1)))
  allNil _ _ _ := Res.pure (fun T d Γ σ _ => sfrag_nil')
  allCons ha iha _ ihb hok hgs hc :=
    have hok := Bool.and_eq_true_iff.mp hok
    have hta := off_of_flag ((Sim.factsWalk isFn).of_compile _ ha).2.1 hc
    have Ra := iha hok.1 hgs
    (Ra.seq (ihb hok.2 (hgs.ext Ra.ext) hta)).mono (fun T _ hf d Γ σ hinv =>
      sfrag_cons (hf.1 d Γ σ hinv) (hf.2 d Γ _ (((hinv.ext Ra.ext hgs).bump hc 1).flag _ hta)))
  argsNil _ _ _ := Res.pure (fun T d Γ σ _ => sfrag_nil')
  argsLazy _ _ ih hok hgs hc :=
    ((res_atom _ _ _ (fun _ => rfl)).seq (ih (Bool.and_eq_true_iff.mp hok).2 hgs hc)).mono (fun T _ hf d Γ σ hinv =>
      sfrag_cons (hf.1 d Γ σ hinv) (hf.2 d Γ _ (hinv.bump hc 1)))
  argsCons _ iha _ ihb hok hgs hc :=
    have hok := Bool.and_eq_true_iff.mp hok
    have Ra := iha hok.1 hgs
    (Ra.seq (ihb hok.2 (hgs.ext Ra.ext) hc)).mono (fun T _ hf d Γ σ hinv =>
      sfrag_cons (hf.1 d Γ σ hinv) (hf.2 d Γ _ ((hinv.ext Ra.ext hgs).bump hc 1)))
  beginNilL _ _ := Res.pure (fun T hne => absurd rfl hne)
  beginOne _ ih hok hgs := (ih (Bool.and_eq_true_iff.mp hok).1 hgs).mono (fun T _ hf _ => hf)
  beginCons _ _ iha _ ihb hok hgs :=
    have hok := Bool.and_eq_true_iff.mp hok
    have Ra := iha hok.1 hgs
    (Ra.seq (ihb hok.2 (hgs.ext Ra.ext))).mono (fun T _ hf _ d Γ σ hinv =>
      (efrag_stmts hinv.wf (hf.1 d Γ σ hinv.off) (hf.2 (by simp) d Γ σ (hinv.ext Ra.ext hgs))).1)
  armsNil _ _ := Res.pure (fun T a ha => nomatch ha)
  armsCons _ ihr _ ihp _ ihb hok hgs := by
    have hok := Bool.and_eq_true_iff.mp hok
    have hok1 := Bool.and_eq_true_iff.mp hok.1
    have Rr := ihr hok.2 hgs
    have Rp := ihp hok1.1 (hgs.ext Rr.ext)
    have Rb := ihb hok1.2 ((hgs.ext Rr.ext).ext Rp.ext)
    refine ((Rr.seq Rp).seq Rb).mono (fun T _ hf a ha d Γ σ hinv => ?_)
    obtain ⟨⟨hr, hp⟩, hb⟩ := hf
    rcases List.mem_cons.mp ha with rfl | ha
    · exact ⟨hp d Γ σ (hinv.off.ext Rr.ext hgs), hb d Γ σ (hinv.ext (Rr.ext.trans Rp.ext) hgs)⟩
    · exact hr a ha d Γ σ hinv
  scNil _ _ := Res.pure (fun T x hx => nomatch hx)
  scOne _ ih hok hgs := (ih (Bool.and_eq_true_iff.mp hok).1 hgs).mono (fun T _ hf x hx d Γ σ hinv => by
    rw [List.mem_singleton.mp hx]; exact hf d Γ σ hinv)
  scCons _ ihr _ iha hok hgs := by
    have hok := Bool.and_eq_true_iff.mp hok
    have Rr := ihr hok.2 hgs
    refine (Rr.seq (iha hok.1 (hgs.ext Rr.ext))).mono (fun T _ hf x hx d Γ σ hinv => ?_)
    rcases List.mem_cons.mp hx with rfl | hx
    · exact hf.2 d Γ σ (hinv.off.ext Rr.ext hgs)
    · exact hf.1 x hx d Γ σ hinv
  bindsNil _ _ _ := Res.pure (fun T d Γ σ _ => by simp only [List.length_nil, ite_self]; exact sfrag_nil')
  bindsCons seq x ha iha _ ihb hok hgs hc := by
    have hok := Bool.and_eq_true_iff.mp hok
    have hta := off_of_flag ((Sim.factsWalk isFn).of_compile _ ha).2.1 hc
    have Ra := iha hok.1 hgs
    refine (Ra.seq (ihb hok.2 (hgs.ext Ra.ext) hta)).mono (fun T _ hf d Γ σ hinv => ?_)
    cases seq with
    | true => exact sfrag_bind x hinv.wf (hf.1 d Γ σ hinv) (hf.2 d Γ σ ((hinv.ext Ra.ext hgs).flag _ hta))
    | false => simpa using sfrag_cons (hf.1 d Γ σ hinv) (hf.2 d Γ _ (((hinv.ext Ra.ext hgs).bump hc 1).flag _ hta))
  nsNil _ hne _ := absurd rfl hne
  nsOne _ ih hok _ hgs := ih (Bool.and_eq_true_iff.mp hok).1 hgs
  nsCons _ iha _ ihb hok _ hgs :=
    have hok := Bool.and_eq_true_iff.mp hok
    have Ra := iha hok.1 hgs
    (Ra.seq (ihb hok.2 (by simp) (hgs.ext Ra.ext))).mono (fun T _ hf d Γ σ hinv =>
      (efrag_stmts hinv.wf (hf.1 d Γ σ hinv.off) (hf.2 d Γ σ (hinv.ext Ra.ext hgs))).2)

theorem balL_compile (isFn : Nat → Bool) : ∀ (e : Expr) (c : Ctx) (gs : GS) (code : List Instr) (t : Bool) (gs' : GS),
    okL e = true → GSok gs → compile isFn c e gs = Except.ok ((code, t), gs') →
    (c.tail = false → t = false) ∧ idsIn code gs.loops.length gs'.loops.length ∧
      Res gs gs' (fun T => FragE c gs T code) :=
  fun e _ _ _ _ _ hok hgs h =>
    have w := (Sim.factsWalk isFn).of_compile e h
    ⟨off_of_flag w.2.1, w.2.2.ids, (balLWalk isFn).of_compile e h hok hgs⟩

theorem balL_compileAll (isFn : Nat → Bool) : ∀ (es : List Expr) (c : Ctx) (gs : GS) (code : List Instr) (t : Bool) (gs' : GS),
    okLs es = true → GSok gs → c.tail = false → compileAll isFn c es gs = Except.ok ((code, t), gs') →
    t = false ∧ idsIn code gs.loops.length gs'.loops.length ∧ Res gs gs' (fun T => FragS c gs T code es.length) :=
  fun es _ _ _ _ _ hok hgs hc h =>
    have w := (Sim.factsWalk isFn).of_compileAll es h
    ⟨off_of_flag w.1 hc, w.2.ids, (balLWalk isFn).of_compileAll es h hok hgs hc⟩

theorem balL_compileCallArgs (isFn : Nat → Bool) : ∀ (args : List Expr) (c : Ctx) (f : Option FnObj) (i : Nat) (gs : GS)
    (code : List Instr) (gs' : GS),
    okLs args = true → GSok gs → c.tail = false → compileCallArgs isFn c f i args gs = Except.ok (code, gs') →
    idsIn code gs.loops.length gs'.loops.length ∧ Res gs gs' (fun T => FragS c gs T code args.length) :=
  fun args _ _ _ _ _ _ hok hgs hc h =>
    ⟨((Sim.factsWalk isFn).of_compileCallArgs args h).ids, (balLWalk isFn).of_compileCallArgs args h hok hgs hc⟩

theorem balL_compileBegin (isFn : Nat → Bool) : ∀ (es : List Expr) (c : Ctx) (gs : GS) (code : List Instr) (t : Bool) (gs' : GS),
    okLs es = true → GSok gs → compileBegin isFn c es gs = Except.ok ((code, t), gs') →
    (c.tail = false → t = false) ∧ idsIn code gs.loops.length gs'.loops.length ∧ (es = [] → code = []) ∧
      Res gs gs' (fun T => es ≠ [] → FragE c gs T code) :=
  fun es _ _ _ _ _ hok hgs h =>
    have w := (Sim.factsWalk isFn).of_compileBegin es h
    ⟨off_of_flag w.2.1, w.2.2.ids, fun he => by subst he; cases Sim.compileBegin_nil_run.symm.trans h; rfl,
      (balLWalk isFn).of_compileBegin es h hok hgs⟩

/-- the context of a top-level text: loop ids occur once; loops allocated before the text
(`< N`; their `for` forms are not in this text) do not occur -/
def topEnv (N : Nat) : Env :=
  { loops := [], side := fun F _ => LoopsUnique F.code ∧ ∀ l, l < N → loopPos F.code l = none }

/-- a text starts at rest: no scope of its own, nothing on the stack, every loop on the compile-time stack older than the text -/
theorem ginv_top {gs : GS} (hgs : GSok gs) (T : List LoopRec) : GInv 0 {} gs (topEnv gs.loops.length) T restState :=
  ⟨by decide, rfl, fun _ _ h => h.1, fun m hm => by simp [restState, openMarks] at hm,
   fun id hid => .inr (fun _ _ h => h.2 id (hgs id hid)), fun ht => by cases ht⟩

/-- The generator emits balanced code (all forms): the top-level code of a text of the covered
grammar is verified, and so is every function template the generator allocates on the way
(bodies of `fn`/`defn` at any nesting depth), for every loop table `T` that agrees with the
records of the loops allocated while compiling the text. -/
theorem program_verified (isFn : Nat → Bool) (es : List Expr) (gs gs' : GS) (code : List Instr) (t : Bool)
    (T : List LoopRec) (hok : okLs es = true) (hgs : GSok gs) (hT : TOk gs gs' T)
    (h : compileBegin isFn {} es gs = Except.ok ((code, t), gs')) :
    (∃ ann, verify { kind := .top, code := B T code } ann = true) ∧ FnsOK gs gs' T := by
  obtain ⟨_, ids, hnil, R⟩ := balL_compileBegin isFn es {} gs code t gs' hok hgs h
  obtain ⟨hf, hfr⟩ := R.sem T hT
  refine ⟨?_, hf⟩
  by_cases hne : es = []
  · have := hnil hne
    subst this
    exact ⟨[some restState], by simp only [B, List.map_nil]; decide⟩
  · obtain ⟨mid, hfrag⟩ := hfr hne 0 (topEnv gs.loops.length) restState (ginv_top hgs T)
    exact ⟨_, verify_of_frag_top (topEnv gs.loops.length) (B T code) mid hfrag
      ⟨loops_of_idsIn (lids_B T code) ids, fun i hi => by cases hi⟩⟩

theorem TOk.self (gs gs' : GS) : TOk gs gs' gs'.loops := fun _ _ _ => rfl

end ZygoVerif.Bal
