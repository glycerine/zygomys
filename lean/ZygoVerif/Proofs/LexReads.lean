/-
The relation in which what the lexer model is fed is stated: `Reads P l w ts Q` — from every state that satisfies `P`
and whose last rune was `l`, feeding the text `w` succeeds, appends exactly the tokens `ts` to the queue and ends in a
state that satisfies `Q`. `P` and `Q` speak of the mode and of the fields that mode reads (`Norm` here, `OpAhead` in
Proofs/LexNormal, `LitAt` in Proofs/LexLiterals, `Pend.Holds` in Proofs/LexSpacingSteps); the queue is framed (any
queue before, the same queue followed by `ts` after) and the look-back ring takes care of itself (`feed_ring`: after
`w` the last rune is `lastOf l w`). Texts compose by `Reads.trans`. The statements about `Lex` are read off at the
last step (`Reads.lex`).

Not in this form: the inside of string and character literals (Proofs/LexString). There the lexer never consults the
ring, so those lemmas are stated from EVERY state in the mode, without `RingOK` and the last rune (`InLit s mode b T →
∃ s', feed … ∧ InLit s' …`) — which is what `C12.escapes_inverse` asks for and more than a `Reads`
statement gives; `reads_of_inLit` (Proofs/LexLiterals) carries them into `Reads`. A new literal kind is stated with
`Reads (LitAt …)` directly. A new MODE of the lexer also needs its case in `framed_stepMode` (Proofs/LexTokens), on
which `feed_ring` rests.
-/
import ZygoVerif.Proofs.LexRing
namespace ZygoVerif.Lexer

def Reads (P : LexCore → Prop) (l : Char) (w : List Char) (ts : List Token) (Q : LexCore → Prop) : Prop :=
  ∀ s, P s → RingOK s → lastRune s = l → ∃ s', feed (.ok s) w = .ok s' ∧ Q s' ∧ s'.tokens = s.tokens ++ ts

theorem Reads.nil (P : LexCore → Prop) (l : Char) : Reads P l [] [] P :=
  fun s h _ _ => ⟨s, rfl, h, (List.append_nil _).symm⟩

theorem Reads.trans {P Q R : LexCore → Prop} {l : Char} {w w' : List Char} {ts ts' : List Token}
    (h1 : Reads P l w ts Q) (h2 : Reads Q (lastOf l w) w' ts' R) : Reads P l (w ++ w') (ts ++ ts') R := by
  intro s hs hr hl
  obtain ⟨s1, hf1, hq, ht1⟩ := h1 s hs hr hl
  obtain ⟨hr1, hl1⟩ := feed_ring s s1 w hf1 hr
  obtain ⟨s2, hf2, hq2, ht2⟩ := h2 s1 hq hr1 (by rw [hl1, hl])
  exact ⟨s2, by rw [feed_append, hf1, hf2], hq2, by rw [ht2, ht1, List.append_assoc]⟩

theorem Reads.cons {P Q R : LexCore → Prop} {l r : Char} {w : List Char} {ts ts' : List Token}
    (h1 : Reads P l [r] ts Q) (h2 : Reads Q r w ts' R) : Reads P l (r :: w) (ts ++ ts') R :=
  Reads.trans h1 h2

theorem Reads.trans_snoc {P Q R : LexCore → Prop} {l c : Char} {w w' : List Char} {ts ts' : List Token}
    (h1 : Reads P l (w ++ [c]) ts Q) (h2 : Reads Q c w' ts' R) : Reads P l ((w ++ [c]) ++ w') (ts ++ ts') R :=
  Reads.trans h1 (by rwa [lastOf_append_singleton])

/-- one rune: the equation of `stepMode` on the state with the rune pushed, where the rune before it is `l`. `P` is
assumed of `s`, the equation speaks of `pushRing s r`: the two differ in the ring only, so what `P` says of the mode and
the buffer holds of `pushRing s r` by `rfl` (the `have hst : (pushRing s r).state = … := hs.1` of every user). -/
theorem Reads.step {P Q : LexCore → Prop} {l r : Char} {ts : List Token}
    (h : ∀ s, P s → twoback (pushRing s r) = l →
      ∃ s', stepMode (pushRing s r) r = .ok s' ∧ Q s' ∧ s'.tokens = s.tokens ++ ts) : Reads P l [r] ts Q := by
  intro s hs hr hl
  obtain ⟨s', hst, hq, ht⟩ := h s hs (by rw [twoback_pushRing s r hr, hl])
  exact ⟨s', by rw [feed_ok_cons, step_def, hst]; rfl, hq, ht⟩

def Norm (b : List Char) (s : LexCore) : Prop := s.state = .normal ∧ s.buffer = b

theorem Reads.lex {b b' : List Char} {l : Char} {w : List Char} {ts : List Token} (h : Reads (Norm b) l w ts (Norm b'))
    (T : List Token) : Lex ⟨.normal, b, T, l⟩ w ⟨.normal, b', T ++ ts, lastOf l w⟩ := by
  intro s hs
  obtain ⟨s', hf, hq, ht⟩ := h s ⟨hs.state, hs.buffer⟩ hs.ring hs.last
  obtain ⟨hr, hl⟩ := feed_ring s s' w hf hs.ring
  exact ⟨s', hf, hq.1, hq.2, by rw [ht, hs.tokens], hr, by rw [hl, hs.last]⟩

end ZygoVerif.Lexer
