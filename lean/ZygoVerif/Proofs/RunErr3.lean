/-
Texts that end in an error, and texts that cannot panic.

`RunInv.runText_out` (Proofs/RunMain.lean) read for an interpreter that satisfies the invariants and has no nil
cell on its stacks (`ServedN`): an erroring text leaves it so; a text that returns a value leaves it so; no text
ends in a host panic.
-/
import ZygoVerif.Proofs.RunMain
namespace ZygoVerif.RunInv
open ZygoVerif.Core ZygoVerif.VM ZygoVerif.Bal ZygoVerif.Refine ZygoVerif.Sim ZygoVerif.Contain


structure ServedN (s : St) : Prop where
  served : Served s
  nonil : NoNil s

/-- **No text of the grammar ends in a host panic**, and one that returns a value leaves no
nil cell. -/
theorem runText_nn (fuel : Nat) (es : List Expr) (s : St) (hs : ServedN s) (hok : okLs es = true) :
    (∀ v tr d s' alive, runText fuel es s ≠ (Outcome.done "panic" v tr d, s', alive)) ∧
    (∀ v tr d s' alive, runText fuel es s = (Outcome.done "ok" v tr d, s', alive) → NoNil s') :=
  ⟨fun _ _ _ _ _ h => (runText_out fuel es s hs.served hok h).2.2 rfl hs.nonil,
    fun _ _ _ _ _ h => ((runText_out fuel es s hs.served hok h).1 rfl).2 hs.nonil⟩

theorem runText_okN (fuel : Nat) (es : List Expr) (s s' : St) (v : String) (tr : List String) (d : String) (alive : Bool)
    (hs : ServedN s) (hok : okLs es = true) (h : runText fuel es s = (Outcome.done "ok" v tr d, s', alive)) : ServedN s' :=
  ⟨runText_ok fuel es s s' v tr d alive hs.served hok h, (runText_nn fuel es s hs hok).2 v tr d s' alive h⟩

/-- **A text of the grammar that ends in an error leaves the interpreter `ServedN`**: the invariants
hold, it is at rest (`Served.rest`), no nil cell. Both ends being at rest, the stacks are those of entry
(`C04.served_same_stacks`, Props/C04Err.lean); that `Run` restores them exactly at the fault is in `run_loaded` (`Rested`). -/
theorem runText_errN (fuel : Nat) (es : List Expr) (s s' : St) (v : String) (tr : List String) (d : String) (alive : Bool)
    (hs : ServedN s) (hok : okLs es = true) (h : runText fuel es s = (Outcome.done "err" v tr d, s', alive)) : ServedN s' :=
  let ⟨h1, h2⟩ := (runText_out fuel es s hs.served hok h).2.1 rfl hs.nonil
  ⟨h1, h2⟩

end ZygoVerif.RunInv
