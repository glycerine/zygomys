/-
C02, execution half — F2 with `break`/`continue`: the segment lemma, program texts.
-/
import ZygoVerif.Proofs.SimF2Ind
import ZygoVerif.Proofs.SimF2Top
namespace ZygoVerif.Sim
open ZygoVerif.Core ZygoVerif.VM

theorem xclaims (n : Nat) : XClaimE n ∧ XClaimB n ∧ XClaimC n ∧ XClaimF n := by
  obtain ⟨_, _, _, _, _, _, _, _, _, _, _, _, _, h1, h2, h3, h4, _⟩ := fclaims n
  exact ⟨h1, h2, h3, h4⟩

theorem segment_Fx_begin (ls : List (Option String)) (self : String) (es : List Expr) (hne : es ≠ []) (he : FxList ls self es = true)
    (isFn : Nat → Bool) (c : Ctx) (hfn : FnameOk self c) (gs : GS) (r : (List Instr × Bool) × GS)
    (hc : (compileBegin isFn c es).run gs = .ok r) (Γ : List LCtx) (hls : Γ.map (·.label) = ls) (hg : GsOk Γ gs)
    (m : Nat → Nat) (s : St) (rs : Ref.St) (env : Nat)
    (pre post : List Instr) (hrel : RelF m s rs env) (hgen : GenOk gs r.2 s) (hctx : CtxF Γ c.scopes s rs)
    (_hlf : LoopsFinal r.2 s) (hlo : LsOut pre gs.loops.length r.2.loops.length) (hseg : Seg s pre r.1.1 post)
    (n : Nat) : SimX r.1.1 Γ m s rs env (Ref.evalBegin n es env rs) :=
  (xclaims n).2.1 ls self Γ hls es hne he isFn c gs r hc hfn m s rs env pre post hrel ⟨hg, hgen, hctx, hlo⟩ hseg

/-- the program texts of F2 with loops that `break`/`continue` -/
def FxTop (p : List Expr) : Bool := FxList [] "" p

/-- **A non-empty program text of F2 with `break`/`continue`, loaded and run** from a resting
top-level state related to the reference state: `runText` reports what the reference evaluator yields. -/
theorem runText_Fx (m : Nat → Nat) (s : St) (rs : Ref.St) (p : List Expr) (hne : p ≠ []) (hp : FxTop p = true)
    (hs : AtRest s) (hlin : s.linear = [some 0]) (hstack : s.loopstack = [])
    (hold : ∀ l, Instr.loopStart l ∈ (fnOf s mainFn).code → l < s.loops.length)
    (hrel : RelF m s rs 0) (n : Nat) :
    ∃ N, ∀ fuel, N ≤ fuel → TextOut (runText fuel p s) (Ref.evalBegin n p 0 { rs with trace := [] }) := by
  have hg0 : GsOk [] s.gs := gsOk_nil hstack
  obtain ⟨code, t, gs', hc, -⟩ := compileBegin_total_Fx [] "" p hne hp (isFnScope s) {}
    s.gs [] (Or.inl rfl) hg0 rfl
  exact runText_of_sim m s rs p hs hlin hrel n hc (fun hrelL hgen hseg => simF_of_simX_nil
    (segment_Fx_begin [] "" p hne hp _ {} (Or.inl rfl) _ ((code, t), gs') hc [] rfl hg0 m _ _ 0 _ [] hrelL hgen
      (fun _ h => by cases h) ⟨Nat.le_refl _, fun id _ _ => rfl⟩ (fun l hl => Or.inl (hold l hl)) hseg n))

end ZygoVerif.Sim
