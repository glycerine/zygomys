/-
Property C16: the decision points of the call machinery and `force`.
Definitions that the theorems of `Props/C16.lean` are stated with (`prepPlan`, `Step`/`Reach`,
`applyWrap`; `lazyPos`, `allocThunk`, `forceEntry` stand in `Proofs/VMBody.lean`) and the lemmas
several of those theorems share. Everything is about the executable model `Model/VM.lean` / `Model/Gen.lean`; the
whole-machine invariant comes from `Proofs/Lazy.lean`.
-/
import ZygoVerif.Proofs.Lazy
import ZygoVerif.Proofs.VMBody
import ZygoVerif.Proofs.GenClauses
namespace ZygoVerif.C16
open ZygoVerif.Core ZygoVerif.VM

/-- What `prepareArgs` does, argument by argument, written without the fuel bookkeeping of
the recursion: a lazy position allocates a thunk and runs nothing; a strict position runs
`evalCallExpr` on its expression exactly once and pushes the value. `fuel` is the fuel left
for the last argument. -/
def prepPlan (fuel : Nat) (f : Option FnObj) : Nat → List Expr → M Unit
  | _, [] => pure ()
  | i, e :: es => do
    (if lazyPos f i then modify (allocThunk e)
     else do let v ← evalCallExpr (fuel + es.length) e; pushData v)
    prepPlan fuel f (i + 1) es

/-- every position lazy: the call preparation is a fold of `allocThunk` — no instruction of any
argument expression runs, for any number of arguments. -/
theorem prepPlan_all_lazy (fuel : Nat) (f : Option FnObj) :
    ∀ (args : List Expr) (i : Nat) (s : St), (∀ j, j < args.length → lazyPos f (i + j) = true) →
      runM (prepPlan fuel f i args) s = (.ok (), args.foldl (fun s e => allocThunk e s) s) := by
  intro args
  induction args with
  | nil => intro i s _; rfl
  | cons e es ih =>
    intro i s h
    have h0 : lazyPos f i = true := by simpa using h 0 (by simp)
    simp only [prepPlan, h0, if_true, runM_bind, runM_modify, List.foldl_cons]
    apply ih
    intro j hj
    have := h (j + 1) (by simp; omega)
    rwa [show i + (j + 1) = i + 1 + j by omega] at this

/-- a fold of `allocThunk` appends one thunk per expression, each over the scope stack and the
function of the start, and leaves trace, scopes, functions and heap alone -/
theorem allocThunk_fold_frame (args : List Expr) : ∀ (s : St),
    let s' := args.foldl (fun s e => allocThunk e s) s
    s'.trace = s.trace ∧ s'.scopes = s.scopes ∧ s'.fns = s.fns ∧ s'.heap = s.heap ∧
    s'.lazies = s.lazies ++ args.map (fun e => ({ e, stack := s.linear, curfunc := s.curfunc, value := none } : LazyObj)) := by
  induction args with
  | nil => intro s; simp
  | cons e es ih =>
    intro s
    obtain ⟨h1, h2, h3, h4, h5⟩ := ih (allocThunk e s)
    exact ⟨h1, h2, h3, h4, by rw [List.foldl_cons, h5]; simp [allocThunk]⟩

theorem force_stores_value (fuel id : Nat) (s s' : St) (v : Val)
    (h : runM (forceLazy fuel id) s = (.ok v, s')) :
    ∃ lz', s'.lazies[id]? = some lz' ∧ lz'.value = some v := by
  cases fuel with
  | zero => rw [forceLazy.eq_1] at h; cases h
  | succ fuel =>
    exact (forceLazy_table fuel id (fun f st s => ((allPres fuel).2.2.2.2.1 f st s).h) h).2 v rfl

theorem runText_ext (fuel : Nat) (es : List Expr) (s : St) : LExt s.lazies (runText fuel es s).2.1.lazies :=
  lext_respects.runText (fun _ _ s => (runGen_pres LExt.pre _ s).h) (fun _ _ _ => LExt.refl _) fuel es s

/-- One complete activity of the machine: an instruction, a run of the loop, a call, an
`apply`, a builtin, a force, the evaluation of a callee/argument expression, or a whole
program text handed to the interpreter. -/
inductive Step : St → St → Prop
  | exec (fuel : Nat) (i : Instr) (s : St) : Step s (runM (exec fuel i) s).2
  | run (fuel : Nat) (s : St) : Step s (runM (run fuel) s).2
  | runLoop (fuel : Nat) (st : CtlState) (s : St) : Step s (runM (runLoop fuel st) s).2
  | evalCallExpr (fuel : Nat) (e : Expr) (s : St) : Step s (runM (evalCallExpr fuel e) s).2
  | callResolved (fuel : Nat) (f : Val) (args : List Expr) (s : St) : Step s (runM (callResolved fuel f args) s).2
  | callUser (fuel : Nat) (name : String) (n : Nat) (s : St) : Step s (runM (callUser fuel name n) s).2
  | builtin (fuel : Nat) (name : String) (args : List Val) (s : St) : Step s (runM (builtin fuel name args) s).2
  | applyFn (fuel : Nat) (f : Val) (args : List Val) (s : St) : Step s (runM (applyFn fuel f args) s).2
  | forceLazy (fuel : Nat) (id : Nat) (s : St) : Step s (runM (forceLazy fuel id) s).2
  | text (fuel : Nat) (es : List Expr) (s : St) : Step s (runText fuel es s).2.1

/-- Any sequence of such activities, successful or not. -/
inductive Reach : St → St → Prop
  | refl (s : St) : Reach s s
  | step {s s1 s2 : St} : Reach s s1 → Step s1 s2 → Reach s s2

theorem step_ext {s s' : St} (h : Step s s') : LExt s.lazies s'.lazies := by
  cases h with
  | exec fuel i => exact ((allPres fuel).2.2.1 i s).h
  | run fuel => exact ((allPres fuel).1 s).h
  | runLoop fuel st => exact ((allPres fuel).2.1 st s).h
  | evalCallExpr fuel e => exact ((allPres fuel).2.2.2.1 e s).h
  | callResolved fuel f args => exact ((allPres fuel).2.2.2.2.2.2.1 f args s).h
  | callUser fuel name n => exact ((allPres fuel).2.2.2.2.2.2.2.1 name n s).h
  | builtin fuel name args => exact ((allPres fuel).2.2.2.2.2.2.2.2.1 name args s).h
  | applyFn fuel f args => exact ((allPres fuel).2.2.2.2.2.2.2.2.2.1 f args s).h
  | forceLazy fuel id => exact ((allPres fuel).2.2.2.2.2.2.2.2.2.2.2.2 id s).h
  | text fuel es => exact runText_ext fuel es s

theorem reach_ext {s s' : St} (h : Reach s s') : LExt s.lazies s'.lazies := by
  induction h with
  | refl => exact LExt.refl _
  | step _ hs ih => exact LExt.trans ih (step_ext hs)

/-- **At most once.** After one successful force, every later force of the same thunk — after
any further activity of the machine, in the same evaluation or in a later program text —
returns the same value and changes nothing: no instruction runs, the trace stays. -/
theorem force_at_most_once (f1 f2 id : Nat) (s s1 s2 : St) (v : Val)
    (h1 : runM (forceLazy f1 id) s = (.ok v, s1)) (hr : Reach s1 s2) :
    runM (forceLazy (f2 + 1) id) s2 = (.ok v, s2) := by
  obtain ⟨lz1, e1, v1⟩ := force_stores_value f1 id s s1 v h1
  obtain ⟨lz2, e2, le⟩ := reach_ext hr id lz1 e1
  exact forceLazy_memo f2 id s2 lz2 v e2 (le.2.2.2.2 v v1)

/-- **Force evaluates in the caller's environment.** Forcing a thunk without a value compiles
its expression and runs it (`nested`) in a state whose scope stack is *the thunk's captured
stack* — the scope stack of the call site — inside a fresh function whose captured scopes are
that same stack and whose parent is the function the call site belonged to. Where the force
happens (the current scope stack of the forcing code) plays no role: it is set aside. -/
theorem force_runs_in_entry_state (fuel id : Nat) (s s1 : St) (lz : LazyObj) (code : List Instr) (t : Bool)
    (hlz : s.lazies[id]? = some lz) (hv : lz.value = none)
    (hgen : runM (runGen (compile (isFnScope s) {} lz.e)) s = (.ok (code, t), s1))
    (hne : code.isEmpty = false) :
    runM (forceLazy (fuel + 1) id) s =
      runM (nested fuel s1.fns.length (ctlOf s1) >>= forceFinish id lz) (forceEntry lz code s1) := by
  rw [show runM _ s = _ from forceLazy_miss fuel id s lz hlz hv, show (runGen _).run s = _ from hgen]
  exact if_neg (by rw [hne]; exact Bool.false_ne_true)

/-- …and the first thing `nested` does there: enter the fresh function at instruction 0. -/
theorem force_body_state (lz : LazyObj) (code : List Instr) (s1 : St) :
    ∃ s2, runM (callFunction s1.fns.length 0) (forceEntry lz code s1) = (.ok (), s2) ∧
      s2.linear = lz.stack ∧ s2.curfunc = s1.fns.length ∧ s2.pc = 0 ∧
      (fnOf s2 s2.curfunc).closing = lz.stack ∧ (fnOf s2 s2.curfunc).parent = some lz.curfunc ∧
      (fnOf s2 s2.curfunc).code = code ++ [.ret] ∧
      s2.scopes = s1.scopes ∧ s2.trace = s1.trace ∧ s2.lazies = s1.lazies := by
  have hfn : fnOf (forceEntry lz code s1) s1.fns.length =
      ({ name := "lazyArgForce", code := code ++ [.ret], closing := lz.stack, parent := some lz.curfunc } : FnObj) := by
    simp [fnOf, forceEntry]
  refine ⟨{ forceEntry lz code s1 with
              addr := some ((forceEntry lz code s1).curfunc, (forceEntry lz code s1).pc + 1) :: (forceEntry lz code s1).addr,
              curfunc := s1.fns.length, pc := 0 }, ?_, ?_⟩
  · rw [show runM _ _ = _ from run_callFunction _ 0 _]
    simp [callRes, hfn, St.enter]
  · simp [fnOf, forceEntry]

/-- a symbol in head position is looked up when the call executes: an alias or a parameter
bound to a function resolves to that function's object -/
theorem evalCallExpr_sym (fuel : Nat) (x : String) (s : St) :
    runM (evalCallExpr (fuel + 1) (.sym x)) s =
      match lexLookup s x with
      | some (_, v) => (.ok v, s)
      | none => (.error .err, s) :=
  run_evalCallExpr_sym fuel x s

theorem callResolved_builtin (fuel : Nat) (name : String) (args : List Expr) (s : St) :
    runM (callResolved (fuel + 1) (.builtin name) args) s =
      match runM (do prepareArgs fuel none 0 args; callUser fuel name args.length : M Unit) s with
      | (.ok u, s') => (.ok u, s')
      | (.error .err, s') => (.error .err, { s' with data := truncate s'.data s.data.length })
      | (.error flt, s') => (.error flt, s') := by
  rw [show runM _ s = _ from run_callResolved fuel (.builtin name) args s]
  show guardTail s.data.length (runM (do prepareArgs fuel none 0 args; callUser fuel name args.length : M Unit) s) = _
  rcases runM (do prepareArgs fuel none 0 args; callUser fuel name args.length : M Unit) s with ⟨(_ | _ | _) | u, s'⟩ <;> rfl

/-- a call by name (function, alias, parameter — the generator cannot tell) is one
`CallExprInstr` unless it is a self call in tail position -/
theorem compile_call_by_name (isFn : Nat → Bool) (c : Ctx) (h : String) (args : List Expr)
    (hn : (c.tail && h == c.funcname) = false) :
    compile isFn c (.call (.sym h) args) = pure ([.callExpr (.sym h) args], c.tail) :=
  funext fun gs => (Sim.compile_call_eq isFn c h args gs).trans (if_neg fun hc => by rw [hn] at hc; exact Bool.false_ne_true hc.1)

/-- `Apply`'s loop body (the model's local `wrap`): a lazy position receives a thunk that
already holds the value; a strict position receives the value. -/
def applyWrap (fo : FnObj) : St × Nat → Val → St × Nat := fun x v =>
  if fo.isLazyCallArg x.2 then
    ({ x.1 with lazies := x.1.lazies ++ [({ e := .nilLit, stack := [], curfunc := 0, value := some v, isValue := true } : LazyObj)],
                data := some (.lazy x.1.lazies.length) :: x.1.data }, x.2 + 1)
  else ({ x.1 with data := some v :: x.1.data }, x.2 + 1)

/-- the `substitute` arm of `builtin` on a lazy argument; `run_substituteLazy` says what it does -/
theorem run_builtin_substitute (fuel id : Nat) (s : St) :
    runM (builtin (fuel + 1) "substitute" [.lazy id]) s = runM (substituteLazy id) s := by
  rw [builtin.eq_def]
  simp only []
  rw [if_neg (show ¬ "substitute" = "trace" by decide), if_neg (show ¬ "substitute" = "probe" by decide),
    if_neg (show ¬ "substitute" = "force" by decide), if_pos True.intro]
  rfl

/-- `substitute` on a thunk made from source: the expression as data; only the data heap may
grow (array literals of the source are allocated); no instruction runs: trace, scopes, stacks
and the thunk table (the thunk stays unforced) are untouched. -/
theorem substitute_returns_source (fuel id : Nat) (s : St) (lz : LazyObj)
    (h : s.lazies[id]? = some lz) (hv : lz.isValue = false) :
    runM (builtin (fuel + 1) "substitute" [.lazy id]) s =
      (.ok (quoteE lz.e s.heap).1, { s with heap := (quoteE lz.e s.heap).2 }) := by
  rw [run_builtin_substitute, show runM _ s = _ from run_substituteLazy id s, h]
  exact if_neg (by rw [hv]; exact Bool.false_ne_true)

/-- `substitute` on a thunk `apply`/`map` made from a value: that value -/
theorem substitute_of_value_thunk (fuel id : Nat) (s : St) (lz : LazyObj)
    (h : s.lazies[id]? = some lz) (hv : lz.isValue = true) :
    runM (builtin (fuel + 1) "substitute" [.lazy id]) s = (.ok (lz.value.getD .nil), s) := by
  rw [run_builtin_substitute, show runM _ s = _ from run_substituteLazy id s, h]
  exact if_pos hv

def prepOne (fuel : Nat) (f : Option FnObj) (i : Nat) (e : Expr) : M Unit :=
  if lazyPos f i then modify (allocThunk e)
  else do let v ← evalCallExpr fuel e; pushData v

theorem prepPlan_cons (fuel : Nat) (f : Option FnObj) (i : Nat) (e : Expr) (es : List Expr) :
    prepPlan fuel f i (e :: es) = (prepOne (fuel + es.length) f i e >>= fun _ => prepPlan fuel f (i + 1) es) := rfl

/-- the plan of a concatenation, by the associativity of `>>=`; the first part gets the fuel the second will use on top -/
theorem prepPlan_append (fuel : Nat) (f : Option FnObj) (rest : List Expr) : ∀ (pre : List Expr) (i : Nat),
    prepPlan fuel f i (pre ++ rest) =
      prepPlan (fuel + rest.length) f i pre >>= fun _ => prepPlan fuel f (i + pre.length) rest
  | [], _ => (pure_bind _ _).symm
  | a :: pre, i => by
    rw [List.cons_append, prepPlan_cons, prepPlan_cons, prepPlan_append fuel f rest pre (i + 1), bind_assoc,
      List.length_append, List.length_cons, Nat.add_right_comm i 1, Nat.add_comm pre.length, ← Nat.add_assoc fuel,
      Nat.add_assoc i]

/-- `LexicalLookupSymbol` as a function of the two things it reads besides the tables: the
scope stack and the current function. -/
def lexLookupAt (s : St) (lin : List (Option Nat)) (cur : Nat) (x : String) : Option (Nat × Val) :=
  match lookupUntilFn s x false lin with
  | some r => some r
  | none =>
    let f := fnOf s cur
    let second :=
      if f.parent.isSome then lookupChain s x (s.fns.length + 1) cur
      else lookupUntilFn s x false f.closing
    match second with
    | some r => some r
    | none => lookupUntilFn s x true lin

theorem lexLookup_eq_at (s : St) (x : String) : lexLookup s x = lexLookupAt s s.linear s.curfunc x := rfl

end ZygoVerif.C16
