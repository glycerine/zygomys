/-
C06 `lex_spacing`: `DecodeAtom` on the names of `Spec/Spacing.lean`. An identifier
(letter or `_`, then letters and digits; not one of the literal words; not ending in `ULL`) is
classified as a SYMBOL token with that name; a dotted path of identifiers (`h.a.b`, `.f`) as a
DOT-SYMBOL token. All their runes are plain (no meaning of their own in LexerNormal).
-/
import ZygoVerif.Proofs.DecodeAtom
import ZygoVerif.Proofs.LexNormal
import ZygoVerif.Spec.Spacing
namespace ZygoVerif.Lexer
open ZygoVerif.Spacing (isLetter isDigit isIdent)

def idc (c : Char) : Bool := isLetter c || isDigit c

/-- everything the cascade asks about one rune of a name -/
def idcGood (c : Char) : Bool :=
  !isSpecial c && symRest c && dotRest c && c != ':' && c != '.' && c != '#' && c != '?' && c != '&' && c != '\\' &&
  c != '\'' && !(['+', '-', '=', ':', '*', '<', '>', '/', '!', '&', '|'].contains c)

def letterGood (c : Char) : Bool :=
  idcGood c && symFirst c && dotFirst c && !isDig c && c != '0'

/-- The runes of names lie in `'0' … 'z'`; over that range the table is evaluated once, for both kinds of rune. -/
theorem name_rune_table : ∀ n, n < 75 →
    ((!idc (Char.ofNat (n + 48)) || idcGood (Char.ofNat (n + 48))) &&
     (!isLetter (Char.ofNat (n + 48)) || letterGood (Char.ofNat (n + 48)))) = true := by decide +kernel

theorem idc_range (c : Char) (h : idc c = true) : 48 ≤ c.toNat ∧ c.toNat < 123 := by
  simp only [idc, isLetter, isDigit, Bool.or_eq_true, Bool.and_eq_true, decide_eq_true_eq, beq_iff_eq] at h
  have e : 'a'.toNat = 97 ∧ 'z'.toNat = 122 ∧ 'A'.toNat = 65 ∧ 'Z'.toNat = 90 ∧ '0'.toNat = 48 ∧ '9'.toNat = 57 := by decide
  rcases h with ((h | h) | h) | h
  · have : 'a'.toNat ≤ c.toNat ∧ c.toNat ≤ 'z'.toNat := h
    omega
  · have : 'A'.toNat ≤ c.toNat ∧ c.toNat ≤ 'Z'.toNat := h
    omega
  · subst h; decide
  · have : '0'.toNat ≤ c.toNat ∧ c.toNat ≤ '9'.toNat := h
    omega

theorem name_rune (c : Char) (h : idc c = true) :
    idcGood c = true ∧ (isLetter c = true → letterGood c = true) := by
  obtain ⟨h1, h2⟩ := idc_range c h
  have := name_rune_table (c.toNat - 48) (by omega)
  rw [show c.toNat - 48 + 48 = c.toNat by omega, Char.ofNat_toNat, h] at this
  simp only [Bool.not_true, Bool.false_or, Bool.and_eq_true, Bool.or_eq_true, Bool.not_eq_true'] at this
  exact ⟨this.1, fun hl => this.2.resolve_left (by rw [hl]; exact Bool.noConfusion)⟩

theorem idc_good (c : Char) (h : idc c = true) : idcGood c = true := (name_rune c h).1

theorem letter_good (c : Char) (h : isLetter c = true) : letterGood c = true :=
  (name_rune c (by simp [idc, h])).2 h

theorem idc_facts (c : Char) (h : idc c = true) :
    isSpecial c = false ∧ symRest c = true ∧ dotRest c = true ∧ c ≠ ':' ∧ c ≠ '.' ∧ c ≠ '&' ∧ c ≠ '\\' ∧
    c ∉ ['+', '-', '=', ':', '*', '<', '>', '/', '!', '&', '|'] := by
  have := idc_good c h
  simp only [idcGood, Bool.and_eq_true, Bool.not_eq_true', bne_iff_ne, ne_eq] at this
  obtain ⟨⟨⟨⟨⟨⟨⟨⟨⟨⟨h1, h2⟩, h3⟩, h4⟩, h5⟩, _⟩, _⟩, h8⟩, h9⟩, _⟩, h11⟩ := this
  refine ⟨h1, h2, h3, h4, h5, h8, h9, ?_⟩
  intro hm
  have : (['+', '-', '=', ':', '*', '<', '>', '/', '!', '&', '|'].contains c) = true := by
    rw [List.contains_iff_mem]; exact hm
  rw [this] at h11; cases h11

theorem letter_facts (c : Char) (h : isLetter c = true) :
    symFirst c = true ∧ dotFirst c = true ∧ isDig c = false ∧ c ≠ '0' ∧ c ≠ '#' ∧ c ≠ '?' ∧ c ≠ '-' := by
  have := letter_good c h
  simp only [letterGood, idcGood, Bool.and_eq_true, Bool.not_eq_true', bne_iff_ne, ne_eq] at this
  obtain ⟨⟨⟨⟨hg, h1⟩, h2⟩, h3⟩, h4⟩ := this
  obtain ⟨⟨⟨⟨⟨⟨⟨⟨⟨⟨_, _⟩, _⟩, _⟩, _⟩, h6⟩, h7⟩, _⟩, _⟩, _⟩, h11⟩ := hg
  refine ⟨h1, h2, h3, h4, h6, h7, ?_⟩
  intro hm; subst hm; revert h11; decide

theorem decodeAtom_dotsym (a : List Char) (h0 : a.getLast? ≠ some ':') (h1 : a ≠ ['&']) (h2 : a ≠ ['\\'])
    (h3 : boolRe a = false) (h4 : uint64Re a = false) (h5 : decimalRe a = false) (h6 : hexRe a = false)
    (h7 : octRe a = false) (h8 : binaryRe a = false) (h9 : floatRe a = false)
    (h10 : (a == "NaN".toList || a == "nan".toList) = false) (h11 : infRe a = false) (h12 : dotSymbolRe a = true) :
    decodeAtom a = .ok ⟨.dotSymbol, a⟩ := by
  simp only [decodeAtom_cascade a h0 h1 h2, h3, h4, h5, h6, h7, h8, h9, h10, h11, h12, Bool.false_eq_true, ↓reduceIte]

theorem uint64Re_no_suffix (a : List Char) (h : (a.drop (a.length - 3) == "ULL".toList) = false) : uint64Re a = false := by
  unfold uint64Re
  have : stripSuffix? "ULL".toList a = none := by
    unfold stripSuffix?
    have h3 : "ULL".toList.length = 3 := by decide
    rw [h3]
    have hne : a.drop (a.length - 3) ≠ "ULL".toList := by
      intro he; rw [he] at h; simp at h
    rw [if_neg (fun hc => hne hc.2)]
  rw [this]

/-- a name text: not empty, all runes letters, digits or `.` -/
structure NameText (a : List Char) : Prop where
  ne : a ≠ []
  runes : ∀ c ∈ a, idc c = true ∨ c = '.'

theorem NameText.plain {a : List Char} (h : NameText a) : ∀ c ∈ a, isSpecial c = false := by
  intro c hc
  rcases h.runes c hc with h1 | rfl
  · exact (idc_facts c h1).1
  · decide

theorem NameText.dot_cons {a : List Char} (h : NameText a) : NameText ('.' :: a) :=
  ⟨by simp, fun x hx => by
    rw [List.mem_cons] at hx
    rcases hx with rfl | hx
    · exact Or.inr rfl
    · exact h.runes x hx⟩

theorem NameText.last_ne_colon {a : List Char} (h : NameText a) : a.getLast? ≠ some ':' := by
  intro hl
  rcases h.runes ':' (List.mem_of_getLast? hl) with h1 | h1
  · exact (idc_facts ':' h1).2.2.2.1 rfl
  · cases h1

theorem head_letter_rejects (c : Char) (r : List Char) (hc : isLetter c = true) :
    (c :: r) ≠ ['&'] ∧ (c :: r) ≠ ['\\'] ∧ decimalRe (c :: r) = false ∧ hexRe (c :: r) = false ∧ octRe (c :: r) = false ∧
    binaryRe (c :: r) = false ∧ floatRe (c :: r) = false ∧ builtinOpRe (c :: r) = false := by
  obtain ⟨_, _, g3, g4, _, _, g7⟩ := letter_facts c hc
  have hi : idc c = true := by simp [idc, hc]
  obtain ⟨_, _, _, _, f5, f6, f7, f8⟩ := idc_facts c hi
  obtain ⟨b1, b2, b3⟩ := based_head c r g4
  refine ⟨?_, ?_, decimalRe_head c r g3 g7, b1, b2, b3, floatRe_head c r g3 g7 f5, builtinOpRe_head c r f8⟩
  · intro h; simp only [List.cons.injEq] at h; exact f6 h.1
  · intro h; simp only [List.cons.injEq] at h; exact f7 h.1

theorem infRe_head (c : Char) (r : List Char) (h1 : c ≠ '-') (h2 : c ≠ '+') :
    infRe (c :: r) = ((c :: r) == "Inf".toList || (c :: r) == "inf".toList) := by
  unfold infRe
  split
  · rename_i heq; simp only [List.cons.injEq] at heq; exact absurd heq.1 h1
  · rename_i heq; simp only [List.cons.injEq] at heq; exact absurd heq.1 h2
  · rfl

/-- the cascade on a name text that starts with a letter and is none of the literal words: only `DotSymbolRegex`
and `SymbolRegex` are left to decide -/
theorem decodeAtom_letterHead (c : Char) (r : List Char) (hc : isLetter c = true) (hn : NameText (c :: r))
    (hr : (c :: r) ∉ Spacing.reservedWords) (hu : ((c :: r).drop ((c :: r).length - 3) == "ULL".toList) = false) :
    (dotSymbolRe (c :: r) = true → decodeAtom (c :: r) = .ok ⟨.dotSymbol, c :: r⟩) ∧
    (dotSymbolRe (c :: r) = false → symbolRe (c :: r) = true → decodeAtom (c :: r) = .ok ⟨.symbol, c :: r⟩) := by
  obtain ⟨_, _, _, _, _, _, g7⟩ := letter_facts c hc
  have hplus : c ≠ '+' := fun he => (idc_facts c (by simp [idc, hc])).2.2.2.2.2.2.2 (by rw [he]; simp)
  obtain ⟨r1, r2, r3, r4, r5, r6, r7, r8⟩ := head_letter_rejects c r hc
  simp only [Spacing.reservedWords, List.mem_cons, List.not_mem_nil, or_false, not_or] at hr
  obtain ⟨w1, w2, w3, w4, w5, w6⟩ := hr
  have hbool : boolRe (c :: r) = false := by
    simp only [boolRe, beq_eq_false_iff_ne.2 w1, beq_eq_false_iff_ne.2 w2, Bool.or_self]
  have hnan : ((c :: r) == "NaN".toList || (c :: r) == "nan".toList) = false := by
    simp only [beq_eq_false_iff_ne.2 w3, beq_eq_false_iff_ne.2 w4, Bool.or_self]
  have hinf : infRe (c :: r) = false := by
    rw [infRe_head c r g7 hplus]
    simp only [beq_eq_false_iff_ne.2 w5, beq_eq_false_iff_ne.2 w6, Bool.or_self]
  have hull := uint64Re_no_suffix _ hu
  exact ⟨fun hd => decodeAtom_dotsym _ hn.last_ne_colon r1 r2 hbool hull r3 r4 r5 r6 r7 hnan hinf hd,
    fun hd hs => by
      simp only [decodeAtom_cascade _ hn.last_ne_colon r1 r2, hbool, hull, r3, r4, r5, r6, r7, hnan, hinf, hd, r8, hs,
        Bool.false_eq_true, ↓reduceIte]⟩

theorem isIdent_cons (c : Char) (r : List Char) (h : isIdent (c :: r) = true) :
    isLetter c = true ∧ ∀ x ∈ r, idc x = true := by
  simp only [isIdent, Bool.and_eq_true, List.all_eq_true] at h
  exact ⟨h.1, fun x hx => by simpa [idc] using h.2 x hx⟩

theorem isIdent_nameText (w : List Char) (h : isIdent w = true) : NameText w := by
  cases w with
  | nil => simp [isIdent] at h
  | cons c r =>
    obtain ⟨h1, h2⟩ := isIdent_cons c r h
    refine ⟨by simp, ?_⟩
    intro x hx
    rw [List.mem_cons] at hx
    rcases hx with rfl | hx
    · left; simp [idc, h1]
    · exact Or.inl (h2 x hx)

theorem splitDots_no_dot (a : List Char) (h : ∀ c ∈ a, c ≠ '.') : splitDots a = [a] := by
  induction a with
  | nil => rfl
  | cons c r ih =>
    have hr := ih (fun x hx => h x (by simp [hx]))
    have hc : (c == '.') = false := by simpa using h c (by simp)
    simp [splitDots, hr, hc]

theorem ident_no_dot (w : List Char) (h : isIdent w = true) : ∀ c ∈ w, c ≠ '.' := by
  cases w with
  | nil => simp [isIdent] at h
  | cons c r =>
    obtain ⟨h1, h2⟩ := isIdent_cons c r h
    intro x hx
    rw [List.mem_cons] at hx
    rcases hx with rfl | hx
    · exact (idc_facts x (by simp [idc, h1])).2.2.2.2.1
    · exact (idc_facts x (h2 x hx)).2.2.2.2.1

theorem symbolRe_ident (w : List Char) (h : isIdent w = true) : symbolRe w = true := by
  cases w with
  | nil => simp [isIdent] at h
  | cons c r =>
    obtain ⟨h1, h2⟩ := isIdent_cons c r h
    obtain ⟨g1, _, _, _, g5, g6, _⟩ := letter_facts c h1
    have hlast : (r.getLast? == some ':') = false := by
      rw [beq_eq_false_iff_ne]
      intro hl
      exact (idc_facts ':' (h2 ':' (List.mem_of_getLast? hl))).2.2.2.1 rfl
    unfold symbolRe
    dsimp only
    split
    · rename_i heq
      split at heq
      · rename_i heq2; simp only [List.cons.injEq] at heq2; exact absurd heq2.1 g5
      · rename_i heq2; simp only [List.cons.injEq] at heq2; exact absurd heq2.1 g6
      · cases heq
    · rename_i c' r' heq
      split at heq
      · rename_i heq2; simp only [List.cons.injEq] at heq2; exact absurd heq2.1 g5
      · rename_i heq2; simp only [List.cons.injEq] at heq2; exact absurd heq2.1 g6
      · simp only [List.cons.injEq] at heq
        obtain ⟨rfl, rfl⟩ := heq
        simp only [g1, hlast, Bool.false_eq_true, ↓reduceIte, Bool.true_and, List.all_eq_true]
        intro x hx
        exact (idc_facts x (h2 x hx)).2.1

theorem decodeAtom_ident (w : List Char) (h : isIdent w = true)
    (hr : Spacing.reservedWords.contains w = false) (hu : (w.drop (w.length - 3) == "ULL".toList) = false) :
    decodeAtom w = .ok ⟨.symbol, w⟩ := by
  have hn := isIdent_nameText w h
  have hsym := symbolRe_ident w h
  have hdots := splitDots_no_dot w (ident_no_dot w h)
  have hres : w ∉ Spacing.reservedWords := fun hm => by rw [List.contains_iff_mem.2 hm] at hr; cases hr
  cases w with
  | nil => simp [isIdent] at h
  | cons c r =>
    obtain ⟨h1, _⟩ := isIdent_cons c r h
    refine (decodeAtom_letterHead c r h1 hn hres hu).2 ?_ hsym
    unfold dotSymbolRe
    have hne : ((c :: r) == ['.']) = false := by
      rw [beq_eq_false_iff_ne]; intro he
      simp only [List.cons.injEq] at he
      exact (idc_facts c (by simp [idc, h1])).2.2.2.2.1 he.1
    simp [hne, hdots]

open ZygoVerif.Spacing.Tok (dotted)

theorem splitDots_append_dot (s : List Char) (hs : ∀ c ∈ s, c ≠ '.') (rest : List Char) :
    splitDots (s ++ '.' :: rest) = s :: splitDots rest := by
  induction s with
  | nil =>
    cases hr : splitDots rest with
    | nil => exact absurd hr (splitDots_ne_nil rest)
    | cons seg segs => simp [splitDots, hr]
  | cons c r ih =>
    have hr := ih (fun x hx => hs x (by simp [hx]))
    have hc : (c == '.') = false := by simpa using hs c (by simp)
    simp [splitDots, hr, hc]

theorem splitDots_dotted (segs : List (List Char)) (hne : segs ≠ []) (hs : ∀ s ∈ segs, isIdent s = true) :
    splitDots (dotted segs) = segs := by
  induction segs with
  | nil => exact absurd rfl hne
  | cons s rest ih =>
    cases rest with
    | nil => simpa [dotted] using splitDots_no_dot s (ident_no_dot s (hs s (by simp)))
    | cons s2 rest2 =>
      have := ih (by simp) (fun x hx => hs x (by simp [hx]))
      simp only [dotted]
      rw [splitDots_append_dot s (ident_no_dot s (hs s (by simp))), this]

theorem dotSeg_ident (s : List Char) (h : isIdent s = true) : dotSeg s = true := by
  cases s with
  | nil => simp [isIdent] at h
  | cons c r =>
    obtain ⟨h1, h2⟩ := isIdent_cons c r h
    simp only [dotSeg, (letter_facts c h1).2.1, Bool.true_and, List.all_eq_true]
    intro x hx
    exact (idc_facts x (h2 x hx)).2.2.1

theorem dotted_nameText (segs : List (List Char)) (hne : segs ≠ []) (hs : ∀ s ∈ segs, isIdent s = true) :
    NameText (dotted segs) := by
  induction segs with
  | nil => exact absurd rfl hne
  | cons s rest ih =>
    have h1 := isIdent_nameText s (hs s (by simp))
    cases rest with
    | nil => simpa [dotted] using h1
    | cons s2 rest2 =>
      have h2 := ih (by simp) (fun x hx => hs x (by simp [hx]))
      refine ⟨by simp only [dotted]; intro h; exact h1.ne (List.append_eq_nil_iff.1 h).1, ?_⟩
      intro c hc
      simp only [dotted, List.mem_append, List.mem_cons] at hc
      rcases hc with hc | rfl | hc
      · exact h1.runes c hc
      · exact Or.inr rfl
      · exact h2.runes c hc

theorem dotted_head (segs : List (List Char)) (hne : segs ≠ []) (hs : ∀ s ∈ segs, isIdent s = true) :
    ∃ c r, dotted segs = c :: r ∧ isLetter c = true := by
  cases segs with
  | nil => exact absurd rfl hne
  | cons s rest =>
    have hi := hs s (by simp)
    cases s with
    | nil => simp [isIdent] at hi
    | cons c r =>
      obtain ⟨h1, _⟩ := isIdent_cons c r hi
      cases rest with
      | nil => exact ⟨c, r, rfl, h1⟩
      | cons s2 rest2 => exact ⟨c, r ++ '.' :: dotted (s2 :: rest2), rfl, h1⟩

theorem decodeAtom_path (segs : List (List Char)) (hlen : segs.length ≥ 2) (hs : ∀ s ∈ segs, isIdent s = true)
    (hu : ((dotted segs).drop ((dotted segs).length - 3) == "ULL".toList) = false) :
    decodeAtom (dotted segs) = .ok ⟨.dotSymbol, dotted segs⟩ := by
  have hne : segs ≠ [] := by intro h; rw [h] at hlen; simp at hlen
  have hn := dotted_nameText segs hne hs
  have hsplit := splitDots_dotted segs hne hs
  have hdot : '.' ∈ dotted segs := by
    match segs, hlen with
    | s :: s2 :: rest, _ => simp [dotted]
  have hres : dotted segs ∉ Spacing.reservedWords := by
    intro hm
    have := List.all_eq_true.1 (by decide +kernel : Spacing.reservedWords.all (fun w => !w.contains '.') = true) _ hm
    rw [List.contains_iff_mem.2 hdot] at this
    cases this
  obtain ⟨c, r, hcr, hc⟩ := dotted_head segs hne hs
  rw [hcr] at hn hres hu ⊢
  refine (decodeAtom_letterHead c r hc hn hres hu).1 ?_
  rw [← hcr]
  unfold dotSymbolRe
  have h1 : (dotted segs == ['.']) = false := by
    rw [beq_eq_false_iff_ne, hcr]; intro he
    simp only [List.cons.injEq] at he
    exact (idc_facts c (by simp [idc, hc])).2.2.2.2.1 he.1
  rw [hsplit]
  simp only [h1, Bool.false_eq_true, ↓reduceIte]
  match segs, hlen with
  | (c' :: r') :: s2 :: rest, _ =>
    simp only [List.length_cons, ge_iff_le, Nat.le_add_left, decide_true, Bool.true_and, List.all_eq_true]
    intro s hsm; exact dotSeg_ident s (hs s hsm)
  | [] :: s2 :: rest, _ => have := hs [] (by simp); simp [isIdent] at this

theorem decodeAtom_leadpath (segs : List (List Char)) (hne : segs ≠ []) (hs : ∀ s ∈ segs, isIdent s = true)
    (hu : ((dotted segs).drop ((dotted segs).length - 3) == "ULL".toList) = false) :
    decodeAtom ('.' :: dotted segs) = .ok ⟨.dotSymbol, '.' :: dotted segs⟩ := by
  have hn := dotted_nameText segs hne hs
  have hsplit := splitDots_dotted segs hne hs
  obtain ⟨c, r, hcr, hc⟩ := dotted_head segs hne hs
  obtain ⟨_, _, g3, _, _, _, _⟩ := letter_facts c hc
  have hn' := hn.dot_cons
  obtain ⟨b1, b2, b3⟩ := based_head '.' (dotted segs) (by decide)
  have hu' : (('.' :: dotted segs).drop (('.' :: dotted segs).length - 3) == "ULL".toList) = false := by
    by_cases hl : (dotted segs).length ≥ 3
    · have : ('.' :: dotted segs).length - 3 = ((dotted segs).length - 3) + 1 := by simp; omega
      rw [this, List.drop_succ_cons]; exact hu
    · have hl' : (dotted segs).length < 3 := by omega
      have : ('.' :: dotted segs).length - 3 = 0 := by simp; omega
      rw [this, List.drop_zero, beq_eq_false_iff_ne]
      intro he
      have h3 : "ULL".toList = ['U', 'L', 'L'] := by decide
      rw [h3] at he
      simp only [List.cons.injEq] at he
      exact absurd he.1 (by decide)
  apply decodeAtom_dotsym _ hn'.last_ne_colon (by simp) (by simp) _ (uint64Re_no_suffix _ hu')
    (decimalRe_head '.' _ (by decide) (by decide)) b1 b2 b3
  · rw [hcr]
    simp [floatRe, dropMinus, floatBody, digThenDigU, g3]
  · have a1 : "NaN".toList = ['N', 'a', 'N'] := by decide
    have a2 : "nan".toList = ['n', 'a', 'n'] := by decide
    simp [a1, a2]
  · rw [infRe_head '.' _ (by decide) (by decide)]
    have a1 : "Inf".toList = ['I', 'n', 'f'] := by decide
    have a2 : "inf".toList = ['i', 'n', 'f'] := by decide
    simp [a1, a2]
  · unfold dotSymbolRe
    have h1 : (('.' :: dotted segs) == ['.']) = false := by
      rw [beq_eq_false_iff_ne]; intro he
      simp only [List.cons.injEq] at he
      exact hn.ne he.2
    have h2 : splitDots ('.' :: dotted segs) = [] :: segs := by
      have := splitDots_append_dot [] (by simp) (dotted segs)
      simpa [hsplit] using this
    rw [h2]
    simp only [h1, Bool.false_eq_true, ↓reduceIte]
    have : segs.isEmpty = false := by cases segs <;> simp_all
    simp only [this, Bool.not_false, Bool.true_and]
    rw [List.all_eq_true]
    intro s hsm; exact dotSeg_ident s (hs s hsm)
  · simp [boolRe, Lexer.true_toList, Lexer.false_toList]

end ZygoVerif.Lexer
