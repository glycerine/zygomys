/-
The calling contract on the ERROR path: one non-call instruction.

`RunInv.allSpec'` speaks about normal returns. Here: whatever the outcome (`ok`, `err`, host
panic) of ONE non-call instruction fetched by a `Running` loop, the state it leaves still has
the stacks the current run was started on underneath: what the verifier's annotation
says about the instruction's operands (`needD ≤` the activation's own cells, `needL ≤` the
scopes it opened, `ret` pops the activation's own return address) is exactly the room
`Contain.Eff.frame` asks for; and when it fails, the tables (functions, scopes, heap, lazy
objects, loop records) are those it found (`exec_simple_fail_tab`): an instruction fails on its
operands, before it writes — read off `VM.step` (`step_okOrTab`).
-/
import ZygoVerif.Proofs.RunStep
import ZygoVerif.Proofs.ContainFrame
import ZygoVerif.Proofs.ContainExact
import ZygoVerif.Proofs.C01VM

namespace ZygoVerif.RunInv
open ZygoVerif.Core ZygoVerif.VM ZygoVerif.Bal ZygoVerif.Refine ZygoVerif.Sim ZygoVerif.Contain

/-- scopes: an instruction pops at most the scopes its activation opened -/
theorem Running.roomL {b : Base} {s : St} {top : Act} {rest : List Act} (h : Running b s top rest) {i : Instr}
    (hf : (fnOf s s.curfunc).code[s.pc.toNat]? = some i)
    (hfind : ∀ l n, (i = .brk l n ∨ i = .cont l n) → findLoopStart (fnOf s s.curfunc).code l ≠ none) :
    b.linear.length + needL i ≤ s.linear.length := by
  obtain ⟨a, succs, ⟨_, (hsc : s.linear.length = top.S + a.k), _⟩, hs⟩ := h.astep hf
  have hdep := Chain.depth _ _ _ _ h.chain
  have hpos : ∀ l, loopPos (fnB s top.f).code l = findLoopStart (fnOf s s.curfunc).code l := by
    intro l
    show loopPos (B s.loops (fnOf s top.f).code) l = _
    rw [loopPos_B, h.cur]
  cases i with
  | removeScope =>
    simp only [Bal.astep, toB, eff] at hs
    split at hs
    · simp only [needL]; omega
    · cases hs
  | brk l n | cont l n =>
    have hne := hfind l n (by simp)
    simp only [Bal.astep, toB, eff, hpos] at hs
    split at hs
    · rename_i hnone; exact absurd hnone hne
    · split at hs
      · split at hs
        · simp only [needL]; omega
        · cases hs
      · cases hs
  | _ => simp only [needL]; omega

/-- `break`/`continue` of a loop that is not in the running function: a run-time error that pops nothing -/
theorem exec_exit_none (n : Nat) (s : St) (i : Instr) (l k : Nat) (hi : i = .brk l k ∨ i = .cont l k)
    (hnone : findLoopStart (fnOf s s.curfunc).code l = none) : ((exec (n + 1) i).run s).2 = s := by
  rcases hi with rfl | rfl <;> rw [exec_simple_eq n _ s rfl, step, exitLoop, hnone]

/-- **Scopes, return addresses, set-aside stacks after one non-call instruction, whatever its
outcome**: the scope stack the run was started on is still underneath, as a list; so are the
return addresses below the bottom activation; the set-aside stacks are untouched. -/
theorem exec_simple_above_la {b : Base} {s : St} {top : Act} {rest : List Act} (hr : Running b s top rest) {i : Instr}
    (hf : (fnOf s s.curfunc).code[s.pc.toNat]? = some i) (hs : simple i = true) (n : Nat) :
    b.linear <:+ ((exec (n + 1) i).run s).2.linear ∧ ((exec (n + 1) i).run s).2.suspended = s.suspended ∧
      ((exec (n + 1) i).run s).2.loopstack = s.loopstack ∧ (b.main = false → b.addr <:+ ((exec (n + 1) i).run s).2.addr) := by
  by_cases hfind : ∀ l k, (i = .brk l k ∨ i = .cont l k) → findLoopStart (fnOf s s.curfunc).code l ≠ none
  · have he := exec_simple_eff n i s hs
    refine ⟨he.linear.frame hr.lin (hr.roomL hf hfind), he.susp, he.loopstack, fun hm => ?_⟩
    obtain ⟨h1, h2⟩ := Chain.addr_suffix _ _ _ _ hr.chain hm
    refine he.addr.frame h1 ?_
    have : needA i ≤ 1 := by cases i <;> simp [needA]
    omega
  · have : ∃ l k, (i = .brk l k ∨ i = .cont l k) ∧ findLoopStart (fnOf s s.curfunc).code l = none := by
      apply Classical.byContradiction
      intro hne
      apply hfind
      intro l k hi hnone
      exact hne ⟨l, k, hi, hnone⟩
    obtain ⟨l, k, hi, hnone⟩ := this
    rw [exec_exit_none n s i l k hi hnone]
    exact ⟨hr.lin, rfl, rfl, fun hm => (Chain.addr_suffix _ _ _ _ hr.chain hm).1⟩

theorem markNeed_le (l : Nat) : ∀ (data : List (Option Val)) (own D : List Cell),
    data.map cellOf = own ++ D → Cell.mark l ∈ own → markNeed l data ≤ own.length
  | [], _, _, _, _ => by simp [markNeed]
  | c :: rest, [], _, _, hm => by cases hm
  | c :: rest, o :: own', D, hd, hm => by
    simp only [List.map_cons, List.cons_append, List.cons.injEq] at hd
    obtain ⟨ho, hrest⟩ := hd
    have ih := markNeed_le l rest own' D hrest
    cases c with
    | none => simp [markNeed]
    | some v =>
      cases v with
      | mark l' =>
        simp only [markNeed]
        split
        · simp
        · rename_i hne
          have : Cell.mark l ∈ own' := by
            rcases List.mem_cons.mp hm with h | h
            · rw [← ho] at h; simp only [cellOf, Cell.mark.injEq] at h; exact absurd h.symm hne
            · exact h
          have := ih this
          simp only [List.length_cons]; omega
      | _ =>
        simp only [markNeed]
        have : Cell.mark l ∈ own' := by
          rcases List.mem_cons.mp hm with h | h
          · rw [← ho] at h; simp [cellOf] at h
          · exact h
        have := ih this
        simp only [List.length_cons]; omega

theorem conc_mark_mem (l : Nat) : ∀ (fs : List Frame) (n : Nat) (own : List Cell), Conc fs n own →
    ∀ pre fr rest, cutTo l fs = some (pre, fr, rest) → Cell.mark l ∈ own := by
  intro fs n own hc
  induction hc with
  | base n => intro pre fr rest h; simp [cutTo] at h
  | frame fr rest n above below _ _ ih =>
    intro pre fr' rest' h
    simp only [cutTo] at h
    split at h
    · rename_i hk
      apply List.mem_append_right
      rw [hk]
      exact List.mem_cons_self
    · split at h
      · cases h
      · rename_i p f r heq
        apply List.mem_append_right
        exact List.mem_cons_of_mem _ (ih p f r heq)

theorem conc_nil {fs : List Frame} {n : Nat} (h : Conc fs n []) : fs = [] ∧ n = 0 := by
  generalize ho : ([] : List Cell) = own at h
  cases h with
  | base n =>
    cases n with
    | zero => exact ⟨rfl, rfl⟩
    | succ m => simp [List.replicate] at ho
  | frame fr rest n above below _ _ => simp at ho

/-- operands: an instruction takes at most the cells its activation put on the data stack -/
theorem Running.roomD {b : Base} {s : St} {top : Act} {rest : List Act} (h : Running b s top rest) {i : Instr}
    (hf : (fnOf s s.curfunc).code[s.pc.toNat]? = some i) (hsi : simple i = true) :
    b.data.length + needD i s ≤ s.data.length := by
  obtain ⟨a, succs, ⟨⟨own, (hd : s.data.map cellOf = own ++ top.D), hconc⟩, _⟩, hs⟩ := h.astep hf
  have hdl := Chain.dlen _ _ _ _ h.chain
  have hlen : s.data.length = own.length + top.D.length := by
    have := congrArg List.length hd
    simpa using this
  suffices needD i s ≤ own.length by omega
  have one : ∀ {p m : Nat}, eff (toB s.loops i) = .simple p m → p ≤ own.length := by
    intro p m he
    simp only [Bal.astep, he] at hs
    split at hs
    · rename_i a' hp
      obtain ⟨_, tail, ht, _⟩ := popPush_sound a a' p m own hp hconc
      rw [ht]; simp
    · cases hs
  cases i with
  | callArr n => cases hsi
  | callExpr c as => cases hsi
  | pop =>
    show min 1 s.data.length ≤ own.length
    cases own with
    | nil =>
      exfalso
      obtain ⟨hf0, hb0⟩ := conc_nil hconc
      obtain ⟨k, frames, base⟩ := a
      simp only at hf0 hb0
      subst hf0 hb0
      simp [Bal.astep, toB, eff, popPush] at hs
    | cons o os => simp only [List.length_cons]; omega
  | popStackPutEnv x => exact one (p := 1) (m := 0) rfl
  | update x => exact one (p := 1) (m := 0) rfl
  | assign => exact one (p := 2) (m := 1) rfl
  | branch d o =>
    show 1 ≤ own.length
    simp only [Bal.astep, toB, eff] at hs
    split at hs
    · rename_i a' t hp _
      obtain ⟨_, tail, ht, _⟩ := popPush_sound a a' 1 0 own hp hconc
      rw [ht]; simp
    · cases hs
    · cases hs
  | popUntilMark l | clearMark l =>
    show markNeed l s.data ≤ own.length
    simp only [Bal.astep, toB, eff] at hs
    split at hs
    · rename_i pre fr rest' hcut
      exact markNeed_le l s.data own top.D hd (conc_mark_mem l _ _ _ hconc _ _ _ hcut)
    · cases hs
  | prepareCall x k =>
    simp only [needD]
    by_cases hv : (!(fnOf s s.curfunc).user && (fnOf s s.curfunc).varargs) = true
    · simp only [hv, if_true]
      simp only [Bool.and_eq_true, Bool.not_eq_true'] at hv
      -- the operands named by the annotation are the activation's own
      have hva : (fnB s top.f).varargs = true := by rw [← h.cur]; exact hv.2
      have hnf : (fnB s top.f).nfixed = (fnOf s s.curfunc).nargs := by rw [← h.cur]; rfl
      simp only [Bal.astep, toB, eff, hva, if_true] at hs
      split at hs
      · split at hs
        · rename_i a' hp
          obtain ⟨_, tl, ht', _⟩ := popPush_sound a a' _ 1 own hp hconc
          rw [ht', ← hnf]; simp
        · cases hs
      · cases hs
    · simp only [hv]; simp
  | _ => simp [needD]

theorem exec_simple_above_d {b : Base} {s : St} {top : Act} {rest : List Act} (hr : Running b s top rest) {i : Instr}
    (hf : (fnOf s s.curfunc).code[s.pc.toNat]? = some i) (hs : simple i = true) (n : Nat) (hd : b.data <:+ s.data) :
    b.data <:+ ((exec (n + 1) i).run s).2.data :=
  (exec_simple_eff n i s hs).data.frame hd (hr.roomD hf hs)


/-- the five tables of `s'` are those of `s`. `FT m s` says it of a failing run of `m` from `s`, `OkOrTab s r` of an
outcome `r` that is not a success: the form `step_okOrTab` proves clause by clause. -/
structure Tab (s s' : St) : Prop where
  fns : s'.fns = s.fns
  scopes : s'.scopes = s.scopes
  loops : s'.loops = s.loops
  lazies : s'.lazies = s.lazies
  heap : s'.heap = s.heap

theorem Tab.refl (s : St) : Tab s s := ⟨rfl, rfl, rfl, rfl, rfl⟩
def FT {α} (m : M α) (s : St) : Prop := ∀ e s', m.run s = (.error e, s') → Tab s s'

theorem Tab.of_eq {s s' : St} (h1 : s'.fns = s.fns := by rfl) (h2 : s'.scopes = s.scopes := by rfl) (h3 : s'.loops = s.loops := by rfl)
    (h4 : s'.lazies = s.lazies := by rfl) (h5 : s'.heap = s.heap := by rfl) : Tab s s' := ⟨h1, h2, h3, h4, h5⟩

theorem tab_wrangle (a b : Nat) (s : St) : Tab s ((wrangleOptargs a b).run s).2 := by
  rw [run_wrangleOptargs]; exact Tab.of_eq

def OkOrTab (s : St) (r : Res Unit) : Prop := r.1 = .ok () ∨ Tab s r.2

theorem okOrTab_popThen {s : St} {k : Val → List (Option Val) → Res Unit} (h : ∀ v rest, OkOrTab s (k v rest)) :
    OkOrTab s (popThen s k) := by
  unfold popThen
  split
  · exact .inr (Tab.refl s)
  · exact .inr (Tab.refl s)
  · exact h _ _

theorem okOrTab_bindTopRes (x : String) (v : Val) (s : St) (p : Int) (d : List (Option Val)) :
    OkOrTab s (bindTopRes x v (s.jmp p d)) := by
  unfold bindTopRes
  split
  · split
    · exact .inl rfl
    · exact .inr Tab.of_eq
  · exact .inr Tab.of_eq

/-- a non-call instruction that fails has written no table: it fails on its operands, before it writes -/
theorem step_okOrTab (i : Instr) (s : St) : OkOrTab s (step i s) := by
  cases i with
  | popStackPutEnv x => exact okOrTab_popThen fun v rest => okOrTab_bindTopRes x v s _ _
  | update x =>
    refine okOrTab_popThen fun v rest => ?_
    split
    · exact .inl rfl
    · exact okOrTab_bindTopRes x v s _ _
  | dup => exact okOrTab_popThen fun v rest => .inl rfl
  | branch d o =>
    refine okOrTab_popThen fun v rest => ?_
    split
    · split
      · exact .inr Tab.of_eq
      · exact .inl rfl
    · exact .inl rfl
  | assign =>
    rw [step, popThen]
    split
    · exact .inr Tab.of_eq
    · exact .inr Tab.of_eq
    unfold popThen
    split
    · exact .inr Tab.of_eq
    · exact .inr Tab.of_eq
    · dsimp only
      split
      · split
        · exact .inl rfl
        · exact .inr Tab.of_eq
      · exact .inr Tab.of_eq
  | brk l k | cont l k =>
    rw [step, exitLoop]
    split
    · exact .inr (Tab.refl s)
    · split
      · exact .inl rfl
      · exact .inr Tab.of_eq
  | prepareCall x k =>
    rw [step]
    split
    · split
      · exact .inl rfl
      · exact .inr Tab.of_eq
    · exact .inl rfl
  | clearMark l =>
    rw [step]
    split
    · exact .inl rfl
    · exact .inr Tab.of_eq
  | pop | envToStack _ | jump _ | goto _ | ret | removeScope | tailGuard _ _ =>
    rw [step]
    split <;> first | exact .inl rfl | exact .inr Tab.of_eq
  | addScope | addFuncScope _ | createClosure _ | pushLazy _ => exact .inl rfl
  | _ => exact .inr Tab.of_eq

/-- **A non-call instruction that fails leaves the tables as it found them** (it fails before it
writes: the operands are taken and checked first). -/
theorem exec_simple_fail_tab (n : Nat) (i : Instr) (s : St) (hs : simple i = true) : FT (exec (n + 1) i) s := by
  intro e s' h
  rw [exec_simple_eq n i s hs] at h
  rcases step_okOrTab i s with h1 | h1 <;> rw [h] at h1
  · cases h1
  · exact h1

theorem lazies_popThen {s : St} {k : Val → List (Option Val) → Res Unit} (h : ∀ v rest, (k v rest).2.lazies = s.lazies) :
    (popThen s k).2.lazies = s.lazies := by
  unfold popThen
  split
  · rfl
  · rfl
  · exact h _ _

theorem lazies_bindTopRes (x : String) (v : Val) (s : St) : (bindTopRes x v s).2.lazies = s.lazies := by
  unfold bindTopRes
  split
  · split <;> rfl
  · rfl

/-- only `PushLazyArg` writes the table of lazy arguments -/
theorem step_lazies (i : Instr) (s : St) (hp : ∀ e, i ≠ .pushLazy e) : (step i s).2.lazies = s.lazies := by
  cases i with
  | pushLazy e => exact absurd rfl (hp e)
  | popStackPutEnv x => exact lazies_popThen fun v rest => lazies_bindTopRes x v _
  | update x =>
    refine lazies_popThen fun v rest => ?_
    split
    · rfl
    · exact lazies_bindTopRes x v _
  | dup => exact lazies_popThen fun v rest => rfl
  | branch d o =>
    refine lazies_popThen fun v rest => ?_
    split
    · split <;> rfl
    · rfl
  | assign =>
    refine lazies_popThen fun r rest1 => lazies_popThen fun l rest => ?_
    split
    · split <;> rfl
    · rfl
  | brk l k | cont l k =>
    rw [step, exitLoop]
    split
    · rfl
    · split <;> rfl
  | prepareCall x k =>
    rw [step]
    split
    · split <;> rfl
    · rfl
  | pop | envToStack _ | jump _ | goto _ | ret | removeScope | tailGuard _ _ | clearMark _ =>
    rw [step]
    split <;> rfl
  | _ => rfl

theorem exec_simple_lz (n : Nat) (i : Instr) (s : St) (hs : simple i = true) (hp : ∀ e, i ≠ .pushLazy e) :
    ((exec (n + 1) i).run s).2.lazies = s.lazies := by
  rw [exec_simple_eq n i s hs]; exact step_lazies i s hp


/-- the lazy arguments captured scope stacks without nil cells, and those still to be forced a
non-empty one -/
def LzOK (s : St) : Prop :=
  (∀ z ∈ s.lazies, VMSafe.allSome z.stack) ∧ (∀ z ∈ s.lazies, z.value = none → z.stack ≠ [])

theorem LzOK.same {s s' : St} (h : LzOK s) (e : s'.lazies = s.lazies) : LzOK s' := by
  unfold LzOK; rw [e]; exact h

/-- what the loop needs of the state a failing instruction leaves: good tables, tables only
grown, the set-aside stacks as before, the scope stack of the base still underneath -/
structure FaultOK (b : Base) (s₀ s₁ : St) : Prop where
  tab : WF { s₁ with data := [] }
  ext : TExt s₀ s₁
  susp : s₁.suspended = s₀.suspended
  lin : b.linear <:+ s₁.linear
  lz : LzOK s₁

/-- a failing non-call instruction leaves such a state -/
theorem faultOK_simple {b : Base} {s s₁ : St} {top : Act} {rest : List Act} (hw : WF s) (hr : Running b s top rest) {i : Instr}
    (hf : (fnOf s s.curfunc).code[s.pc.toNat]? = some i) (hs : simple i = true) (n : Nat) (e : Fault)
    (h : (exec (n + 1) i).run s = (.error e, s₁)) (hlz : LzOK s) : FaultOK b s s₁ := by
  have ht := exec_simple_fail_tab n i s hs e s₁ h
  obtain ⟨l1, l2, l3, _⟩ := exec_simple_above_la hr hf hs n
  rw [h] at l1 l2 l3
  have he : TExt s s₁ := TExt.same ht.fns ht.loops
  exact ⟨hw.same (s' := { s₁ with data := [] }) (fun c hc => by cases hc) ht.fns ht.loops l3 ht.scopes ht.heap ht.lazies,
    he, l2, l1, hlz.same ht.lazies⟩

end ZygoVerif.RunInv
