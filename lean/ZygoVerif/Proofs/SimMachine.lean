/-
Machine lemmas about the VM model (`Model/VM.lean`), the base of every proof that runs code (C01–C05, C09, C16):
computations of the VM monad evaluated from a given state, `Instruction.Execute` of the simple instructions as state
transformers (all cases), one turn of the `Run` loop, and `Reach K m s s'` — from `s` the loop arrives at `s'` after
at most `K` instructions, whatever the enclosing `Run` (its captured control state) and the remaining fuel `≥ m`;
`Ev P` — `P` holds of every sufficiently large amount of fuel.
Every statement is about `VM.runLoop` and `VM.exec` themselves.
-/
import ZygoVerif.Proofs.VMFacts
namespace ZygoVerif.Sim
open ZygoVerif.Core ZygoVerif.VM

theorem run_pure {α} (a : α) (s : St) : (pure a : M α).run s = (.ok a, s) := rfl

theorem run_bind {α β} (x : M α) (f : α → M β) (s : St) :
    (x >>= f).run s = match x.run s with
      | (.ok a, s') => (f a).run s'
      | (.error e, s') => (.error e, s') := by
  show (ExceptT.bind x f).run s = _
  unfold ExceptT.bind ExceptT.run ExceptT.mk ExceptT.bindCont
  simp only [bind, StateT.bind]
  rcases h : x s with ⟨r, s'⟩
  cases r <;> rfl

theorem run_get (s : St) : (get : M St).run s = (.ok s, s) := rfl
theorem run_set (s' s : St) : (set s' : M Unit).run s = (.ok (), s') := rfl
theorem run_modify (f : St → St) (s : St) : (modify f : M Unit).run s = (.ok (), f s) := rfl
theorem run_throw {α} (e : Fault) (s : St) : (throw e : M α).run s = (.error e, s) := rfl
theorem run_err {α} (s : St) : (err : M α).run s = (.error .err, s) := rfl
theorem run_hostPanic {α} (s : St) : (hostPanic : M α).run s = (.error .panic, s) := rfl
theorem run_ite {α} (c : Prop) [Decidable c] (a b : M α) (s : St) :
    (if c then a else b).run s = if c then a.run s else b.run s := by split <;> rfl

theorem run_pushData (v : Val) (s : St) :
    (pushData v).run s = (.ok (), { s with data := some v :: s.data }) := rfl
theorem run_incPc (s : St) : incPc.run s = (.ok (), { s with pc := s.pc + 1 }) := rfl

theorem run_popData (s : St) :
    popData.run s = match s.data with
      | [] => (.error .err, s)
      | none :: _ => (.error .panic, s)
      | some v :: rest => (.ok v, { s with data := rest }) := by
  unfold popData
  simp only [run_bind, run_get]
  rcases hd : s.data with _ | ⟨_ | v, rest⟩ <;> simp only [run_err, run_hostPanic, run_bind, run_set, run_pure]

theorem run_jumpTo (n : Int) (s : St) :
    (jumpTo n).run s = if n < 0 ∨ n > curSize s then (.error .err, s) else (.ok (), { s with pc := n }) := by
  unfold jumpTo
  simp only [run_bind, run_get, run_ite, run_err, run_set]

theorem curSize_congr {s s' : St} (h1 : s'.fns = s.fns) (h2 : s'.curfunc = s.curfunc) :
    curSize s' = curSize s := by
  unfold curSize fnOf; rw [h1, h2]

theorem run_mkFunction (name : String) (code : List Instr) (closing : List (Option Nat)) (parent : Option Nat) (s : St) :
    (mkFunction name code closing parent).run s =
      (.ok s.fns.length, { s with fns := s.fns ++ [({ name, code, closing, parent } : FnObj)] }) := rfl

theorem exec_push (f : Nat) (v : Val) (s : St) :
    (exec (f + 1) (.push v)).run s = (.ok (), { s with data := some v :: s.data, pc := s.pc + 1 }) := by
  rw [exec]; rfl

theorem exec_pop (f : Nat) (s : St) :
    (exec (f + 1) .pop).run s = match s.data with
      | [] => (.ok (), { s with pc := s.pc + 1 })          -- underflow is ignored
      | none :: _ => (.error .panic, s)
      | some _ :: rest => (.ok (), { s with data := rest, pc := s.pc + 1 }) := by
  rw [exec]
  simp only [run_bind, run_get]
  rcases hd : s.data with _ | ⟨_ | v, rest⟩ <;> simp only [run_incPc, run_hostPanic, run_set, hd]

theorem exec_dup (f : Nat) (s : St) :
    (exec (f + 1) .dup).run s = match s.data with
      | [] => (.error .err, s)
      | none :: _ => (.error .panic, s)
      | some v :: _ => (.ok (), { s with data := some v :: s.data, pc := s.pc + 1 }) := by
  rw [exec]
  simp only [run_bind, run_get]
  rcases hd : s.data with _ | ⟨_ | v, rest⟩ <;>
    simp only [run_err, run_hostPanic, run_bind, run_pushData, run_incPc, hd]

theorem exec_jump (f : Nat) (off : Int) (s : St) :
    (exec (f + 1) (.jump off)).run s =
      if s.pc + off < 0 ∨ s.pc + off > curSize s then (.error .err, s)
      else (.ok (), { s with pc := s.pc + off }) := by
  rw [exec]
  simp only [run_bind, run_get, run_jumpTo]

theorem exec_goto (f : Nat) (loc : Nat) (s : St) :
    (exec (f + 1) (.goto loc)).run s =
      if (loc : Int) < 0 ∨ (loc : Int) > curSize s then (.error .err, s)
      else (.ok (), { s with pc := loc }) := by
  rw [exec, run_jumpTo]

theorem exec_branch (f : Nat) (dir : Bool) (off : Int) (s : St) :
    (exec (f + 1) (.branch dir off)).run s = match s.data with
      | [] => (.error .err, s)
      | none :: _ => (.error .panic, s)
      | some v :: rest =>
        if dir = truthy v then
          (if s.pc + off < 0 ∨ s.pc + off > curSize s then (.error .err, { s with data := rest })
           else (.ok (), { s with data := rest, pc := s.pc + off }))
        else (.ok (), { s with data := rest, pc := s.pc + 1 }) := by
  rw [exec]
  simp only [run_bind, run_popData]
  rcases hd : s.data with _ | ⟨_ | v, rest⟩
  · rfl
  · rfl
  · simp only [run_get, run_ite, run_jumpTo, run_incPc, beq_iff_eq]
    rfl

/-- The VM stands in front of instruction `i` of the current (compiled) function. -/
structure At (s : St) (pre : List Instr) (i : Instr) (post : List Instr) : Prop where
  user : (fnOf s s.curfunc).user = false
  code : (fnOf s s.curfunc).code = pre ++ i :: post
  pc : s.pc = (pre.length : Int)

theorem At.curSize {s pre i post} (h : At s pre i post) :
    curSize s = ((pre.length + 1 + post.length : Nat) : Int) := by
  unfold VM.curSize
  simp only [h.user, h.code, Bool.false_eq_true, if_false, List.length_append, List.length_cons]
  omega

theorem At.fetch {s pre i post} (h : At s pre i post) :
    (fnOf s s.curfunc).code[s.pc.toNat]? = some i := by
  rw [h.code, h.pc]
  simp

theorem At.running {s pre i post} (h : At s pre i post) : ¬ (s.pc = -1 ∨ s.pc ≥ VM.curSize s) := by
  rw [h.curSize, h.pc]; omega

/-- what `Run`'s loop makes of the result of one instruction: it goes on; or restores the control
state captured at entry, parks the pc behind the code and fails; a panic or timeout leaves at once -/
def loopTail (n : Nat) (st : CtlState) : Except Fault Unit × St → Except Fault Unit × St
  | (.ok _, s1) => (runLoop n st).run s1
  | (.error .err, s1) => (.error .err, (fun s => { s with pc := VM.curSize s }) ((restore st).run s1).2)
  | (.error flt, s1) => (.error flt, s1)

theorem runLoop_fetch (n : Nat) (st : CtlState) (s : St) {i : Instr} (hns : ¬ (s.pc = -1 ∨ s.pc ≥ VM.curSize s))
    (hi : (fnOf s s.curfunc).code[s.pc.toNat]? = some i) :
    (runLoop (n + 1) st).run s = loopTail n st ((exec n i).run s) := by
  rw [runLoop]
  simp only [run_bind, run_get, hns, if_false, hi]
  rcases (exec n i).run s with ⟨(_ | _ | _) | u, s1⟩ <;>
    simp only [run_set, run_bind, run_modify, run_throw] <;> rfl

theorem runLoop_stop (n : Nat) (st : CtlState) (s : St)
    (h : (s.pc = -1 ∨ s.pc ≥ VM.curSize s) ∨ (fnOf s s.curfunc).code[s.pc.toNat]? = none) :
    (runLoop (n + 1) st).run s = (.ok (), s) := by
  rw [runLoop]
  by_cases hns : (s.pc = -1 ∨ s.pc ≥ VM.curSize s)
  · simp only [run_bind, run_get, hns, if_true, run_pure]
  · simp only [run_bind, run_get, hns, if_false, h.resolve_left hns, run_pure]

theorem runLoop_step {s s' : St} {pre i post} (h : At s pre i post) (fuel : Nat) (st : CtlState)
    (hx : (exec fuel i).run s = (.ok (), s')) :
    (runLoop (fuel + 1) st).run s = (runLoop fuel st).run s' := by
  rw [runLoop_fetch fuel st s h.running h.fetch, hx]; rfl

theorem runLoop_step_err {s s' : St} {pre i post} (h : At s pre i post) (fuel : Nat) (st : CtlState)
    (hx : (exec fuel i).run s = (.error .err, s')) :
    (runLoop (fuel + 1) st).run s =
      (.error .err, (fun s => { s with pc := VM.curSize s }) ((restore st).run s').2) := by
  rw [runLoop_fetch fuel st s h.running h.fetch, hx]; rfl

theorem runLoop_step_fault {s s' : St} {pre i post} (h : At s pre i post) (fuel : Nat) (st : CtlState)
    (flt : Fault) (hf : flt ≠ .err) (hx : (exec fuel i).run s = (.error flt, s')) :
    (runLoop (fuel + 1) st).run s = (.error flt, s') := by
  rw [runLoop_fetch fuel st s h.running h.fetch, hx]
  cases flt <;> first | exact absurd rfl hf | rfl

theorem runLoop_halt (s : St) (fuel : Nat) (st : CtlState) (h : s.pc = -1 ∨ s.pc ≥ VM.curSize s) :
    (runLoop (fuel + 1) st).run s = (.ok (), s) := runLoop_stop fuel st s (Or.inl h)

theorem runLoop_zero (s : St) (st : CtlState) : (runLoop 0 st).run s = (.error .timeout, s) := by
  rw [runLoop_timeout]; rfl

/-- **The loop is a path.** A property `I` that every successful instruction of the loop keeps (fetched at the pc of
a state with `I`, executed with whatever fuel) holds of the state in which `runLoop` returns, and the loop has stopped
there; when `runLoop` fails otherwise than by running out of fuel, some instruction fetched in a state with `I` failed,
and the loop's result is what `loopTail` makes of that. Every fact about a whole loop that is a fact about its single
steps comes from here without another induction. -/
theorem runLoop_inv {I : St → Prop}
    (hI : ∀ m i s s1, I s → ¬ (s.pc = -1 ∨ s.pc ≥ VM.curSize s) → (fnOf s s.curfunc).code[s.pc.toNat]? = some i →
      (exec m i).run s = (.ok (), s1) → I s1) :
    ∀ (n : Nat) (st : CtlState) (s : St), I s →
      match (runLoop n st).run s with
      | (.ok _, s') => I s' ∧ ((s'.pc = -1 ∨ s'.pc ≥ VM.curSize s') ∨ (fnOf s' s'.curfunc).code[s'.pc.toNat]? = none)
      | (.error e, s') => e = .timeout ∨ ∃ s₀ i m s₁, I s₀ ∧ (fnOf s₀ s₀.curfunc).code[s₀.pc.toNat]? = some i ∧
          (exec m i).run s₀ = (.error e, s₁) ∧ (.error e, s') = loopTail m st (.error e, s₁)
  | 0, st, s, _ => by rw [runLoop_zero]; exact .inl rfl
  | n + 1, st, s, h => by
    by_cases hns : (s.pc = -1 ∨ s.pc ≥ VM.curSize s)
    · rw [runLoop_stop n st s (.inl hns)]; exact ⟨h, .inl hns⟩
    rcases hi : (fnOf s s.curfunc).code[s.pc.toNat]? with _ | i
    · rw [runLoop_stop n st s (.inr hi)]; exact ⟨h, .inr hi⟩
    rw [runLoop_fetch n st s hns hi]
    rcases hx : (exec n i).run s with ⟨e | u, s1⟩
    · cases e with
      | timeout => exact .inl rfl
      | err => exact .inr ⟨s, i, n, s1, h, hi, hx, rfl⟩
      | panic => exact .inr ⟨s, i, n, s1, h, hi, hx, rfl⟩
    · exact runLoop_inv hI n st s1 (hI n i s s1 h hns hi hx)

/-- From `s` the run loop arrives at `s'` after at most `K` instructions, for every enclosing
`Run` (captured control state `st`) and every remaining fuel `≥ m`. -/
def Reach (K m : Nat) (s s' : St) : Prop :=
  ∃ k, k ≤ K ∧ ∀ fuel, m ≤ fuel → ∀ st, (runLoop (fuel + k) st).run s = (runLoop fuel st).run s'

theorem Reach.refl (s : St) : Reach 0 0 s s := ⟨0, Nat.le_refl _, fun _ _ _ => rfl⟩

theorem Reach.of_eq {s s' : St} (h : s = s') : Reach 0 0 s s' := h ▸ Reach.refl s

theorem Reach.mono {K m K' m' : Nat} {s s' : St} (h : Reach K m s s') (hK : K ≤ K') (hm : m ≤ m') :
    Reach K' m' s s' := by
  obtain ⟨k, hk, H⟩ := h
  exact ⟨k, Nat.le_trans hk hK, fun fuel hf st => H fuel (Nat.le_trans hm hf) st⟩

theorem Reach.trans {K₁ m₁ K₂ m₂ : Nat} {s s₁ s₂ : St} (h₁ : Reach K₁ m₁ s s₁) (h₂ : Reach K₂ m₂ s₁ s₂) :
    Reach (K₁ + K₂) (max m₁ m₂) s s₂ := by
  obtain ⟨k₁, hk₁, H₁⟩ := h₁
  obtain ⟨k₂, hk₂, H₂⟩ := h₂
  refine ⟨k₂ + k₁, by omega, fun fuel hf st => ?_⟩
  rw [← Nat.add_assoc, H₁ (fuel + k₂) (by omega) st, H₂ fuel (by omega) st]

/-- one instruction that succeeds whenever it is given more than `m` units of fuel (an instruction that re-enters
the machine needs some; the others need none: `Reach.step`) -/
theorem Reach.step_from {s s' : St} {pre i post} (h : At s pre i post) (m : Nat)
    (hx : ∀ f, m ≤ f → (exec (f + 1) i).run s = (.ok (), s')) : Reach 1 (m + 1) s s' := by
  refine ⟨1, Nat.le_refl _, fun fuel hf st => ?_⟩
  obtain ⟨f, rfl⟩ : ∃ f, fuel = f + 1 := ⟨fuel - 1, by omega⟩
  exact runLoop_step h (f + 1) st (hx f (by omega))

theorem Reach.step {s s' : St} {pre i post} (h : At s pre i post)
    (hx : ∀ f, (exec (f + 1) i).run s = (.ok (), s')) : Reach 1 1 s s' :=
  Reach.step_from h 0 fun f _ => hx f

theorem Reach.finish {K m : Nat} {s s' : St} (h : Reach K m s s') (hh : s'.pc = -1 ∨ s'.pc ≥ VM.curSize s')
    (fuel : Nat) (hf : K + m + 1 ≤ fuel) (st : CtlState) :
    (runLoop fuel st).run s = (.ok (), s') := by
  obtain ⟨k, hk, H⟩ := h
  obtain ⟨f, rfl⟩ : ∃ f, fuel = (f + 1) + k := ⟨fuel - k - 1, by omega⟩
  rw [H (f + 1) (by omega) st, runLoop_halt s' f st hh]

theorem Reach.cast {K m : Nat} {s s' s'' : St} (h : Reach K m s s') (e : s' = s'') : Reach K m s s'' := e ▸ h

/-- **Eventually in the fuel**: from some amount on. Most statements about the machine's fuel-indexed functions hold
"with enough fuel"; combining two of them takes the larger threshold (`Ev.and`, the only `max`) and a function that
spends `k` units before it calls another moves the threshold by `k` (`Ev.shift`, the only `fuel = f + k`): the
threshold arithmetic is done here, once. A hypothesis `∃ M, ∀ fuel, M ≤ fuel → …` is an `Ev` as it stands. -/
def Ev (P : Nat → Prop) : Prop := ∃ M, ∀ fuel, M ≤ fuel → P fuel

namespace Ev
variable {P Q : Nat → Prop}

theorem of_forall (h : ∀ fuel, P fuel) : Ev P := ⟨0, fun f _ => h f⟩

theorem and (hp : Ev P) (hq : Ev Q) : Ev fun f => P f ∧ Q f :=
  hp.elim fun M₁ h₁ => hq.elim fun M₂ h₂ => ⟨max M₁ M₂, fun f hf => ⟨h₁ f (by omega), h₂ f (by omega)⟩⟩

theorem mono (h : Ev P) (himp : ∀ f, P f → Q f) : Ev Q := h.elim fun M hM => ⟨M, fun f hf => himp f (hM f hf)⟩

theorem shift (k : Nat) (h : Ev P) (himp : ∀ f, P f → Q (f + k)) : Ev Q :=
  h.elim fun M hM => ⟨M + k, fun fuel hf => by
    obtain ⟨f, rfl⟩ : ∃ f, fuel = f + k := ⟨fuel - k, by omega⟩
    exact himp f (hM f (by omega))⟩

theorem later (h : Ev P) (k : Nat) : Ev fun f => P (f + k) :=
  h.elim fun M hM => ⟨M, fun f hf => hM (f + k) (by omega)⟩

end Ev

/-- `s` with a new program counter and data stack (what the control fragment touches). -/
def _root_.ZygoVerif.VM.St.jmp (s : St) (pc : Int) (data : List (Option Val)) : St := { s with pc := pc, data := data }

/-- what `AddScopeInstr` does -/
def _root_.ZygoVerif.VM.St.pushScope (s : St) : St :=
  { s with scopes := s.scopes ++ [({} : Scope)], linear := some s.scopes.length :: s.linear, pc := s.pc + 1 }

theorem exec_ret (f : Nat) (s : St) :
    (exec (f + 1) .ret).run s = match s.addr with
      | [] => (.error .err, s)
      | none :: _ => (.error .panic, s)
      | some (fn, pc) :: rest => (.ok (), { s with addr := rest, curfunc := fn, pc := pc }) := by
  rw [exec]
  simp only [run_bind, run_get]
  rcases ha : s.addr with _ | ⟨_ | ⟨fn, pc⟩, rest⟩ <;> simp only [run_err, run_hostPanic, run_set]

theorem exec_loopStart (f : Nat) (l : Nat) (s : St) :
    (exec (f + 1) (.loopStart l)).run s = (.ok (), s.jmp (s.pc + 1) s.data) := by rw [exec]; rfl

theorem exec_label (f : Nat) (s : St) :
    (exec (f + 1) .label).run s = (.ok (), s.jmp (s.pc + 1) s.data) := by rw [exec]; rfl

theorem exec_pushMark (f : Nat) (l : Nat) (s : St) :
    (exec (f + 1) (.pushMark l)).run s = (.ok (), s.jmp (s.pc + 1) (some (.mark l) :: s.data)) := by
  rw [exec]; rfl

theorem exec_envToStack (f : Nat) (x : String) (s : St) :
    (exec (f + 1) (.envToStack x)).run s = match lexLookup s x with
      | some (_, v) => (.ok (), s.jmp (s.pc + 1) (some v :: s.data))
      | none => (.error .err, s) := by
  rw [exec]
  simp only [run_bind, run_get]
  rcases h : lexLookup s x with _ | ⟨id, v⟩
  · simp only [run_err]
  · simp only [run_bind, run_pushData, run_incPc]; rfl

theorem exec_addScope (f : Nat) (s : St) :
    (exec (f + 1) .addScope).run s =
      (.ok (), { s with scopes := s.scopes ++ [({} : Scope)], linear := some s.scopes.length :: s.linear, pc := s.pc + 1 }) := by
  rw [exec]; rfl

theorem exec_removeScope (f : Nat) (s : St) :
    (exec (f + 1) .removeScope).run s = match s.linear with
      | [] => (.error .err, { s with pc := s.pc + 1 })
      | _ :: rest => (.ok (), { s with pc := s.pc + 1, linear := rest }) := by
  rw [exec]
  simp only [run_bind, run_incPc]
  unfold popScope
  simp only [run_bind, run_get]
  rcases hl : s.linear with _ | ⟨a, rest⟩
  · simp only [run_err]
  · simp only [run_set]

@[simp] theorem St.jmp_pc (s : St) (p d) : (s.jmp p d).pc = p := rfl
@[simp] theorem St.jmp_data (s : St) (p d) : (s.jmp p d).data = d := rfl
@[simp] theorem St.jmp_curfunc (s : St) (p d) : (s.jmp p d).curfunc = s.curfunc := rfl
@[simp] theorem St.jmp_fns (s : St) (p d) : (s.jmp p d).fns = s.fns := rfl
@[simp] theorem St.jmp_jmp (s : St) (p d p' d') : (s.jmp p d).jmp p' d' = s.jmp p' d' := rfl
@[simp] theorem St.jmp_self (s : St) : s.jmp s.pc s.data = s := rfl
@[simp] theorem fnOf_jmp (s : St) (p d) (x : Nat) : fnOf (s.jmp p d) x = fnOf s x := rfl
@[simp] theorem curSize_jmp (s : St) (p d) : curSize (s.jmp p d) = curSize s := rfl

theorem St.jmp_congr (s : St) {p p' : Int} {d d' : List (Option Val)} (hp : p = p') (hd : d = d') :
    s.jmp p d = s.jmp p' d' := by rw [hp, hd]

theorem At.jmp {s pre i post} (h : At s pre i post) {pre' i' post'} (p : Int) (d : List (Option Val))
    (hc : pre ++ i :: post = pre' ++ i' :: post') (hp : p = (pre'.length : Int)) :
    At (s.jmp p d) pre' i' post' :=
  ⟨h.user, by rw [fnOf_jmp, St.jmp_curfunc, h.code, hc], hp⟩

theorem reach_push {s pre v post} (h : At s pre (.push v) post) :
    Reach 1 1 s (s.jmp (s.pc + 1) (some v :: s.data)) :=
  Reach.step h (fun f => exec_push f v s)

theorem reach_pop {s pre post v rest} (h : At s pre .pop post) (hd : s.data = some v :: rest) :
    Reach 1 1 s (s.jmp (s.pc + 1) rest) :=
  Reach.step h (fun f => by rw [exec_pop, hd]; rfl)

theorem reach_dup {s pre post v rest} (h : At s pre .dup post) (hd : s.data = some v :: rest) :
    Reach 1 1 s (s.jmp (s.pc + 1) (some v :: s.data)) :=
  Reach.step h (fun f => by rw [exec_dup, hd]; rfl)

theorem reach_jump {s pre post off} (h : At s pre (.jump off) post)
    (h0 : 0 ≤ s.pc + off) (h1 : s.pc + off ≤ ((pre.length + 1 + post.length : Nat) : Int)) :
    Reach 1 1 s (s.jmp (s.pc + off) s.data) :=
  Reach.step h (fun f => by
    rw [exec_jump, if_neg (by rw [h.curSize]; omega)]; rfl)

theorem reach_goto {s pre post loc} (h : At s pre (.goto loc) post)
    (h1 : loc ≤ pre.length + 1 + post.length) :
    Reach 1 1 s (s.jmp loc s.data) :=
  Reach.step h (fun f => by
    rw [exec_goto, if_neg (by rw [h.curSize]; omega)]; rfl)

theorem reach_branch_taken {s pre post dir off v rest} (h : At s pre (.branch dir off) post)
    (hd : s.data = some v :: rest) (ht : dir = truthy v)
    (h0 : 0 ≤ s.pc + off) (h1 : s.pc + off ≤ ((pre.length + 1 + post.length : Nat) : Int)) :
    Reach 1 1 s (s.jmp (s.pc + off) rest) :=
  Reach.step h (fun f => by
    rw [exec_branch, hd]
    simp only [ht, if_true]
    rw [if_neg (by rw [h.curSize]; omega)]; rfl)

theorem reach_branch_fall {s pre post dir off v rest} (h : At s pre (.branch dir off) post)
    (hd : s.data = some v :: rest) (ht : dir ≠ truthy v) :
    Reach 1 1 s (s.jmp (s.pc + 1) rest) :=
  Reach.step h (fun f => by
    rw [exec_branch, hd]
    simp only [ht, if_false]; rfl)

end ZygoVerif.Sim
