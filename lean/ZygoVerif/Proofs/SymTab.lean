/-
Lemmas behind Props/C19.lean: the bounded loops of the model never run out of fuel
(pigeonhole), `itoa` is injective, `makeSymbol`/`genSymbol` keep the tables mutually
inverse, only ever add entries, and return what the tables say afterwards.
Core Lean only.
-/
import ZygoVerif.Model.SymTab
namespace ZygoVerif.SymTab

theorem alookup_cons {α β} [DecidableEq α] (k a : α) (b : β) (r : List (α × β)) :
    alookup k ((a, b) :: r) = if k = a then some b else alookup k r := rfl

theorem alookup_none_iff {α β} [DecidableEq α] (k : α) (l : List (α × β)) :
    alookup k l = none ↔ k ∉ l.map Prod.fst := by
  induction l with
  | nil => simp [alookup]
  | cons p r ih =>
    obtain ⟨a, b⟩ := p
    rw [alookup_cons]
    by_cases h : k = a
    · simp [h]
    · simp [h, ih]

theorem isSome_false_iff {α} (o : Option α) : o.isSome = false ↔ o = none := by
  cases o <;> simp

/-! ### the loop `for { if !p(n) break; n++ }` -/

theorem findFree_ge (p : Nat → Bool) (fuel n : Nat) : n ≤ findFree p fuel n := by
  induction fuel generalizing n with
  | zero => simp [findFree]
  | succ f ih =>
    simp only [findFree]
    split
    · exact Nat.le_trans (Nat.le_succ n) (ih (n + 1))
    · exact Nat.le_refl n

/-- If some number in `[n, n+fuel]` is free, the loop stops at a free number (it leaves
through `break`, not because the fuel ran out). -/
theorem findFree_free (p : Nat → Bool) (fuel n : Nat)
    (h : ∃ m, n ≤ m ∧ m ≤ n + fuel ∧ p m = false) : p (findFree p fuel n) = false := by
  induction fuel generalizing n with
  | zero =>
    obtain ⟨m, h1, h2, h3⟩ := h
    have : m = n := by omega
    simpa [findFree, this] using h3
  | succ f ih =>
    simp only [findFree]
    by_cases hp : p n = true
    · simp only [hp, if_true]
      apply ih
      obtain ⟨m, h1, h2, h3⟩ := h
      have : m ≠ n := by intro e; rw [e] at h3; rw [hp] at h3; cases h3
      exact ⟨m, by omega, by omega, h3⟩
    · simp only [hp]
      simpa using hp

theorem findFree_skipped (p : Nat → Bool) (fuel n m : Nat)
    (h1 : n ≤ m) (h2 : m < findFree p fuel n) : p m = true := by
  induction fuel generalizing n with
  | zero => simp [findFree] at h2; omega
  | succ f ih =>
    simp only [findFree] at h2
    by_cases hp : p n = true
    · simp only [hp, if_true] at h2
      by_cases e : m = n
      · rw [e]; exact hp
      · exact ih (n + 1) (by omega) h2
    · simp only [hp] at h2
      simp at h2; omega

/-- Pigeonhole: an injective sequence cannot keep `keys.length + 1` consecutive values
inside `keys`. -/
theorem exists_free {α} [DecidableEq α] (keys : List α) (f : Nat → α)
    (inj : ∀ a b, f a = f b → a = b) (n : Nat) :
    ∃ m, n ≤ m ∧ m ≤ n + keys.length ∧ f m ∉ keys := by
  apply Classical.byContradiction
  intro hno
  have hall : ∀ m, n ≤ m → m ≤ n + keys.length → f m ∈ keys := by
    intro m h1 h2
    apply Classical.byContradiction
    intro hm
    exact hno ⟨m, h1, h2, hm⟩
  let L := (List.range' n (keys.length + 1)).map f
  have hnd : L.Nodup := by
    have := List.nodup_range' (s := n) (n := keys.length + 1)
    simp only [L, List.Nodup] at this ⊢
    rw [List.pairwise_map]
    exact this.imp (fun hab e => hab (inj _ _ e))
  have hsub : L ⊆ keys := by
    intro x hx
    simp only [L, List.mem_map, List.mem_range'_1] at hx
    obtain ⟨m, ⟨h1, h2⟩, rfl⟩ := hx
    exact hall m h1 (by omega)
  have := hnd.length_le_of_subset hsub
  simp [L] at this
  omega

def digitVal (acc d : Nat) : Nat := acc * 10 + (d - 48)

theorem foldl_digitsAux (fuel n : Nat) (acc : List Nat) (h : n < fuel) :
    (digitsAux fuel n acc).foldl digitVal 0 = acc.foldl digitVal n := by
  induction fuel generalizing n acc with
  | zero => omega
  | succ f ih =>
    simp only [digitsAux]
    split
    · simp [List.foldl_cons, digitVal]
    · rw [ih (n / 10) _ (by omega)]
      simp only [List.foldl_cons, digitVal]
      congr 1
      omega

theorem itoa_val (n : Nat) : (itoa n).foldl digitVal 0 = n := by
  simp [itoa, foldl_digitsAux n.succ n [] (Nat.lt_succ_self n)]

theorem itoa_inj (a b : Nat) (h : itoa a = itoa b) : a = b := by
  have := congrArg (List.foldl digitVal 0) h
  simpa [itoa_val] using this

theorem genName_inj (pre : Name) (a b : Nat) (h : genName pre a = genName pre b) : a = b :=
  itoa_inj a b (List.append_cancel_left h)

/-- `symtable` and `revsymtable` are mutually inverse. -/
def Inv (t : Tables) : Prop :=
  ∀ name k, alookup name t.sym = some k ↔ alookup k t.rev = some name

theorem inv_empty : Inv Tables.empty := by
  intro name k; simp [Tables.empty, alookup]

theorem used_false_iff (t : Tables) (k : Nat) : t.used k = false ↔ alookup k t.rev = none := by
  simp [Tables.used]

theorem hasName_false_iff (t : Tables) (n : Name) : t.hasName n = false ↔ alookup n t.sym = none := by
  simp [Tables.hasName]

/-- The skip loop of `MakeSymbol` always ends on an unused number. -/
theorem skip_unused (t : Tables) (c : Nat) :
    alookup (findFree t.used (t.rev.length + 1) c) t.rev = none := by
  rw [← used_false_iff]
  apply findFree_free
  obtain ⟨m, h1, h2, h3⟩ := exists_free (t.rev.map Prod.fst) id (fun _ _ h => h) c
  refine ⟨m, h1, by simp at h2; omega, ?_⟩
  rw [used_false_iff, alookup_none_iff]
  exact h3

/-- The candidate loop of the repaired `GenSymbol` always ends on a name that is not in the
table. -/
theorem gen_candidate_new (t : Tables) (c : Nat) (pre : Name) :
    alookup (genName pre (findFree (fun n => t.hasName (genName pre n)) (t.sym.length + 1) c)) t.sym = none := by
  rw [← hasName_false_iff]
  apply findFree_free (fun n => t.hasName (genName pre n))
  obtain ⟨m, h1, h2, h3⟩ := exists_free (t.sym.map Prod.fst) (genName pre) (genName_inj pre) c
  refine ⟨m, h1, by simp at h2; omega, ?_⟩
  show t.hasName (genName pre m) = false
  rw [hasName_false_iff, alookup_none_iff]
  exact h3

/-- What `makeSymbol` does, as a case split. -/
theorem makeSymbol_cases (t : Tables) (c : Nat) (name : Name) :
    (∃ k, alookup name t.sym = some k ∧ makeSymbol t c name = ⟨t, c, k, name⟩) ∨
    (alookup name t.sym = none ∧ ∃ k, alookup k t.rev = none ∧ c ≤ k ∧
      makeSymbol t c name = ⟨⟨(name, k) :: t.sym, (k, name) :: t.rev⟩, k + 1, k, name⟩) := by
  unfold makeSymbol
  cases h : alookup name t.sym with
  | some k => exact Or.inl ⟨k, rfl, rfl⟩
  | none => exact Or.inr ⟨rfl, _, skip_unused t c, findFree_ge _ _ _, rfl⟩

theorem inv_insert (t : Tables) (name : Name) (k : Nat) (hI : Inv t)
    (hn : alookup name t.sym = none) (hk : alookup k t.rev = none) :
    Inv ⟨(name, k) :: t.sym, (k, name) :: t.rev⟩ := by
  intro n' k'
  simp only [alookup_cons]
  by_cases e1 : n' = name <;> by_cases e2 : k' = k
  · simp [e1, e2]
  · subst e1
    simp only [if_true, e2, if_false]
    constructor
    · intro h; exact absurd (Option.some.inj h).symm e2
    · intro h; rw [← hI] at h; rw [hn] at h; cases h
  · subst e2
    simp only [e1, if_false, if_true]
    constructor
    · intro h; rw [hI] at h; rw [hk] at h; cases h
    · intro h; exact absurd (Option.some.inj h).symm e1
  · simp only [e1, e2, if_false]; exact hI n' k'

/-- In mutually inverse tables one number is bound to one name only. -/
theorem Inv.sym_inj {t : Tables} (hI : Inv t) {n₁ n₂ : Name} {k : Nat}
    (h₁ : alookup n₁ t.sym = some k) (h₂ : alookup n₂ t.sym = some k) : n₁ = n₂ :=
  Option.some.inj (((hI n₁ k).mp h₁).symm.trans ((hI n₂ k).mp h₂))

/-- In mutually inverse tables a bound symbol differs, in number and in name, from any pair of
a number and a name that are both absent. -/
theorem Inv.bound_ne_absent {t : Tables} (hI : Inv t) {n' n : Name} {k' k : Nat}
    (hb : alookup n' t.sym = some k') (hn : alookup n t.sym = none) (hk : alookup k t.rev = none) :
    k' ≠ k ∧ n' ≠ n := by
  constructor
  · intro e
    have := (hI n' k').mp hb
    rw [e, hk] at this; cases this
  · intro e
    rw [e, hn] at hb; cases hb

theorem makeSymbol_inv (t : Tables) (c : Nat) (name : Name) (hI : Inv t) :
    Inv (makeSymbol t c name).tab := by
  rcases makeSymbol_cases t c name with ⟨k, _, e⟩ | ⟨hn, k, hk, _, e⟩
  · rw [e]; exact hI
  · rw [e]; exact inv_insert t name k hI hn hk

/-- Tables only grow: an existing binding is never changed or removed. -/
theorem makeSymbol_mono_sym (t : Tables) (c : Nat) (name n : Name) (k : Nat)
    (h : alookup n t.sym = some k) : alookup n (makeSymbol t c name).tab.sym = some k := by
  rcases makeSymbol_cases t c name with ⟨k', _, e⟩ | ⟨hn, k', _, _, e⟩
  · rw [e]; exact h
  · rw [e]; simp only [alookup_cons]
    have : n ≠ name := by intro e'; rw [e', hn] at h; cases h
    simp [this, h]

theorem makeSymbol_mono_rev (t : Tables) (c : Nat) (name n : Name) (k : Nat)
    (h : alookup k t.rev = some n) : alookup k (makeSymbol t c name).tab.rev = some n := by
  rcases makeSymbol_cases t c name with ⟨k', _, e⟩ | ⟨_, k', hk, _, e⟩
  · rw [e]; exact h
  · rw [e]; simp only [alookup_cons]
    have : k ≠ k' := by intro e'; rw [e', hk] at h; cases h
    simp [this, h]

/-- The symbol handed out is what the table says afterwards, and it has the requested name. -/
theorem makeSymbol_result (t : Tables) (c : Nat) (name : Name) :
    (makeSymbol t c name).name = name ∧
    alookup name (makeSymbol t c name).tab.sym = some (makeSymbol t c name).num := by
  rcases makeSymbol_cases t c name with ⟨k, h, e⟩ | ⟨_, k, _, _, e⟩
  · rw [e]; exact ⟨rfl, h⟩
  · rw [e]; simp [alookup_cons]

theorem makeSymbol_ctr (t : Tables) (c : Nat) (name : Name) : c ≤ (makeSymbol t c name).ctr := by
  rcases makeSymbol_cases t c name with ⟨k, _, e⟩ | ⟨_, k, _, hk, e⟩
  · rw [e]; exact Nat.le_refl c
  · rw [e]; exact Nat.le_succ_of_le hk

/-- `genSymbol` is `makeSymbol` of a name that is not in the table. -/
theorem genSymbol_eq (t : Tables) (c : Nat) (pre : Name) :
    ∃ c' , c ≤ c' ∧ alookup (genName pre c') t.sym = none ∧
      genSymbol t c pre = makeSymbol t c' (genName pre c') :=
  ⟨_, findFree_ge _ _ _, gen_candidate_new t c pre, rfl⟩

/-- Interning a name that the table does not hold hands out a number that it does not hold either. -/
theorem makeSymbol_fresh (t : Tables) (c : Nat) (name : Name) (hn : alookup name t.sym = none) :
    alookup (makeSymbol t c name).num t.rev = none ∧ existedIn t (makeSymbol t c name) = false := by
  rcases makeSymbol_cases t c name with ⟨k, h, _⟩ | ⟨_, k, hk, _, e⟩
  · rw [hn] at h; cases h
  · rw [e]; exact ⟨hk, by simp [existedIn, Tables.hasName, Tables.used, hn, hk]⟩

/-- Freshness at the level of the tables: the generated symbol's name and number were both
absent before the call. -/
theorem genSymbol_new (t : Tables) (c : Nat) (pre : Name) :
    alookup (genSymbol t c pre).name t.sym = none ∧ alookup (genSymbol t c pre).num t.rev = none := by
  obtain ⟨c', _, hn, e⟩ := genSymbol_eq t c pre
  rw [e, (makeSymbol_result t c' _).1]
  exact ⟨hn, (makeSymbol_fresh t c' _ hn).1⟩

/-! ### the family: every operation is (at most) one `makeSymbol` on the shared tables -/

def Obs.sym? : Obs → Option (Nat × Name)
  | .sym k n _ => some (k, n)
  | _ => none

/-- What one step does to the shared tables and what it shows: either nothing is interned
(duplicate, clone, bad member index), or exactly one `makeSymbol` call happens — of the name
asked for, or, for a generation, of a name that was not in the table. Which member acts and
what its counter is only determines the argument `c`. -/
theorem step_shape (F : Family) (op : Op) :
    ((step F op).1.tab = F.tab ∧ (step F op).2.sym? = none) ∨
    ∃ c name, (step F op).1.tab = (makeSymbol F.tab c name).tab ∧
      (step F op).2 = .sym (makeSymbol F.tab c name).num name (existedIn F.tab (makeSymbol F.tab c name)) ∧
      ((∃ i, op = .mk i name ∨ op = .read i name) ∨
        ∃ i pre, op = .gen i pre ∧ alookup name F.tab.sym = none) := by
  cases op with
  | mk i name =>
    simp only [step]
    cases F.mem[i]? with
    | none => exact Or.inl ⟨rfl, rfl⟩
    | some m =>
      refine Or.inr ⟨m.ctr, name, rfl, ?_, Or.inl ⟨i, Or.inl rfl⟩⟩
      simp [applyRes, (makeSymbol_result F.tab m.ctr name).1]
  | gen i pre =>
    simp only [step]
    cases F.mem[i]? with
    | none => exact Or.inl ⟨rfl, rfl⟩
    | some m =>
      obtain ⟨c', _, hn, e⟩ := genSymbol_eq F.tab m.ctr pre
      refine Or.inr ⟨c', genName pre c', ?_, ?_, Or.inr ⟨i, pre, rfl, hn⟩⟩
      · simp [applyRes, e]
      · simp [applyRes, e, (makeSymbol_result F.tab c' (genName pre c')).1]
  | dup i =>
    simp only [step]
    cases F.mem[i]? <;> exact Or.inl ⟨rfl, rfl⟩
  | clone i =>
    simp only [step]
    cases F.mem[i]? <;> exact Or.inl ⟨rfl, rfl⟩
  | read i name =>
    simp only [step]
    cases F.mem[i]? with
    | none => exact Or.inl ⟨rfl, rfl⟩
    | some m =>
      simp only []
      cases F.mem[m.parserOwner]? with
      | none => exact Or.inl ⟨rfl, rfl⟩
      | some o =>
        refine Or.inr ⟨o.ctr, name, rfl, ?_, Or.inl ⟨i, Or.inr rfl⟩⟩
        simp [applyRes, (makeSymbol_result F.tab o.ctr name).1]

theorem run_nil (F : Family) : run F [] = (F, []) := rfl

theorem run_cons (F : Family) (op : Op) (rest : List Op) :
    run F (op :: rest) = ((run (step F op).1 rest).1, (step F op).2 :: (run (step F op).1 rest).2) := rfl

theorem run_append_single (F : Family) (ops : List Op) (op : Op) :
    run F (ops ++ [op]) = ((step (run F ops).1 op).1, (run F ops).2 ++ [(step (run F ops).1 op).2]) := by
  induction ops generalizing F with
  | nil => rfl
  | cons o rest ih => simp only [List.cons_append, run_cons, ih]

/-- Whatever `makeSymbol` keeps of the tables, every operation of every member keeps … -/
theorem step_tab {P : Tables → Prop} (hP : ∀ t c n, P t → P (makeSymbol t c n).tab) (F : Family) (op : Op)
    (h : P F.tab) : P (step F op).1.tab := by
  rcases step_shape F op with ⟨ht, _⟩ | ⟨c, name, ht, _, _⟩ <;> rw [ht]
  · exact h
  · exact hP _ c name h

/-- … and so does every history. -/
theorem run_tab {P : Tables → Prop} (hP : ∀ t c n, P t → P (makeSymbol t c n).tab) (ops : List Op) :
    ∀ F : Family, P F.tab → P (run F ops).1.tab := by
  induction ops with
  | nil => exact fun _ h => h
  | cons op rest ih => exact fun F h => run_cons F op rest ▸ ih _ (step_tab hP F op h)

/-! ### no shadowed entries: the association lists are what the Go maps hold -/

theorem mem_of_alookup {α β} [DecidableEq α] (l : List (α × β)) (a : α) (b : β)
    (h : alookup a l = some b) : (a, b) ∈ l := by
  induction l with
  | nil => cases h
  | cons p r ih =>
    obtain ⟨a', b'⟩ := p
    rw [alookup_cons] at h
    by_cases e : a = a'
    · simp only [e, if_true, Option.some.injEq] at h
      simp [e, h]
    · simp only [e, if_false] at h
      exact List.mem_cons_of_mem _ (ih h)

theorem alookup_of_mem_nodup {α β} [DecidableEq α] (l : List (α × β)) (hnd : (l.map Prod.fst).Nodup)
    (a : α) (b : β) (h : (a, b) ∈ l) : alookup a l = some b := by
  induction l with
  | nil => cases h
  | cons p r ih =>
    obtain ⟨a', b'⟩ := p
    simp only [List.map_cons, List.nodup_cons] at hnd
    rw [alookup_cons]
    rcases List.mem_cons.mp h with e | hin
    · cases e; simp
    · have : a ≠ a' := by
        intro e; apply hnd.1; rw [← e]
        exact List.mem_map.mpr ⟨(a, b), hin, rfl⟩
      simp only [this, if_false]
      exact ih hnd.2 hin

/-- Well-formed tables: mutually inverse, and no key occurs twice (so first-match lookup on
the list and membership in the list say the same thing). -/
structure Wf (t : Tables) : Prop where
  inv : Inv t
  symKeys : (t.sym.map Prod.fst).Nodup
  revKeys : (t.rev.map Prod.fst).Nodup

theorem wf_empty : Wf Tables.empty := ⟨inv_empty, by simp [Tables.empty], by simp [Tables.empty]⟩

theorem wf_insert (t : Tables) (name : Name) (k : Nat) (h : Wf t)
    (hn : alookup name t.sym = none) (hk : alookup k t.rev = none) :
    Wf ⟨(name, k) :: t.sym, (k, name) :: t.rev⟩ := by
  refine ⟨inv_insert t name k h.inv hn hk, ?_, ?_⟩
  · simp only [List.map_cons, List.nodup_cons]
    exact ⟨(alookup_none_iff name t.sym).mp hn, h.symKeys⟩
  · simp only [List.map_cons, List.nodup_cons]
    exact ⟨(alookup_none_iff k t.rev).mp hk, h.revKeys⟩

theorem makeSymbol_wf (t : Tables) (c : Nat) (name : Name) (h : Wf t) : Wf (makeSymbol t c name).tab := by
  rcases makeSymbol_cases t c name with ⟨k, _, e⟩ | ⟨hn, k, hk, _, e⟩
  · rw [e]; exact h
  · rw [e]; exact wf_insert t name k h hn hk

theorem run_wf (F : Family) (ops : List Op) (h : Wf F.tab) : Wf (run F ops).1.tab :=
  run_tab makeSymbol_wf ops F h

end ZygoVerif.SymTab
