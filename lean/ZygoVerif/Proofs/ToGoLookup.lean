/-
Field lookup, model = spec, for EVERY embedding depth.

Model (`fillJsonMap` + `JsonTagMap[key]`): flatten the struct into a table in declaration order
(embedded structs right after the embedded field, each entry with its `EmbedPath`), then take the
LAST entry with the key. Spec (`Spec/RecordGo.lean` `findExact`): search the declarations from the
last to the first, inside an embedded struct before the embedded field itself.

`lookupKey_eq_findExact`: both name the same field (same path, same type) — for every depth budget,
every field list, every path prefix. So the bookkeeping of paths in the flattened table is exactly
"search through embedded structs, the later declaration wins", at depth 0, 1, 2, 3, 4, ….
-/
import ZygoVerif.Proofs.ToGoPaths
import ZygoVerif.Spec.RecordGo
namespace ZygoVerif.ToGoLookup
open ZygoVerif.ToGo ZygoVerif.SpecToGo
open ZygoVerif.ToGoPaths (keyOf embeddedOf block fieldTable_ind)

def proj (e : Entry) : List Nat × Ty := (e.path, e.ty)

/-- what one declaration answers in the spec's search: a field inside it (embedded), else itself -/
def elemRes (w : World) (sub : List Field → String → Option (List Nat × Ty)) (k : String)
    (fi : Field × Nat) : Option (List Nat × Ty) :=
  ((embeddedOf w fi.1).bind (fun d => (sub d.fields k).map (fun r => (fi.2 :: r.1, r.2)))).or
    (if keyOf fi.1 == k then some ([fi.2], fi.1.ty) else none)

theorem searchFields_eq (w : World) (sub : List Field → String → Option (List Nat × Ty)) (k : String) :
    ∀ l, searchFields w sub k l = l.findSome? (elemRes w sub k) := by
  intro l
  induction l with
  | nil => rfl
  | cons fi rest ih =>
    obtain ⟨f, i⟩ := fi
    simp only [searchFields, List.findSome?_cons, elemRes, embeddedOf, keyOf, ih]
    generalize (if (f.tag != "") = true then f.tag else f.name) = key
    cases han : f.anon
    · simp only [Bool.false_eq_true, if_false, Option.bind_none, Option.none_or]
      cases hc : key == k <;> simp
    · simp only [if_true]
      cases hty : f.ty
      case struct s =>
        simp only
        cases hfind : w.find s with
        | none =>
          simp only [Option.bind_none, Option.none_or]
          cases hc : key == k <;> simp
        | some d =>
          simp only [Option.bind_some]
          cases hs : sub d.fields k with
          | none =>
            simp only [Option.map_none, Option.none_or]
            cases hc : key == k <;> simp
          | some r => simp [Option.or]
      all_goals
        simp only [Option.bind_none, Option.none_or]
        cases hc : key == k <;> simp

theorem lookupKey_cons (a : Entry) (l : List Entry) (k : String) :
    lookupKey (a :: l) k = (lookupKey l k).or (if a.key == k then some a else none) := by
  simp only [lookupKey, List.reverse_cons, List.find?_append, List.find?_singleton]

/-- the last entry with the key, in a table made of blocks: look in the last block first -/
theorem lookupKey_flatMap {α} (l : List α) (g : α → List Entry) (k : String) :
    lookupKey (l.flatMap g) k = l.reverse.findSome? (fun x => lookupKey (g x) k) := by
  simp only [lookupKey, List.reverse_flatMap, List.find?_flatMap, Function.comp]

/-- one declaration answers alike in the table and in the spec's search, if the levels below do -/
theorem block_lookup (w : World) (k : String)
    (subm : List Field → List Nat → List Entry) (subs : List Field → String → Option (List Nat × Ty))
    (hsub : ∀ fs' p, (lookupKey (subm fs' p) k).map proj = (subs fs' k).map (fun r => (p ++ r.1, r.2)))
    (pre : List Nat) (fi : Field × Nat) :
    (lookupKey (block w subm pre fi) k).map proj = (elemRes w subs k fi).map (fun r => (pre ++ r.1, r.2)) := by
  rw [block, lookupKey_cons, elemRes, Option.map_or, Option.map_or]
  congr 1
  · cases embeddedOf w fi.1 with
    | none => rfl
    | some d =>
      simp only [Option.elim, Option.bind_some, hsub]
      cases subs d.fields k <;> simp
  · cases keyOf fi.1 == k <;> simp [proj]

/-- `lookupKey_eq_findExact`: for every depth budget `n`, field list and path prefix, the model's
"last entry of the flattened table with this key" and the spec's "search through embedded structs,
later declaration first" name the same field: same path, same type. -/
theorem lookupKey_eq_findExact (w : World) (k : String) : ∀ (n : Nat) (fs : List Field) (pre : List Nat),
    (lookupKey (fieldTable w n fs 0 pre) k).map proj =
      (findExact w (n + 1) fs k).map (fun r => (pre ++ r.1, r.2)) := by
  refine fieldTable_ind w
    (Q := fun m fs pre l => (lookupKey l k).map proj = (findExact w m fs k).map (fun r => (pre ++ r.1, r.2)))
    (fun _ _ => rfl) ?_
  intro m sub hsub fs pre
  rw [lookupKey_flatMap, findExact, searchFields_eq, List.map_findSome?, List.map_findSome?]
  congr 1
  funext fi
  exact block_lookup w k sub (findExact w m) hsub pre fi

/-- key as written, then capitalised: the model's `resolve` and the spec's `findField` agree (the
model's table has one more level of depth budget than the spec's search: 9 against 8 levels). -/
theorem resolve_eq_findField_budget (w : World) (n : Nat) (fs : List Field) (b : List Nat) :
    (resolve (fieldTable w n fs 0 []) b).map proj =
      (if b.isEmpty then none else
        match findExact w (n + 1) fs (bytesToString b) with
        | some r => some r
        | none => findExact w (n + 1) fs (bytesToString (upperFirst b))) := by
  simp only [resolve]
  split
  · rfl
  · have h1 := lookupKey_eq_findExact w (bytesToString b) n fs []
    have h2 := lookupKey_eq_findExact w (bytesToString (upperFirst b)) n fs []
    simp only [List.nil_append] at h1 h2
    have hid : (fun r : List Nat × Ty => (r.1, r.2)) = id := rfl
    rw [hid, Option.map_id, id] at h1 h2
    rw [← h1, ← h2]
    cases lookupKey (fieldTable w n fs 0 []) (bytesToString b) <;> rfl

end ZygoVerif.ToGoLookup
