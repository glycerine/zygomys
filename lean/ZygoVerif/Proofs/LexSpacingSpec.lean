/-
C06 `lex_spacing`: the character-level specification `Spacing.legal` implies the
lexer-level legality `LegalFrom`, and every well-formed specification token is one lexer token
of the expected type. Hence `lex_spacing`: the lexer model reads every legal spacing of a token
sequence as exactly that token sequence. `Tok.wf` is taken apart once per kind of token (`wf_name`, `wf_num`; the two
finite kinds, operators and punctuation, by one evaluation each: `op_facts`, `punct_facts`). `TokForm` lists the shapes a
well-formed token and the piece it is written as can have, and the lemmas from `toPiece_ok` down to `stepOK_of_spec` are
case analyses on it: a new kind of token is a new constructor of `TokForm` and a case in each of them.
-/
import ZygoVerif.Proofs.LexSpacing
import ZygoVerif.Proofs.LexSpacingNames
import ZygoVerif.Model.SpacingTok
namespace ZygoVerif.Lexer
open ZygoVerif.Spacing (Tok)
open ZygoVerif.Spacing.Tok (dotted)

theorem isBlank_eq (c : Char) : Spacing.isBlank c = isBlank c := rfl
theorem isDigit_eq (c : Char) : Spacing.isDigit c = isDig c := rfl

theorem signMayFollow_eq (c : Char) : Spacing.signMayFollow c = canStartSignedNumberAfter c := by
  have h0 : (c.toNat == 0) = (c == '\x00') := by
    by_cases h : c = '\x00'
    · subst h; decide
    · have : c.toNat ≠ 0 := by
        intro hn; apply h
        have := Char.ofNat_toNat c
        rw [hn] at this; exact this.symm
      rw [beq_eq_false_iff_ne.2 this, beq_eq_false_iff_ne.2 h]
  have e1 : "\x00 \t\n\r([{,;:+-*/<>=!&|".toList = '\x00' :: " \t\n\r([{,;:+-*/<>=!&|".toList := by decide +kernel
  simp only [Spacing.signMayFollow, canStartSignedNumberAfter, e1, List.contains_cons, h0]

theorem isDigits_iff (ds : List Char) : Spacing.isDigits ds = true ↔ digitsOK ds := by
  simp only [Spacing.isDigits, Bool.and_eq_true, Bool.not_eq_true', List.all_eq_true, digitsOK, ne_eq]
  constructor
  · rintro ⟨h1, h2⟩; exact ⟨by intro h; rw [h] at h1; simp at h1, h2⟩
  · rintro ⟨h1, h2⟩; exact ⟨by cases ds <;> simp_all, h2⟩

/-- the operator digraphs of the specification cover those of `BuiltinOpRegex` and the comment openers -/
theorem digraph_of_opMerges (o c : Char) (h : opMerges o c = true) : Spacing.digraph o c = true := by
  simp only [opMerges, builtinOpRe, List.any_eq_true] at h
  obtain ⟨x, hx, he⟩ := h
  have he' : x.toList = [o, c] := by simpa using he
  have : builtinOps.all (fun x => x.toList.length != 2 || Spacing.digraphs.contains x.toList) = true := by decide +kernel
  have h2 := List.all_eq_true.1 this x hx
  rw [he'] at h2
  simpa [Spacing.digraph] using h2

theorem digraph_slash : Spacing.digraph '/' '/' = true ∧ Spacing.digraph '/' '*' = true := by decide +kernel

def opPiece (o : List Char) : Piece :=
  match o with
  | ['/'] => .slash
  | [':', '='] => .assign
  | [a] => .op1 a
  | [a, b] => .op2 a b
  | _ => .word []

def toPiece : Tok → Piece
  | .name lead segs => .word (Tok.text (.name lead segs))
  | .num neg ip fp ex => .word (Tok.text (.num neg ip fp ex))
  | .op o => opPiece o
  | .punct c => if c == ',' || c == ';' then .sep c else .brace c

/-! What `Tok.wf` says, kind by kind. The two finite kinds are evaluated once each, with everything asked of them. -/

theorem wf_name {lead : Bool} {segs : List (List Char)} (h : Tok.wf (.name lead segs) = true) :
    segs ≠ [] ∧ (∀ s ∈ segs, Spacing.isIdent s = true) ∧
    (lead = true ∨ segs.length ≥ 2 ∨ Spacing.reservedWords.contains (dotted segs) = false) ∧
    ((dotted segs).drop ((dotted segs).length - 3) == "ULL".toList) = false := by
  simp only [Tok.wf, Bool.and_eq_true, Bool.not_eq_true', List.all_eq_true, Bool.or_eq_true, decide_eq_true_eq] at h
  obtain ⟨⟨⟨h1, h2⟩, h3⟩, h4⟩ := h
  exact ⟨fun he => by rw [he] at h1; simp at h1, h2, or_assoc.1 h3, h4⟩

theorem wf_name_head {lead : Bool} {segs : List (List Char)} (h : Tok.wf (.name lead segs) = true) :
    ∃ c r, dotted segs = c :: r ∧ Spacing.isLetter c = true :=
  dotted_head segs (wf_name h).1 (wf_name h).2.1

theorem wf_num {neg : Bool} {ip : List Char} {fp : Option (List Char)} {ex : Option (Char × List Char)}
    (h : Tok.wf (.num neg ip fp ex) = true) :
    digitsOK ip ∧ (∀ f, fp = some f → digitsOK f) ∧ ∀ s ds, ex = some (s, ds) → (s = '+' ∨ s = '-') ∧ digitsOK ds := by
  simp only [Tok.wf, Bool.and_eq_true] at h
  obtain ⟨⟨h1, h2⟩, h3⟩ := h
  refine ⟨(isDigits_iff ip).1 h1, ?_, ?_⟩
  · rintro f rfl
    exact (isDigits_iff f).1 h2
  · rintro s ds rfl
    simp only [Bool.and_eq_true, Bool.or_eq_true, beq_iff_eq] at h3
    exact ⟨h3.1, (isDigits_iff ds).1 h3.2⟩

theorem wf_num_head {neg : Bool} {ip : List Char} {fp : Option (List Char)} {ex : Option (Char × List Char)}
    (h : Tok.wf (.num neg ip fp ex) = true) : ∃ d r, ip = d :: r ∧ isDig d = true := by
  obtain ⟨⟨hne, hd⟩, -⟩ := wf_num h
  cases ip with
  | nil => exact absurd rfl hne
  | cons d r => exact ⟨d, r, rfl, hd d (by simp)⟩

/-- `Piece.OK` for the pieces of operators, as a test -/
def opPieceOK : Piece → Bool
  | .op1 o => isOpRune o
  | .op2 o c => isOpRune o && opMerges o c
  | .slash => true
  | .assign => true
  | _ => false

theorem opTexts_table : Spacing.opTexts.all (fun o =>
    opPieceOK (opPiece o) && ((opPiece o).text == o) && ((opPiece o).toks == [expTok (.op o)])) = true := by decide +kernel

theorem op_facts (o : List Char) (h : Tok.wf (.op o) = true) :
    opPieceOK (opPiece o) = true ∧ (opPiece o).text = o ∧ (opPiece o).toks = [expTok (.op o)] := by
  simp only [Tok.wf, List.contains_iff_mem] at h
  have := List.all_eq_true.1 opTexts_table o h
  simpa [and_assoc] using this

theorem punct_table : "()[]{},;".toList.all (fun c =>
    (isBrace c || c == ',' || c == ';') && ((toPiece (.punct c)).toks == [expTok (.punct c)])) = true := by decide +kernel

theorem punct_facts (c : Char) (h : Tok.wf (.punct c) = true) :
    (isBrace c = true ∨ c = ',' ∨ c = ';') ∧ (toPiece (.punct c)).toks = [expTok (.punct c)] := by
  simp only [Tok.wf, List.contains_iff_mem] at h
  have := List.all_eq_true.1 punct_table c h
  simpa [or_assoc] using this

/-- a well-formed token and the piece it is written as -/
inductive TokForm : Tok → Piece → Prop
  | word (t : Tok) (hw : t.isWord = true) : TokForm t (.word t.text)
  | op1 (a : Char) (h : isOpRune a = true) : TokForm (.op [a]) (.op1 a)
  | op2 (a b : Char) (h : isOpRune a = true) (hm : opMerges a b = true) : TokForm (.op [a, b]) (.op2 a b)
  | slash : TokForm (.op ['/']) .slash
  | assign : TokForm (.op [':', '=']) .assign
  | brace (c : Char) (h : isBrace c = true) : TokForm (.punct c) (.brace c)
  | sep (c : Char) (h : c = ',' ∨ c = ';') : TokForm (.punct c) (.sep c)

theorem tokForm_of_wf (t : Tok) (h : t.wf = true) : TokForm t (toPiece t) := by
  cases t with
  | name lead segs => exact .word _ rfl
  | num neg ip fp ex => exact .word _ rfl
  | op o =>
    obtain ⟨hok, htext, -⟩ := op_facts o h
    show TokForm (.op o) (opPiece o)
    generalize opPiece o = p at hok htext
    cases p with
    | op1 a => subst htext; exact .op1 a hok
    | op2 a b =>
      subst htext
      rw [opPieceOK, Bool.and_eq_true] at hok
      exact .op2 a b hok.1 hok.2
    | slash => subst htext; exact .slash
    | assign => subst htext; exact .assign
    | _ => cases hok
  | punct c =>
    by_cases hcs : (c == ',' || c == ';') = true
    · rw [show toPiece (.punct c) = .sep c from if_pos hcs]
      exact .sep c (by simpa using hcs)
    · rw [show toPiece (.punct c) = .brace c from if_neg hcs]
      exact .brace c ((punct_facts c h).1.resolve_right fun h' => hcs (by simpa using h'))

theorem toFloatParts_render (neg : Bool) (ip : List Char) (fp : Option (List Char)) (ex : Option (Char × List Char)) :
    (FloatParts.mk neg ip fp ex).render = Tok.text (.num neg ip fp ex) := by
  cases fp <;> cases ex <;> simp [FloatParts.render, FloatParts.mant, Tok.text, fracText, expText]

theorem num_valid (neg : Bool) (ip : List Char) (fp : Option (List Char)) (ex : Option (Char × List Char))
    (h : Tok.wf (.num neg ip fp ex) = true) (hf : (fp.isNone && ex.isNone) = false) :
    (FloatParts.mk neg ip fp ex).Valid := by
  obtain ⟨h1, h2, h3⟩ := wf_num h
  refine ⟨h1, h2, h3, ?_⟩
  cases fp with
  | some f => exact Or.inl rfl
  | none =>
    cases ex with
    | some e => exact Or.inr rfl
    | none => simp at hf

theorem word_of_name {w : List Char} {t : Token} (hn : NameText w) (hd : decodeAtom w = .ok t) :
    WordText w ∧ decodeAtom w = .ok t :=
  ⟨WordText.plain w hn.ne hn.plain ⟨t, hd⟩, hd⟩

theorem word_of_tok (t : Tok) (hw : t.isWord = true) (h : t.wf = true) :
    WordText t.text ∧ decodeAtom t.text = .ok (expTok t) := by
  cases t with
  | name lead segs =>
    obtain ⟨hne, h2, h3, h4⟩ := wf_name h
    have hnt := dotted_nameText segs hne h2
    cases lead with
    | true => exact word_of_name hnt.dot_cons (decodeAtom_leadpath segs hne h2 h4)
    | false =>
      have htext : Tok.text (.name false segs) = dotted segs := rfl
      rw [htext]
      by_cases hl : segs.length ≥ 2
      · have hl1 : (segs.length == 1) = false := by rw [beq_eq_false_iff_ne]; omega
        simpa [expTok, hl1, Tok.text] using word_of_name hnt (decodeAtom_path segs hl h2 h4)
      · match segs, hne, hl with
        | [w], _, _ =>
          have hres : Spacing.reservedWords.contains w = false := by simpa [dotted] using h3
          have hd := decodeAtom_ident w (h2 w (by simp)) hres (by simpa [dotted] using h4)
          exact word_of_name (w := dotted [w]) hnt hd
        | _ :: _ :: _, _, hl => simp at hl
  | num neg ip fp ex =>
    by_cases hf : (fp.isNone && ex.isNone) = true
    · have hfp : fp = none := by cases fp <;> simp_all
      have hex : ex = none := by cases ex <;> simp_all
      subst hfp; subst hex
      simpa [Tok.text, expTok] using wordText_signed_digits neg ip (wf_num h).1
    · have hf' : (fp.isNone && ex.isNone) = false := Bool.eq_false_iff.2 hf
      have hv := num_valid neg ip fp ex h hf'
      have hdec := decodeAtom_floatParts _ hv
      rw [toFloatParts_render] at hdec
      refine ⟨?_, ?_⟩
      · have := WordText.float _ hv
        rwa [toFloatParts_render] at this
      · simpa [expTok, hf'] using hdec
  | op o => simp [Tok.isWord] at hw
  | punct c => simp [Tok.isWord] at hw

theorem toPiece_ok (t : Tok) (h : t.wf = true) : (toPiece t).OK := by
  have hf := tokForm_of_wf t h
  generalize toPiece t = p at hf
  cases hf with
  | word _ hw => exact (word_of_tok t hw h).1
  | op1 a ha => exact ha
  | op2 a b ha hm => exact ⟨ha, hm⟩
  | slash => trivial
  | assign => trivial
  | brace c hc => exact hc
  | sep c hc => exact hc

theorem toPiece_text (t : Tok) (h : t.wf = true) : (toPiece t).text = t.text := by
  have hf := tokForm_of_wf t h
  generalize toPiece t = p at hf
  cases hf <;> rfl

theorem toPiece_toks (t : Tok) (h : t.wf = true) : (toPiece t).toks = [expTok t] := by
  cases t with
  | name lead segs =>
    obtain ⟨hw, hd⟩ := word_of_tok _ rfl h
    exact hw.flush hd
  | num neg ip fp ex =>
    obtain ⟨hw, hd⟩ := word_of_tok _ rfl h
    exact hw.flush hd
  | op o => exact (op_facts o h).2.2
  | punct c => exact (punct_facts c h).2

theorem lastOf_eq_lastAfter (l : Char) (g : List Char) : lastOf l g = Spacing.lastAfter l g := by
  induction g generalizing l with
  | nil => rfl
  | cons c g ih =>
    rw [lastOf_cons, ih]
    show g.getLastD c = (c :: g).getLastD l
    rw [List.getLastD_cons]

theorem lastOf_text (l : Char) (t : Tok) (hne : t.text ≠ []) : lastOf l t.text = t.last := by
  rw [lastOf_eq_lastAfter]
  cases ht : t.text with
  | nil => exact absurd ht hne
  | cons c r =>
    show (c :: r).getLastD l = t.text.getLastD '\x00'
    rw [ht, List.getLastD_cons, List.getLastD_cons]

theorem tok_text_ne_nil (t : Tok) (h : t.wf = true) : t.text ≠ [] := by
  rw [← toPiece_text t h]; exact (toPiece t).text_ne_nil (toPiece_ok t h)

theorem toPiece_first (t : Tok) (h : t.wf = true) : (toPiece t).first = t.first := by
  simp [Piece.first, Tok.first, toPiece_text t h]

theorem lastOf_mem (l c : Char) (g : List Char) : lastOf l (c :: g) ∈ c :: g := by
  rw [lastOf_cons]
  induction g generalizing c with
  | nil => simp
  | cons d g ih => rw [lastOf_cons]; exact List.mem_cons_of_mem _ (ih d)

theorem isE_digit : ∀ c : Char, isDig c = true → isE c = false := isDig_cases _ (by decide)

theorem num_last_digit (neg : Bool) (ip : List Char) (fp : Option (List Char)) (ex : Option (Char × List Char))
    (h : Tok.wf (.num neg ip fp ex) = true) : isDig (Tok.last (.num neg ip fp ex)) = true := by
  by_cases hf : (fp.isNone && ex.isNone) = true
  · have hfp : fp = none := by cases fp <;> simp_all
    have hex : ex = none := by cases ex <;> simp_all
    subst hfp; subst hex
    obtain ⟨⟨hne, hd⟩, -⟩ := wf_num h
    have : Tok.last (.num neg ip none none) = ip.getLast hne := by
      simp only [Tok.last, Tok.text, List.append_nil, List.getLastD_eq_getLast?, List.getLast?_append,
        List.getLast?_eq_some_getLast hne, Option.some_or, Option.getD_some]
    rw [this]; exact hd _ (List.getLast_mem hne)
  · have hf' : (fp.isNone && ex.isNone) = false := Bool.eq_false_iff.2 hf
    have hv := num_valid neg ip fp ex h hf'
    obtain ⟨c, hc, hd⟩ := FloatParts.last_digit _ hv
    rw [toFloatParts_render] at hc
    simp only [Tok.last, List.getLastD_eq_getLast?, hc]
    exact hd

theorem sciPrefix_name (a : List Char) (c : Char) (r : List Char) (ha : a = c :: r)
    (hc : Spacing.isLetter c = true ∨ (c = '.' ∧ ∃ c2 r2, r = c2 :: r2 ∧ Spacing.isLetter c2 = true)) : sciPrefix a = false := by
  subst ha
  have hdl : decimalRe (c :: r).dropLast = false ∧ floatRe (c :: r).dropLast = false := by
    cases r with
    | nil => simp [decimalRe, floatRe, dropMinus, digThenDigU, floatBody]
    | cons d r' =>
      rw [List.dropLast_cons_cons]
      rcases hc with hc | ⟨rfl, c2, r2, hr, hc2⟩
      · obtain ⟨_, _, g3, _, _, _, g7⟩ := letter_facts c hc
        have hdot : c ≠ '.' := (idc_facts c (by simp [idc, hc])).2.2.2.2.1
        exact ⟨decimalRe_head c _ g3 g7, floatRe_head c _ g3 g7 hdot⟩
      · simp only [List.cons.injEq] at hr
        obtain ⟨rfl, rfl⟩ := hr
        obtain ⟨_, _, g3, _, _, _, _⟩ := letter_facts d hc2
        refine ⟨decimalRe_head '.' _ (by decide) (by decide), ?_⟩
        cases r' with
        | nil => simp [floatRe, dropMinus, floatBody, digThenDigU]
        | cons e r'' =>
          rw [List.dropLast_cons_cons]
          simp [floatRe, dropMinus, floatBody, digThenDigU, g3]
  unfold sciPrefix
  cases hl : (c :: r).getLast? with
  | none => simp
  | some x => simp [hdl.1, hdl.2]

/-- a word of the specification is never continued by a following `+` or `-` -/
theorem word_no_sci (t : Tok) (hw : t.isWord = true) (h : t.wf = true) (c : Char) : sciGlues t.text t.last c = false := by
  cases t with
  | name lead segs =>
    obtain ⟨c1, r1, hcr, hc1⟩ := wf_name_head h
    have : sciPrefix (Tok.text (.name lead segs)) = false := by
      cases lead with
      | false => exact sciPrefix_name _ c1 r1 (by simp [Tok.text, hcr]) (Or.inl hc1)
      | true => exact sciPrefix_name _ '.' (c1 :: r1) (by simp [Tok.text, hcr]) (Or.inr ⟨rfl, c1, r1, rfl, hc1⟩)
    simp [sciGlues, this]
  | num neg ip fp ex => simp [sciGlues, isE_digit _ (num_last_digit neg ip fp ex h)]
  | op o => simp [Tok.isWord] at hw
  | punct c => simp [Tok.isWord] at hw

theorem negStart_word (t : Tok) (hw : t.isWord = true) (h : t.wf = true) : negStart t.text = t.isSigned := by
  cases t with
  | name lead segs =>
    obtain ⟨c1, r1, hcr, hc1⟩ := wf_name_head h
    have hm : c1 ≠ '-' := (letter_facts c1 hc1).2.2.2.2.2.2
    cases lead <;> simp [negStart, Tok.text, Tok.isSigned, hcr, hm]
  | num neg ip fp ex =>
    obtain ⟨d, r, rfl, hdd⟩ := wf_num_head h
    have hdm : d ≠ '-' := (isDig_facts d hdd).2.2.2.2.2.2.1
    cases neg <;> simp [negStart, Tok.text, Tok.isSigned, hdm]
  | op o => simp [Tok.isWord] at hw
  | punct c => simp [Tok.isWord] at hw

theorem sciGlues_nil (l c : Char) : sciGlues [] l c = false := by simp [sciGlues, sciPrefix, utf8Len]

/-- a token that starts with a dot is a path with a leading dot: a letter follows -/
theorem tok_dot_start (R : Tok) (hR : R.wf = true) (h : R.first = '.') :
    ∃ x rest, R.text = '.' :: x :: rest ∧ isDig x = false := by
  have hf := tokForm_of_wf R hR
  generalize toPiece R = p at hf
  cases hf with
  | word _ hw =>
    cases R with
    | name lead segs =>
      obtain ⟨c1, r1, hcr, hc1⟩ := wf_name_head hR
      cases lead with
      | true => exact ⟨c1, r1, by simp [Tok.text, hcr], (letter_facts c1 hc1).2.2.1⟩
      | false =>
        have hd : c1 ≠ '.' := (idc_facts c1 (by simp [idc, hc1])).2.2.2.2.1
        simp [Tok.first, Tok.text, hcr] at h
        exact absurd h hd
    | num neg ip fp ex =>
      obtain ⟨d, r, rfl, hdd⟩ := wf_num_head hR
      cases neg <;> simp [Tok.first, Tok.text] at h
      exact absurd h (isDig_ne_dot d hdd)
    | op o => cases hw
    | punct c => cases hw
  | op1 a ha => obtain rfl : a = '.' := h; cases ha
  | op2 a b ha _ => obtain rfl : a = '.' := h; cases ha
  | slash => cases h
  | assign => cases h
  | brace c hc => obtain rfl : c = '.' := h; cases hc
  | sep c hc => obtain rfl : c = '.' := h; rcases hc with hc | hc <;> cases hc

theorem startOK_nil (l : Char) (R : Tok) (hR : R.wf = true)
    (hs : R.isSigned = true → canStartSignedNumberAfter l = true) : startOK [] l (toPiece R) := by
  have hf := tokForm_of_wf R hR
  generalize toPiece R = p at hf
  cases hf with
  | word _ hw => exact ⟨rfl, fun hn => hs (by rw [← negStart_word R hw hR]; exact hn)⟩
  | op1 a _ => exact sciGlues_nil l a
  | op2 a b _ _ => exact sciGlues_nil l a
  | _ => trivial

/-- The rules of the specification give the lexer-level conditions. The situation in which `R` is read is the one the
token `L` leaves (`afterFrom`), whatever the buffer `b` was before `L`; `pb` is the rune before `L`. -/
theorem stepOK_of_spec (b : List Char) (pb : Char) (L : Tok) (hL : L.wf = true)
    (g : List Char) (R : Tok) (hg : g.all Spacing.isBlank = true) (hR : R.wf = true)
    (ht : g = [] → Spacing.tightOK pb L R = true) : stepOK (afterFrom b pb (toPiece L)) g (toPiece R) := by
  have hblank : ∀ c ∈ g, isBlank c = true := fun c hc => (isBlank_eq c) ▸ (List.all_eq_true.1 hg) c hc
  have hl : (afterFrom b pb (toPiece L)).l = L.last := by
    rw [afterFrom_l, toPiece_text L hL, lastOf_text _ L (tok_text_ne_nil L hL)]
  refine ⟨hblank, toPiece_ok R hR, ?_, ?_⟩
  · cases g with
    | cons c g' =>
      exact startOK_nil _ R hR (fun _ => (blank_facts _ (hblank _ (lastOf_mem _ c g'))).1)
    | nil =>
      have ht' := ht rfl
      simp only [Spacing.tightOK, Bool.and_eq_true, Bool.not_eq_true', Bool.or_eq_true] at ht'
      obtain ⟨⟨⟨hW, -⟩, hS⟩, -⟩ := ht'
      have hsigned : R.isSigned = true → canStartSignedNumberAfter L.last = true := by
        intro hsg
        rcases hS with hS | hS
        · rw [hsg] at hS; cases hS
        · rw [← signMayFollow_eq]; exact hS
      rw [lastOf_nil, hl]
      have hfL := tokForm_of_wf L hL
      generalize toPiece L = P at hfL
      cases hfL with
      | word _ hLw =>
        -- the buffer holds the word `L`; `R` is no word
        show startOK L.text L.last (toPiece R)
        have hRw : R.isWord = false := by simpa [hLw] using hW
        have hfR := tokForm_of_wf R hR
        generalize toPiece R = Q at hfR
        cases hfR with
        | word _ hRw' => rw [hRw] at hRw'; cases hRw'
        | op1 a _ => exact word_no_sci L hLw hL a
        | op2 a c _ _ => exact word_no_sci L hLw hL a
        | _ => trivial
      | _ => exact startOK_nil _ R hR hsigned
  · rintro rfl
    have ht' := ht rfl
    simp only [Spacing.tightOK, Bool.and_eq_true, Bool.not_eq_true', Bool.or_eq_true] at ht'
    obtain ⟨⟨⟨-, hD⟩, -⟩, hB⟩ := ht'
    have hfirst : (toPiece R).text.headD '\x00' = R.first := by rw [toPiece_text R hR]; rfl
    unfold noGlue
    simp only [hfirst]
    have hfL := tokForm_of_wf L hL
    generalize toPiece L = P at hfL
    cases hfL with
    | op1 a _ =>
      rw [show Tok.isOp1 (.op [a]) = true from rfl, show Tok.last (.op [a]) = a from rfl, Bool.true_and] at hD
      refine ⟨?_, ?_, ?_⟩
      · rw [Bool.eq_false_iff]; intro hmm
        rw [digraph_of_opMerges a _ hmm] at hD; cases hD
      · simp only [signGlues]
        rw [Bool.eq_false_iff]; intro hsg
        simp only [Bool.and_eq_true, beq_iff_eq] at hsg
        obtain ⟨⟨rfl, hp1⟩, hd⟩ := hsg
        have : (Tok.text (.op ['-']) == ['-'] && Spacing.isDigit R.first && Spacing.signMayFollow pb) = true := by
          rw [signMayFollow_eq, isDigit_eq, hp1, hd]; rfl
        rw [this] at hB; cases hB
      · intro hdg
        simp only [dotGlues, Bool.and_eq_true, beq_iff_eq] at hdg
        rw [toPiece_text R hR]
        exact tok_dot_start R hR hdg.2
    | slash =>
      rw [show Tok.isOp1 (.op ['/']) = true from rfl, show Tok.last (.op ['/']) = '/' from rfl, Bool.true_and] at hD
      refine ⟨?_, ?_, ?_⟩
      · intro he; rw [he, digraph_slash.1] at hD; cases hD
      · intro he; rw [he, digraph_slash.2] at hD; cases hD
      · rw [Bool.eq_false_iff]; intro hmm
        rw [digraph_of_opMerges '/' _ hmm] at hD; cases hD
    | _ => trivial

def toItems (items : List Spacing.Item) : List Item := items.map (fun it => (it.1, toPiece it.2))

theorem legalAfter_legalFrom (items : List Spacing.Item) (b : List Char) (pb : Char) (L : Tok)
    (hL : L.wf = true) (h : Spacing.legalAfter pb L items = true) :
    LegalFrom (afterFrom b pb (toPiece L)) (toItems items) := by
  induction items generalizing b pb L with
  | nil => trivial
  | cons it rest ih =>
    obtain ⟨g, R⟩ := it
    simp only [Spacing.legalAfter, Bool.and_eq_true, Bool.or_eq_true, Bool.not_eq_true'] at h
    obtain ⟨⟨⟨hg, hR⟩, ht⟩, hrest⟩ := h
    refine ⟨stepOK_of_spec b pb L hL g R hg hR ?_, ?_⟩
    · intro hg0
      rcases ht with ht | ht
      · rw [hg0] at ht; cases ht
      · exact ht
    · have hl : (afterFrom b pb (toPiece L)).l = L.last := by
        rw [afterFrom_l, toPiece_text L hL, lastOf_text _ L (tok_text_ne_nil L hL)]
      have := ih (baseOf (afterFrom b pb (toPiece L)) g) _ R hR hrest
      rwa [← hl, ← lastOf_eq_lastAfter] at this

theorem legal_legalFrom (items : List Spacing.Item) (l0 : Char) (h : Spacing.legal l0 items = true) :
    LegalFrom ⟨.norm [], l0⟩ (toItems items) := by
  cases items with
  | nil => trivial
  | cons it rest =>
    obtain ⟨g, R⟩ := it
    simp only [Spacing.legal, Bool.and_eq_true, Bool.or_eq_true, Bool.not_eq_true'] at h
    obtain ⟨⟨⟨hg, hR⟩, hs⟩, hrest⟩ := h
    have hblank : ∀ c ∈ g, isBlank c = true := fun c hc => (isBlank_eq c) ▸ (List.all_eq_true.1 hg) c hc
    refine ⟨⟨hblank, toPiece_ok R hR, ?_, fun _ => trivial⟩, ?_⟩
    · have hb : baseOf ⟨.norm [], l0⟩ g = [] := by cases g <;> rfl
      rw [hb]
      apply startOK_nil _ R hR
      intro hsg
      rcases hs with hs | hs
      · rw [hsg] at hs; cases hs
      · rw [lastOf_eq_lastAfter, ← signMayFollow_eq]; exact hs
    · have := legalAfter_legalFrom rest (baseOf ⟨.norm [], l0⟩ g) _ R hR hrest
      rwa [← lastOf_eq_lastAfter] at this

theorem renderItems_toItems (items : List Spacing.Item) (h : ∀ it ∈ items, it.2.wf = true) :
    renderItems (toItems items) = Spacing.renderItems items := by
  induction items with
  | nil => rfl
  | cons it rest ih =>
    obtain ⟨g, R⟩ := it
    simp only [toItems, List.map_cons, renderItems, Spacing.renderItems]
    rw [toPiece_text R (h (g, R) (by simp))]
    have := ih (fun x hx => h x (by simp [hx]))
    simp only [toItems] at this
    rw [this]

theorem itemToks_toItems (items : List Spacing.Item) (h : ∀ it ∈ items, it.2.wf = true) :
    itemToks (toItems items) = items.map (fun it => expTok it.2) := by
  induction items with
  | nil => rfl
  | cons it rest ih =>
    obtain ⟨g, R⟩ := it
    have := ih (fun x hx => h x (by simp [hx]))
    simp only [itemToks, toItems, List.map_cons, List.flatMap_cons] at this ⊢
    rw [toPiece_toks R (h (g, R) (by simp)), this]
    rfl

theorem legal_wf (l0 : Char) (items : List Spacing.Item) (h : Spacing.legal l0 items = true) : ∀ it ∈ items, it.2.wf = true := by
  have aux : ∀ (items : List Spacing.Item) (pb : Char) (L : Tok), Spacing.legalAfter pb L items = true → ∀ it ∈ items, it.2.wf = true := by
    intro items
    induction items with
    | nil => intro _ _ _ it hit; cases hit
    | cons it rest ih =>
      intro pb L h x hx
      obtain ⟨g, R⟩ := it
      simp only [Spacing.legalAfter, Bool.and_eq_true] at h
      rw [List.mem_cons] at hx
      rcases hx with rfl | hx
      · exact h.1.1.2
      · exact ih _ _ h.2 x hx
  cases items with
  | nil => intro it hit; cases hit
  | cons it rest =>
    obtain ⟨g, R⟩ := it
    simp only [Spacing.legal, Bool.and_eq_true] at h
    intro x hx
    rw [List.mem_cons] at hx
    rcases hx with rfl | hx
    · exact h.1.1.2
    · exact aux rest _ _ h.2 x hx

/-- for every token sequence and every legal spacing of it (`Spec/Spacing.lean`),
the lexer model, started in LexerNormal with an empty buffer after the rune `l0`, reads the
rendered text followed by a blank as exactly the tokens of the sequence, one lexer token of the
expected type per specification token, and is left with nothing pending. The operators are those of
`Spacing.opTexts`: `/=`, which `BuiltinOpRegex` also has, is not among them (`Tok.wf (.op "/=".toList) = false`), so the
theorem says nothing of a text that holds the token `/=`. -/
theorem lex_spacing (items : List Spacing.Item) (l0 c : Char) (hc : Spacing.isBlank c = true)
    (h : Spacing.legal l0 items = true) (T : List Token) :
    Lex ⟨.normal, [], T, l0⟩ (Spacing.renderItems items ++ [c]) ⟨.normal, [], T ++ items.map (fun it => expTok it.2), c⟩ := by
  have hwf := legal_wf l0 items h
  have := lex_spacing_blank (toItems items) T l0 c hc (legal_legalFrom items l0 h)
  rwa [renderItems_toItems items hwf, itemToks_toItems items hwf] at this

end ZygoVerif.Lexer
