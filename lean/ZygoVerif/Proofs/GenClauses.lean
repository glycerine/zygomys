/-
The clauses of the code generator (`Model/Gen.lean`), as equations.

One equation per clause of `compile` and of its seven helpers: what a successful run is, in terms of the runs on the
sub-expressions (`compile_def_ok`, `compileBegin_cons_ok`, … — both directions, so that totality statements are built and
inversions are read off the same lemma); the layout of a `for` loop (`forCode_eq`; from each of its labels on: `lFor`,
`forCode_lay`; the two stored offsets: `forOffs_eq`); in namespace `Bal` a call as one disjunction (`compile_call_ok`) and a
function template over `Bal.allocGs`/`Bal.finishGs`, for any name, the empty one included (`compile_template_ok`,
`compile_fn_ok`, `compile_defn_ok`).

A successful run is written `(compile isFn c e).run gs = .ok r` here and `compile isFn c e gs = Except.ok ((code, t), gs')`
in the statements of C04; the two are the same by unfolding `StateT.run`, so a term of one type is accepted for the other,
while `rw` needs a `show` first.
-/
import ZygoVerif.Model.Gen
namespace ZygoVerif.Sim
open ZygoVerif.Core ZygoVerif.VM

theorem g_pure_ok {α} {a : α} {gs : GS} {r : α × GS} :
    (pure a : G α).run gs = .ok r ↔ r = (a, gs) := by
  show Except.ok (a, gs) = Except.ok r ↔ _
  constructor
  · intro h; injection h with h; exact h.symm
  · intro h; rw [h]

theorem g_bind_ok {α β} {x : G α} {f : α → G β} {gs : GS} {r : β × GS} :
    (x >>= f).run gs = .ok r ↔ ∃ a gs1, x.run gs = .ok (a, gs1) ∧ (f a).run gs1 = .ok r := by
  show (x.run gs >>= fun p => (f p.1).run p.2) = .ok r ↔ _
  cases h : x.run gs with
  | error e => simp [bind, Except.bind]
  | ok p =>
    obtain ⟨a, gs1⟩ := p
    simp only [bind, Except.bind, Except.ok.injEq, Prod.mk.injEq]
    constructor
    · intro h; exact ⟨a, gs1, ⟨rfl, rfl⟩, h⟩
    · rintro ⟨a', gs', ⟨rfl, rfl⟩, h⟩; exact h

theorem g_modify_ok {f : GS → GS} {gs : GS} {r : PUnit × GS} : (modify f : G PUnit).run gs = .ok r ↔ r = (⟨⟩, f gs) :=
  g_pure_ok (a := PUnit.unit) (gs := f gs)

section
variable {isFn : Nat → Bool} {c : Ctx} {gs : GS}

theorem compile_int_run (v : Int) : (compile isFn c (.int v)).run gs = .ok (([.push (intOfLit v)], c.tail), gs) := by
  rw [compile]; rfl
theorem compile_bool_run (b : Bool) : (compile isFn c (.bool b)).run gs = .ok (([.push (.bool b)], c.tail), gs) := by
  rw [compile]; rfl
theorem compile_str_run (x : String) : (compile isFn c (.str x)).run gs = .ok (([.push (.str x)], c.tail), gs) := by
  rw [compile]; rfl
theorem compile_nil_run : (compile isFn c .nilLit).run gs = .ok (([.push .nil], c.tail), gs) := by
  rw [compile]; rfl
theorem compile_sym_run (x : String) : (compile isFn c (.sym x)).run gs = .ok (([.envToStack x], c.tail), gs) := by
  rw [compile]; rfl
theorem compile_begin_nil_run : (compile isFn c (.begin_ [])).run gs = .ok (([.push .nil], c.tail), gs) := by
  rw [compile]; rfl
theorem compile_begin_cons (e : Expr) (es : List Expr) :
    compile isFn c (.begin_ (e :: es)) = compileBegin isFn c (e :: es) := by
  rw [compile]; intro hh; cases hh
theorem compile_newScope_nil_run : (compile isFn c (.newScope [])).run gs = .ok (([.push .nil], false), gs) := by
  rw [compile]; rfl
theorem compile_bad_run (w : String) : (compile isFn c (.bad w)).run gs = .error () := by
  rw [compile]; rfl

variable {r : (List Instr × Bool) × GS}

theorem compile_arr_ok {es : List Expr} : (compile isFn c (.arr es)).run gs = .ok r ↔
    ∃ ra g1, (compileAll isFn { c with tail := false } es).run gs = .ok (ra, g1) ∧
      r = ((ra.1 ++ [.callArr es.length], c.tail), g1) := by
  rw [compile]; simp only [g_bind_ok, g_pure_ok]

theorem compile_def_ok {x : String} {e : Expr} : (compile isFn c (.def_ x e)).run gs = .ok r ↔
    ∃ ra g1, (compile isFn { c with tail := false } e).run gs = .ok (ra, g1) ∧
      r = ((ra.1 ++ [.dup, .popStackPutEnv x], false), g1) := by
  rw [compile]; simp only [g_bind_ok, g_pure_ok]

theorem compile_set_ok {x : String} {e : Expr} : (compile isFn c (.set_ x e)).run gs = .ok r ↔
    ∃ ra g1, (compile isFn { c with tail := false } e).run gs = .ok (ra, g1) ∧
      r = ((ra.1 ++ [.dup, .update x], false), g1) := by
  rw [compile]; simp only [g_bind_ok, g_pure_ok]

theorem compile_cond_ok {arms : List (Expr × Expr)} {d : Expr} : (compile isFn c (.cond arms d)).run gs = .ok r ↔
    ∃ rd g1, (compile isFn c d).run gs = .ok (rd, g1) ∧ ∃ as g2, (compileArms isFn c arms).run g1 = .ok (as, g2) ∧
      r = ((asmCond as rd.1, c.tail), g2) := by
  rw [compile]; simp only [g_bind_ok, g_pure_ok]

theorem compile_and_ok {es : List Expr} : (compile isFn c (.and_ es)).run gs = .ok r ↔
    ∃ cs g1, (compileSC isFn c es).run gs = .ok (cs, g1) ∧ r = ((asmSC false cs, c.tail), g1) := by
  rw [compile]; simp only [g_bind_ok, g_pure_ok]

theorem compile_or_ok {es : List Expr} : (compile isFn c (.or_ es)).run gs = .ok r ↔
    ∃ cs g1, (compileSC isFn c es).run gs = .ok (cs, g1) ∧ r = ((asmSC true cs, c.tail), g1) := by
  rw [compile]; simp only [g_bind_ok, g_pure_ok]

theorem compile_let_ok {seq : Bool} {bs : List (String × Expr)} {body : List Expr} :
    (compile isFn c (.let_ seq bs body)).run gs = .ok r ↔
    ∃ rr g1, (compileBinds isFn { c with scopes := c.scopes + 1, tail := false } seq bs).run gs = .ok (rr, g1) ∧
      ∃ rb g2, (compileBegin isFn { c with scopes := c.scopes + 1 } body).run g1 = .ok (rb, g2) ∧
        r = (([.addScope] ++ rr.1 ++ (if seq then [] else (bs.map (fun p => Instr.popStackPutEnv p.1)).reverse) ++ rb.1
              ++ [.removeScope], rb.2), g2) := by
  rw [compile]; simp only [g_bind_ok, g_pure_ok]

theorem compile_newScope_cons_ok {e : Expr} {es : List Expr} : (compile isFn c (.newScope (e :: es))).run gs = .ok r ↔
    ∃ rn g1, (compileNewScope isFn { c with scopes := c.scopes + 1 } c.tail (e :: es)).run gs = .ok (rn, g1) ∧
      r = (([.addScope] ++ rn.1 ++ [.removeScope], rn.2), g1) := by
  rw [compile]
  · simp only [g_bind_ok, g_pure_ok]
  · intro hh; cases hh

theorem compile_assign_ok {l e : Expr} : (compile isFn c (.assign l e)).run gs = .ok r ↔
    ∃ ra g1, (compile isFn { c with tail := false } l).run gs = .ok (ra, g1) ∧
      ∃ rb g2, (compile isFn { c with tail := false } e).run g1 = .ok (rb, g2) ∧
        r = ((ra.1 ++ rb.1 ++ [.assign], false), g2) := by
  rw [compile]; simp only [g_bind_ok, g_pure_ok]

/-- a call with a computed callee is one instruction; the callee is compiled when the instruction runs -/
theorem compile_call_nonsym (isFn : Nat → Bool) (c : Ctx) {f : Expr} (args : List Expr) (gs : GS) (hns : ∀ x, f ≠ .sym x) :
    (compile isFn c (.call f args)).run gs = .ok (([.callExpr f args], c.tail), gs) := by
  cases f with
  | sym x => exact absurd rfl (hns x)
  | _ => rw [compile] <;> first | rfl | (intro _ hh; cases hh)

theorem compileAll_nil_run : (compileAll isFn c []).run gs = .ok (([], c.tail), gs) := by rw [compileAll]; rfl

theorem compileAll_cons_ok {e : Expr} {es : List Expr} : (compileAll isFn c (e :: es)).run gs = .ok r ↔
    ∃ ra g1, (compile isFn c e).run gs = .ok (ra, g1) ∧
      ∃ rb g2, (compileAll isFn { c with tail := ra.2 } es).run g1 = .ok (rb, g2) ∧ r = ((ra.1 ++ rb.1, rb.2), g2) := by
  rw [compileAll]; simp only [g_bind_ok, g_pure_ok]

theorem compileBegin_nil_run : (compileBegin isFn c []).run gs = .ok (([], false), gs) := by rw [compileBegin]; rfl

theorem compileBegin_one (e : Expr) : compileBegin isFn c [e] = compile isFn c e := by rw [compileBegin]

theorem compileBegin_cons_ok {e e' : Expr} {es : List Expr} : (compileBegin isFn c (e :: e' :: es)).run gs = .ok r ↔
    ∃ ra g1, (compile isFn { c with tail := false } e).run gs = .ok (ra, g1) ∧
      ∃ rb g2, (compileBegin isFn c (e' :: es)).run g1 = .ok (rb, g2) ∧
        r = ((ra.1 ++ (if ra.1.isEmpty then [] else [.pop]) ++ rb.1, rb.2), g2) := by
  rw [compileBegin]
  · simp only [g_bind_ok, g_pure_ok]
  · intro hh; cases hh

/-- The code of a statement list is `asmBegin` of the codes of its statements: `compileBegin` assembles it in line, a
`pop` behind every statement but the last that produced code. (`asmCond`, `asmSC`, `asmFor` are called by `compile` itself.) -/
theorem compileBegin_asm : ∀ {es : List Expr} {gs : GS} {r : (List Instr × Bool) × GS},
    (compileBegin isFn c es).run gs = .ok r →
    ∃ cs : List (List Instr), r.1.1 = asmBegin cs ∧ cs.length = es.length ∧
      ∀ p ∈ es.zip cs, ∃ c' g r', (compile isFn c' p.1).run g = .ok r' ∧ r'.1.1 = p.2
  | [], gs, r, h => by rw [compileBegin_nil_run] at h; cases h; exact ⟨[], rfl, rfl, fun _ hp => nomatch hp⟩
  | [e], gs, r, h => by
    rw [compileBegin_one] at h
    exact ⟨[r.1.1], rfl, rfl, fun p hp => by rw [List.mem_singleton.mp hp]; exact ⟨c, gs, r, h, rfl⟩⟩
  | e :: e' :: es, gs, r, h => by
    obtain ⟨ra, g1, ha, rb, g2, hb, rfl⟩ := compileBegin_cons_ok.mp h
    obtain ⟨cs, hcs, hlen, hall⟩ := compileBegin_asm hb
    cases cs with
    | nil => cases hlen
    | cons c1 cs =>
      refine ⟨ra.1 :: c1 :: cs, ?_, by simpa using hlen, fun p hp => ?_⟩
      · rw [asmBegin, ← hcs]
        intro hh; cases hh
      · rcases List.mem_cons.mp hp with rfl | hp
        · exact ⟨_, gs, _, ha, rfl⟩
        · exact hall p hp
theorem compileNewScope_nil_run {ot : Bool} : (compileNewScope isFn c ot []).run gs = .ok (([], false), gs) := by
  rw [compileNewScope]; rfl

theorem compileNewScope_one (ot : Bool) (e : Expr) : compileNewScope isFn c ot [e] = compile isFn { c with tail := ot } e := by
  rw [compileNewScope]

theorem compileNewScope_cons_ok {ot : Bool} {e e' : Expr} {es : List Expr} :
    (compileNewScope isFn c ot (e :: e' :: es)).run gs = .ok r ↔
    ∃ ra g1, (compile isFn { c with tail := false } e).run gs = .ok (ra, g1) ∧
      ∃ rb g2, (compileNewScope isFn c ot (e' :: es)).run g1 = .ok (rb, g2) ∧ r = ((ra.1 ++ [.pop] ++ rb.1, rb.2), g2) := by
  rw [compileNewScope]
  · simp only [g_bind_ok, g_pure_ok]
  · intro hh; cases hh

theorem compileBinds_nil_run {seq : Bool} : (compileBinds isFn c seq []).run gs = .ok (([], c.tail), gs) := by
  rw [compileBinds]; rfl

theorem compileBinds_cons_ok {seq : Bool} {x : String} {e : Expr} {bs : List (String × Expr)} :
    (compileBinds isFn c seq ((x, e) :: bs)).run gs = .ok r ↔
    ∃ ra g1, (compile isFn c e).run gs = .ok (ra, g1) ∧
      ∃ rb g2, (compileBinds isFn { c with tail := ra.2 } seq bs).run g1 = .ok (rb, g2) ∧
        r = ((ra.1 ++ (if seq then [.popStackPutEnv x] else []) ++ rb.1, rb.2), g2) := by
  rw [compileBinds]; simp only [g_bind_ok, g_pure_ok]

theorem compileArms_nil_run : (compileArms isFn c []).run gs = .ok ([], gs) := by rw [compileArms]; rfl

theorem compileArms_cons_ok {p b : Expr} {arms : List (Expr × Expr)} {r : List (List Instr × List Instr) × GS} :
    (compileArms isFn c ((p, b) :: arms)).run gs = .ok r ↔
    ∃ rr g1, (compileArms isFn c arms).run gs = .ok (rr, g1) ∧
      ∃ rp g2, (compile isFn { c with tail := false } p).run g1 = .ok (rp, g2) ∧
        ∃ rb g3, (compile isFn c b).run g2 = .ok (rb, g3) ∧ r = ((rp.1, rb.1) :: rr, g3) := by
  rw [compileArms]; simp only [g_bind_ok, g_pure_ok]

theorem compileSC_nil_run : (compileSC isFn c []).run gs = .ok ([], gs) := by rw [compileSC]; rfl

theorem compileSC_one_ok {e : Expr} {r : List (List Instr) × GS} : (compileSC isFn c [e]).run gs = .ok r ↔
    ∃ ra g1, (compile isFn c e).run gs = .ok (ra, g1) ∧ r = ([ra.1], g1) := by
  rw [compileSC]; simp only [g_bind_ok, g_pure_ok]

theorem compileSC_cons_ok {e e' : Expr} {es : List Expr} {r : List (List Instr) × GS} :
    (compileSC isFn c (e :: e' :: es)).run gs = .ok r ↔
    ∃ rr g1, (compileSC isFn c (e' :: es)).run gs = .ok (rr, g1) ∧
      ∃ ra g2, (compile isFn { c with tail := false } e).run g1 = .ok (ra, g2) ∧ r = (ra.1 :: rr, g2) := by
  rw [compileSC]
  · simp only [g_bind_ok, g_pure_ok]
  · intro hh; cases hh

theorem compile_break_ok {l : Option String} {r : (List Instr × Bool) × GS} : (compile isFn c (.break_ l)).run gs = .ok r ↔
    ∃ id, findLoop gs l = some id ∧ r = (([.brk id (c.scopes - ((gs.loops.getD id {}).scopeDepth + 1))], c.tail), gs) := by
  rw [compile]
  show (match findLoop gs l with | none => throw () | some id => pure _ : G _).run gs = _ ↔ _
  cases findLoop gs l with
  | none => exact ⟨fun h => (nomatch h), fun ⟨_, h, _⟩ => (nomatch h)⟩
  | some id => simp only [g_pure_ok, Option.some.injEq, exists_eq_left']

theorem compile_continue_ok {l : Option String} {r : (List Instr × Bool) × GS} : (compile isFn c (.continue_ l)).run gs = .ok r ↔
    ∃ id, findLoop gs l = some id ∧ r = (([.cont id (c.scopes - ((gs.loops.getD id {}).scopeDepth + 1))], c.tail), gs) := by
  rw [compile]
  show (match findLoop gs l with | none => throw () | some id => pure _ : G _).run gs = _ ↔ _
  cases findLoop gs l with
  | none => exact ⟨fun h => (nomatch h), fun ⟨_, h, _⟩ => (nomatch h)⟩
  | some id => simp only [g_pure_ok, Option.some.injEq, exists_eq_left']

/-- `GenerateForLoop` on entry: a fresh `Loop` record (label, `gen.scopes`) appended to the table and pushed on
`env.loopstack` -/
def forGs (gs : GS) (c : Ctx) (label : Option String) : GS :=
  { gs with loops := gs.loops ++ [({ label, scopeDepth := c.scopes } : LoopRec)], loopstack := gs.loops.length :: gs.loopstack }
/-- … and on exit: break and continue offsets stored in the loop's record, `defer env.loopstack.Pop()` -/
def forDone (g5 : GS) (loop : Nat) (brk cont : Int) : GS :=
  { g5 with loopstack := g5.loopstack.drop 1,
            loops := g5.loops.set loop ({ (g5.loops.getD loop {}) with breakOff := brk, contOff := cont } : LoopRec) }
/-- the instructions `GenerateForLoop` emits: initialiser, increment and body each end in `popUntilMark` -/
def forCode (loop : Nat) (i t s b : List Instr) : List Instr :=
  (asmFor loop (i ++ [.popUntilMark loop]) t (s ++ [.popUntilMark loop]) (b ++ [.popUntilMark loop])).1

theorem compile_for_eq (isFn : Nat → Bool) (c : Ctx) (label : Option String) (init test incr : Expr) (body : List Expr) (gs : GS) :
    (compile isFn c (.for_ label init test incr body)).run gs =
      match (compileBegin isFn { c with tail := false, scopes := c.scopes + 1 } body).run (forGs gs c label) with
      | .error _ => .error ()
      | .ok (rb, g2) => match (compile isFn { c with tail := false, scopes := c.scopes + 1 } init).run g2 with
        | .error _ => .error ()
        | .ok (ri, g3) => match (compile isFn { c with tail := false, scopes := c.scopes + 1 } test).run g3 with
          | .error _ => .error ()
          | .ok (rt, g4) => match (compile isFn { c with tail := false, scopes := c.scopes + 1 } incr).run g4 with
            | .error _ => .error ()
            | .ok (rs, g5) =>
              .ok ((forCode gs.loops.length ri.1 rt.1 rs.1 rb.1, c.tail),
                   forDone g5 gs.loops.length
                     (asmFor gs.loops.length (ri.1 ++ [.popUntilMark gs.loops.length]) rt.1
                      (rs.1 ++ [.popUntilMark gs.loops.length]) (rb.1 ++ [.popUntilMark gs.loops.length])).2.1
                     (asmFor gs.loops.length (ri.1 ++ [.popUntilMark gs.loops.length]) rt.1
                      (rs.1 ++ [.popUntilMark gs.loops.length]) (rb.1 ++ [.popUntilMark gs.loops.length])).2.2) := by
  rw [compile]
  simp only [bind, StateT.bind, StateT.run, get, getThe, MonadStateOf.get, StateT.get, pure, Except.pure, Except.bind,
    set, StateT.set, StateT.pure]
  unfold forGs forDone forCode
  cases compileBegin isFn { scopes := c.scopes + 1, funcname := c.funcname, known := c.known } body
      { fns := gs.fns, loops := gs.loops ++ [{ label := label, scopeDepth := c.scopes }],
        loopstack := gs.loops.length :: gs.loopstack, live := gs.live } with
  | error e => rfl
  | ok vb =>
    obtain ⟨rb, g2⟩ := vb
    simp only
    cases compile isFn { scopes := c.scopes + 1, funcname := c.funcname, known := c.known } init g2 with
    | error e => rfl
    | ok vi =>
      obtain ⟨ri, g3⟩ := vi
      simp only
      cases compile isFn { scopes := c.scopes + 1, funcname := c.funcname, known := c.known } test g3 with
      | error e => rfl
      | ok vt =>
        obtain ⟨rt, g4⟩ := vt
        simp only
        cases compile isFn { scopes := c.scopes + 1, funcname := c.funcname, known := c.known } incr g4 with
        | error e => rfl
        | ok vs =>
          obtain ⟨rs, g5⟩ := vs
          rfl

/-- the two offsets `GenerateForLoop` stores in the loop record -/
def forOffs (loop : Nat) (i t s b : List Instr) : Int × Int :=
  (asmFor loop (i ++ [.popUntilMark loop]) t (s ++ [.popUntilMark loop]) (b ++ [.popUntilMark loop])).2

/-- the two offsets, computed: `break` lands on the `clearMark` behind the final label, `continue` on the label in
front of the increment -/
theorem forOffs_eq (L : Nat) (i t s b : List Instr) :
    forOffs L i t s b = (((i.length + s.length + t.length + b.length + 14 : Nat) : Int), ((i.length + 6 : Nat) : Int)) := by
  unfold forOffs asmFor
  simp only [List.length_append, List.length_cons, List.length_nil]
  refine Prod.ext ?_ ?_ <;> (simp only; omega)

theorem compile_for_ok {label init test incr body} {r : (List Instr × Bool) × GS} :
    (compile isFn c (.for_ label init test incr body)).run gs = .ok r ↔
    ∃ rb g2, (compileBegin isFn { c with tail := false, scopes := c.scopes + 1 } body).run (forGs gs c label) = .ok (rb, g2) ∧
    ∃ ri g3, (compile isFn { c with tail := false, scopes := c.scopes + 1 } init).run g2 = .ok (ri, g3) ∧
    ∃ rt g4, (compile isFn { c with tail := false, scopes := c.scopes + 1 } test).run g3 = .ok (rt, g4) ∧
    ∃ rs g5, (compile isFn { c with tail := false, scopes := c.scopes + 1 } incr).run g4 = .ok (rs, g5) ∧
      r = ((forCode gs.loops.length ri.1 rt.1 rs.1 rb.1, c.tail),
           forDone g5 gs.loops.length (forOffs gs.loops.length ri.1 rt.1 rs.1 rb.1).1 (forOffs gs.loops.length ri.1 rt.1 rs.1 rb.1).2) := by
  rw [compile_for_eq]
  constructor
  · intro h
    split at h
    · cases h
    · rename_i rb g2 hb
      split at h
      · cases h
      · rename_i ri g3 hi
        split at h
        · cases h
        · rename_i rt g4 ht
          split at h
          · cases h
          · rename_i rs g5 hs
            injection h with h
            exact ⟨rb, g2, hb, ri, g3, hi, rt, g4, ht, rs, g5, hs, h.symm⟩
  · rintro ⟨rb, g2, hb, ri, g3, hi, rt, g4, ht, rs, g5, hs, rfl⟩
    simp only [hb, hi, ht, hs]
    rfl

/-- the layout `GenerateForLoop` produces, with the offsets computed -/
theorem forCode_eq (L : Nat) (i t s b : List Instr) : forCode L i t s b =
    [.loopStart L, .addScope, .pushMark L, .label] ++ i ++ [.popUntilMark L, .jump ((s.length : Int) + 3), .label]
      ++ s ++ [.popUntilMark L, .label] ++ t ++ [.branch false ((b.length : Int) + 4), .label] ++ b
      ++ [.popUntilMark L, .jump (-((s.length : Int) + t.length + b.length + 6)), .label,
          .clearMark L, .removeScope, .push .nil] := by
  unfold forCode
  simp only [asmFor, List.length_append, List.length_cons, List.length_nil, List.append_assoc, List.cons_append,
    List.nil_append]
  have h1 : ((s.length + (0 + 1) : Nat) : Int) + 2 = (s.length : Int) + 3 := by push_cast; omega
  have h2 : ((b.length + (0 + 1) : Nat) : Int) + 3 = (b.length : Int) + 4 := by push_cast; omega
  have h3 : ((i.length + (0 + 1 + 1) + 1 + 1 + 1 + 1 : Nat) : Int)
      - ((i.length + (s.length + (t.length + (b.length + (0 + 1) + 1 + 1) + 1 + 1) + 1 + 1 + 1) + 1 + 1 + 1 + 1 : Nat) : Int)
      = -((s.length : Int) + t.length + b.length + 6) := by push_cast; omega
  rw [h1, h2, h3]

/-! The same layout from each of its labels on: what a jump to that label finds in front of it, whatever follows the loop. -/

/-- the code of a loop from its end label on -/
def lEnd (L : Nat) (post : List Instr) : List Instr := .label :: .clearMark L :: .removeScope :: .push .nil :: post

/-- … from its test label on: the test, the exit branch, the body, the back jump -/
def lTest (L : Nat) (cs ct cb post : List Instr) : List Instr :=
  .label :: (ct ++ (.branch false ((cb.length : Int) + 4) :: .label :: (cb ++ (.popUntilMark L
    :: .jump (-((cs.length : Int) + ct.length + cb.length + 6)) :: lEnd L post))))

/-- … from its `continue` label on: the increment first -/
def lCont (L : Nat) (cs ct cb post : List Instr) : List Instr := .label :: (cs ++ (.popUntilMark L :: lTest L cs ct cb post))

/-- the whole loop and what follows it -/
def lFor (L : Nat) (ci cs ct cb post : List Instr) : List Instr :=
  .loopStart L :: .addScope :: .pushMark L :: .label :: (ci ++ (.popUntilMark L :: .jump ((cs.length : Int) + 3)
    :: lCont L cs ct cb post))

theorem forCode_lay (L : Nat) (ci ct cs cb post : List Instr) : forCode L ci ct cs cb ++ post = lFor L ci cs ct cb post := by
  rw [forCode_eq]
  simp only [lFor, lCont, lTest, lEnd, List.append_assoc, List.cons_append, List.nil_append]

theorem lFor_length (L : Nat) (ci cs ct cb post : List Instr) :
    (lFor L ci cs ct cb post).length = ci.length + cs.length + ct.length + cb.length + 17 + post.length := by
  simp only [lFor, lCont, lTest, lEnd, List.length_cons, List.length_append]; omega

theorem forCode_length (L : Nat) (ci ct cs cb : List Instr) :
    (forCode L ci ct cs cb).length = ci.length + cs.length + ct.length + cb.length + 17 := by
  have := congrArg List.length (forCode_lay L ci ct cs cb [])
  rwa [List.append_nil, lFor_length] at this

theorem forCode_lFor (L : Nat) (i t s b : List Instr) : forCode L i t s b = lFor L i s t b [] := by
  rw [← forCode_lay, List.append_nil]

end

section
variable {isFn : Nat → Bool} {c : Ctx} {gs : GS}

/-- the self tail call of `GenerateCallBySymbol` (fix C09-02): the guard that looks the name up first, the operands
inline, `prepareCall`, one `removeScope` per open scope and the function scope, re-entry at instruction 0 — and
behind the jump the ordinary call the guard skips to -/
def tailCode (h : String) (sc : Nat) (args : List Expr) (code : List Instr) : List Instr :=
  [.tailGuard h (code.length + sc + 4)] ++ code ++ [.prepareCall h args.length] ++ List.replicate (sc + 1) .removeScope
    ++ [.goto 0, .callExpr (.sym h) args]

/-- `gen.knownFunctions[h]`, as far as the template is in the table already -/
def knownFn (c : Ctx) (gs : GS) (h : String) : Option FnObj := (c.known.lookup h).bind (fun t => gs.fns[t]?)

/-- a self call with the wrong number of operands is compiled as an ordinary call (fix C04-04) -/
def arityOk (f : Option FnObj) (n : Nat) : Bool :=
  match f with
  | some fo => if fo.varargs then decide (fo.nargs ≤ n) else n == fo.nargs
  | none => true

theorem compile_call_eq (isFn : Nat → Bool) (c : Ctx) (h : String) (args : List Expr) (gs : GS) :
    (compile isFn c (.call (.sym h) args)).run gs =
      if (c.tail && h == c.funcname) = true ∧ arityOk (knownFn c gs h) args.length = true then
        (match (compileCallArgs isFn { c with tail := false } (knownFn c gs h) 0 args).run gs with
         | .ok (code, gs') => .ok ((tailCode h c.scopes args code, c.tail), gs')
         | .error e => .error e)
      else .ok (([.callExpr (.sym h) args], c.tail), gs) := by
  rw [compile]
  by_cases h1 : (c.tail && h == c.funcname) = true
  · simp only [h1, if_true, true_and]
    simp only [bind, StateT.bind, StateT.run, get, getThe, MonadStateOf.get, StateT.get, pure, Except.pure, Except.bind]
    unfold knownFn
    generalize (List.lookup h c.known).bind (fun t => gs.fns[t]?) = f
    have key : (StateT.bind (compileCallArgs isFn { c with tail := false } f 0 args)
          (fun code => StateT.pure ([Instr.tailGuard h (code.length + c.scopes + 4)] ++ code ++ [Instr.prepareCall h args.length] ++
                  List.replicate (c.scopes + 1) Instr.removeScope ++ [Instr.goto 0, Instr.callExpr (Expr.sym h) args], c.tail))) gs
        = (match compileCallArgs isFn { c with tail := false } f 0 args gs with
             | .ok (code, gs') => .ok ((tailCode h c.scopes args code, c.tail), gs')
             | .error e => .error e) := by
      unfold StateT.bind tailCode
      cases compileCallArgs isFn { c with tail := false } f 0 args gs with
      | ok v => rfl
      | error e => rfl
    have push : ∀ (b : Bool) (F G : GS → Except Unit ((List Instr × Bool) × GS)),
        (if b = true then F else G) gs = if b = true then F gs else G gs := by
      intro b F G; cases b <;> rfl
    rw [push, key]
    cases f with
    | none => rfl
    | some fo => rfl
  · simp only [h1]
    rfl

theorem compileCallArgs_nil_run {f : Option FnObj} {i : Nat} : (compileCallArgs isFn c f i []).run gs = .ok ([], gs) := by
  rw [compileCallArgs.eq_def]; rfl

theorem compileCallArgs_cons_run {isFn : Nat → Bool} {c : Ctx} {f : Option FnObj} {i : Nat} {e : Expr} {es : List Expr}
    {gs : GS} {r : List Instr × GS} (hl : ∀ fo, f = some fo → fo.isLazyCallArg i = false) :
    (compileCallArgs isFn c f i (e :: es)).run gs = .ok r ↔
      ∃ ra g1 rb, (compile isFn c e).run gs = .ok (ra, g1) ∧ (compileCallArgs isFn c f (i + 1) es).run g1 = .ok (rb, r.2)
        ∧ r.1 = ra.1 ++ rb := by
  rw [compileCallArgs.eq_def]
  have key : (do let a ← (do let (a, _) ← compile isFn c e; pure a : G (List Instr))
                 let b ← compileCallArgs isFn c f (i + 1) es
                 pure (a ++ b) : G (List Instr)).run gs = .ok r ↔
      ∃ ra g1 rb, (compile isFn c e).run gs = .ok (ra, g1) ∧ (compileCallArgs isFn c f (i + 1) es).run g1 = .ok (rb, r.2)
        ∧ r.1 = ra.1 ++ rb := by
    simp only [g_bind_ok, g_pure_ok]
    constructor
    · rintro ⟨a, g1, ⟨ra, g1', h1, h2⟩, b, g2, h3, h4⟩
      obtain ⟨rfl, rfl⟩ := Prod.mk.inj h2
      subst h4
      exact ⟨ra, _, b, h1, h3, rfl⟩
    · rintro ⟨ra, g1, rb, h1, h2, h3⟩
      exact ⟨ra.1, g1, ⟨ra, g1, h1, rfl⟩, rb, r.2, h2, by rw [← h3]⟩
  cases f with
  | none => simpa using key
  | some fo =>
    have := hl fo rfl
    simpa [this] using key

/-- an operand in a lazy position: only the instruction that makes the lazy argument object -/
theorem compileCallArgs_cons_lazy {isFn : Nat → Bool} {c : Ctx} {fo : FnObj} {i : Nat} {e : Expr} {es : List Expr}
    {gs : GS} {r : List Instr × GS} (hl : fo.isLazyCallArg i = true) :
    (compileCallArgs isFn c (some fo) i (e :: es)).run gs = .ok r ↔
      ∃ rb, (compileCallArgs isFn c (some fo) (i + 1) es).run gs = .ok (rb, r.2) ∧ r.1 = [.pushLazy e] ++ rb := by
  rw [compileCallArgs.eq_def]
  simp only [hl, if_true, g_bind_ok, g_pure_ok]
  constructor
  · rintro ⟨a, g1, h1, b, g2, h3, h4⟩
    obtain ⟨rfl, rfl⟩ := Prod.mk.inj h1
    subst h4
    exact ⟨b, h3, rfl⟩
  · rintro ⟨rb, h2, h3⟩
    exact ⟨_, _, rfl, rb, r.2, h2, by rw [← h3]⟩

theorem lazyArg_cases (f : Option FnObj) (i : Nat) :
    (∃ fo, f = some fo ∧ fo.isLazyCallArg i = true) ∨ ∀ fo, f = some fo → fo.isLazyCallArg i = false := by
  cases f with
  | none => exact .inr (fun _ h => nomatch h)
  | some fo =>
    cases h : fo.isLazyCallArg i with
    | true => exact .inl ⟨fo, rfl, h⟩
    | false => exact .inr (fun _ hf => by cases hf; exact h)

end

end ZygoVerif.Sim

namespace ZygoVerif.Bal
open ZygoVerif.VM ZygoVerif.Core

variable {isFn : Nat → Bool} {c : Ctx} {gs gs' : GS} {code : List Instr} {t : Bool}

/-- any call: one ordinary call, or — the head a symbol, in tail position, under the function's own
name, with a fitting number of operands — the self tail call `Sim.tailCode` (fix C09-02) -/
theorem compile_call_ok {f args} (h : compile isFn c (.call f args) gs = .ok ((code, t), gs')) :
    (code = [Instr.callExpr f args] ∧ t = c.tail ∧ gs = gs') ∨
    ∃ hd, f = .sym hd ∧ c.tail = true ∧ hd = c.funcname ∧ t = c.tail ∧
      Sim.arityOk (Sim.knownFn c gs hd) args.length = true ∧
      ∃ argcode, compileCallArgs isFn { c with tail := false } (Sim.knownFn c gs hd) 0 args gs = .ok (argcode, gs') ∧
        code = Sim.tailCode hd c.scopes args argcode := by
  by_cases hs : ∃ hd, f = .sym hd
  · obtain ⟨hd, rfl⟩ := hs
    have h : (compile isFn c (.call (.sym hd) args)).run gs = .ok ((code, t), gs') := h
    rw [Sim.compile_call_eq] at h
    split at h
    · rename_i hc
      split at h
      · rename_i argcode g' hargs
        cases h
        simp only [Bool.and_eq_true, beq_iff_eq] at hc
        exact .inr ⟨hd, rfl, hc.1.1, hc.1.2, rfl, hc.2, argcode, hargs, rfl⟩
      · cases h
    · cases h
      exact .inl ⟨rfl, rfl, rfl⟩
  · cases (Sim.compile_call_nonsym isFn c args gs (fun x hx => hs ⟨x, hx⟩)).symm.trans h
    exact .inl ⟨rfl, rfl, rfl⟩

def tmplName (gs : GS) (name : String) : String := if name.isEmpty then s!"__anon{gs.fns.length}" else name

/-- the template `allocTemplate` registers -/
def tmplOf (isFn : Nat → Bool) (gs : GS) (name : String) (ps : List String) (rest : Option String) : FnObj :=
  { name := tmplName gs name, nargs := ps.length, varargs := rest.isSome, params := ps ++ rest.toList,
    closing := newClosing isFn gs.live }

def allocGs (isFn : Nat → Bool) (gs : GS) (name : String) (ps : List String) (rest : Option String) : GS :=
  { gs with fns := gs.fns ++ [tmplOf isFn gs name ps rest] }

def bodyCtx (c : Ctx) (gs : GS) (name : String) (selfTail : Bool) : Ctx :=
  { tail := true, scopes := 0, funcname := if selfTail then tmplName gs name else "",
    known := if name.isEmpty then c.known else (name, gs.fns.length) :: c.known }

theorem allocTemplate_ok (isFn : Nat → Bool) (c : Ctx) (name : String) (ps : List String) (rest : Option String)
    (selfTail : Bool) (gs : GS) (r : (Nat × Ctx) × GS) :
    allocTemplate isFn c name ps rest selfTail gs = .ok r ↔
      r = ((gs.fns.length, bodyCtx c gs name selfTail), allocGs isFn gs name ps rest) :=
  Sim.g_pure_ok

def fnCode (t : Nat) (params : List String) (b : List Instr) : List Instr :=
  [Instr.addFuncScope t] ++ (params.map Instr.popStackPutEnv).reverse ++ b ++ [.removeScope, .ret]

def finishGs (t : Nat) (b : List Instr) (gs : GS) : GS :=
  { gs with fns := gs.fns.set t { (gs.fns.getD t {}) with code := fnCode t (gs.fns.getD t {}).params b } }

theorem finishTemplate_ok (t : Nat) (b : List Instr) (gs : GS) (r : Unit × GS) :
    finishTemplate t b gs = .ok r ↔ r = ((), finishGs t b gs) :=
  Sim.g_pure_ok

/-- `fn` and `defn` share `buildSexpFun`, whatever the name: the template is registered, the body compiled in the
template's own context, the template completed -/
theorem compile_template_ok (name : String) (ps : List String) (rest : Option String) (st : Bool) (body : List Expr)
    (post : List Instr) {r : (List Instr × Bool) × GS} :
    (do let (t, cb) ← allocTemplate isFn c name ps rest st
        let (b, _) ← compileBegin isFn cb body
        finishTemplate t b
        pure (.createClosure t :: post, c.tail) : G _).run gs = .ok r ↔
    ∃ rb g2, (compileBegin isFn (bodyCtx c gs name st) body).run (allocGs isFn gs name ps rest) = .ok (rb, g2) ∧
      r = ((.createClosure gs.fns.length :: post, c.tail), finishGs gs.fns.length rb.1 g2) := by
  simp only [Sim.g_bind_ok, Sim.g_pure_ok]
  constructor
  · rintro ⟨⟨tm, cb⟩, gs1, ha, rb, gs2, hb, u, gs3, hf, heq⟩
    cases (allocTemplate_ok ..).mp ha
    cases (finishTemplate_ok ..).mp hf
    exact ⟨rb, gs2, hb, heq⟩
  · rintro ⟨rb, g2, hb, rfl⟩
    exact ⟨_, _, (allocTemplate_ok ..).mpr rfl, rb, g2, hb, (), _, (finishTemplate_ok ..).mpr rfl, rfl⟩

theorem compile_fn_ok {ps rest body} {r : (List Instr × Bool) × GS} : (compile isFn c (.fn ps rest body)).run gs = .ok r ↔
    ∃ rb g2, (compileBegin isFn (bodyCtx c gs "" true) body).run (allocGs isFn gs "" ps rest) = .ok (rb, g2) ∧
      r = (([.createClosure gs.fns.length], c.tail), finishGs gs.fns.length rb.1 g2) := by
  rw [compile]; exact compile_template_ok "" ps rest true body []

theorem compile_defn_ok {name ps rest body} {r : (List Instr × Bool) × GS} :
    (compile isFn c (.defn name ps rest body)).run gs = .ok r ↔
    ∃ rb g2, (compileBegin isFn (bodyCtx c gs name (!rebindsOwnName name ps rest body)) body).run (allocGs isFn gs name ps rest)
        = .ok (rb, g2) ∧
      r = (([.createClosure gs.fns.length, .popStackPutEnv name, .push .nil], c.tail), finishGs gs.fns.length rb.1 g2) := by
  rw [compile]; exact compile_template_ok name ps rest _ body [.popStackPutEnv name, .push .nil]

end ZygoVerif.Bal
