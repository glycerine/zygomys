/-
C02, execution half — F2c at top level: program texts whose `defn`s may call themselves in tail position.
-/
import ZygoVerif.Proofs.SimF2Ind
import ZygoVerif.Proofs.SimF2Top
import ZygoVerif.Proofs.SimF2BrkTop
namespace ZygoVerif.Sim
open ZygoVerif.Core ZygoVerif.VM

/-- a top-level form of F2c: a form of F2 — its loops may `break`/`continue` (`Fx [] ""`) —, or a `defn`
whose body is in tail position (`FzList true`): self tail calls under `begin`/`cond`/`let`/`letseq`/`newScope`,
loops that `break`/`continue` in the statements before -/
def Fy (e : Expr) : Bool :=
  Fx [] "" e || (match e with
    | .defn name ps rest body => okRest rest && okName name && (name != "") && decide (ps ++ rest.toList).Nodup && ps.all okParam
        && !body.isEmpty && FzList true name body
    | _ => false)

def FyList : List Expr → Bool
  | [] => true
  | e :: es => Fy e && FyList es

/-- a top-level form is a statement of a function body, in the anonymous function that the text is -/
theorem fs_of_fy {e : Expr} (h : Fy e = true) : Fs true "" e = true := by
  unfold Fy at h
  cases e with
  | fn ps rest body => rw [Fs]; simp only [Bool.or_false] at h; rw [if_pos rfl, h]; rfl
  | _ => simpa [Fs] using h

theorem fy_of_fx {e : Expr} (h : Fx [] "" e = true) : Fy e = true := by unfold Fy; rw [h]; rfl

theorem fyList_of_fx : ∀ es, FxList [] "" es = true → FyList es = true
  | [], _ => rfl
  | e :: es, h => by
    rw [FxList] at h; simp only [Bool.and_eq_true] at h
    rw [FyList, fy_of_fx h.1, fyList_of_fx es h.2]; rfl

theorem cpList_of_fy : ∀ es, FyList es = true → CpList true true [] es = true
  | [], _ => by unfold CpList; rfl
  | e :: es, h => by
    rw [FyList] at h; simp only [Bool.and_eq_true] at h
    unfold CpList; rw [cp_of_fs true "" e (fs_of_fy h.1), cpList_of_fy es h.2]; rfl

/-- program texts of F2c as a fragment of F2: every form, the last one too, is a statement (`simF_stmt`); the invariant
is that of code outside every loop. Only `hclaimB_succ` is used of it, which reads `flist_one`, `flist_cons`; the other
inversion fields hold because a form of `Fx [] ""` is one of `Fy`. -/
@[reducible] def yFg : Fg fSys where
  F := Fy
  FStmt := Fy
  FPred := Ff true ""
  FList := FyList
  FArms := FxArms [] ""
  FBinds := FfBinds true ""
  Cok c := c.funcname = ""
  Inv _ gs gs' pre _ s _ := gs.loopstack = [] ∧ GenOk gs gs' s ∧ LsOut pre gs.loops.length gs'.loops.length
  cok h _ _ := h
  inv_tail h _ := h
  inv_range h k₁ _ k₃ := ⟨by rw [k₁.loopstack]; exact h.1, (h.2.1.rest k₁).first k₃, h.2.2.mono k₁.loopsLen k₃.loopsLen⟩
  inv_pre h hm := ⟨h.1, h.2.1, h.2.2.app hm⟩
  inv_adv h _ x := ⟨h.1, h.2.1.frame x.2.2.toFrame, h.2.2⟩
  inv_push h _ _ := ⟨h.1, h.2.1.mono (FnsKeep.of_fns_eq rfl), h.2.2.app (lsOut_one .addScope _ _)⟩
  flist_one h := by rw [FyList] at h; simpa [FyList] using h
  flist_cons h := by rw [FyList] at h; simpa using h
  farms_cons h := by rw [FxArms] at h; simp only [Bool.and_eq_true] at h; exact ⟨h.1.1, fy_of_fx h.1.2, h.2⟩
  f_begin h := by unfold Fy at h; simp only [Bool.or_false] at h; rw [Fx] at h; exact fyList_of_fx _ h
  f_cond h := by
    unfold Fy at h; simp only [Bool.or_false] at h; rw [Fx] at h; simp only [Bool.and_eq_true] at h
    exact ⟨h.1, fy_of_fx h.2⟩
  f_newScope h := by
    unfold Fy at h; simp only [Bool.or_false] at h; rw [Fx] at h
    simp only [Bool.and_eq_true, Bool.not_eq_true', List.isEmpty_eq_false_iff] at h
    exact ⟨h.1, fyList_of_fx _ h.2⟩
  f_let h := by
    unfold Fy at h; simp only [Bool.or_false] at h; rw [Fx] at h
    simp only [Bool.and_eq_true, Bool.or_eq_true, decide_eq_true_eq, Bool.not_eq_true', List.isEmpty_eq_false_iff] at h
    exact ⟨h.1.1.1, h.1.1.2, h.1.2, fyList_of_fx _ h.2⟩

theorem simF_Fy (n : Nat) : HClaimE fSys yFg Fy n :=
  fun _ he isFn c gs r hc hfn m s rs env pre post hrel hi hseg =>
    simF_stmt (fclaims n).1 (xclaims n).1 (fs_of_fy he) isFn c gs r hc (Or.inr (Or.inl hfn)) (fun _ => hi.1) m s rs env pre post
      hrel hi.2.1 hi.2.2 hseg

theorem simF_FyList : ∀ n, HClaimB fSys yFg n
  | 0 => hclaimB_zero _
  | n + 1 => hclaimB_succ (HClaimE.toN (fun _ _ _ _ _ => id) (simF_Fy n)) (simF_Fy n) (simF_FyList n)

/-- **A non-empty F2c program text, loaded and run** from a resting top-level state related to the
reference state: `runText` reports what the reference evaluator yields. -/
theorem runText_Fy (m : Nat → Nat) (s : St) (rs : Ref.St) (p : List Expr) (hne : p ≠ []) (hp : FyList p = true)
    (hs : AtRest s) (hlin : s.linear = [some 0]) (hstack : s.loopstack = [])
    (hold : ∀ l, Instr.loopStart l ∈ (fnOf s mainFn).code → l < s.loops.length) (hrel : RelF m s rs 0) (n : Nat) :
    ∃ N, ∀ fuel, N ≤ fuel → TextOut (runText fuel p s) (Ref.evalBegin n p 0 { rs with trace := [] }) := by
  obtain ⟨⟨⟨code, t⟩, gs'⟩, hc, -⟩ := compileBegin_ok_Cp (isFn := isFnScope s) p (cpList_of_fy p hp) {}
    (.nil { fns := s.fns, loops := s.loops, loopstack := s.loopstack, live := s.linear })
  exact runText_of_sim m s rs p hs hlin hrel n hc (fun hrelL hgen hseg =>
    simF_FyList n p hne hp _ {} _ ((code, t), gs') hc rfl m _ _ 0 _ [] hrelL ⟨hstack, hgen, fun l hl => Or.inl (hold l hl)⟩ hseg)

end ZygoVerif.Sim
