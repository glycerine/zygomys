/-
The parser model on a queue of tokens that is already complete (no runes left to lex): the
instructions of a parser program act on the queue alone (`Consumes` and its rules), and the loops of
`ParseExpression`, `ParseList` and `ParseArray` take one turn on the token in front. Used to parse the tokens of
printed data (Proofs/ReadPrintParse) and of infix blocks (Proofs/InfixRead).
-/
import ZygoVerif.Proofs.ReadEager
namespace ZygoVerif.Parser
open ZygoVerif.Lexer

/-- a view with nothing left to lex, of a text whose end has been signalled -/
def tv (c : LexCore) (ex : List Sexp) : View := ⟨c, [], ex, true⟩

def setToks (c : LexCore) (ts : List Token) : LexCore := { c with tokens := ts }

/-- `p` consumes the tokens `pre` from the front of the queue and returns `a` -/
def Consumes {α : Type} (p : Prog α) (pre : List Token) (a : α) : Prop :=
  ∀ (c : LexCore) (rest : List Token) (ex : List Sexp), c.tokens = pre ++ rest →
    runA p (tv c ex) = (.ret a, tv (setToks c rest) ex)

theorem Consumes.bind {α β : Type} {p : Prog α} {f : α → Prog β} {pre1 pre2 : List Token} {a : α} {b : β}
    (h1 : Consumes p pre1 a) (h2 : Consumes (f a) pre2 b) : Consumes (p.bind f) (pre1 ++ pre2) b := by
  intro c rest ex hc
  rw [runA_bind, h1 c (pre2 ++ rest) ex (by rw [hc, List.append_assoc])]
  simp only
  have := h2 (setToks c (pre2 ++ rest)) rest ex rfl
  simpa [setToks] using this

theorem Consumes.pure {α : Type} (a : α) : Consumes (Prog.pure a) [] a := by
  intro c rest ex hc
  simp only [runA, tv, setToks]
  congr
  simp at hc
  rw [← hc]

theorem headIf_zero_cons (c : LexCore) (t : Token) (ts : List Token) (h : c.tokens = t :: ts) : headIf 0 c = some t := by
  simp [headIf, h]

theorem runA_waitPeek0 {α : Type} (k : Token → Prog α) (c : LexCore) (ex : List Sexp) (t : Token) (ts : List Token)
    (h : c.tokens = t :: ts) : runA (.waitPeek 0 k) (tv c ex) = runA (k t) (tv c ex) := by
  simp only [runA, tv, peekWaitA, headIf_zero_cons c t ts h]

theorem runA_getTok {α : Type} (k : Token → Prog α) (c : LexCore) (ex : List Sexp) (t : Token) (ts : List Token)
    (h : c.tokens = t :: ts) : runA (.getTok k) (tv c ex) = runA (k t) (tv (setToks c ts) ex) := by
  simp only [runA, tv, peekWaitA, headIf_zero_cons c t ts h, setToks, h, List.tail_cons]

theorem runA_topGet_tok {α : Type} (k : Option Token → Prog α) (c : LexCore) (ex : List Sexp) (t : Token) (ts : List Token)
    (h : c.tokens = t :: ts) : runA (.topGet k) (tv c ex) = runA (k (some t)) (tv (setToks c ts) ex) := by
  simp only [runA, tv, topGetA, h, setToks]

theorem runA_topGet_end {α : Type} (k : Option Token → Prog α) (c : LexCore) (ex : List Sexp)
    (h : c.tokens = []) (hl : inLiteral c = false) : runA (.topGet k) (tv c ex) = runA (k none) (tv c ex) := by
  simp only [runA, tv, topGetA, h, hl, Bool.false_eq_true, ↓reduceIte]

theorem consumes_popTok (t : Token) : Consumes popTok [t] () := by
  intro c rest ex hc
  simp only [popTok]
  rw [runA_getTok _ c ex t rest (by simpa using hc)]
  rfl

theorem consumes_peek0 {α : Type} (k : Token → Prog α) (t : Token) (ts : List Token) (a : α)
    (h : Consumes (k t) (t :: ts) a) : Consumes ((waitPeek 0).bind k) (t :: ts) a := by
  intro c rest ex hc
  have hq : c.tokens = t :: (ts ++ rest) := by simpa using hc
  show runA (Prog.waitPeek 0 fun x => (Prog.pure x).bind k) (tv c ex) = _
  rw [runA_waitPeek0 _ c ex t _ hq]
  exact h c rest ex hc

theorem consumes_pop {α : Type} (p : Prog α) (t : Token) (ts : List Token) (a : α)
    (h : Consumes p ts a) : Consumes (popTok.bind fun _ => p) (t :: ts) a :=
  Consumes.bind (consumes_popTok t) h

theorem parseExprNested_succ (f : Nat) :
    parseExprNested (f + 1) = Prog.waitPeek 0 fun tok => Prog.getTok fun _ => parseExprTok f tok := by
  unfold parseExprNested
  simp only [bind, waitPeek, popTok, Prog.bind]

/-- `ParseExpression(depth > 0)` on a queue with the token `t` in front takes it and goes on as the `switch` on `t` -/
theorem runA_parseExprNested (f : Nat) (c : LexCore) (ex : List Sexp) (t : Token) (ts : List Token) (h : c.tokens = t :: ts) :
    runA (parseExprNested (f + 1)) (tv c ex) = runA (parseExprTok f t) (tv (setToks c ts) ex) := by
  rw [parseExprNested_succ, runA_waitPeek0 _ c ex t _ h, runA_getTok _ c ex t _ h]

theorem consumes_nested (f : Nat) (t : Token) (ts : List Token) (a : Sexp)
    (h : Consumes (parseExprTok f t) ts a) : Consumes (parseExprNested (f + 1)) (t :: ts) a := by
  intro c rest ex hc
  rw [runA_parseExprNested f c ex t (ts ++ rest) (by simpa using hc)]
  simpa [setToks] using h (setToks c (ts ++ rest)) rest ex rfl

theorem parseList_succ (f : Nat) (e : TokType) :
    parseList (f + 1) e = ((waitPeek 0).bind fun tok =>
      if (tok.typ == e) = true then popTok.bind fun _ => Prog.pure Sexp.null
      else
        (parseExprNested f).bind fun head =>
          (waitPeek 0).bind fun tok =>
            if (tok.typ == TokType.backslash) = true then
              popTok.bind fun _ =>
                (parseExprNested f).bind fun tail =>
                  (waitPeek 0).bind fun close =>
                    popTok.bind fun _ =>
                      if (close.typ != TokType.rparen) = true then fail else Prog.pure (head.pair tail)
            else (parseList f e).bind fun tail => Prog.pure (head.pair tail)) := by
  rw [parseList]
  simp only [bind, pure]

theorem parseArray_succ (f : Nat) (acc : List Sexp) :
    parseArray (f + 1) acc = ((waitPeek 0).bind fun tok =>
      if (tok.typ == TokType.comma) = true then popTok.bind fun _ => parseArray f acc
      else if (tok.typ == TokType.rsquare) = true then popTok.bind fun _ => Prog.pure (Sexp.array acc.reverse false)
      else (parseExprNested f).bind fun e => parseArray f (e :: acc)) := by
  rw [parseArray]
  simp only [bind, pure]

theorem consumes_list_end (f : Nat) (e : TokType) (t : Token) (ht : t.typ = e) :
    Consumes (parseList (f + 1) e) [t] Sexp.null := by
  rw [parseList_succ]
  apply consumes_peek0
  rw [if_pos (by simp [ht])]
  exact consumes_pop _ t [] _ (Consumes.pure _)

theorem consumes_array_end (f : Nat) (acc : List Sexp) (t : Token) (ht : t.typ = .rsquare) :
    Consumes (parseArray (f + 1) acc) [t] (.array acc.reverse false) := by
  rw [parseArray_succ]
  apply consumes_peek0
  rw [if_neg (by simp [ht]), if_pos (by simp [ht])]
  exact consumes_pop _ t [] _ (Consumes.pure _)

/-- one turn of `ParseArray` on the first token of an element -/
theorem consumes_array_elem (f : Nat) (acc : List Sexp) (th : Token) (ts : List Token) (r : Sexp)
    (h1 : th.typ ≠ .comma) (h2 : th.typ ≠ .rsquare)
    (h : Consumes ((parseExprNested f).bind fun e => parseArray f (e :: acc)) (th :: ts) r) :
    Consumes (parseArray (f + 1) acc) (th :: ts) r := by
  rw [parseArray_succ]
  apply consumes_peek0
  rw [if_neg (by simpa using h1), if_neg (by simpa using h2)]
  exact h

/-- one turn of `ParseList` on the first token of a head: the turn is the head followed by what `ParseList` does after
a head (`consumes_list_tail`, or the dotted end) -/
theorem consumes_list_elem (f : Nat) (th : Token) (ts : List Token) (r : Sexp) {e : TokType} (h1 : th.typ ≠ e)
    (h : Consumes ((parseExprNested f).bind fun head =>
        (waitPeek 0).bind fun tok =>
          if (tok.typ == TokType.backslash) = true then
            popTok.bind fun _ =>
              (parseExprNested f).bind fun tail =>
                (waitPeek 0).bind fun close =>
                  popTok.bind fun _ =>
                    if (close.typ != TokType.rparen) = true then fail else Prog.pure (head.pair tail)
          else (parseList f e).bind fun tail => Prog.pure (head.pair tail)) (th :: ts) r) :
    Consumes (parseList (f + 1) e) (th :: ts) r := by
  rw [parseList_succ]
  apply consumes_peek0
  rw [if_neg (by simpa using h1)]
  exact h

/-- after the head of a list: a token that is no backslash hands over to the next turn of `ParseList` -/
theorem consumes_list_tail (f : Nat) {e : TokType} (h t : Sexp) (tr : Token) (tsr : List Token) (hnb : tr.typ ≠ .backslash)
    (ht : Consumes (parseList f e) (tr :: tsr) t) :
    Consumes ((waitPeek 0).bind fun tok =>
        if (tok.typ == TokType.backslash) = true then
          popTok.bind fun _ =>
            (parseExprNested f).bind fun tail =>
              (waitPeek 0).bind fun close =>
                popTok.bind fun _ =>
                  if (close.typ != TokType.rparen) = true then fail else Prog.pure (h.pair tail)
        else (parseList f e).bind fun tail => Prog.pure (h.pair tail)) (tr :: tsr) (h.pair t) := by
  apply consumes_peek0
  rw [if_neg (by simpa using hnb)]
  simpa using Consumes.bind (f := fun tail => Prog.pure (h.pair tail)) ht (Consumes.pure (h.pair t))

end ZygoVerif.Parser
