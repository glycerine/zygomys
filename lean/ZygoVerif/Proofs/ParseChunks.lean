/-
Chunk independence of the parser model (used by Props/C13).

`View` (Proofs/ParseLoop) forgets how the not-yet-read runes are distributed over the current stream, the
queued streams and the pieces still to be delivered. `runA` interprets parser programs on
views. `run_view`: for EVERY program, running on the concrete state and then forgetting
equals running on the view. Since the view of the initial state depends only on the
concatenation of the pieces, so does the result of the parse.

The instructions that wait for a token are one case of an induction over programs: `Wt` says what such an instruction
waits for and how the program goes on, `run_wt`/`runA_wt` are the two interpreters on it, `Prog.wt_induction` the
induction principle.
-/
import ZygoVerif.Proofs.ParseLoop
namespace ZygoVerif.Parser
open ZygoVerif.Lexer

def runA {α : Type} : Prog α → View → Fin α × View
  | .pure a, v => (.ret a, v)
  | .fail, v => (.stop .err, v)
  | .waitPeek n k, v =>
    (match peekWaitA false n v.exprs v.fin v.runes v.core with
     | .tok t v' => runA (k t) v'
     | .stop st v' => (.stop st, v'))
  | .signPeek k, v =>
    (match peekWaitA true 0 v.exprs v.fin v.runes v.core with
     | .tok t v' => runA (k t) v'
     | .stop st v' => (.stop st, v'))
  | .topGet k, v =>
    (match topGetA v.exprs v.fin v.runes v.core with
     | .tok t v' => runA (k (some t)) v'
     | .finished .done v' => runA (k none) v'
     | .finished st v' => (.stop st, v'))
  | .peekAt i k, v =>
    (match peekWaitA false i v.exprs v.fin v.runes v.core with
     | .tok _ v' =>
       (match v'.core.tokens[i]? with
        | some t => runA (k t) v'
        | none => (.stop .err, v'))
     | .stop st v' => (.stop st, v'))
  | .getTok k, v =>
    (match peekWaitA false 0 v.exprs v.fin v.runes v.core with
     | .tok t v' => runA (k t) { v' with core := { v'.core with tokens := v'.core.tokens.tail } }
     | .stop st v' => (.stop st, v'))
  | .pushTok t k, v => runA k { v with core := { v.core with tokens := t :: v.core.tokens } }
  | .pushExpr e k, v => runA k { v with exprs := v.exprs ++ [e] }

theorem view_fields (s : PState) :
    (view s).exprs = s.exprs ∧ (view s).runes = s.runes ∧ (view s).core = s.lex.toLexCore ∧ (view s).fin = s.willFinish :=
  ⟨rfl, rfl, rfl, rfl⟩

def View.setToks (v : View) (ts : List Token) : View := { v with core := { v.core with tokens := ts } }

def PState.setToks (s : PState) (ts : List Token) : PState := { s with lex := { s.lex with tokens := ts } }

/-- `ParserPeekNextToken(n)`, `peekAfterSign`, `lexer.tokens[i]`, `GetNextToken` below the top level and at the top
level (and, in annotated programs, the inline wait loops) differ in the wait (`peekAfterSign` or not, how many tokens)
and in how the program — of type `P` — goes on: with the head token `t` of the queue `ts`, as which program on which
queue (`none` when `tokens[i]` is missing), and, at the top level only, when the input is used up outside a literal.

The theorems about programs have one `wait` case and need nothing for a new waiting instruction. What it must be given
constructor by constructor: in the models `Prog.bind`, `run`, `SProg.bind`, `SProg.erase`, `residual`, `unwind`, `stopNow`
(the last three decide what a stopped `yield` does there); here `runA`, `Prog.wt?`, `run_wt`, `runA_wt`,
`Prog.wt_induction`, `Prog.wt?_bind`, and `Prog.wt?_queue` (Proofs/ReadEager); in Proofs/Abandon `SProg.erase_bind`,
`SProg.le` with `le_refl`/`le_bind`, `SProg.noTop` with `noTop_bind`, a leaf of `Par`, `SProg.isWait`, `suspendA`,
`SProg.wt?`, `SProg.erase_wt`, `suspendA_wt`, `residual_wt`, `SProg.wt_induction`, `SProg.wt?_bind`, `SProg.wt?_atEnd`; in
Proofs/Stepwise `SProg.le_trans`, `SProg.le.wt`, `SProg.noTop.wt`. If its Go loop is not `ParserPeekNextToken`, also an
equation with `waitRun` in the manner of `topGetRun_eq` (Proofs/ParseLoop). -/
structure Wt (P : Type) where
  /-- `peekAfterSign`: the end of the finished input is a token -/
  orEnd : Bool
  /-- wait until `extra + 1` tokens are queued -/
  extra : Nat
  next : Token → List Token → Option (P × List Token)
  atEnd : Option P

/-- the answer recorded when the next piece is delivered during the wait. Not a field: an instruction with an `atEnd`
continuation is taken to be the top level, which records `done` or `more` by `inLiteral`; every other wait records `more`. -/
def Wt.stf {P : Type} (w : Wt P) : LexCore → Status :=
  match w.atEnd with
  | some _ => litStatus
  | none => fun _ => .more

def Wt.map {P Q : Type} (f : P → Q) (w : Wt P) : Wt Q :=
  ⟨w.orEnd, w.extra, fun t ts => (w.next t ts).map fun x => (f x.1, x.2), w.atEnd.map f⟩

theorem Wt.stf_map {P Q : Type} (f : P → Q) (w : Wt P) : (w.map f).stf = w.stf := by
  unfold Wt.stf Wt.map; cases w.atEnd <;> rfl

def Prog.wt? {α : Type} : Prog α → Option (Wt (Prog α))
  | .waitPeek n k => some ⟨false, n, fun t ts => some (k t, ts), none⟩
  | .signPeek k => some ⟨true, 0, fun t ts => some (k t, ts), none⟩
  | .peekAt i k => some ⟨false, i, fun _ ts => match ts[i]? with | some t => some (k t, ts) | none => none, none⟩
  | .getTok k => some ⟨false, 0, fun t ts => some (k t, ts.tail), none⟩
  | .topGet k => some ⟨false, 0, fun t ts => some (k (some t), ts.tail), some (k none)⟩
  | _ => none

theorem run_wt {α : Type} {p : Prog α} {w} (h : p.wt? = some w) (s : PState) :
    run p s = match waitRun w.stf w.orEnd w.extra (s.size + 1) s with
      | .tok t s' => (match w.next t s'.lex.tokens with
        | some (q, ts) => run q (s'.setToks ts)
        | none => (.stop .err, s'))
      | .stop .more s' => (match w.atEnd with
        | some q => if inLiteral s'.lex.toLexCore then (.stop .more, s') else run q s'
        | none => (.stop .more, s'))
      | .stop _ s' => (.stop .err, s') := by
  have plain : ∀ (b : Bool) (n : Nat) (k : Token → PState → Fin α × PState),
      (match peekWaitRun b n (s.size + 1) s with
        | .tok t s' => k t s'
        | .stop st s' => (.stop st, s')) =
      match waitRun (fun _ => Status.more) b n (s.size + 1) s with
        | .tok t s' => k t s'
        | .stop .more s' => (.stop .more, s')
        | .stop _ s' => (.stop .err, s') := by
    intro b n k
    rw [peekWaitRun_eq]
    cases hp : waitRun (fun _ => Status.more) b n (s.size + 1) s with
    | tok t s' => rfl
    | stop st s' => rcases waitRun_stop_cases _ _ _ _ _ _ _ hp with rfl | rfl <;> rfl
  cases p with
  | waitPeek n k => cases h; (conv => lhs; unfold run); exact plain false n fun t s' => run (k t) s'
  | signPeek k => cases h; (conv => lhs; unfold run); exact plain true 0 fun t s' => run (k t) s'
  | getTok k => cases h; (conv => lhs; unfold run); exact plain false 0 fun t s' => run (k t) (s'.setToks s'.lex.tokens.tail)
  | peekAt i k =>
    cases h; (conv => lhs; unfold run); refine (plain false i fun _ s' => match s'.lex.tokens[i]? with | some t => run (k t) s' | none => (.stop .err, s')).trans ?_
    dsimp only [Wt.stf]
    cases waitRun (fun _ => Status.more) false i (s.size + 1) s with
    | tok t s' => dsimp only; cases s'.lex.tokens[i]? <;> rfl
    | stop st s' => cases st <;> rfl
  | topGet k =>
    cases h; (conv => lhs; unfold run); rw [topGetRun_eq]
    dsimp only [Wt.stf]
    cases hp : waitRun litStatus false 0 (s.size + 1) s with
    | tok t s' => rfl
    | stop st s' =>
      rcases waitRun_stop_cases _ _ _ _ _ _ _ hp with rfl | rfl
      · dsimp only [PeekOut.toTop, litStatus]
        cases inLiteral s'.lex.toLexCore <;> rfl
      · rfl
  | pure a => cases h
  | fail => cases h
  | pushTok t k => cases h
  | pushExpr e k => cases h

theorem runA_wt {α : Type} {p : Prog α} {w} (h : p.wt? = some w) (v : View) :
    runA p v = match peekWaitA w.orEnd w.extra v.exprs v.fin v.runes v.core with
      | .tok t v' => (match w.next t v'.core.tokens with
        | some (q, ts) => runA q (v'.setToks ts)
        | none => (.stop .err, v'))
      | .stop .more v' => (match w.atEnd with
        | some q => if inLiteral v'.core then (.stop .more, v') else runA q v'
        | none => (.stop .more, v'))
      | .stop _ v' => (.stop .err, v') := by
  have plain : ∀ (b : Bool) (n : Nat) (k : Token → View → Fin α × View),
      (match peekWaitA b n v.exprs v.fin v.runes v.core with
        | .tok t v' => k t v'
        | .stop st v' => (.stop st, v')) =
      match peekWaitA b n v.exprs v.fin v.runes v.core with
        | .tok t v' => k t v'
        | .stop .more v' => (.stop .more, v')
        | .stop _ v' => (.stop .err, v') := by
    intro b n k
    cases hp : peekWaitA b n v.exprs v.fin v.runes v.core with
    | tok t v' => rfl
    | stop st v' => rcases peekWaitA_stop_cases _ _ _ _ _ _ _ _ hp with rfl | rfl <;> rfl
  cases p with
  | waitPeek n k => cases h; (conv => lhs; unfold runA); exact plain false n fun t v' => runA (k t) v'
  | signPeek k => cases h; (conv => lhs; unfold runA); exact plain true 0 fun t v' => runA (k t) v'
  | getTok k => cases h; (conv => lhs; unfold runA); exact plain false 0 fun t v' => runA (k t) (v'.setToks v'.core.tokens.tail)
  | peekAt i k =>
    cases h; (conv => lhs; unfold runA); refine (plain false i fun _ v' => match v'.core.tokens[i]? with | some t => runA (k t) v' | none => (.stop .err, v')).trans ?_
    cases peekWaitA false i v.exprs v.fin v.runes v.core with
    | tok t v' => dsimp only; cases v'.core.tokens[i]? <;> rfl
    | stop st v' => cases st <;> rfl
  | topGet k =>
    cases h; (conv => lhs; unfold runA); rw [topGetA_eq]
    cases hp : peekWaitA false 0 v.exprs v.fin v.runes v.core with
    | tok t v' => rfl
    | stop st v' =>
      rcases peekWaitA_stop_cases _ _ _ _ _ _ _ _ hp with rfl | rfl
      · dsimp only [PeekOutA.toTop]
        cases inLiteral v'.core <;> rfl
      · rfl
  | pure a => cases h
  | fail => cases h
  | pushTok t k => cases h
  | pushExpr e k => cases h

theorem Prog.wt_induction {α : Type} {motive : Prog α → Prop}
    (pure : ∀ a, motive (.pure a)) (fail : motive .fail)
    (wait : ∀ p w, p.wt? = some w → (∀ t ts q ts', w.next t ts = some (q, ts') → motive q) →
      (∀ q, w.atEnd = some q → motive q) → motive p)
    (pushTok : ∀ t k, motive k → motive (.pushTok t k)) (pushExpr : ∀ e k, motive k → motive (.pushExpr e k)) :
    ∀ p, motive p := by
  intro p
  induction p with
  | pure a => exact pure a
  | fail => exact fail
  | waitPeek n k ih => exact wait _ _ rfl (fun t ts q ts' h => by cases h; exact ih t) (fun q h => nomatch h)
  | signPeek k ih => exact wait _ _ rfl (fun t ts q ts' h => by cases h; exact ih t) (fun q h => nomatch h)
  | peekAt i k ih =>
    refine wait _ _ rfl (fun t ts q ts' h => ?_) (fun q h => nomatch h)
    dsimp only at h
    split at h
    · cases h; exact ih _
    · cases h
  | getTok k ih => exact wait _ _ rfl (fun t ts q ts' h => by cases h; exact ih t) (fun q h => nomatch h)
  | topGet k ih => exact wait _ _ rfl (fun t ts q ts' h => by cases h; exact ih _) (fun q h => by cases h; exact ih _)
  | pushTok t k ih => exact pushTok t k ih
  | pushExpr e k ih => exact pushExpr e k ih

theorem run_view {α : Type} (p : Prog α) (s : PState) (hi : Inv s) :
    (run p s).1 = (runA p (view s)).1 ∧ view (run p s).2 = (runA p (view s)).2 := by
  induction p using Prog.wt_induction generalizing s with
  | pure a => exact ⟨rfl, rfl⟩
  | fail => exact ⟨rfl, rfl⟩
  | wait p w hw ih ihEnd =>
    obtain ⟨hA, hinv⟩ := wait_sim w.stf w.orEnd w.extra (s.size + 1) s hi (Nat.lt_succ_self _)
    have hv := view_fields s
    rw [run_wt hw, runA_wt hw, hv.1, hv.2.1, hv.2.2.1, hv.2.2.2, ← hA]
    cases hpw : waitRun w.stf w.orEnd w.extra (s.size + 1) s with
    | tok t s' =>
      rw [hpw] at hinv
      have ht : (view s').core.tokens = s'.lex.tokens := rfl
      simp only [PeekOut.toA, ht]
      cases hn : w.next t s'.lex.tokens with
      | none => exact ⟨rfl, rfl⟩
      | some x => exact ih t _ x.1 x.2 hn (s'.setToks x.2) hinv
    | stop st s' =>
      rw [hpw] at hinv
      cases st with
      | more =>
        have hc : (view s').core = s'.lex.toLexCore := rfl
        simp only [PeekOut.toA, hc]
        cases he : w.atEnd with
        | none => exact ⟨rfl, rfl⟩
        | some q =>
          dsimp only
          cases inLiteral s'.lex.toLexCore with
          | true => exact ⟨rfl, rfl⟩
          | false => exact ihEnd q he s' hinv
      | done => exact ⟨rfl, rfl⟩
      | err => exact ⟨rfl, rfl⟩
  | pushTok t k ih => exact ih (s.setToks (t :: s.lex.tokens)) hi
  | pushExpr e k ih => exact ih { s with exprs := s.exprs ++ [e] } hi

theorem Prog.wt?_bind {α β : Type} {p : Prog α} (f : α → Prog β) {w} (hw : p.wt? = some w) :
    (p.bind f).wt? = some (w.map (·.bind f)) := by
  cases p with
  | peekAt i k =>
    cases hw
    simp only [Prog.bind, Prog.wt?, Wt.map, Option.some.injEq, Wt.mk.injEq, true_and, Option.map_none, and_true]
    funext t ts
    cases ts[i]? <;> rfl
  | _ => cases hw <;> rfl

theorem runA_bind {α β : Type} (p : Prog α) (f : α → Prog β) (v : View) :
    runA (p.bind f) v = (match runA p v with
      | (.ret a, v') => runA (f a) v'
      | (.stop st, v') => (.stop st, v')) := by
  induction p using Prog.wt_induction generalizing v with
  | pure a => rfl
  | fail => rfl
  | wait p w hw ih ihEnd =>
    rw [runA_wt (Prog.wt?_bind f hw), runA_wt hw]
    dsimp only [Wt.map]
    cases peekWaitA w.orEnd w.extra v.exprs v.fin v.runes v.core with
    | tok t v' =>
      dsimp only
      cases hn : w.next t v'.core.tokens with
      | none => rfl
      | some x => exact ih t _ x.1 x.2 hn _
    | stop st v' =>
      cases st with
      | more =>
        dsimp only
        cases he : w.atEnd with
        | none => rfl
        | some q =>
          dsimp only [Option.map_some]
          cases inLiteral v'.core with
          | true => rfl
          | false => exact ihEnd q he v'
      | done => rfl
      | err => rfl
  | pushTok t k ih => exact ih _
  | pushExpr e k ih => exact ih _

theorem resetAddNewInput_view (l : LexState) (c : List Char) :
    (resetAddNewInput l c).pending = c ∧ (resetAddNewInput l c).toLexCore = LexCore.init ∧
      (resetAddNewInput l c).stream.isSome = true ∧ (resetAddNewInput l c).finished = false := by
  simp [resetAddNewInput, LexState.reset, LexState.addNextStream, LexState.promote, LexState.pending,
    LexCore.init, Token.zero]

theorem initState_view (l : LexState) (cs : List (List Char)) :
    view (initState l cs) = ⟨LexCore.init, cs.flatten ++ eofPiece, [], true⟩ ∧ Inv (initState l cs) := by
  cases cs with
  | nil =>
    obtain ⟨h1, h2, h3, _⟩ := resetAddNewInput_view l []
    simp [initState, view, PState.runes, PState.willFinish, h1, h2, Inv, h3]
  | cons c rest =>
    obtain ⟨h1, h2, h3, _⟩ := resetAddNewInput_view l c
    simp [initState, view, PState.runes, PState.willFinish, h1, h2, Inv, h3]

/-- The final status and the cumulative expression list of a parse are those of the
abstract interpreter on (fresh lexer core, all runes of the text + end of input, the end of
the input will have been signalled): they depend on the pieces through their concatenation only,
and not on the lexer state the parser was left in. -/
theorem parseChunksFrom_abstract (l : LexState) (cs : List (List Char)) :
    let r := runA (topLoop (fuelFor cs)) ⟨LexCore.init, cs.flatten ++ eofPiece, [], true⟩
    (parseChunksFrom l cs).status = (match r.1 with | .ret _ => Status.done | .stop st => st) ∧
    (parseChunksFrom l cs).exprs = r.2.exprs := by
  obtain ⟨hv, hi⟩ := initState_view l cs
  obtain ⟨h1, h2⟩ := run_view (topLoop (fuelFor cs)) (initState l cs) hi
  rw [hv] at h1 h2
  simp only [parseChunksFrom]
  rw [← h1, ← h2]
  cases hr : run (topLoop (fuelFor cs)) (initState l cs) with
  | mk f s => cases f <;> simp [view]

end ZygoVerif.Parser
