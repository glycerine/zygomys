/-
Out of fuel `Run`, its loop and `Instruction.Execute` time out (`Model/VM.lean`).

Stated in a module of their own, in front of `SimMachine`, for the same reason as `RefFacts`: the equation lemmas of
`exec`, `runLoop` and `run` (members of the machine's block of thirteen mutually recursive functions) are derived anew
in every declaration that rewrites with them until an imported module holds them; `SimMachine` has one such declaration
per instruction.
-/
import ZygoVerif.Model.VM
namespace ZygoVerif.VM
open ZygoVerif.Core

theorem exec_timeout (i : Instr) : exec 0 i = throw .timeout := by rw [exec]
theorem runLoop_timeout (st : CtlState) : runLoop 0 st = throw .timeout := by rw [runLoop]
theorem run_timeout : run 0 = throw .timeout := by rw [run]

end ZygoVerif.VM
