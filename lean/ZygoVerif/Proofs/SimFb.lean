/-
C02, execution half — `break` and `continue`: the two instructions as state transformers (`exec_brk`, `exec_cont`).

`BreakInstr`/`ContinueInstr` find the loop's `loopStart` in the current function, pop the scopes
opened inside the loop (a number computed at compile time from `gen.scopes`) and jump to
`loopStart + breakOffset/continueOffset`, offsets the generator stored in the loop record AFTER it
compiled the body. What is left on the data stack above the loop's mark is cleared by `clearMark` /
the increment's `popUntilMark`.

`CtxOk` says what holds at run time of every enclosing loop of the code being executed, over the static chain of
`Rel` (`Chain`). The simulation of loops with exits is done for F2 only and carries the same facts over F2's chain
(`CtxF`, Proofs/SimF2Brk.lean); nothing rests on `CtxOk`.
-/
import ZygoVerif.Proofs.SimFbGen
namespace ZygoVerif.Sim
open ZygoVerif.Core ZygoVerif.VM

/-- the run-time facts about one enclosing loop -/
structure CtxOk1 (γ : LCtx) (sc : Nat) (s : St) (rs : Ref.St) : Prop where
  idlt : γ.id < s.loops.length
  start : findLoopStart (fnOf s s.curfunc).code γ.id = some γ.start
  brk : (γ.start : Int) + (s.loops.getD γ.id {}).breakOff = γ.brkPos
  cont : (γ.start : Int) + (s.loops.getD γ.id {}).contOff = γ.contPos
  lin : ∃ extra, s.linear = extra ++ γ.lin ∧ extra.length + γ.depth + 1 = sc
  chain : Chain rs.frames γ.fr γ.lin
  data : ∃ G, s.data = G ++ some (.mark γ.id) :: γ.D ∧ GoodAbove γ.id G

def CtxOk (Γ : List LCtx) (sc : Nat) (s : St) (rs : Ref.St) : Prop := ∀ γ ∈ Γ, CtxOk1 γ sc s rs

/-- everything a balanced piece of code may do keeps the loop facts: same function, control stacks
and old loop records (`Frame`), frames only grew, and on the data stack only good values were added -/
theorem CtxOk.after {Γ : List LCtx} {sc : Nat} {s s' : St} {rs rs' : Ref.St} (h : CtxOk Γ sc s rs)
    (hfn : fnOf s' s'.curfunc = fnOf s s.curfunc) (hfr : Frame s s') (hext : FramesExt rs rs')
    (hd : ∃ X, s'.data = X ++ s.data ∧ ∀ γ ∈ Γ, GoodAbove γ.id X) : CtxOk Γ sc s' rs' := by
  intro γ hγ
  obtain ⟨h1, h2, h3, h4, h5, h6, h7⟩ := h γ hγ
  obtain ⟨X, hX, hgood⟩ := hd
  obtain ⟨G, hG, hGg⟩ := h7
  refine ⟨Nat.lt_of_lt_of_le h1 hfr.loopsLen, by rw [hfn]; exact h2, by rw [hfr.loops γ.id h1]; exact h3,
    by rw [hfr.loops γ.id h1]; exact h4, by rw [hfr.linear]; exact h5, Chain.ext hext h6,
    ⟨X ++ G, by rw [hX, hG, List.append_assoc], (hgood γ hγ).append hGg⟩⟩

/-- where a `break`/`continue` leaves the machine -/
def jumpedTo (s : St) (rest : List (Option Nat)) (pc : Int) : St := { s with linear := rest, pc := pc }

theorem exec_brk (f l n : Nat) (s : St) (pos : Nat) (extra rest : List (Option Nat))
    (hfind : findLoopStart (fnOf s s.curfunc).code l = some pos) (hlin : s.linear = extra ++ rest) (hn : n = extra.length) :
    (exec (f + 1) (.brk l n)).run s = (.ok (), jumpedTo s rest ((pos : Int) + (s.loops.getD l {}).breakOff)) := by
  subst hn
  exact (exec_simple_eq f _ s rfl).trans (exitLoop_of hfind hlin)

theorem exec_cont (f l n : Nat) (s : St) (pos : Nat) (extra rest : List (Option Nat))
    (hfind : findLoopStart (fnOf s s.curfunc).code l = some pos) (hlin : s.linear = extra ++ rest) (hn : n = extra.length) :
    (exec (f + 1) (.cont l n)).run s = (.ok (), jumpedTo s rest ((pos : Int) + (s.loops.getD l {}).contOff)) := by
  subst hn
  exact (exec_simple_eq f _ s rfl).trans (exitLoop_of hfind hlin)

end ZygoVerif.Sim
