/-
Lemmas about the scope machinery of the VM model (`Model/VM.lean`): the three stages of
`LexicalLookupSymbol` as first-binding searches along explicit lists of scope ids,
`NewClosing`, assignment through a scope id (`setVarSt`, `lookup_assocSet`: the names every proof
uses for a written scope cell). Used by `Props/C03.lean` (the well-formedness invariant of the
scope and closure tables is in `Proofs/ScopeInv.lean`).
-/
import ZygoVerif.Model.VM
namespace ZygoVerif.Scope
open ZygoVerif.Core ZygoVerif.VM

/-- The scope ids of a scope stack, top first (nil elements of a Go stack are skipped by
every lookup). -/
def idsOf : List (Option Nat) → List Nat
  | [] => []
  | none :: rest => idsOf rest
  | some id :: rest => id :: idsOf rest

/-- The part of a scope stack a lookup with `maximumFuncToSearch = 1` reads: from the top
down to **and including** the first function scope. -/
def aboveBoundary (s : St) : List (Option Nat) → List Nat
  | [] => []
  | none :: rest => aboveBoundary s rest
  | some id :: rest => if isFnScope s id then [id] else id :: aboveBoundary s rest

/-- The rest: the scopes strictly below the first function scope (the callers' scopes and
the global scope, when the stack is the live one). -/
def belowBoundary (s : St) : List (Option Nat) → List Nat
  | [] => []
  | none :: rest => belowBoundary s rest
  | some id :: rest => if isFnScope s id then idsOf rest else belowBoundary s rest

/-- The captured stack (whole) of the template function recorded on the first function
scope of a stack: what stage 3 (`checkCaptures`) adds. -/
def templateCaptured (s : St) : List (Option Nat) → List Nat
  | [] => []
  | none :: rest => templateCaptured s rest
  | some id :: rest =>
    if isFnScope s id then
      match (scopeOf s id).myFunction with
      | some f => idsOf (fnOf s f).closing
      | none => []
    else templateCaptured s rest

/-- Scope ids searched by `LookupSymbolInParentChainOfClosures` starting at function `cur`,
in search order (same recursion and fuel as `lookupChain`). -/
def chainIds (s : St) : Nat → Nat → List Nat
  | 0, _ => []
  | fuel+1, cur =>
    match (fnOf s cur).parent with
    | none => []
    | some par => aboveBoundary s (fnOf s cur).closing ++ chainIds s fuel par

/-- Stage 2 of `LexicalLookupSymbol`: the captured scopes of the running function. -/
def capturedChain (s : St) : List Nat :=
  if (fnOf s s.curfunc).parent.isSome then chainIds s (s.fns.length + 1) s.curfunc
  else aboveBoundary s (fnOf s s.curfunc).closing

/-- All scope ids `LexicalLookupSymbol` may read, in the order it reads them. -/
def lexChain (s : St) : List Nat :=
  aboveBoundary s s.linear ++ capturedChain s ++ (aboveBoundary s s.linear ++ templateCaptured s s.linear)

def firstBinding (s : St) (x : String) : List Nat → Option (Nat × Val)
  | [] => none
  | id :: rest =>
    match (scopeOf s id).vars.lookup x with
    | some v => some (id, v)
    | none => firstBinding s x rest

/-- The first id of a list at which `look` finds a value, with that value. `firstBinding` is this search
in the scope table, the reference evaluator's lookup the same search in its frame table
(`Proofs/ScopeSim.lean`); what is said of it below is what the library says of `List.findSome?`. -/
def firstOf (look : Nat → Option Val) (ids : List Nat) : Option (Nat × Val) :=
  ids.findSome? fun id => (look id).map (id, ·)

section firstOf
variable {look : Nat → Option Val}

theorem firstOf_cons (id : Nat) (rest : List Nat) :
    firstOf look (id :: rest) = match look id with | some v => some (id, v) | none => firstOf look rest := by
  simp only [firstOf, List.findSome?_cons]
  cases look id <;> rfl

theorem firstOf_append (a b : List Nat) : firstOf look (a ++ b) = (firstOf look a).or (firstOf look b) :=
  List.findSome?_append

theorem firstOf_eq_some {ids : List Nat} {id : Nat} {v : Val} :
    firstOf look ids = some (id, v) ↔
      ∃ pre post, ids = pre ++ id :: post ∧ (∀ j ∈ pre, look j = none) ∧ look id = some v := by
  simp only [firstOf, List.findSome?_eq_some_iff, Option.map_eq_some_iff, Prod.mk.injEq, Option.map_eq_none_iff]
  constructor
  · rintro ⟨pre, j, post, he, ⟨w, hw, rfl, rfl⟩, hp⟩
    exact ⟨pre, post, he, hp, hw⟩
  · rintro ⟨pre, post, he, hp, hv⟩
    exact ⟨pre, id, post, he, ⟨v, hv, rfl, rfl⟩, hp⟩

theorem firstOf_eq_none {ids : List Nat} : firstOf look ids = none ↔ ∀ j ∈ ids, look j = none := by
  simp only [firstOf, List.findSome?_eq_none_iff, Option.map_eq_none_iff]

/-- a search through a renaming `ρ` of the ids, in a table that holds the values translated by `φ` -/
theorem firstOf_map {look' : Nat → Option Val} (ρ : Nat → Nat) (φ : Val → Val) (l : List Nat)
    (h : ∀ id ∈ l, look' (ρ id) = (look id).map φ) :
    firstOf look' (l.map ρ) = (firstOf look l).map fun p => (ρ p.1, φ p.2) := by
  induction l with
  | nil => rfl
  | cons id rest ih =>
    rw [List.map_cons, firstOf_cons, firstOf_cons, h id (List.mem_cons_self ..)]
    cases look id with
    | some v => rfl
    | none => exact ih fun j hj => h j (List.mem_cons_of_mem _ hj)

end firstOf

theorem firstBinding_eq (s : St) (x : String) (ids : List Nat) :
    firstBinding s x ids = firstOf (fun id => (scopeOf s id).vars.lookup x) ids := by
  induction ids with
  | nil => rfl
  | cons id rest ih => rw [firstBinding, firstOf_cons, ih]

theorem firstBinding_append (s : St) (x : String) (a b : List Nat) :
    firstBinding s x (a ++ b) = (firstBinding s x a).or (firstBinding s x b) := by
  simp only [firstBinding_eq, firstOf_append]

theorem firstBinding_some {s : St} {x : String} {ids : List Nat} {id : Nat} {v : Val}
    (h : firstBinding s x ids = some (id, v)) :
    ∃ pre post, ids = pre ++ id :: post ∧ (∀ j ∈ pre, (scopeOf s j).vars.lookup x = none) ∧
      (scopeOf s id).vars.lookup x = some v :=
  firstOf_eq_some.mp (firstBinding_eq s x ids ▸ h)

theorem firstBinding_eq_none {s : St} {x : String} {ids : List Nat} :
    firstBinding s x ids = none ↔ ∀ j ∈ ids, (scopeOf s j).vars.lookup x = none := by
  rw [firstBinding_eq, firstOf_eq_none]

theorem firstBinding_mem {s : St} {x : String} {ids : List Nat} {id : Nat} {v : Val}
    (h : firstBinding s x ids = some (id, v)) : id ∈ ids := by
  obtain ⟨pre, post, he, _, _⟩ := firstBinding_some h
  simp [he]

theorem lookupWhole_eq (s : St) (x : String) (l : List (Option Nat)) :
    lookupWhole s x l = firstBinding s x (idsOf l) := by
  induction l with
  | nil => rfl
  | cons o rest ih =>
    cases o with
    | none => simpa [lookupWhole, idsOf] using ih
    | some id =>
      simp only [lookupWhole, idsOf, firstBinding]
      cases hv : (scopeOf s id).vars.lookup x with
      | none => simpa using ih
      | some v => rfl

/-- `LookupSymbolUntilFunction`: the stack down to its first function scope, then — with
`checkCaptures` — the captured stack of that scope's template. -/
theorem lookupUntilFn_eq (s : St) (x : String) (cc : Bool) (l : List (Option Nat)) :
    lookupUntilFn s x cc l =
      firstBinding s x (aboveBoundary s l ++ if cc then templateCaptured s l else []) := by
  induction l with
  | nil => cases cc <;> rfl
  | cons o rest ih =>
    cases o with
    | none => simpa [lookupUntilFn, aboveBoundary, templateCaptured] using ih
    | some id =>
      cases hf : isFnScope s id
      · have hf' : (scopeOf s id).isFunction = false := hf
        simp only [lookupUntilFn, aboveBoundary, templateCaptured, hf, hf', Bool.false_eq_true, if_false,
          List.cons_append, firstBinding]
        cases hv : (scopeOf s id).vars.lookup x with
        | none => simpa using ih
        | some v => simp
      · have hf' : (scopeOf s id).isFunction = true := hf
        simp only [lookupUntilFn, aboveBoundary, templateCaptured, hf, hf', if_true,
          List.cons_append, List.nil_append, firstBinding]
        cases hv : (scopeOf s id).vars.lookup x with
        | some v => simp
        | none =>
          cases cc
          · simp [firstBinding]
          · cases hm : (scopeOf s id).myFunction with
            | none => simp [firstBinding]
            | some f => simp [lookupWhole_eq]

theorem lookupUntilFn_false_eq (s : St) (x : String) (l : List (Option Nat)) :
    lookupUntilFn s x false l = firstBinding s x (aboveBoundary s l) := by
  simp [lookupUntilFn_eq]

theorem lookupUntilFn_true_eq (s : St) (x : String) (l : List (Option Nat)) :
    lookupUntilFn s x true l = firstBinding s x (aboveBoundary s l ++ templateCaptured s l) := by
  simp [lookupUntilFn_eq]

theorem lookupChain_eq (s : St) (x : String) (fuel cur : Nat) :
    lookupChain s x fuel cur = firstBinding s x (chainIds s fuel cur) := by
  induction fuel generalizing cur with
  | zero => rfl
  | succ n ih =>
    simp only [lookupChain, chainIds]
    cases hp : (fnOf s cur).parent with
    | none => simp [firstBinding]
    | some par =>
      simp only [firstBinding_append, lookupUntilFn_false_eq, ih]
      cases firstBinding s x (aboveBoundary s (fnOf s cur).closing) <;> simp

theorem lexLookup_eq (s : St) (x : String) : lexLookup s x = firstBinding s x (lexChain s) := by
  simp only [lexLookup, lexChain, capturedChain, firstBinding_append, lookupUntilFn_false_eq,
    lookupUntilFn_true_eq, lookupChain_eq]
  cases h1 : firstBinding s x (aboveBoundary s s.linear) with
  | some r => simp
  | none =>
    cases hp : (fnOf s s.curfunc).parent.isSome
    · simp only [Bool.false_eq_true, if_false]
      cases firstBinding s x (aboveBoundary s (fnOf s s.curfunc).closing) <;> simp
    · simp only [if_true]
      cases firstBinding s x (chainIds s (s.fns.length + 1) s.curfunc) <;> simp

theorem mem_idsOf {id : Nat} : ∀ {l : List (Option Nat)}, id ∈ idsOf l ↔ some id ∈ l
  | [] => by simp [idsOf]
  | none :: l => by simp [idsOf, mem_idsOf (l := l)]
  | some j :: l => by simp [idsOf, mem_idsOf (l := l)]

theorem idsOf_sub {a b : List (Option Nat)} (h : ∀ id, some id ∈ a → some id ∈ b) : ∀ id ∈ idsOf a, id ∈ idsOf b :=
  fun id hid => mem_idsOf.mpr (h id (mem_idsOf.mp hid))

theorem boundary_split (s : St) (l : List (Option Nat)) :
    idsOf l = aboveBoundary s l ++ belowBoundary s l := by
  induction l with
  | nil => rfl
  | cons o rest ih =>
    cases o with
    | none => simpa [aboveBoundary, belowBoundary, idsOf] using ih
    | some j =>
      simp only [aboveBoundary, belowBoundary, idsOf]
      split <;> simp [ih]

theorem aboveBoundary_sub (s : St) (l : List (Option Nat)) : ∀ id ∈ aboveBoundary s l, id ∈ idsOf l :=
  fun id h => by rw [boundary_split s l]; exact List.mem_append_left _ h

theorem belowBoundary_sub (s : St) (l : List (Option Nat)) : ∀ id ∈ belowBoundary s l, id ∈ idsOf l :=
  fun id h => by rw [boundary_split s l]; exact List.mem_append_right _ h

theorem boundary_disjoint (s : St) (l : List (Option Nat)) (hnd : (idsOf l).Nodup) :
    ∀ id ∈ aboveBoundary s l, id ∉ belowBoundary s l := by
  rw [boundary_split s l] at hnd
  intro id ha hb
  exact (List.nodup_append.mp hnd).2.2 id ha id hb rfl

def isFnElem (isFn : Nat → Bool) : Option Nat → Bool
  | some id => isFn id
  | none => false

/-- Does the stack contain a function scope that is not its bottom element? (Then
`NewClosing` trims.) -/
def trims (isFn : Nat → Bool) : List (Option Nat) → Bool
  | [] => false
  | x :: rest => if isFnElem isFn x then !rest.isEmpty else trims isFn rest

/-- The stack from its top down to and including the first function scope (as a stack,
nil elements kept). -/
def takeToBoundary (isFn : Nat → Bool) : List (Option Nat) → List (Option Nat)
  | [] => []
  | x :: rest => if isFnElem isFn x then [x] else x :: takeToBoundary isFn rest

theorem newClosing_go_cons (isFn : Nat → Bool) (x : Option Nat) (rest acc : List (Option Nat)) :
    newClosing.go isFn (x :: rest) acc =
      if isFnElem isFn x then (if rest.isEmpty then none else some (acc ++ [x]))
      else newClosing.go isFn rest (acc ++ [x]) := by
  cases x <;> simp [newClosing.go, isFnElem]

theorem newClosing_go (isFn : Nat → Bool) (l acc : List (Option Nat)) :
    newClosing.go isFn l acc =
      if trims isFn l then some (acc ++ takeToBoundary isFn l) else none := by
  induction l generalizing acc with
  | nil => simp [newClosing.go, trims]
  | cons x rest ih =>
    rw [newClosing_go_cons]
    cases hx : isFnElem isFn x
    · simp [trims, takeToBoundary, hx, ih, List.append_assoc]
    · cases rest <;> simp [trims, takeToBoundary, hx]

/-- `NewClosing`: the live stack cut below its first function scope — unless that scope is
the bottom element or there is none, in which case the whole stack is kept. -/
theorem newClosing_eq (isFn : Nat → Bool) (live : List (Option Nat)) :
    newClosing isFn live = if trims isFn live then takeToBoundary isFn live else live := by
  simp only [newClosing, newClosing_go]
  split <;> simp

theorem takeToBoundary_prefix (isFn : Nat → Bool) : ∀ l, takeToBoundary isFn l <+: l
  | [] => List.prefix_refl _
  | x :: rest => by
    unfold takeToBoundary
    split
    · exact ⟨rest, rfl⟩
    · exact List.cons_prefix_cons.mpr ⟨rfl, takeToBoundary_prefix isFn rest⟩

theorem idsOf_newClosing_sub (isFn : Nat → Bool) (live : List (Option Nat)) :
    ∀ id ∈ idsOf (newClosing isFn live), id ∈ idsOf live := by
  rw [newClosing_eq]
  split
  · exact idsOf_sub fun _ h => (takeToBoundary_prefix isFn live).subset h
  · exact fun _ h => h

/-- where a stack is cut depends on the boundary flags of the scopes on it only -/
theorem takeToBoundary_congr_on {p q : Nat → Bool} : ∀ (l : List (Option Nat)), (∀ id ∈ idsOf l, p id = q id) →
    trims p l = trims q l ∧ takeToBoundary p l = takeToBoundary q l
  | [], _ => ⟨rfl, rfl⟩
  | o :: rest, h => by
    have ho : isFnElem p o = isFnElem q o := by
      cases o with
      | none => rfl
      | some j => exact h j (mem_idsOf.mpr (List.mem_cons_self ..))
    have ih := takeToBoundary_congr_on rest fun id hid => h id (idsOf_sub (fun _ => List.mem_cons_of_mem _) id hid)
    simp only [trims, takeToBoundary, ho, ih.1, ih.2, and_self]

theorem _root_.ZygoVerif.Sim.takeToBoundary_idem (isFn : Nat → Bool) : ∀ (l : List (Option Nat)),
    takeToBoundary isFn (takeToBoundary isFn l) = takeToBoundary isFn l
  | [] => rfl
  | x :: rest => by
    simp only [takeToBoundary]
    by_cases hx : isFnElem isFn x = true
    · rw [if_pos hx]; simp only [takeToBoundary, if_pos hx]
    · rw [if_neg hx]; simp only [takeToBoundary, if_neg hx, Sim.takeToBoundary_idem isFn rest]

/-- … in fact of those above the cut only -/
theorem _root_.ZygoVerif.Sim.ttb_congr {isFn isFn' : Nat → Bool} : ∀ (l : List (Option Nat)),
    (∀ i, some i ∈ takeToBoundary isFn l → isFn' i = isFn i) →
    takeToBoundary isFn' l = takeToBoundary isFn l
  | [], _ => rfl
  | none :: rest, h => by
    simp only [takeToBoundary, isFnElem, Bool.false_eq_true, if_false] at h ⊢
    rw [Sim.ttb_congr rest (fun i hi => h i (List.mem_cons_of_mem _ hi))]
  | some j :: rest, h => by
    have e : isFnElem isFn' (some j) = isFnElem isFn (some j) :=
      h j (by simp only [takeToBoundary]; split <;> simp)
    by_cases hj : isFnElem isFn (some j) = true
    · simp only [takeToBoundary, e, hj, if_true]
    · have hj' : isFnElem isFn (some j) = false := by simpa using hj
      simp only [takeToBoundary, e, hj', Bool.false_eq_true, if_false] at h ⊢
      rw [Sim.ttb_congr rest (fun i hi => h i (List.mem_cons_of_mem _ hi))]

theorem newClosing_congr_on {p q : Nat → Bool} (l : List (Option Nat)) (h : ∀ id ∈ idsOf l, p id = q id) :
    newClosing p l = newClosing q l := by
  rw [newClosing_eq, newClosing_eq, (takeToBoundary_congr_on l h).1, (takeToBoundary_congr_on l h).2]

theorem idsOf_takeToBoundary (s : St) (l : List (Option Nat)) :
    idsOf (takeToBoundary (isFnScope s) l) = aboveBoundary s l := by
  induction l with
  | nil => rfl
  | cons o rest ih =>
    cases o with
    | none => simpa [takeToBoundary, aboveBoundary, idsOf, isFnElem] using ih
    | some j =>
      cases hf : isFnScope s j <;> simp [takeToBoundary, aboveBoundary, isFnElem, hf, idsOf, ih]

theorem aboveBoundary_congr_on {s s' : St} (l : List (Option Nat))
    (h : ∀ id ∈ idsOf l, isFnScope s' id = isFnScope s id) : aboveBoundary s' l = aboveBoundary s l := by
  rw [← idsOf_takeToBoundary, ← idsOf_takeToBoundary, (takeToBoundary_congr_on l h).2]

/-- What a lookup with one function boundary reads from a captured stack is what it read
from the live stack the capture was taken from. -/
theorem aboveBoundary_takeToBoundary (s : St) (l : List (Option Nat)) :
    aboveBoundary s (takeToBoundary (isFnScope s) l) = aboveBoundary s l := by
  rw [← idsOf_takeToBoundary, ← idsOf_takeToBoundary, Sim.takeToBoundary_idem]

/-- The scope ids a new closure captures: exactly the part of the live stack above the
boundary when `NewClosing` trims, the whole live stack otherwise. -/
theorem idsOf_closingNow (s : St) :
    idsOf (closingNow s) = if trims (isFnScope s) s.linear then aboveBoundary s s.linear else idsOf s.linear := by
  simp only [closingNow, newClosing_eq]
  split
  · exact idsOf_takeToBoundary s s.linear
  · rfl

theorem firstBinding_congr {s s' : St} (h : s'.scopes = s.scopes) (x : String) (ids : List Nat) :
    firstBinding s' x ids = firstBinding s x ids := by
  simp only [firstBinding_eq, scopeOf, h]

theorem _root_.ZygoVerif.Sim.lookup_map_set (x : String) (v : Val) (y : String) : ∀ (l : List (String × Val)),
    (l.map (fun p => if p.1 == x then (x, v) else p)).lookup y =
      if y == x then (if l.any (·.1 == x) then some v else none) else l.lookup y
  | [] => by simp
  | (k, w) :: l => by
    have ih := Sim.lookup_map_set x v y l
    simp only [List.map_cons, List.any_cons]
    by_cases hk : (k == x) = true
    · have hkx : k = x := by simpa using hk
      subst hkx
      simp only [beq_self_eq_true, if_true, Bool.true_or, List.lookup_cons]
      by_cases hy : (y == k) = true
      · simp [hy]
      · have hy' : (y == k) = false := by simpa using hy
        simp only [hy', ih]
        simp
    · have hk' : (k == x) = false := by simpa using hk
      simp only [hk', Bool.false_eq_true, if_false, Bool.false_or, List.lookup_cons]
      by_cases hy : (y == k) = true
      · have hyk : y = k := by simpa using hy
        subst hyk
        simp [hk']
      · have hy' : (y == k) = false := by simpa using hy
        simp only [hy', ih]

theorem _root_.ZygoVerif.Sim.lookup_assocSet (l : List (String × Val)) (x : String) (v : Val) (y : String) :
    (assocSet l x v).lookup y = if y == x then some v else l.lookup y := by
  unfold assocSet
  by_cases ha : l.any (·.1 == x) = true
  · rw [if_pos ha, Sim.lookup_map_set, ha]; rfl
  · rw [if_neg ha, List.lookup_cons]
    by_cases hy : (y == x) = true
    · simp [hy]
    · have hy' : (y == x) = false := by simpa using hy
      simp [hy']

theorem lookup_assocSet_same (l : List (String × Val)) (x : String) (v : Val) :
    (assocSet l x v).lookup x = some v := by
  rw [Sim.lookup_assocSet, beq_self_eq_true, if_pos rfl]

theorem lookup_assocSet_other (l : List (String × Val)) (x y : String) (v : Val) (hne : y ≠ x) :
    (assocSet l x v).lookup y = l.lookup y := by
  rw [Sim.lookup_assocSet, if_neg (by simpa using hne)]

def setVarSt (s : St) (id : Nat) (x : String) (v : Val) : St :=
  { s with scopes := s.scopes.set id { (scopeOf s id) with vars := assocSet (scopeOf s id).vars x v } }

theorem scopeOf_setVarSt_same (s : St) (id : Nat) (x : String) (v : Val) (h : id < s.scopes.length) :
    scopeOf (setVarSt s id x v) id = { (scopeOf s id) with vars := assocSet (scopeOf s id).vars x v } := by
  simp [scopeOf, setVarSt, List.getD_eq_getElem?_getD, h]

theorem scopeOf_setVarSt_other (s : St) (id j : Nat) (x : String) (v : Val) (h : j ≠ id) :
    scopeOf (setVarSt s id x v) j = scopeOf s j := by
  simp [scopeOf, setVarSt, List.getD_eq_getElem?_getD, Ne.symm h]

theorem getD_mem_or_default {α} (l : List α) (i : Nat) (d : α) : l.getD i d ∈ l ∨ l.getD i d = d := by
  rw [List.getD_eq_getElem?_getD]
  cases h : l[i]? with
  | none => right; rfl
  | some a => left; exact List.mem_of_getElem? h

theorem getD_append_lt {α} (l extra : List α) (i : Nat) (d : α) (h : i < l.length) :
    (l ++ extra).getD i d = l.getD i d := by
  simp [List.getD_eq_getElem?_getD, List.getElem?_append_left h]

/-- writing an entry that agrees with the old one under `p` changes no entry under `p` (nor the default,
when the index is out of range) -/
theorem getD_set_proj {α β} (p : α → β) (l : List α) (i j : Nat) (a d : α) (h : p a = p (l.getD i d)) :
    p ((l.set i a).getD j d) = p (l.getD j d) := by
  by_cases hj : i = j
  · subst hj
    by_cases hl : i < l.length
    · rw [← h]; simp [List.getD_eq_getElem?_getD, hl]
    · rw [List.set_eq_of_length_le (by omega)]
  · simp [List.getD_eq_getElem?_getD, List.getElem?_set_ne hj]

theorem scopeOf_set_flags (s : St) (id j : Nat) (sc : Scope)
    (h1 : sc.isFunction = (scopeOf s id).isFunction) (h2 : sc.myFunction = (scopeOf s id).myFunction) :
    (((s.scopes.set id sc).getD j {}).isFunction = (scopeOf s j).isFunction) ∧
    (((s.scopes.set id sc).getD j {}).myFunction = (scopeOf s j).myFunction) :=
  ⟨getD_set_proj (·.isFunction) s.scopes id j sc {} h1, getD_set_proj (·.myFunction) s.scopes id j sc {} h2⟩

theorem isFnScope_setVarSt (s : St) (id : Nat) (x : String) (v : Val) (j : Nat) :
    isFnScope (setVarSt s id x v) j = isFnScope s j :=
  (scopeOf_set_flags s id j { scopeOf s id with vars := assocSet (scopeOf s id).vars x v } rfl rfl).1

/-- After an assignment through scope `id`, a search along any list of ids that reaches
`id` before any other scope binding `x` finds the new value there. -/
theorem firstBinding_after_set (s : St) (id : Nat) (x : String) (v : Val) (hid : id < s.scopes.length)
    (ids : List Nat) (w : Val) (h : firstBinding s x ids = some (id, w)) :
    firstBinding (setVarSt s id x v) x ids = some (id, v) := by
  obtain ⟨pre, post, he, hp, hv⟩ := firstBinding_some h
  rw [firstBinding_eq]
  refine firstOf_eq_some.mpr ⟨pre, post, he, fun j hj => ?_, ?_⟩
  · have hne : j ≠ id := fun e => by subst e; rw [hp j hj] at hv; cases hv
    rw [scopeOf_setVarSt_other s id j x v hne]; exact hp j hj
  · rw [scopeOf_setVarSt_same s id x v hid]; exact lookup_assocSet_same _ x v

end ZygoVerif.Scope
