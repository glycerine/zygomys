/-
C06, Pratt loop = stratified grammar: the stratified recursive-descent parser of
Spec/Stratified.lean without its fuel. One more unit of fuel changes nothing once a run has returned or the fuel
exceeds the measure (`fuel_step`, by induction on the size of the token list with `Settles.step`/`bind`/`map` on each
round; hence `strat_keeps` …, `strat_settles`);
`SS`/`SC`/`SO`/`SOne`/`SSel` — `Returns` of the five functions — satisfy the grammar's equations
  E_k ::= E_{k+1} chain_k,  operand ::= prefix-op E_above | atom,  …
(each is `Returns.step` on a round of the function, then the lemma for the shape of the round)
and `SClimb lvls x ts r`: the operand `x` is carried through the chains of the levels `lvls`,
tightest first (`SS_iff_climb`: a level list parses an operand, then climbs).
-/
import ZygoVerif.Spec.Stratified
import ZygoVerif.Proofs.PrattFuel
namespace ZygoVerif.Stratified
open ZygoVerif.Pratt (Sx staleOf countNamed sizeList selBody selBefore selAfter)

theorem splitColonTail_eq (xs : List Sx) : splitColonTail xs = Pratt.splitColonTail xs := by
  induction xs with
  | nil => rfl
  | cons t ts ih => cases t <;> simp [splitColonTail, Pratt.splitColonTail, ih]

theorem selector_succ (G : Grammar) (f : Nat) (xs : List Sx) :
    selector G (f + 1) (.arr xs) =
      selBody (single G f) (fun toks => strat G (staleOf toks) f G toks) (Pratt.splitColonTail xs) := by
  rw [selector.eq_2, splitColonTail_eq]
  unfold selBody Pratt.optOne selBefore selAfter countNamed staleOf
  dsimp only
  cases (if (List.takeWhile (fun t => !t.isNamed ":") (Pratt.splitColonTail xs)).isEmpty = true then some []
      else Option.map (fun x => [x]) (single G f (List.takeWhile (fun t => !t.isNamed ":") (Pratt.splitColonTail xs)))) <;>
  cases (if (List.dropWhile (fun t => !t.isNamed ":") (Pratt.splitColonTail xs)).tail.isEmpty = true then some []
      else Option.map (fun x => [x]) (single G f (List.dropWhile (fun t => !t.isNamed ":") (Pratt.splitColonTail xs)).tail)) <;>
  cases strat G ((Pratt.splitColonTail xs).getLast?.getD Sx.null) f G (Pratt.splitColonTail xs) with
  | none => rfl
  | some p => obtain ⟨x, ts1⟩ := p; cases ts1 <;> rfl

theorem size_pos (t : Sx) : 1 ≤ t.size := by cases t <;> simp [Sx.size] <;> omega

theorem sizeList_append (a b : List Sx) : sizeList (a ++ b) = sizeList a + sizeList b := by
  induction a with
  | nil => simp [sizeList]
  | cons x r ih => simp [sizeList, ih]; omega

theorem sizeList_suffix {a b : List Sx} (h : a <:+ b) : sizeList a ≤ sizeList b := by
  obtain ⟨p, rfl⟩ := h
  rw [sizeList_append]; omega

theorem sizeList_cons_mul (t : Sx) (ts : List Sx) (K : Nat) :
    sizeList (t :: ts) * K = t.size * K + sizeList ts * K ∧ K ≤ t.size * K :=
  ⟨by simp only [sizeList]; exact Nat.add_mul _ _ _, Nat.le_mul_of_pos_left K (size_pos t)⟩

theorem countNamed_cons_ge (n : String) (a : Sx) (l : List Sx) : countNamed n l ≤ countNamed n (a :: l) := by
  unfold countNamed
  rw [List.filter_cons]
  split <;> simp

theorem countNamed_colon_cons (l : List Sx) : countNamed ":" (Sx.sym ":" :: l) = countNamed ":" l + 1 := by
  unfold countNamed
  have : (Sx.sym ":").isNamed ":" = true := by decide
  rw [List.filter_cons, if_pos this]; rfl

/-- `splitColonTailSelectorSymbols` adds one token per colon it makes -/
theorem sizeList_split_le (xs : List Sx) :
    sizeList (Pratt.splitColonTail xs) ≤ sizeList xs + countNamed ":" (Pratt.splitColonTail xs) := by
  induction xs with
  | nil => simp [Pratt.splitColonTail, sizeList]
  | cons a r ih =>
    by_cases h : ∃ n, a = .lab n
    · obtain ⟨n, rfl⟩ := h
      have h1 := countNamed_cons_ge ":" (Sx.sym n) (Sx.sym ":" :: Pratt.splitColonTail r)
      have h2 := countNamed_colon_cons (Pratt.splitColonTail r)
      simp only [Pratt.splitColonTail, sizeList, Sx.size]; omega
    · have h1 := countNamed_cons_ge ":" a (Pratt.splitColonTail r)
      rw [Pratt.splitColonTail_cons (fun n hn => h ⟨n, hn⟩)]
      simp only [sizeList]; omega

theorem strat_cons (G : Grammar) (E : Sx) (f : Nat) (lv : Level) (rest : Grammar) (ts : List Sx) :
    strat G E (f + 1) (lv :: rest) ts = (strat G E f rest ts).bind fun p => chain G E f lv rest p.1 p.2 := by
  rw [strat.eq_3]; cases strat G E f rest ts <;> rfl

theorem chain_bin {G : Grammar} {E : Sx} {f : Nat} {lv : Level} {rest : Grammar} {x t : Sx} {ts : List Sx} {out : String}
    (ha : actOf G lv t = some (.bin out)) :
    chain G E (f + 1) lv rest x (t :: ts) =
      if lv.right then (strat G E f (lv :: rest) ts).map fun p => (.list [.sym out, x, p.1], p.2)
      else (strat G E f rest ts).bind fun p => chain G E f lv rest (.list [.sym out, x, p.1]) p.2 := by
  rw [chain.eq_3, ha]; dsimp only
  split
  · cases strat G E f (lv :: rest) ts <;> rfl
  · cases strat G E f rest ts <;> rfl

theorem chain_index {G : Grammar} {E : Sx} {f : Nat} {lv : Level} {rest : Grammar} {x t : Sx} {ts : List Sx}
    (ha : actOf G lv t = some .index) :
    chain G E (f + 1) lv rest x (t :: ts) =
      (selector G f t).bind fun sel => chain G E f lv rest (.list [.sym "arrayidx", x, sel]) ts := by
  rw [chain.eq_3, ha]; dsimp only; cases selector G f t <;> rfl

theorem operand_pre {G : Grammar} {E : Sx} {f : Nat} {t : Sx} {ts : List Sx} {out : String} {above : Grammar}
    (hp : prefixOf t G = some (out, above)) :
    operand G E (f + 1) (t :: ts) = (strat G E f above ts).map fun p => (.list [.sym out, p.1], p.2) := by
  rw [operand.eq_3, hp]; dsimp only; cases strat G E f above ts <;> rfl

theorem single_succ (G : Grammar) (f : Nat) (ts : List Sx) :
    single G (f + 1) ts = (strat G (staleOf ts) f G ts).bind fun p => match p with
      | (x, []) => some x
      | _ => none := by
  rw [single.eq_2]
  show _ = (strat G (ts.getLast?.getD Sx.null) f G ts).bind _
  cases strat G (ts.getLast?.getD Sx.null) f G ts with
  | none => rfl
  | some p => obtain ⟨x, ts1⟩ := p; cases ts1 <;> rfl

theorem res_suffix (G : Grammar) : ∀ f,
    (∀ E lvls ts r, strat G E f lvls ts = some r → r.2 <:+ ts) ∧
    (∀ E lv rest x ts r, chain G E f lv rest x ts = some r → r.2 <:+ ts) ∧
    (∀ E ts r, operand G E f ts = some r → r.2 <:+ ts) := by
  intro f
  induction f with
  | zero =>
    exact ⟨fun _ _ _ _ h => by simp [strat] at h, fun _ _ _ _ _ _ h => by simp [chain] at h,
      fun _ _ _ h => by simp [operand] at h⟩
  | succ f ih =>
    obtain ⟨ihS, ihC, ihO⟩ := ih
    refine ⟨?_, ?_, ?_⟩
    · intro E lvls ts r h
      cases lvls with
      | nil => rw [strat.eq_2] at h; exact ihO _ _ _ h
      | cons lv rest =>
        rw [strat_cons] at h
        obtain ⟨p, hx, h'⟩ := Option.bind_eq_some_iff.1 h
        exact (ihC _ _ _ _ _ _ h').trans (ihS _ _ _ _ hx)
    · intro E lv rest x ts r h
      cases ts with
      | nil => rw [chain.eq_2] at h; cases h; exact List.suffix_refl _
      | cons t ts =>
        have goOn : ∀ y, chain G E f lv rest y ts = some r → r.2 <:+ t :: ts :=
          fun y h => (ihC _ _ _ _ _ _ h).trans (List.suffix_cons t ts)
        cases ha : actOf G lv t with
        | none => rw [chain.eq_3, ha] at h; cases h; exact List.suffix_refl _
        | some a =>
          cases a with
          | bin out =>
            rw [chain_bin ha] at h
            split at h
            · obtain ⟨p, hy, rfl⟩ := Option.map_eq_some_iff.1 h
              exact (ihS _ _ _ _ hy).trans (List.suffix_cons t ts)
            · obtain ⟨p, hy, h'⟩ := Option.bind_eq_some_iff.1 h
              exact ((ihC _ _ _ _ _ _ h').trans (ihS _ _ _ _ hy)).trans (List.suffix_cons t ts)
          | index =>
            rw [chain_index ha] at h
            obtain ⟨sel, _, h'⟩ := Option.bind_eq_some_iff.1 h
            exact goOn _ h'
          | _ => rw [chain.eq_3, ha] at h; exact goOn _ h
    · intro E ts r h
      cases ts with
      | nil => rw [operand.eq_2] at h; cases h; exact List.suffix_refl _
      | cons t ts =>
        cases hp : prefixOf t G with
        | none => rw [operand.eq_3, hp] at h; cases h; exact List.suffix_cons t ts
        | some p =>
          obtain ⟨out, above⟩ := p
          rw [operand_pre hp] at h
          obtain ⟨q, hx, rfl⟩ := Option.map_eq_some_iff.1 h
          exact (ihS _ _ _ _ hx).trans (List.suffix_cons t ts)

theorem prefixOf_suffix (t : Sx) : ∀ (lvls : Grammar) (out : String) (above : Grammar),
    prefixOf t lvls = some (out, above) → above <:+ lvls
  | [], _, _, h => by simp [prefixOf] at h
  | lv :: rest, out, above, h => by
    rw [prefixOf] at h
    split at h
    · simp only [Option.some.injEq, Prod.mk.injEq] at h
      rw [← h.2]; exact List.suffix_cons lv rest
    · exact (prefixOf_suffix t rest out above h).trans (List.suffix_cons lv rest)

section Settles
variable {G : Grammar} {K : Nat}

theorem single_settles_of {ts : List Sx} {k : Nat} (h : Settles (fun f => strat G (staleOf ts) f G ts) k) :
    Settles (fun f => single G f ts) (k + 1) :=
  Settles.step rfl (fun f => single_succ G f ts) (h.bind fun _ _ => Settles.const _ _)

variable (hK : G.length + 3 ≤ K)
include hK

/-- a selector settles where the parse at the loosest level does on every list smaller than the selector: a part of a
slice is smaller than the selector's content; so is the whole when there is no colon -/
theorem selector_settles_of {t : Sx}
    (hS : ∀ ts, sizeList ts + 1 ≤ t.size → ∀ E, Settles (fun f => strat G E f G ts) (sizeList ts * K + G.length + 2)) :
    Settles (fun f => selector G f t) (t.size * K + 1) := by
  cases t with
  | arr xs =>
    have hA := sizeList_split_le xs
    have hexp : (Sx.arr xs).size * K = K + sizeList xs * K := by simp only [Sx.size]; rw [Nat.add_mul, Nat.one_mul]
    -- on a list no larger than the selector's content the parse settles within the measure of the content
    have small : ∀ (l : List Sx) E, sizeList l ≤ sizeList xs →
        Settles (fun f => strat G E f G l) (sizeList xs * K + G.length + 2) := fun l E hl =>
      (hS l (by simp only [Sx.size]; omega) E).of_le
        (Nat.add_le_add_right (Nat.add_le_add_right (Nat.mul_le_mul_right K hl) _) _)
    exact Settles.step rfl (fun f => selector_succ G f xs) <|
      Pratt.selBody_settles sizeList_append (fun d r => by have := size_pos d; simp only [sizeList]; omega)
        (fun c l _ hl => (single_settles_of (small l _ (by omega))).of_le (by omega))
        (fun c => (small _ _ (by omega)).of_le (by omega))
  | _ => exact (Settles.step rfl (fun _ => rfl) (Settles.const _ 0)).of_le (by omega)

/-- One more unit of fuel changes nothing once the run has returned a result, or the fuel exceeds the measure:
`K = levels + 3` per unit of token size (a token is met by at most one descent through the levels, one `operand`,
one chain round, and — a selector — one fresh descent), plus the levels still to descend. By induction on the size of the
token list: a chain round and `operand` call the parser on strictly smaller lists, `strat` descends through its levels to
`operand` and then runs the chains on what is left. -/
theorem fuel_step : ∀ ts : List Sx,
    (∀ E lvls, Settles (fun f => strat G E f lvls ts) (sizeList ts * K + lvls.length + 2)) ∧
    (∀ E lv rest x, Settles (fun f => chain G E f lv rest x ts) (sizeList ts * K + rest.length + 2)) ∧
    (∀ E, Settles (fun f => operand G E f ts) (sizeList ts * K + 1)) := by
  intro ts
  induction hn : sizeList ts using Nat.strongRecOn generalizing ts with
  | _ n ih =>
    subst hn
    -- the chains first, on every list no larger than `ts` (`strat` runs them on what `operand` has left): a round calls
    -- the parser on strictly smaller lists only
    have hC : ∀ ts1 : List Sx, sizeList ts1 ≤ sizeList ts → ∀ E lv rest x,
        Settles (fun f => chain G E f lv rest x ts1) (sizeList ts1 * K + rest.length + 2) := by
      intro ts1 hle E lv rest x
      cases ts1 with
      | nil => exact Settles.step rfl (fun _ => chain.eq_2 ..) (Settles.const _ _)
      | cons t ts' =>
        have ⟨hcons, hpos⟩ := sizeList_cons_mul t ts' K
        have hlt : sizeList ts' < sizeList ts := by have := size_pos t; simp only [sizeList] at hle; omega
        obtain ⟨hS', hC', _⟩ := ih _ hlt ts' rfl
        -- the chain goes on with a new left tree on the same rest
        have goOn : ∀ y, Settles (fun f => chain G E f lv rest y ts') (sizeList (t :: ts') * K + rest.length + 1) :=
          fun y => (hC' E lv rest y).of_le (by omega)
        cases ha : actOf G lv t with
        | none => exact Settles.step rfl (fun _ => by rw [chain.eq_3, ha]) (Settles.const _ _)
        | some a =>
          cases a with
          | bin out =>
            refine Settles.step rfl (fun _ => chain_bin ha) ?_
            by_cases hr : lv.right = true
            · simp only [if_pos hr]
              exact ((hS' E (lv :: rest)).map _).of_le (by simp only [List.length_cons]; omega)
            · simp only [if_neg hr]
              refine ((hS' E rest).of_le (by omega)).bind fun p ⟨f, hp⟩ => ?_
              have := Nat.mul_le_mul_right K (sizeList_suffix ((res_suffix G f).1 _ _ _ _ hp))
              exact ((ih _ (by have := sizeList_suffix ((res_suffix G f).1 _ _ _ _ hp); omega) p.2 rfl).2.1 E lv rest _).of_le (by omega)
          | index =>
            have hsel := selector_settles_of hK (t := t) fun ts2 h2 E =>
              (ih _ (by simp only [sizeList] at hle; omega) ts2 rfl).1 E G
            exact Settles.step rfl (fun _ => chain_index ha) <| (hsel.of_le (by omega)).bind fun _ _ => goOn _
          | _ => exact Settles.step rfl (fun _ => by rw [chain.eq_3, ha]) (goOn _)
    have hO : ∀ E, Settles (fun f => operand G E f ts) (sizeList ts * K + 1) := by
      intro E
      cases ts with
      | nil => exact Settles.step rfl (fun _ => operand.eq_2 ..) (Settles.const _ _)
      | cons t ts' =>
        cases hp : prefixOf t G with
        | none => exact Settles.step rfl (fun _ => by rw [operand.eq_3, hp]) (Settles.const _ _)
        | some p =>
          obtain ⟨out, above⟩ := p
          have ⟨hcons, hpos⟩ := sizeList_cons_mul t ts' K
          have hab : above.length ≤ G.length := (prefixOf_suffix t G out above hp).length_le
          exact Settles.step rfl (fun _ => operand_pre hp) <|
            (((ih _ (by have := size_pos t; simp only [sizeList]; omega) ts' rfl).1 E above).map _).of_le (by omega)
    refine ⟨fun E lvls => ?_, hC ts (Nat.le_refl _), hO⟩
    induction lvls with
    | nil => exact Settles.step rfl (fun _ => strat.eq_2 ..) ((hO E).of_le (Nat.le_refl _))
    | cons lv rest ihl =>
      refine Settles.step rfl (fun _ => strat_cons ..) <| (ihl.of_le (by simp only [List.length_cons]; omega)).bind fun p ⟨f, hp⟩ => ?_
      have hs := sizeList_suffix ((res_suffix G f).1 _ _ _ _ hp)
      have := Nat.mul_le_mul_right K hs
      exact (hC p.2 hs E lv rest p.1).of_le (by simp only [List.length_cons]; omega)

end Settles

section Keeps
variable (G : Grammar) {E : Sx}

theorem strat_keeps (lvls : Grammar) (ts : List Sx) : Keeps fun f => strat G E f lvls ts :=
  ((fuel_step (Nat.le_refl _) ts).1 E lvls).keeps

theorem chain_keeps (lv : Level) (rest : Grammar) (x : Sx) (ts : List Sx) : Keeps fun f => chain G E f lv rest x ts :=
  ((fuel_step (Nat.le_refl _) ts).2.1 E lv rest x).keeps

theorem strat_settles (E : Sx) (ts : List Sx) :
    Settles (fun f => strat G E f G ts) (sizeList ts * (G.length + 3) + G.length + 2) :=
  (fuel_step (Nat.le_refl _) ts).1 E G

theorem single_keeps (ts : List Sx) : Keeps fun f => single G f ts :=
  (single_settles_of (strat_settles G _ ts)).keeps

theorem selector_keeps (t : Sx) : Keeps fun f => selector G f t :=
  (selector_settles_of (Nat.le_refl _) fun ts _ E => strat_settles G E ts).keeps

end Keeps

def SS (G : Grammar) (E : Sx) (lvls : Grammar) (ts : List Sx) (r : Sx × List Sx) : Prop := ∃ f, strat G E f lvls ts = some r
def SC (G : Grammar) (E : Sx) (lv : Level) (rest : Grammar) (x : Sx) (ts : List Sx) (r : Sx × List Sx) : Prop :=
  Returns (fun f => chain G E f lv rest x ts) r
def SO (G : Grammar) (E : Sx) (ts : List Sx) (r : Sx × List Sx) : Prop := Returns (fun f => operand G E f ts) r
def SOne (G : Grammar) (ts : List Sx) (x : Sx) : Prop := Returns (fun f => single G f ts) x
def SSel (G : Grammar) (t : Sx) (s : Sx) : Prop := Returns (fun f => selector G f t) s

section Eqns
variable {G : Grammar} {E : Sx}

theorem SS_nil {ts : List Sx} {r : Sx × List Sx} : SS G E [] ts r ↔ SO G E ts r :=
  Returns.step rfl fun _ => strat.eq_2 ..

theorem SS_cons {lv : Level} {rest : Grammar} {ts : List Sx} {r : Sx × List Sx} :
    SS G E (lv :: rest) ts r ↔ ∃ x ts1, SS G E rest ts (x, ts1) ∧ SC G E lv rest x ts1 r :=
  (Returns.step rfl fun _ => strat_cons ..).trans <|
    (Returns.bind (strat_keeps G rest ts) fun _ _ => chain_keeps G _ _ _ _).trans Prod.exists

theorem SS_det {lvls : Grammar} {ts : List Sx} {r1 r2 : Sx × List Sx} (h1 : SS G E lvls ts r1) (h2 : SS G E lvls ts r2) :
    r1 = r2 :=
  Returns.det (strat_keeps G lvls ts) h1 h2

theorem SO_nil {r : Sx × List Sx} : SO G E [] r ↔ r = (E, []) :=
  (Returns.step rfl fun _ => operand.eq_2 ..).trans Returns.pure

theorem SO_atom {t : Sx} {ts : List Sx} {r : Sx × List Sx} (hp : prefixOf t G = none) :
    SO G E (t :: ts) r ↔ r = (t, ts) :=
  (Returns.step rfl fun _ => by rw [operand.eq_3, hp]).trans Returns.pure

theorem SO_pre {t : Sx} {ts : List Sx} {r : Sx × List Sx} {out : String} {above : Grammar}
    (hp : prefixOf t G = some (out, above)) :
    SO G E (t :: ts) r ↔ ∃ x ts1, SS G E above ts (x, ts1) ∧ r = (.list [.sym out, x], ts1) :=
  (Returns.step rfl fun _ => operand_pre hp).trans (Returns.map.trans Prod.exists)

theorem SC_nil {lv : Level} {rest : Grammar} {x : Sx} {r : Sx × List Sx} : SC G E lv rest x [] r ↔ r = (x, []) :=
  (Returns.step rfl fun _ => chain.eq_2 ..).trans Returns.pure

theorem SC_pass {lv : Level} {rest : Grammar} {x t : Sx} {ts : List Sx} {r : Sx × List Sx} (ha : actOf G lv t = none) :
    SC G E lv rest x (t :: ts) r ↔ r = (x, t :: ts) :=
  (Returns.step rfl fun _ => by rw [chain.eq_3, ha]).trans Returns.pure

theorem SC_binL {lv : Level} {rest : Grammar} {x t : Sx} {ts : List Sx} {r : Sx × List Sx} {out : String}
    (ha : actOf G lv t = some (.bin out)) (hr : lv.right = false) :
    SC G E lv rest x (t :: ts) r ↔ ∃ y ts1, SS G E rest ts (y, ts1) ∧ SC G E lv rest (.list [.sym out, x, y]) ts1 r :=
  (Returns.step rfl fun _ => (chain_bin ha).trans (if_neg (by simp [hr]))).trans <|
    (Returns.bind (strat_keeps G rest ts) fun _ _ => chain_keeps G _ _ _ _).trans Prod.exists

theorem SC_binR {lv : Level} {rest : Grammar} {x t : Sx} {ts : List Sx} {r : Sx × List Sx} {out : String}
    (ha : actOf G lv t = some (.bin out)) (hr : lv.right = true) :
    SC G E lv rest x (t :: ts) r ↔ ∃ y ts1, SS G E (lv :: rest) ts (y, ts1) ∧ r = (.list [.sym out, x, y], ts1) :=
  (Returns.step rfl fun _ => (chain_bin ha).trans (if_pos hr)).trans (Returns.map.trans Prod.exists)

/-- the operators without a right operand: the chain goes on with a new left tree -/
theorem SC_noarg {lv : Level} {rest : Grammar} {x t : Sx} {ts : List Sx} {r : Sx × List Sx} :
    (∀ name, actOf G lv t = some (.post name) → (SC G E lv rest x (t :: ts) r ↔ SC G E lv rest (.list [.sym name, x]) ts r)) ∧
    (actOf G lv t = some .field → (SC G E lv rest x (t :: ts) r ↔ SC G E lv rest (.list [.sym "hashidx", x, t]) ts r)) ∧
    (actOf G lv t = some .drop → (SC G E lv rest x (t :: ts) r ↔ SC G E lv rest t ts r)) :=
  ⟨fun _ ha => Returns.step rfl fun _ => by rw [chain.eq_3, ha], fun ha => Returns.step rfl fun _ => by rw [chain.eq_3, ha],
   fun ha => Returns.step rfl fun _ => by rw [chain.eq_3, ha]⟩

theorem SC_index {lv : Level} {rest : Grammar} {x t : Sx} {ts : List Sx} {r : Sx × List Sx}
    (ha : actOf G lv t = some .index) :
    SC G E lv rest x (t :: ts) r ↔ ∃ sel, SSel G t sel ∧ SC G E lv rest (.list [.sym "arrayidx", x, sel]) ts r :=
  (Returns.step rfl fun _ => chain_index ha).trans (Returns.bind (selector_keeps G t) fun _ _ => chain_keeps G _ _ _ _)

theorem SOne_iff {ts : List Sx} {x : Sx} : SOne G ts x ↔ SS G (staleOf ts) G ts (x, []) := by
  refine (Returns.step rfl fun _ => single_succ ..).trans (Returns.bind_const.trans ?_)
  constructor
  · rintro ⟨⟨x', ts1⟩, h, he⟩
    cases ts1 with
    | nil => cases he; exact h
    | cons a b => cases he
  · intro h; exact ⟨_, h, rfl⟩

/-- the operand `x` followed by `ts` is carried through the chains of `lvls`, tightest level first -/
def SClimb (G : Grammar) (E : Sx) : Grammar → Sx → List Sx → Sx × List Sx → Prop
  | [], x, ts, r => r = (x, ts)
  | lv :: rest, x, ts, r => ∃ y ts1, SClimb G E rest x ts (y, ts1) ∧ SC G E lv rest y ts1 r

theorem SS_iff_climb (lvls : Grammar) (ts : List Sx) (r : Sx × List Sx) :
    SS G E lvls ts r ↔ ∃ x ts1, SO G E ts (x, ts1) ∧ SClimb G E lvls x ts1 r := by
  induction lvls generalizing r with
  | nil =>
    rw [SS_nil]
    constructor
    · intro h; exact ⟨r.1, r.2, h, rfl⟩
    · rintro ⟨x, ts1, h, rfl⟩; exact h
  | cons lv rest ih =>
    rw [SS_cons]
    constructor
    · rintro ⟨y, ts2, h1, h2⟩
      obtain ⟨x, ts1, g1, g2⟩ := (ih _).1 h1
      exact ⟨x, ts1, g1, y, ts2, g2, h2⟩
    · rintro ⟨x, ts1, g1, y, ts2, g2, h2⟩
      exact ⟨y, ts2, (ih _).2 ⟨x, ts1, g1, g2⟩, h2⟩

end Eqns

end ZygoVerif.Stratified
