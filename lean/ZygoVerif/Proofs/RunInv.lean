/-
The run-time invariant behind C04's calling contract (`C04.calling_contract`,
`C04.run_at_rest_of_invariant`).

* `WF s`      — the tables of the interpreter: every function object (index ≥ 2: templates, closures,
                the helpers of `EvalCallExpression` / `Force`; 0 and 1 are `mainfunc` and the stand-in
                for a running Go builtin of `initSt.fns`, which no value names — hence the `2 ≤ id`
                of `vok` — and `mainfunc` has its own facts, `MainOK` in Proofs/RunMain.lean) is a
                VERIFIED function with a well-formed signature and generated-code side conditions (`AllOK`); every value
                stored anywhere (scopes, heap, forced lazies, the non-mark cells of the data stack)
                is `vok`: contains no stack-mark and only ids of such functions; the expressions of
                lazies are in the covered grammar; the compile-time loop stack is empty.
* `TExt`      — the tables only grow (function objects and loop records are appended).
* `Running`   — the stack of activations of one `runLoop`: the top activation is described by the
                checker's invariant `Bal.Inv` at its pc; every suspended caller by `Bal.Inv` of the
                state it will be in when its callee has returned ("one value on the data the
                callee was entered with, the callee's scope depth, one return address less"); the
                bottom activation sits on the `Base` the loop was started on.
-/
import ZygoVerif.Proofs.GenCodeOK
import ZygoVerif.Proofs.VMRefine
import ZygoVerif.Proofs.PrimCases
namespace ZygoVerif.RunInv
open ZygoVerif.Core ZygoVerif.VM ZygoVerif.Bal ZygoVerif.Refine

/-- a value that may be stored: no stack-mark inside, function ids name function objects -/
def vok (n : Nat) : Val → Bool
  | .pair a b => vok n a && vok n b
  | .mark _ => false
  | .fn id => decide (2 ≤ id ∧ id < n)
  | _ => true

theorem vok_mono {n m : Nat} (h : n ≤ m) : ∀ v, vok n v = true → vok m v = true
  | .pair a b, hv => by
    simp only [vok, Bool.and_eq_true] at hv ⊢
    exact ⟨vok_mono h a hv.1, vok_mono h b hv.2⟩
  | .mark _, hv => by simp [vok] at hv
  | .fn id, hv => by simp only [vok, decide_eq_true_eq] at hv ⊢; omega
  | .nil, _ => rfl
  | .bool _, _ => rfl
  | .int _, _ => rfl
  | .str _, _ => rfl
  | .arr _, _ => rfl
  | .builtin _, _ => rfl
  | .lazy _, _ => rfl
  | .sym _, _ => rfl

/-- "storable" holds of the constants and of array references and is decided part by part on pairs -/
theorem vok_valPred (n : Nat) : ValPred (fun v => vok n v = true) :=
  ⟨rfl, fun _ => rfl, fun _ => rfl, fun _ => rfl, fun _ => rfl, fun a b => by simp only [vok, Bool.and_eq_true]⟩

theorem vok_plain {n : Nat} {v : Val} (h : vok n v = true) : plain v = true := by
  cases v <;> first | rfl | simp [vok] at h

/-- a cell of the data stack: a padding cell, a stack-mark, or a storable value -/
def cellOK (n : Nat) : Option Val → Prop
  | none => True
  | some (.mark _) => True
  | some v => vok n v = true

theorem cellOK_mono {n m : Nat} (h : n ≤ m) (c : Option Val) (hc : cellOK n c) : cellOK m c := by
  cases c with
  | none => trivial
  | some v => cases v <;> first | trivial | exact vok_mono h _ hc

theorem cellOK_of_vok {n : Nat} {v : Val} (h : vok n v = true) : cellOK n (some v) := by
  cases v <;> first | trivial | exact h

theorem vok_of_cell {n : Nat} {v : Val} (hc : cellOK n (some v)) (hv : cellOf (some v) = .val) : vok n v = true := by
  cases v <;> first | exact hc | cases hv

structure TExt (s s' : St) : Prop where
  fns : ∃ e, s'.fns = s.fns ++ e
  loops : ∃ e, s'.loops = s.loops ++ e

theorem TExt.refl (s : St) : TExt s s := ⟨⟨[], by simp⟩, ⟨[], by simp⟩⟩

theorem TExt.trans {a b c : St} (h1 : TExt a b) (h2 : TExt b c) : TExt a c := by
  obtain ⟨⟨f1, hf1⟩, ⟨l1, hl1⟩⟩ := h1
  obtain ⟨⟨f2, hf2⟩, ⟨l2, hl2⟩⟩ := h2
  exact ⟨⟨f1 ++ f2, by rw [hf2, hf1, List.append_assoc]⟩, ⟨l1 ++ l2, by rw [hl2, hl1, List.append_assoc]⟩⟩

theorem TExt.same {s s' : St} (hf : s'.fns = s.fns) (hl : s'.loops = s.loops) : TExt s s' :=
  ⟨⟨[], by simp [hf]⟩, ⟨[], by simp [hl]⟩⟩

theorem TExt.fns_len {s s' : St} (h : TExt s s') : s.fns.length ≤ s'.fns.length := by
  obtain ⟨⟨e, he⟩, _⟩ := h; rw [he]; simp

theorem TExt.loops_len {s s' : St} (h : TExt s s') : s.loops.length ≤ s'.loops.length := by
  obtain ⟨_, ⟨e, he⟩⟩ := h; rw [he]; simp

theorem TExt.fnOf {s s' : St} (h : TExt s s') (id : Nat) (hid : id < s.fns.length) : fnOf s' id = fnOf s id := by
  obtain ⟨⟨e, he⟩, _⟩ := h
  simp only [VM.fnOf, he, List.getD_eq_getElem?_getD, List.getElem?_append_left hid]

def szS (s : St) : Sz := ⟨s.loops.length, s.fns.length⟩

theorem TExt.sz {s s' : St} (h : TExt s s') : (szS s).le (szS s') := ⟨h.loops_len, h.fns_len⟩

theorem toB_stable {T T' : List LoopRec} {M : Nat} (h : ∃ e, T' = T ++ e) (i : Instr) (hi : instrOK ⟨T.length, M⟩ i = true) :
    toB T' i = toB T i := by
  obtain ⟨e, rfl⟩ := h
  cases i <;> first
    | rfl
    | (simp only [instrOK, decide_eq_true_eq] at hi
       simp only [toB, List.getD_eq_getElem?_getD, List.getElem?_append_left hi])

theorem B_stable {T T' : List LoopRec} {M : Nat} (h : ∃ e, T' = T ++ e) (code : List Instr) (hc : AllOK ⟨T.length, M⟩ code) :
    B T' code = B T code := by
  simp only [B]
  apply List.map_congr_left
  intro i hi
  exact toB_stable h i (hc i hi)

theorem fnB_stable {s s' : St} (h : TExt s s') (id : Nat) (hid : id < s.fns.length)
    (hc : AllOK (szS s) (fnOf s id).code) : fnB s' id = fnB s id := by
  simp only [fnB, h.fnOf id hid, B_stable h.loops _ hc]

/-- function object `id` is compiled code that the balance checker accepts -/
structure FnGood (s : St) (id : Nat) : Prop where
  user : (fnOf s id).user = false
  sig : (fnOf s id).params.length = (fnOf s id).nargs + (if (fnOf s id).varargs then 1 else 0)
  code : AllOK (szS s) (fnOf s id).code
  verified : ∃ ann, verify (fnB s id) ann = true

theorem FnGood.ext {s s' : St} {id : Nat} (h : FnGood s id) (he : TExt s s') (hid : id < s.fns.length) : FnGood s' id := by
  have hf := he.fnOf id hid
  refine ⟨by rw [hf]; exact h.user, by rw [hf]; exact h.sig, by rw [hf]; exact h.code.mono he.sz, ?_⟩
  rw [fnB_stable he id hid h.code]
  exact h.verified

structure WF (s : St) : Prop where
  fns : ∀ id, 2 ≤ id → id < s.fns.length → FnGood s id
  two : 2 ≤ s.fns.length
  loopstack : s.loopstack = []
  scopes : ∀ sc ∈ s.scopes, ∀ p ∈ sc.vars, vok s.fns.length p.2 = true
  heap : ∀ a ∈ s.heap.arrs, ∀ v ∈ a, vok s.fns.length v = true
  lazies : ∀ lz ∈ s.lazies, okL lz.e = true ∧ ∀ v, lz.value = some v → vok s.fns.length v = true
  data : ∀ c ∈ s.data, cellOK s.fns.length c

/-- an activation: function `f` with the annotation `ann` that verifies it, entered on the data
cells `D` of its caller (its operands above them), at scope depth `S`, with `A` return addresses
on the address stack (its own included) -/
structure Act where
  f : Nat
  ann : Ann
  D : List Cell
  S : Nat
  A : Nat

/-- the activation's function is compiled code, locally verified by its annotation, and never
runs off its end -/
structure ActOK (s : St) (a : Act) : Prop where
  step : StepVerified (fnB s a.f) a.ann
  /-- (an activation with a return address, `A ≠ 0`: not the top-level text) it was entered at instruction 0 -/
  entry : a.A ≠ 0 → ∃ t, annAt a.ann 0 = some t ∧ (fnB s a.f).entry.le t = true
  len : a.ann.length = (fnB s a.f).code.length + 1
  /-- an activation with a return address never runs off its end (the top-level text does: that is how it ends) -/
  noEnd : a.A ≠ 0 → annAt a.ann (fnB s a.f).code.length = none
  user : (fnOf s a.f).user = false
  idx : a.f < s.fns.length
  code : AllOK (szS s) (fnOf s a.f).code

theorem ActOK.ext {s s' : St} {a : Act} (h : ActOK s a) (he : TExt s s') : ActOK s' a := by
  have hb := fnB_stable he a.f h.idx h.code
  have hf := he.fnOf a.f h.idx
  exact ⟨by rw [hb]; exact h.step, by rw [hb]; exact h.entry, by rw [hb]; exact h.len, by rw [hb]; exact h.noEnd, by rw [hf]; exact h.user,
    Nat.lt_of_lt_of_le h.idx he.fns_len, by rw [hf]; exact h.code.mono he.sz⟩

/-- what a `runLoop` was started on: the stacks of the pseudo caller and where it resumes -/
structure Base where
  data : List (Option Val)
  linear : List (Option Nat)
  addr : List (Option (Nat × Int))
  cur : Nat
  pc : Int
  /-- the bottom activation is the top-level text (`mainfunc`): it has no return address, and it ends by
  running off its end instead of returning -/
  main : Bool

/-- the suspended callers, innermost first; `D`, `S`, `addr` are the data cells below the callee,
its scope depth and the address stack while it runs; cells (`Refine.cellOf`), because that is what the
checker's invariant speaks about. At the bottom the three are the base's, and the address on top is the
pseudo caller's — none under the top-level text (`Base.main`). `0 ≤ r`: the return pc is read as a position
of the annotation (`r.toNat`). `a.D.length ≤ D.length`: a caller's own entry data lie below what it
had pushed when it called, so the data the bottom activation was entered on is the shallowest of
the chain (`Chain.dlen`), which is the room the error path needs (Proofs/RunErr.lean). -/
def Chain (b : Base) (s : St) : List Act → List Cell → Nat → List (Option (Nat × Int)) → Prop
  | [], D, S, addr => D = b.data.map cellOf ∧ S = b.linear.length ∧
      (if b.main = true then addr = [] else addr = some (b.cur, b.pc + 1) :: b.addr)
  | a :: rest, D, S, addr => ∃ r tail, addr = some (a.f, r) :: tail ∧ 0 ≤ r ∧
      Bal.Inv a.ann a.D a.S a.A ⟨r.toNat, .val :: D, S, a.A⟩ ∧ a.A = tail.length ∧ ActOK s a ∧
      a.D.length ≤ D.length ∧ Chain b s rest a.D a.S tail

theorem Chain.ext {b : Base} {s s' : St} (he : TExt s s') :
    ∀ (acts : List Act) (D : List Cell) (S : Nat) (addr : List (Option (Nat × Int))),
      Chain b s acts D S addr → Chain b s' acts D S addr
  | [], _, _, _, h => h
  | a :: rest, D, S, addr, h => by
    obtain ⟨r, tail, h1, h2, h3, h4, h5, h7, h6⟩ := h
    exact ⟨r, tail, h1, h2, h3, h4, h5.ext he, h7, Chain.ext he rest _ _ _ h6⟩

theorem Chain.depth {b : Base} {s : St} : ∀ (acts : List Act) (D : List Cell) (S : Nat) (addr : List (Option (Nat × Int))),
    Chain b s acts D S addr → b.linear.length ≤ S
  | [], _, _, _, h => by rw [h.2.1]; exact Nat.le_refl _
  | a :: rest, D, S, addr, h => by
    obtain ⟨r, tail, _, _, h3, _, _, _, h6⟩ := h
    have := Chain.depth rest _ _ _ h6
    obtain ⟨t, own, _, _, _, hsc, _⟩ := h3
    simp only at hsc
    omega

theorem Chain.dlen {b : Base} {s : St} : ∀ (acts : List Act) (D : List Cell) (S : Nat) (addr : List (Option (Nat × Int))),
    Chain b s acts D S addr → b.data.length ≤ D.length
  | [], _, _, _, h => by rw [h.1]; simp
  | a :: rest, D, S, addr, h => by
    obtain ⟨r, tail, _, _, _, _, _, h7, h6⟩ := h
    have := Chain.dlen rest _ _ _ h6
    omega

theorem Chain.addr_suffix {b : Base} {s : St} : ∀ (acts : List Act) (D : List Cell) (S : Nat) (addr : List (Option (Nat × Int))),
    Chain b s acts D S addr → b.main = false → b.addr <:+ addr ∧ b.addr.length + 1 ≤ addr.length
  | [], _, _, _, h, hm => by
    have h3 := h.2.2
    rw [hm] at h3
    simp only [Bool.false_eq_true, if_false] at h3
    rw [h3]
    exact ⟨List.suffix_cons _ _, by simp⟩
  | a :: rest, D, S, addr, h, hm => by
    obtain ⟨r, tail, h1, _, _, _, _, _, h6⟩ := h
    obtain ⟨i1, i2⟩ := Chain.addr_suffix rest _ _ _ h6 hm
    rw [h1]
    exact ⟨i1.trans (List.suffix_cons _ _), by simp; omega⟩

/-- the stack of activations of a loop started on `b`: `top` runs, `rest` are its suspended callers. `0 ≤ s.pc`:
`runLoop` fetches `code[s.pc.toNat]?`, which reads position 0 at every negative pc; −1 (stopped) and −2 (about to
enter a nested call) are not pcs of a `Running` state. -/
structure Running (b : Base) (s : St) (top : Act) (rest : List Act) : Prop where
  cur : s.curfunc = top.f
  pc : 0 ≤ s.pc
  inv : Bal.Inv top.ann top.D top.S top.A (absC s)
  ok : ActOK s top
  chain : Chain b s rest top.D top.S s.addr
  lin : b.linear <:+ s.linear

/-- the bottom activation has returned to the pseudo caller: one value on the base data -/
structure Finished (b : Base) (s : St) : Prop where
  cur : s.curfunc = b.cur
  pc : s.pc = b.pc + 1
  data : s.data.map cellOf = .val :: b.data.map cellOf
  linear : s.linear = b.linear
  addr : s.addr = b.addr
  notMain : b.main = false

theorem suffix_of_drop {α} {base l : List α} (n : Nat) (h : base <:+ l) (hl : base.length ≤ (l.drop n).length) :
    base <:+ l.drop n := by
  obtain ⟨t, rfl⟩ := h
  have hlen : (List.drop n (t ++ base)).length = t.length + base.length - n := by simp
  rw [hlen] at hl
  by_cases hn : n ≤ t.length
  · rw [List.drop_append_of_le_length hn]
    exact ⟨t.drop n, rfl⟩
  · have : base = [] := List.length_eq_zero_iff.mp (by omega)
    subst this
    exact List.nil_suffix

theorem Running.step {b : Base} {s s' : St} {top : Act} {rest : List Act} (h : Running b s top rest)
    (hstep : CStep (fnB s top.f) (absC s) (absC s')) (hcur : s'.curfunc = s.curfunc) (haddr : s'.addr = s.addr)
    (hpc : 0 ≤ s'.pc) (he : TExt s s') (hlin : b.linear <:+ s'.linear) : Running b s' top rest :=
  ⟨hcur.trans h.cur, hpc, inv_step_s _ _ h.ok.step _ _ _ _ _ h.inv hstep, h.ok.ext he,
   by rw [haddr]; exact Chain.ext he _ _ _ _ h.chain, hlin⟩

theorem Running.topA {b : Base} {s : St} {top : Act} {rest : List Act} (h : Running b s top rest) : top.A = s.addr.length := by
  obtain ⟨_, _, _, _, _, _, ha⟩ := h.inv
  exact ha.symm

/-- above a base that is not the top-level text every activation has a return address -/
theorem Running.A_pos {b : Base} {s : St} {top : Act} {rest : List Act} (h : Running b s top rest) (hb : b.main = false) :
    top.A ≠ 0 := by
  rw [h.topA]
  have hc := h.chain
  cases rest with
  | nil =>
    obtain ⟨_, _, h3⟩ := hc
    rw [hb] at h3
    simp only [Bool.false_eq_true, if_false] at h3
    rw [h3]; simp
  | cons a r =>
    obtain ⟨r', tail, h1, _⟩ := hc
    rw [h1]; simp

/-- an activation with a return address has an annotated, hence existing, next instruction -/
theorem Running.fetch {b : Base} {s : St} {top : Act} {rest : List Act} (h : Running b s top rest) (hA : top.A ≠ 0) :
    ¬ (s.pc = -1 ∨ s.pc ≥ curSize s) ∧ ∃ i, (fnOf s s.curfunc).code[s.pc.toNat]? = some i := by
  obtain ⟨a, own, hann, _, _, _, _⟩ := h.inv
  have hlt : (absC s).pc < top.ann.length := by
    unfold annAt at hann
    rcases Nat.lt_or_ge (absC s).pc top.ann.length with h' | h'
    · exact h'
    · rw [List.getElem?_eq_none_iff.mpr h'] at hann; cases hann
  rw [h.ok.len] at hlt
  have hne : (absC s).pc ≠ (fnB s top.f).code.length := by
    intro he
    rw [he, h.ok.noEnd hA] at hann
    cases hann
  have hlen : (fnB s top.f).code.length = (fnOf s s.curfunc).code.length := by
    rw [h.cur]; show (B s.loops (fnOf s top.f).code).length = _; rw [B_length]
  have hlt' : s.pc.toNat < (fnOf s s.curfunc).code.length := by
    have : (absC s).pc = s.pc.toNat := rfl
    omega
  have hsz : curSize s = ((fnOf s s.curfunc).code.length : Int) := by
    have hu : (fnOf s s.curfunc).user = false := by rw [h.cur]; exact h.ok.user
    simp [curSize, hu]
  refine ⟨?_, (fnOf s s.curfunc).code[s.pc.toNat], List.getElem?_eq_getElem hlt'⟩
  have := h.pc
  rw [hsz]
  omega

theorem wf_initSt : WF initSt := by
  refine ⟨fun id h2 hl => ?_, by decide, rfl, ?_, (fun a ha => by cases ha), (fun lz hlz => by cases hlz), (fun c hc => by cases hc)⟩
  · have : initSt.fns.length = 2 := rfl
    omega
  · intro sc hsc p hp
    simp only [initSt, List.mem_cons, List.mem_nil_iff, or_false] at hsc
    subst hsc
    simp only [List.mem_append, List.mem_cons, List.mem_nil_iff, or_false, List.mem_map] at hp
    rcases hp with (rfl | rfl) | ⟨nm, _, rfl⟩ <;> rfl

end ZygoVerif.RunInv
