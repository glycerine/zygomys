/-
C02, execution half — F2 with `break`/`continue`.

Generator side: the loop ids in compiled code are the ones its compile allocated (`compile_facts`, for every
expression) — what makes `BreakInstr`/`ContinueInstr` find the right `loopStart`; the `*_ls_Ff`, `*_tot_Fx` lemmas are
its projections and do not use their fragment hypothesis; `compile_total_Fx`: the generator succeeds on the fragment
(through `Cp`). Machine side: the enclosing loops at run time (`CtxF`); a `break`/`continue` executed
(`JumpedB`) is an exit of the system `xSys Γ`, whose statement is `SimX`; the fragment `xFg` carries the invariant
`XInv` (generator knows the loops, records final, machine inside them), so statement lists, `cond`, `let` and scopes
are the steps of the interface. The loop itself (`XClaimF`, `xclaimF_succ`) is put together from the pieces of the
generic loop at `fSys` — they ask for a system without exits (`Sys.Free`), which `xSys Γ` is not —, with the exits
classified as this loop's or an enclosing one's (`findCtx_cons`). `SimX.seq`, `SimX.scoped` state steps of `xSys Γ` in this
vocabulary; the claims use the steps themselves.
-/
import ZygoVerif.Proofs.SimF2Forms
import ZygoVerif.Proofs.SimFb
namespace ZygoVerif.Sim
open ZygoVerif.Core ZygoVerif.VM

theorem compile_ls_Ff : ∀ (fnOk : Bool) (self : String) (e : Expr), Ff fnOk self e = true → ∀ isFn c gs r, (compile isFn c e).run gs = .ok r → FnameOk self c →
    LsRes gs r.2 r.1.1 :=
  fun _ _ e _ isFn c gs r hc _ => (compile_facts e isFn c gs r hc).2.ls

theorem compileBegin_ls_Ff : ∀ (fnOk : Bool) (self : String) (es : List Expr), FfList fnOk self es = true → ∀ isFn c gs r, (compileBegin isFn c es).run gs = .ok r → FnameOk self c →
    LsRes gs r.2 r.1.1 :=
  fun _ _ es _ isFn c gs r hc _ => (compileBegin_facts es isFn c gs r hc).2.ls

theorem compileNewScope_ls_Ff : ∀ (fnOk : Bool) (self : String) (es : List Expr), FfList fnOk self es = true → ∀ isFn c oldtail gs r,
    (compileNewScope isFn c oldtail es).run gs = .ok r → FnameOk self c → LsRes gs r.2 r.1.1 :=
  fun _ _ es _ isFn c ot gs r hc _ => (compileNewScope_facts es isFn c ot gs r hc).2.ls

theorem compileAll_ls_Ff : ∀ (fnOk : Bool) (self : String) (es : List Expr), FfList fnOk self es = true → ∀ isFn c gs r, (compileAll isFn c es).run gs = .ok r → FnameOk self c →
    LsRes gs r.2 r.1.1 :=
  fun _ _ es _ isFn c gs r hc _ => (compileAll_facts es isFn c gs r hc).ls

theorem compileArms_ls_Ff : ∀ (fnOk : Bool) (self : String) (arms : List (Expr × Expr)), FfArms fnOk self arms = true → ∀ isFn c gs r,
    (compileArms isFn c arms).run gs = .ok r → FnameOk self c →
    gs.loops.length ≤ r.2.loops.length ∧ ∀ p ∈ r.1, LsIn p.1 gs.loops.length r.2.loops.length ∧ LsIn p.2 gs.loops.length r.2.loops.length :=
  fun _ _ arms _ isFn c gs r hc _ =>
    ⟨(compileArms_facts arms isFn c gs r hc).1.loopsLen, (compileArms_facts arms isFn c gs r hc).2⟩

theorem compileSC_ls_Ff : ∀ (fnOk : Bool) (self : String) (es : List Expr), FfList fnOk self es = true → ∀ isFn c gs r, (compileSC isFn c es).run gs = .ok r → FnameOk self c →
    gs.loops.length ≤ r.2.loops.length ∧ ∀ x ∈ r.1, LsIn x gs.loops.length r.2.loops.length :=
  fun _ _ es _ isFn c gs r hc _ =>
    ⟨(compileSC_facts es isFn c gs r hc).1.loopsLen, fun x hx => ((compileSC_facts es isFn c gs r hc).2 x hx).2⟩

theorem compileBinds_ls_Ff : ∀ (fnOk : Bool) (self : String) (bs : List (String × Expr)), FfBinds fnOk self bs = true → ∀ isFn c seq gs r,
    (compileBinds isFn c seq bs).run gs = .ok r → FnameOk self c → LsRes gs r.2 r.1.1 :=
  fun _ _ bs _ isFn c seq gs r hc _ => (compileBinds_facts bs isFn c seq gs r hc).ls

theorem GsOk.keep {Γ : List LCtx} {gs gs' : GS} (h : GsOk Γ gs) (hk : KeepFns gs gs') : GsOk Γ gs' :=
  ⟨hk.loopstack.trans h.stack, fun γ hγ => by
    obtain ⟨h1, h2, h3⟩ := h.recs γ hγ
    exact ⟨Nat.lt_of_lt_of_le h1 hk.loopsLen, by rw [hk.loopsGet γ.id h1]; exact h2, by rw [hk.loopsGet γ.id h1]; exact h3⟩⟩

theorem compile_tot_Fx {ls : List (Option String)} {e : Expr} (_he : Fx ls self e = true) {isFn c gs Γ r} (_hfn : FnameOk self c)
    (_hg : GsOk Γ gs) (_hls : Γ.map (·.label) = ls) (h : (compile isFn c e).run gs = .ok r) :
    r.1.1 ≠ [] ∧ TotX gs r.2 r.1.1 :=
  compile_tot h

theorem compileBegin_tot_Fx {ls : List (Option String)} {es : List Expr} (_hne : es ≠ []) (_he : FxList ls self es = true)
    {isFn c gs Γ r} (_hfn : FnameOk self c) (_hg : GsOk Γ gs) (_hls : Γ.map (·.label) = ls)
    (h : (compileBegin isFn c es).run gs = .ok r) : TotX gs r.2 r.1.1 :=
  compileBegin_tot h

theorem compileBeginAny_tot_Fx {ls : List (Option String)} {es : List Expr} (_he : FxList ls self es = true)
    {isFn c gs Γ r} (_hfn : FnameOk self c) (_hg : GsOk Γ gs) (_hls : Γ.map (·.label) = ls)
    (h : (compileBegin isFn c es).run gs = .ok r) : TotX gs r.2 r.1.1 :=
  compileBegin_tot h

theorem compileArms_tot_Fx {ls : List (Option String)} {arms : List (Expr × Expr)} (_he : FxArms ls self arms = true)
    {isFn c gs Γ r} (_hfn : FnameOk self c) (_hg : GsOk Γ gs) (_hls : Γ.map (·.label) = ls)
    (h : (compileArms isFn c arms).run gs = .ok r) :
    KeepFns gs r.2 ∧ gs.loops.length ≤ r.2.loops.length
      ∧ ∀ p ∈ r.1, LsIn p.1 gs.loops.length r.2.loops.length ∧ LsIn p.2 gs.loops.length r.2.loops.length :=
  compileArms_tot h

theorem compile_tot_Ff {e : Expr} (_he : Ff true self e = true) {isFn c gs r} (_hfn : FnameOk self c)
    (h : (compile isFn c e).run gs = .ok r) : TotX gs r.2 r.1.1 :=
  (compile_tot h).2

theorem total_of_run {e : Expr} {isFn c gs r} (h : (compile isFn c e).run gs = .ok r) :
    ∃ code t gs', (compile isFn c e).run gs = .ok ((code, t), gs') ∧ code ≠ [] ∧ TotX gs gs' code :=
  ⟨r.1.1, r.1.2, r.2, h, compile_tot h⟩

theorem total_of_Ff {e : Expr} (he : Ff true self e = true) (isFn : Nat → Bool) (c : Ctx) (gs : GS) (hfn : FnameOk self c) :
    ∃ code t gs', (compile isFn c e).run gs = .ok ((code, t), gs') ∧ code ≠ [] ∧ TotX gs gs' code := by
  obtain ⟨code, t, g1, h1, -⟩ := compile_total_Ff true self e he isFn c gs hfn
  exact total_of_run h1

theorem total_of_runs {es : List Expr} (hne : es ≠ []) {isFn c gs r} (h : (compileBegin isFn c es).run gs = .ok r) :
    ∃ code t gs', (compileBegin isFn c es).run gs = .ok ((code, t), gs') ∧ code ≠ [] ∧ TotX gs gs' code :=
  ⟨r.1.1, r.1.2, r.2, h, (compileBegin_facts es isFn c gs r h).1 hne, compileBegin_tot h⟩

theorem compile_total_Fx : ∀ (ls : List (Option String)) (self : String) (e : Expr), Fx ls self e = true → ∀ isFn c gs Γ, FnameOk self c →
    GsOk Γ gs → Γ.map (·.label) = ls →
    ∃ code t gs', (compile isFn c e).run gs = .ok ((code, t), gs') ∧ code ≠ [] ∧ TotX gs gs' code := by
  intro ls self e he isFn c gs Γ _ hg hls
  obtain ⟨r, h, -⟩ := compile_ok_Cp (isFn := isFn) e (cp_of_fx ls self e he) c (hls ▸ hg.lsOk)
  exact total_of_run h

theorem compileBegin_total_Fx : ∀ (ls : List (Option String)) (self : String) (es : List Expr), es ≠ [] → FxList ls self es = true →
    ∀ isFn c gs Γ, FnameOk self c → GsOk Γ gs → Γ.map (·.label) = ls →
    ∃ code t gs', (compileBegin isFn c es).run gs = .ok ((code, t), gs') ∧ code ≠ [] ∧ TotX gs gs' code := by
  intro ls self es hne he isFn c gs Γ _ hg hls
  obtain ⟨r, h, -⟩ := compileBegin_ok_Cp (isFn := isFn) es (cpList_of_fx ls self es he) c (hls ▸ hg.lsOk)
  exact total_of_runs hne h

theorem compileNewScope_total_Fx : ∀ (ls : List (Option String)) (self : String) (es : List Expr), es ≠ [] → FxList ls self es = true →
    ∀ isFn c oldtail gs Γ, FnameOk self c → GsOk Γ gs → Γ.map (·.label) = ls →
    ∃ code t gs', (compileNewScope isFn c oldtail es).run gs = .ok ((code, t), gs') ∧ code ≠ [] ∧ TotX gs gs' code := by
  intro ls self es hne he isFn c oldtail gs Γ _ hg hls
  obtain ⟨r, h, -⟩ := compileNewScope_ok_Cp (isFn := isFn) es (cpList_of_fx ls self es he) c oldtail (hls ▸ hg.lsOk)
  exact ⟨_, _, _, h, (compileNewScope_facts _ _ _ _ _ _ h).1 hne, compileNewScope_tot h⟩

theorem compileArms_total_Fx : ∀ (ls : List (Option String)) (self : String) (arms : List (Expr × Expr)), FxArms ls self arms = true →
    ∀ isFn c gs Γ, FnameOk self c → GsOk Γ gs → Γ.map (·.label) = ls →
    ∃ as gs', (compileArms isFn c arms).run gs = .ok (as, gs') ∧ KeepFns gs gs' ∧ gs.loops.length ≤ gs'.loops.length
      ∧ ∀ p ∈ as, LsIn p.1 gs.loops.length gs'.loops.length ∧ LsIn p.2 gs.loops.length gs'.loops.length := by
  intro ls self arms he isFn c gs Γ _ hg hls
  obtain ⟨r, h, -⟩ := compileArms_ok_Cp (isFn := isFn) arms (cpArms_of_fx ls self arms he) c (hls ▸ hg.lsOk)
  exact ⟨_, _, h, compileArms_tot h⟩

theorem compileBeginAny_total_Fx (ls : List (Option String)) (self : String) (es : List Expr) (he : FxList ls self es = true)
    (isFn : Nat → Bool) (c : Ctx) (gs : GS) (Γ : List LCtx) (_ : FnameOk self c) (hg : GsOk Γ gs) (hls : Γ.map (·.label) = ls) :
    ∃ code t gs', (compileBegin isFn c es).run gs = .ok ((code, t), gs') ∧ TotX gs gs' code := by
  obtain ⟨r, h, -⟩ := compileBegin_ok_Cp (isFn := isFn) es (cpList_of_fx ls self es he) c (hls ▸ hg.lsOk)
  exact ⟨_, _, _, h, compileBegin_tot h⟩

/-- the run-time facts about one enclosing loop -/
structure CtxF1 (γ : LCtx) (sc : Nat) (s : St) (rs : Ref.St) : Prop where
  idlt : γ.id < s.loops.length
  start : findLoopStart (fnOf s s.curfunc).code γ.id = some γ.start
  brk : (γ.start : Int) + (s.loops.getD γ.id {}).breakOff = γ.brkPos
  cont : (γ.start : Int) + (s.loops.getD γ.id {}).contOff = γ.contPos
  lin : ∃ extra, s.linear = extra ++ γ.lin ∧ extra.length + γ.depth + 1 = sc
  frlt : γ.fr < s.scopes.length
  chain : ∃ k, ChainF (isFnScope s) rs.frames k γ.fr γ.lin ∧ FnChainF s rs.frames γ.lin k s.curfunc
  bottom : γ.lin.getLast? = some (some 0)
  data : ∃ G, s.data = G ++ some (.mark γ.id) :: γ.D ∧ GoodAbove γ.id G

def CtxF (Γ : List LCtx) (sc : Nat) (s : St) (rs : Ref.St) : Prop := ∀ γ ∈ Γ, CtxF1 γ sc s rs

/-- `Frame` without the linear stack (a `break`/`continue` pops scopes) -/
structure FrameNL (s s' : St) : Prop where
  curfunc : s'.curfunc = s.curfunc
  addr : s'.addr = s.addr
  susp : s'.suspended = s.suspended
  fnsLen : s.fns.length ≤ s'.fns.length
  fns : ∀ id, id < s.fns.length → fnOf s' id = fnOf s id
  loopsLen : s.loops.length ≤ s'.loops.length
  loops : ∀ id, id < s.loops.length → s'.loops.getD id {} = s.loops.getD id {}
  scLen : s.scopes.length ≤ s'.scopes.length
  flags : ∀ i, i < s.scopes.length → isFnScope s' i = isFnScope s i

theorem FrameF.toNL {s s' : St} (h : FrameF s s') : FrameNL s s' :=
  ⟨h.curfunc, h.addr, h.susp, h.fnsLen, h.fns, h.loopsLen, h.loops, h.scLen, h.flags⟩

theorem FrameNL.trans {a b c : St} (h₁ : FrameNL a b) (h₂ : FrameNL b c) : FrameNL a c :=
  ⟨h₂.curfunc.trans h₁.curfunc, h₂.addr.trans h₁.addr, h₂.susp.trans h₁.susp, Nat.le_trans h₁.fnsLen h₂.fnsLen,
   fun id hid => (h₂.fns id (Nat.lt_of_lt_of_le hid h₁.fnsLen)).trans (h₁.fns id hid),
   Nat.le_trans h₁.loopsLen h₂.loopsLen,
   fun id hid => (h₂.loops id (Nat.lt_of_lt_of_le hid h₁.loopsLen)).trans (h₁.loops id hid),
   Nat.le_trans h₁.scLen h₂.scLen,
   fun i hi => (h₂.flags i (Nat.lt_of_lt_of_le hi h₁.scLen)).trans (h₁.flags i hi)⟩

theorem FrameNL.toF {s s' : St} (h : FrameNL s s') (hl : s'.linear = s.linear) : FrameF s s' :=
  ⟨⟨hl, h.curfunc, h.addr, h.susp, h.fnsLen, h.fns, h.loopsLen, h.loops⟩, h.scLen, h.flags⟩

/-- the relation after the scopes opened inside a loop have been popped -/
theorem RelF.relin {m : Nat → Nat} {s s' : St} {rs : Ref.St} {env env' : Nat} (h : RelF m s rs env)
    (hsc : s'.scopes = s.scopes) (hfns : s'.fns = s.fns) (hcur : s'.curfunc = s.curfunc) (hheap : s'.heap = s.heap)
    (htr : s'.trace = s.trace) (hb : s'.linear.getLast? = some (some 0))
    (hch : ∃ k, ChainF (isFnScope s) rs.frames k env' s'.linear ∧ FnChainF s rs.frames s'.linear k s.curfunc)
    (hloops : s'.loops = s.loops := by rfl) (hlz : s'.lazies = s.lazies := by rfl) : RelF m s' rs env' := by
  have hfl : isFnScope s' = isFnScope s := by funext i; unfold isFnScope scopeOf; rw [hsc]
  have E : ExtF m s rs m s' rs :=
    ExtF.of_eq hfns (by rw [hsc]; exact Nat.le_refl _) (fun i _ => by rw [hfl]) (RExt.refl rs) (LoopsExt.of_eq hloops)
  obtain ⟨k, hc, hfc⟩ := hch
  refine h.move E (by rw [hsc]; exact h.len) (entries_kept m hsc rfl) h.par hb ⟨k, by rw [hfl]; exact hc, ?_⟩
    (by rw [hheap]; exact h.heap) (by rw [hheap]; exact h.hok.grow E) (by rw [htr]; exact h.trace) (h.lz.grow E hlz)
  rw [hcur]
  exact hfc.transfer (s := s) (s' := s') rs.frames.length (fun i _ => by rw [hfl]) (FramesExt.refl _) E.fns
    (Nat.le_of_eq h.len) (by rw [hsc]; exact Nat.le_refl _)
    (fun e he => Nat.lt_trans (hc.k_lt e he) hc.lt) (by rw [hfl])

/-- a `break`/`continue` was executed: control is at `tgt` in the loop of `γ`, the scopes opened inside
the loop popped; above the data stack there is only garbage the loop's `clearMark`/`popUntilMark` removes -/
def JumpedB (B : List (Option Val)) (tgt : Int) (γ : LCtx) (Γ : List LCtx) (m : Nat → Nat) (s : St) (rs rs' : Ref.St) : Prop :=
  ∃ (s' : St) (m' : Nat → Nat) (X : List (Option Val)), ReachX s s' ∧ s'.pc = tgt ∧ s'.linear = γ.lin
    ∧ s'.data = X ++ B ∧ (∀ γ' ∈ Γ, GoodAbove γ'.id X) ∧ fnOf s' s'.curfunc = fnOf s s.curfunc
    ∧ RelF m' s' rs' γ.fr ∧ MExt s m m' ∧ RExt rs rs' ∧ FrameNL s s'

abbrev JumpedF (tgt : Int) (γ : LCtx) (Γ : List LCtx) (m : Nat → Nat) (s : St) (rs rs' : Ref.St) : Prop :=
  JumpedB s.data tgt γ Γ m s rs rs'

def SimX (code : List Instr) (Γ : List LCtx) (m : Nat → Nat) (s : St) (rs : Ref.St) (env : Nat) (res : Ref.R Val) : Prop :=
  match res with
  | .ok v' rs' => ∃ s' m' v, ReachX s s' ∧ Lands code.length v s s' ∧ v' = trf m' v ∧ RelF m' s' rs' env
      ∧ MExt s m m' ∧ RExt rs rs' ∧ FrameF s s' ∧ VOk m' s' rs' v
  | .err rs' => FailsX s rs'.trace
  | .timeout => True
  | .brk l rs' => ∃ γ, findCtx Γ l = some γ ∧ JumpedF γ.brkPos γ Γ m s rs rs'
  | .cont l rs' => ∃ γ, findCtx Γ l = some γ ∧ JumpedF γ.contPos γ Γ m s rs rs'

theorem SimF.toX {code : List Instr} {Γ : List LCtx} {m : Nat → Nat} {s : St} {rs : Ref.St} {env : Nat} {res : Ref.R Val}
    (h : SimF code m s rs env res) : SimX code Γ m s rs env res := by
  cases res with
  | ok v rs' => exact h
  | err rs' => exact h
  | timeout => trivial
  | brk l rs' => exact h.elim
  | cont l rs' => exact h.elim

theorem JumpedB.of_reach {B : List (Option Val)} {tgt : Int} {γ : LCtx} {Γ : List LCtx} {m m₁ : Nat → Nat} {s s₁ : St}
    {rs rs₁ rs' : Ref.St} (hreach : ReachX s s₁) (hfn : fnOf s₁ s₁.curfunc = fnOf s s.curfunc)
    (hm : MExt s m m₁) (hext : RExt rs rs₁) (hframe : FrameNL s s₁) (h : JumpedB B tgt γ Γ m₁ s₁ rs₁ rs') :
    JumpedB B tgt γ Γ m s rs rs' := by
  obtain ⟨s', m', X, r, hpc, hlin, hd, hg, hf, rel, hm', ext, fr⟩ := h
  exact ⟨s', m', X, hreach.trans r, hpc, hlin, hd, hg, hf.trans hfn, rel, hm.trans hm' hframe.fnsLen,
    hext.trans ext, hframe.trans fr⟩

theorem JumpedB.weaken {B : List (Option Val)} {tgt : Int} {γ : LCtx} {Γ Γ' : List LCtx} {m : Nat → Nat} {s : St}
    {rs rs' : Ref.St} (h : JumpedB B tgt γ Γ m s rs rs') (hsub : ∀ γ' ∈ Γ', γ' ∈ Γ) : JumpedB B tgt γ Γ' m s rs rs' := by
  obtain ⟨s', m', X, r, hpc, hlin, hd, hg, hf, rel, hm', ext, fr⟩ := h
  exact ⟨s', m', X, r, hpc, hlin, hd, fun γ' h' => hg γ' (hsub γ' h'), hf, rel, hm', ext, fr⟩

theorem JumpedF.of_moved {tgt : Int} {γ : LCtx} {Γ : List LCtx} {m m₁ : Nat → Nat} {s s₁ : St} {rs rs₁ rs' : Ref.St}
    (hreach : ReachX s s₁) (hfn : fnOf s₁ s₁.curfunc = fnOf s s.curfunc) (hdata : s₁.data = s.data)
    (hm : MExt s m m₁) (hext : RExt rs rs₁) (hframe : FrameNL s s₁) (h : JumpedF tgt γ Γ m₁ s₁ rs₁ rs') :
    JumpedF tgt γ Γ m s rs rs' := by
  have h' : JumpedB s.data tgt γ Γ m₁ s₁ rs₁ rs' := hdata ▸ h
  exact h'.of_reach hreach hfn hm hext hframe

theorem LoopsFinal.frame {gs' : GS} {s s' : St} (h : LoopsFinal gs' s) (hf : Frame s s') : LoopsFinal gs' s' :=
  h.ext ⟨hf.loopsLen, hf.loops⟩

/-- the loop's `loopStart` is the first one with its id -/
theorem findLoopStart_at {pre rest : List Instr} {L a b : Nat} (h : LsOut pre a b) (ha : a ≤ L) (hb : L < b) :
    findLoopStart (pre ++ Instr.loopStart L :: rest) L = some pre.length := by
  unfold findLoopStart
  induction pre with
  | nil => simp [List.findIdx?_cons]
  | cons i pre ih =>
    have ih' := ih (fun l hl => h l (List.mem_cons_of_mem _ hl))
    have key : ∀ l, i = Instr.loopStart l → l ≠ L := fun l e => by
      have := h l (e ▸ List.mem_cons_self ..); omega
    clear h ih
    have hi : (fun j : Instr => match j with | .loopStart l => l == L | _ => false) i = false := by
      cases i with
      | loopStart l => simpa using key l rfl
      | _ => rfl
    simp only [] at hi
    simp only [List.cons_append, List.findIdx?_cons, List.length_cons]
    rw [ih']; simp
    exact hi

theorem FrameNL.refl (s : St) : FrameNL s s :=
  ⟨rfl, rfl, rfl, Nat.le_refl _, fun _ _ => rfl, Nat.le_refl _, fun _ _ => rfl, Nat.le_refl _, fun _ _ => rfl⟩

theorem FrameNL.pushScope (s : St) : FrameNL s s.pushScope :=
  ⟨rfl, rfl, rfl, Nat.le_refl _, fun _ _ => rfl, Nat.le_refl _, fun _ _ => rfl,
    by show s.scopes.length ≤ (s.scopes ++ [_]).length; simp,
    fun i hi => by rw [isFnScope_pushScope, if_pos hi]⟩

theorem FnsKeep.of_nl {s s' : St} (hf : FrameNL s s') (hne : s.fns ≠ []) : FnsKeep s s' :=
  FnsKeep.of_eq hf.fnsLen hf.fns (List.length_pos_iff.mpr hne)
    ⟨hf.loopsLen, hf.loops⟩

theorem CtxF.after_nl {Γ : List LCtx} {sc sc' : Nat} {s s' : St} {rs rs' : Ref.St} (h : CtxF Γ sc s rs)
    (hfn : fnOf s' s'.curfunc = fnOf s s.curfunc) (hfr : FrameNL s s') (hext : RExt rs rs')
    (hlin : ∃ E, s'.linear = E ++ s.linear ∧ E.length + sc = sc')
    (hd : ∃ X, s'.data = X ++ s.data ∧ ∀ γ ∈ Γ, GoodAbove γ.id X) : CtxF Γ sc' s' rs' := by
  intro γ hγ
  obtain ⟨h1, h2, h3, h4, ⟨extra, h5, h5'⟩, h6, ⟨k, hch, hfc⟩, h8, h9⟩ := h γ hγ
  obtain ⟨X, hX, hgood⟩ := hd
  obtain ⟨G, hG, hGg⟩ := h9
  obtain ⟨E, hE, hEl⟩ := hlin
  have hflags : ∀ i, i ≤ γ.fr → isFnScope s' i = isFnScope s i := fun i hi => hfr.flags i (by omega)
  have hk : FnsKeep s s' := FnsKeep.of_nl hfr (fns_ne_nil_of_lt hfc.lt)
  refine ⟨Nat.lt_of_lt_of_le h1 hfr.loopsLen, by rw [hfn]; exact h2, by rw [hfr.loops γ.id h1]; exact h3,
    by rw [hfr.loops γ.id h1]; exact h4, ⟨E ++ extra, by rw [hE, h5, List.append_assoc], by rw [List.length_append]; omega⟩,
    Nat.lt_of_lt_of_le h6 hfr.scLen,
    ⟨k, hch.congr hext.1 hflags, ?_⟩, h8, ⟨X ++ G, by rw [hX, hG, List.append_assoc], (hgood γ hγ).append hGg⟩⟩
  rw [hfr.curfunc]
  exact hfc.transfer s.scopes.length hfr.flags hext.1 hk (Nat.le_refl _) hfr.scLen (fun e he => Nat.lt_trans (hch.k_lt e he) h6)
    (takeToBoundary_chain hch hflags)

theorem CtxF.after {Γ : List LCtx} {sc : Nat} {s s' : St} {rs rs' : Ref.St} (h : CtxF Γ sc s rs)
    (hfn : fnOf s' s'.curfunc = fnOf s s.curfunc) (hfr : FrameF s s') (hext : RExt rs rs')
    (hd : ∃ X, s'.data = X ++ s.data ∧ ∀ γ ∈ Γ, GoodAbove γ.id X) : CtxF Γ sc s' rs' :=
  h.after_nl hfn hfr.toNL hext ⟨[], by rw [hfr.linear]; rfl, by simp⟩ hd

theorem CtxF.pushScope {Γ : List LCtx} {sc : Nat} {s : St} {rs : Ref.St} {env : Nat} (h : CtxF Γ sc s rs) :
    CtxF Γ (sc + 1) s.pushScope (Ref.newFrame rs env).2 :=
  h.after_nl rfl (FrameNL.pushScope s) ⟨FramesExt.newFrame rs env, fun _ _ hc => hc⟩
    ⟨[some s.scopes.length], rfl, by simp; omega⟩ ⟨[], rfl, fun γ _ => GoodAbove.nil γ.id⟩

theorem compile_brk_eq {Γ : List LCtx} {gs : GS} (hg : GsOk Γ gs) {l : Option String} {γ : LCtx} (hγ : findCtx Γ l = some γ)
    (hmem : γ ∈ Γ) (isFn : Nat → Bool) (c : Ctx) :
    (compile isFn c (.break_ l)).run gs = .ok (([.brk γ.id (c.scopes - (γ.depth + 1))], c.tail), gs) := by
  rw [compile]
  simp only [bind, StateT.bind, StateT.run, get, getThe, MonadStateOf.get, StateT.get, pure, Except.pure, Except.bind,
    StateT.pure, findLoop_ctx hg, hγ, Option.map_some, (hg.recs γ hmem).2.2]

theorem compile_cont_eq {Γ : List LCtx} {gs : GS} (hg : GsOk Γ gs) {l : Option String} {γ : LCtx} (hγ : findCtx Γ l = some γ)
    (hmem : γ ∈ Γ) (isFn : Nat → Bool) (c : Ctx) :
    (compile isFn c (.continue_ l)).run gs = .ok (([.cont γ.id (c.scopes - (γ.depth + 1))], c.tail), gs) := by
  rw [compile]
  simp only [bind, StateT.bind, StateT.run, get, getThe, MonadStateOf.get, StateT.get, pure, Except.pure, Except.bind,
    StateT.pure, findLoop_ctx hg, hγ, Option.map_some, (hg.recs γ hmem).2.2]

theorem jumpedF_exit {Γ : List LCtx} {γ : LCtx} {sc : Nat} {m : Nat → Nat} {s : St} {rs : Ref.St} {env : Nat} {tgt : Int}
    (hc : CtxF1 γ sc s rs) (hrel : RelF m s rs env) (hr : ReachX s (jumpedTo s γ.lin tgt)) :
    JumpedF tgt γ Γ m s rs rs :=
  ⟨jumpedTo s γ.lin tgt, m, [], hr, rfl, rfl, rfl, fun γ' _ => GoodAbove.nil γ'.id, rfl,
    hrel.relin rfl rfl rfl rfl rfl hc.bottom hc.chain, MExt.refl _ _, RExt.refl _,
    ⟨rfl, rfl, rfl, Nat.le_refl _, fun _ _ => rfl, Nat.le_refl _, fun _ _ => rfl, Nat.le_refl _, fun _ _ => rfl⟩⟩

theorem simX_brk {Γ : List LCtx} {l : Option String} {γ : LCtx} {sc : Nat} {m : Nat → Nat} {s : St} {rs : Ref.St} {env : Nat}
    {pre post : List Instr} (hγ : findCtx Γ l = some γ) (hmem : γ ∈ Γ) (hctx : CtxF Γ sc s rs) (hrel : RelF m s rs env)
    (hseg : Seg s pre [.brk γ.id (sc - (γ.depth + 1))] post) :
    SimX [.brk γ.id (sc - (γ.depth + 1))] Γ m s rs env (.brk l rs) := by
  have hc := hctx γ hmem
  obtain ⟨extra, hlin, hlen⟩ := hc.lin
  refine ⟨γ, hγ, jumpedF_exit hc hrel ?_⟩
  rw [← hc.brk]
  exact (Reach.step hseg.head (fun f => exec_brk f γ.id _ s γ.start extra γ.lin hc.start hlin (by omega))).toX

theorem simX_cont {Γ : List LCtx} {l : Option String} {γ : LCtx} {sc : Nat} {m : Nat → Nat} {s : St} {rs : Ref.St} {env : Nat}
    {pre post : List Instr} (hγ : findCtx Γ l = some γ) (hmem : γ ∈ Γ) (hctx : CtxF Γ sc s rs) (hrel : RelF m s rs env)
    (hseg : Seg s pre [.cont γ.id (sc - (γ.depth + 1))] post) :
    SimX [.cont γ.id (sc - (γ.depth + 1))] Γ m s rs env (.cont l rs) := by
  have hc := hctx γ hmem
  obtain ⟨extra, hlin, hlen⟩ := hc.lin
  refine ⟨γ, hγ, jumpedF_exit hc hrel ?_⟩
  rw [← hc.cont]
  exact (Reach.step hseg.head (fun f => exec_cont f γ.id _ s γ.start extra γ.lin hc.start hlin (by omega))).toX

theorem CtxF.moved {Γ : List LCtx} {sc k : Nat} {s s' : St} {rs rs' : Ref.St} (h : CtxF Γ sc s rs) (mv : Moved k s s')
    (fr : FrameF s s') (ext : RExt rs rs') : CtxF Γ sc s' rs' :=
  h.after mv.fn fr ext ⟨[], by rw [mv.data]; rfl, fun γ _ => GoodAbove.nil γ.id⟩

/-- the exits of code inside the loops `Γ`: a `break` or `continue` of one of them -/
def ExX (Γ : List LCtx) (m : Nat → Nat) (s : St) (rs : Ref.St) : Ref.R Val → Prop
  | .brk l rs' => ∃ γ, findCtx Γ l = some γ ∧ JumpedF γ.brkPos γ Γ m s rs rs'
  | .cont l rs' => ∃ γ, findCtx Γ l = some γ ∧ JumpedF γ.contPos γ Γ m s rs rs'
  | _ => False

/-- F2 inside the loops `Γ` -/
@[reducible] def xSys (Γ : List LCtx) : Sys :=
  { fSys with
    Ex := ExX Γ
    Sm := fun code => SimX code Γ
    sm_ok := ⟨fun ⟨s', m', v, a, b, c, d, e, f, g, h⟩ => .inl ⟨s', m', v, a, b, c, d, ⟨e, f, g⟩, h⟩,
      fun h => h.elim (fun ⟨s', m', v, a, b, c, d, ⟨e, f, g⟩, h⟩ => ⟨s', m', v, a, b, c, d, e, f, g, h⟩) False.elim⟩
    sm_err := Iff.rfl
    sm_timeout := trivial
    sm_brk := Iff.rfl
    sm_cont := Iff.rfl
    ex_moved := fun {_ _ _ _ _ _ _ _ res} hr hm hx h => by
      cases res with
      | brk l rs' => exact h.imp fun γ ⟨hγ, hj⟩ => ⟨hγ, hj.of_moved hr hm.fn hm.data hx.1 hx.2.1 hx.2.2.toNL⟩
      | cont l rs' => exact h.imp fun γ ⟨hγ, hj⟩ => ⟨hγ, hj.of_moved hr hm.fn hm.data hx.1 hx.2.1 hx.2.2.toNL⟩
      | _ => exact h
    ex_push := fun {m s rs env res} hr h => by
      have hext0 : RExt rs (Ref.newFrame rs env).2 := ⟨FramesExt.newFrame rs env, fun _ _ hc => hc⟩
      cases res with
      | brk l rs' => exact h.imp fun γ ⟨hγ, hj⟩ => ⟨hγ, JumpedB.of_reach hr.toX rfl (MExt.refl _ _) hext0 (FrameNL.pushScope s) hj⟩
      | cont l rs' => exact h.imp fun γ ⟨hγ, hj⟩ => ⟨hγ, JumpedB.of_reach hr.toX rfl (MExt.refl _ _) hext0 (FrameNL.pushScope s) hj⟩
      | _ => exact h }

theorem xBinds (Γ : List LCtx) : (xSys Γ).Binds :=
  { fBinds with }

/-- the invariant of code inside the loops `Γ`: the generator knows them (`gen.loops`: their records are final), the machine is
inside them, and no `loopStart` in front of the code has an id of the code's own range -/
structure XInv (Γ : List LCtx) (c : Ctx) (gs gs' : GS) (pre : List Instr) (s : St) (rs : Ref.St) : Prop where
  gsok : GsOk Γ gs
  gen : GenOk gs gs' s
  ctx : CtxF Γ c.scopes s rs
  lo : LsOut pre gs.loops.length gs'.loops.length

theorem XInv.after {Γ : List LCtx} {c : Ctx} {gs gs' : GS} {pre : List Instr} {s s' : St} {rs rs' : Ref.St}
    (h : XInv Γ c gs gs' pre s rs) (hfn : fnOf s' s'.curfunc = fnOf s s.curfunc) (fr : FrameF s s') (ext : RExt rs rs')
    (hd : s'.data = s.data) : XInv Γ c gs gs' pre s' rs' :=
  ⟨h.gsok, h.gen.frame fr.toFrame, h.ctx.after hfn fr ext ⟨[], by rw [hd]; rfl, fun γ _ => GoodAbove.nil γ.id⟩,
    h.lo⟩

/-- F2 with `break`/`continue` of the loops labelled `ls`; the test of a `cond` arm is plain F2 -/
@[reducible] def xFg (ls : List (Option String)) (self : String) (Γ : List LCtx) : Fg (xSys Γ) where
  F := Fx ls self
  FStmt := Fx ls self
  FPred := Ff true self
  FList := FxList ls self
  FArms := FxArms ls self
  FBinds := FfBinds true self
  Cok := FnameOk self
  Inv c gs gs' pre _ s rs := XInv Γ c gs gs' pre s rs
  cok h _ _ := h
  inv_tail h _ := ⟨h.gsok, h.gen, h.ctx, h.lo⟩
  inv_range h k₁ k₂ k₃ := ⟨h.gsok.keep k₁, (h.gen.rest k₁).first k₃, h.ctx, h.lo.mono k₁.loopsLen k₃.loopsLen⟩
  inv_pre h hm := ⟨h.gsok, h.gen, h.ctx, h.lo.app hm⟩
  inv_adv h mv x := h.after mv.fn x.2.2 x.2.1 mv.data
  inv_push h _ _ := ⟨h.gsok, h.gen.mono (FnsKeep.of_fns_eq rfl), h.ctx.pushScope,
    h.lo.app (lsOut_one .addScope _ _)⟩
  flist_one h := by rw [FxList] at h; simpa [FxList] using h
  flist_cons h := by rw [FxList] at h; simpa using h
  farms_cons h := by rw [FxArms] at h; simpa [and_assoc] using h
  f_begin h := by rw [Fx] at h; exact h
  f_cond h := by rw [Fx] at h; simpa using h
  f_newScope h := by rw [Fx] at h; simpa using h
  f_let h := by rw [Fx] at h; simpa [and_assoc] using h

theorem SimX.seq {code c₂ : List Instr} {Γ : List LCtx} {m m₁ : Nat → Nat} {s s₁' : St} {rs rs₁ : Ref.St} {env k : Nat}
    {res : Ref.R Val} (hreach : ReachX s s₁') (hmoved : Moved k s s₁') (hm : MExt s m m₁) (hext : RExt rs rs₁)
    (hframe : FrameF s s₁') (h₂ : SimX c₂ Γ m₁ s₁' rs₁ env res) (hk : k + c₂.length = code.length) :
    SimX code Γ m s rs env res :=
  (xSys Γ).seq (K₁ := k) hreach hmoved ⟨hm, hext, hframe⟩ h₂ (Nat.le_of_eq hk) hk

theorem SimX.scoped {inner pre post : List Instr} {Γ : List LCtx} {m : Nat → Nat} {s : St} {rs : Ref.St} {env : Nat}
    {res : Ref.R Val} (h : Seg s pre ([.addScope] ++ inner ++ [.removeScope]) post) (hrel : RelF m s rs env)
    (hin : SimX inner Γ m s.pushScope (Ref.newFrame rs env).2 rs.frames.length res) :
    SimX ([.addScope] ++ inner ++ [.removeScope]) Γ m s rs env res :=
  (xSys Γ).scoped (xBinds Γ) h hrel hin

def XClaimE (n : Nat) : Prop := ∀ ls self Γ, Γ.map (·.label) = ls → HClaimE (xSys Γ) (xFg ls self Γ) (Fx ls self) n

def XClaimB (n : Nat) : Prop := ∀ ls self Γ, Γ.map (·.label) = ls → HClaimB (xSys Γ) (xFg ls self Γ) n

def XClaimC (n : Nat) : Prop := ∀ ls self Γ, Γ.map (·.label) = ls → HClaimC (xSys Γ) (xFg ls self Γ) n

/-- a claim of F2 holds inside loops as well; a value is delivered by landing -/
theorem FClaimE.toX {n : Nat} (h : FClaimE n) (ls : List (Option String)) (self : String) (Γ : List LCtx) :
    HClaimN (xSys Γ) (xFg ls self Γ) (Ff true self) n :=
  fun e he isFn c gs r hc hfn m s rs env pre post hrel hi hseg =>
    have ih := h true self e he isFn c gs r hc hfn m s rs env pre post hrel (fun _ => hi.gen) hseg
    ⟨ih.toX, fun _ _ h1 => (fSys.sm_ok.mp (h1 ▸ ih)).resolve_right id⟩

theorem xclaimB_succ {n : Nat} (hE : XClaimE n) (hB : XClaimB n) : XClaimB (n + 1) := fun ls self Γ hls =>
  hclaimB_succ (HClaimE.toN (fun _ _ _ _ _ => id) (hE ls self Γ hls)) (hE ls self Γ hls) (hB ls self Γ hls)

theorem xclaimC_succ {n : Nat} (hFE : FClaimE n) (hE : XClaimE n) (hC : XClaimC n) : XClaimC (n + 1) := fun ls self Γ hls =>
  hclaimC_succ (hFE.toX ls self Γ) (hE ls self Γ hls) (hC ls self Γ hls)

/-- the outcome of a loop from its test label on: the machine on the loop's `clearMark` (at `k`, `tl` from there on),
the mark under what a `break` left; or an exit to an enclosing loop -/
def LoopOut (Γ : List LCtx) (full : List Instr) (k : Nat) (tl : List Instr) (m : Nat → Nat) (σ : St) (rs : Ref.St) (fr L : Nat)
    (D : List (Option Val)) (res : Ref.R Val) : Prop :=
  match res with
  | .ok _ rs' => ∃ (σ' : St) (m' : Nat → Nat) (G : List (Option Val)), ReachX σ σ' ∧ Cur σ' full k tl
      ∧ σ'.data = G ++ some (.mark L) :: D ∧ GoodAbove L G
      ∧ fnOf σ' σ'.curfunc = fnOf σ σ.curfunc ∧ RelF m' σ' rs' fr ∧ AdvF m σ rs m' σ' rs'
  | .err rs' => FailsX σ rs'.trace
  | .timeout => True
  | .brk l rs' => ∃ γ, findCtx Γ l = some γ ∧ JumpedB (some (.mark L) :: D) γ.brkPos γ Γ m σ rs rs'
  | .cont l rs' => ∃ γ, findCtx Γ l = some γ ∧ JumpedB (some (.mark L) :: D) γ.contPos γ Γ m σ rs rs'

theorem LoopOut.of_reach {Γ : List LCtx} {full tl : List Instr} {k : Nat} {m m₁ : Nat → Nat} {σ σ₁ : St} {rs rs₁ : Ref.St}
    {fr L : Nat} {D : List (Option Val)} {res : Ref.R Val} (hr : ReachX σ σ₁)
    (hfn : fnOf σ₁ σ₁.curfunc = fnOf σ σ.curfunc) (hx : AdvF m σ rs m₁ σ₁ rs₁)
    (h : LoopOut Γ full k tl m₁ σ₁ rs₁ fr L D res) : LoopOut Γ full k tl m σ rs fr L D res := by
  cases res with
  | ok a rs' =>
    obtain ⟨σ', m', G, r, hc, hd, hG, hf, rel, x⟩ := h
    exact ⟨σ', m', G, hr.trans r, hc, hd, hG, hf.trans hfn, rel, hx.trans x⟩
  | err rs' => exact FailsX.of_reach hr h
  | timeout => trivial
  | brk l rs' => exact h.imp fun γ ⟨hγ, hj⟩ => ⟨hγ, hj.of_reach hr hfn hx.1 hx.2.1 hx.2.2.toNL⟩
  | cont l rs' => exact h.imp fun γ ⟨hγ, hj⟩ => ⟨hγ, hj.of_reach hr hfn hx.1 hx.2.1 hx.2.2.toNL⟩

/-- the body of a loop followed by `popUntilMark`: back on the mark, or out of the body by a `break`/`continue` -/
theorem body_pumX {n : Nat} (hB : XClaimB n) {ls : List (Option String)} {body : List Expr}
    (hbody : FxList ls self body = true) {isFn : Nat → Bool} {c : Ctx} (hfn : FnameOk self c) {gb rb g2}
    (hcb : (compileBegin isFn c body).run gb = .ok (rb, g2)) {Γ : List LCtx} (hls : Γ.map (·.label) = ls)
    {m : Nat → Nat} {σ : St} {rs : Ref.St} {fr L : Nat} {D : List (Option Val)} {full Q : List Instr} {k : Nat}
    (h : Cur σ full k (rb.1 ++ (.popUntilMark L :: Q))) (hd : σ.data = some (.mark L) :: D) (hrel : RelF m σ rs fr)
    (hi : XInv Γ c gb g2 (full.take k) σ rs) :
    HAt fSys full (k + rb.1.length + 1) Q m σ rs fr L D (Ref.evalBegin n body fr rs)
      ∨ ExX Γ m σ rs (Ref.evalBegin n body fr rs) := by
  cases body with
  | nil =>
    rw [compileBegin_nil_run] at hcb
    have hrb : rb.1 = [] := by cases hcb; rfl
    rw [hrb] at h ⊢
    exact .inl (fSys.pum_nil fFree n h hd hrel)
  | cons e0 es0 =>
    have hsim := hB ls self Γ hls (e0 :: es0) (by simp) hbody isFn c gb (rb, g2) hcb hfn m σ rs fr _ _ hrel hi h.seg
    rcases (xSys Γ).sm_iff.mp hsim with ⟨v', rs', e, hland⟩ | hg
    · rw [e]
      exact .inl (fSys.pum fFree (G := []) h hd (GoodAbove.nil _) (fSys.sm_ok.mpr (.inl hland)))
    · cases hres : Ref.evalBegin n (e0 :: es0) fr rs with
      | ok v' rs' => rw [hres] at hg; exact hg.elim
      | err rs' => rw [hres] at hg; exact .inl hg
      | timeout => exact .inl trivial
      | brk l rs' => rw [hres] at hg; exact .inr hg
      | cont l rs' => rw [hres] at hg; exact .inr hg

/-- whose loop a `break`/`continue` inside the innermost loop means -/
theorem findCtx_cons {γ₀ : LCtx} {Γ : List LCtx} {l : Option String} {γ : LCtx} (h : findCtx (γ₀ :: Γ) l = some γ) :
    ((l.isNone || l == γ₀.label) = true ∧ γ = γ₀) ∨ ((l.isNone || l == γ₀.label) = false ∧ findCtx Γ l = some γ) := by
  cases l with
  | none =>
    simp only [findCtx, List.head?_cons, Option.some.injEq] at h
    exact Or.inl ⟨rfl, h.symm⟩
  | some x =>
    simp only [findCtx, List.find?_cons] at h
    by_cases hx : γ₀.label = some x
    · simp only [hx, beq_self_eq_true, Option.some.injEq] at h
      exact Or.inl ⟨by simp [hx], h.symm⟩
    · have hb : (γ₀.label == some x) = false := by simpa using hx
      rw [hb] at h
      refine Or.inr ⟨?_, h⟩
      have : (some x == γ₀.label) = false := by simpa using fun e => hx e.symm
      simp [this]

/-- the loop's `clearMark`, where a `break` lands -/
theorem InLoop.clear {full cs ct cb post tl : List Instr} {kc L k : Nat} {σ σ' : St} (hl : InLoop full kc L cs ct cb post)
    (h : Cur σ full k tl) (hf : fnOf σ' σ'.curfunc = fnOf σ σ.curfunc)
    (hp : σ'.pc = ((kc + cs.length + ct.length + cb.length + 8 : Nat) : Int)) :
    Cur σ' full (kc + cs.length + ct.length + cb.length + 8) (.clearMark L :: .removeScope :: .push .nil :: post) := by
  have hd : full.drop (kc + cs.length + ct.length + cb.length + 8) = .clearMark L :: .removeScope :: .push .nil :: post := by
    rw [show kc + cs.length + ct.length + cb.length + 8
      = kc + ((cs.length + ((ct.length + ((cb.length + (0 + 1 + 1 + 1)) + 1 + 1)) + 1 + 1)) + 1) from by omega,
      ← List.drop_drop, hl.tl]
    simp only [lCont, lTest, lEnd, List.drop_succ_cons, List.drop_length_add_append, List.drop_zero]
  refine h.goto hf hp ?_ hd
  have := congrArg List.length hd
  simp only [List.length_drop, List.length_cons] at this
  omega

/-- **One `for` loop from its test label on**, `break`/`continue` allowed in the body: the machine arrives on the loop's
`clearMark` (over the end label or by a `break`), or leaves for an enclosing loop. -/
def XClaimF (n : Nat) : Prop :=
  ∀ (ls : List (Option String)) (self : String) (label : Option String) (test incr : Expr) (body : List Expr),
  Ff true self test = true → Ff true self incr = true → FxList (label :: ls) self body = true →
  ∀ (isFn : Nat → Bool) (c : Ctx), FnameOk self c →
  ∀ gb rb g2 gt rt g4 gi ri g5, (compileBegin isFn c body).run gb = .ok (rb, g2) →
    (compile isFn c test).run gt = .ok (rt, g4) → (compile isFn c incr).run gi = .ok (ri, g5) →
  ∀ (Γ : List LCtx) (γ₀ : LCtx), Γ.map (·.label) = ls → γ₀.label = label →
  ∀ (post full : List Instr) (kc : Nat) (m : Nat → Nat) (σ : St) (rs : Ref.St),
    InLoop full kc γ₀.id ri.1 rt.1 rb.1 post →
    Cur σ full (kc + ri.1.length + 2) (lTest γ₀.id ri.1 rt.1 rb.1 post) →
    σ.data = some (.mark γ₀.id) :: γ₀.D → σ.linear = γ₀.lin → RelF m σ rs γ₀.fr →
    XInv (γ₀ :: Γ) c gb g2 (full.take (kc + ri.1.length + 2 + rt.1.length + 3)) σ rs → GenOk gt g4 σ → GenOk gi g5 σ →
    γ₀.brkPos = ((kc + ri.1.length + rt.1.length + rb.1.length + 8 : Nat) : Int) → γ₀.contPos = (kc : Int) →
    LoopOut Γ full (kc + ri.1.length + rt.1.length + rb.1.length + 8) (.clearMark γ₀.id :: .removeScope :: .push .nil :: post)
      m σ rs γ₀.fr γ₀.id γ₀.D (Ref.loop n label test incr body γ₀.fr rs)

theorem xclaimF_succ {n : Nat} (hFE : FClaimE n) (hB : XClaimB n) (hF : XClaimF n) : XClaimF (n + 1) := by
  intro ls self label test incr body htest hincr hbody isFn c hfn gb rb g2 gt rt g4 gi ri g5 hcb hct hci Γ γ₀ hls hlab
    post full kc m σ rs hl hcur hd hlin hrel hi hgt hgi hbrk hcont
  have hls' : (γ₀ :: Γ).map (·.label) = label :: ls := by simp [hls, hlab]
  -- from the `continue` label on: the increment, back on the mark, the next iteration
  have hafter : ∀ (m6 : Nat → Nat) (σ6 : St) (rs2 : Ref.St) (G : List (Option Val)),
      Cur σ6 full kc (lCont γ₀.id ri.1 rt.1 rb.1 post) → σ6.data = G ++ some (.mark γ₀.id) :: γ₀.D → GoodAbove γ₀.id G →
      RelF m6 σ6 rs2 γ₀.fr → AdvF m σ rs m6 σ6 rs2 → fnOf σ6 σ6.curfunc = fnOf σ σ.curfunc →
      LoopOut Γ full (kc + ri.1.length + rt.1.length + rb.1.length + 8) (.clearMark γ₀.id :: .removeScope :: .push .nil :: post)
        m6 σ6 rs2 γ₀.fr γ₀.id γ₀.D
        (match Ref.eval n incr γ₀.fr rs2 with
         | .ok _ s => Ref.loop n label test incr body γ₀.fr s
         | .brk l s => if (l.isNone || l == label) = true then .ok .nil s else .brk l s
         | .cont l s => if (l.isNone || l == label) = true then Ref.loop n label test incr body γ₀.fr s else .cont l s
         | r => r) := by
    intro m6 σ6 rs2 G hc6 hd6 hG rel6 x6 hfn6
    have hs := fSys.loop_incr fFree hc6 hd6 hG (fun P Q hseg => hFE true self incr hincr isFn c gi (ri, g5) hci hfn m6 _
      rs2 γ₀.fr P Q (rel6.jmp _ _) (fun _ => hgi.frame (x6.2.2.trans (FrameF.jmp _ _ _)).toFrame) hseg)
    cases h3 : Ref.eval n incr γ₀.fr rs2 with
    | ok vs rs3 =>
      rw [h3] at hs
      obtain ⟨σ10, m10, r10, hc10, hd10, hfn10, rel10, x10⟩ := hs
      have x010 := x6.trans x10
      exact LoopOut.of_reach r10 hfn10 x10
        (hF ls self label test incr body htest hincr hbody isFn c hfn gb rb g2 gt rt g4 gi ri g5 hcb hct hci Γ γ₀
          hls hlab post full kc m10 σ10 rs3 hl hc10 hd10 (by rw [x010.2.2.linear]; exact hlin) rel10
          (hi.after (hfn10.trans hfn6) x010.2.2 x010.2.1 (by rw [hd10, hd])) (hgt.frame x010.2.2.toFrame)
          (hgi.frame x010.2.2.toFrame) hbrk hcont)
    | err rs3 => rw [h3] at hs; exact hs
    | timeout => trivial
    | brk l rs3 => rw [h3] at hs; exact hs.elim
    | cont l rs3 => rw [h3] at hs; exact hs.elim
  rw [Ref.loop]
  have ht := fSys.loop_test fFree hcur hd (fun P Q hseg => hFE true self test htest isFn c gt (rt, g4) hct hfn m _ rs γ₀.fr P Q
    (hrel.jmp _ _) (fun _ => hgt.frame (Frame.jmp σ (σ.pc + 1) σ.data)) hseg)
  cases h1 : Ref.eval n test γ₀.fr rs with
  | ok tv rs1 =>
    rw [h1] at ht
    obtain ⟨σ4, m2, r4, hcT, hcF, hd4, hfn04, rel4, x4⟩ := ht
    simp only
    refine LoopOut.of_reach r4 hfn04 x4 ?_
    by_cases htv : truthy tv = true
    · rw [if_neg (by rw [htv]; decide)]
      have hc4 := hcT htv
      have hlin4 : σ4.linear = γ₀.lin := by rw [x4.2.2.linear]; exact hlin
      -- out of the body by a `break`/`continue` that does not mean this loop
      have hout : ∀ {tgt : LCtx → Int} {l : Option String} {rs2 : Ref.St} {γ : LCtx}, findCtx Γ l = some γ →
          JumpedF (tgt γ) γ (γ₀ :: Γ) m2 σ4 rs1 rs2 → ∃ γ, findCtx Γ l = some γ
            ∧ JumpedB (some (.mark γ₀.id) :: γ₀.D) (tgt γ) γ Γ m2 σ4 rs1 rs2 := fun {_ _ _ γ} hγ' hj =>
        ⟨γ, hγ', (hd4 ▸ hj : JumpedB (some (.mark γ₀.id) :: γ₀.D) _ γ (γ₀ :: Γ) m2 σ4 rs1 _).weaken
          (fun γ' h' => List.mem_cons_of_mem _ h')⟩
      have hb := body_pumX hB hbody hfn hcb hls' hc4 hd4 rel4 (hi.after hfn04 x4.2.2 x4.2.1 (by rw [hd4, hd]))
      cases h2 : Ref.evalBegin n body γ₀.fr rs1 with
      | ok vb rs2 =>
        rw [h2] at hb
        obtain ⟨σ6, m6, r6, hc6, hd6, hfn6, rel6, x6⟩ := hb.resolve_right id
        simp only
        obtain ⟨r7, hc7⟩ := hl.back hc6 (by omega)
        have x7 := x6.trans (fSys.xjmp m6 σ6 rs2 (kc : Int) σ6.data)
        exact LoopOut.of_reach (r6.trans r7.toX) hfn6 x7
          (hafter m6 _ rs2 [] hc7 hd6 (GoodAbove.nil _) (rel6.jmp _ _) (x4.trans x7) (hfn6.trans hfn04))
      | err rs2 => rw [h2] at hb; exact hb.resolve_right id
      | timeout => trivial
      | brk l rs2 =>
        rw [h2] at hb
        obtain ⟨γ, hγ, hj⟩ := hb.resolve_left id
        simp only
        rcases findCtx_cons hγ with ⟨hmine, rfl⟩ | ⟨hmine, hγ'⟩
        · rw [hlab] at hmine
          rw [if_pos hmine]
          obtain ⟨σ', m', X, r, hpc', hlin', hd', hg', hf', rel', hm', ext', fr'⟩ := hj
          exact ⟨σ', m', X, r, hl.clear hc4 hf' (hpc'.trans hbrk), hd4 ▸ hd', hg' γ (List.mem_cons_self ..), hf', rel', hm', ext',
            fr'.toF (by rw [hlin', hlin4])⟩
        · rw [hlab] at hmine
          rw [if_neg (by rw [hmine]; decide)]
          exact hout (tgt := (·.brkPos)) hγ' hj
      | cont l rs2 =>
        rw [h2] at hb
        obtain ⟨γ, hγ, hj⟩ := hb.resolve_left id
        simp only
        rcases findCtx_cons hγ with ⟨hmine, rfl⟩ | ⟨hmine, hγ'⟩
        · rw [hlab] at hmine
          rw [if_pos hmine]
          obtain ⟨σ', m', X, r, hpc', hlin', hd', hg', hf', rel', hm', ext', fr'⟩ := hj
          have x' : AdvF m2 σ4 rs1 m' σ' rs2 := ⟨hm', ext', fr'.toF (by rw [hlin', hlin4])⟩
          exact LoopOut.of_reach r hf' x' (hafter m' σ' rs2 X (hc4.goto hf' (hpc'.trans hcont) hl.le hl.tl) (hd4 ▸ hd')
            (hg' γ (List.mem_cons_self ..)) rel' (x4.trans x') (hf'.trans hfn04))
        · rw [hlab] at hmine
          rw [if_neg (by rw [hmine]; decide)]
          exact hout (tgt := (·.contPos)) hγ' hj
    · have hft : truthy tv = false := by simpa using htv
      rw [if_pos (by rw [hft]; rfl)]
      have hcE := hcF hft
      unfold lEnd at hcE
      exact ⟨_, m2, [], (Reach.step hcE.at (fun f => exec_label f σ4)).toX,
        (show kc + ri.1.length + 2 + rt.1.length + rb.1.length + 5 + 1 = kc + ri.1.length + rt.1.length + rb.1.length + 8 from by omega)
          ▸ hcE.next rfl rfl, hd4, GoodAbove.nil _, rfl, rel4.jmp _ _, fSys.xjmp _ _ _ _ _⟩
  | err rs1 => rw [h1] at ht; exact ht
  | timeout => trivial
  | brk l rs1 => rw [h1] at ht; exact ht.elim
  | cont l rs1 => rw [h1] at ht; exact ht.elim

theorem forDone_getD_self (g5 : GS) (L : Nat) (b c : Int) (h : L < g5.loops.length) :
    ((forDone g5 L b c).loops.getD L {}).breakOff = b ∧ ((forDone g5 L b c).loops.getD L {}).contOff = c := by
  simp [forDone, List.getD_eq_getElem?_getD, h]

theorem asmFor_offs (L : Nat) (i t s b : List Instr) :
    (asmFor L (i ++ [.popUntilMark L]) t (s ++ [.popUntilMark L]) (b ++ [.popUntilMark L])).2.1
        = ((i.length + s.length + t.length + b.length + 14 : Nat) : Int)
    ∧ (asmFor L (i ++ [.popUntilMark L]) t (s ++ [.popUntilMark L]) (b ++ [.popUntilMark L])).2.2
        = ((i.length + 6 : Nat) : Int) :=
  ⟨congrArg Prod.fst (forOffs_eq L i t s b), congrArg Prod.snd (forOffs_eq L i t s b)⟩

theorem goodAbove_mark {L id : Nat} (h : L ≠ id) : GoodAbove id [some (.mark L)] := fun x hx => by
  simp only [List.mem_singleton] at hx
  subst hx
  exact ⟨_, rfl, fun e => by injection e with e; exact h e⟩

theorem JumpedB.rebase {B X₀ : List (Option Val)} {tgt : Int} {γ : LCtx} {Γ : List LCtx} {m : Nat → Nat} {s : St}
    {rs rs' : Ref.St} (h : JumpedB (X₀ ++ B) tgt γ Γ m s rs rs') (hg₀ : ∀ γ' ∈ Γ, GoodAbove γ'.id X₀) :
    JumpedB B tgt γ Γ m s rs rs' := by
  obtain ⟨s', m', X, r, hpc, hlin, hd, hg, hf, rel, hm', ext, fr⟩ := h
  exact ⟨s', m', X ++ X₀, r, hpc, hlin, by rw [hd, List.append_assoc], fun γ' h' => (hg γ' h').append (hg₀ γ' h'), hf,
    rel, hm', ext, fr⟩

def forCtx (L : Nat) (label : Option String) (depth start : Nat) (brk cont : Nat) (lin : List (Option Nat)) (fr : Nat)
    (D : List (Option Val)) : LCtx :=
  { id := L, label := label, depth := depth, start := start, brkPos := (brk : Int), contPos := (cont : Int), lin := lin, fr := fr, D := D }

theorem lsOut_fHd {L a b : Nat} (h : L < a) : LsOut (fHd L) a b := fun l hl => by
  simp only [List.mem_cons, Instr.loopStart.injEq, reduceCtorEq, List.not_mem_nil, or_false] at hl
  exact Or.inl (hl ▸ h)

theorem lsOut_fMid (L : Nat) (cs : List Instr) (a b : Nat) : LsOut (fMid L cs) a b := fun l hl => by simp at hl
theorem lsOut_fBr (cb : List Instr) (a b : Nat) : LsOut (fBr cb) a b := fun l hl => by simp at hl
theorem lsOut_pl (L a b : Nat) : LsOut [Instr.popUntilMark L, .label] a b := fun l hl => by simp at hl

end ZygoVerif.Sim
