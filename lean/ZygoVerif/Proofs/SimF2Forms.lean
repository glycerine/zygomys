/-
C02, execution half — F2 as a plain fragment (`fFgP`: no exits, an invariant that does not look at control): the claims
for `and`/`or`, the bindings of `letseq` and `let`, value lists and `for` loops without exits are those of the
interface (SimStep, SimLoop) at `fSys`; `SimFL` is its statement for value lists (`simFL_iff`). F2's own: array
literals (`simF_arr_tail`). `SimF.scoped`, `vm_defineAllF`, `simFL_cons`, `letpar_binds` state single steps of the interface
in F2's vocabulary; the induction goes `hclaimE_struct` → `Sys.scoped`, `hclaimBs` → `hletpar_binds` → `Sys.defineAll`, not
through them.
-/
import ZygoVerif.Proofs.SimF2
import ZygoVerif.Proofs.AliasFresh
namespace ZygoVerif.Sim
open ZygoVerif.Core ZygoVerif.VM

/-- code that leaves no value (the bindings of `let`/`letseq`) -/
def SimFU (code : List Instr) (m : Nat → Nat) (s : St) (rs : Ref.St) (env : Nat) (res : Ref.R Unit) : Prop :=
  HSimU fSys code m s rs env res

/-- code that pushes a list of values, first value deepest (the initialisers of `let`, array elements) -/
def SimFL (code : List Instr) (m : Nat → Nat) (s : St) (rs : Ref.St) (env : Nat) (res : Ref.R (List Val)) : Prop :=
  match res with
  | .ok vs' rs' => ∃ (s' : St) (m' : Nat → Nat) (vs : List Val), ReachX s s' ∧ fnOf s' s'.curfunc = fnOf s s.curfunc
      ∧ s'.pc = s.pc + (code.length : Int) ∧ s'.data = vs.reverse.map some ++ s.data ∧ vs' = vs.map (trf m')
      ∧ RelF m' s' rs' env ∧ MExt s m m' ∧ RExt rs rs' ∧ FrameF s s' ∧ ∀ v ∈ vs, VOk m' s' rs' v
  | .err rs' => FailsX s rs'.trace
  | .timeout => True
  | .brk _ _ => False
  | .cont _ _ => False

theorem simFL_iff {code : List Instr} {m : Nat → Nat} {s : St} {rs : Ref.St} {env : Nat} {res : Ref.R (List Val)} :
    SimFL code m s rs env res ↔ HSimL fSys code m s rs env res := by
  cases res with
  | ok vs' rs' =>
    exact ⟨fun ⟨s', m', vs, a, b, c, d, e, f, g, h, i, j⟩ => ⟨s', m', vs, a, b, c, d, e, f, ⟨g, h, i⟩, j⟩,
      fun ⟨s', m', vs, a, b, c, d, e, f, ⟨g, h, i⟩, j⟩ => ⟨s', m', vs, a, b, c, d, e, f, g, h, i, j⟩⟩
  | _ => exact Iff.rfl

theorem ffBinds_rhs : ∀ (fnOk : Bool) (self : String) (bs : List (String × Expr)), FfBinds fnOk self bs = true →
    FfList fnOk self (bs.map (·.2)) = true
  | _, _, [], _ => rfl
  | fnOk, self, (y, e) :: bs, h => by
    rw [FfBinds] at h
    simp only [Bool.and_eq_true] at h
    rw [List.map_cons, FfList, h.1.2, ffBinds_rhs fnOk self bs h.2]; rfl

@[reducible] def fFgP (fnOk : Bool) (self : String) : FgP fSys where
  toFg := fFg fnOk self
  noex _ _ _ _ := id
  inv_x h x hf := (h hf).frame x.2.2.toFrame
  inv_any h _ := h
  inv_for h hk hf := ⟨(h hf).live, (h hf).main, (h hf).len, (h hf).tmpl, (h hf).loops.for_body hk (KeepFns.refl _)⟩
  fvals_cons := fun (h : FfList fnOk self _ = true) => by rw [FfList] at h; simpa using h
  fbinds_cons := fun (h : FfBinds fnOk self _ = true) => by rw [FfBinds] at h; simpa [and_assoc] using h
  fbinds_rhs h := ffBinds_rhs _ _ _ h
  f_sym := fun (h : Ff fnOk self _ = true) => by rw [Ff] at h; exact h
  f_def := fun (h : Ff fnOk self _ = true) => by rw [Ff] at h; simpa using h
  f_set := fun (h : Ff fnOk self _ = true) => by rw [Ff] at h; simpa using h
  f_and := fun (h : Ff fnOk self _ = true) => by rw [Ff] at h; exact h
  f_or := fun (h : Ff fnOk self _ = true) => by rw [Ff] at h; exact h
  f_for := fun (h : Ff fnOk self _ = true) => by
    rw [Ff] at h; simp only [Bool.and_eq_true] at h; exact ⟨h.1.1.1, h.1.1.2, h.1.2, fun _ => h.2⟩

def FClaimS (n : Nat) : Prop := ∀ fnOk self, HClaimS fSys (fFgP fnOk self) n

def FClaimL (n : Nat) : Prop := ∀ fnOk self, HClaimL fSys (fFgP fnOk self) n

def FClaimV (n : Nat) : Prop := ∀ fnOk self, HClaimV fSys (fFgP fnOk self) n

/-- `let`/`letseq`/`newScope`: `addScope`, the inner code in the fresh scope, `removeScope` -/
theorem SimF.scoped {inner pre post : List Instr} {m : Nat → Nat} {s : St} {rs : Ref.St} {env : Nat} {res : Ref.R Val}
    (h : Seg s pre ([.addScope] ++ inner ++ [.removeScope]) post) (hrel : RelF m s rs env)
    (hin : SimF inner m s.pushScope (Ref.newFrame rs env).2 rs.frames.length res) :
    SimF ([.addScope] ++ inner ++ [.removeScope]) m s rs env res :=
  fSys.scoped fBinds h hrel hin

/-- the reference's version of a list of (name, VM value) pairs -/
def trPairs (m : Nat → Nat) (ps : List (String × Val)) : List (String × Val) := ps.map (fun p => (p.1, trf m p.2))

theorem vm_defineAllF {m : Nat → Nat} : ∀ (ps : List (String × Val)) (s : St) (rs : Ref.St) (fr : Nat) (P Q : List Instr)
    (D : List (Option Val)), (∀ p ∈ ps, okName p.1 = true) → (∀ p ∈ ps, VOk m s rs p.2) →
    Seg s P (ps.map (fun p => Instr.popStackPutEnv p.1)) Q → s.data = ps.map (fun p => some p.2) ++ D → RelF m s rs fr →
    match defineAll rs fr (trPairs m ps) with
    | some rs' => ∃ s', Reach ps.length 1 s s' ∧ fnOf s' s'.curfunc = fnOf s s.curfunc
        ∧ s'.pc = s.pc + (ps.length : Int) ∧ s'.data = D ∧ RelF m s' rs' fr ∧ RExt rs rs' ∧ FrameF s s'
    | none => Fails ps.length s rs.trace := fun ps s rs fr P Q D hok hcl hseg hd hrel => by
  have h := fSys.defineAll fBinds (w := m) ps s rs fr P Q D hok hcl hseg hd hrel
  show match defineAll rs fr (fSys.tvPairs m ps) with | some rs' => _ | none => _
  revert h
  cases defineAll rs fr (fSys.tvPairs m ps) with
  | none => exact id
  | some rs' => exact fun h => h.imp fun s' ⟨a, b, c, d, e, f⟩ => ⟨a, b, c, d, e, f.2.1, f.2.2⟩

theorem fclaimS_succ {n : Nat} (hE : FClaimE n) (hS : FClaimS n) : FClaimS (n + 1) := fun fnOk self =>
  hclaimS_succ (Fr := fFgP fnOk self) (hE.at fnOk self) (hS fnOk self)

theorem fclaimL_succ {n : Nat} (hE : FClaimE n) (hL : FClaimL n) : FClaimL (n + 1) := fun fnOk self =>
  hclaimL_succ fBinds (Fr := fFgP fnOk self) (hE.at fnOk self) (hL fnOk self)

theorem fclaimV_succ {n : Nat} (hE : FClaimE n) (hV : FClaimV n) : FClaimV (n + 1) := fun fnOk self =>
  hclaimV_succ (Fr := fFgP fnOk self) (hE.at fnOk self) (hV fnOk self)

theorem SimFL.cons {code ca cb : List Instr} {m m1 : Nat → Nat} {s s1 : St} {rs rs1 : Ref.St} {env : Nat} {w1 : Val}
    {res₂ : Ref.R (List Val)} (hcode : code = ca ++ cb)
    (r1 : ReachX s s1) (l1 : Lands ca.length w1 s s1) (hm1 : MExt s m m1) (ext1 : RExt rs rs1) (fr1 : FrameF s s1)
    (hcl1 : VOk m1 s1 rs1 w1) (h2 : SimFL cb m1 s1 rs1 env res₂) :
    SimFL code m s rs env (match (generalizing := false) res₂ with | .ok vs s => .ok (trf m1 w1 :: vs) s | r => r) :=
  simFL_iff.mpr (hsimL_cons (Y := fSys) hcode r1 l1 ⟨hm1, ext1, fr1⟩ hcl1 (simFL_iff.mp h2))

theorem simFL_cons {code ca cb : List Instr} {m m1 : Nat → Nat} {s s1 : St} {rs rs1 rs2 : Ref.St} {env : Nat} {w1 : Val}
    {vs' : List Val} (hcode : code = ca ++ cb)
    (r1 : ReachX s s1) (l1 : Lands ca.length w1 s s1) (hm1 : MExt s m m1) (ext1 : RExt rs rs1) (fr1 : FrameF s s1)
    (hcl1 : VOk m1 s1 rs1 w1) (h2 : SimFL cb m1 s1 rs1 env (.ok vs' rs2)) :
    SimFL code m s rs env (.ok (trf m1 w1 :: vs') rs2) :=
  SimFL.cons hcode r1 l1 hm1 ext1 fr1 hcl1 h2

/-- `[e₁ … eₙ]`, after the elements have been pushed: `CallInstr{array, n}` allocates the array -/
theorem simF_arr_tail {m m1 : Nat → Nat} {s s₁ : St} {rs rs₁ : Ref.St} {env : Nat} {pre post ca : List Instr}
    {vs : List Val} {k : Nat}
    (h : Seg s pre (ca ++ [.callArr k]) post) (hk : k = vs.length)
    (r1 : ReachX s s₁) (hfn1 : fnOf s₁ s₁.curfunc = fnOf s s.curfunc)
    (hpc1 : s₁.pc = s.pc + (ca.length : Int)) (hd1 : s₁.data = vs.reverse.map some ++ s.data)
    (rel1 : RelF m1 s₁ rs₁ env) (hm1 : MExt s m m1) (ext1 : RExt rs rs₁) (fr1 : FrameF s s₁)
    (hclvs : ∀ v ∈ vs, VOk m1 s₁ rs₁ v) :
    SimF (ca ++ [.callArr k]) m s rs env
      (match rs₁.heap.alloc (vs.map (trf m1)) with | (a, hp) => .ok a { rs₁ with heap := hp }) := by
  have a2 : At s₁ (pre ++ ca) (.callArr k) post :=
    At.move h hfn1 (by simp) (by rw [hpc1, h.pc]; simp)
  have hx : Ev fun f => (exec (f + 1) (.callArr k)).run s₁ = (.ok (), Alias.afterLiteral s₁ s.data vs) :=
    Ev.shift 2 (Ev.of_forall fun _ => trivial) fun g _ => hk ▸ Alias.exec_callArr g vs s.data s₁ hd1
  have hlen : (ca ++ [Instr.callArr k]).length = ca.length + 1 := by simp
  have halloc := trHeap_alloc m1 id id s₁.heap vs
  rw [rel1.heap, halloc]
  show SimF _ m s rs env (.ok (trf m1 (s₁.heap.alloc vs).1) { rs₁ with heap := trHeap m1 id id (s₁.heap.alloc vs).2 })
  have hhok : HOk m1 s₁ rs₁ (s₁.heap.alloc vs).2 := heapIn_alloc rel1.hok vs hclvs
  have hfr : FrameF s₁ (Alias.afterLiteral s₁ s.data vs) :=
    ⟨⟨rfl, rfl, rfl, rfl, Nat.le_refl _, fun _ _ => rfl, Nat.le_refl _, fun _ _ => rfl⟩, Nat.le_refl _, fun _ _ => rfl⟩
  refine ⟨_, m1, (s₁.heap.alloc vs).1, (r1.trans (ReachX.ev a2 hx)), ⟨hfn1, ?_, rfl⟩, rfl,
    rel1.of_same rfl rfl rfl rfl rfl rfl rfl rel1.trace hhok, hm1, ext1.trans (RExt.refl _), fr1.trans hfr,
    valIn_of_const (fun _ _ _ => rfl)⟩
  show s₁.pc + 1 = _
  rw [hpc1, hlen]; push_cast; omega

/-- the bindings of a parallel `let` (initialisers, then the `popStackPutEnv`s in reverse order), against
`evalList` followed by `bindAll` -/
theorem letpar_binds {n : Nat} (hV : FClaimV n) {fnOk : Bool} {self : String} {bs : List (String × Expr)}
    (isFn : Nat → Bool) (c : Ctx) (gs : GS) (r : (List Instr × Bool) × GS)
    (ha : (compileBinds isFn c false bs).run gs = .ok r) (hfn : FnameOk self c)
    (hnd : (bs.map (·.1)).Nodup) (hbs : FfBinds fnOk self bs = true)
    (m : Nat → Nat) (s : St) (rs : Ref.St) (fr : Nat) (pre post : List Instr) (hrel : RelF m s rs fr)
    (hgen : fnOk = true → GenOk gs r.2 s)
    (hseg : Seg s pre (r.1.1 ++ (bs.map (fun p => Instr.popStackPutEnv p.1)).reverse) post) :
    SimFU (r.1.1 ++ (bs.map (fun p => Instr.popStackPutEnv p.1)).reverse) m s rs fr
      (match Ref.evalList n (bs.map (·.2)) fr rs with
       | .ok vs s => (match Ref.bindAll s fr (bs.map (·.1)) vs with
          | some s => .ok () s
          | none => .err s)
       | .err s => .err s | .brk l s => .brk l s | .cont l s => .cont l s | .timeout => .timeout) :=
  hletpar_binds fBinds (Fr := fFgP fnOk self) (hV fnOk self) isFn c gs r ha hfn hnd hbs m s rs fr pre post hrel hgen hseg

/-- one `for` loop of F2 from its test label on, against `Ref.loop` -/
def FClaimF (n : Nat) : Prop := ∀ fnOk self, HClaimF fSys (fFgP fnOk self) n

theorem fclaimF_succ {n : Nat} (hE : FClaimE n) (hB : FClaimB n) (hF : FClaimF n) : FClaimF (n + 1) := fun fnOk self =>
  hclaimF_succ fFree (Fr := fFgP fnOk self) (hE.at fnOk self) (hB fnOk self) (hF fnOk self)

/-- **A `for` loop** (no `break`/`continue` inside): into the loop, the iterations (`FClaimF`), the end label, out of
the loop — against `newFrame`, `eval init`, `Ref.loop`. -/
theorem fclaimE_for {n : Nat} (hE : FClaimE n) (hF : FClaimF n) {fnOk : Bool} {self : String} {label : Option String}
    {init test incr : Expr} {body : List Expr} (hinit : Ff fnOk self init = true) (htest : Ff fnOk self test = true)
    (hincr : Ff fnOk self incr = true) (hbody : FfList fnOk self body = true) (isFn : Nat → Bool) (c : Ctx) (gs : GS)
    (r : (List Instr × Bool) × GS)
    (hc : (compile isFn c (.for_ label init test incr body)).run gs = .ok r) (hfn : FnameOk self c)
    (m : Nat → Nat) (s : St) (rs : Ref.St) (env : Nat) (pre post : List Instr) (hrel : RelF m s rs env)
    (hgen : fnOk = true → GenOk gs r.2 s) (hseg : Seg s pre r.1.1 post) :
    SimF r.1.1 m s rs env (Ref.eval (n + 1) (.for_ label init test incr body) env rs) :=
  hclaimE_for fBinds fFree (Fr := fFgP fnOk self) (hE.at fnOk self) (hF fnOk self)
    (show Ff fnOk self (.for_ label init test incr body) = true by rw [Ff, hinit, htest, hincr, hbody]; rfl)
    isFn c gs r hc hfn m s rs env pre post hrel hgen hseg

end ZygoVerif.Sim
