/-
The code the modelled generator (Model/Gen.lean) emits is balanced.

A *fragment* is a piece of code together with an annotation (one abstract state per
instruction plus one for the position behind it). `FragOK Γ code as` says: wherever the
fragment is placed inside a function whose annotation carries `as` at the fragment's
positions, and whose enclosing loops are as `Γ` says, the local condition `okAt` of the
verifier (Spec/Balanced.lean) holds at every position of the fragment. Fragments compose in
sequence and around jumps (`OpenFrag`: the pieces of a layout in a row, the jumps checked when the row is complete),
along the assembly functions of the generator and form by form (an instruction with any successors:
`efrag_instr`); `balWalk` (`bal_compile*`) walks the forms without loops; a fragment from the entry state to the return state is a verified
function.
-/
import ZygoVerif.Proofs.GenFacts
import ZygoVerif.Spec.Balanced
import ZygoVerif.Proofs.Balanced
namespace ZygoVerif.Bal
open ZygoVerif.VM ZygoVerif.Core

/-- The checker's view of a model instruction. The offsets of `break`/`continue` live in the
loop table (as in Go: `BreakInstr.loop.breakOffset`). -/
def toB (loops : List LoopRec) : Instr → BInstr
  | .push _ => .push
  | .pop => .pop
  | .dup => .dup
  | .envToStack _ => .envToStack
  | .popStackPutEnv _ => .popStackPutEnv
  | .update _ => .update
  | .callArr n => .call n
  | .callExpr _ args => .callExpr args.length
  | .jump off => .jump off
  | .goto loc => .goto loc
  | .branch d off => .branch d off
  | .ret => .ret false
  | .addScope => .addScope
  | .addFuncScope _ => .addFuncScope
  | .removeScope => .removeScope
  | .createClosure _ => .createClosure
  | .prepareCall _ n => .prepareCall n
  | .tailGuard _ skip => .tailGuard skip
  | .pushLazy _ => .pushLazy
  | .loopStart l => .loopStart l
  | .label => .label
  | .pushMark l => .pushMark l
  | .popUntilMark l => .popUntilMark l
  | .clearMark l => .clearMark l
  | .brk l n => .brk l (loops.getD l {}).breakOff n
  | .cont l n => .cont l (loops.getD l {}).contOff n
  | .assign => .assign

/-! ## `bump`: operands added to the innermost region -/

def bump (σ : AState) (d : Nat) : AState :=
  match σ.frames with
  | [] => { σ with base := σ.base + d }
  | fr :: rest => { σ with frames := { fr with cnt := { fr.cnt with n := fr.cnt.n + d } } :: rest }

theorem bump_zero (σ : AState) : bump σ 0 = σ := by
  obtain ⟨k, frames, base⟩ := σ
  cases frames <;> simp [bump]

theorem bump_bump (σ : AState) (a b : Nat) : bump (bump σ a) b = bump σ (a + b) := by
  obtain ⟨k, frames, base⟩ := σ
  cases frames <;> simp [bump, Nat.add_assoc]

theorem bump_k (σ : AState) (d : Nat) : (bump σ d).k = σ.k := by
  obtain ⟨k, frames, base⟩ := σ
  cases frames <;> simp [bump]

theorem openMarks_bump (σ : AState) (d : Nat) : openMarks (bump σ d).frames = openMarks σ.frames := by
  obtain ⟨k, frames, base⟩ := σ
  cases frames with
  | nil => simp [bump]
  | cons fr rest =>
    obtain ⟨fk, fc⟩ := fr
    cases fk <;> simp [bump, openMarks]

theorem wf_bump (σ : AState) (d : Nat) : (bump σ d).wf = σ.wf := by
  simp [AState.wf, openMarks_bump]

theorem popPush_bump (σ : AState) (n p m : Nat) (h : p ≤ n) :
    popPush (bump σ n) p m = some (bump σ (n - p + m)) := by
  obtain ⟨k, frames, base⟩ := σ
  cases frames with
  | nil =>
    have hle : p ≤ base + n := by omega
    simp [bump, popPush, hle]
    omega
  | cons fr rest =>
    have hle : p ≤ fr.cnt.n + n := by omega
    simp [bump, popPush, hle]
    omega

theorem popPush_zero (σ : AState) (m : Nat) : popPush σ 0 m = some (bump σ m) := by
  have := popPush_bump σ 0 0 m (Nat.le_refl _)
  rw [bump_zero] at this
  simpa using this

def deeper (σ : AState) (d : Nat) : AState := { σ with k := σ.k + d }

theorem bump_deeper (σ : AState) (d n : Nat) : bump (deeper σ d) n = deeper (bump σ n) d := by
  obtain ⟨k, frames, base⟩ := σ
  cases frames <;> simp [bump, deeper]

theorem wf_flat (a b : Nat) : (⟨a, [], b⟩ : AState).wf = true := by simp [AState.wf, openMarks]

theorem wf_deeper (σ : AState) (d : Nat) : (deeper σ d).wf = σ.wf := rfl

theorem shape_le_refl (s : Shape) : s.le s = true := by cases s <;> rfl

theorem cnt_le_refl (c : Cnt) : c.le c = true := by
  obtain ⟨s, n⟩ := c
  simp only [Cnt.le, shape_le_refl, Bool.true_and]
  split <;> simp

theorem framesLe_refl : ∀ fs : List Frame, framesLe fs fs = true
  | [] => rfl
  | f :: fs => by simp [framesLe, Frame.le, cnt_le_refl, framesLe_refl fs]

theorem le_refl (σ : AState) : σ.le σ = true := by
  simp [AState.le, framesLe_refl]

structure LoopInfo where
  id : Nat
  k : Nat                 -- scopes open right after the loop's own scope was opened
  below : List Frame      -- the frames underneath the loop's stack-mark
  base : Nat
  brkOff : Int
  contOff : Int

/-- the state a `break`/`continue` of this loop arrives with -/
def LoopInfo.cut (i : LoopInfo) : AState :=
  { k := i.k, frames := ⟨.mark i.id, ⟨.junk, 0⟩⟩ :: i.below, base := i.base }

/-- What a fragment may assume about the function it is placed in: the enclosing loops (innermost
first) and a side condition on the function and its annotation as a whole (used by
`Proofs/GenBalancedLoop.lean`: loop ids occur once, loops of an enclosing function do not occur,
the annotation of instruction 0 is the entry state). -/
structure Env where
  loops : List LoopInfo := []
  side : Fn → Ann → Prop := fun _ _ => True

/-- The enclosing function really has the loops of `Γ`, and its annotation admits the cut
states at their break and continue targets. -/
def EnvOK (Γ : Env) (F : Fn) (A : Ann) : Prop :=
  Γ.side F A ∧ ∀ i ∈ Γ.loops, ∃ p tb tc, loopPos F.code i.id = some p ∧
    target p i.brkOff F.code.length = some tb ∧ target p i.contOff F.code.length = some tc ∧
    (∃ t, annAt A tb = some t ∧ i.cut.le t = true) ∧ (∃ t, annAt A tc = some t ∧ i.cut.le t = true)

def Placed (F : Fn) (A : Ann) (L : Nat) (code : List BInstr) (as : List AState) : Prop :=
  (∀ i, i < code.length → F.code[L + i]? = code[i]?) ∧
  (∀ i, i < as.length → annAt A (L + i) = as[i]?)

def FragOK (Γ : Env) (code : List BInstr) (as : List AState) : Prop :=
  as.length = code.length + 1 ∧ (∀ s ∈ as, s.wf = true) ∧
  ∀ (F : Fn) (A : Ann) (L : Nat), Placed F A L code as → EnvOK Γ F A →
    ∀ i, i < code.length → okAt F A (L + i) = true

theorem placed_bound {F : Fn} {A : Ann} {L : Nat} {code : List BInstr} {as : List AState}
    (h : Placed F A L code as) (n : Nat) (hn : n < code.length) : L + n < F.code.length := by
  have := h.1 n hn
  rw [List.getElem?_eq_getElem hn] at this
  exact (List.getElem?_eq_some_iff.mp this).1

theorem placed_left {F : Fn} {A : Ann} {L : Nat} {c1 c2 : List BInstr} {a1 a2 : List AState} {m : AState}
    (h : Placed F A L (c1 ++ c2) (a1 ++ m :: a2)) (hl : a1.length = c1.length) :
    Placed F A L c1 (a1 ++ [m]) := by
  constructor
  · intro i hi
    have := h.1 i (by simp; omega)
    rw [this, List.getElem?_append_left hi]
  · intro i hi
    simp only [List.length_append, List.length_cons, List.length_nil] at hi
    have := h.2 i (by simp; omega)
    rw [this]
    rcases Nat.lt_or_ge i a1.length with hlt | hge
    · rw [List.getElem?_append_left hlt, List.getElem?_append_left hlt]
    · have hie : i = a1.length := by omega
      subst hie
      simp

theorem placed_right {F : Fn} {A : Ann} {L : Nat} {c1 c2 : List BInstr} {a1 a2 : List AState} {m : AState}
    (h : Placed F A L (c1 ++ c2) (a1 ++ m :: a2)) (hl : a1.length = c1.length) :
    Placed F A (L + c1.length) c2 (m :: a2) := by
  constructor
  · intro i hi
    have := h.1 (c1.length + i) (by simp; omega)
    rw [Nat.add_assoc, this, List.getElem?_append_right (by omega)]
    simp
  · intro i hi
    have := h.2 (a1.length + i) (by simp at hi ⊢; omega)
    rw [Nat.add_assoc, ← hl, this, List.getElem?_append_right (by omega)]
    simp

theorem placed_step {F : Fn} {A : Ann} {L : Nat} {c rest : List BInstr} {s s' : AState} {m more : List AState}
    (h : Placed F A L (c ++ rest) (s :: (m ++ s' :: more))) (hl : m.length + 1 = c.length) :
    Placed F A L c (s :: m ++ [s']) ∧ Placed F A (L + c.length) rest (s' :: more) :=
  ⟨placed_left (a1 := s :: m) (m := s') (a2 := more) h (by simpa using hl),
   placed_right (a1 := s :: m) (m := s') (a2 := more) h (by simpa using hl)⟩

theorem okAt_split {F : Fn} {A : Ann} {L : Nat} {c1 c2 : List BInstr}
    (o1 : ∀ i, i < c1.length → okAt F A (L + i) = true) (o2 : ∀ i, i < c2.length → okAt F A (L + c1.length + i) = true) :
    ∀ i, i < (c1 ++ c2).length → okAt F A (L + i) = true := by
  intro i hi
  rcases Nat.lt_or_ge i c1.length with hlt | hge
  · exact o1 i hlt
  · have := o2 (i - c1.length) (by rw [List.length_append] at hi; omega)
    rwa [show L + c1.length + (i - c1.length) = L + i by omega] at this

theorem frag_seq {Γ : Env} {c1 c2 : List BInstr} {a1 a2 : List AState} {m : AState}
    (h1 : FragOK Γ c1 (a1 ++ [m])) (h2 : FragOK Γ c2 (m :: a2)) :
    FragOK Γ (c1 ++ c2) (a1 ++ m :: a2) := by
  obtain ⟨hl1, hw1, hk1⟩ := h1
  obtain ⟨hl2, hw2, hk2⟩ := h2
  have hl : a1.length = c1.length := by simpa using hl1
  refine ⟨by simp at hl2 ⊢; omega, fun s hs => ?_, fun F A L hp henv =>
    okAt_split (hk1 F A L (placed_left hp hl) henv) (hk2 F A _ (placed_right hp hl) henv)⟩
  rcases List.mem_append.mp hs with hs | hs
  · exact hw1 s (List.mem_append.mpr (Or.inl hs))
  · exact hw2 s hs

/-! ## Expression fragments: non-empty code from state `σ` to state `τ` -/

def ExprFrag (Γ : Env) (code : List BInstr) (σ τ : AState) : Prop :=
  ∃ mid, FragOK Γ code (σ :: mid ++ [τ])

theorem frag_mid_len {Γ : Env} {c : List BInstr} {s s' : AState} {m : List AState}
    (h : FragOK Γ c (s :: m ++ [s'])) : m.length + 1 = c.length := by
  have := h.1
  simp at this
  omega

theorem efrag_wf {Γ : Env} {c : List BInstr} {σ τ : AState} (h : ExprFrag Γ c σ τ) :
    σ.wf = true ∧ τ.wf = true := by
  obtain ⟨m, _, hw, _⟩ := h
  exact ⟨hw σ (by simp), hw τ (by simp)⟩

theorem efrag_seq {Γ : Env} {c1 c2 : List BInstr} {σ μ τ : AState}
    (h1 : ExprFrag Γ c1 σ μ) (h2 : ExprFrag Γ c2 μ τ) : ExprFrag Γ (c1 ++ c2) σ τ := by
  obtain ⟨m1, h1⟩ := h1
  obtain ⟨m2, h2⟩ := h2
  refine ⟨m1 ++ μ :: m2, ?_⟩
  have := frag_seq (a1 := σ :: m1) (a2 := m2 ++ [τ]) (m := μ) (by simpa using h1) (by simpa using h2)
  simpa using this

/-! ## Layouts with jumps

A jump lands in another piece of the layout, so it is checked only when the whole layout is there. An *open* fragment
`OpenFrag P Q code σ τ` is code from `σ` to `τ` that passes the local check wherever the enclosing function satisfies `Q`
(a predicate on the function, its annotation and the position of the code: where its jumps land, which loops there are), and
whose annotation satisfies `P` wherever it is placed (what stands at the boundaries between its pieces). Pieces are put in
a row by `OpenFrag.seq`, which records the boundary in `P` and collects the `Q`s; `OpenFrag.close` makes the row a fragment when
`P`, read at the row's own position, gives `Q`. -/

def OpenFrag (P Q : Fn → Ann → Nat → Prop) (code : List BInstr) (σ τ : AState) : Prop :=
  ∃ mid, mid.length + 1 = code.length ∧ (∀ s ∈ σ :: mid ++ [τ], s.wf = true) ∧
    ∀ F A L, Placed F A L code (σ :: mid ++ [τ]) →
      P F A L ∧ (Q F A L → ∀ i, i < code.length → okAt F A (L + i) = true)

namespace OpenFrag
variable {Γ : Env} {P Q P₁ Q₁ P₂ Q₂ : Fn → Ann → Nat → Prop} {c c₁ c₂ : List BInstr} {σ μ τ : AState}

/-- a fragment needs its loops only -/
theorem of (h : ExprFrag Γ c σ τ) : OpenFrag (fun _ _ _ => True) (fun F A _ => EnvOK Γ F A) c σ τ :=
  let ⟨mid, h⟩ := h
  ⟨mid, frag_mid_len h, h.2.1, fun F A L hp => ⟨trivial, h.2.2 F A L hp⟩⟩

/-- one instruction, checked once its successors are known to be admitted -/
theorem instr (ins : BInstr) (hσ : σ.wf = true) (hτ : τ.wf = true) :
    OpenFrag (fun _ _ _ => True) (fun F A L => ∃ succs, astep F L ins σ = .ok succs ∧ Admitted A succs) [ins] σ τ := by
  refine ⟨[], rfl, ?_, fun F A L hp => ⟨trivial, fun ⟨succs, hs, hall⟩ i hi => ?_⟩⟩
  · intro s hs
    simp at hs
    rcases hs with rfl | rfl <;> assumption
  · have hi0 : i = 0 := by simpa using hi
    subst hi0
    exact (okAt_iff (by simpa using hp.2 0 (by simp)) (by simpa using hp.1 0 (by simp))).mpr ⟨hσ, succs, hs, hall⟩

theorem seq (h₁ : OpenFrag P₁ Q₁ c₁ σ μ) (h₂ : OpenFrag P₂ Q₂ c₂ μ τ) :
    OpenFrag (fun F A L => annAt A (L + c₁.length) = some μ ∧ P₁ F A L ∧ P₂ F A (L + c₁.length))
      (fun F A L => Q₁ F A L ∧ Q₂ F A (L + c₁.length)) (c₁ ++ c₂) σ τ := by
  obtain ⟨m₁, l₁, w₁, k₁⟩ := h₁
  obtain ⟨m₂, l₂, w₂, k₂⟩ := h₂
  refine ⟨m₁ ++ μ :: m₂, by simp only [List.length_append, List.length_cons]; omega, fun s hs => ?_, fun F A L hp => ?_⟩
  · have hs : s ∈ (σ :: m₁ ++ [μ]) ++ (m₂ ++ [τ]) := by simpa using hs
    rcases List.mem_append.mp hs with hs | hs
    · exact w₁ s hs
    · exact w₂ s (List.mem_cons_of_mem _ hs)
  · obtain ⟨q₁, q₂⟩ := placed_step (m := m₁) (s' := μ) (more := m₂ ++ [τ]) (by simpa using hp) l₁
    obtain ⟨p₁, o₁⟩ := k₁ F A L q₁
    obtain ⟨p₂, o₂⟩ := k₂ F A _ q₂
    exact ⟨⟨by simpa using q₂.2 0 (by simp), p₁, p₂⟩, fun ⟨hq₁, hq₂⟩ => okAt_split (o₁ hq₁) (o₂ hq₂)⟩

/-- The row is a fragment in a function with the loops of `Γ` if there the boundaries give what its pieces ask for; the row
lies inside the function and is annotated `σ` in front and `τ` behind. -/
theorem close (h : OpenFrag P Q c σ τ)
    (hQ : ∀ F A L, (∀ i, i < c.length → F.code[L + i]? = c[i]?) → L + c.length ≤ F.code.length → annAt A L = some σ →
      annAt A (L + c.length) = some τ → EnvOK Γ F A → P F A L → Q F A L) : ExprFrag Γ c σ τ := by
  obtain ⟨mid, l, w, k⟩ := h
  refine ⟨mid, by simp only [List.length_append, List.length_cons, List.length_nil]; omega, w, fun F A L hp henv => ?_⟩
  obtain ⟨p, o⟩ := k F A L hp
  refine o (hQ F A L hp.1 ?_ (by simpa using hp.2 0 (by simp)) ?_ henv p)
  · have := placed_bound hp mid.length (by omega)
    omega
  · have := hp.2 (mid.length + 1) (by simp)
    rw [← l, this]
    simp

end OpenFrag

/-- An instruction whose successors (any number, anywhere) are admitted by the annotation of the
enclosing function. `τ` annotates the position behind it (reachable or not). -/
theorem efrag_instr (Γ : Env) (ins : BInstr) (σ τ : AState) (hσ : σ.wf = true) (hτ : τ.wf = true)
    (h : ∀ (F : Fn) (A : Ann) (L : Nat), annAt A (L + 1) = some τ → EnvOK Γ F A →
      ∃ succs, astep F L ins σ = .ok succs ∧ Admitted A succs) :
    ExprFrag Γ [ins] σ τ :=
  (OpenFrag.instr ins hσ hτ).close (fun F A L _ _ _ h1 henv _ => h F A L h1 henv)

theorem efrag_single (Γ : Env) (ins : BInstr) (σ τ : AState) (hσ : σ.wf = true) (hτ : τ.wf = true)
    (h : ∀ F pc, astep F pc ins σ = .ok [(pc + 1, τ)]) : ExprFrag Γ [ins] σ τ :=
  efrag_instr Γ ins σ τ hσ hτ (fun F _ L h1 _ => ⟨_, h F L, .cons h1 (le_refl τ) .nil⟩)

theorem astep_simple (F : Fn) (pc : Nat) (ins : BInstr) (a a' : AState) (p m : Nat)
    (he : eff ins = .simple p m) (hp : popPush a p m = some a') :
    astep F pc ins a = .ok [(pc + 1, a')] := by
  simp [astep, he, hp]

theorem efrag_simple (Γ : Env) (ins : BInstr) (σ : AState) (n p m : Nat) (hσ : σ.wf = true)
    (he : eff ins = .simple p m) (hp : p ≤ n) : ExprFrag Γ [ins] (bump σ n) (bump σ (n - p + m)) :=
  efrag_single Γ ins _ _ (by rw [wf_bump]; exact hσ) (by rw [wf_bump]; exact hσ)
    (fun F pc => astep_simple F pc ins _ _ p m he (popPush_bump σ n p m hp))

theorem efrag_push (Γ : Env) (ins : BInstr) (σ : AState) (hσ : σ.wf = true)
    (he : eff ins = .simple 0 1) : ExprFrag Γ [ins] σ (bump σ 1) := by
  have := efrag_simple Γ ins σ 0 0 1 hσ he (Nat.le_refl _)
  rwa [bump_zero] at this

theorem efrag_dup (Γ : Env) (σ : AState) (n : Nat) (hσ : σ.wf = true) :
    ExprFrag Γ [.dup] (bump σ (n + 1)) (bump σ (n + 2)) :=
  efrag_single Γ .dup _ _ (by rw [wf_bump]; exact hσ) (by rw [wf_bump]; exact hσ)
    (fun F pc => by
      have := popPush_bump σ (n + 1) 1 2 (by omega)
      simp only [astep, eff, this]
      congr 4)

theorem efrag_pop (Γ : Env) (σ : AState) (n : Nat) (hσ : σ.wf = true) :
    ExprFrag Γ [.pop] (bump σ (n + 1)) (bump σ n) :=
  efrag_single Γ .pop _ _ (by rw [wf_bump]; exact hσ) (by rw [wf_bump]; exact hσ)
    (fun F pc => by
      have := popPush_bump σ (n + 1) 1 0 (by omega)
      simp only [astep, eff, this]
      congr 4)

theorem efrag_scopeUp (Γ : Env) (ins : BInstr) (σ : AState) (hσ : σ.wf = true)
    (he : eff ins = .scopeUp) : ExprFrag Γ [ins] σ (deeper σ 1) :=
  efrag_single Γ ins _ _ hσ (by rw [wf_deeper]; exact hσ)
    (fun F pc => by simp [astep, he, deeper])

theorem efrag_scopeDown (Γ : Env) (σ : AState) (hσ : σ.wf = true) :
    ExprFrag Γ [.removeScope] (deeper σ 1) σ :=
  efrag_single Γ .removeScope _ _ (by rw [wf_deeper]; exact hσ) hσ
    (fun F pc => by
      obtain ⟨k, fr, b⟩ := σ
      simp [astep, eff, deeper])

theorem target_eq (pc : Nat) (off : Int) (len t : Nat) (h : (pc : Int) + off = (t : Int)) (hle : t ≤ len) :
    target pc off len = some t := by
  unfold target
  simp only
  rw [if_pos (by omega)]
  congr 1
  omega

theorem jump_ok {F : Fn} {A : Ann} {pc t : Nat} {off : Int} {σ τ : AState} (ht : target pc off F.code.length = some t)
    (hat : annAt A t = some τ) (hle : σ.le τ = true) :
    ∃ succs, astep F pc (.jump off) σ = .ok succs ∧ Admitted A succs :=
  ⟨[(t, σ)], by simp only [astep, eff, ht], .cons hat hle .nil⟩

/-- a branch pops the test value; both ways on in the state so left -/
theorem branch_ok {F : Fn} {A : Ann} {pc t : Nat} {d : Bool} {off : Int} {σ σ' τ₁ τ₂ : AState} (hpop : popPush σ 1 0 = some σ')
    (ht : target pc off F.code.length = some t) (h1 : annAt A (pc + 1) = some τ₁) (hle1 : σ'.le τ₁ = true)
    (h2 : annAt A t = some τ₂) (hle2 : σ'.le τ₂ = true) :
    ∃ succs, astep F pc (.branch d off) σ = .ok succs ∧ Admitted A succs :=
  ⟨[(pc + 1, σ'), (t, σ')], by simp only [astep, eff, hpop, ht], .cons h1 hle1 (.cons h2 hle2 .nil)⟩

/-- `branch → b ; jump → behind r ; r`: the shape of one `cond` arm. The branch pops the test
value; both continuations start in the same state and end in the same state. -/
theorem efrag_branch_over {Γ : Env} {b r : List BInstr} {σ₁ σ τ : AState} (d : Bool)
    (hpop : popPush σ₁ 1 0 = some σ) (hw1 : σ₁.wf = true)
    (hb : ExprFrag Γ b σ τ) (hr : ExprFrag Γ r σ τ) :
    ExprFrag Γ ([BInstr.branch d ((b.length : Int) + 2)] ++ (b ++ ([BInstr.jump ((r.length : Int) + 1)] ++ r))) σ₁ τ := by
  have hσ := (efrag_wf hb).1
  have hτ := (efrag_wf hb).2
  refine ((OpenFrag.instr _ hw1 hσ).seq ((OpenFrag.of hb).seq ((OpenFrag.instr _ hτ hσ).seq (.of hr)))).close
    (fun F A L _ hlen _ hE henv ⟨h1, _, hj, _, hr0, _, _⟩ => ?_)
  simp only [List.length_append, List.length_cons, List.length_nil] at hlen hE h1 hj hr0 ⊢
  exact ⟨branch_ok hpop (target_eq _ _ _ _ (by push_cast; omega) (by omega)) h1 (le_refl σ) hr0 (le_refl σ), henv,
    jump_ok (target_eq _ _ _ _ (by push_cast; omega) (by omega)) hE (le_refl τ), henv⟩

/-- `ins → behind x ; x`: an instruction that falls through or skips `x`, in state `μ` either way; `x`
ends in `μ` too (a short-circuit step; the guard of a self tail call, fix C09-02, where `x` — the
operands and the tail sequence — ends in `goto 0` and is merely annotated `μ` behind its end) -/
theorem efrag_skip {Γ : Env} {x : List BInstr} {σ₁ μ : AState} (ins : BInstr) (off : Int)
    (hoff : off = (x.length : Int) + 1)
    (hins : ∀ (F : Fn) (pc t : Nat), target pc off F.code.length = some t → astep F pc ins σ₁ = .ok [(pc + 1, μ), (t, μ)])
    (hw1 : σ₁.wf = true) (hx : ExprFrag Γ x μ μ) : ExprFrag Γ ([ins] ++ x) σ₁ μ := by
  refine ((OpenFrag.instr ins hw1 (efrag_wf hx).1).seq (.of hx)).close (fun F A L _ hlen _ hE henv ⟨h1, _, _⟩ => ?_)
  simp only [List.length_append, List.length_cons, List.length_nil] at hlen hE h1 ⊢
  exact ⟨⟨_, hins F L (L + (0 + 1 + x.length)) (target_eq _ _ _ _ (by rw [hoff]; push_cast; omega) hlen),
    .cons h1 (le_refl μ) (.cons hE (le_refl μ) .nil)⟩, henv⟩

theorem efrag_branch_skip {Γ : Env} {x : List BInstr} {σ₁ μ : AState} (d : Bool)
    (hpop : popPush σ₁ 1 0 = some μ) (hw1 : σ₁.wf = true) (hx : ExprFrag Γ x μ μ) :
    ExprFrag Γ ([BInstr.branch d ((x.length : Int) + 1)] ++ x) σ₁ μ :=
  efrag_skip _ _ rfl (fun F pc t ht => by simp only [astep, eff, hpop, ht]) hw1 hx

theorem efrag_guard_skip {Γ : Env} {x : List BInstr} {σ : AState} (off : Int) (hoff : off = (x.length : Int) + 1)
    (hw : σ.wf = true) (hx : ExprFrag Γ x σ σ) :
    ExprFrag Γ ([BInstr.tailGuard off] ++ x) σ σ :=
  efrag_skip _ off hoff (fun F pc t ht => by simp only [astep, eff, ht]) hw hx

def SeqFrag (Γ : Env) (code : List BInstr) (σ τ : AState) : Prop :=
  (code = [] ∧ σ = τ) ∨ ExprFrag Γ code σ τ

theorem sfrag_nil (Γ : Env) (σ : AState) : SeqFrag Γ [] σ σ := Or.inl ⟨rfl, rfl⟩

theorem sfrag_of_e {Γ : Env} {c : List BInstr} {σ τ : AState} (h : ExprFrag Γ c σ τ) :
    SeqFrag Γ c σ τ := Or.inr h

theorem sfrag_seq_e {Γ : Env} {c1 c2 : List BInstr} {σ μ τ : AState}
    (h1 : SeqFrag Γ c1 σ μ) (h2 : ExprFrag Γ c2 μ τ) : ExprFrag Γ (c1 ++ c2) σ τ := by
  rcases h1 with ⟨rfl, rfl⟩ | h1
  · simpa using h2
  · exact efrag_seq h1 h2

theorem efrag_seq_s {Γ : Env} {c1 c2 : List BInstr} {σ μ τ : AState}
    (h1 : ExprFrag Γ c1 σ μ) (h2 : SeqFrag Γ c2 μ τ) : ExprFrag Γ (c1 ++ c2) σ τ := by
  rcases h2 with ⟨rfl, rfl⟩ | h2
  · simpa using h1
  · exact efrag_seq h1 h2

theorem sfrag_seq {Γ : Env} {c1 c2 : List BInstr} {σ μ τ : AState}
    (h1 : SeqFrag Γ c1 σ μ) (h2 : SeqFrag Γ c2 μ τ) : SeqFrag Γ (c1 ++ c2) σ τ := by
  rcases h2 with ⟨rfl, rfl⟩ | h2
  · simpa using h1
  · exact Or.inr (sfrag_seq_e h1 h2)

abbrev B (T : List LoopRec) (code : List Instr) : List BInstr := code.map (toB T)

theorem B_length (T : List LoopRec) (code : List Instr) : (B T code).length = code.length := by simp [B]

/-- `GenerateBegin`: statements separated by `pop` (`bal_asmCond`, `bal_asmSC`: the same for `GenerateCond`, `GenerateShortCircuit`) -/
theorem bal_asmBegin (Γ : Env) (T : List LoopRec) (σ : AState) (hσ : σ.wf = true) :
    ∀ (cs : List (List Instr)), cs ≠ [] → (∀ c ∈ cs, ExprFrag Γ (B T c) σ (bump σ 1)) →
      ExprFrag Γ (B T (asmBegin cs)) σ (bump σ 1)
  | [], h, _ => absurd rfl h
  | [c], _, hc => by simpa [asmBegin] using hc c (by simp)
  | c :: c' :: rest, _, hc => by
    have h1 := hc c (by simp)
    have hne : c ≠ [] := by
      intro he; subst he
      obtain ⟨m, hl, _, _⟩ := h1
      simp [B] at hl
    have ih := bal_asmBegin Γ T σ hσ (c' :: rest) (by simp) (fun x hx => hc x (by simp [hx]))
    have hpop := efrag_pop Γ σ 0 hσ
    rw [bump_zero] at hpop
    have := efrag_seq (efrag_seq h1 hpop) ih
    simpa [asmBegin, hne, B, toB] using this

theorem bal_asmCond (Γ : Env) (T : List LoopRec) (σ τ : AState) (hσ : σ.wf = true)
    (dflt : List Instr) (hd : ExprFrag Γ (B T dflt) σ τ) :
    ∀ (arms : List (List Instr × List Instr)),
      (∀ a ∈ arms, ExprFrag Γ (B T a.1) σ (bump σ 1) ∧ ExprFrag Γ (B T a.2) σ τ) →
      ExprFrag Γ (B T (asmCond arms dflt)) σ τ
  | [], _ => by simpa [asmCond] using hd
  | (pred, body) :: arms, h => by
    obtain ⟨hp, hb⟩ := h (pred, body) (by simp)
    have ih := bal_asmCond Γ T σ τ hσ dflt hd arms (fun a ha => h a (by simp [ha]))
    have hpop : popPush (bump σ 1) 1 0 = some σ := by
      have := popPush_bump σ 1 1 0 (Nat.le_refl _)
      simpa [bump_zero] using this
    have hbo := efrag_branch_over (Γ := Γ) false hpop (by rw [wf_bump]; exact hσ) hb ih
    have := efrag_seq hp hbo
    simpa [asmCond, B, toB, List.append_assoc] using this

theorem bal_asmSC (Γ : Env) (T : List LoopRec) (isOr : Bool) (σ : AState) (hσ : σ.wf = true) :
    ∀ (cs : List (List Instr)), (∀ c ∈ cs, ExprFrag Γ (B T c) σ (bump σ 1)) →
      ExprFrag Γ (B T (asmSC isOr cs)) σ (bump σ 1)
  | [], _ => efrag_push Γ .push σ hσ rfl
  | [c], hc => by simpa [asmSC] using hc c (by simp)
  | c :: c' :: rest, hc => by
    have h1 := hc c (by simp)
    have ih := bal_asmSC Γ T isOr σ hσ (c' :: rest) (fun x hx => hc x (by simp [hx]))
    -- [dup] : σ+1 → σ+2 ; branch pops → σ+1 ; x = [pop] ++ rest : σ+1 → σ+1
    have hdup := efrag_dup Γ σ 0 hσ
    have hpop := efrag_pop Γ σ 0 hσ
    rw [bump_zero] at hpop
    have hx : ExprFrag Γ ([BInstr.pop] ++ B T (asmSC isOr (c' :: rest))) (bump σ 1) (bump σ 1) :=
      efrag_seq hpop ih
    have hpp : popPush (bump σ 2) 1 0 = some (bump σ 1) := by
      have := popPush_bump σ 2 1 0 (by omega)
      simpa using this
    have hskip := efrag_branch_skip (Γ := Γ) isOr hpp (by rw [wf_bump]; exact hσ) hx
    have he : ((([BInstr.pop] ++ B T (asmSC isOr (c' :: rest))).length : Nat) : Int) + 1
        = ((asmSC isOr (c' :: rest)).length : Int) + 2 := by
      simp only [List.length_append, List.length_cons, List.length_nil, B_length]
      omega
    rw [he] at hskip
    have := efrag_seq (efrag_seq h1 hdup) hskip
    simpa [asmSC, B, toB, List.append_assoc] using this

mutual
/-- Every core form except `for`/`break`/`continue`; bodies of `let` are non-empty (what `elabE` guarantees). `fn`/`defn` are
atoms here: their bodies are other functions. `.bad` is let through: `compile` throws on it, and the theorems speak of
successful runs. `balWalk` over this grammar stands beside `balLWalk` (all forms) for what that one does not give: every
loop table `T`, any well-formed state, no hypothesis on the generator state (`gen_balanced_partial`, `gen_balanced_operand`). -/
def okA : Expr → Bool
  | .int _ => true
  | .bool _ => true
  | .str _ => true
  | .nilLit => true
  | .sym _ => true
  | .arr es => okAs es
  | .call _ _ => true
  | .begin_ es => okAs es
  | .def_ _ e => okA e
  | .set_ _ e => okA e
  | .cond arms d => okArms arms && okA d
  | .and_ es => okAs es
  | .or_ es => okAs es
  | .let_ _ bs body => okBinds bs && !body.isEmpty && okAs body
  | .newScope es => okAs es
  | .for_ _ _ _ _ _ => false
  | .break_ _ => false
  | .continue_ _ => false
  | .fn _ _ _ => true
  | .defn _ _ _ _ => true
  | .assign l r => okA l && okA r
  | .bad _ => true
def okAs : List Expr → Bool
  | [] => true
  | e :: es => okA e && okAs es
def okArms : List (Expr × Expr) → Bool
  | [] => true
  | (p, b) :: r => okA p && okA b && okArms r
def okBinds : List (String × Expr) → Bool
  | [] => true
  | (_, e) :: r => okA e && okBinds r
end

/-- what the induction proves about one piece of generated code: from any well-formed state it
adds exactly `n` operands to the innermost region and leaves everything else as it was -/
def Adds (code : List Instr) (n : Nat) : Prop :=
  ∀ (Γ : Env) (T : List LoopRec) (σ : AState), σ.wf = true → ExprFrag Γ (B T code) σ (bump σ n)

def AddsS (code : List Instr) (n : Nat) : Prop :=
  ∀ (Γ : Env) (T : List LoopRec) (σ : AState), σ.wf = true → SeqFrag Γ (B T code) σ (bump σ n)

theorem adds_push (i : Instr) (h : ∀ T, eff (toB T i) = .simple 0 1) : Adds [i] 1 :=
  fun Γ T σ hσ => by simpa [B] using efrag_push Γ (toB T i) σ hσ (h T)

theorem adds_seq {c1 c2 : List Instr} {n m : Nat} (h1 : Adds c1 n) (h2 : Adds c2 m) : Adds (c1 ++ c2) (n + m) :=
  fun Γ T σ hσ => by
    have a := h1 Γ T σ hσ
    have b := h2 Γ T (bump σ n) (by rw [wf_bump]; exact hσ)
    rw [bump_bump] at b
    simpa [B] using efrag_seq a b

theorem adds_of_S_e {c1 c2 : List Instr} {n m : Nat} (h1 : AddsS c1 n) (h2 : Adds c2 m) : Adds (c1 ++ c2) (n + m) :=
  fun Γ T σ hσ => by
    have a := h1 Γ T σ hσ
    have b := h2 Γ T (bump σ n) (by rw [wf_bump]; exact hσ)
    rw [bump_bump] at b
    simpa [B] using sfrag_seq_e a b

/-- the `popStackPutEnv`s of a function's prologue or of a parallel `let`, last name first -/
theorem popParams (Γ : Env) (T : List LoopRec) :
    ∀ (ps : List String) (σ : AState), σ.wf = true →
      SeqFrag Γ (B T ((ps.map Instr.popStackPutEnv).reverse)) (bump σ ps.length) σ
  | [], σ, _ => by simpa [B, bump_zero] using sfrag_nil Γ σ
  | x :: ps, σ, hσ => by
    have ih := popParams Γ T ps (bump σ 1) (by rw [wf_bump]; exact hσ)
    rw [bump_bump] at ih
    have p := efrag_simple Γ (toB T (.popStackPutEnv x)) σ 1 1 0 hσ rfl (Nat.le_refl _)
    rw [Nat.sub_self, Nat.zero_add, bump_zero] at p
    have := sfrag_seq ih (sfrag_of_e p)
    have hl : (x :: ps).length = 1 + ps.length := by simp [Nat.add_comm]
    rw [hl]
    simpa [B] using this

/-! ## The forms of the generator, as fragments: one lemma per way the generator assembles code
from the code of sub-expressions -/

section Forms
variable {Γ : Env} {T : List LoopRec} {σ : AState}

/-- `def` / `set`: the value is duplicated, one copy stored -/
theorem efrag_store {c : List Instr} (i : Instr) (he : eff (toB T i) = .simple 1 0) (hσ : σ.wf = true)
    (a : ExprFrag Γ (B T c) σ (bump σ 1)) : ExprFrag Γ (B T (c ++ [.dup, i])) σ (bump σ 1) := by
  have d := efrag_dup Γ σ 0 hσ
  have p := efrag_simple Γ (toB T i) σ 2 1 0 hσ he (by omega)
  have h := efrag_seq (efrag_seq a d) p
  rw [List.append_assoc] at h
  have hc : B T (c ++ [.dup, i]) = B T c ++ ([BInstr.dup] ++ [toB T i]) := List.map_append
  rw [hc]
  exact h

theorem efrag_arr {c : List Instr} {n : Nat} (hσ : σ.wf = true) (a : SeqFrag Γ (B T c) σ (bump σ n)) :
    ExprFrag Γ (B T (c ++ [.callArr n])) σ (bump σ 1) := by
  have p := efrag_simple Γ (.call n) σ n n 1 hσ rfl (Nat.le_refl _)
  rw [Nat.sub_self, Nat.zero_add] at p
  simpa [B, toB] using sfrag_seq_e a p

theorem efrag_assign {a b : List Instr} (hσ : σ.wf = true) (x : ExprFrag Γ (B T a) σ (bump σ 1))
    (y : ExprFrag Γ (B T b) (bump σ 1) (bump (bump σ 1) 1)) : ExprFrag Γ (B T (a ++ b ++ [.assign])) σ (bump σ 1) := by
  rw [bump_bump] at y
  have z := efrag_simple Γ .assign σ 2 2 1 hσ rfl (Nat.le_refl _)
  simpa [B, toB] using efrag_seq (efrag_seq x y) z

/-- `defn`: the closure is bound to the name, the form yields nil -/
theorem efrag_defn (t : Nat) (name : String) (hσ : σ.wf = true) :
    ExprFrag Γ (B T [.createClosure t, .popStackPutEnv name, .push .nil]) σ (bump σ 1) := by
  have a := efrag_push Γ .createClosure σ hσ rfl
  have p := efrag_simple Γ .popStackPutEnv σ 1 1 0 hσ rfl (Nat.le_refl _)
  rw [Nat.sub_self, Nat.zero_add, bump_zero] at p
  simpa [B, toB] using efrag_seq (efrag_seq a p) (efrag_push Γ .push σ hσ rfl)

theorem efrag_scope {c : List Instr} (hσ : σ.wf = true) (body : ExprFrag Γ (B T c) (deeper σ 1) (bump (deeper σ 1) 1)) :
    ExprFrag Γ (B T ([.addScope] ++ c ++ [.removeScope])) σ (bump σ 1) := by
  have up := efrag_scopeUp Γ .addScope σ hσ rfl
  have down := efrag_scopeDown Γ (bump σ 1) (by rw [wf_bump]; exact hσ)
  rw [← bump_deeper] at down
  simpa [B, toB, List.append_assoc] using efrag_seq (efrag_seq up body) down

/-- `let`: in the new scope the initialisers (bound one by one when sequential, all at the end
when parallel), then the body -/
theorem efrag_let {seq : Bool} {bs : List (String × Expr)} {rhs b : List Instr} (hσ : σ.wf = true)
    (r : SeqFrag Γ (B T rhs) (deeper σ 1) (bump (deeper σ 1) (if seq then 0 else bs.length)))
    (body : ExprFrag Γ (B T b) (deeper σ 1) (bump (deeper σ 1) 1)) :
    ExprFrag Γ (B T ([.addScope] ++ rhs ++ (if seq then [] else (bs.map (fun p => Instr.popStackPutEnv p.1)).reverse) ++ b ++
      [.removeScope])) σ (bump σ 1) := by
  have hσ' : (deeper σ 1).wf = true := by rw [wf_deeper]; exact hσ
  have inner : ExprFrag Γ (B T (rhs ++ (if seq then [] else (bs.map (fun p => Instr.popStackPutEnv p.1)).reverse) ++ b))
      (deeper σ 1) (bump (deeper σ 1) 1) := by
    cases seq with
    | true =>
      simp only [if_true, bump_zero] at r
      simpa [B] using sfrag_seq_e r body
    | false =>
      simp only [Bool.false_eq_true, if_false] at r
      have pb : SeqFrag Γ (B T ((bs.map (fun p => Instr.popStackPutEnv p.1)).reverse)) (bump (deeper σ 1) bs.length) (deeper σ 1) := by
        simpa [List.map_map, Function.comp_def] using popParams Γ T (bs.map (·.1)) (deeper σ 1) hσ'
      simpa [B] using sfrag_seq_e (sfrag_seq r pb) body
  simpa [List.append_assoc] using efrag_scope hσ inner

/-- two statements of a `begin` (a `pop` between them if the first produced code) or of a
`newScope` body (always a `pop`) -/
theorem efrag_stmts {a b : List Instr} (hσ : σ.wf = true) (x : ExprFrag Γ (B T a) σ (bump σ 1))
    (y : ExprFrag Γ (B T b) σ (bump σ 1)) :
    ExprFrag Γ (B T (a ++ (if a.isEmpty then [] else [.pop]) ++ b)) σ (bump σ 1) ∧
    ExprFrag Γ (B T (a ++ [.pop] ++ b)) σ (bump σ 1) := by
  have hne : a ≠ [] := by
    rintro rfl
    obtain ⟨m, hl, _, _⟩ := x
    simp [B] at hl
  have hpop := efrag_pop Γ σ 0 hσ
  rw [bump_zero] at hpop
  have := efrag_seq (efrag_seq x hpop) y
  constructor <;> simpa [B, toB, hne] using this

theorem sfrag_nil' : SeqFrag Γ (B T []) σ (bump σ 0) := by
  rw [bump_zero]; exact sfrag_nil Γ σ

theorem sfrag_cons {a b : List Instr} {n : Nat} (x : ExprFrag Γ (B T a) σ (bump σ 1))
    (y : SeqFrag Γ (B T b) (bump σ 1) (bump (bump σ 1) n)) : SeqFrag Γ (B T (a ++ b)) σ (bump σ (n + 1)) := by
  rw [bump_bump, Nat.add_comm] at y
  simpa [B] using sfrag_seq (sfrag_of_e x) y

theorem sfrag_bind {a b : List Instr} (x : String) (hσ : σ.wf = true) (h : ExprFrag Γ (B T a) σ (bump σ 1))
    (y : SeqFrag Γ (B T b) σ (bump σ 0)) : SeqFrag Γ (B T (a ++ [.popStackPutEnv x] ++ b)) σ (bump σ 0) := by
  have p := efrag_simple Γ .popStackPutEnv σ 1 1 0 hσ rfl (Nat.le_refl _)
  rw [Nat.sub_self, Nat.zero_add, bump_zero] at p
  rw [bump_zero] at y ⊢
  simpa [B, toB, List.append_assoc] using sfrag_seq (sfrag_of_e (efrag_seq h p)) y

end Forms

/-- the forms without loops, compiled with the tail flag off, add one operand from any well-formed state: as a walk -/
@[reducible] def balWalk (isFn : Nat → Bool) : GenWalk isFn where
  E c e _ a t _ := c.tail = false → okA e = true → t = false ∧ Adds a 1
  A c es _ a t _ := c.tail = false → okAs es = true → t = false ∧ AddsS a es.length
  C _ _ _ _ _ _ _ := True
  B c es _ a t _ := c.tail = false → okAs es = true → es ≠ [] → t = false ∧ Adds a 1
  R c arms _ as _ := c.tail = false → okArms arms = true → ∀ a ∈ as, Adds a.1 1 ∧ Adds a.2 1
  S c es _ cs _ := c.tail = false → okAs es = true → ∀ x ∈ cs, Adds x 1
  L c seq bs _ a t _ := c.tail = false → okBinds bs = true → t = false ∧ AddsS a (if seq then 0 else bs.length)
  N c ot es _ a t _ := c.tail = false → ot = false → okAs es = true → es ≠ [] → t = false ∧ Adds a 1
  int _ hc _ := ⟨hc, adds_push _ (fun _ => rfl)⟩
  bool _ hc _ := ⟨hc, adds_push _ (fun _ => rfl)⟩
  str _ hc _ := ⟨hc, adds_push _ (fun _ => rfl)⟩
  nil hc _ := ⟨hc, adds_push _ (fun _ => rfl)⟩
  sym _ hc _ := ⟨hc, adds_push _ (fun _ => rfl)⟩
  arr _ ih hc hok := ⟨hc, fun Γ T σ hσ => efrag_arr hσ ((ih rfl hok).2 Γ T σ hσ)⟩
  call _ _ hc _ := ⟨hc, adds_push _ (fun _ => rfl)⟩
  selfCall _ htail _ _ _ _ hc _ := by rw [hc] at htail; cases htail
  beginNil hc _ := ⟨hc, adds_push _ (fun _ => rfl)⟩
  begin_ _ ih hc hok := ih hc hok (by simp)
  def_ _ _ ih _ hok := ⟨rfl, fun Γ T σ hσ => efrag_store _ rfl hσ ((ih rfl hok).2 Γ T σ hσ)⟩
  set_ _ _ ih _ hok := ⟨rfl, fun Γ T σ hσ => efrag_store _ rfl hσ ((ih rfl hok).2 Γ T σ hσ)⟩
  cond _ ihd _ iha hc hok :=
    have hok := Bool.and_eq_true_iff.mp hok
    ⟨hc, fun Γ T σ hσ => bal_asmCond Γ T σ (bump σ 1) hσ _ ((ihd hc hok.2).2 Γ T σ hσ) _
      (fun a ha => ⟨(iha hc hok.1 a ha).1 Γ T σ hσ, (iha hc hok.1 a ha).2 Γ T σ hσ⟩)⟩
  and_ _ ih hc hok := ⟨hc, fun Γ T σ hσ => bal_asmSC Γ T false σ hσ _ (fun y hy => ih hc hok y hy Γ T σ hσ)⟩
  or_ _ ih hc hok := ⟨hc, fun Γ T σ hσ => bal_asmSC Γ T true σ hσ _ (fun y hy => ih hc hok y hy Γ T σ hσ)⟩
  let_ _ _ _ ihr _ ihb hc hok := by
    simp only [okA, Bool.and_eq_true, Bool.not_eq_true', List.isEmpty_eq_false_iff] at hok
    obtain ⟨ht, ihb⟩ := ihb hc hok.2 hok.1.2
    exact ⟨ht, fun Γ T σ hσ =>
      have hσ' : (deeper σ 1).wf = true := by rw [wf_deeper]; exact hσ
      efrag_let hσ ((ihr rfl hok.1.1).2 Γ T _ hσ') (ihb Γ T _ hσ')⟩
  newScopeNil _ _ := ⟨rfl, adds_push _ (fun _ => rfl)⟩
  newScope _ ih hc hok :=
    ⟨(ih hc hc hok (by simp)).1, fun Γ T σ hσ => efrag_scope hσ ((ih hc hc hok (by simp)).2 Γ T _ (by rw [wf_deeper]; exact hσ))⟩
  for_ _ _ _ _ _ _ _ _ _ _ _ _ hok := nomatch hok
  break_ _ _ hok := nomatch hok
  continue_ _ _ hok := nomatch hok
  fn _ _ _ _ _ _ hc _ := ⟨hc, adds_push _ (fun _ => rfl)⟩
  defn _ _ name _ _ _ _ hc _ := ⟨hc, fun Γ T σ hσ => efrag_defn _ name hσ⟩
  assign _ iha _ ihb _ hok :=
    have hok := Bool.and_eq_true_iff.mp hok
    ⟨rfl, fun Γ T σ hσ => efrag_assign hσ ((iha rfl hok.1).2 Γ T σ hσ) ((ihb rfl hok.2).2 Γ T _ (by rw [wf_bump]; exact hσ))⟩
  allNil hc _ := ⟨hc, fun Γ T σ _ => sfrag_nil'⟩
  allCons _ iha _ ihb hc hok :=
    have hok := Bool.and_eq_true_iff.mp hok
    have ha := iha hc hok.1
    have hb := ihb ha.1 hok.2
    ⟨hb.1, fun Γ T σ hσ => sfrag_cons (ha.2 Γ T σ hσ) (hb.2 Γ T _ (by rw [wf_bump]; exact hσ))⟩
  argsNil := trivial
  argsLazy _ _ _ := trivial
  argsCons _ _ _ _ := trivial
  beginNilL _ _ hne := absurd rfl hne
  beginOne _ ih hc hok _ := ih hc (Bool.and_eq_true_iff.mp hok).1
  beginCons _ _ iha _ ihb hc hok _ :=
    have hok := Bool.and_eq_true_iff.mp hok
    have hb := ihb hc hok.2 (by simp)
    ⟨hb.1, fun Γ T σ hσ => (efrag_stmts hσ ((iha rfl hok.1).2 Γ T σ hσ) (hb.2 Γ T σ hσ)).1⟩
  armsNil _ _ _ ha := nomatch ha
  armsCons _ ihr _ ihp _ ihb hc hok a ha := by
    have hok := Bool.and_eq_true_iff.mp hok
    have hok1 := Bool.and_eq_true_iff.mp hok.1
    rcases List.mem_cons.mp ha with rfl | ha
    · exact ⟨(ihp rfl hok1.1).2, (ihb hc hok1.2).2⟩
    · exact ihr hc hok.2 a ha
  scNil _ _ _ hx := nomatch hx
  scOne _ ih hc hok x hx := by
    rw [List.mem_singleton.mp hx]; exact (ih hc (Bool.and_eq_true_iff.mp hok).1).2
  scCons _ ihr _ iha hc hok x hx := by
    have hok := Bool.and_eq_true_iff.mp hok
    rcases List.mem_cons.mp hx with rfl | hx
    · exact (iha rfl hok.1).2
    · exact ihr hc hok.2 x hx
  bindsNil hc _ := ⟨hc, fun Γ T σ _ => by simp only [List.length_nil, ite_self]; exact sfrag_nil'⟩
  bindsCons seq x _ iha _ ihb hc hok := by
    have hok := Bool.and_eq_true_iff.mp hok
    have ha := iha hc hok.1
    have hb := ihb ha.1 hok.2
    refine ⟨hb.1, fun Γ T σ hσ => ?_⟩
    cases seq with
    | true => exact sfrag_bind x hσ (ha.2 Γ T σ hσ) (hb.2 Γ T σ hσ)
    | false => simpa using sfrag_cons (ha.2 Γ T σ hσ) (hb.2 Γ T _ (by rw [wf_bump]; exact hσ))
  nsNil _ _ _ hne := absurd rfl hne
  nsOne _ ih _ ho hok _ := ih ho (Bool.and_eq_true_iff.mp hok).1
  nsCons _ iha _ ihb hc ho hok _ :=
    have hok := Bool.and_eq_true_iff.mp hok
    have hb := ihb hc ho hok.2 (by simp)
    ⟨hb.1, fun Γ T σ hσ => (efrag_stmts hσ ((iha rfl hok.1).2 Γ T σ hσ) (hb.2 Γ T σ hσ)).2⟩

theorem bal_compile (isFn : Nat → Bool) : ∀ (e : Expr) (c : Ctx) (gs : GS) (code : List Instr) (t : Bool) (gs' : GS),
    c.tail = false → okA e = true → compile isFn c e gs = Except.ok ((code, t), gs') →
    t = false ∧ Adds code 1 :=
  fun e _ _ _ _ _ hc hok h => (balWalk isFn).of_compile e h hc hok

theorem bal_compileAll (isFn : Nat → Bool) : ∀ (es : List Expr) (c : Ctx) (gs : GS) (code : List Instr) (t : Bool) (gs' : GS),
    c.tail = false → okAs es = true → compileAll isFn c es gs = Except.ok ((code, t), gs') →
    t = false ∧ AddsS code es.length :=
  fun es _ _ _ _ _ hc hok h => (balWalk isFn).of_compileAll es h hc hok

theorem bal_compileBegin (isFn : Nat → Bool) : ∀ (es : List Expr) (c : Ctx) (gs : GS) (code : List Instr) (t : Bool) (gs' : GS),
    c.tail = false → okAs es = true → es ≠ [] → compileBegin isFn c es gs = Except.ok ((code, t), gs') →
    t = false ∧ Adds code 1 :=
  fun es _ _ _ _ _ hc hok hne h => (balWalk isFn).of_compileBegin es h hc hok hne

theorem bal_compileArms (isFn : Nat → Bool) : ∀ (arms : List (Expr × Expr)) (c : Ctx) (gs : GS)
    (as : List (List Instr × List Instr)) (gs' : GS),
    c.tail = false → okArms arms = true → compileArms isFn c arms gs = Except.ok (as, gs') →
    ∀ a ∈ as, Adds a.1 1 ∧ Adds a.2 1 :=
  fun arms _ _ _ _ hc hok h => (balWalk isFn).of_compileArms arms h hc hok

theorem bal_compileSC (isFn : Nat → Bool) : ∀ (es : List Expr) (c : Ctx) (gs : GS) (cs : List (List Instr)) (gs' : GS),
    c.tail = false → okAs es = true → compileSC isFn c es gs = Except.ok (cs, gs') →
    ∀ x ∈ cs, Adds x 1 :=
  fun es _ _ _ _ hc hok h => (balWalk isFn).of_compileSC es h hc hok

theorem bal_compileBinds (isFn : Nat → Bool) : ∀ (bs : List (String × Expr)) (c : Ctx) (seq : Bool) (gs : GS)
    (code : List Instr) (t : Bool) (gs' : GS),
    c.tail = false → okBinds bs = true → compileBinds isFn c seq bs gs = Except.ok ((code, t), gs') →
    t = false ∧ AddsS code (if seq then 0 else bs.length) :=
  fun bs _ _ _ _ _ _ hc hok h => (balWalk isFn).of_compileBinds bs h hc hok

theorem bal_compileNewScope (isFn : Nat → Bool) : ∀ (es : List Expr) (c : Ctx) (oldtail : Bool) (gs : GS)
    (code : List Instr) (t : Bool) (gs' : GS),
    c.tail = false → oldtail = false → okAs es = true → es ≠ [] →
    compileNewScope isFn c oldtail es gs = Except.ok ((code, t), gs') → t = false ∧ Adds code 1 :=
  fun es _ _ _ _ _ _ hc ho hok hne h => (balWalk isFn).of_compileNewScope es h hc ho hok hne

def restState : AState := { k := 0, frames := [], base := 0 }

theorem annAt_map_some (as : List AState) (i : Nat) : annAt (as.map some) i = as[i]? := by
  unfold annAt
  rw [List.getElem?_map]
  cases as[i]? <;> rfl

theorem annAt_append_none (as : List AState) (i : Nat) (hi : i < as.length) :
    annAt (as.map some ++ [none]) i = as[i]? := by
  unfold annAt
  rw [List.getElem?_append_left (by simpa using hi), List.getElem?_map]
  cases as[i]? <;> rfl

/-- one value, no open region, no open scope: what `ret` demands -/
def retState : AState := ⟨0, [], 1⟩

/-- a fragment from the entry state to "one value, no scope", followed by `ret`, is a verified
function (closure body or helper) -/
theorem verify_of_frag_ret (Γ : Env) (F : Fn) (code : List BInstr) (mid : List AState)
    (hF : F.code = code ++ [.ret false])
    (h : FragOK Γ code (F.entry :: mid ++ [retState]))
    (henv : EnvOK Γ F ((F.entry :: mid ++ [retState]).map some ++ [none])) :
    verify F ((F.entry :: mid ++ [retState]).map some ++ [none]) = true := by
  obtain ⟨hl, hw, hkk⟩ := h
  have hlen : mid.length + 1 = code.length := by simp at hl; omega
  unfold verify
  simp only [Bool.and_eq_true]
  refine ⟨⟨⟨?_, ?_⟩, ?_⟩, ?_⟩
  · rw [hF]; simp; omega
  · have h0 : annAt ((F.entry :: mid ++ [retState]).map some ++ [none]) 0 = some F.entry := by
      rw [annAt_append_none _ 0 (by simp)]; rfl
    unfold succOk
    simp only [h0]
    exact le_refl _
  · apply List.all_eq_true.mpr
    intro pc hpc
    have hpc' := List.mem_range.mp hpc
    rw [hF] at hpc'
    simp only [List.length_append, List.length_cons, List.length_nil] at hpc'
    rcases Nat.lt_or_ge pc code.length with hlt | hge
    · have := hkk F ((F.entry :: mid ++ [retState]).map some ++ [none]) 0
        ⟨fun i hi => by rw [hF]; simp [List.getElem?_append_left hi],
         fun i hi => by rw [Nat.zero_add]; exact annAt_append_none _ i hi⟩
        henv pc hlt
      simpa using this
    · have hpe : pc = code.length := by omega
      subst hpe
      have hlast : annAt ((F.entry :: mid ++ [retState]).map some ++ [none]) code.length
          = some retState := by
        rw [annAt_append_none _ _ (by simp at hl ⊢; omega), ← hlen]
        have : (F.entry :: (mid ++ [retState]))[mid.length + 1]? = some retState := by
          rw [List.getElem?_cons_succ, List.getElem?_append_right (Nat.le_refl _)]
          simp
        simpa using this
      exact (okAt_iff (i := .ret false) hlast (by rw [hF]; simp)).mpr
        ⟨by simp [retState, AState.wf, openMarks], [], by simp [astep, eff, retState], .nil⟩
  · unfold endOk
    have hnone : annAt ((F.entry :: mid ++ [retState]).map some ++ [none]) F.code.length = none := by
      unfold annAt
      have : (List.map some (F.entry :: mid ++ [retState]) ++ [none])[F.code.length]? = some none := by
        have hidx : F.code.length = (List.map some (F.entry :: mid ++ [retState])).length := by
          rw [hF]; simp; omega
        rw [hidx, List.getElem?_append_right (Nat.le_refl _)]
        simp
      rw [this]; rfl
    simp only [hnone]

theorem verify_of_frag_top (Γ : Env) (code : List BInstr) (mid : List AState)
    (h : FragOK Γ code (restState :: mid ++ [bump restState 1]))
    (henv : EnvOK Γ { kind := .top, code := code } ((restState :: mid ++ [bump restState 1]).map some)) :
    verify { kind := .top, code := code } ((restState :: mid ++ [bump restState 1]).map some) = true := by
  obtain ⟨hl, hw, hk⟩ := h
  have hlen : mid.length + 1 = code.length := by simp at hl; omega
  unfold verify
  simp only [Bool.and_eq_true]
  refine ⟨⟨⟨?_, ?_⟩, ?_⟩, ?_⟩
  · simp; omega
  · have h0 : annAt ((restState :: mid ++ [bump restState 1]).map some) 0 = some restState := by
      rw [annAt_map_some]; rfl
    unfold succOk
    simp only [h0]
    exact le_refl restState
  · apply List.all_eq_true.mpr
    intro pc hpc
    have hpc' := List.mem_range.mp hpc
    have := hk { kind := .top, code := code } ((restState :: mid ++ [bump restState 1]).map some) 0
      ⟨fun i _ => by simp, fun i _ => by rw [Nat.zero_add]; exact annAt_map_some _ i⟩
      henv pc hpc'
    simpa using this
  · unfold endOk
    have hlast : annAt ((restState :: mid ++ [bump restState 1]).map some) code.length = some (bump restState 1) := by
      rw [annAt_map_some, ← hlen]
      have : (restState :: (mid ++ [bump restState 1]))[mid.length + 1]? = some (bump restState 1) := by
        rw [List.getElem?_cons_succ, List.getElem?_append_right (Nat.le_refl _)]
        simp
      simpa using this
    simp only [hlast]
    simp [bump, restState]

theorem verify_top_of_frag (code : List BInstr) (mid : List AState)
    (h : FragOK {} code (restState :: mid ++ [bump restState 1])) :
    verify { kind := .top, code := code } ((restState :: mid ++ [bump restState 1]).map some) = true :=
  verify_of_frag_top {} code mid h ⟨trivial, fun i hi => by cases hi⟩

/-- a helper function (`callExprEval`, `lazyArgForce`): entered with nothing, it returns one value -/
theorem verify_thunk_of_frag (code : List BInstr) (mid : List AState)
    (h : FragOK {} code (restState :: mid ++ [bump restState 1])) :
    verify { kind := .thunk, code := code ++ [.ret false] }
      ((restState :: mid ++ [bump restState 1]).map some ++ [none]) = true :=
  verify_of_frag_ret {} { kind := .thunk, code := code ++ [.ret false] } code mid rfl h ⟨trivial, fun i hi => by cases hi⟩

end ZygoVerif.Bal
