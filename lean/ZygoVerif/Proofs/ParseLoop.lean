/-
The reading loops of the parser model. `ParserPeekNextToken`/`peekAfterSign` (`peekWaitRun`) and the top level's
`GetNextToken` (`topGetRun`) are one loop, `waitRun`: they differ in the answer recorded when the next piece is delivered
and in what is made of the outcome (`peekWaitRun_eq`, `topGetRun_eq`); on views, `topGetA` is `peekWaitA false 0` with the
head token taken (`topGetA_eq`). A round of the loop is what the lexer makes of it (`lexRound`, `lexRound_spec`) and, when
the lexer has read everything it was given, the delivery of the next piece. `View` forgets how the runes not yet read are
distributed over the current stream, the queued streams and the pieces still to come; `wait_sim`: the loop on the concrete
state, seen through `view`, is the loop on the view.
-/
import ZygoVerif.Model.Parser
namespace ZygoVerif.Parser
open ZygoVerif.Lexer

structure View where
  core : LexCore
  runes : List Char
  exprs : List Sexp
  fin : Bool          -- once `runes` are used up the end of the input has been signalled (`EndInput`)

/-- whether `EndInput` will have been called when the runes of the state are used up: the
lexer's mark when every piece has been delivered, otherwise what the last piece brings -/
def PState.willFinish (s : PState) : Bool := if s.fut.isEmpty then s.lex.finished else s.eof

def view (s : PState) : View := ⟨s.lex.toLexCore, s.runes, s.exprs, s.willFinish⟩

inductive PeekOutA where
  | tok (t : Token) (v : View)
  | stop (st : Status) (v : View)

def headIf (extra : Nat) (c : LexCore) : Option Token :=
  if extra < c.tokens.length then c.tokens.head? else none

/-- `ParserPeekNextToken` (`orEnd`: `peekAfterSign`) on a view: lex runes until enough tokens
are queued. -/
def peekWaitA (orEnd : Bool) (extra : Nat) (ex : List Sexp) (fin : Bool) : List Char → LexCore → PeekOutA
  | [], c =>
    match headIf extra c with
    | some t => .tok t ⟨c, [], ex, fin⟩
    | none => if orEnd && fin then .tok Token.endTk ⟨c, [], ex, fin⟩ else .stop .more ⟨c, [], ex, fin⟩
  | r :: rs, c =>
    match headIf extra c with
    | some t => .tok t ⟨c, r :: rs, ex, fin⟩
    | none =>
      match step c r with
      | .ok c' => peekWaitA orEnd extra ex fin rs c'
      | .err _ c' => .stop .err ⟨c', rs, ex, fin⟩

inductive TopOutA where
  | tok (t : Token) (v : View)
  | finished (st : Status) (v : View)

def topGetA (ex : List Sexp) (fin : Bool) : List Char → LexCore → TopOutA
  | [], c =>
    match c.tokens with
    | t :: ts => .tok t ⟨{ c with tokens := ts }, [], ex, fin⟩
    | [] => .finished (if inLiteral c then .more else .done) ⟨c, [], ex, fin⟩
  | r :: rs, c =>
    match c.tokens with
    | t :: ts => .tok t ⟨{ c with tokens := ts }, r :: rs, ex, fin⟩
    | [] =>
      match step c r with
      | .ok c' => topGetA ex fin rs c'
      | .err _ c' => .finished .err ⟨c', rs, ex, fin⟩

/-- the lexer always has a current stream while a text is being parsed -/
def Inv (s : PState) : Prop := s.lex.stream.isSome = true

theorem readRune_some (l : LexState) (fuel : Nat) (c : Char) (l' : LexState)
    (h : readRune l fuel = some (c, l')) :
    l.pending = c :: l'.pending ∧ l'.toLexCore = l.toLexCore ∧ l'.stream.isSome = true ∧
      l'.next.length ≤ l.next.length ∧ l'.finished = l.finished := by
  induction fuel generalizing l with
  | zero => simp [readRune] at h
  | succ n ih =>
    unfold readRune at h
    split at h
    · rename_i c0 rest hs
      simp only [Option.some.injEq, Prod.mk.injEq] at h
      obtain ⟨rfl, rfl⟩ := h
      simp [LexState.pending, hs]
    · rename_i hns
      cases hp : l.promote with
      | none => simp [hp] at h
      | some lp =>
        simp only [hp] at h
        have := ih lp h
        unfold LexState.promote at hp
        cases hn : l.next with
        | nil => simp [hn] at hp
        | cons n0 rest =>
          simp only [hn, Option.some.injEq] at hp
          subst hp
          obtain ⟨h1, h2, h3, h4, h5⟩ := this
          have hstream : l.stream.getD [] = [] := by
            cases hst : l.stream with
            | none => rfl
            | some st =>
              cases st with
              | nil => rfl
              | cons a b => exact absurd hst (hns a b)
          refine ⟨?_, ?_, h3, ?_, ?_⟩
          · simp only [LexState.pending, hstream, hn, List.flatten_cons, List.nil_append]
            simpa [LexState.pending] using h1
          · simpa using h2
          · simp only [List.length_cons]
            simp at h4
            omega
          · simpa using h5

theorem readRune_none (l : LexState) (fuel : Nat) (hf : l.next.length < fuel)
    (h : readRune l fuel = none) : l.pending = [] := by
  induction fuel generalizing l with
  | zero => omega
  | succ n ih =>
    unfold readRune at h
    split at h
    · simp at h
    · rename_i hns
      have hstream : l.stream.getD [] = [] := by
        cases hst : l.stream with
        | none => rfl
        | some st =>
          cases st with
          | nil => rfl
          | cons a b => exact absurd hst (hns a b)
      cases hn : l.next with
      | nil => simp [LexState.pending, hstream, hn]
      | cons n0 rest =>
        have hp : l.promote = some { l with stream := some n0, next := rest } := by
          simp [LexState.promote, hn]
        simp only [hp] at h
        have := ih { l with stream := some n0, next := rest } (by simp [hn] at hf ⊢; omega) h
        simp only [LexState.pending, hstream, hn, List.flatten_cons, List.nil_append]
        simpa [LexState.pending] using this

theorem step_fields (l : LexState) (c : Char) :
    (∀ l', l.step c = .ok l' → Lexer.step l.toLexCore c = .ok l'.toLexCore ∧ l'.stream = l.stream ∧ l'.next = l.next ∧ l'.finished = l.finished) ∧
    (∀ e l', l.step c = .err e l' → Lexer.step l.toLexCore c = .err e l'.toLexCore ∧ l'.stream = l.stream ∧ l'.next = l.next ∧ l'.finished = l.finished) := by
  unfold LexState.step
  cases h : Lexer.step l.toLexCore c with
  | ok c' => simp
  | err e c' => simp

/-- `NewInput`/`EndInput` on a lexer that has read everything it was given: the piece is what it has
to read, the core is untouched, the end-of-input mark is off -/
theorem addNextStream_drained (l : LexState) (p : List Char) (hp : l.pending = []) :
    (l.addNextStream p).pending = p ∧ (l.addNextStream p).toLexCore = l.toLexCore ∧
      (l.addNextStream p).stream.isSome = true ∧ (l.addNextStream p).finished = false ∧
      (l.stream.isSome = true → (l.addNextStream p).next.length = l.next.length) := by
  have hn : l.stream.getD [] = [] ∧ l.next.flatten = [] := by
    cases hst : l.stream <;> simpa [LexState.pending, hst] using hp
  obtain ⟨hs, hn⟩ := hn
  cases hst : l.stream <;> cases hnx : l.next <;> rw [hst] at hs <;> rw [hnx] at hn <;>
    simp only [Option.getD_some, Option.getD_none, List.flatten_cons, List.append_eq_nil_iff] at hs hn <;>
    simp [LexState.addNextStream, LexState.promote, hst, hnx, LexState.pending, hs, hn]

theorem deliver_drained (s : PState) (p : List Char) (fut : List (List Char)) (st : Status)
    (hi : s.lex.stream.isSome = true) (hp : s.lex.pending = []) (hfut : s.fut = p :: fut) :
    (s.deliver p fut st).lex.pending = p ∧ (s.deliver p fut st).lex.toLexCore = s.lex.toLexCore ∧
      (s.deliver p fut st).lex.stream.isSome = true ∧ (s.deliver p fut st).lex.next.length = s.lex.next.length ∧
      (s.deliver p fut st).willFinish = s.willFinish ∧ (s.deliver p fut st).fut = fut ∧
      (s.deliver p fut st).exprs = s.exprs := by
  obtain ⟨a1, a2, a3, _, a4⟩ := addNextStream_drained s.lex p hp
  have a4 := a4 hi
  refine ⟨?_, a2, a3, a4, ?_, rfl, rfl⟩
  · simpa [PState.deliver, LexState.pending] using a1
  · cases fut <;> simp [PState.deliver, PState.willFinish, hfut]

def PeekOut.toA : PeekOut → PeekOutA
  | .tok t s => .tok t (view s)
  | .stop st s => .stop st (view s)

def PeekOut.inv : PeekOut → Prop
  | .tok _ s => Inv s
  | .stop _ s => Inv s

theorem runes_of_pending (s : PState) : s.runes = s.lex.pending ++ s.fut.flatten := rfl

theorem peekWaitA_headIf (b : Bool) (extra : Nat) (ex : List Sexp) (fin : Bool) (rs : List Char) (c : LexCore) (t : Token)
    (h : headIf extra c = some t) : peekWaitA b extra ex fin rs c = .tok t ⟨c, rs, ex, fin⟩ := by
  cases rs <;> simp [peekWaitA, h]

theorem willFinish_lex (s : PState) (l' : LexState) (h : l'.finished = s.lex.finished) :
    ({ s with lex := l' } : PState).willFinish = s.willFinish := by
  simp [PState.willFinish, h]

theorem size_deliver (s : PState) (p : List Char) (fut : List (List Char)) (st : Status)
    (hi : Inv s) (hp : s.lex.pending = []) (hfut : s.fut = p :: fut) :
    (s.deliver p fut st).size < s.size ∧ Inv (s.deliver p fut st) := by
  obtain ⟨a1, a2, a3, a4, a5, a6, a7⟩ := deliver_drained s p fut st hi hp hfut
  have hrunes : s.runes = p ++ fut.flatten := by simp [runes_of_pending, hp, hfut]
  have h0 : s.size = (p ++ fut.flatten).length + s.lex.next.length + (fut.length + 1) := by
    simp [PState.size, hrunes, hfut]
  have h1 : (s.deliver p fut st).size = (p ++ fut.flatten).length + s.lex.next.length + fut.length := by
    simp [PState.size, runes_of_pending, a1, a4, a6]
  exact ⟨by omega, a3⟩

/-- the top level's wait is `ParserPeekNextToken(0)` with the head token taken and the end of the input an answer -/
def PeekOutA.toTop : PeekOutA → TopOutA
  | .tok t v => .tok t { v with core := { v.core with tokens := v.core.tokens.tail } }
  | .stop .more v => .finished (if inLiteral v.core then .more else .done) v
  | .stop st v => .finished st v

theorem topGetA_eq (ex : List Sexp) (fin : Bool) (rs : List Char) (c : LexCore) :
    topGetA ex fin rs c = (peekWaitA false 0 ex fin rs c).toTop := by
  induction rs generalizing c with
  | nil => cases h : c.tokens <;> simp [topGetA, peekWaitA, headIf, h, PeekOutA.toTop]
  | cons r rs ih =>
    cases h : c.tokens with
    | nil =>
      simp only [topGetA, peekWaitA, headIf, h, List.length_nil, Nat.lt_irrefl, ↓reduceIte]
      cases step c r with
      | ok c' => exact ih c'
      | err e c' => rfl
    | cons t ts => simp [topGetA, peekWaitA, headIf, h, PeekOutA.toTop]

/-- what the lexer makes of one round of a loop that waits for `extra + 1` tokens -/
inductive Round where
  /-- the tokens are queued -/
  | tok (t : Token)
  /-- a rune was read and lexed -/
  | read (l : LexState)
  /-- a rune was read and refused -/
  | refused (l : LexState)
  /-- the lexer has read everything it was given -/
  | drained

def lexRound (extra : Nat) (l : LexState) : Round :=
  if l.stream.isNone && l.next.isEmpty then .drained else
  match (if extra < l.tokens.length then l.tokens.head? else none) with
  | some t => .tok t
  | none =>
    match readRune l (l.next.length + 1) with
    | some (c, l1) =>
      (match l1.step c with
       | .ok l' => .read l'
       | .err _ l' => .refused l')
    | none => .drained

/-- The reading loop: lex until `extra + 1` tokens are queued; when the lexer has read everything, the next piece is
delivered with the answer `stf` recorded, and when none is left the loop rests (`orEnd`: or returns `EndTk` once the end
of the input has been signalled). -/
def waitRun (stf : LexCore → Status) (orEnd : Bool) (extra : Nat) : Nat → PState → PeekOut
  | 0, s => .stop .err s
  | fuel + 1, s =>
    match lexRound extra s.lex with
    | .tok t => .tok t s
    | .read l' => waitRun stf orEnd extra fuel { s with lex := l' }
    | .refused l' => .stop .err { s with lex := l' }
    | .drained =>
      match s.fut with
      | [] => if orEnd && s.lex.finished then .tok Token.endTk s else .stop .more s
      | p :: fut => waitRun stf orEnd extra fuel (s.deliver p fut (stf s.lex.toLexCore))

theorem waitRun_succ (stf : LexCore → Status) (b : Bool) (n fuel : Nat) (s : PState) :
    waitRun stf b n (fuel + 1) s = match lexRound n s.lex with
      | .tok t => .tok t s
      | .read l' => waitRun stf b n fuel { s with lex := l' }
      | .refused l' => .stop .err { s with lex := l' }
      | .drained =>
        match s.fut with
        | [] => if b && s.lex.finished then .tok Token.endTk s else .stop .more s
        | p :: fut => waitRun stf b n fuel (s.deliver p fut (stf s.lex.toLexCore)) := rfl

theorem peekWaitRun_eq (b : Bool) (n fuel : Nat) (s : PState) :
    peekWaitRun b n fuel s = waitRun (fun _ => .more) b n fuel s := by
  induction fuel generalizing s with
  | zero => rfl
  | succ f ih =>
    unfold peekWaitRun
    rw [waitRun_succ, lexRound]
    split
    · cases s.fut <;> simp only [ih]
    · cases (if n < s.lex.tokens.length then s.lex.tokens.head? else none) with
      | some t => rfl
      | none =>
        dsimp only
        cases readRune s.lex (s.lex.next.length + 1) with
        | none => dsimp only; cases s.fut <;> simp only [ih]
        | some cl => obtain ⟨c, l⟩ := cl; dsimp only; cases l.step c <;> simp only [ih]

/-- what the top level answers when the input is used up -/
def litStatus (c : LexCore) : Status := if inLiteral c then .more else .done

def PeekOut.toTop : PeekOut → TopOut
  | .tok t s => .tok t { s with lex := { s.lex with tokens := s.lex.tokens.tail } }
  | .stop .more s => .finished (litStatus s.lex.toLexCore) s
  | .stop st s => .finished st s

theorem topGetRun_eq (fuel : Nat) (s : PState) : topGetRun fuel s = (waitRun litStatus false 0 fuel s).toTop := by
  induction fuel generalizing s with
  | zero => rfl
  | succ f ih =>
    unfold topGetRun
    rw [waitRun_succ, lexRound]
    simp only [ih]
    split
    · cases s.fut <;> rfl
    · cases h : s.lex.tokens with
      | cons t ts => simp [PeekOut.toTop, h]
      | nil =>
        simp only [List.length_nil, Nat.lt_irrefl, ↓reduceIte]
        cases readRune s.lex (s.lex.next.length + 1) with
        | none => cases s.fut <;> rfl
        | some cl => obtain ⟨c, l⟩ := cl; dsimp only; cases l.step c <;> rfl

/-- **One round, the lexer's part**: the token waited for is the head of the queue; or the lexer's input loses its first
rune, which the core lexes or refuses (streams, queue of streams and end mark are those of a lexer with a current stream
and no more queued streams than before); or the lexer has no input left (and, having a current stream, lacks the token). -/
theorem lexRound_spec (n : Nat) (l : LexState) :
    match lexRound n l with
    | .tok t => headIf n l.toLexCore = some t
    | .read l' => headIf n l.toLexCore = none ∧ ∃ c, l.pending = c :: l'.pending ∧ step l.toLexCore c = .ok l'.toLexCore ∧
        l'.stream.isSome = true ∧ l'.next.length ≤ l.next.length ∧ l'.finished = l.finished
    | .refused l' => headIf n l.toLexCore = none ∧ ∃ c e, l.pending = c :: l'.pending ∧
        step l.toLexCore c = .err e l'.toLexCore ∧ l'.stream.isSome = true ∧ l'.next.length ≤ l.next.length ∧
        l'.finished = l.finished
    | .drained => l.pending = [] ∧ (l.stream.isSome = true → headIf n l.toLexCore = none) := by
  unfold lexRound
  by_cases h0 : (l.stream.isNone && l.next.isEmpty) = true
  · rw [if_pos h0]
    simp only [Bool.and_eq_true, Option.isNone_iff_eq_none, List.isEmpty_iff] at h0
    exact ⟨by simp [LexState.pending, h0.1, h0.2], fun h => by simp [h0.1] at h⟩
  · rw [if_neg h0]
    cases hh : (if n < l.tokens.length then l.tokens.head? else none) with
    | some t => exact hh
    | none =>
      dsimp only
      cases hr : readRune l (l.next.length + 1) with
      | none => exact ⟨readRune_none _ _ (Nat.lt_succ_self _) hr, fun _ => hh⟩
      | some cl =>
        obtain ⟨c, l1⟩ := cl
        obtain ⟨hp, hc, hs, hn, hfin⟩ := readRune_some _ _ _ _ hr
        dsimp only
        cases hst : l1.step c with
        | ok l' =>
          obtain ⟨h1, h2, h3, h4⟩ := (step_fields l1 c).1 l' hst
          exact ⟨hh, c, by rw [hp]; simp [LexState.pending, h2, h3], hc ▸ h1, h2 ▸ hs, h3 ▸ hn, h4.trans hfin⟩
        | err e l' =>
          obtain ⟨h1, h2, h3, h4⟩ := (step_fields l1 c).2 e l' hst
          exact ⟨hh, c, e, by rw [hp]; simp [LexState.pending, h2, h3], hc ▸ h1, h2 ▸ hs, h3 ▸ hn, h4.trans hfin⟩

theorem size_read (s : PState) (l' : LexState) (c : Char) (hp : s.lex.pending = c :: l'.pending)
    (hn : l'.next.length ≤ s.lex.next.length) : ({ s with lex := l' } : PState).size < s.size := by
  simp only [PState.size, runes_of_pending, hp, List.cons_append, List.length_cons, List.length_append]
  omega

/-- **The loop on the concrete state, seen through `view`, is the loop on the view**, with any fuel above the measure;
the lexer keeps a current stream. -/
theorem wait_sim (stf : LexCore → Status) (b : Bool) (extra fuel : Nat) (s : PState) (hi : Inv s) (hf : s.size < fuel) :
    (waitRun stf b extra fuel s).toA = peekWaitA b extra s.exprs s.willFinish s.runes s.lex.toLexCore ∧
      (waitRun stf b extra fuel s).inv := by
  induction fuel generalizing s with
  | zero => omega
  | succ n ih =>
    rw [waitRun_succ]
    have hsp := lexRound_spec extra s.lex
    cases hr : lexRound extra s.lex with
    | tok t =>
      rw [hr] at hsp
      rw [peekWaitA_headIf _ _ _ _ _ _ _ hsp]; exact ⟨rfl, hi⟩
    | read l' =>
      rw [hr] at hsp
      obtain ⟨hh, c, hp, hstep, hs, hn, hfin⟩ := hsp
      have := ih { s with lex := l' } hs (by have := size_read s l' c hp hn; omega)
      rw [willFinish_lex s l' hfin] at this
      rw [runes_of_pending, hp]
      simp only [List.cons_append, peekWaitA, hh, hstep]
      exact this
    | refused l' =>
      rw [hr] at hsp
      obtain ⟨hh, c, e, hp, hstep, hs, hn, hfin⟩ := hsp
      rw [runes_of_pending, hp]
      simp only [List.cons_append, peekWaitA, hh, hstep]
      exact ⟨by simp [PeekOut.toA, view, runes_of_pending, willFinish_lex s l' hfin], hs⟩
    | drained =>
      rw [hr] at hsp
      obtain ⟨hp, hh⟩ := hsp
      have hh := hh hi
      dsimp only
      cases hfut : s.fut with
      | nil =>
        have hrunes : s.runes = [] := by simp [runes_of_pending, hp, hfut]
        have hwf : s.willFinish = s.lex.finished := by simp [PState.willFinish, hfut]
        rw [hrunes, hwf]; simp only [peekWaitA, hh]
        cases hbf : (b && s.lex.finished) <;> exact ⟨by simp [PeekOut.toA, view, hrunes, hwf], hi⟩
      | cons p fut =>
        obtain ⟨a1, a2, a3, a4, a5, a6, a7⟩ := deliver_drained s p fut (stf s.lex.toLexCore) hi hp hfut
        have := ih _ a3 (by have := (size_deliver s p fut (stf s.lex.toLexCore) hi hp hfut).1; omega)
        have hr' : (s.deliver p fut (stf s.lex.toLexCore)).runes = s.runes := by simp [runes_of_pending, hp, hfut, a1, a6]
        rw [hr', a2, a5, a7] at this
        exact this

theorem waitRun_fuel (stf : LexCore → Status) (b : Bool) (n : Nat) : ∀ (f1 f2 : Nat) (s : PState), Inv s → s.size < f1 → s.size < f2 →
    waitRun stf b n f1 s = waitRun stf b n f2 s := by
  intro f1
  induction f1 with
  | zero => intro f2 s _ h; omega
  | succ m ih =>
    intro f2 s hi h1 h2
    obtain ⟨k, rfl⟩ : ∃ k, f2 = k + 1 := ⟨f2 - 1, by omega⟩
    rw [waitRun_succ, waitRun_succ]
    have hsp := lexRound_spec n s.lex
    cases hr : lexRound n s.lex with
    | tok t => rfl
    | refused l' => rfl
    | read l' =>
      rw [hr] at hsp
      obtain ⟨_, c, hp, _, hs, hn, _⟩ := hsp
      have := size_read s l' c hp hn
      exact ih k _ hs (by omega) (by omega)
    | drained =>
      rw [hr] at hsp
      dsimp only
      cases hfut : s.fut with
      | nil => rfl
      | cons p fut =>
        obtain ⟨z1, z2⟩ := size_deliver s p fut (stf s.lex.toLexCore) hi hsp.1 hfut
        exact ih k _ z2 (by omega) (by omega)

/-- the loops never answer `done`: they rest, fail or have their token -/
theorem peekWaitA_stop_cases (b : Bool) (n : Nat) (ex : List Sexp) (fin : Bool) (rs : List Char) (c : LexCore)
    (st : Status) (v' : View) (h : peekWaitA b n ex fin rs c = .stop st v') : st = .more ∨ st = .err := by
  induction rs generalizing c with
  | nil =>
    simp only [peekWaitA] at h
    cases hh : headIf n c with
    | some t => simp [hh] at h
    | none =>
      simp only [hh] at h
      split at h
      · simp at h
      · simp only [PeekOutA.stop.injEq] at h; exact .inl h.1.symm
  | cons r rs ih =>
    simp only [peekWaitA] at h
    cases hh : headIf n c with
    | some t => simp [hh] at h
    | none =>
      simp only [hh] at h
      cases hs : step c r with
      | ok c' => simp only [hs] at h; exact ih c' h
      | err e c' => simp only [hs, PeekOutA.stop.injEq] at h; exact .inr h.1.symm

theorem waitRun_stop_cases (stf : LexCore → Status) (b : Bool) (n : Nat) : ∀ (fuel : Nat) (s : PState) (st : Status) (s' : PState),
    waitRun stf b n fuel s = .stop st s' → st = .more ∨ st = .err := by
  intro fuel
  induction fuel with
  | zero => intro s st s' h; cases h; exact .inr rfl
  | succ f ih =>
    intro s st s' h
    rw [waitRun_succ] at h
    cases hr : lexRound n s.lex with
    | tok t => rw [hr] at h; cases h
    | read l' => rw [hr] at h; exact ih _ _ _ h
    | refused l' => rw [hr] at h; cases h; exact .inr rfl
    | drained =>
      rw [hr] at h
      dsimp only at h
      cases hf : s.fut with
      | nil =>
        rw [hf] at h
        dsimp only at h
        split at h
        · cases h
        · cases h; exact .inl rfl
      | cons p fut => rw [hf] at h; exact ih _ _ _ h

end ZygoVerif.Parser
