/-
C02, execution half — F2: user functions. The relation `RelF` and its maintenance (the fragments `Ff`/`Fx`/`Fz` are in
Proofs/SimF2Frag.lean, entering a closure in Proofs/SimF2Enter.lean).

Where `RelF` differs from `RelC` (Proofs/SimCallEnv.lean):

* values correspond modulo the numbering of closures (`trf m`, Proofs/SimTr.lean): variables, heap,
  results;
* the linear scope stack is not the static chain of the current environment: inside a
  callee it is `[callee's scopes … its function scope] ++ caller's stack`. `ChainF` follows the
  static chain down to the function scope (the boundary of stage 1 of `LexicalLookupSymbol`) and
  lets anything lie below; the rest of the static chain is what stage 2 searches: the closing
  stack of the running closure object, then of the function that made it, and so on (`FnChainF`):
  each such closing stack is again a piece of the static chain, from the closure's environment
  down to the next function scope;
* closure objects correspond to reference closures (`GoodFn`): same parameters, code compiled from
  the closure's body.

Maintenance. `RelF` speaks of three tables entry by entry (scopes/frames, function objects/closures, lazy argument
objects/thunks) and of one context (the live stack and the running function, chained). Every machine move extends the
tables (`ExtF`: what was in order stays in order, `GoodFn.grow` …) and keeps or replaces single entries (`EntryOk`):
`RelF.move` is that statement, and `transport`, `bind`, `allocLazy`, `relF_inHelper`, `back` (here), `enter`, `pushScope`,
`popped` (Proofs/SimF2Enter.lean) are its instances, each supplying the context of its new live stack. That the lookups agree under `RelF` is
`RelF.lexLookup` in `ScopeSimF` (through C03's search lists).
-/
import ZygoVerif.Proofs.SimCall
import ZygoVerif.Proofs.GenTotal
import ZygoVerif.Proofs.SimF2Frag
import ZygoVerif.Proofs.SimTr
import ZygoVerif.Proofs.Scope
namespace ZygoVerif.Sim
open ZygoVerif.Core ZygoVerif.VM

/-- the translation that renames function ids only -/
abbrev trf (m : Nat → Nat) : Val → Val := tr m id id

def trp2 (m : Nat → Nat) (p : Nat × Val) : Nat × Val := (p.1, trf m p.2)

/-- the loop records the generator completed are in the running state's loop table (`GenerateForLoop`
stores a loop's offsets after compiling its body: ids still on the compile-time loop stack are exempt) -/
def LoopsFinal (gs' : GS) (s : St) : Prop :=
  gs'.loops.length ≤ s.loops.length ∧
    ∀ id, id < gs'.loops.length → id ∉ gs'.loopstack → s.loops.getD id {} = gs'.loops.getD id {}

theorem LoopsFinal.first {g₁ g₂ : GS} {s : St} (h : LoopsFinal g₂ s) (hk : KeepFns g₁ g₂) : LoopsFinal g₁ s :=
  ⟨Nat.le_trans hk.loopsLen h.1, fun id h1 h2 => by
    rw [h.2 id (Nat.lt_of_lt_of_le h1 hk.loopsLen) (by rw [hk.loopstack]; exact h2)]; exact hk.loopsGet id h1⟩

def LoopsExt (s s' : St) : Prop :=
  s.loops.length ≤ s'.loops.length ∧ ∀ id, id < s.loops.length → s'.loops.getD id {} = s.loops.getD id {}

theorem LoopsExt.refl (s : St) : LoopsExt s s := ⟨Nat.le_refl _, fun _ _ => rfl⟩

theorem LoopsExt.of_eq {s s' : St} (h : s'.loops = s.loops) : LoopsExt s s' := by
  unfold LoopsExt; rw [h]; exact ⟨Nat.le_refl _, fun _ _ => rfl⟩

theorem LoopsFinal.ext {gs' : GS} {s s' : St} (h : LoopsFinal gs' s) (hl : LoopsExt s s') : LoopsFinal gs' s' :=
  ⟨Nat.le_trans h.1 hl.1, fun id h1 h2 => by
    rw [hl.2 id (Nat.lt_of_lt_of_le h1 h.1)]; exact h.2 id h1 h2⟩

/-- the code was compiled when its text was loaded (generator state `gs` before, `gs'` after, the
live stack then being the global scope alone), and the templates made on the way are in the
function table of the running state; so are the loop records -/
structure GenOk (gs gs' : GS) (s : St) : Prop where
  live : gs.live = [some 0]
  main : mainFn < gs.fns.length
  len : gs'.fns.length ≤ s.fns.length
  tmpl : ∀ t, gs.fns.length ≤ t → t < gs'.fns.length → fnOf s t = gs'.fns.getD t {}
  loops : LoopsFinal gs' s

theorem GenOk.first {gs g₁ g₂ : GS} {s : St} (h : GenOk gs g₂ s) (hk : KeepFns g₁ g₂) : GenOk gs g₁ s :=
  ⟨h.live, h.main, Nat.le_trans hk.len h.len,
   fun t h1 h2 => by rw [h.tmpl t h1 (Nat.lt_of_lt_of_le h2 hk.len)]; exact hk.fns t h2, h.loops.first hk⟩

theorem GenOk.rest {gs g₁ g₂ : GS} {s : St} (h : GenOk gs g₂ s) (hk : KeepFns gs g₁) : GenOk g₁ g₂ s :=
  ⟨hk.live.trans h.live, Nat.lt_of_lt_of_le h.main hk.len, h.len,
   fun t h1 h2 => h.tmpl t (Nat.le_trans hk.len h1) h2, h.loops⟩

theorem GenOk.frame {gs gs' : GS} {s s' : St} (h : GenOk gs gs' s) (hf : Frame s s') : GenOk gs gs' s' :=
  ⟨h.live, h.main, Nat.le_trans h.len hf.fnsLen,
   fun t h1 h2 => by rw [hf.fns t (Nat.lt_of_lt_of_le h2 h.len)]; exact h.tmpl t h1 h2, h.loops.ext ⟨hf.loopsLen, hf.loops⟩⟩

/-- `ChainF isFn frames k env lin`: from its top, `lin` lists the frames of the static chain of
`env`, scope ids = frame ids, none of them a function scope — down to the global scope (`k = none`)
or down to a function scope, whose frame's parent is `p` (`k = some p`: the static chain goes on at
`p`; the list goes on with whatever lies below — on the live stack, the caller's scopes). -/
inductive ChainF (isFn : Nat → Bool) (frames : List Ref.Frame) : Option Nat → Nat → List (Option Nat) → Prop
  | root (fr : Ref.Frame) : frames[0]? = some fr → fr.parent = none → isFn 0 = false →
      ChainF isFn frames none 0 [some 0]
  | cons (k : Option Nat) (env p : Nat) (fr : Ref.Frame) (rest : List (Option Nat)) :
      frames[env]? = some fr → fr.parent = some p → p < env → isFn env = false →
      ChainF isFn frames k p rest → ChainF isFn frames k env (some env :: rest)
  | fn (env p : Nat) (fr : Ref.Frame) (below : List (Option Nat)) :
      frames[env]? = some fr → fr.parent = some p → p < env → isFn env = true →
      ChainF isFn frames (some p) env (some env :: below)

theorem ChainF.head {isFn frames k env lin} (h : ChainF isFn frames k env lin) : ∃ rest, lin = some env :: rest := by
  cases h with
  | root => exact ⟨[], rfl⟩
  | cons _ _ _ _ rest => exact ⟨rest, rfl⟩
  | fn _ _ _ below => exact ⟨below, rfl⟩

theorem ChainF.lt {isFn frames k env lin} (h : ChainF isFn frames k env lin) : env < frames.length := by
  cases h with
  | root fr h0 _ _ => exact lt_of_getElem?_some h0
  | cons _ _ _ fr _ h0 _ _ _ _ => exact lt_of_getElem?_some h0
  | fn _ _ fr _ h0 _ _ _ => exact lt_of_getElem?_some h0

/-- where the static chain goes on is below where it started -/
theorem ChainF.k_lt {isFn frames k env lin} (h : ChainF isFn frames k env lin) : ∀ p, k = some p → p < env := by
  induction h with
  | root => intro p hp; cases hp
  | cons k env p fr rest _ _ hlt _ _ ih => intro q hq; exact Nat.lt_trans (ih q hq) hlt
  | fn env p fr below _ _ hlt _ => intro q hq; injection hq with hq; subst hq; exact hlt

def VarsRel (m : Nat → Nat) (s : St) (rs : Ref.St) : Prop :=
  ∀ i x, (rs.frames.getD i {}).vars.lookup x = ((scopeOf s i).vars.lookup x).map (trf m)

def Root0 (s : St) (rs : Ref.St) : Prop :=
  ∃ fr, rs.frames[0]? = some fr ∧ fr.parent = none ∧ isFnScope s 0 = false

def ParOk (frames : List Ref.Frame) : Prop :=
  ∀ (i : Nat) (fr : Ref.Frame), frames[i]? = some fr → ∀ p, fr.parent = some p → p < i

/-- the live stack from its top down to and including the first function scope -/
def topSeg (s : St) : List (Option Nat) := Scope.takeToBoundary (isFnScope s) s.linear

/-- `FnChainF s frames seg k f`: what the walk along the parent chain of function `f` searches, after the
segment `seg` was searched and the static chain goes on at `k`: helper functions of operand
evaluation (closing stack = a suffix of the segment just searched: nothing new; `sfx`: the helper of
`force`, whose closing stack is the whole captured stack — its top segment is such a suffix); a closure object
made for the environment `e = k` (its closing stack is chained from `e`; the walk goes on with the
function that made it); a parentless function when the static chain is exhausted. -/
inductive FnChainF (s : St) (frames : List Ref.Frame) : List (Option Nat) → Option Nat → Nat → Prop
  | root (seg : List (Option Nat)) (f : Nat) : f < s.fns.length → (fnOf s f).parent = none →
      (∃ t, Scope.takeToBoundary (isFnScope s) seg = t ++ (fnOf s f).closing) → FnChainF s frames seg none f
  | step (seg : List (Option Nat)) (k : Option Nat) (f p : Nat) : f < s.fns.length → (fnOf s f).parent = some p → p < f →
      (∃ t, Scope.takeToBoundary (isFnScope s) seg = t ++ (fnOf s f).closing) → FnChainF s frames seg k p →
      FnChainF s frames seg k f
  | clos (seg : List (Option Nat)) (e f p : Nat) (k' : Option Nat) : f < s.fns.length → (fnOf s f).parent = some p → p < f →
      ChainF (isFnScope s) frames k' e (fnOf s f).closing → FnChainF s frames (fnOf s f).closing k' p →
      FnChainF s frames seg (some e) f
  | sfx (seg : List (Option Nat)) (k : Option Nat) (f p : Nat) : f < s.fns.length → (fnOf s f).parent = some p → p < f →
      (∀ i, some i ∈ Scope.takeToBoundary (isFnScope s) (fnOf s f).closing → i < s.scopes.length) →
      (∃ t, Scope.takeToBoundary (isFnScope s) seg = t ++ Scope.takeToBoundary (isFnScope s) (fnOf s f).closing) →
      FnChainF s frames seg k p → FnChainF s frames seg k f

theorem FnChainF.lt {s frames seg k f} (h : FnChainF s frames seg k f) : f < s.fns.length := by
  cases h <;> assumption

/-- every function scope belongs to a template that closes over the global scope only (templates
are made when a text is loaded) -/
def FScopes (s : St) : Prop :=
  ∀ i, isFnScope s i = true → ∃ t, (scopeOf s i).myFunction = some t ∧ (fnOf s t).closing = [some 0]

/-- the function table grew; old functions are unchanged, except that `__main` may have new code -/
structure FnsKeep (s s' : St) : Prop where
  len : s.fns.length ≤ s'.fns.length
  same : ∀ id, id < s.fns.length → id ≠ mainFn → fnOf s' id = fnOf s id
  par : (fnOf s' mainFn).parent = (fnOf s mainFn).parent
  clo : (fnOf s' mainFn).closing = (fnOf s mainFn).closing
  lext : LoopsExt s s'

theorem FnsKeep.parent {s s' : St} (h : FnsKeep s s') (id : Nat) (hid : id < s.fns.length) :
    (fnOf s' id).parent = (fnOf s id).parent := by
  by_cases hm : id = mainFn
  · subst hm; exact h.par
  · rw [h.same id hid hm]

theorem FnsKeep.closing {s s' : St} (h : FnsKeep s s') (id : Nat) (hid : id < s.fns.length) :
    (fnOf s' id).closing = (fnOf s id).closing := by
  by_cases hm : id = mainFn
  · subst hm; exact h.clo
  · rw [h.same id hid hm]

theorem FnsKeep.of_eq {s s' : St} (hlen : s.fns.length ≤ s'.fns.length)
    (hfns : ∀ id, id < s.fns.length → fnOf s' id = fnOf s id) (hm : mainFn < s.fns.length)
    (hl : LoopsExt s s' := by exact ⟨Nat.le_refl _, fun _ _ => rfl⟩) : FnsKeep s s' :=
  ⟨hlen, fun id hid _ => hfns id hid, by rw [hfns _ hm], by rw [hfns _ hm], hl⟩

theorem GenOk.mono {gs gs' : GS} {s s' : St} (h : GenOk gs gs' s) (hk : FnsKeep s s') : GenOk gs gs' s' :=
  ⟨h.live, h.main, Nat.le_trans h.len hk.len, fun t h1 h2 => by
    rw [hk.same t (Nat.lt_of_lt_of_le h2 h.len) (by have := h.main; omega)]; exact h.tmpl t h1 h2, h.loops.ext hk.lext⟩

theorem ChainF.congr {isFn isFn' : Nat → Bool} {frames frames' : List Ref.Frame}
    (hext : ∀ (i : Nat) (fr : Ref.Frame), frames[i]? = some fr →
      ∃ fr' : Ref.Frame, frames'[i]? = some fr' ∧ fr'.parent = fr.parent) :
    ∀ {k env lin}, ChainF isFn frames k env lin → (∀ i, i ≤ env → isFn' i = isFn i) →
      ChainF isFn' frames' k env lin := by
  intro k env lin h
  induction h with
  | root fr hf hp hfl0 =>
    intro hfl
    obtain ⟨fr', hf', hp'⟩ := hext 0 fr hf
    exact ChainF.root fr' hf' (hp'.trans hp) (by rw [hfl 0 (Nat.le_refl _)]; exact hfl0)
  | cons k env p fr rest hf hp hlt hfl0 _ ih =>
    intro hfl
    obtain ⟨fr', hf', hp'⟩ := hext env fr hf
    exact ChainF.cons k env p fr' rest hf' (hp'.trans hp) hlt (by rw [hfl env (Nat.le_refl _)]; exact hfl0)
      (ih (fun i hi => hfl i (by omega)))
  | fn env p fr below hf hp hlt hfl0 =>
    intro hfl
    obtain ⟨fr', hf', hp'⟩ := hext env fr hf
    exact ChainF.fn env p fr' below hf' (hp'.trans hp) hlt (by rw [hfl env (Nat.le_refl _)]; exact hfl0)

/-- the top segment of a chained list reads the flags of the chain's frames only -/
theorem takeToBoundary_chain {isFn isFn' : Nat → Bool} {frames : List Ref.Frame} :
    ∀ {k env lin}, ChainF isFn frames k env lin → (∀ i, i ≤ env → isFn' i = isFn i) →
      Scope.takeToBoundary isFn' lin = Scope.takeToBoundary isFn lin := by
  intro k env lin h
  induction h with
  | root fr hf hp hfl0 =>
    intro hfl
    have e : Scope.isFnElem isFn' (some 0) = Scope.isFnElem isFn (some 0) := hfl 0 (Nat.le_refl _)
    simp only [Scope.takeToBoundary, e]
  | cons k env p fr rest hf hp hlt hfl0 _ ih =>
    intro hfl
    have e : Scope.isFnElem isFn' (some env) = Scope.isFnElem isFn (some env) := hfl env (Nat.le_refl _)
    simp only [Scope.takeToBoundary, e, ih (fun i hi => hfl i (by omega))]
  | fn env p fr below hf hp hlt hfl0 =>
    intro hfl
    have e : Scope.isFnElem isFn' (some env) = Scope.isFnElem isFn (some env) := hfl env (Nat.le_refl _)
    have e2 : Scope.isFnElem isFn (some env) = true := hfl0
    simp only [Scope.takeToBoundary, e, e2, if_true]

theorem FnChainF.transfer {s s' : St} {frames frames' : List Ref.Frame} (B : Nat)
    (hfl : ∀ i, i < B → isFnScope s' i = isFnScope s i)
    (hext : ∀ (i : Nat) (fr : Ref.Frame), frames[i]? = some fr →
      ∃ fr' : Ref.Frame, frames'[i]? = some fr' ∧ fr'.parent = fr.parent)
    (hk : FnsKeep s s') (hB : s.scopes.length ≤ B) (hsl : s.scopes.length ≤ s'.scopes.length) :
    ∀ {seg k f}, FnChainF s frames seg k f → (∀ e, k = some e → e < B) →
      Scope.takeToBoundary (isFnScope s') seg = Scope.takeToBoundary (isFnScope s) seg →
      FnChainF s' frames' seg k f := by
  intro seg k f h
  induction h with
  | root seg f hlt hp hs =>
    intro _ hseg
    exact FnChainF.root seg f (Nat.lt_of_lt_of_le hlt hk.len) (by rw [hk.parent f hlt]; exact hp)
      (by rw [hseg, hk.closing f hlt]; exact hs)
  | step seg k f p hlt hp hpf hs _ ih =>
    intro hb hseg
    exact FnChainF.step seg k f p (Nat.lt_of_lt_of_le hlt hk.len) (by rw [hk.parent f hlt]; exact hp) hpf
      (by rw [hseg, hk.closing f hlt]; exact hs) (ih hb hseg)
  | sfx seg k f p hlt hp hpf hbd hs _ ih =>
    intro hb hseg
    have hcl : Scope.takeToBoundary (isFnScope s') (fnOf s f).closing = Scope.takeToBoundary (isFnScope s) (fnOf s f).closing :=
      ttb_congr _ (fun i hi => hfl i (Nat.lt_of_lt_of_le (hbd i hi) hB))
    exact FnChainF.sfx seg k f p (Nat.lt_of_lt_of_le hlt hk.len) (by rw [hk.parent f hlt]; exact hp) hpf
      (by rw [hk.closing f hlt, hcl]; exact fun i hi => Nat.lt_of_lt_of_le (hbd i hi) hsl)
      (by rw [hseg, hk.closing f hlt, hcl]; exact hs) (ih hb hseg)
  | clos seg e f p k' hlt hp hpf hch _ ih =>
    intro hb _
    have he : e < B := hb e rfl
    have hfle : ∀ i, i ≤ e → isFnScope s' i = isFnScope s i := fun i hi => hfl i (by omega)
    have hch' : ChainF (isFnScope s') frames' k' e (fnOf s' f).closing := by
      rw [hk.closing f hlt]; exact hch.congr hext hfle
    refine FnChainF.clos seg e f p k' (Nat.lt_of_lt_of_le hlt hk.len) (by rw [hk.parent f hlt]; exact hp) hpf hch' ?_
    rw [hk.closing f hlt]
    exact ih (fun q hq => Nat.lt_trans (hch.k_lt q hq) he) (takeToBoundary_chain hch hfle)

/-- the code `buildSexpFun` gives a function: prologue (function scope, parameters bound from the
stack, last first), body, epilogue -/
def fnCode (t : Nat) (ps : List String) (b : List Instr) : List Instr :=
  [.addFuncScope t] ++ (ps.map Instr.popStackPutEnv).reverse ++ b ++ [.removeScope, .ret]

/-- what the generator knows about the function whose body it compiles (for the arity check of a self
tail call, `knownFunctions`): under its own name it finds the template with these formals -/
def KnownOk (cb : Ctx) (gs0 : GS) (ps : List String) (rest : Option String) : Prop :=
  cb.funcname ≠ "" → (∃ t' : Nat, cb.funcname = s!"__anon{t'}") ∨
    ∃ t, cb.known.lookup cb.funcname = some t ∧ t < gs0.fns.length ∧ (gs0.fns.getD t {}).varargs = rest.isSome
      ∧ (gs0.fns.getD t {}).nargs = ps.length ∧ (gs0.fns.getD t {}).params = ps ++ rest.toList

/-- VM function `vid` is a closure object for the reference closure `m vid`: parameters as declared,
code compiled from the body, and its closing stack — with those of the functions that made it — is
the static chain of the closure's environment -/
structure GoodFn (m : Nat → Nat) (s : St) (rs : Ref.St) (vid : Nat) : Prop where
  lt : vid < s.fns.length
  nm : mainFn < vid
  clo : ∃ c, rs.clos[m vid]? = some c ∧ okRest c.rest = true ∧ (c.ps ++ c.rest.toList).Nodup ∧ (∀ p ∈ c.ps, okParam p = true)
    ∧ c.body ≠ [] ∧ (fnOf s vid).params = c.ps ++ c.rest.toList ∧ (fnOf s vid).nargs = c.ps.length
    ∧ (fnOf s vid).varargs = c.rest.isSome
    ∧ (fnOf s vid).user = false ∧ c.env < s.scopes.length
    ∧ (∃ k' p, (fnOf s vid).parent = some p ∧ p < vid ∧ ChainF (isFnScope s) rs.frames k' c.env (fnOf s vid).closing
        ∧ FnChainF s rs.frames (fnOf s vid).closing k' p)
    ∧ ∃ t b tl isFn cb gs0 gs1 self, (fnOf s vid).code = fnCode t (c.ps ++ c.rest.toList) b ∧ t < s.fns.length
        ∧ (fnOf s t).closing = [some 0] ∧ (compileBegin isFn cb c.body).run gs0 = .ok ((b, tl), gs1) ∧ cb.scopes = 0
        ∧ FnameOk self cb ∧ (∃ ex, FzList ex self c.body = true ∧ (ex = true → gs0.loopstack = [])) ∧ GenOk gs0 gs1 s
        ∧ KnownOk cb gs0 c.ps c.rest

def ClosExt (rs rs' : Ref.St) : Prop := ∀ (i : Nat) (c : Ref.Clos), rs.clos[i]? = some c → rs'.clos[i]? = some c

theorem ClosExt.refl (rs : Ref.St) : ClosExt rs rs := fun _ _ h => h
theorem ClosExt.trans {a b c : Ref.St} (h₁ : ClosExt a b) (h₂ : ClosExt b c) : ClosExt a c :=
  fun i x h => h₂ i x (h₁ i x h)

/-- the reference state only grew: frames (parents kept) and closures -/
def RExt (rs rs' : Ref.St) : Prop := FramesExt rs rs' ∧ ClosExt rs rs'

theorem RExt.refl (rs : Ref.St) : RExt rs rs := ⟨FramesExt.refl rs, ClosExt.refl rs⟩
theorem RExt.trans {a b c : Ref.St} (h₁ : RExt a b) (h₂ : RExt b c) : RExt a c :=
  ⟨h₁.1.trans h₂.1, h₁.2.trans h₂.2⟩

theorem GoodFn.mono {m m' : Nat → Nat} {s s' : St} {rs rs' : Ref.St} {vid : Nat} (h : GoodFn m s rs vid)
    (hk : FnsKeep s s') (hsl : s.scopes.length ≤ s'.scopes.length)
    (hfl : ∀ i, i < s.scopes.length → isFnScope s' i = isFnScope s i) (hr : RExt rs rs') (hm : m' vid = m vid) :
    GoodFn m' s' rs' vid := by
  obtain ⟨hlt, hnm, c, h1, h3, h4, h5, h6, h7, h8, h9, h10, hel, ⟨k', p, hp1, hp2, hch, hfc⟩,
    t, b, tl, isFn, cb, gs0, gs1, self, hc1, hc2, hc3, hc4, hc5, hc6, hc7, hc8, hc9⟩ := h
  have e := hk.same vid hlt (by omega)
  have hfle : ∀ i, i ≤ c.env → isFnScope s' i = isFnScope s i := fun i hi => hfl i (by omega)
  refine ⟨Nat.lt_of_lt_of_le hlt hk.len, hnm, c, by rw [hm]; exact hr.2 _ _ h1, h3, h4, h5, h6, by rw [e]; exact h7,
    by rw [e]; exact h8, by rw [e]; exact h9, by rw [e]; exact h10, Nat.lt_of_lt_of_le hel hsl,
    ⟨k', p, by rw [e]; exact hp1, hp2, by rw [e]; exact hch.congr hr.1 hfle, ?_⟩,
    t, b, tl, isFn, cb, gs0, gs1, self, by rw [e]; exact hc1, Nat.lt_of_lt_of_le hc2 hk.len,
    by rw [hk.closing t hc2]; exact hc3, hc4, hc5, hc6, hc7, hc8.mono hk, hc9⟩
  rw [e]
  exact hfc.transfer s.scopes.length hfl hr.1 hk (Nat.le_refl _) hsl (fun q hq => Nat.lt_trans (hch.k_lt q hq) hel)
    (takeToBoundary_chain hch hfle)

/-- the Go builtins that call back into the machine -/
def hoB (n : String) : Prop := n = "force" ∨ n = "apply" ∨ n = "map"

/-- the builtins a value of the fragment may hold: the first-order ones and `force`, `apply`, `map` -/
def okB (n : String) : Prop := n ∈ foBuiltins ∨ hoB n

/-- a value of the VM state is in order: its functions are closure objects with their reference
closures, its builtins first-order or `force`, no stack mark in it -/
def VOk (m : Nat → Nat) (s : St) (rs : Ref.St) (v : Val) : Prop :=
  ValIn (GoodFn m s rs) okB (fun _ => False) v

/-- a value bound to the name `x`: in order if `x` is a name the fragment may mention; the global
bindings of the other builtins (`map`, `apply`, …) are only required to mention good functions -/
def VOkN (m : Nat → Nat) (s : St) (rs : Ref.St) (x : String) (v : Val) : Prop :=
  ValIn (GoodFn m s rs) (fun n => okSym x = true → okB n) (fun _ => okSym x = false) v

theorem VOkN.ok {m s rs x v} (h : VOkN m s rs x v) (hx : okSym x = true) : VOk m s rs v :=
  ValIn.imp h (fun _ hg => hg) (fun _ hn => hn hx) (fun _ hl => by rw [hx] at hl; cases hl)

theorem VOk.named {m s rs v} (h : VOk m s rs v) (x : String) : VOkN m s rs x v :=
  ValIn.imp h (fun _ hg => hg) (fun _ hn _ => hn) (fun _ hl => hl.elim)

def HOk (m : Nat → Nat) (s : St) (rs : Ref.St) (h : DataHeap) : Prop :=
  HeapIn (GoodFn m s rs) okB (fun _ => False) h

/-- a lazy argument object against the reference thunk: the same expression (an operand of the fragment),
the memo related, and the captured stack is the static chain of the
thunk's creation frame, continued along the closing stacks of the function that made the call -/
structure LzOk (m : Nat → Nat) (s : St) (rs : Ref.St) (lz : LazyObj) (th : Ref.Thunk) : Prop where
  val : th.value = lz.value.map (trf m)
  vok : ∀ v, lz.value = some v → VOk m s rs v
  /-- as long as there is no memo (an object made by `apply`/`map` from a value has one from the start) -/
  todo : lz.value = none → th.e = lz.e ∧ Ff false "" lz.e = true ∧ th.env < s.scopes.length ∧ lz.stack.getLast? = some (some 0)
    ∧ ∃ k, ChainF (isFnScope s) rs.frames k th.env lz.stack ∧ FnChainF s rs.frames lz.stack k lz.curfunc

/-- the table of lazy argument objects against the table of thunks: same length, entry by entry -/
def LazyRel (m : Nat → Nat) (s : St) (rs : Ref.St) : Prop :=
  s.lazies.length = rs.thunks.length ∧
    ∀ (id : Nat) (lz : LazyObj), s.lazies[id]? = some lz → ∃ th : Ref.Thunk, rs.thunks[id]? = some th ∧ LzOk m s rs lz th

structure RelF (m : Nat → Nat) (s : St) (rs : Ref.St) (env : Nat) : Prop where
  len : s.scopes.length = rs.frames.length
  vars : VarsRel m s rs
  root0 : Root0 s rs
  par : ParOk rs.frames
  bottom : s.linear.getLast? = some (some 0)
  ctx : ∃ k, ChainF (isFnScope s) rs.frames k env s.linear ∧ FnChainF s rs.frames s.linear k s.curfunc
  fscopes : FScopes s
  heap : rs.heap = trHeap m id id s.heap
  trace : s.trace = rs.trace
  globals : Globals rs
  vok : ∀ i x v, (scopeOf s i).vars.lookup x = some v → VOkN m s rs x v
  hok : HOk m s rs s.heap
  lz : LazyRel m s rs

/-- **The context survives growth**: more functions (old ones kept), more scopes (old flags kept),
frames with the same parents — the live stack and current function of `s` are still chained in `s'`. -/
theorem RelF.ctx_mono {m s rs env} (h : RelF m s rs env) {s' : St} {frames' : List Ref.Frame}
    (hk : FnsKeep s s') (hsl : s.scopes.length ≤ s'.scopes.length)
    (hfl : ∀ i, i < s.scopes.length → isFnScope s' i = isFnScope s i)
    (hext : ∀ (i : Nat) (fr : Ref.Frame), rs.frames[i]? = some fr →
      ∃ fr' : Ref.Frame, frames'[i]? = some fr' ∧ fr'.parent = fr.parent) :
    ∃ k, ChainF (isFnScope s') frames' k env s.linear ∧ FnChainF s' frames' s.linear k s.curfunc := by
  obtain ⟨k, hc, hfc⟩ := h.ctx
  have henv : env < s.scopes.length := by rw [h.len]; exact hc.lt
  have hfle : ∀ i, i ≤ env → isFnScope s' i = isFnScope s i := fun i hi => hfl i (by omega)
  exact ⟨k, hc.congr hext hfle, hfc.transfer s.scopes.length hfl hext hk (Nat.le_refl _) hsl
    (fun e he => Nat.lt_trans (hc.k_lt e he) henv) (takeToBoundary_chain hc hfle)⟩

/-- `Frame`, and the scope table only grew, old scopes keeping their function flags -/
structure FrameF (s s' : St) : Prop extends Frame s s' where
  scLen : s.scopes.length ≤ s'.scopes.length
  flags : ∀ i, i < s.scopes.length → isFnScope s' i = isFnScope s i

theorem FrameF.refl (s : St) : FrameF s s := ⟨Frame.refl s, Nat.le_refl _, fun _ _ => rfl⟩

theorem FrameF.trans {a b c : St} (h₁ : FrameF a b) (h₂ : FrameF b c) : FrameF a c :=
  ⟨h₁.toFrame.trans h₂.toFrame, Nat.le_trans h₁.scLen h₂.scLen,
   fun i hi => (h₂.flags i (Nat.lt_of_lt_of_le hi h₁.scLen)).trans (h₁.flags i hi)⟩

theorem FrameF.jmp (s : St) (p : Int) (d : List (Option Val)) : FrameF s (s.jmp p d) :=
  ⟨Frame.jmp s p d, Nat.le_refl _, fun _ _ => rfl⟩

theorem isFnScope_bind (s : St) (id : Nat) (x : String) (v : Val) (i : Nat) :
    isFnScope (s.bind id x v) i = isFnScope s i := by
  unfold isFnScope
  rw [scopeOf_bind]
  split
  · rename_i h; rw [h.1]
  · rfl

theorem FrameF.bind (s : St) (id : Nat) (x : String) (v : Val) : FrameF s (s.bind id x v) :=
  ⟨Frame.bind s id x v, by show s.scopes.length ≤ (s.scopes.set id _).length; simp,
   fun i _ => isFnScope_bind s id x v i⟩

def MExt (s : St) (m m' : Nat → Nat) : Prop := ∀ id, id < s.fns.length → m' id = m id

theorem MExt.refl (s : St) (m : Nat → Nat) : MExt s m m := fun _ _ => rfl
theorem MExt.trans {s s' : St} {m m' m'' : Nat → Nat} (h₁ : MExt s m m') (h₂ : MExt s' m' m'')
    (hlen : s.fns.length ≤ s'.fns.length) : MExt s m m'' :=
  fun id hid => (h₂ id (Nat.lt_of_lt_of_le hid hlen)).trans (h₁ id hid)

theorem FnsKeep.of_frame {s s' : St} (hf : Frame s s') (hne : s.fns ≠ []) : FnsKeep s s' :=
  FnsKeep.of_eq hf.fnsLen hf.fns (by cases hs : s.fns with | nil => exact absurd hs hne | cons _ _ => simp [mainFn])
    ⟨hf.loopsLen, hf.loops⟩

theorem GoodFn.ext {m m' : Nat → Nat} {s s' : St} {rs rs' : Ref.St} {vid : Nat} (h : GoodFn m s rs vid)
    (hf : FrameF s s') (hr : RExt rs rs') (hm : MExt s m m') : GoodFn m' s' rs' vid :=
  h.mono (FnsKeep.of_frame hf.toFrame (fun e => by have := h.lt; rw [e] at this; cases this)) hf.scLen hf.flags hr (hm vid h.lt)

theorem VOk.ext {m m' : Nat → Nat} {s s' : St} {rs rs' : Ref.St} {v : Val} (h : VOk m s rs v)
    (hf : FrameF s s') (hr : RExt rs rs') (hm : MExt s m m') : VOk m' s' rs' v :=
  ValIn.mono h (fun _ hg => hg.ext hf hr hm)

theorem HOk.ext {m m' : Nat → Nat} {s s' : St} {rs rs' : Ref.St} {h : DataHeap} (hh : HOk m s rs h)
    (hf : FrameF s s') (hr : RExt rs rs') (hm : MExt s m m') : HOk m' s' rs' h :=
  HeapIn.mono hh (fun _ hg => hg.ext hf hr hm)

/-- the translation of an orderly value does not depend on how the map was extended -/
theorem VOk.tr_ext {m m' : Nat → Nat} {s : St} {rs : Ref.St} {v : Val} (h : VOk m s rs v) (hm : MExt s m m') :
    trf m' v = trf m v :=
  h m' m id id id id ⟨fun id hg => hm id hg.lt, fun _ _ => rfl, fun _ _ => rfl⟩

theorem HOk.tr_ext {m m' : Nat → Nat} {s : St} {rs : Ref.St} {h : DataHeap} (hh : HOk m s rs h) (hm : MExt s m m') :
    trHeap m' id id h = trHeap m id id h :=
  hh m' m id id id id ⟨fun id hg => hm id hg.lt, fun _ _ => rfl, fun _ _ => rfl⟩

theorem LzOk.mono {m m' : Nat → Nat} {s s' : St} {rs rs' : Ref.St} {lz : LazyObj} {th : Ref.Thunk} (h : LzOk m s rs lz th)
    (hk : FnsKeep s s') (hsl : s.scopes.length ≤ s'.scopes.length)
    (hfl : ∀ i, i < s.scopes.length → isFnScope s' i = isFnScope s i) (hr : RExt rs rs') (hm : MExt s m m') :
    LzOk m' s' rs' lz th := by
  have hgood : ∀ id, GoodFn m s rs id → GoodFn m' s' rs' id := fun id hg => hg.mono hk hsl hfl hr (hm id hg.lt)
  refine ⟨?_, fun v hv => ValIn.mono (h.vok v hv) hgood, fun hn => ?_⟩
  · rw [h.val]
    cases hl : lz.value with
    | none => rfl
    | some v =>
      simp only [Option.map_some]
      exact congrArg some ((h.vok v hl) m m' id id id id ⟨fun id hg => (hm id hg.lt).symm, fun _ _ => rfl, fun _ _ => rfl⟩)
  · obtain ⟨he, hex, hel, hb, k, hch, hfc⟩ := h.todo hn
    have hfle : ∀ i, i ≤ th.env → isFnScope s' i = isFnScope s i := fun i hi => hfl i (by omega)
    exact ⟨he, hex, Nat.lt_of_lt_of_le hel hsl, hb, k, hch.congr hr.1 hfle,
      hfc.transfer s.scopes.length hfl hr.1 hk (Nat.le_refl _) hsl (fun q hq => Nat.lt_trans (hch.k_lt q hq) hel) (takeToBoundary_chain hch hfle)⟩

theorem LazyRel.mono {m m' : Nat → Nat} {s s' : St} {rs rs' : Ref.St} (h : LazyRel m s rs)
    (hk : FnsKeep s s') (hsl : s.scopes.length ≤ s'.scopes.length)
    (hfl : ∀ i, i < s.scopes.length → isFnScope s' i = isFnScope s i) (hr : RExt rs rs') (hm : MExt s m m')
    (hlz : s'.lazies = s.lazies := by rfl) (hth : rs'.thunks = rs.thunks := by rfl) : LazyRel m' s' rs' := by
  refine ⟨by rw [hlz, hth]; exact h.1, fun id lz hl => ?_⟩
  rw [hlz] at hl
  obtain ⟨th, h1, h2⟩ := h.2 id lz hl
  exact ⟨th, by rw [hth]; exact h1, h2.mono hk hsl hfl hr hm⟩

theorem FnsKeep.of_fns_eq {s s' : St} (h : s'.fns = s.fns)
    (hl : LoopsExt s s' := by exact ⟨Nat.le_refl _, fun _ _ => rfl⟩) : FnsKeep s s' :=
  ⟨by rw [h]; exact Nat.le_refl _, fun id _ _ => by unfold fnOf; rw [h], by unfold fnOf; rw [h], by unfold fnOf; rw [h], hl⟩

/-- `(m', s', rs')` extends `(m, s, rs)`: old functions (up to the code of `__main`) and loop records, old scopes with
their flags, old frames with their parents, old closures and the id map on old function ids are kept. Whatever was
in order stays in order (`GoodFn.grow`, `VOk.grow`, `HOk.grow`, `LzOk.grow`, `RelF.ctx_grow`). `AdvF`
(Proofs/SimF2Enter.lean) is the special case that also keeps the control stacks. -/
structure ExtF (m : Nat → Nat) (s : St) (rs : Ref.St) (m' : Nat → Nat) (s' : St) (rs' : Ref.St) : Prop where
  fns : FnsKeep s s'
  scLen : s.scopes.length ≤ s'.scopes.length
  flags : ∀ i, i < s.scopes.length → isFnScope s' i = isFnScope s i
  ref : RExt rs rs'
  map : MExt s m m'

section
variable {m m' : Nat → Nat} {s s' : St} {rs rs' : Ref.St}

theorem ExtF.of_eq (hf : s'.fns = s.fns) (hsl : s.scopes.length ≤ s'.scopes.length)
    (hfl : ∀ i, i < s.scopes.length → isFnScope s' i = isFnScope s i) (hr : RExt rs rs')
    (hl : LoopsExt s s' := by exact ⟨Nat.le_refl _, fun _ _ => rfl⟩) : ExtF m s rs m s' rs' :=
  ⟨FnsKeep.of_fns_eq hf hl, hsl, hfl, hr, MExt.refl s m⟩

theorem GoodFn.grow {vid : Nat} (h : GoodFn m s rs vid) (E : ExtF m s rs m' s' rs') : GoodFn m' s' rs' vid :=
  h.mono E.fns E.scLen E.flags E.ref (E.map vid h.lt)

theorem VOk.grow {v : Val} (h : VOk m s rs v) (E : ExtF m s rs m' s' rs') : VOk m' s' rs' v :=
  ValIn.mono h fun _ hg => hg.grow E

theorem VOkN.grow {x : String} {v : Val} (h : VOkN m s rs x v) (E : ExtF m s rs m' s' rs') : VOkN m' s' rs' x v :=
  ValIn.mono h fun _ hg => hg.grow E

theorem HOk.grow {h : DataHeap} (hh : HOk m s rs h) (E : ExtF m s rs m' s' rs') : HOk m' s' rs' h :=
  HeapIn.mono hh fun _ hg => hg.grow E

theorem LzOk.grow {lz : LazyObj} {th : Ref.Thunk} (h : LzOk m s rs lz th) (E : ExtF m s rs m' s' rs') : LzOk m' s' rs' lz th :=
  h.mono E.fns E.scLen E.flags E.ref E.map

theorem LazyRel.grow (h : LazyRel m s rs) (E : ExtF m s rs m' s' rs') (hlz : s'.lazies = s.lazies := by rfl)
    (hth : rs'.thunks = rs.thunks := by rfl) : LazyRel m' s' rs' :=
  h.mono E.fns E.scLen E.flags E.ref E.map hlz hth

theorem RelF.ctx_grow {env : Nat} (h : RelF m s rs env) (E : ExtF m s rs m' s' rs') :
    ∃ k, ChainF (isFnScope s') rs'.frames k env s.linear ∧ FnChainF s' rs'.frames s.linear k s.curfunc :=
  h.ctx_mono E.fns E.scLen E.flags E.ref.1

/-- Scope `i` and frame `i` after a move: as before; or new — bindings related, values in order, a first-order
builtin name bound only (to itself) in the global frame, and a function scope is that of a template. -/
def EntryOk (m' : Nat → Nat) (s s' : St) (rs rs' : Ref.St) (i : Nat) : Prop :=
  (scopeOf s' i = scopeOf s i ∧ rs'.frames.getD i {} = rs.frames.getD i {}) ∨
  ((∀ x, (rs'.frames.getD i {}).vars.lookup x = ((scopeOf s' i).vars.lookup x).map (trf m')) ∧
   (∀ x v, (scopeOf s' i).vars.lookup x = some v → VOkN m' s' rs' x v) ∧
   (∀ h ∈ foBuiltins, (rs'.frames.getD i {}).vars.lookup h = if i = 0 then some (.builtin h) else none) ∧
   (isFnScope s' i = true → ∃ t, (scopeOf s' i).myFunction = some t ∧ (fnOf s' t).closing = [some 0]))

/-- **A move.** The tables are extended (`ExtF`), every scope/frame entry is kept or new and in order (`EntryOk`);
the caller supplies what is not entry by entry: the context of the new live stack, heap, trace and the lazy table. -/
theorem RelF.move {env env' : Nat} (h : RelF m s rs env) (E : ExtF m s rs m' s' rs')
    (hlen : s'.scopes.length = rs'.frames.length) (hent : ∀ i, EntryOk m' s s' rs rs' i) (hpar : ParOk rs'.frames)
    (hbot : s'.linear.getLast? = some (some 0))
    (hctx : ∃ k, ChainF (isFnScope s') rs'.frames k env' s'.linear ∧ FnChainF s' rs'.frames s'.linear k s'.curfunc)
    (hheap : rs'.heap = trHeap m' id id s'.heap) (hok : HOk m' s' rs' s'.heap) (htr : s'.trace = rs'.trace)
    (hlz : LazyRel m' s' rs') : RelF m' s' rs' env' := by
  obtain ⟨fr0, hf0, hp0, hfl0⟩ := h.root0
  obtain ⟨fr0', hf0', hp0'⟩ := E.ref.1 0 fr0 hf0
  have h0 : 0 < s.scopes.length := by rw [h.len]; exact lt_of_getElem?_some hf0
  refine ⟨hlen, fun i x => ?_, ⟨fr0', hf0', hp0'.trans hp0, by rw [E.flags 0 h0]; exact hfl0⟩, hpar, hbot, hctx,
    fun i hi => ?_, hheap, htr, fun name hn => ⟨?_, fun i hi => ?_⟩, fun i x v hv => ?_, hok, hlz⟩
  · rcases hent i with ⟨e1, e2⟩ | ⟨hv, -⟩
    · rw [e1, e2, h.vars i x]
      cases hl : (scopeOf s i).vars.lookup x with
      | none => rfl
      | some v => exact congrArg some ((h.vok i x v hl) m m' id id id id
          ⟨fun id hg => (E.map id hg.lt).symm, fun _ _ => rfl, fun _ _ => rfl⟩)
    · exact hv x
  · rcases hent i with ⟨e1, -⟩ | ⟨-, -, -, hf⟩
    · obtain ⟨t, h1, h2⟩ := h.fscopes i (by unfold isFnScope at hi ⊢; rw [← e1]; exact hi)
      have ht : t < s.fns.length := by
        rcases Nat.lt_or_ge t s.fns.length with ht | ht
        · exact ht
        · have : fnOf s t = {} := by simp [fnOf, List.getD_eq_getElem?_getD, List.getElem?_eq_none ht]
          rw [this] at h2; cases h2
      exact ⟨t, by rw [e1]; exact h1, by rw [E.fns.closing t ht]; exact h2⟩
    · exact hf hi
  · rcases hent 0 with ⟨-, e2⟩ | ⟨-, -, hg, -⟩
    · rw [e2]; exact (h.globals name hn).1
    · exact hg name hn
  · rcases hent i with ⟨-, e2⟩ | ⟨-, -, hg, -⟩
    · rw [e2]; exact (h.globals name hn).2 i hi
    · rw [hg name hn, if_neg (by omega)]
  · rcases hent i with ⟨e1, -⟩ | ⟨-, hv', -⟩
    · exact (h.vok i x v (by rw [← e1]; exact hv)).grow E
    · exact hv' x v hv


theorem entries_kept (m' : Nat → Nat) (hsc : s'.scopes = s.scopes) (hfr : rs'.frames = rs.frames) (i : Nat) :
    EntryOk m' s s' rs rs' i :=
  Or.inl ⟨by unfold scopeOf; rw [hsc], by rw [hfr]⟩

end

/-- **Carried along.** Scopes, live stack and current function stay; the function table grows
(`FnsKeep`), closures and the id map are extended; the heaps are whatever the caller shows related. -/
theorem RelF.transport {m m' : Nat → Nat} {s s' : St} {rs rs' : Ref.St} {env : Nat} (h : RelF m s rs env)
    (hsc : s'.scopes = s.scopes) (hlin : s'.linear = s.linear) (hcur : s'.curfunc = s.curfunc) (hk : FnsKeep s s')
    (hfr : rs'.frames = rs.frames) (hcl : ClosExt rs rs') (hm : MExt s m m')
    (hheap : rs'.heap = trHeap m' id id s'.heap) (hok : HOk m s rs s'.heap) (htr : s'.trace = rs'.trace)
    (hlz : s'.lazies = s.lazies := by rfl) (hth : rs'.thunks = rs.thunks := by rfl) : RelF m' s' rs' env := by
  have hfl : isFnScope s' = isFnScope s := by funext i; unfold isFnScope scopeOf; rw [hsc]
  have E : ExtF m s rs m' s' rs' := ⟨hk, by rw [hsc]; exact Nat.le_refl _, fun i _ => by rw [hfl],
    ⟨fun i fr hf => ⟨fr, by rw [hfr]; exact hf, rfl⟩, hcl⟩, hm⟩
  exact h.move E (by rw [hsc, hfr]; exact h.len) (entries_kept m' hsc hfr) (by rw [hfr]; exact h.par)
    (by rw [hlin]; exact h.bottom) (by rw [hlin, hcur]; exact h.ctx_grow E) hheap (hok.grow E) htr (h.lz.grow E hlz hth)

theorem RelF.grow {m m' : Nat → Nat} {s s' : St} {rs rs' : Ref.St} {env : Nat} (h : RelF m s rs env)
    (hsc : s'.scopes = s.scopes) (hlin : s'.linear = s.linear) (hcur : s'.curfunc = s.curfunc)
    (hheap : s'.heap = s.heap) (htr : s'.trace = rs'.trace) (hk : FnsKeep s s')
    (hfr : rs'.frames = rs.frames) (hrh : rs'.heap = rs.heap) (hcl : ClosExt rs rs')
    (hm : MExt s m m') (hlz : s'.lazies = s.lazies := by rfl) (hth : rs'.thunks = rs.thunks := by rfl) : RelF m' s' rs' env :=
  h.transport hsc hlin hcur hk hfr hcl hm (by rw [hrh, hheap, h.heap]; exact (HOk.tr_ext h.hok hm).symm)
    (by rw [hheap]; exact h.hok) htr hlz hth

theorem RelF.of_same {m : Nat → Nat} {s s' : St} {rs rs' : Ref.St} {env : Nat} (h : RelF m s rs env)
    (hsc : s'.scopes = s.scopes) (hlin : s'.linear = s.linear) (hfns : s'.fns = s.fns) (hcur : s'.curfunc = s.curfunc)
    (hfr : rs'.frames = rs.frames) (hcl : rs'.clos = rs.clos) (hheap : rs'.heap = trHeap m id id s'.heap)
    (htr : s'.trace = rs'.trace) (hok : HOk m s rs s'.heap)
    (hloops : LoopsExt s s' := by exact ⟨Nat.le_refl _, fun _ _ => rfl⟩)
    (hlz : s'.lazies = s.lazies := by rfl) (hth : rs'.thunks = rs.thunks := by rfl) : RelF m s' rs' env :=
  h.transport hsc hlin hcur (FnsKeep.of_fns_eq hfns hloops) hfr (fun i c hc => by rw [hcl]; exact hc) (MExt.refl s m)
    hheap hok htr hlz hth

/-- the state seen as running function `f` (inside a Go builtin the relation is stated for the function that called it) -/
def _root_.ZygoVerif.VM.St.withCur (s : St) (f : Nat) : St := { s with curfunc := f }

theorem withCur_self {s : St} {f : Nat} (h : s.curfunc = f) : s.withCur f = s := by
  subst h; rfl

theorem RelF.jmp {m s rs env} (h : RelF m s rs env) (p : Int) (d : List (Option Val)) : RelF m (s.jmp p d) rs env :=
  h.of_same rfl rfl rfl rfl rfl rfl h.heap h.trace h.hok

def allocThunkR (rs : Ref.St) (e : Expr) (env : Nat) : Ref.St :=
  { rs with thunks := rs.thunks ++ [{ e, env, value := none }] }

/-- **A lazy argument**: both evaluators record the expression and where it was written -/
theorem RelF.allocLazy {m s rs env} (h : RelF m s rs env) (e : Expr) (he : Ff false "" e = true) :
    RelF m (C16.allocThunk e s) (allocThunkR rs e env) env := by
  have E : ExtF m s rs m (C16.allocThunk e s) (allocThunkR rs e env) :=
    ExtF.of_eq rfl (Nat.le_refl _) (fun _ _ => rfl) ⟨fun i fr hf => ⟨fr, hf, rfl⟩, fun _ _ hc' => hc'⟩
  obtain ⟨k, hc, hfc⟩ := h.ctx_grow E
  refine h.move E h.len (entries_kept m rfl rfl) h.par h.bottom ⟨k, hc, hfc⟩ h.heap (h.hok.grow E) h.trace ⟨?_, ?_⟩
  · show (s.lazies ++ [_]).length = (rs.thunks ++ [_]).length
    simp [h.lz.1]
  · intro id lz hl
    have hl' : (s.lazies ++ [({ e, stack := s.linear, curfunc := s.curfunc, value := none } : LazyObj)])[id]? = some lz := hl
    by_cases hid : id < s.lazies.length
    · rw [List.getElem?_append_left hid] at hl'
      obtain ⟨th, h1, h2⟩ := h.lz.2 id lz hl'
      refine ⟨th, ?_, h2.grow E⟩
      show (rs.thunks ++ [_])[id]? = some th
      rw [List.getElem?_append_left (by rw [← h.lz.1]; exact hid)]; exact h1
    · have hge : s.lazies.length ≤ id := Nat.le_of_not_lt hid
      rw [List.getElem?_append_right hge] at hl'
      have hid0 : id - s.lazies.length = 0 := by
        rcases Nat.eq_zero_or_pos (id - s.lazies.length) with h0 | h0
        · exact h0
        · rw [List.getElem?_eq_none (by simp; omega)] at hl'; cases hl'
      rw [hid0] at hl'
      simp only [List.getElem?_cons_zero, Option.some.injEq] at hl'
      subst hl'
      refine ⟨{ e, env, value := none }, ?_, ⟨rfl, (fun v hv => by cases hv), fun _ => ⟨rfl, he, ?_⟩⟩⟩
      · show (rs.thunks ++ [_])[id]? = _
        rw [List.getElem?_append_right (by rw [← h.lz.1]; exact hge), ← h.lz.1, hid0]; rfl
      · exact ⟨by show env < s.scopes.length; rw [h.len]; exact hc.lt, h.bottom, k, hc, hfc⟩

/-- the relation after `LoadExpressions`: more functions, new code in `__main`, the trace cleared -/
theorem RelF.load {m : Nat → Nat} {s s' : St} {rs : Ref.St} {env : Nat} (h : RelF m s rs env)
    (hsc : s'.scopes = s.scopes) (hlin : s'.linear = s.linear) (hcur : s'.curfunc = s.curfunc)
    (hheap : s'.heap = s.heap) (htr : s'.trace = []) (hk : FnsKeep s s') (hlz : s'.lazies = s.lazies := by rfl) :
    RelF m s' { rs with trace := [] } env :=
  h.grow hsc hlin hcur hheap htr hk rfl rfl (ClosExt.refl rs) (MExt.refl s m) hlz rfl

theorem okName_binder {x : String} (h : okName x = true) : okBinder x = true := by
  unfold okName at h; simp only [Bool.and_eq_true] at h; exact h.1

theorem okName_sym {x : String} (h : okName x = true) : okSym x = true := by
  unfold okName at h; simp only [Bool.and_eq_true] at h; exact h.2

theorem setVar_clos (rs : Ref.St) (id : Nat) (x : String) (v : Val) : (Ref.setVar rs id x v).clos = rs.clos := by
  unfold Ref.setVar; split <;> rfl

theorem setVar_heap (rs : Ref.St) (id : Nat) (x : String) (v : Val) : (Ref.setVar rs id x v).heap = rs.heap := by
  unfold Ref.setVar; split <;> rfl

theorem setVar_trace (rs : Ref.St) (id : Nat) (x : String) (v : Val) : (Ref.setVar rs id x v).trace = rs.trace := by
  unfold Ref.setVar; split <;> rfl

theorem ParOk.set {frames : List Ref.Frame} (h : ParOk frames) (id : Nat) (fr0 : Ref.Frame)
    (h0 : frames[id]? = some fr0) (vars : List (String × Val)) : ParOk (frames.set id { fr0 with vars := vars }) := by
  intro i fr hf p hp
  by_cases hi : id = i
  · subst hi
    rw [List.getElem?_set_self (lt_of_getElem?_some h0)] at hf
    injection hf with hf; subst hf
    exact h id fr0 h0 p hp
  · rw [List.getElem?_set_ne hi] at hf
    exact h i fr hf p hp

theorem ExtF.bind (m : Nat → Nat) (s : St) (rs : Ref.St) (id : Nat) (x : String) (v w : Val) :
    ExtF m s rs m (s.bind id x v) (Ref.setVar rs id x w) :=
  ExtF.of_eq rfl (FrameF.bind s id x v).scLen (FrameF.bind s id x v).flags
    ⟨FramesExt.setVar rs id x w, fun i c hc => by rw [setVar_clos]; exact hc⟩

/-- Binding `x := v` in scope `id` / `x := tr v` in frame `id` keeps the relation. -/
theorem RelF.bind {m : Nat → Nat} {s : St} {rs : Ref.St} {env : Nat} (h : RelF m s rs env) (id : Nat) (hid : id < rs.frames.length) {x : String}
    (hx : okName x = true) {v : Val} (hv : VOk m s rs v) :
    RelF m (s.bind id x v) (Ref.setVar rs id x (trf m v)) env := by
  have E := ExtF.bind m s rs id x v (trf m v)
  obtain ⟨fr, hfr⟩ : ∃ fr, rs.frames[id]? = some fr := ⟨rs.frames[id], by simp [hid]⟩
  have hset : Ref.setVar rs id x (trf m v)
      = { rs with frames := rs.frames.set id { fr with vars := VM.assocSet fr.vars x (trf m v) } } := by
    unfold Ref.setVar; rw [hfr]; rfl
  rw [hset] at E ⊢
  have hlen : id < s.scopes.length := by rw [h.len]; exact hid
  have hvid := fun y => h.vars id y
  simp only [List.getD_eq_getElem?_getD, hfr, Option.getD_some] at hvid
  refine h.move E (by show (s.scopes.set id _).length = (rs.frames.set id _).length; simp [h.len])
    (fun i => ?_) (h.par.set id fr hfr _) h.bottom (h.ctx_grow E) h.heap (h.hok.grow E) h.trace (h.lz.grow E)
  rw [EntryOk, scopeOf_bind]
  by_cases hi : i = id
  · subst hi
    have hget : (rs.frames.set i { fr with vars := VM.assocSet fr.vars x (trf m v) }).getD i {}
        = { fr with vars := VM.assocSet fr.vars x (trf m v) } := by
      simp only [List.getD_eq_getElem?_getD, List.getElem?_set_self hid, Option.getD_some]
    refine Or.inr ⟨fun y => ?_, fun y w hw => ?_, fun name hn => ?_, fun hi => ?_⟩
    · show ((rs.frames.set i _).getD i {}).vars.lookup y = _
      simp only [hget, hlen, and_self, if_true, lookup_assocSet, hvid]; split <;> rfl
    · simp only [hlen, and_self, if_true, lookup_assocSet] at hw
      split at hw
      · injection hw with hw; subst hw; exact (hv.named y).grow E
      · exact (h.vok i y w hw).grow E
    · have := h.globals name hn
      show ((rs.frames.set i _).getD i {}).vars.lookup name = _
      simp only [hget, lookup_assocSet, okBinder_ne (okName_binder hx) hn, Bool.false_eq_true, if_false]
      split
      · rename_i h0; subst h0; rw [← this.1, List.getD_eq_getElem?_getD, hfr]; rfl
      · rw [← this.2 i (by omega), List.getD_eq_getElem?_getD, hfr]; rfl
    · rw [isFnScope_bind] at hi
      simp only [hlen, and_self, if_true]
      exact h.fscopes i hi
  · have hi' : ¬ id = i := fun e => hi e.symm
    exact Or.inl ⟨by simp only [hi, false_and, if_false], by
      show (rs.frames.set id _).getD i {} = _
      simp only [List.getD_eq_getElem?_getD, List.getElem?_set_ne hi']⟩


theorem getLast?_cons_ne {α} (a : α) {l : List α} (h : l ≠ []) : (a :: l).getLast? = l.getLast? := by
  cases l with
  | nil => exact absurd rfl h
  | cons b t => simp [List.getLast?_cons_cons]

theorem chain_trims {isFn : Nat → Bool} {frames : List Ref.Frame} :
    ∀ {k env lin}, ChainF isFn frames k env lin → lin.getLast? = some (some 0) → Scope.trims isFn lin = k.isSome := by
  intro k env lin h
  induction h with
  | root fr hf hp hfl0 =>
    intro _
    have e : Scope.isFnElem isFn (some 0) = false := hfl0
    simp only [Scope.trims, e, Bool.false_eq_true, if_false, Option.isSome_none]
  | cons k env p fr rest hf hp hlt hfl0 hrest ih =>
    intro hl
    have e : Scope.isFnElem isFn (some env) = false := hfl0
    obtain ⟨r', hr'⟩ := hrest.head
    have hne : rest ≠ [] := by rw [hr']; simp
    simp only [Scope.trims, e, Bool.false_eq_true, if_false]
    exact ih (by rw [getLast?_cons_ne _ hne] at hl; exact hl)
  | fn env p fr below hf hp hlt hfl0 =>
    intro hl
    have e : Scope.isFnElem isFn (some env) = true := hfl0
    simp only [Scope.trims, e, if_true, Option.isSome_some]
    cases below with
    | nil =>
      simp only [List.getLast?_singleton, Option.some.injEq] at hl
      omega
    | cons _ _ => rfl

theorem chain_ttb_top {isFn : Nat → Bool} {frames : List Ref.Frame} :
    ∀ {k env lin}, ChainF isFn frames k env lin → k = none → Scope.takeToBoundary isFn lin = lin := by
  intro k env lin h
  induction h with
  | root fr hf hp hfl0 =>
    intro _
    have e : Scope.isFnElem isFn (some 0) = false := hfl0
    simp only [Scope.takeToBoundary, e, Bool.false_eq_true, if_false]
  | cons k env p fr rest hf hp hlt hfl0 _ ih =>
    intro hb
    have e : Scope.isFnElem isFn (some env) = false := hfl0
    simp only [Scope.takeToBoundary, e, Bool.false_eq_true, if_false, ih hb]
  | fn env p fr below hf hp hlt hfl0 => intro hb; cases hb

/-- what a new closure or helper function captures is the top segment of the live stack -/
theorem closingNow_topSeg {s : St} {frames : List Ref.Frame} {k env}
    (h : ChainF (isFnScope s) frames k env s.linear) (hb : s.linear.getLast? = some (some 0)) :
    closingNow s = topSeg s := by
  unfold closingNow topSeg
  rw [Scope.newClosing_eq, chain_trims h hb]
  cases k with
  | some p => rfl
  | none => simp only [Option.isSome_none, Bool.false_eq_true, if_false]; exact (chain_ttb_top h rfl).symm

theorem fns_ne_nil_of_lt {s : St} {f : Nat} (h : f < s.fns.length) : s.fns ≠ [] :=
  fun e => by rw [e] at h; cases h

/-- inside the helper function of an operand the scopes are the same -/
theorem relF_inHelper {m : Nat → Nat} {s : St} {rs : Ref.St} {env : Nat} (h : RelF m s rs env) (code : List Instr) :
    RelF m (inHelper s code) rs env := by
  obtain ⟨_, _, hfc⟩ := h.ctx
  have E : ExtF m s rs m (inHelper s code) rs :=
    ⟨FnsKeep.of_eq (by show s.fns.length ≤ (s.fns ++ [_]).length; simp) (fun id hid => fnOf_inHelper_old s code id hid)
      (by have := fns_ne_nil_of_lt hfc.lt; cases hs : s.fns with | nil => exact absurd hs this | cons _ _ => simp [mainFn]),
     Nat.le_refl _, fun _ _ => rfl, RExt.refl rs, MExt.refl s m⟩
  obtain ⟨k, hc, hold⟩ := h.ctx_grow E
  refine h.move E h.len (entries_kept m rfl rfl) h.par h.bottom ⟨k, hc, ?_⟩ h.heap (h.hok.grow E) h.trace (h.lz.grow E)
  refine FnChainF.step s.linear k _ s.curfunc (by show s.fns.length < (s.fns ++ [_]).length; simp) ?_ hfc.lt ?_ hold
  · rw [fnOf_inHelper_self]; rfl
  · rw [fnOf_inHelper_self]
    exact ⟨[], by show topSeg s = [] ++ closingNow s; rw [closingNow_topSeg (s := s) hc h.bottom]; rfl⟩

/-- **Back in the caller.** `s` is related (before a nested run or a call); `s₄` is related after it,
in whatever environment and function it ended; `s₅` is `s₄` with the caller's live stack and current
function again. Old scopes kept their flags, old functions are unchanged, old frames their parents:
then `s₅` is related in the caller's environment. -/
theorem RelF.back {m m₄ : Nat → Nat} {s s₄ s₅ : St} {rs rs₄ : Ref.St} {env env₄ : Nat}
    (hrel : RelF m s rs env) (rel4 : RelF m₄ s₄ rs₄ env₄)
    (hsc : s₅.scopes = s₄.scopes) (hfns : s₅.fns = s₄.fns) (hheap : s₅.heap = s₄.heap) (htr : s₅.trace = s₄.trace)
    (hlin : s₅.linear = s.linear) (hcur : s₅.curfunc = s.curfunc)
    (hflags : ∀ i, i < s.scopes.length → isFnScope s₄ i = isFnScope s i)
    (hfl : s.fns.length ≤ s₄.fns.length) (hfo : ∀ id, id < s.fns.length → fnOf s₄ id = fnOf s id)
    (hext : FramesExt rs rs₄) (hle : LoopsExt s s₄) (hloops : s₅.loops = s₄.loops := by rfl)
    (hlz : s₅.lazies = s₄.lazies := by rfl) : RelF m₄ s₅ rs₄ env := by
  have hfl5 : isFnScope s₅ = isFnScope s₄ := by funext i; unfold isFnScope scopeOf; rw [hsc]
  have E45 : ExtF m₄ s₄ rs₄ m₄ s₅ rs₄ :=
    ExtF.of_eq hfns (by rw [hsc]; exact Nat.le_refl _) (fun i _ => by rw [hfl5]) (RExt.refl _) (LoopsExt.of_eq hloops)
  have hk5 : FnsKeep s s₅ :=
    FnsKeep.of_eq (by rw [hfns]; exact hfl) (fun id hid => by unfold fnOf; rw [hfns]; exact hfo id hid)
      (by obtain ⟨_, _, hfc⟩ := hrel.ctx
          have := fns_ne_nil_of_lt hfc.lt; cases hs : s.fns with | nil => exact absurd hs this | cons _ _ => simp [mainFn])
      (by unfold LoopsExt; rw [hloops]; exact hle)
  have hsl5 : s.scopes.length ≤ s₅.scopes.length := by
    rw [hsc, rel4.len, hrel.len]
    refine Nat.le_of_not_lt (fun hlt => ?_)
    obtain ⟨fr', hf', _⟩ := hext rs₄.frames.length (rs.frames[rs₄.frames.length]) (by simp [hlt])
    have := lt_of_getElem?_some hf'
    omega
  exact rel4.move E45 (by rw [hsc]; exact rel4.len) (entries_kept m₄ hsc rfl) rel4.par (by rw [hlin]; exact hrel.bottom)
    (by rw [hlin, hcur]; exact hrel.ctx_mono hk5 hsl5 (fun i hi => by rw [hfl5]; exact hflags i hi) hext)
    (by rw [hheap]; exact rel4.heap) (by rw [hheap]; exact rel4.hok.grow E45) (by rw [htr]; exact rel4.trace)
    (rel4.lz.grow E45 hlz rfl)

end ZygoVerif.Sim
