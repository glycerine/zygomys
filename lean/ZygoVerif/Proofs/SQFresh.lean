/-
Lemmas behind Props/C15, each one use of the induction over the code of written templates
(`gen_induct`, Proofs/SQ.lean):

* `gen_plain` (`genSQ_plain` …) — the code of a template never pushes a value that holds an array
  or a hash: the only `PushInstr{expr}` of a container would be the literal object of the syntax
  tree, shared by all evaluations.
* `gen_pushes` (`itemsA_ok` …) — the marker discipline, on the machine that also reports its
  allocations (`runA`): the code of a template element, run on any stack, leaves that stack untouched,
  pushes exactly the element's items (`Subst.items`) and allocates exactly the containers `Subst.built`
  lists — one `vectorize` / `hashize` per array / hash sub-template, innermost first.
* `items_ok` … — the same on the machine of `Model/SQ.lean`, which is `runA` with the report
  dropped (`exec_eq_execA`).
-/
import ZygoVerif.Model.SQ
import ZygoVerif.Spec.Subst
import ZygoVerif.Proofs.SQ
namespace ZygoVerif.SQ
open ZygoVerif.Subst

/-- every value the code pushes with `PushInstr` is free of arrays and hashes -/
def PushesPlain (c : List Instr) : Prop := ∀ v, Instr.push v ∈ c → hasContainer v = false

theorem pushesPlain_nil : PushesPlain [] := by
  intro v h; simp at h

theorem pushesPlain_append {a b : List Instr} (ha : PushesPlain a) (hb : PushesPlain b) :
    PushesPlain (a ++ b) := by
  intro v h
  rcases List.mem_append.mp h with h | h
  · exact ha v h
  · exact hb v h

theorem pushesPlain_cons {i : Instr} {a : List Instr} (hi : ∀ v, i = .push v → hasContainer v = false)
    (ha : PushesPlain a) : PushesPlain (i :: a) := by
  intro v h
  rcases List.mem_cons.mp h with h | h
  · exact hi v h.symm
  · exact ha v h

theorem plain_sq : PushesPlain [Instr.squash] := by
  intro v h; simp at h
theorem plain_sqx : PushesPlain [Instr.squash, Instr.explode] := by
  intro v h; simp at h
theorem plain_vec : PushesPlain [Instr.vectorize] := by
  intro v h; simp at h
theorem plain_hz (ty : String) : PushesPlain [Instr.hashize ty] := by
  intro v h; simp at h

def Plain (c : Option (List Instr)) : Prop := ∀ l, c = some l → PushesPlain l

theorem Plain.seq {a b : Option (List Instr)} (ha : Plain a) (hb : Plain b) : Plain (seqC a b) := by
  intro l h
  simp only [seqC, bind, Option.bind_eq_some_iff, Option.some.injEq] at h
  obtain ⟨x, rfl, y, rfl, rfl⟩ := h
  exact pushesPlain_append (ha x rfl) (hb y rfl)

theorem Plain.frame {c : Option (List Instr)} (h : Plain c) {tl : List Instr} (htl : PushesPlain tl) :
    Plain (frameC tl c) := by
  intro l hl
  simp only [frameC, Option.map_eq_some_iff] at hl
  obtain ⟨a, rfl, rfl⟩ := hl
  exact pushesPlain_cons (by intro v h; cases h) (pushesPlain_append (h a rfl) htl)

theorem Plain.one {i : Instr} (hi : ∀ v, i = .push v → hasContainer v = false) : Plain (some [i]) := by
  intro l h; cases h; exact pushesPlain_cons hi pushesPlain_nil

theorem Plain.ite {c : Prop} [Decidable c] {l : List Instr} (h : PushesPlain l) : Plain (if c then some l else none) := by
  intro l' h'; split at h' <;> cases h'; exact h

theorem gen_plain (H : Host) :
    (∀ t : Tmpl, t.WF = true → Plain (genSQ H t.toSexp))
    ∧ (∀ ts, wfL ts = true → Plain (genListBody H (toSexpL ts)))
    ∧ (∀ ts, wfL ts = true → Plain (genArrBody H (toSexpL ts))) :=
  gen_induct H (P := fun _ => Plain) (PS := fun _ => Plain)
    (fun _ => Plain.one (by rintro v ⟨⟩; rfl)) (fun _ => Plain.ite (by intro v h; simp at h))
    (fun _ => Plain.ite (by intro v h; simp at h)) (Plain.one (by rintro v ⟨⟩; rfl))
    (fun _ _ _ _ h hs => (h.seq hs).frame plain_sq) (fun _ _ h => h.frame plain_vec)
    (fun ty _ _ h => h.frame (plain_hz ty))
    (fun _ h => by cases h; exact pushesPlain_nil) (fun _ _ _ _ h hs => h.seq hs)
    (fun _ _ h => h.frame plain_sqx)

theorem genSQ_plain (H : Host) : (t : Tmpl) → t.WF = true → ∀ c, genSQ H t.toSexp = some c → PushesPlain c :=
  (gen_plain H).1
theorem genListBody_plain (H : Host) : (ts : List Tmpl) → wfL ts = true →
    ∀ c, genListBody H (toSexpL ts) = some c → PushesPlain c := (gen_plain H).2.1
theorem genArrBody_plain (H : Host) : (ts : List Tmpl) → wfL ts = true →
    ∀ c, genArrBody H (toSexpL ts) = some c → PushesPlain c := (gen_plain H).2.2
theorem genHashBody_plain (H : Host) : (kvs : List (Tmpl × Tmpl)) → wfKV kvs = true →
    ∀ c, genHashBody H (toSexpKV kvs) = some c → PushesPlain c := fun kvs wf =>
  genHashBody_flat H kvs ▸ genArrBody_plain H (flat kvs) (wfKV_flat kvs ▸ wf)

def execA (H : Host) (c : Option (List Instr)) (st : Stack) : Option (Stack × List Sexp) :=
  c.bind (fun c => runA H c st)

theorem stepA_fst (H : Host) (i : Instr) (st : Stack) :
    (stepA H i st).map (·.1) = step H i st := by
  cases i with
  | vectorize =>
    simp only [stepA, step]
    cases popToMarker st <;> simp
  | hashize ty =>
    simp only [stepA, step]
    cases hp : popToMarker st with
    | none => simp
    | some p => cases hm : H.mkHash ty p.1.reverse <;> simp [hm]
  | push v => simp [stepA, step]
  | marker => simp [stepA, step]
  | eval e => simp only [stepA]; cases step H (.eval e) st <;> simp
  | explode => simp only [stepA]; cases step H .explode st <;> simp
  | squash => simp only [stepA]; cases step H .squash st <;> simp

theorem runA_fst (H : Host) (c : List Instr) (st : Stack) :
    (runA H c st).map (·.1) = run H c st := by
  induction c generalizing st with
  | nil => simp [runA, run]
  | cons i is ih =>
    simp only [runA, run, ← stepA_fst H i st]
    cases hs : stepA H i st with
    | none => simp
    | some p =>
      simp only [Option.bind_some, Option.map_some]
      rw [← ih p.1]
      cases runA H is p.1 <;> simp

theorem runA_append (H : Host) (a b : List Instr) (st : Stack) :
    runA H (a ++ b) st
      = (runA H a st).bind (fun p => (runA H b p.1).map (fun q => (q.1, p.2 ++ q.2))) := by
  induction a generalizing st with
  | nil =>
    simp only [List.nil_append, runA, Option.bind_some, List.nil_append]
    cases runA H b st <;> simp
  | cons i is ih =>
    simp only [List.cons_append, runA]
    cases stepA H i st with
    | none => simp
    | some p =>
      simp only [Option.bind_some, ih]
      cases runA H is p.1 with
      | none => simp
      | some q =>
        simp only [Option.bind_some, Option.map_some]
        cases runA H b q.1 <;> simp [List.append_assoc]

/-- what a piece of code is expected to do: the items it pushes, the containers it allocates -/
abbrev Res := Option (List Sexp × List Sexp)

/-- `c` pushes the items and allocates the containers of `r`, on every stack; it fails
exactly when `r` is undefined -/
def Pushes (H : Host) (c : Option (List Instr)) (r : Res) : Prop :=
  ∀ st, execA H c st = r.map (fun p => (pushAll p.1 st, p.2))

def seqR (a b : Res) : Res := a.bind (fun p => b.map (fun q => (p.1 ++ q.1, p.2 ++ q.2)))

theorem pushes_seq (H : Host) (ca cb : Option (List Instr)) (ra rb : Res)
    (ha : Pushes H ca ra) (hb : Pushes H cb rb) :
    Pushes H (do let a ← ca; let b ← cb; some (a ++ b)) (seqR ra rb) := by
  intro st
  cases ca with
  | none =>
    have := ha st
    cases ra with
    | none => simp [execA, seqR]
    | some p => simp [execA] at this
  | some a =>
    cases cb with
    | none =>
      have h2 := hb
      cases rb with
      | none =>
        cases ra <;> simp [execA, seqR]
      | some q => have := h2 st; simp [execA] at this
    | some b =>
      have h1 := ha st
      simp only [execA, Option.bind_eq_bind, Option.bind_some] at h1 ⊢
      rw [runA_append, h1]
      cases ra with
      | none => simp [seqR]
      | some p =>
        have h2 := hb (pushAll p.1 st)
        simp only [execA, Option.bind_some] at h2
        simp only [Option.map_some, Option.bind_some, h2, seqR]
        cases rb with
        | none => simp
        | some q => simp [pushAll_append]

theorem runA_marker_frame (H : Host) (a tl : List Instr) (st : Stack) :
    runA H (.marker :: a ++ tl) st
      = (runA H a (.marker :: st)).bind (fun p => (runA H tl p.1).map (fun q => (q.1, p.2 ++ q.2))) := by
  simp only [List.cons_append, runA, stepA, step, Option.map_some, Option.bind_some, runA_append]
  cases runA H a (Elem.marker :: st) with
  | none => simp
  | some p => simp [Function.comp_def]

/-- the result of a marker frame: `k` says what the code after the items makes of them, on top of
what the items allocated -/
def closeR (k : List Sexp → Res) (r : Res) : Res := r.bind fun p => (k p.1).map fun q => (q.1, p.2 ++ q.2)

theorem closeR_pure (r : Res) : closeR (fun xs => some (xs, [])) r = r := by
  cases r <;> simp [closeR]

/-- `marker; code; tl`: the code pushes its items over the marker, and `tl` makes of them, on any
stack, the items and allocations `k` says — or fails where `k` is undefined. -/
theorem pushes_framed (H : Host) (tl : List Instr) (k : List Sexp → Res)
    (htl : ∀ xs st, runA H tl (pushAll xs (.marker :: st)) = (k xs).map (fun q => (pushAll q.1 st, q.2)))
    (c : Option (List Instr)) (r : Res) (h : Pushes H c r) : Pushes H (frameC tl c) (closeR k r) := by
  intro st
  cases c with
  | none =>
    have := h st
    cases r with
    | none => rfl
    | some p => simp [execA] at this
  | some a =>
    have h1 := h (.marker :: st)
    simp only [execA, frameC, Option.bind_some, Option.map_some] at h1 ⊢
    rw [runA_marker_frame, h1]
    cases r with
    | none => rfl
    | some p => simp only [closeR, Option.map_some, Option.bind_some, htl]; cases k p.1 <;> rfl

theorem pushes_frame (H : Host) (c : Option (List Instr)) (r : Res) (h : Pushes H c r) :
    Pushes H (c.map (fun a => .marker :: a ++ [.squash, .explode])) r :=
  closeR_pure r ▸ pushes_framed H [.squash, .explode] (fun xs => some (xs, []))
    (by simp [runA, stepA, step, popToMarker_pushAll, listToArray_mkList]) c r h

theorem pushes_list_frame (H : Host) (c : Option (List Instr)) (r : Res) (h : Pushes H c r) :
    Pushes H (frameC [.squash] c) (closeR (fun xs => some ([mkList xs], [])) r) :=
  pushes_framed H _ _ (by simp [runA, stepA, step, popToMarker_pushAll, pushAll_single]) c r h

/-- `vectorize`: one allocation, after those of the elements -/
theorem pushes_vec_frame (H : Host) (c : Option (List Instr)) (r : Res) (h : Pushes H c r) :
    Pushes H (frameC [.vectorize] c) (closeR (fun xs => some ([.arr (mkList xs)], [.arr (mkList xs)])) r) :=
  pushes_framed H _ _ (by simp [runA, stepA, popToMarker_pushAll, pushAll_single]) c r h

theorem pushes_hash_frame (H : Host) (ty : String) (c : Option (List Instr)) (r : Res) (h : Pushes H c r) :
    Pushes H (frameC [.hashize ty] c) (closeR (fun xs => (H.mkHash ty xs).map fun hh => ([hh], [hh])) r) :=
  pushes_framed H _ _ (fun xs st => by
    simp only [runA, stepA, popToMarker_pushAll, Option.bind_some, List.reverse_reverse]
    cases H.mkHash ty xs <;> simp [pushAll_single]) c r h

def IB (ρ : Binding) (t : Tmpl) : Res := (items ρ t).bind (fun xs => (built ρ t).map (fun b => (xs, b)))
def IBL (ρ : Binding) (ts : List Tmpl) : Res := (itemsL ρ ts).bind (fun xs => (builtL ρ ts).map (fun b => (xs, b)))
def IBKV (ρ : Binding) (kvs : List (Tmpl × Tmpl)) : Res :=
  (itemsKV ρ kvs).bind (fun xs => (builtKV ρ kvs).map (fun b => (xs, b)))

theorem IBL_nil (ρ : Binding) : IBL ρ [] = some ([], []) := by simp [IBL, itemsL, builtL]

/-- Pairing and sequencing commute: running two paired computations one after the other pairs
the two sequenced halves. -/
theorem seqR_pair {α β} (a c : Option (List α)) (b d : Option (List β)) :
    (a.bind fun x => b.map fun y => (x, y)).bind (fun p =>
        (c.bind fun x => d.map fun y => (x, y)).map (fun q => (p.1 ++ q.1, p.2 ++ q.2)))
      = (do let x ← a; let y ← c; some (x ++ y)).bind fun x =>
          (do let x ← b; let y ← d; some (x ++ y)).map fun y => (x, y) := by
  cases a <;> cases b <;> cases c <;> cases d <;> rfl

theorem IBL_cons (ρ : Binding) (t : Tmpl) (ts : List Tmpl) :
    IBL ρ (t :: ts) = seqR (IB ρ t) (IBL ρ ts) := (seqR_pair _ _ _ _).symm

theorem itemsKV_flat (ρ : Binding) (kvs : List (Tmpl × Tmpl)) : itemsKV ρ kvs = itemsL ρ (flat kvs) := by
  induction kvs with
  | nil => rfl
  | cons p r ih => obtain ⟨k, v⟩ := p; simp only [itemsKV, flat, itemsL, kv_items_shape, ih]

theorem builtKV_flat (ρ : Binding) (kvs : List (Tmpl × Tmpl)) : builtKV ρ kvs = builtL ρ (flat kvs) := by
  induction kvs with
  | nil => rfl
  | cons p r ih => obtain ⟨k, v⟩ := p; simp only [builtKV, flat, builtL, kv_items_shape, ih]

theorem IBKV_flat (ρ : Binding) (kvs : List (Tmpl × Tmpl)) : IBKV ρ kvs = IBL ρ (flat kvs) := by
  rw [IBKV, IBL, itemsKV_flat, builtKV_flat]

theorem IB_list (ρ : Binding) (ts : List Tmpl) :
    IB ρ (.list ts) = closeR (fun xs => some ([mkList xs], [])) (IBL ρ ts) := by
  simp only [IB, IBL, closeR, items, built, ofList_eq]
  cases itemsL ρ ts <;> cases builtL ρ ts <;> simp

theorem IB_arr (ρ : Binding) (ts : List Tmpl) :
    IB ρ (.arr ts) = closeR (fun xs => some ([.arr (mkList xs)], [.arr (mkList xs)])) (IBL ρ ts) := by
  simp only [IB, IBL, closeR, items, built, ofList_eq]
  cases itemsL ρ ts <;> cases builtL ρ ts <;> simp

theorem IB_hash (ρ : Binding) (ty : String) (kvs : List (Tmpl × Tmpl)) :
    IB ρ (.hash ty kvs) = closeR (fun xs => (ρ.mkHash ty xs).map fun hh => ([hh], [hh])) (IBKV ρ kvs) := by
  simp only [IB, IBKV, closeR, items, built]
  cases hi : itemsKV ρ kvs with
  | none => simp
  | some xs =>
    cases hb : builtKV ρ kvs with
    | none => cases ρ.mkHash ty xs <;> simp
    | some b => cases hm : ρ.mkHash ty xs <;> simp [hm]

theorem list_shapeA (ca cb : Option (List Instr)) :
    (do let a ← ca; let b ← cb; some (Instr.marker :: a ++ b ++ [Instr.squash]))
      = (do let a ← ca; let b ← cb; some (a ++ b)).map (fun x => Instr.marker :: x ++ [Instr.squash]) :=
  list_shape ca cb

theorem gen_pushes (H : Host) :
    (∀ t : Tmpl, t.WF = true → Pushes H (genSQ H t.toSexp) (IB (toBinding H) t))
    ∧ (∀ ts, wfL ts = true → Pushes H (genListBody H (toSexpL ts)) (IBL (toBinding H) ts))
    ∧ (∀ ts, wfL ts = true → Pushes H (genArrBody H (toSexpL ts)) (IBL (toBinding H) ts)) := by
  refine gen_induct H (P := fun t c => Pushes H c (IB (toBinding H) t))
    (PS := fun ts c => Pushes H c (IBL (toBinding H) ts)) ?_ ?_ ?_ ?_
    (fun _ _ _ _ h hs => IB_list .. ▸ IBL_cons .. ▸ pushes_list_frame H _ _ (pushes_seq H _ _ _ _ h hs))
    (fun _ _ h => IB_arr .. ▸ pushes_vec_frame H _ _ h)
    (fun ty kvs _ h => by rw [IB_hash, IBKV_flat]; exact pushes_hash_frame H ty _ _ h)
    (fun st => by simp [IBL_nil, execA, runA, pushAll])
    (fun _ _ _ _ h hs => IBL_cons .. ▸ pushes_seq H _ _ _ _ h hs)
    (fun _ _ h => pushes_frame H _ _ h)
  · intro a st
    simp [IB, items, built, execA, runA, stepA, step, pushAll_single]
  · intro e st
    simp only [IB, items, built, toBinding]
    cases hg : H.genOK e
    · simp [execA]
    · cases he : H.eval e <;> simp [execA, runA, stepA, step, he, pushAll_single]
  · intro e st
    simp only [IB, items, built, toBinding]
    cases hg : H.genOK e
    · simp [execA]
    · cases he : H.eval e
      · simp [execA, runA, stepA, step, he]
      · rename_i v
        cases hl : listToArray v <;> simp [execA, runA, stepA, step, he, hl, elems_eq]
  · intro st
    simp [IB, items, itemsL, built, builtL, ofList, execA, runA, stepA, step, pushAll_single]

theorem itemsA_ok (H : Host) : (t : Tmpl) → t.WF = true → Pushes H (genSQ H t.toSexp) (IB (toBinding H) t) :=
  (gen_pushes H).1
theorem itemsLA_ok (H : Host) : (ts : List Tmpl) → wfL ts = true →
    Pushes H (genListBody H (toSexpL ts)) (IBL (toBinding H) ts) := (gen_pushes H).2.1
theorem arrLA_ok (H : Host) : (ts : List Tmpl) → wfL ts = true →
    Pushes H (genArrBody H (toSexpL ts)) (IBL (toBinding H) ts) := (gen_pushes H).2.2
theorem kvA_ok (H : Host) : (kvs : List (Tmpl × Tmpl)) → wfKV kvs = true →
    Pushes H (genHashBody H (toSexpKV kvs)) (IBKV (toBinding H) kvs) := fun kvs wf => by
  rw [genHashBody_flat, IBKV_flat]; exact arrLA_ok H (flat kvs) (wfKV_flat kvs ▸ wf)

/-- the machine of `Model/SQ.lean` is the allocating machine with the report dropped -/
theorem exec_eq_execA (H : Host) (c : Option (List Instr)) (st : Stack) :
    exec H c st = (execA H c st).map (·.1) := by
  cases c with
  | none => rfl
  | some c => exact (runA_fst H c st).symm

theorem Pushes.exec {H : Host} {c : Option (List Instr)} {r : Res} (h : Pushes H c r) (st : Stack) :
    exec H c st = (r.map (·.1)).map (pushAll · st) := by
  rw [exec_eq_execA, h st]; cases r <;> rfl

theorem seqR_fst (a b : Res) :
    (seqR a b).map (·.1) = (do let x ← a.map (·.1); let y ← b.map (·.1); some (x ++ y)) := by
  cases a <;> cases b <;> rfl

theorem closeR_fst (k : List Sexp → Res) (r : Res) :
    (closeR k r).map (·.1) = (r.map (·.1)).bind fun xs => (k xs).map (·.1) := by
  cases r with
  | none => rfl
  | some p => simp only [closeR, Option.bind_some, Option.map_some]; cases k p.1 <;> rfl

/-- What the paired result says is pushed are the items: whatever has items has its containers built. -/
theorem IB_fst (ρ : Binding) :
    (∀ t, (IB ρ t).map (·.1) = items ρ t) ∧ (∀ ts, (IBL ρ ts).map (·.1) = itemsL ρ ts) := by
  refine Tmpl.induct (fun _ => rfl) ?_ ?_ ?_ ?_ ?_ rfl ?_
  · intro e; simp only [IB, items, built]; cases ρ.value e <;> rfl
  · intro e; simp only [IB, items, built]; cases (ρ.value e).bind elems <;> rfl
  · intro ts ih; rw [IB_list, closeR_fst, ih, items]; cases itemsL ρ ts <;> simp [ofList_eq]
  · intro ts ih; rw [IB_arr, closeR_fst, ih, items]; cases itemsL ρ ts <;> simp [ofList_eq]
  · intro ty kvs ih
    rw [IB_hash, closeR_fst, IBKV_flat, ih, items, itemsKV_flat]
    simp only [Option.map_map, Function.comp_def]
  · intro t ts iht ih; rw [IBL_cons, seqR_fst, iht, ih, itemsL]

theorem containersKV_flat (kvs : List (Tmpl × Tmpl)) : containersKV kvs = containersL (flat kvs) := by
  induction kvs with
  | nil => rfl
  | cons p r ih => obtain ⟨k, v⟩ := p; simp only [containersKV, flat, containersL, ih, Nat.add_assoc]

theorem built_length_all (ρ : Binding) :
    (∀ t b, built ρ t = some b → b.length = t.containers)
    ∧ (∀ ts b, builtL ρ ts = some b → b.length = containersL ts) := by
  refine Tmpl.induct (fun _ b h => by cases h; rfl) (fun _ b h => by cases h; rfl) (fun _ b h => by cases h; rfl)
    (fun ts ih b h => ih b h) ?_ ?_ (fun b h => by cases h; rfl) ?_
  · intro ts ih b h
    simp only [built, bind, Option.bind_eq_some_iff, Option.some.injEq] at h
    obtain ⟨b0, hb, xs, _, rfl⟩ := h
    simp [Tmpl.containers, ih b0 hb]
  · intro ty kvs ih b h
    simp only [built, bind, Option.bind_eq_some_iff, Option.some.injEq] at h
    obtain ⟨b0, hb, xs, _, hh, _, rfl⟩ := h
    simp [Tmpl.containers, containersKV_flat, ih b0 (builtKV_flat ρ kvs ▸ hb)]
  · intro t ts iht ih b h
    simp only [builtL, bind, Option.bind_eq_some_iff, Option.some.injEq] at h
    obtain ⟨a, ha, b0, hb, rfl⟩ := h
    simp [containersL, iht a ha, ih b0 hb]

/-- **Marker discipline.** The code of one (unambiguous) template element, run on any stack,
leaves that stack untouched and pushes exactly the element's items — or fails exactly when
the element has none. -/
theorem items_ok (H : Host) : (t : Tmpl) → t.WF = true → ∀ st : Stack,
    exec H (genSQ H t.toSexp) st = (items (toBinding H) t).map (pushAll · st) := fun t wf st => by
  rw [Pushes.exec (itemsA_ok H t wf), (IB_fst _).1]

theorem itemsL_ok (H : Host) : (ts : List Tmpl) → wfL ts = true → ∀ st : Stack,
    exec H (genListBody H (toSexpL ts)) st = (itemsL (toBinding H) ts).map (pushAll · st) := fun ts wf st => by
  rw [Pushes.exec (itemsLA_ok H ts wf), (IB_fst _).2]

theorem arrL_ok (H : Host) : (ts : List Tmpl) → wfL ts = true → ∀ st : Stack,
    exec H (genArrBody H (toSexpL ts)) st = (itemsL (toBinding H) ts).map (pushAll · st) := fun ts wf st => by
  rw [Pushes.exec (arrLA_ok H ts wf), (IB_fst _).2]

theorem kv_ok (H : Host) : (kvs : List (Tmpl × Tmpl)) → wfKV kvs = true → ∀ st : Stack,
    exec H (genHashBody H (toSexpKV kvs)) st = (itemsKV (toBinding H) kvs).map (pushAll · st) := fun kvs wf st => by
  rw [genHashBody_flat, itemsKV_flat]; exact arrL_ok H (flat kvs) (wfKV_flat kvs ▸ wf) st

end ZygoVerif.SQ
