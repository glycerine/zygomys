/-
C06, Pratt loop = stratified grammar: the simulation, for token lists of unbounded length.

`Corr T G bps` — what links an operator table to a grammar: level `k` of `G` (loosest first) has
the binding power `bps[k]`; a token owned by level `k` as an operator has left binding power
`bps[k]` and the `MunchLeft` the level's action says (left-associative operators recurse with
`bps[k]`, right-associative ones with `bps[k] - 1`); every other token has left binding power 0; a
prefix operator of level `k` recurses with `bps[k]`. (`Proofs/PrattStratTable.lean` shows it for the
table of the current tree and the documented levels.)

`claims_all` (and from it `pratt_iff_strat`): under `Corr`, for every token list of the fragment (`Frag`: no `if`/`for`/`break`/`continue`,
every token has a binding power, and `inScope`: an operator without right operand is not directly
followed by a tighter one — also inside selectors), with `levels ≥ k` = the levels binding
tighter than `rbp` (`Thr k rbp`):
    Expression(rbp)         returns r  ⇔  E_k                    returns r      (M)
    the loop of Expression  returns r  ⇔  the chains of levels ≥ k return r      (ML)
    the loop, when the next token binds no tighter than level k
                            returns r  ⇔  the chain of level k returns r         (MC)
by induction on the weight of the token list; (ML) by cutting the loop at `bps[k]`
(`PL_decomp`) and induction on the number of levels; the stop property of `Expression`
(`PE.stop`) is what lets a chain go on where the loop goes on.
-/
import ZygoVerif.Proofs.PrattFuel
import ZygoVerif.Proofs.StratFuel
namespace ZygoVerif.Pratt
open ZygoVerif.Stratified

def actAt (G : Grammar) (m : Nat) (t : Sx) : Option Act :=
  match G[m]? with
  | some lv => actOf G lv t
  | none => none

def rightAt (G : Grammar) (m : Nat) : Bool :=
  match G[m]? with
  | some lv => lv.right
  | none => false

def Sx.isArr : Sx → Bool
  | .arr _ => true
  | _ => false

/-- the token in operator position -/
def ledCorr (T : Table) (G : Grammar) (bps : List Nat) (t : Sx) : Bool :=
  match levelOf G t G 0 with
  | none => lbp T t == some 0 && (List.range G.length).all (fun m => actAt G m t == none)
  | some (k, act) =>
    decide (k < G.length) && lbp T t == some (bps.getD k 0) && actAt G k t == some act &&
    (List.range G.length).all (fun m => m == k || actAt G m t == none) &&
    (match act with
     | .bin out => ledOf T t == .bin out (if rightAt G k then bps.getD k 0 - 1 else bps.getD k 0)
     | .post name => ledOf T t == .post name
     | .field => ledOf T t == .field && k + 1 == G.length
     | .index => ledOf T t == .index && k + 1 == G.length && t.isArr
     | .drop => ledOf T t == .drop)

/-- the token in operand position -/
def nudCorr (T : Table) (G : Grammar) (bps : List Nat) (t : Sx) : Bool :=
  match prefixOf t G with
  | none => nudOf T t == .atom
  | some (out, above) =>
    (List.range G.length).any (fun k => above.length + (k + 1) == G.length && nudOf T t == .pre out (bps.getD k 0))

/-- a plain (not dot-flagged) symbol whose `MunchLeft` is the field-access handler: the symbol `.`
itself without its dot flag — the parser never builds it (`.` is lexed as a dot token) -/
def plainField (T : Table) : Sx → Bool
  | .sym n => ledOf T (.sym n) == .field
  | .lab n => ledOf T (.lab n) == .field
  | _ => false

/-- a token of the fragment: it starts an expression as an atom or a prefix operator,
`LeftBindingPower` knows it, and it is not the undotted `.` -/
def okTok (T : Table) (t : Sx) : Bool := okNudB T t && (lbp T t).isSome && !plainField T t

structure Corr (T : Table) (G : Grammar) (bps : List Nat) : Prop where
  pos : ∀ j, j < G.length → 0 < bps.getD j 0
  incr : ∀ i j, i < j → j < G.length → bps.getD i 0 < bps.getD j 0
  colon : okTok T (.sym ":") = true
  lab : ∀ n, okTok T (.lab n) = true → okTok T (.sym n) = true
  led : ∀ t, okTok T t = true → ledCorr T G bps t = true
  nud : ∀ t, okTok T t = true → nudCorr T G bps t = true

theorem suffix_eq_or_lt {a b : List Sx} (h : a <:+ b) : a = b ∨ pwList a < pwList b := by
  obtain ⟨p, rfl⟩ := h
  cases p with
  | nil => left; rfl
  | cons x r =>
    right
    rw [pwList_append]
    have := pwList_cons_lt x r
    omega

def Frag (T : Table) (G : Grammar) (ts : List Sx) : Prop :=
  fragList (okTok T) ts = true ∧ adjacentOK G ts = true ∧ coveredList G ts = true

theorem adjacentOK_tail {G : Grammar} {t : Sx} {ts : List Sx} (h : adjacentOK G (t :: ts) = true) : adjacentOK G ts = true := by
  cases ts with
  | nil => rfl
  | cons u r => simp only [adjacentOK, Bool.and_eq_true] at h; exact h.2

theorem adjacentOK_suffix {G : Grammar} {a b : List Sx} (hs : a <:+ b) (h : adjacentOK G b = true) : adjacentOK G a = true := by
  obtain ⟨p, rfl⟩ := hs
  induction p with
  | nil => exact h
  | cons x r ih => exact ih (adjacentOK_tail h)

theorem adjacentOK_prefix {G : Grammar} (a b : List Sx) (h : adjacentOK G (a ++ b) = true) : adjacentOK G a = true := by
  induction a with
  | nil => rfl
  | cons x r ih =>
    cases r with
    | nil => rfl
    | cons y r' =>
      simp only [List.cons_append, adjacentOK, Bool.and_eq_true] at h ⊢
      exact ⟨h.1, ih h.2⟩

theorem coveredList_mem {G : Grammar} {ts : List Sx} (h : coveredList G ts = true) : ∀ t ∈ ts, covered G t = true := by
  induction ts with
  | nil => intro t ht; cases ht
  | cons a r ih =>
    simp only [coveredList, Bool.and_eq_true] at h
    intro t ht
    rw [List.mem_cons] at ht
    rcases ht with rfl | ht
    · exact h.1
    · exact ih h.2 t ht

theorem coveredList_of_mem {G : Grammar} {ts : List Sx} (h : ∀ t ∈ ts, covered G t = true) : coveredList G ts = true := by
  induction ts with
  | nil => rfl
  | cons a r ih =>
    simp only [coveredList, Bool.and_eq_true]
    exact ⟨h a (by simp), ih (fun t ht => h t (by simp [ht]))⟩

theorem coveredList_split {G : Grammar} (xs : List Sx) (h : coveredList G xs = true) :
    coveredList G (Pratt.splitColonTail xs) = true := by
  induction xs with
  | nil => rfl
  | cons a r ih =>
    simp only [coveredList, Bool.and_eq_true] at h
    have hr := ih h.2
    by_cases hl : ∃ n, a = .lab n
    · obtain ⟨n, rfl⟩ := hl; simp [Pratt.splitColonTail, coveredList, covered, hr]
    · rw [Pratt.splitColonTail_cons (fun n hn => hl ⟨n, hn⟩)]
      simp only [coveredList, Bool.and_eq_true]; exact ⟨h.1, hr⟩

theorem Frag.sub {T : Table} {G : Grammar} {ts ts' : List Sx} (h : Frag T G ts) (hs : ∀ t ∈ ts', t ∈ ts)
    (ha : adjacentOK G ts' = true) : Frag T G ts' :=
  ⟨fragList_sublist _ ts ts' h.1 hs, ha, coveredList_of_mem (fun t ht => coveredList_mem h.2.2 t (hs t ht))⟩

theorem Frag.suffix {T : Table} {G : Grammar} {ts ts' : List Sx} (h : Frag T G ts) (hs : ts' <:+ ts) : Frag T G ts' :=
  h.sub (fun _ ht => hs.subset ht) (adjacentOK_suffix hs h.2.1)

theorem Frag.tail {T : Table} {G : Grammar} {t : Sx} {ts : List Sx} (h : Frag T G (t :: ts)) : Frag T G ts :=
  h.suffix (List.suffix_cons t ts)

theorem Frag.nudFrag {T : Table} {G : Grammar} {ts : List Sx} (h : Frag T G ts) : fragList (okNudB T) ts = true :=
  fragList_mono (p := okTok T) (q := okNudB T) (fun t ht => by
    simp only [okTok, Bool.and_eq_true] at ht; exact ht.1.1) ts h.1

theorem Frag.head {T : Table} {G : Grammar} {t : Sx} {ts : List Sx} (h : Frag T G (t :: ts)) : okTok T t = true :=
  fragTok_top _ t (fragList_mem _ _ h.1 t (by simp))

section Main
variable {T : Table} {G : Grammar} {bps : List Nat} (hC : Corr T G bps)

include hC in
theorem Corr.colonNud : okNudB T (.sym ":") = true := by
  have := hC.colon
  simp only [okTok, Bool.and_eq_true] at this
  exact this.1.1

include hC in
theorem Frag.inner {xs : List Sx} {ts : List Sx} (h : Frag T G ts) (hm : Sx.arr xs ∈ ts) :
    Frag T G (Pratt.splitColonTail xs) := by
  have hft := fragList_mem _ _ h.1 _ hm
  have hcov := coveredList_mem h.2.2 _ hm
  simp only [fragTok, Bool.and_eq_true] at hft
  simp only [covered, Bool.and_eq_true] at hcov
  exact ⟨fragList_split hC.colon hC.lab xs hft.2, by rw [← splitColonTail_eq]; exact hcov.1, coveredList_split xs hcov.2⟩

/-- the levels `k, k+1, …` are exactly those that bind tighter than `rbp` -/
def Thr (G : Grammar) (bps : List Nat) (k rbp : Nat) : Prop :=
  (∀ j, j < k → j < G.length → bps.getD j 0 ≤ rbp) ∧ (∀ j, k ≤ j → j < G.length → rbp < bps.getD j 0)

include hC in
theorem thr_zero : Thr G bps 0 0 := ⟨fun j hj _ => by omega, fun j _ hj => hC.pos j hj⟩

include hC in
theorem bps_le {i j : Nat} (hij : i ≤ j) (hj : j < G.length) : bps.getD i 0 ≤ bps.getD j 0 := by
  by_cases h : i = j
  · subst h; exact Nat.le_refl _
  · exact Nat.le_of_lt (hC.incr i j (by omega) hj)

include hC in
theorem thr_succ {k : Nat} (hk : k < G.length) : Thr G bps (k + 1) (bps.getD k 0) :=
  ⟨fun j hj _ => bps_le hC (by omega) hk, fun j hj hjn => hC.incr k j (by omega) hjn⟩

include hC in
theorem thr_pred {k : Nat} (hk : k < G.length) : Thr G bps k (bps.getD k 0 - 1) := by
  have hp := hC.pos k hk
  refine ⟨fun j hj hjn => ?_, fun j hj hjn => ?_⟩
  · have := hC.incr j k hj hk; omega
  · by_cases h : j = k
    · subst h; omega
    · have := hC.incr k j (by omega) hjn; omega

def Unowned (T : Table) (G : Grammar) (t : Sx) : Prop :=
  levelOf G t G 0 = none ∧ lbp T t = some 0 ∧ ∀ m, m < G.length → actAt G m t = none

def Owned (T : Table) (G : Grammar) (bps : List Nat) (t : Sx) (k : Nat) (act : Act) : Prop :=
  levelOf G t G 0 = some (k, act) ∧ k < G.length ∧ lbp T t = some (bps.getD k 0) ∧ actAt G k t = some act ∧
  (∀ m, m < G.length → m ≠ k → actAt G m t = none) ∧
  (match act with
   | .bin out => ledOf T t = .bin out (if rightAt G k then bps.getD k 0 - 1 else bps.getD k 0)
   | .post name => ledOf T t = .post name
   | .field => ledOf T t = .field ∧ k + 1 = G.length
   | .index => ledOf T t = .index ∧ k + 1 = G.length ∧ t.isArr = true
   | .drop => ledOf T t = .drop)

include hC in
theorem classify (t : Sx) (ht : okTok T t = true) : Unowned T G t ∨ ∃ k act, Owned T G bps t k act := by
  have h := hC.led t ht
  unfold ledCorr at h
  cases hl : levelOf G t G 0 with
  | none =>
    rw [hl] at h
    simp only [Bool.and_eq_true, beq_iff_eq, List.all_eq_true, List.mem_range] at h
    exact Or.inl ⟨hl, h.1, h.2⟩
  | some p =>
    obtain ⟨k, act⟩ := p
    rw [hl] at h
    simp only [Bool.and_eq_true, beq_iff_eq, List.all_eq_true, List.mem_range, decide_eq_true_eq, Bool.or_eq_true] at h
    obtain ⟨⟨⟨⟨h1, h2⟩, h3⟩, h4⟩, h5⟩ := h
    refine Or.inr ⟨k, act, hl, h1, h2, h3, fun m hm hne => ?_, ?_⟩
    · rcases h4 m hm with h | h
      · exact absurd h hne
      · exact h
    · cases act <;> simpa [and_assoc] using h5

theorem getElem?_of_drop {G : Grammar} {k : Nat} {lv : Level} {rest : Grammar} (hk : G.drop k = lv :: rest) :
    G[k]? = some lv := by
  simpa [List.head?_drop] using congrArg List.head? hk

theorem actAt_drop {G : Grammar} {k : Nat} {lv : Level} {rest : Grammar} (hk : G.drop k = lv :: rest) (t : Sx) :
    actAt G k t = actOf G lv t := by
  simp [actAt, getElem?_of_drop hk]

theorem rightAt_drop {G : Grammar} {k : Nat} {lv : Level} {rest : Grammar} (hk : G.drop k = lv :: rest) :
    rightAt G k = lv.right := by
  simp [rightAt, getElem?_of_drop hk]

theorem drop_succ_of {G : Grammar} {k : Nat} {lv : Level} {rest : Grammar} (hk : G.drop k = lv :: rest) :
    G.drop (k + 1) = rest := by
  simpa [List.tail_drop] using congrArg List.tail hk

theorem lt_of_drop {G : Grammar} {k : Nat} {lv : Level} {rest : Grammar} (hk : G.drop k = lv :: rest) : k < G.length := by
  by_cases h : k < G.length
  · exact h
  · rw [List.drop_eq_nil_of_le (by omega)] at hk
    cases hk

include hC in
theorem lbp_le_of_lt {t : Sx} (ht : okTok T t = true) {k rbp l : Nat} (hthr : Thr G bps k rbp)
    (hl : lbp T t = some l) (hlt : l < bps.getD k 0) : l ≤ rbp := by
  rcases classify hC t ht with ⟨_, h0, _⟩ | ⟨j, act, _, hj, hb, _⟩
  · rw [h0] at hl; cases hl; omega
  · rw [hb] at hl
    cases hl
    exact hthr.1 j (Nat.lt_of_not_le fun hkj => by have := bps_le hC hkj hj; omega) hj

omit hC in
theorem PL_returns {st : Sx} {ts : List Sx} {rbp : Nat} (hh : HeadLe T ts rbp) (left : Sx) (r : Sx × List Sx) :
    PL T st rbp left ts r ↔ r = (left, ts) := by
  cases ts with
  | nil => exact PL_nil rbp left r
  | cons t ts =>
    obtain ⟨l, hl, hle⟩ := hh t ts rfl
    exact PL_stop hl hle

/-- a sub-run followed by a continuation, on either side: the sub-runs agree, and the continuations agree on what the
sub-run returns -/
theorem seq_congr {α β : Type} {A A' B B' : α → β → Prop} (hA : ∀ x y, A x y ↔ A' x y)
    (hB : ∀ x y, A x y → (B x y ↔ B' x y)) : (∃ x y, A x y ∧ B x y) ↔ ∃ x y, A' x y ∧ B' x y :=
  exists_congr fun x => exists_congr fun y => (and_congr_right (hB x y)).trans (and_congr_left' (hA x y))

/-- … and a sub-run that returns `(a, b)` and nothing else -/
theorem seq_of_eq {α β : Type} {S : α × β → Prop} {a : α} {b : β} (h : ∀ r, S r ↔ r = (a, b)) {Q : α → β → Prop} :
    (∃ x y, S (x, y) ∧ Q x y) ↔ Q a b :=
  ⟨fun ⟨_, _, hs, hq⟩ => by cases (h _).1 hs; exact hq, fun hq => ⟨a, b, (h _).2 rfl, hq⟩⟩

theorem SClimb_nil {E : Sx} (lvls : Grammar) (x : Sx) (r : Sx × List Sx) : SClimb G E lvls x [] r ↔ r = (x, []) := by
  induction lvls generalizing r with
  | nil => rfl
  | cons lv rest ih => exact (seq_of_eq ih).trans SC_nil

/-- a prefix operator as the operand, followed by a continuation -/
theorem SO_pre_seq {E t : Sx} {ts : List Sx} {out : String} {above : Grammar} (hp : prefixOf t G = some (out, above))
    {Q : Sx → List Sx → Prop} :
    (∃ x ts1, SO G E (t :: ts) (x, ts1) ∧ Q x ts1) ↔ ∃ x ts1, SS G E above ts (x, ts1) ∧ Q (.list [.sym out, x]) ts1 := by
  simp only [SO_pre hp]
  constructor
  · rintro ⟨_, _, ⟨x, ts1, h, he⟩, hq⟩; cases he; exact ⟨_, _, h, hq⟩
  · rintro ⟨x, ts1, h, hq⟩; exact ⟨_, _, ⟨x, ts1, h, rfl⟩, hq⟩

include hC in
theorem headLe_last {ts : List Sx} (hfr : Frag T G ts) {k : Nat} (hk : k + 1 = G.length) : HeadLe T ts (bps.getD k 0) := by
  intro u r heq
  subst heq
  rcases classify hC u hfr.head with ⟨_, h0, _⟩ | ⟨j, act, _, hj, hb, _⟩
  · exact ⟨0, h0, Nat.zero_le _⟩
  · exact ⟨_, hb, bps_le hC (by omega) (by omega)⟩

include hC in
/-- after an operator without right operand the next token binds no tighter (`adjacentOK`) -/
theorem headLe_adjacent {t : Sx} {ts : List Sx} (hfr : Frag T G (t :: ts)) {j : Nat} {act : Act}
    (hlev : levelOf G t G 0 = some (j, act)) (hj : j < G.length) (hact : (∃ n, act = .post n) ∨ act = .drop) :
    HeadLe T ts (bps.getD j 0) := by
  intro u r heq
  subst heq
  have hadj := hfr.2.1
  rcases classify hC u hfr.tail.head with ⟨_, h0, _⟩ | ⟨j', act', hlev', hj', hb', _⟩
  · exact ⟨0, h0, Nat.zero_le _⟩
  · refine ⟨_, hb', ?_⟩
    have hle : j' ≤ j := by
      simp only [adjacentOK, hlev, hlev', Bool.and_eq_true] at hadj
      rcases hact with ⟨n, rfl⟩ | rfl
      · simpa using hadj.1
      · simpa using hadj.1
    exact bps_le hC hle hj

structure Claims (T : Table) (G : Grammar) (bps : List Nat) (ts : List Sx) : Prop where
  M : ∀ (E : Sx) (k rbp : Nat) (r : Sx × List Sx), k ≤ G.length → Thr G bps k rbp →
    (PE T E rbp ts r ↔ SS G E (G.drop k) ts r)
  MC : ∀ (E : Sx) (k rbp : Nat) (lv : Level) (rest : Grammar) (left : Sx) (r : Sx × List Sx),
    G.drop k = lv :: rest → Thr G bps k rbp → HeadLe T ts (bps.getD k 0) →
    (PL T E rbp left ts r ↔ SC G E lv rest left ts r)
  ML : ∀ (E : Sx) (k rbp : Nat) (left : Sx) (r : Sx × List Sx), k ≤ G.length → Thr G bps k rbp →
    (PL T E rbp left ts r ↔ SClimb G E (G.drop k) left ts r)

include hC in
theorem sel_step {ts : List Sx} (IH : ∀ ts', pwList ts' < pwList ts → Frag T G ts' → Claims T G bps ts')
    (hfr : Frag T G ts) {xs : List Sx} (hm : Sx.arr xs ∈ ts) (s : Sx) : PSel T (.arr xs) s ↔ SSel G (.arr xs) s := by
  have hin := Frag.inner hC hfr hm
  have hwt : pwList (Pratt.splitColonTail xs) < pwList ts := by
    rw [pwList_split]
    obtain ⟨a, b, rfl⟩ := List.append_of_mem hm
    rw [pwList_append]
    simp only [pwList, pw]; omega
  have hcn := Corr.colonNud hC
  have htoks := hin.nudFrag
  have hle := sel_parts_le pwList_append (fun d r => Nat.le_of_lt (pwList_cons_lt d r)) (Pratt.splitColonTail xs)
  have one : ∀ l : List Sx, (∀ t ∈ l, t ∈ Pratt.splitColonTail xs) → adjacentOK G l = true → pwList l ≤ pwList (Pratt.splitColonTail xs) →
      ∀ y, POne T l y ↔ SOne G l y := by
    intro l hsub hadj hw y
    have hfl : Frag T G l := hin.sub hsub hadj
    rw [POne_iff hfl.nudFrag, SOne_iff]
    have := (IH l (by omega) hfl).M (staleOf l) 0 0 (y, []) (Nat.zero_le _) (thr_zero hC)
    simpa using this
  have hsplit : Pratt.splitColonTail xs =
      selBefore (Pratt.splitColonTail xs) ++ (Pratt.splitColonTail xs).dropWhile (fun t => !t.isNamed ":") :=
    (List.takeWhile_append_dropWhile).symm
  have hb := one _ (selBefore_sub _) (by have := hin.2.1; rw [hsplit] at this; exact adjacentOK_prefix _ _ this) hle.1
  have ha := one _ (selAfter_sub _)
    (adjacentOK_suffix (List.tail_suffix _) (adjacentOK_suffix (List.dropWhile_suffix _) hin.2.1)) hle.2
  have hw : ∀ r, PE T (staleOf (Pratt.splitColonTail xs)) 0 (Pratt.splitColonTail xs) r ↔
      SS G (staleOf (Pratt.splitColonTail xs)) G (Pratt.splitColonTail xs) r := fun r => by
    have := (IH _ hwt hin).M (staleOf (Pratt.splitColonTail xs)) 0 0 r (Nat.zero_le _) (thr_zero hC)
    simpa using this
  -- both selectors are `selBody` of the two parsers, one unit of fuel down
  refine (Returns.step rfl fun f => normSelector_succ T f xs).trans
    (Iff.trans ?_ (Returns.step rfl fun f => selector_succ G f xs).symm)
  exact selBody_returns_congr (prattOne_settles hcn (fragList_sublist _ _ _ htoks (selBefore_sub _))).keeps
    (prattOne_settles hcn (fragList_sublist _ _ _ htoks (selAfter_sub _))).keeps ((expr_settles hcn htoks).map _).keeps
    (single_keeps G _) (single_keeps G _) (strat_keeps G _ _) hb ha fun r => (PE_map htoks).trans (hw r)

include hC in
theorem MC_step {ts : List Sx} (IH : ∀ ts', pwList ts' < pwList ts → Frag T G ts' → Claims T G bps ts')
    (hfr : Frag T G ts) (E : Sx) (k rbp : Nat) (lv : Level) (rest : Grammar) (left : Sx) (r : Sx × List Sx)
    (hk : G.drop k = lv :: rest) (hthr : Thr G bps k rbp) (hh : HeadLe T ts (bps.getD k 0)) :
    PL T E rbp left ts r ↔ SC G E lv rest left ts r := by
  have hcn := Corr.colonNud hC
  cases ts with
  | nil => rw [PL_nil, SC_nil]
  | cons t ts' =>
    have hkl := lt_of_drop hk
    have hnf := hfr.nudFrag
    have htok := hfr.head
    have hfr' := hfr.tail
    have hwt' := pwList_cons_lt t ts'
    obtain ⟨l, hl, hle⟩ := hh t ts' rfl
    have hact : actAt G k t = actOf G lv t := actAt_drop hk t
    rcases classify hC t htok with ⟨_, h0, hnone⟩ | ⟨j, act, hlev, hj, hb, hat, huniq, hled⟩
    · have hn : actOf G lv t = none := by rw [← hact]; exact hnone k hkl
      rw [PL_stop h0 (Nat.zero_le _), SC_pass hn]
    · rw [hb] at hl
      cases hl
      have hjk : j ≤ k := Nat.le_of_not_lt fun h => by have := hC.incr k j h hj; omega
      by_cases hne : j = k
      · subst hne
        have hlt : ¬ rbp ≥ bps.getD j 0 := by have := hthr.2 j (Nat.le_refl _) hj; omega
        have hactk : actOf G lv t = some act := by rw [← hact]; exact hat
        have hrest : G.drop (j + 1) = rest := drop_succ_of hk
        have sub : ∀ {c : Nat} {x : Sx} {ts1 : List Sx}, PE T E c ts' (x, ts1) →
            Frag T G ts1 ∧ pwList ts1 < pwList (t :: ts') ∧ HeadLe T ts1 c := by
          intro c x ts1 hpe
          have hs : ts1 <:+ ts' := PE.suffix hfr'.nudFrag hpe
          exact ⟨hfr'.suffix hs, by have := pwList_suffix hs; omega, PE.stop hfr'.nudFrag hpe⟩
        cases act with
        | bin out =>
          simp only at hled
          rw [rightAt_drop hk] at hled
          by_cases hr : lv.right = true
          · rw [if_pos hr] at hled
            rw [PL_bin hcn hnf hb hlt hled, SC_binR hactk hr]
            have hM := fun r' => (IH ts' hwt' hfr').M E j (bps.getD j 0 - 1) r' (Nat.le_of_lt hj) (thr_pred hC hj)
            rw [hk] at hM
            refine seq_congr (fun _ _ => hM _) fun x ts1 hpe => ?_
            -- what the right operand leaves starts with nothing that binds tighter than `rbp`: the loop returns
            obtain ⟨hf1, _, hh1⟩ := sub hpe
            refine PL_returns (fun t1 r1 heq => ?_) _ _
            obtain ⟨l1, hl1, hle1⟩ := hh1 t1 r1 heq
            subst heq
            have hp := hC.pos j hj
            exact ⟨l1, hl1, lbp_le_of_lt hC hf1.head hthr hl1 (by omega)⟩
          · have hr' : lv.right = false := by simpa using hr
            rw [if_neg hr] at hled
            rw [PL_bin hcn hnf hb hlt hled, SC_binL hactk hr']
            have hM := fun r' => (IH ts' hwt' hfr').M E (j + 1) (bps.getD j 0) r' hj (thr_succ hC hj)
            rw [hrest] at hM
            refine seq_congr (fun _ _ => hM _) fun x ts1 hpe => ?_
            obtain ⟨hf1, hw1, hh1⟩ := sub hpe
            exact (IH ts1 hw1 hf1).MC E j rbp lv rest _ r hk hthr hh1
        | post name =>
          simp only at hled
          rw [(PL_noarg hcn hnf hb hlt).1 name hled, (SC_noarg).1 name hactk]
          exact (IH ts' hwt' hfr').MC E j rbp lv rest _ r hk hthr (headLe_adjacent hC hfr hlev hj (Or.inl ⟨name, rfl⟩))
        | drop =>
          simp only at hled
          rw [(PL_noarg hcn hnf hb hlt).2.2 hled, (SC_noarg).2.2 hactk]
          exact (IH ts' hwt' hfr').MC E j rbp lv rest _ r hk hthr (headLe_adjacent hC hfr hlev hj (Or.inr rfl))
        | field =>
          simp only at hled
          rw [(PL_noarg hcn hnf hb hlt).2.1 hled.1, (SC_noarg).2.1 hactk]
          exact (IH ts' hwt' hfr').MC E j rbp lv rest _ r hk hthr (headLe_last hC hfr' hled.2)
        | index =>
          simp only at hled
          obtain ⟨hled1, hlast, harr⟩ := hled
          cases t with
          | arr xs =>
            rw [PL_index hcn hnf hb hlt hled1, SC_index hactk]
            exact exists_congr fun sel => and_congr (sel_step hC IH hfr (xs := xs) (by simp) sel)
              ((IH ts' hwt' hfr').MC E j rbp lv rest _ r hk hthr (headLe_last hC hfr' hlast))
          | _ => simp [Sx.isArr] at harr
      · have hjlt : j < k := by omega
        have hn : actOf G lv t = none := by rw [← hact]; exact huniq k hkl (by omega)
        rw [PL_stop hb (hthr.1 j hjlt hj), SC_pass hn]

include hC in
/-- (ML): the loop is cut at the binding power of the loosest level above `rbp`; the tighter levels are done by
induction, the loosest by (MC) -/
theorem ML_step {ts : List Sx} (IH : ∀ ts', pwList ts' < pwList ts → Frag T G ts' → Claims T G bps ts')
    (hfr : Frag T G ts) (E : Sx) (k rbp : Nat) (left : Sx) (r : Sx × List Sx) (hkn : k ≤ G.length)
    (hthr : Thr G bps k rbp) : PL T E rbp left ts r ↔ SClimb G E (G.drop k) left ts r := by
  have hcn := Corr.colonNud hC
  have hnf := hfr.nudFrag
  have mc : ∀ ts1, ts1 <:+ ts → ∀ (k rbp : Nat) (lv : Level) (rest : Grammar) (lf : Sx) (r' : Sx × List Sx),
      G.drop k = lv :: rest → Thr G bps k rbp → HeadLe T ts1 (bps.getD k 0) →
      (PL T E rbp lf ts1 r' ↔ SC G E lv rest lf ts1 r') := by
    intro ts1 hs k rbp lv rest lf r' hk ht hh
    rcases suffix_eq_or_lt hs with rfl | hlt
    · exact MC_step hC IH hfr E k rbp lv rest lf r' hk ht hh
    · exact (IH ts1 hlt (hfr.suffix hs)).MC E k rbp lv rest lf r' hk ht hh
  have key : ∀ d k rbp left r, G.length - k = d → k ≤ G.length → Thr G bps k rbp →
      (PL T E rbp left ts r ↔ SClimb G E (G.drop k) left ts r) := by
    intro d
    induction d with
    | zero =>
      intro k rbp left r hd hkn hthr
      have hkeq : k = G.length := by omega
      rw [List.drop_eq_nil_of_le (by omega)]
      simp only [SClimb]
      apply PL_returns
      intro u r1 heq
      subst heq
      rcases classify hC u hfr.head with ⟨_, h0, _⟩ | ⟨j, act, _, hj, hb, _⟩
      · exact ⟨0, h0, Nat.zero_le _⟩
      · exact ⟨_, hb, hthr.1 j (by omega) hj⟩
    | succ d ih =>
      intro k rbp left r hd hkn hthr
      have hkl : k < G.length := by omega
      obtain ⟨lv, rest, hk⟩ : ∃ lv rest, G.drop k = lv :: rest := ⟨_, _, List.drop_eq_getElem_cons hkl⟩
      rw [hk]
      simp only [SClimb]
      have hle : rbp ≤ bps.getD k 0 := Nat.le_of_lt (hthr.2 k (Nat.le_refl _) hkl)
      rw [PL_decomp hcn hle hnf left r]
      have hin := fun lf r' => ih (k + 1) (bps.getD k 0) lf r' (by omega) (by omega) (thr_succ hC hkl)
      rw [drop_succ_of hk] at hin
      exact seq_congr (fun _ _ => hin _ _) fun y ts1 h1 =>
        mc ts1 (PL.suffix hnf h1) k rbp lv rest y r hk hthr (PL.stop hnf h1)
  exact key (G.length - k) k rbp left r rfl hkn hthr

include hC in
theorem M_step {ts : List Sx} (IH : ∀ ts', pwList ts' < pwList ts → Frag T G ts' → Claims T G bps ts')
    (hfr : Frag T G ts) (E : Sx) (k rbp : Nat) (r : Sx × List Sx) (hkn : k ≤ G.length) (hthr : Thr G bps k rbp) :
    PE T E rbp ts r ↔ SS G E (G.drop k) ts r := by
  have hcn := Corr.colonNud hC
  rw [SS_iff_climb]
  cases ts with
  | nil => rw [PE_nil, seq_of_eq fun _ => SO_nil (E := E), SClimb_nil]
  | cons t ts' =>
    have hnf := hfr.nudFrag
    have hfr' := hfr.tail
    have hwt' := pwList_cons_lt t ts'
    have hnud := hC.nud t hfr.head
    unfold nudCorr at hnud
    cases hp : prefixOf t G with
    | none =>
      rw [hp] at hnud
      have hn : nudOf T t = .atom := by simpa using hnud
      rw [PE_atom hn, seq_of_eq fun _ => SO_atom (E := E) hp]
      exact (IH ts' hwt' hfr').ML E k rbp t r hkn hthr
    | some p =>
      obtain ⟨out, above⟩ := p
      rw [hp] at hnud
      simp only [List.any_eq_true, List.mem_range, Bool.and_eq_true, beq_iff_eq] at hnud
      obtain ⟨kp, hkp, hlen, hn⟩ := hnud
      have habove : G.drop (kp + 1) = above := by
        obtain ⟨pre, hpre⟩ := prefixOf_suffix t G out above hp
        have hl : pre.length = kp + 1 := by
          have := congrArg List.length hpre
          rw [List.length_append] at this; omega
        rw [← hpre, ← hl, List.drop_left]
      rw [PE_pre hcn hnf hn, SO_pre_seq hp]
      have hM := fun r' => (IH ts' hwt' hfr').M E (kp + 1) (bps.getD kp 0) r' hkp (thr_succ hC hkp)
      rw [habove] at hM
      refine seq_congr (fun _ _ => hM _) fun x ts1 hpe => ?_
      have hs : ts1 <:+ ts' := PE.suffix hfr'.nudFrag hpe
      exact (IH ts1 (by have := pwList_suffix hs; omega) (hfr'.suffix hs)).ML E k rbp _ r hkn hthr

include hC in
theorem claims_step {ts : List Sx} (IH : ∀ ts', pwList ts' < pwList ts → Frag T G ts' → Claims T G bps ts')
    (hfr : Frag T G ts) : Claims T G bps ts :=
  ⟨fun E k rbp r h1 h2 => M_step hC IH hfr E k rbp r h1 h2,
   fun E k rbp lv rest left r h1 h2 h3 => MC_step hC IH hfr E k rbp lv rest left r h1 h2 h3,
   fun E k rbp left r h1 h2 => ML_step hC IH hfr E k rbp left r h1 h2⟩

include hC in
theorem claims_all : ∀ (N : Nat) (ts : List Sx), pwList ts ≤ N → Frag T G ts → Claims T G bps ts := by
  intro N
  induction N with
  | zero =>
    intro ts hw hfr
    exact claims_step hC (fun ts' h _ => by omega) hfr
  | succ N ih =>
    intro ts hw hfr
    exact claims_step hC (fun ts' h hf => ih ts' (by omega) hf) hfr

include hC in
/-- Pratt loop = stratified grammar, one expression, with enough fuel on either side. In particular one of them
fails (an error of a selector, or never returns) iff the other does. -/
theorem pratt_iff_strat (ts : List Sx) (hfr : Frag T G ts) (E : Sx) (r : Sx × List Sx) :
    PE T E 0 ts r ↔ SS G E G ts r := by
  have := (claims_all hC (pwList ts) ts (Nat.le_refl _) hfr).M E 0 0 r (Nat.zero_le _) (thr_zero hC)
  simpa using this

end Main

end ZygoVerif.Pratt
