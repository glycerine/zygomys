/-
The escapes the printer writes are read back: in the string mode and in the rune-literal mode
of the lexer model, feeding `escapedRune c q` (what `strconv.Quote`/`QuoteRune` write for the
rune `c`) appends exactly `c` to the buffer and ends in the literal mode again — for EVERY rune `c`
(`escaped_reads_back`); hence the body of a quoted string is read back rune by rune (`quoteBody_reads_back`).
-/
import ZygoVerif.Proofs.LexRing
import ZygoVerif.Model.PrintData
namespace ZygoVerif.Lexer
open ZygoVerif.PrintData

theorem lowerhex_mod (n : Nat) : lowerhex n = lowerhex (n % 16) := by
  simp [lowerhex]

theorem hexDigitValue_lowerhex (n : Nat) : hexDigitValue (lowerhex n) = some (n % 16) := by
  rw [lowerhex_mod]
  exact (by decide : ∀ m, m < 16 → hexDigitValue (lowerhex m) = some m) _ (Nat.mod_lt _ (by decide))

/-- the literal mode (`strLit`/`runeLit`), its escape mode and its hex mode, with the quote rune -/
structure LitMode where
  lit : Mode
  esc : Mode
  hex : Mode
  quote : Char
  isStr : Bool

def strMode : LitMode := ⟨.strLit, .strEscaped, .strHexEscape, '"', true⟩
def runeMode : LitMode := ⟨.runeLit, .runeEscaped, .runeHexEscape, '\'', false⟩

def LitMode.ok (m : LitMode) : Prop := m = strMode ∨ m = runeMode

/-- the state fields a literal mode reads and writes -/
structure InLit (s : LexCore) (mode : Mode) (b : List Char) (T : List Token) : Prop where
  state : s.state = mode
  buffer : s.buffer = b
  tokens : s.tokens = T

structure InHex (s : LexCore) (mode : Mode) (k a : Nat) (byte : Bool) (b : List Char) (T : List Token) : Prop where
  state : s.state = mode
  digits : s.escDigits = k
  value : s.escValue = a
  isByte : s.escByte = byte
  buffer : s.buffer = b
  tokens : s.tokens = T

theorem stepMode_strLit (s : LexCore) (r : Char) (h : s.state = .strLit) :
    stepMode s r = (if r == '\\' then .ok { s with state := .strEscaped }
      else if r == '"' then .ok { dumpAs s .string with state := .normal } else writeRune s r) := by
  simp only [stepMode, h]

theorem stepMode_runeLit (s : LexCore) (r : Char) (h : s.state = .runeLit) (h1 : r ≠ '\'') :
    stepMode s r = (if r == '\\' then .ok { s with state := .runeEscaped } else writeRune s r) := by
  simp only [stepMode, h]
  simp [h1]

theorem stepMode_runeLit_close (s s2 : LexCore) (h : s.state = .runeLit)
    (hd : dumpBuffer { s with buffer := s.buffer ++ ['\''] } = .ok s2) :
    stepMode s '\'' = .ok { s2 with state := .normal } := by
  simp only [stepMode, h]
  rw [h] at hd
  simp [hd]

theorem startHexEscape_none (s : LexCore) (r : Char) (m : Mode) (h : hexEscapeLen r = 0) : startHexEscape s r m = none := by
  simp [startHexEscape, h]

theorem startHexEscape_some (s : LexCore) (r : Char) (m : Mode) (h : hexEscapeLen r ≠ 0) :
    startHexEscape s r m = some { s with escDigits := hexEscapeLen r, escValue := 0,
                                         escByte := r == 'x' && m == .strHexEscape, state := m } := by
  simp [startHexEscape, h]

theorem stepMode_esc (m : LitMode) (hm : m.ok) (s : LexCore) (r : Char) (h : s.state = m.esc) :
    stepMode s r = match startHexEscape s r m.hex with
      | some s' => .ok s'
      | none => match escapeChar r with
        | none => .err .escape s
        | some c => .ok { s with buffer := s.buffer ++ [c], state := m.lit } := by
  rcases hm with rfl | rfl <;> simp only [stepMode, show s.state = _ from h] <;> rfl

theorem stepMode_hex (m : LitMode) (hm : m.ok) (s : LexCore) (r : Char) (hst : s.state = m.hex) :
    stepMode s r = hexEscapeDigit s r m.lit := by
  rcases hm with rfl | rfl <;> simp only [stepMode, show s.state = _ from hst] <;> rfl

theorem lit_plain (m : LitMode) (hm : m.ok) (s : LexCore) (b : List Char) (T : List Token) (r : Char)
    (hs : InLit s m.lit b T) (h1 : r ≠ '\\') (h2 : r ≠ m.quote) :
    ∃ s', step s r = .ok s' ∧ InLit s' m.lit (b ++ [r]) T := by
  have hst : (pushRing s r).state = m.lit := hs.state
  refine ⟨{ pushRing s r with buffer := (pushRing s r).buffer ++ [r] }, ?_, hst, ?_, hs.tokens⟩
  · rcases hm with rfl | rfl
    · have h2' : r ≠ '"' := h2
      rw [step_def, stepMode_strLit _ _ hst]
      simp [h1, h2', writeRune]
    · have h2' : r ≠ '\'' := h2
      rw [step_def, stepMode_runeLit _ _ hst h2']
      simp [h1, writeRune]
  · show s.buffer ++ [r] = b ++ [r]; rw [hs.buffer]

theorem lit_backslash (m : LitMode) (hm : m.ok) (s : LexCore) (b : List Char) (T : List Token)
    (hs : InLit s m.lit b T) : ∃ s', step s '\\' = .ok s' ∧ InLit s' m.esc b T := by
  have hst : (pushRing s '\\').state = m.lit := hs.state
  rcases hm with rfl | rfl
  · refine ⟨{ pushRing s '\\' with state := .strEscaped }, ?_, rfl, hs.buffer, hs.tokens⟩
    rw [step_def, stepMode_strLit _ _ hst]; simp
  · refine ⟨{ pushRing s '\\' with state := .runeEscaped }, ?_, rfl, hs.buffer, hs.tokens⟩
    rw [step_def, stepMode_runeLit _ _ hst (by decide)]; simp

theorem esc_simple (m : LitMode) (hm : m.ok) (s : LexCore) (b : List Char) (T : List Token) (e c : Char)
    (hs : InLit s m.esc b T) (h0 : hexEscapeLen e = 0) (he : escapeChar e = some c) :
    ∃ s', step s e = .ok s' ∧ InLit s' m.lit (b ++ [c]) T := by
  have hst : (pushRing s e).state = m.esc := hs.state
  refine ⟨{ pushRing s e with buffer := (pushRing s e).buffer ++ [c], state := m.lit }, ?_, rfl, ?_, hs.tokens⟩
  · rw [step_def, stepMode_esc m hm _ _ hst, startHexEscape_none _ _ _ h0, he]
  · show s.buffer ++ [c] = b ++ [c]; rw [hs.buffer]

theorem esc_hex_start (m : LitMode) (hm : m.ok) (s : LexCore) (b : List Char) (T : List Token) (e : Char)
    (hs : InLit s m.esc b T) (h0 : hexEscapeLen e ≠ 0) :
    ∃ s', step s e = .ok s' ∧ InHex s' m.hex (hexEscapeLen e) 0 (e == 'x' && m.isStr) b T := by
  have hst : (pushRing s e).state = m.esc := hs.state
  refine ⟨{ pushRing s e with escDigits := hexEscapeLen e, escValue := 0, escByte := e == 'x' && m.isStr, state := m.hex },
    ?_, rfl, rfl, rfl, rfl, hs.buffer, hs.tokens⟩
  rw [step_def, stepMode_esc m hm _ _ hst, startHexEscape_some _ _ _ h0]
  rcases hm with rfl | rfl <;> simp [strMode, runeMode]

/-- what the finished escape writes -/
def escResult (byte : Bool) (v : Nat) : Char := if byte then byteAsRune v else Char.ofNat v

theorem hex_digit_step (m : LitMode) (hm : m.ok) {s : LexCore} {k a : Nat} {byte : Bool} {b : List Char} {T : List Token}
    (hs : InHex s m.hex (k + 1) a byte b T) (x : Nat) (hlt : a * 16 + x % 16 < 2 ^ 32) :
    step s (lowerhex x) =
      (let s1 : LexCore := { pushRing s (lowerhex x) with escValue := a * 16 + x % 16, escDigits := k }
       if k > 0 then .ok s1
       else if byte then .ok { s1 with buffer := s1.buffer ++ [byteAsRune (a * 16 + x % 16)], state := m.lit }
       else if !validRune (a * 16 + x % 16) then .err .escape s1
       else .ok { s1 with buffer := s1.buffer ++ [Char.ofNat (a * 16 + x % 16)], state := m.lit }) := by
  have hst : (pushRing s (lowerhex x)).state = m.hex := hs.state
  have h1 : (pushRing s (lowerhex x)).escValue = a := hs.value
  have h2 : (pushRing s (lowerhex x)).escDigits = k + 1 := hs.digits
  have h3 : (pushRing s (lowerhex x)).escByte = byte := hs.isByte
  rw [step_def, stepMode_hex m hm _ _ hst]
  simp only [hexEscapeDigit, hexDigitValue_lowerhex, h1, h2, h3, Nat.mod_eq_of_lt hlt, Nat.add_sub_cancel]

/-- the digits of a hex escape, read from a state that still expects `k + 1` of them -/
theorem hex_run (m : LitMode) (hm : m.ok) (byte : Bool) (b : List Char) (T : List Token) :
    ∀ (k a v : Nat) (s : LexCore), InHex s m.hex (k + 1) a byte b T →
      a * 16 ^ (k + 1) + v % 16 ^ (k + 1) < 2 ^ 32 →
      (byte = true ∨ validRune (a * 16 ^ (k + 1) + v % 16 ^ (k + 1)) = true) →
      ∃ s', feed (.ok s) (hexDigits (k + 1) v) = .ok s' ∧
        InLit s' m.lit (b ++ [escResult byte (a * 16 ^ (k + 1) + v % 16 ^ (k + 1))]) T := by
  intro k
  induction k with
  | zero =>
    intro a v s hs hlt hval
    simp only [Nat.zero_add, Nat.pow_one] at hlt hval ⊢
    have hv : v / 16 ^ 0 % 16 = v % 16 := by simp
    simp only [hexDigits, feed_ok_cons, feed_nil]
    rw [hex_digit_step m hm hs _ (by rw [hv]; exact hlt), hv, if_neg (by omega)]
    cases byte with
    | true => exact ⟨_, rfl, rfl, by show s.buffer ++ _ = _; rw [hs.buffer]; rfl, hs.tokens⟩
    | false =>
      have hv' : validRune (a * 16 + v % 16) = true := hval.resolve_left (by simp)
      simp only [Bool.false_eq_true, ↓reduceIte, hv', Bool.not_true]
      exact ⟨_, rfl, rfl, by show s.buffer ++ _ = _; rw [hs.buffer]; rfl, hs.tokens⟩
  | succ k ih =>
    intro a v s hs hlt hval
    have hsplit : v % 16 ^ (k + 1 + 1) = v % 16 ^ (k + 1) + 16 ^ (k + 1) * (v / 16 ^ (k + 1) % 16) := Nat.mod_pow_succ
    have hpow : (16 : Nat) ^ (k + 1 + 1) = 16 * 16 ^ (k + 1) := by rw [Nat.pow_succ, Nat.mul_comm]
    have heq : a * 16 ^ (k + 1 + 1) + v % 16 ^ (k + 1 + 1) =
        (a * 16 + v / 16 ^ (k + 1) % 16) * 16 ^ (k + 1) + v % 16 ^ (k + 1) := by
      rw [hsplit, hpow, Nat.add_mul, Nat.mul_assoc, Nat.mul_comm (v / 16 ^ (k + 1) % 16)]
      omega
    have hpos : 0 < (16 : Nat) ^ (k + 1) := Nat.pow_pos (by decide)
    have hsmall : a * 16 + v / 16 ^ (k + 1) % 16 < 2 ^ 32 := by
      rw [heq] at hlt
      have : (a * 16 + v / 16 ^ (k + 1) % 16) * 1 ≤ (a * 16 + v / 16 ^ (k + 1) % 16) * 16 ^ (k + 1) :=
        Nat.mul_le_mul_left _ hpos
      omega
    rw [show hexDigits (k + 1 + 1) v = lowerhex (v / 16 ^ (k + 1)) :: hexDigits (k + 1) v from rfl, feed_ok_cons,
      hex_digit_step m hm hs _ hsmall, if_pos (by omega)]
    have := ih (a * 16 + v / 16 ^ (k + 1) % 16) v
      { pushRing s (lowerhex (v / 16 ^ (k + 1))) with escValue := a * 16 + v / 16 ^ (k + 1) % 16, escDigits := k + 1 }
      ⟨hs.state, rfl, rfl, hs.isByte, hs.buffer, hs.tokens⟩ (by rw [← heq]; exact hlt) (by rw [← heq]; exact hval)
    rw [← heq] at this
    exact this

theorem lit_simple_escape (m : LitMode) (hm : m.ok) (s : LexCore) (b : List Char) (T : List Token) (e c : Char)
    (hs : InLit s m.lit b T) (h0 : hexEscapeLen e = 0) (he : escapeChar e = some c) :
    ∃ s', feed (.ok s) ['\\', e] = .ok s' ∧ InLit s' m.lit (b ++ [c]) T := by
  obtain ⟨s1, hst1, hs1⟩ := lit_backslash m hm s b T hs
  obtain ⟨s2, hst2, hs2⟩ := esc_simple m hm s1 b T e c hs1 h0 he
  exact ⟨s2, by rw [feed_ok_cons, hst1, feed_ok_cons, hst2]; rfl, hs2⟩

theorem lit_hex_escape (m : LitMode) (hm : m.ok) (s : LexCore) (b : List Char) (T : List Token) (e : Char) (k v : Nat)
    (hs : InLit s m.lit b T) (hk : hexEscapeLen e = k + 1) (hv : v < 16 ^ (k + 1)) (hv32 : v < 2 ^ 32)
    (hval : (e == 'x' && m.isStr) = true ∨ validRune v = true) :
    ∃ s', feed (.ok s) ('\\' :: e :: hexDigits (k + 1) v) = .ok s' ∧
      InLit s' m.lit (b ++ [escResult (e == 'x' && m.isStr) v]) T := by
  obtain ⟨s1, hst1, hs1⟩ := lit_backslash m hm s b T hs
  obtain ⟨s2, hst2, hs2⟩ := esc_hex_start m hm s1 b T e hs1 (by rw [hk]; omega)
  rw [hk] at hs2
  have hmod : v % 16 ^ (k + 1) = v := Nat.mod_eq_of_lt hv
  have := hex_run m hm (e == 'x' && m.isStr) b T k 0 v s2 hs2 (by simpa [hmod] using hv32) (by simpa [hmod] using hval)
  obtain ⟨s3, hf3, hs3⟩ := this
  refine ⟨s3, ?_, by simpa [hmod] using hs3⟩
  rw [feed_ok_cons, hst1, feed_ok_cons, hst2]; exact hf3

theorem validRune_char (c : Char) : validRune c.toNat = true := by
  have h : c.toNat < 0xd800 ∨ (0xdfff < c.toNat ∧ c.toNat < 0x110000) := c.valid
  simp only [validRune, Bool.or_eq_true, decide_eq_true_eq, Bool.and_eq_true]
  rcases h with h | ⟨h1, h2⟩
  · left; exact h
  · right; exact ⟨by omega, by omega⟩

theorem byteAsRune_ascii (c : Char) (h : c.toNat < 0x80) : byteAsRune c.toNat = c := by
  have h1 : c.toNat % 256 = c.toNat := Nat.mod_eq_of_lt (by omega)
  simp [byteAsRune, h1, h]

/-- the forms `appendEscapedRune` writes -/
inductive EscForm (c q : Char) : List Char → Prop where
  | quoted (h : c = q ∨ c = '\\') : EscForm c q ['\\', c]
  | plain (h1 : c ≠ q) (h2 : c ≠ '\\') : EscForm c q [c]
  | named (e : Char) (h0 : hexEscapeLen e = 0) (he : escapeChar e = some c) : EscForm c q ['\\', e]
  | hex2 (h : c.toNat < 0x80) : EscForm c q ('\\' :: 'x' :: hexDigits 2 c.toNat)
  | hex4 (h : c.toNat < 0x10000) : EscForm c q ('\\' :: 'u' :: hexDigits 4 c.toNat)
  | hex8 : EscForm c q ('\\' :: 'U' :: hexDigits 8 c.toNat)

theorem escapedRune_form (c q : Char) : EscForm c q (escapedRune c q) := by
  unfold escapedRune
  by_cases h1 : (c == q || c == '\\') = true
  · rw [if_pos h1]
    exact .quoted (by simpa using h1)
  rw [if_neg h1]
  have h1' : c ≠ q ∧ c ≠ '\\' := by simpa using h1
  by_cases h2 : Generated.IsPrint.isPrint c.toNat = true
  · rw [if_pos h2]; exact .plain h1'.1 h1'.2
  rw [if_neg h2]
  by_cases h3 : (c == '\x07') = true
  · rw [if_pos h3]; have : c = '\x07' := by simpa using h3
    subst this; exact .named 'a' (by decide) (by decide)
  rw [if_neg h3]
  by_cases h4 : (c == '\x08') = true
  · rw [if_pos h4]; have : c = '\x08' := by simpa using h4
    subst this; exact .named 'b' (by decide) (by decide)
  rw [if_neg h4]
  by_cases h5 : (c == '\x0c') = true
  · rw [if_pos h5]; have : c = '\x0c' := by simpa using h5
    subst this; exact .named 'f' (by decide) (by decide)
  rw [if_neg h5]
  by_cases h6 : (c == '\n') = true
  · rw [if_pos h6]; have : c = '\n' := by simpa using h6
    subst this; exact .named 'n' (by decide) (by decide)
  rw [if_neg h6]
  by_cases h7 : (c == '\r') = true
  · rw [if_pos h7]; have : c = '\r' := by simpa using h7
    subst this; exact .named 'r' (by decide) (by decide)
  rw [if_neg h7]
  by_cases h8 : (c == '\t') = true
  · rw [if_pos h8]; have : c = '\t' := by simpa using h8
    subst this; exact .named 't' (by decide) (by decide)
  rw [if_neg h8]
  by_cases h9 : (c == '\x0b') = true
  · rw [if_pos h9]; have : c = '\x0b' := by simpa using h9
    subst this; exact .named 'v' (by decide) (by decide)
  rw [if_neg h9]
  by_cases h10 : (decide (c.toNat < 0x20) || c == '\x7f') = true
  · rw [if_pos h10]
    refine .hex2 ?_
    simp only [Bool.or_eq_true, decide_eq_true_eq, beq_iff_eq] at h10
    rcases h10 with h | h
    · omega
    · rw [h]; decide
  rw [if_neg h10]
  by_cases h11 : c.toNat < 0x10000
  · rw [if_pos h11]; exact .hex4 h11
  rw [if_neg h11]
  exact .hex8

theorem escaped_reads_back (m : LitMode) (hm : m.ok) (c : Char) (s : LexCore) (b : List Char) (T : List Token)
    (hs : InLit s m.lit b T) :
    ∃ s', feed (.ok s) (escapedRune c m.quote) = .ok s' ∧ InLit s' m.lit (b ++ [c]) T := by
  have hq : m.quote = '"' ∨ m.quote = '\'' := by rcases hm with rfl | rfl <;> simp [strMode, runeMode]
  have hmax : c.toNat < 0x110000 := by
    have h : c.toNat < 0xd800 ∨ (0xdfff < c.toNat ∧ c.toNat < 0x110000) := c.valid
    rcases h with h | ⟨_, h2⟩ <;> omega
  have hexcase : ∀ (e : Char) (k : Nat), hexEscapeLen e = k + 1 → c.toNat < 16 ^ (k + 1) →
      escResult (e == 'x' && m.isStr) c.toNat = c →
      ∃ s', feed (.ok s) ('\\' :: e :: hexDigits (k + 1) c.toNat) = .ok s' ∧ InLit s' m.lit (b ++ [c]) T := by
    intro e k hk hv hres
    obtain ⟨s', hf, hs'⟩ := lit_hex_escape m hm s b T e k c.toNat hs hk hv (by omega) (Or.inr (validRune_char c))
    exact ⟨s', hf, by rwa [hres] at hs'⟩
  have hform := escapedRune_form c m.quote
  generalize escapedRune c m.quote = txt at hform ⊢
  cases hform with
  | quoted h =>
    have h0 : hexEscapeLen c = 0 := by
      rcases h with h | h
      · rcases hq with hq | hq <;> (rw [h, hq]; decide)
      · rw [h]; decide
    have he : escapeChar c = some c := by
      rcases h with h | h
      · rcases hq with hq | hq <;> (rw [h, hq]; decide)
      · rw [h]; decide
    exact lit_simple_escape m hm s b T c c hs h0 he
  | plain h1 h2 =>
    obtain ⟨s', hst, hs'⟩ := lit_plain m hm s b T c hs h2 h1
    exact ⟨s', by rw [feed_ok_cons, hst]; rfl, hs'⟩
  | named e h0 he => exact lit_simple_escape m hm s b T e c hs h0 he
  | hex2 hlt =>
    exact hexcase 'x' 1 (by decide) (by omega) (by
      cases m.isStr
      · simp [escResult]
      · simp [escResult, byteAsRune_ascii c hlt])
  | hex4 hlt => exact hexcase 'u' 3 (by decide) (by omega) (by simp [escResult])
  | hex8 => exact hexcase 'U' 7 (by decide) (by omega) (by simp [escResult])

theorem quoteBody_reads_back (m : LitMode) (hm : m.ok) (cs : List Char) (s : LexCore) (b : List Char) (T : List Token)
    (hs : InLit s m.lit b T) :
    ∃ s', feed (.ok s) (quoteBody m.quote cs) = .ok s' ∧ InLit s' m.lit (b ++ cs) T := by
  induction cs generalizing s b with
  | nil => exact ⟨s, rfl, by simpa using hs⟩
  | cons c cs ih =>
    obtain ⟨s1, hf1, hs1⟩ := escaped_reads_back m hm c s b T hs
    obtain ⟨s2, hf2, hs2⟩ := ih s1 (b ++ [c]) hs1
    refine ⟨s2, ?_, by simpa using hs2⟩
    rw [show quoteBody m.quote (c :: cs) = escapedRune c m.quote ++ quoteBody m.quote cs from rfl, feed_append, hf1, hf2]

end ZygoVerif.Lexer
