/-
Lemmas for C09 about the VM model (`Model/VM.lean`): what the instructions of the self
tail-call sequence and of the function prologue do to the three stacks — instances of
`VM.exec_simple_eq` under the hypotheses C09 has — and the sequence as a whole: `Steps k s s'`,
a stretch of `k` instructions of compiled code walked once (`steps_tailSeq`), read by the real loop
through `Steps.runLoop` (`tail_sequence`).
-/
import ZygoVerif.Proofs.VMStep
namespace ZygoVerif.TailVM
open ZygoVerif.Core ZygoVerif.VM

theorem exec_removeScope (n : Nat) (s : St) (top : Option Nat) (rest : List (Option Nat)) (h : s.linear = top :: rest) :
    (exec (n+1) .removeScope).run s = (.ok (), { s with pc := s.pc + 1, linear := rest }) := by
  rw [Sim.exec_removeScope, h]

theorem exec_goto (n : Nat) (s : St) (loc : Nat) (h : (loc : Int) ≤ curSize s) :
    (exec (n+1) (.goto loc)).run s = (.ok (), { s with pc := loc }) := by
  rw [Sim.exec_goto, if_neg (by omega)]

theorem exec_prepareCall_fixed (n : Nat) (s : St) (x : String) (nargs : Nat)
    (hv : (fnOf s s.curfunc).varargs = false) :
    (exec (n+1) (.prepareCall x nargs)).run s = (.ok (), { s with pc := s.pc + 1 }) := by
  rw [exec_simple_eq n _ s rfl, step, hv, Bool.and_false, if_neg Bool.false_ne_true]; rfl

/-- `PopStackPutEnv` into a scope that has no binding for `x` yet. -/
theorem exec_popStackPutEnv_fresh (n : Nat) (s : St) (x : String) (v : Val) (D : List (Option Val))
    (top : Nat) (rest : List (Option Nat))
    (hd : s.data = some v :: D) (hl : s.linear = some top :: rest)
    (hx : (scopeOf s top).vars.lookup x = none) :
    (exec (n+1) (.popStackPutEnv x)).run s =
      (.ok (), { s with data := D, pc := s.pc + 1,
                        scopes := s.scopes.set top { scopeOf s top with vars := assocSet (scopeOf s top).vars x v } }) := by
  rw [exec_simple_eq n _ s rfl, step, popThen, hd]
  exact bindTopRes_of (s := s.jmp (s.pc + 1) D) hl fun cur hc => by
    rw [show scopeOf (s.jmp (s.pc + 1) D) top = scopeOf s top from rfl, hx] at hc; cases hc

def CodeAt (code : List Instr) (p : Nat) (is : List Instr) : Prop :=
  ∃ pre post, code = pre ++ is ++ post ∧ pre.length = p

/-- the state is inside compiled code (not a Go builtin) at position `p` where `is` starts -/
structure At (s : St) (p : Nat) (is : List Instr) : Prop where
  pc : s.pc = (p : Int)
  compiled : (fnOf s s.curfunc).user = false
  code : CodeAt (fnOf s s.curfunc).code p is

theorem At.fetch {s : St} {p : Nat} {i : Instr} {is : List Instr} (h : At s p (i :: is)) :
    ¬ (s.pc = -1 ∨ s.pc ≥ curSize s) ∧ (fnOf s s.curfunc).code[s.pc.toNat]? = some i := by
  obtain ⟨pre, post, hcode, hlen⟩ := h.code
  have hc : curSize s = ((fnOf s s.curfunc).code.length : Int) := by simp [curSize, h.compiled]
  refine ⟨?_, ?_⟩
  · rw [hc, h.pc, hcode]; simp; omega
  · rw [h.pc, hcode]; simp [hlen]

theorem runLoop_at (fuel : Nat) (st : CtlState) {s s1 : St} {p : Nat} {i : Instr} {is : List Instr}
    (h : At s p (i :: is)) (hex : (exec fuel i).run s = (.ok (), s1)) :
    (runLoop (fuel + 1) st).run s = (runLoop fuel st).run s1 := by
  rw [Sim.runLoop_fetch fuel st s h.fetch.1 h.fetch.2, hex]; rfl

/-- the same listing read `a.length` instructions further on, in a state with the same code under its cursor -/
theorem At.skip {s s1 : St} {p : Nat} (a : List Instr) {b : List Instr} (h : At s p (a ++ b))
    (hpc : s1.pc = s.pc + (a.length : Nat)) (hf : s1.fns = s.fns) (hc : s1.curfunc = s.curfunc) :
    At s1 (p + a.length) b := by
  obtain ⟨pre, post, hcode, hlen⟩ := h.code
  refine ⟨by rw [hpc, h.pc]; simp, by simpa [fnOf, hf, hc] using h.compiled, pre ++ a, post, ?_, by simp [hlen]⟩
  simpa [fnOf, hf, hc, List.append_assoc] using hcode

theorem At.next {s s1 : St} {p : Nat} {i : Instr} {is : List Instr} (h : At s p (i :: is))
    (hpc : s1.pc = s.pc + 1) (hf : s1.fns = s.fns) (hc : s1.curfunc = s.curfunc) : At s1 (p + 1) is :=
  At.skip [i] h hpc hf hc

/-- `k` instructions of compiled code, each of which succeeds with every fuel and leaves the address stack alone.
What such a stretch is for the loop (`Steps.runLoop`) and for the activation it belongs to
(`RunInv.Steps.reachAbove`) is read off it; the stretch is walked once. -/
inductive Steps : Nat → St → St → Prop
  | refl (s : St) : Steps 0 s s
  | step {k : Nat} {s s1 s2 : St} {p : Nat} {i : Instr} {is : List Instr} : At s p (i :: is) →
      (∀ n, (exec (n + 1) i).run s = (.ok (), s1)) → s1.addr = s.addr → Steps k s1 s2 → Steps (k + 1) s s2

theorem Steps.trans {a b : Nat} {s s1 s2 : St} (h1 : Steps a s s1) (h2 : Steps b s1 s2) : Steps (b + a) s s2 := by
  induction h1 with
  | refl _ => exact h2
  | step hat hx ha _ ih => exact .step hat hx ha (ih h2)

theorem Steps.runLoop {k : Nat} {s s' : St} (h : Steps k s s') (fuel : Nat) (st : CtlState) :
    (runLoop (fuel + 1 + k) st).run s = (runLoop (fuel + 1) st).run s' := by
  induction h with
  | refl _ => rfl
  | @step k s s1 _ _ _ _ hat hx _ _ ih =>
    rw [show fuel + 1 + (k + 1) = fuel + k + 1 + 1 by omega, runLoop_at _ st hat (hx (fuel + k)),
      show fuel + k + 1 = fuel + 1 + k by omega, ih]

/-- read as `Sim.Reach`: at most `k` instructions, with any fuel that is left -/
theorem Steps.reach {k : Nat} {s s' : St} (h : Steps k s s') : Sim.Reach k 1 s s' :=
  ⟨k, Nat.le_refl _, fun fuel hf st => by
    obtain ⟨f, rfl⟩ : ∃ f, fuel = f + 1 := ⟨fuel - 1, by omega⟩
    exact h.runLoop f st⟩

theorem steps_removeScopes : ∀ (m : Nat) (s : St) (p : Nat) (rest : List Instr) (ext L : List (Option Nat)),
    At s p (List.replicate m Instr.removeScope ++ rest) → s.linear = ext ++ L → ext.length = m →
    Steps m s { s with pc := s.pc + m, linear := L } ∧ At { s with pc := s.pc + m, linear := L } (p + m) rest
  | 0, s, p, rest, ext, L, h, hl, he => by
    cases List.length_eq_zero_iff.mp he
    have hs : ({ s with pc := s.pc + (0 : Nat), linear := L } : St) = s := by
      cases s; simp at hl; simp [hl]
    rw [hs]
    exact ⟨.refl s, by simpa using h⟩
  | m + 1, s, p, rest, [], L, _, _, he => by cases he
  | m + 1, s, p, rest, top :: ext, L, h, hl, he => by
    obtain ⟨s1, hs1⟩ : ∃ s1 : St, s1 = { s with pc := s.pc + 1, linear := ext ++ L } := ⟨_, rfl⟩
    have hat1 : At s1 (p + 1) (List.replicate m Instr.removeScope ++ rest) :=
      h.next (by simp [hs1]) (by simp [hs1]) (by simp [hs1])
    obtain ⟨ihr, iha⟩ := steps_removeScopes m s1 (p + 1) rest ext L hat1 (by simp [hs1]) (by simpa using he)
    have hst : ({ s1 with pc := s1.pc + (m : Int), linear := L } : St) = { s with pc := s.pc + ((m + 1 : Nat) : Int), linear := L } := by
      simp [hs1]; omega
    rw [hst] at ihr iha
    exact ⟨.step h (fun n => hs1 ▸ exec_removeScope n s top (ext ++ L) hl) (by rw [hs1]) ihr,
      by rw [show p + (m + 1) = p + 1 + m by omega]; exact iha⟩

/-- the self tail-call sequence the generator emits after the operands -/
def tailSeq (x : String) (nargs k : Nat) : List Instr :=
  [Instr.prepareCall x nargs] ++ List.replicate (k + 1) Instr.removeScope ++ [Instr.goto 0]

/-- **Segment lemma.** From a state at the `PrepareCall` of the tail sequence, with `k+1`
scopes (`ext`: the extra scopes opened in the body and the function scope) above `L`: if
`PrepareCall` succeeds and leaves the operands `data'`, `k+3` steps lead to
instruction 0 of the same function with scope stack `L` and operands `data'`; the address
stack, the scope table and everything else are untouched. -/
theorem steps_tailSeq (s : St) (p : Nat) (x : String) (nargs k : Nat)
    (rest : List Instr) (ext L : List (Option Nat)) (data' : List (Option Val))
    (hat : At s p (tailSeq x nargs k ++ rest))
    (hprep : ∀ n, (exec (n + 1) (.prepareCall x nargs)).run s = (.ok (), { s with pc := s.pc + 1, data := data' }))
    (hlin : s.linear = ext ++ L) (he : ext.length = k + 1) :
    Steps (1 + (k + 1) + 1) s { s with pc := 0, linear := L, data := data' } := by
  simp only [tailSeq, List.append_assoc, List.cons_append, List.nil_append] at hat
  obtain ⟨s1, hs1⟩ : ∃ s1 : St, s1 = { s with pc := s.pc + 1, data := data' } := ⟨_, rfl⟩
  have hat1 : At s1 (p + 1) (List.replicate (k + 1) Instr.removeScope ++ (Instr.goto 0 :: rest)) :=
    hat.next (by simp [hs1]) (by simp [hs1]) (by simp [hs1])
  obtain ⟨h2, hat2⟩ := steps_removeScopes (k + 1) s1 (p + 1) (Instr.goto 0 :: rest) ext L hat1 (by simp [hs1, hlin]) he
  obtain ⟨s2, hs2⟩ : ∃ s2 : St, s2 = { s1 with pc := s1.pc + ((k + 1 : Nat) : Int), linear := L } := ⟨_, rfl⟩
  rw [← hs2] at h2 hat2
  have hsz : ((0 : Nat) : Int) ≤ curSize s2 := by
    have : curSize s2 = ((fnOf s2 s2.curfunc).code.length : Int) := by simp [curSize, hat2.compiled]
    rw [this]; omega
  have e : ({ s2 with pc := ((0 : Nat) : Int) } : St) = { s with pc := 0, linear := L, data := data' } := by
    simp [hs2, hs1]
  exact .step hat (fun n => hs1 ▸ hprep n) (by rw [hs1]) (h2.trans (.step hat2 (fun n => e ▸ exec_goto n s2 0 hsz) (by rw [← e]) (.refl _)))

theorem tail_sequence (st : CtlState) (fuel : Nat) (s : St) (p : Nat) (x : String) (nargs k : Nat)
    (rest : List Instr) (ext L : List (Option Nat)) (data' : List (Option Val))
    (hat : At s p (tailSeq x nargs k ++ rest))
    (hprep : ∀ n, (exec (n + 1) (.prepareCall x nargs)).run s = (.ok (), { s with pc := s.pc + 1, data := data' }))
    (hlin : s.linear = ext ++ L) (he : ext.length = k + 1) :
    (runLoop (fuel + 1 + (k + 3)) st).run s =
      (runLoop (fuel + 1) st).run { s with pc := 0, linear := L, data := data' } := by
  rw [show k + 3 = 1 + (k + 1) + 1 by omega]
  exact (steps_tailSeq s p x nargs k rest ext L data' hat hprep hlin he).runLoop fuel st

/-- `PrepareCall` when the running function is variadic and there are more operands than fixed
parameters: the extra ones are packed into one list. -/
theorem exec_prepareCall_varargs_gt (n : Nat) (s : St) (x : String) (nargs : Nat) (vs : List Val)
    (hu : (fnOf s s.curfunc).user = false)
    (hv : (fnOf s s.curfunc).varargs = true) (hgt : (fnOf s s.curfunc).nargs < nargs)
    (hlen : nargs - (fnOf s s.curfunc).nargs ≤ s.data.length)
    (hm : (s.data.take (nargs - (fnOf s s.curfunc).nargs)).mapM id = some vs) :
    ∃ data', (exec (n+1) (.prepareCall x nargs)).run s = (.ok (), { s with pc := s.pc + 1, data := data' }) ∧
      data' = some (mkList vs.reverse) :: s.data.drop (nargs - (fnOf s s.curfunc).nargs) := by
  refine ⟨_, ?_, rfl⟩
  rw [exec_simple_eq n _ s rfl, step, hu, hv, if_pos (by decide), wrangleRes, if_neg (by omega), hm]; rfl

/-- `PrepareCall` when the running function is variadic and exactly the fixed operands are
there: nil is pushed. -/
theorem exec_prepareCall_varargs_eq (n : Nat) (s : St) (x : String) (nargs : Nat)
    (hu : (fnOf s s.curfunc).user = false)
    (hv : (fnOf s s.curfunc).varargs = true) (heq : nargs = (fnOf s s.curfunc).nargs) :
    (exec (n+1) (.prepareCall x nargs)).run s = (.ok (), { s with pc := s.pc + 1, data := some Val.nil :: s.data }) := by
  rw [exec_simple_eq n _ s rfl, step, hu, hv, if_pos (by decide), wrangleRes, if_neg (by omega), heq, Nat.sub_self]; rfl

/-- fixed parameter list: the operands are left as they are (the generator only emits the
sequence when their number fits, fix c9a2ccf; `PrepareCall` itself does not look at it). -/
theorem tail_sequence_fixed (st : CtlState) (fuel : Nat) (s : St) (p : Nat) (x : String) (nargs k : Nat)
    (rest : List Instr) (ext L : List (Option Nat))
    (hat : At s p (tailSeq x nargs k ++ rest))
    (hv : (fnOf s s.curfunc).varargs = false)
    (hlin : s.linear = ext ++ L) (he : ext.length = k + 1) :
    (runLoop (fuel + 1 + (k + 3)) st).run s = (runLoop (fuel + 1) st).run { s with pc := 0, linear := L } := by
  have := tail_sequence st fuel s p x nargs k rest ext L s.data hat
    (fun n => by simpa using exec_prepareCall_fixed n s x nargs hv) hlin he
  simpa using this

/-- variadic: the operands beyond the fixed ones are packed; `nargs_fixed + 1` operands remain. -/
theorem tail_sequence_varargs (st : CtlState) (fuel : Nat) (s : St) (p : Nat) (x : String) (nargs k : Nat)
    (rest : List Instr) (ext L : List (Option Nat)) (vs : List Val)
    (hat : At s p (tailSeq x nargs k ++ rest))
    (hv : (fnOf s s.curfunc).varargs = true) (ha : (fnOf s s.curfunc).nargs ≤ nargs)
    (hlen : nargs - (fnOf s s.curfunc).nargs ≤ s.data.length)
    (hm : (s.data.take (nargs - (fnOf s s.curfunc).nargs)).mapM id = some vs)
    (hlin : s.linear = ext ++ L) (he : ext.length = k + 1) :
    ∃ data', data'.length + nargs = s.data.length + (fnOf s s.curfunc).nargs + 1 ∧
      (runLoop (fuel + 1 + (k + 3)) st).run s =
        (runLoop (fuel + 1) st).run { s with pc := 0, linear := L, data := data' } := by
  have hu := hat.compiled
  by_cases hgt : (fnOf s s.curfunc).nargs < nargs
  · refine ⟨some (mkList vs.reverse) :: s.data.drop (nargs - (fnOf s s.curfunc).nargs), by simp; omega, ?_⟩
    apply tail_sequence st fuel s p x nargs k rest ext L _ hat _ hlin he
    intro n
    obtain ⟨d, hd, rfl⟩ := exec_prepareCall_varargs_gt n s x nargs vs hu hv hgt hlen hm
    exact hd
  · have heq : nargs = (fnOf s s.curfunc).nargs := by omega
    refine ⟨some Val.nil :: s.data, by simp; omega, ?_⟩
    apply tail_sequence st fuel s p x nargs k rest ext L _ hat _ hlin he
    intro n
    exact exec_prepareCall_varargs_eq n s x nargs hu hv heq

/-- the name still denotes the function object that is running: the guard falls through -/
theorem exec_tailGuard_self (n : Nat) (s : St) (x : String) (skip sid : Nat)
    (hl : lexLookup s x = some (sid, .fn s.curfunc)) :
    (exec (n+1) (.tailGuard x skip)).run s = (.ok (), { s with pc := s.pc + 1 }) := by
  rw [exec_simple_eq n _ s rfl, step, hl]
  exact congrArg (fun p => (Except.ok (), s.jmp p s.data)) (if_pos rfl)

/-- the name denotes anything else (another function, another closure of the same template, a
non-function, nothing at all): the guard skips `skip` instructions and changes nothing else -/
theorem exec_tailGuard_other (n : Nat) (s : St) (x : String) (skip : Nat)
    (hl : ∀ sid, lexLookup s x ≠ some (sid, .fn s.curfunc)) :
    (exec (n+1) (.tailGuard x skip)).run s = (.ok (), { s with pc := s.pc + skip }) := by
  rw [exec_simple_eq n _ s rfl, step]
  split
  · rename_i sid f hlk
    rw [if_neg fun (h : f = s.curfunc) => hl sid (h ▸ hlk)]; rfl
  · rfl

theorem exec_popStackPutEnv_frame (n : Nat) (s : St) (x : String) (top : Nat) (rest : List (Option Nat))
    (hl : s.linear = some top :: rest) (sid : Nat) (hne : sid ≠ top) :
    ((exec (n+1) (.popStackPutEnv x)).run s).2.scopes[sid]? = s.scopes[sid]? := by
  rw [exec_simple_eq n _ s rfl, step, popThen]
  split
  · rfl
  · rfl
  · rename_i v D _
    rw [bindTopRes, show (s.jmp (s.pc + 1) D).linear = some top :: rest from hl]
    dsimp only
    split
    · exact List.getElem?_set_ne (Ne.symm hne)
    · rfl

theorem exec_popStackPutEnv_linear (n : Nat) (s : St) (x : String) :
    ((exec (n+1) (.popStackPutEnv x)).run s).2.linear = s.linear := by
  rw [exec_simple_eq n _ s rfl, step, popThen]
  split
  · rfl
  · rfl
  · rw [bindTopRes]
    split
    · split <;> rfl
    · rfl

/-- `AddFuncScope` puts a scope on top that did not exist before (its id is the old size of
the scope table) and leaves every existing scope as it was. -/
theorem exec_addFuncScope_fresh (n : Nat) (s : St) (t : Nat) :
    let s1 := ((exec (n+1) (.addFuncScope t)).run s).2
    s1.linear = some s.scopes.length :: s.linear ∧ s1.scopes.length = s.scopes.length + 1 ∧
      ∀ sid, sid < s.scopes.length → s1.scopes[sid]? = s.scopes[sid]? := by
  rw [exec_simple_eq n _ s rfl]
  refine ⟨rfl, by simp [step], ?_⟩
  intro sid h
  simp [step, List.getElem?_append_left h]

end ZygoVerif.TailVM
