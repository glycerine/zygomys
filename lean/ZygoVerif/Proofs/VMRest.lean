/-
How `runText` is put together (`Model/VM.lean`): compilation at run time changes the function table, the loop
table and the loop stack only (`run_runGen`, `withGen`); the state handed to `Run` (`loaded`) and the report
(`finishRun`), in one equation `runText_eq`; an interpreter at rest (`AtRest`) and `Run` at the end of `mainfunc`
(`run_at_end`, `runText_nil`).
-/
import ZygoVerif.Proofs.SimMachine
namespace ZygoVerif.VM
open ZygoVerif.Core

/-- At rest: no operands, only the global scope, no return address, no loop record, pc at the
end of `mainfunc` (what `VerifDepths` / `VerifAtEnd` observe on the real interpreter). -/
def AtRest (s : St) : Prop :=
  s.data = [] ∧ s.linear = [some 0] ∧ s.addr = [] ∧ s.loopstack = [] ∧ s.curfunc = mainFn ∧ curSize s ≤ s.pc

namespace AtRest
variable {s : St} (h : AtRest s)
include h
theorem data : s.data = [] := h.1
theorem linear : s.linear = [some 0] := h.2.1
theorem addr : s.addr = [] := h.2.2.1
theorem loopstack : s.loopstack = [] := h.2.2.2.1
theorem curfunc : s.curfunc = mainFn := h.2.2.2.2.1
theorem pcEnd : curSize s ≤ s.pc := h.2.2.2.2.2
end AtRest

/-- `Run` with the pc at the end and an empty data stack: nothing runs, `Run` supplies nil. -/
theorem run_at_end (s : St) (fuel : Nat) (hd : s.data = []) (hpc : curSize s ≤ s.pc) :
    (run (fuel + 2)).run s = (Except.ok Val.nil, s) := by
  have hcond : (s.pc = -1 ∨ s.pc ≥ curSize s) := Or.inr hpc
  unfold run runLoop
  simp only [capture, Sim.run_bind, Sim.run_get, Sim.run_pure, if_pos hcond, hd, List.isEmpty_nil, if_true,
    Sim.run_pushData, Sim.run_popData]
  rw [← hd]

theorem runGen_pure {α : Type} (a : α) (s : St) : (runGen (pure a : G α)).run s = (Except.ok a, s) := rfl

theorem set_getD_self (l : List FnObj) : (l.set 0 (l.getD 0 {})).getD 0 {} = l.getD 0 {} := by
  cases l <;> simp

/-- how `runText` reports the result of its `Run` -/
def finishRun (r : Except Fault Val × St) : Outcome × St × Bool :=
  let s := r.2
  match r.1 with
  | .ok v => (.done "ok" (pr s.heap v) s.trace (depths s), s, true)
  | .error .err => (.done "err" "-" s.trace (depths s), s, true)
  | .error .panic => (.done "panic" "-" s.trace "-", s, false)
  | .error .timeout => (.done "timeout" "-" s.trace "-", s, false)

theorem finishRun_state (r : Except Fault Val × St) : (finishRun r).2.1 = r.2 := by
  rcases r with ⟨(_ | _ | _) | _, s⟩ <;> rfl

theorem finishRun_ne_cerr (r : Except Fault Val × St) {v d : String} {tr : List String} {s' : St} {alive : Bool} :
    finishRun r ≠ (.done "cerr" v tr d, s', alive) := by
  rcases r with ⟨(_ | _ | _) | _, s⟩ <;>
    · intro h; injection h with h _; injection h with h; exact absurd h (by decide)

/-- the generator state the VM hands to the generator -/
def St.gs (s : St) : GS := { fns := s.fns, loops := s.loops, loopstack := s.loopstack, live := s.linear }

/-- the interpreter state with the tables a successful compilation hands back -/
def withGen (s : St) (gs' : GS) : St := { s with fns := gs'.fns, loops := gs'.loops, loopstack := gs'.loopstack }

/-- `runGen`: a failed compilation leaves the interpreter state as it was; a successful one
changes the function table, the loop table and the loop stack only. -/
theorem run_runGen {α} (g : G α) (s : St) :
    (runGen g).run s =
      match g.run s.gs with
      | .ok (a, gs') => (.ok a, withGen s gs')
      | .error _ => (.error .err, s) := by
  unfold runGen St.gs
  simp only [Sim.run_bind, Sim.run_get]
  split <;> rename_i h <;> simp only [h, Sim.run_bind, Sim.run_set, Sim.run_pure, Sim.run_err] <;> rfl

/-- a failed compilation at run time is an error that leaves the state as it was -/
theorem runGen_fail {α} {g : G α} {s s1 : St} {er : Fault} (h : (runGen g).run s = (.error er, s1)) : er = .err ∧ s1 = s := by
  rw [run_runGen] at h
  split at h <;> cases h
  exact ⟨rfl, rfl⟩

theorem runGen_ok {α} {g : G α} {s s1 : St} {a : α} (h : (runGen g).run s = (.ok a, s1)) :
    ∃ gs', g.run s.gs = .ok (a, gs') ∧
      s1 = withGen s gs' := by
  rw [run_runGen] at h
  split at h <;> cases h
  exact ⟨_, ‹_›, rfl⟩

/-- the state `runText` hands to `Run`. `LoadExpressions` appends the code of the text to `__main` — behind a
`pop` when the text before it did not run to its end — and makes `__main` the current function; `s` is the state
the text was given to, `s1` the state the generator left. -/
def loaded (s s1 : St) (code : List Instr) : St :=
  { s1 with fns := s1.fns.set mainFn { fnOf s1 mainFn with
              code := (fnOf s1 mainFn).code ++ (if s.pc ≥ curSize s then [] else [.pop]) ++ code },
            curfunc := mainFn }

/-- **`runText`** = drop the trace of the text before, compile, load, `Run`, report. A compile error runs nothing. -/
theorem runText_eq (fuel : Nat) (es : List Expr) (s : St) :
    runText fuel es s =
      match (runGen (compileBegin (isFnScope s) {} es)).run { s with trace := [] } with
      | (.error _, s1) => (.done "cerr" "-" [] (depths s1), s1, true)
      | (.ok (code, _), s1) => finishRun ((run fuel).run (loaded s s1 code)) := by
  unfold runText
  dsimp only
  rw [show isFnScope { s with trace := [] } = isFnScope s from rfl]
  rcases (runGen (compileBegin (isFnScope s) {} es)).run { s with trace := [] } with ⟨_ | ⟨code, t⟩, s1⟩ <;> rfl

/-- `LoadExpressions` of no expressions appends no code (and no leading `pop`: the pc is at the end). -/
theorem runText_nil (fuel : Nat) (s : St) (hpc : curSize s ≤ s.pc) :
    runText fuel [] s = finishRun ((run fuel).run
      { s with fns := s.fns.set mainFn (fnOf s mainFn), curfunc := mainFn, trace := [] }) := by
  unfold runText
  simp only [compileBegin, runGen_pure]
  have hge : s.pc ≥ curSize { s with trace := [] } := hpc
  simp only [hge, if_true, List.append_nil]
  rfl

theorem pr_nil (h : DataHeap) : pr h .nil = "nil" := by
  simp [pr, showVal]

end ZygoVerif.VM
