/-
C02, execution half — the fragment F0c at top level: the length of the code of an F0c expression is
bounded by its size (`compile_length_F0c`), so `runText_F0c` can say with how much fuel a text of the
fragment, loaded and run, reports its value.
-/
import ZygoVerif.Proofs.SimF0c
import ZygoVerif.Proofs.SimText
namespace ZygoVerif.Sim
open ZygoVerif.Core ZygoVerif.VM

theorem asmCond_length (as : List (List Instr × List Instr)) (d : List Instr) :
    (asmCond as d).length = (as.map (fun a => a.1.length + a.2.length + 2)).sum + d.length := by
  induction as with
  | nil => simp [asmCond]
  | cons a as ih =>
    obtain ⟨p, b⟩ := a
    simp only [asmCond, List.length_append, List.length_cons, List.length_nil, ih, List.map_cons, List.sum_cons]
    omega

theorem asmSC_length (isOr : Bool) : ∀ (cs : List (List Instr)),
    (asmSC isOr cs).length ≤ (cs.map (fun c => c.length + 3)).sum + 1
  | [] => by simp [asmSC]
  | [c] => by simp [asmSC]; omega
  | c :: c' :: cs => by
    have ih := asmSC_length isOr (c' :: cs)
    simp only [asmSC, List.length_append, List.length_cons, List.length_nil, List.map_cons, List.sum_cons] at ih ⊢
    omega

mutual
theorem compile_length_F0c : ∀ (e : Expr), F0c e = true → ∀ isFn c gs r, (compile isFn c e).run gs = .ok r →
    r.1.1.length ≤ 3 * esize e
  | .int v, _, isFn, c, gs, r, h => by
    rw [compile_int_run] at h; cases h; simp [esize]
  | .bool v, _, isFn, c, gs, r, h => by
    rw [compile_bool_run] at h; cases h; simp [esize]
  | .str v, _, isFn, c, gs, r, h => by
    rw [compile_str_run] at h; cases h; simp [esize]
  | .nilLit, _, isFn, c, gs, r, h => by
    rw [compile_nil_run] at h; cases h; simp [esize]
  | .begin_ es, he, isFn, c, gs, r, h => by
    rw [F0c] at he
    cases es with
    | nil =>
      rw [compile_begin_nil_run] at h; cases h; simp [esize, esizeList]
    | cons e0 es0 =>
      rw [compile] at h
      · have := compileBegin_length_F0c (e0 :: es0) he isFn c gs r h
        rw [esize]; omega
      · intro hh; cases hh
  | .cond arms d, he, isFn, c, gs, r, h => by
    rw [F0c] at he
    simp only [Bool.and_eq_true] at he
    obtain ⟨rd, gs1, hd, as, gs2, has, rfl⟩ := compile_cond_ok.mp h
    have h1 := compile_length_F0c d he.2 isFn c gs (rd, gs1) hd
    have h2 := compileArms_length_F0c arms he.1 isFn c gs1 (as, gs2) has
    simp only [asmCond_length]
    rw [esize]; simp only at h1 h2; omega
  | .and_ es, he, isFn, c, gs, r, h => by
    rw [F0c] at he
    obtain ⟨cs, gs1, hcs, rfl⟩ := compile_and_ok.mp h
    have h1 := compileSC_length_F0c es he isFn c gs (cs, gs1) hcs
    have h2 := asmSC_length false cs
    rw [esize]; simp only at h1 h2 ⊢; omega
  | .or_ es, he, isFn, c, gs, r, h => by
    rw [F0c] at he
    obtain ⟨cs, gs1, hcs, rfl⟩ := compile_or_ok.mp h
    have h1 := compileSC_length_F0c es he isFn c gs (cs, gs1) hcs
    have h2 := asmSC_length true cs
    rw [esize]; simp only at h1 h2 ⊢; omega
  | .sym _, he, _, _, _, _, _ | .arr _, he, _, _, _, _, _ | .call _ _, he, _, _, _, _, _ | .def_ _ _, he, _, _, _, _, _
  | .set_ _ _, he, _, _, _, _, _ | .let_ _ _ _, he, _, _, _, _, _ | .newScope _, he, _, _, _, _, _
  | .for_ _ _ _ _ _, he, _, _, _, _, _ | .break_ _, he, _, _, _, _, _ | .continue_ _, he, _, _, _, _, _
  | .fn _ _ _, he, _, _, _, _, _ | .defn _ _ _ _, he, _, _, _, _, _ | .assign _ _, he, _, _, _, _, _ | .bad _, he, _, _, _, _, _ => by
    simp [F0c] at he
theorem compileBegin_length_F0c : ∀ (es : List Expr), F0cList es = true → ∀ isFn c gs r, (compileBegin isFn c es).run gs = .ok r →
    r.1.1.length + 1 ≤ 3 * esizeList es
  | [], _, isFn, c, gs, r, h => by
    rw [compileBegin_nil_run] at h; cases h; simp [esizeList]
  | [e], he, isFn, c, gs, r, h => by
    rw [F0cList] at he
    simp only [Bool.and_eq_true] at he
    rw [compileBegin] at h
    have := compile_length_F0c e he.1 isFn c gs r h
    simp only [esizeList]; omega
  | e :: e' :: es, he, isFn, c, gs, r, h => by
    rw [F0cList] at he
    simp only [Bool.and_eq_true] at he
    obtain ⟨ra, gs1, ha, rb, gs2, hb, rfl⟩ := compileBegin_cons_ok.mp h
    have h1 := compile_length_F0c e he.1 isFn _ gs (ra, gs1) ha
    have h2 := compileBegin_length_F0c (e' :: es) he.2 isFn c gs1 (rb, gs2) hb
    rw [esizeList]
    simp only [List.length_append] at h1 h2 ⊢
    split <;> simp only [List.length_nil, List.length_cons] <;> omega
theorem compileSC_length_F0c : ∀ (es : List Expr), F0cList es = true → ∀ isFn c gs r, (compileSC isFn c es).run gs = .ok r →
    (r.1.map (fun c => c.length + 3)).sum + 3 ≤ 3 * esizeList es
  | [], _, isFn, c, gs, r, h => by
    rw [compileSC_nil_run] at h; cases h; simp [esizeList]
  | [e], he, isFn, c, gs, r, h => by
    rw [F0cList] at he
    simp only [Bool.and_eq_true] at he
    obtain ⟨ra, gs1, ha, rfl⟩ := compileSC_one_ok.mp h
    have := compile_length_F0c e he.1 isFn c gs (ra, gs1) ha
    simp only [esizeList, List.map_cons, List.map_nil, List.sum_cons, List.sum_nil] at this ⊢; omega
  | e :: e' :: es, he, isFn, c, gs, r, h => by
    rw [F0cList] at he
    simp only [Bool.and_eq_true] at he
    obtain ⟨rest, gs1, hrest, ra, gs2, ha, rfl⟩ := compileSC_cons_ok.mp h
    have h1 := compile_length_F0c e he.1 isFn _ gs1 (ra, gs2) ha
    have h2 := compileSC_length_F0c (e' :: es) he.2 isFn c gs (rest, gs1) hrest
    rw [esizeList]
    simp only [List.map_cons, List.sum_cons] at h1 h2 ⊢
    omega
theorem compileArms_length_F0c : ∀ (arms : List (Expr × Expr)), F0cArms arms = true → ∀ isFn c gs r, (compileArms isFn c arms).run gs = .ok r →
    (r.1.map (fun a => a.1.length + a.2.length + 2)).sum + 3 ≤ 3 * esizeArms arms
  | [], _, isFn, c, gs, r, h => by
    rw [compileArms_nil_run] at h; cases h; simp [esizeArms]
  | (p, b) :: arms, he, isFn, c, gs, r, h => by
    rw [F0cArms] at he
    simp only [Bool.and_eq_true] at he
    obtain ⟨rest, gs1, hrest, rp, gs2, hp, rb, gs3, hb, rfl⟩ := compileArms_cons_ok.mp h
    have h1 := compile_length_F0c p he.1.1 isFn _ gs1 (rp, gs2) hp
    have h2 := compile_length_F0c b he.1.2 isFn c gs2 (rb, gs3) hb
    have h3 := compileArms_length_F0c arms he.2 isFn c gs (rest, gs1) hrest
    rw [esizeArms]
    simp only [List.map_cons, List.sum_cons] at h1 h2 h3 ⊢
    omega
end

/-- A non-empty F0c program text, loaded and run. From any resting state: if the
reference evaluator computes `v` for the program (any fuel, environment, state), then
`runText` with fuel `≥ 3 * esizeList p + 3` reports class `ok`, the printed `v`, an empty
trace and the stack depths it started with. -/
theorem runText_F0c (s : St) (p : List Expr) (hne : p ≠ []) (hp : F0cList p = true) (hs : AtRest s)
    (n env : Nat) (rs : Ref.St) (v : Val) (rs' : Ref.St) (hr : Ref.evalBegin n p env rs = .ok v rs')
    (fuel : Nat) (hf : 3 * esizeList p + 3 ≤ fuel) :
    ∃ code, runText fuel p s = (.done "ok" (pr s.heap v) [] (depths s), afterText s code, true) := by
  obtain ⟨code, hc⟩ := compileBegin_total p hne hp (isFnScope (clearTrace s)) {}
    { fns := s.fns, loops := s.loops, loopstack := s.loopstack, live := s.linear }
  have hlen := compileBegin_length_F0c p hp _ _ _ _ hc
  obtain ⟨-, hpush⟩ := segment_F0c_begin p hne hp _ _ _ code _ _ hc n env rs v rs' hr
  refine ⟨code, ?_⟩
  have hload : (runGen (compileBegin (isFnScope s) {} p)).run (clearTrace s)
      = (.ok (code, false), clearTrace s) := run_runGen_ok _ (clearTrace s) _ hc
  have hrun : (run fuel).run (VM.loaded s (clearTrace s) code) = _ :=
    run_of_pushes (hs.loaded code) hpush fuel (by simp only at hlen; omega)
  rw [VM.runText_eq, show ({ s with trace := [] } : St) = clearTrace s from rfl, hload]
  simp only [hrun, finishRun]
  rfl

end ZygoVerif.Sim
