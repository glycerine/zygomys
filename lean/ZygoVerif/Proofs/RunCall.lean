/-
**The calling contract on normal returns** (`AllSpec`) about the VM's mutual block (`run`,
`runLoop`, `exec`, `evalCallExpr`, `nested`, `prepareArgs`, `callResolved`, `callUser`, `builtin`,
`applyFn`, `mapArr`, `mapList`, `forceLazy`), and what the proof of the contract uses of
`CallFunction`, `ret` and a call seen from the caller. What is proved is `Spec`
(Proofs/RunOut.lean), one statement per function for every outcome; `AllSpec` is `Spec` read
for the outcome `ok` (`Spec.allSpec`).

From a state that satisfies the table invariant `WF` (every function object verified, every
stored value storable) whenever one of these functions returns normally:
* the tables have only grown and `WF` holds again;
* a nested evaluation (`evalCallExpr`, `builtin`, `applyFn`, `forceLazy`, …) leaves the data stack
  (as the checker sees it), the scope stack, the address stack, the current function, the pc
  and the set-aside stacks exactly as they were, and returns a storable value;
* `callUser` pops its operands and pushes exactly one value;
* one instruction of a `Running` loop leaves it `Running` (one activation more after a call of a
  compiled function, one less after `ret`) or `Finished`;
* a `runLoop` that was `Running` ends `Finished`: the bottom activation has returned ONE value on
  the data it was entered with, at the scope depth and the address stack it was entered with.
-/
import ZygoVerif.Proofs.RunStep
namespace ZygoVerif.RunInv
open ZygoVerif.Core ZygoVerif.VM ZygoVerif.Bal ZygoVerif.Refine ZygoVerif.Sim ZygoVerif.Contain

structure SameCtl (s s' : St) : Prop where
  data : s'.data.map cellOf = s.data.map cellOf
  linear : s'.linear = s.linear
  addr : s'.addr = s.addr
  cur : s'.curfunc = s.curfunc
  pc : s'.pc = s.pc
  susp : s'.suspended = s.suspended

theorem SameCtl.refl (s : St) : SameCtl s s := ⟨rfl, rfl, rfl, rfl, rfl, rfl⟩

theorem SameCtl.trans {a b c : St} (h1 : SameCtl a b) (h2 : SameCtl b c) : SameCtl a c :=
  ⟨h2.data.trans h1.data, h2.linear.trans h1.linear, h2.addr.trans h1.addr, h2.cur.trans h1.cur,
   h2.pc.trans h1.pc, h2.susp.trans h1.susp⟩

/-- what a nested evaluation guarantees: the invariant, tables only grown, stacks and registers as before -/
structure Kept (s s' : St) : Prop where
  wf : WF s'
  ext : TExt s s'
  same : SameCtl s s'

theorem Kept.refl {s : St} (h : WF s) : Kept s s := ⟨h, TExt.refl s, SameCtl.refl s⟩

theorem Kept.trans {a b c : St} (h1 : Kept a b) (h2 : Kept b c) : Kept a c :=
  ⟨h2.wf, h1.ext.trans h2.ext, h1.same.trans h2.same⟩

def Live (b : Base) (s : St) : Prop := (∃ top rest, Running b s top rest) ∨ Finished b s

/-- what one instruction makes of the stack of activations `top :: rest`: it stays, a callee is
pushed, the top activation returns to its caller, or the bottom activation returns to the base -/
def Next (b : Base) (s' : St) (top : Act) (rest : List Act) : Prop :=
  Running b s' top rest ∨ (∃ c, Running b s' c (top :: rest)) ∨ (∃ a r, rest = a :: r ∧ Running b s' a r) ∨ Finished b s'

theorem Next.live {b : Base} {s' : St} {top : Act} {rest : List Act} (h : Next b s' top rest) : Live b s' := by
  rcases h with h | ⟨c, h⟩ | ⟨a, r, _, h⟩ | h
  · exact Or.inl ⟨_, _, h⟩
  · exact Or.inl ⟨_, _, h⟩
  · exact Or.inl ⟨_, _, h⟩
  · exact Or.inr h

/-- what each function of the mutual block leaves when it returns normally, at one fuel; read off `Spec n`
(Proofs/RunOut.lean) by `Spec.allSpec` -/
structure AllSpec (n : Nat) : Prop where
  exec : ∀ (b : Base) (s s' : St) (top : Act) (rest : List Act) (i : Instr), WF s → Running b s top rest →
    (fnOf s s.curfunc).code[s.pc.toNat]? = some i → (exec n i).run s = (.ok (), s') →
    WF s' ∧ TExt s s' ∧ Next b s' top rest ∧ s'.suspended = s.suspended
  resolved : ∀ (b : Base) (s s' : St) (top : Act) (rest : List Act) (f : Val) (c0 : Expr) (args : List Expr), WF s →
    Running b s top rest → (fnOf s s.curfunc).code[s.pc.toNat]? = some (.callExpr c0 args) →
    vok s.fns.length f = true → okLs args = true → (callResolved n f args).run s = (.ok (), s') →
    WF s' ∧ TExt s s' ∧ Next b s' top rest ∧ s'.suspended = s.suspended
  loop : ∀ (b : Base) (st : CtlState) (s s' : St), WF s → Live b s → b.pc = -2 → b.main = false →
    (runLoop n st).run s = (.ok (), s') → WF s' ∧ TExt s s' ∧ Finished b s' ∧ s'.suspended = s.suspended
  run : ∀ (b : Base) (s s' : St) (top : Act) (v : Val), WF s → Running b s top [] → b.pc = -2 → b.main = false →
    (run n).run s = (.ok v, s') →
    WF s' ∧ TExt s s' ∧ vok s'.fns.length v = true ∧ s'.data.map cellOf = b.data.map cellOf ∧ s'.linear = b.linear ∧
      s'.addr = b.addr ∧ s'.curfunc = b.cur ∧ s'.pc = -1 ∧ s'.suspended = s.suspended
  nested : ∀ (f : Nat) (st : CtlState) (s s' : St) (v : Val), WF s → 2 ≤ f → f < s.fns.length →
    (fnOf s f).params.length = 0 → s.pc = -2 → (nested n f st).run s = (.ok v, s') →
    ∃ s2, s' = restoreSt st s2 ∧ WF s2 ∧ TExt s s2 ∧ vok s2.fns.length v = true ∧
      s2.data.map cellOf = s.data.map cellOf ∧ s2.linear = s.linear ∧ s2.addr = s.addr ∧ s2.curfunc = s.curfunc ∧
      s2.suspended = s.suspended
  eval : ∀ (e : Expr) (s s' : St) (v : Val), WF s → okL e = true → (evalCallExpr n e).run s = (.ok v, s') →
    Kept s s' ∧ vok s'.fns.length v = true
  prep : ∀ (f : Option FnObj) (i : Nat) (args : List Expr) (s s' : St), WF s → okLs args = true →
    (prepareArgs n f i args).run s = (.ok (), s') →
    WF s' ∧ TExt s s' ∧ s'.data.map cellOf = List.replicate args.length .val ++ s.data.map cellOf ∧
      s'.linear = s.linear ∧ s'.addr = s.addr ∧ s'.curfunc = s.curfunc ∧ s'.pc = s.pc ∧ s'.suspended = s.suspended
  user : ∀ (name : String) (k : Nat) (s s' : St) (tail : List Cell), WF s →
    s.data.map cellOf = List.replicate k .val ++ tail → (callUser n name k).run s = (.ok (), s') →
    WF s' ∧ TExt s s' ∧ s'.data.map cellOf = .val :: tail ∧ s'.linear = s.linear ∧ s'.addr = s.addr ∧
      s'.curfunc = s.curfunc ∧ s'.pc = s.pc + 1 ∧ s'.suspended = s.suspended
  builtin : ∀ (name : String) (args : List Val) (s s' : St) (v : Val), WF s → s.pc = -1 → (∀ a ∈ args, vok s.fns.length a = true) →
    (builtin n name args).run s = (.ok v, s') → Kept s s' ∧ vok s'.fns.length v = true
  apply : ∀ (f : Val) (args : List Val) (s s' : St) (v : Val), WF s → s.pc = -1 → vok s.fns.length f = true →
    (∀ a ∈ args, vok s.fns.length a = true) →
    (applyFn n f args).run s = (.ok v, s') → Kept s s' ∧ vok s'.fns.length v = true
  mapArr : ∀ (f : Val) (r i k : Nat) (s s' : St) (vs : List Val), WF s → s.pc = -1 → vok s.fns.length f = true →
    (mapArr n f r i k).run s = (.ok vs, s') → Kept s s' ∧ ∀ v ∈ vs, vok s'.fns.length v = true
  mapList : ∀ (f l : Val) (s s' : St) (v : Val), WF s → s.pc = -1 → vok s.fns.length f = true → vok s.fns.length l = true →
    (mapList n f l).run s = (.ok v, s') → Kept s s' ∧ vok s'.fns.length v = true
  force : ∀ (id : Nat) (s s' : St) (v : Val), WF s → (forceLazy n id).run s = (.ok v, s') →
    Kept s s' ∧ vok s'.fns.length v = true

theorem absC_eq (s' : St) (c : CState) (h1 : s'.pc.toNat = c.pc) (h2 : s'.data.map cellOf = c.data)
    (h3 : s'.linear.length = c.sc) (h4 : s'.addr.length = c.addr) : absC s' = c := by
  cases c
  simp only [absC] at *
  simp [h1, h2, h3, h4]

theorem actOK_of_good {s : St} {id : Nat} (hg : FnGood s id) (hid : id < s.fns.length) :
    ∃ ann, Verified (fnB s id) ann ∧ ∀ D S A, ActOK s ⟨id, ann, D, S, A⟩ := by
  obtain ⟨ann, hv⟩ := hg.verified
  have hV := verified_of_verify _ _ hv
  refine ⟨ann, hV, fun D S A => ⟨hV.toStep, fun _ => hV.entry, ?_, fun _ => ?_, hg.user, hid, hg.code⟩⟩
  · simp only [verify, Bool.and_eq_true, beq_iff_eq] at hv
    exact hv.1.1.1
  · have hfin := hV.fin
    unfold endOk at hfin
    split at hfin
    · assumption
    · rename_i a ha
      simp only [fnB] at hfin
      cases hfin

theorem Running.kept {b : Base} {s s' : St} {top : Act} {rest : List Act} (h : Running b s top rest) (hk : Kept s s') :
    Running b s' top rest := by
  have habs : absC s' = absC s := by
    apply absC_eq
    · show s'.pc.toNat = s.pc.toNat; rw [hk.same.pc]
    · exact hk.same.data
    · show s'.linear.length = s.linear.length; rw [hk.same.linear]
    · show s'.addr.length = s.addr.length; rw [hk.same.addr]
  exact ⟨hk.same.cur.trans h.cur, by rw [hk.same.pc]; exact h.pc, by rw [habs]; exact h.inv, h.ok.ext hk.ext,
    by rw [hk.same.addr]; exact Chain.ext hk.ext _ _ _ _ h.chain, by rw [hk.same.linear]; exact h.lin⟩

theorem exec_ret_ok (n : Nat) (b : Base) (s s' : St) (top : Act) (rest : List Act) (hw : WF s) (hr : Running b s top rest)
    (hf : (fnOf s s.curfunc).code[s.pc.toNat]? = some .ret) (hex : (exec (n + 1) .ret).run s = (.ok (), s')) :
    WF s' ∧ TExt s s' ∧ Next b s' top rest ∧ s'.suspended = s.suspended := by
  have hret : AtRet (fnB s top.f) (absC s) := hr.fetchB hf
  obtain ⟨hd, hsc, ha⟩ := inv_at_ret_s _ _ hr.ok.step _ _ _ _ hr.inv hret
  simp only [exec] at hex
  simp only [run_bind, run_get] at hex
  cases rest with
  | nil =>
    obtain ⟨h1, h2, h3⟩ := hr.chain
    cases hmain : b.main with
    | true =>
      -- the top-level text: no return address, `ret` is a run-time error
      exfalso
      rw [hmain] at h3
      simp only [if_true] at h3
      rw [h3] at hex
      simp only [err] at hex
      cases hex
    | false =>
    rw [hmain] at h3
    simp only [Bool.false_eq_true, if_false] at h3
    rw [h3] at hex
    simp only [run_set] at hex
    cases hex
    refine ⟨hw.same hw.data, TExt.same rfl rfl, Or.inr (Or.inr (Or.inr ⟨rfl, rfl, ?_, ?_, rfl, hmain⟩)), rfl⟩
    · show s.data.map cellOf = _
      have : (absC s).data = s.data.map cellOf := rfl
      rw [← this, hd, h1]
    · show s.linear = b.linear
      refine (hr.lin.eq_of_length ?_).symm
      symm
      have : (absC s).sc = s.linear.length := rfl
      rw [← this, hsc, h2]
  | cons a rest' =>
    obtain ⟨r, tail, h1, h2, h3, h4, h5, _, h6⟩ := hr.chain
    rw [h1] at hex
    simp only [run_set] at hex
    cases hex
    have he : TExt s { s with addr := tail, curfunc := a.f, pc := r } := TExt.same rfl rfl
    have hc6 : Chain b { s with addr := tail, curfunc := a.f, pc := r } rest' a.D a.S tail :=
      Chain.ext he _ _ _ _ h6
    have ha5 : ActOK { s with addr := tail, curfunc := a.f, pc := r } a := h5.ext he
    refine ⟨hw.same hw.data, TExt.same rfl rfl, Or.inr (Or.inr (Or.inl ⟨a, rest', rfl, ⟨rfl, h2, ?_, ha5, hc6, hr.lin⟩⟩)), rfl⟩
    have : absC { s with addr := tail, curfunc := a.f, pc := r } = ⟨r.toNat, .val :: top.D, top.S, a.A⟩ := by
      apply absC_eq
      · rfl
      · exact hd
      · exact hsc
      · exact h4.symm
    rw [this]; exact h3

/-- `CallFunction`: the operands (the variadic tail packed) stay, the return address is pushed,
the callee is entered at instruction 0 -/
theorem callFunction_ok (fid k : Nat) (s s' : St) (tail : List Cell) (hw : WF s) (hg : FnGood s fid)
    (hd : s.data.map cellOf = List.replicate k .val ++ tail) (h : (callFunction fid k).run s = (.ok (), s')) :
    s'.curfunc = fid ∧ s'.pc = 0 ∧ s'.addr = some (s.curfunc, s.pc + 1) :: s.addr ∧ s'.linear = s.linear ∧
      s'.suspended = s.suspended ∧ s'.fns = s.fns ∧ s'.loops = s.loops ∧ WF s' ∧
      s'.data.map cellOf = List.replicate (fnOf s fid).params.length .val ++ tail := by
  rw [run_callFunction] at h
  obtain ⟨_, _, d, rfl, hcase⟩ := callRes_ok h
  have hsig := hg.sig
  suffices (∀ c ∈ d, cellOK s.fns.length c) ∧ d.map cellOf = List.replicate (fnOf s fid).params.length .val ++ tail from
    ⟨rfl, rfl, rfl, rfl, rfl, rfl, rfl, hw.same this.1, this.2⟩
  split at hcase
  · -- a variadic callee: the surplus operands, ordinary values, become one list
    rename_i hv
    rw [hv, if_pos rfl] at hsig
    obtain ⟨hle, _, _⟩ := wrangleRes_ok hcase
    obtain ⟨h1, h2⟩ := hw.wrangled (tail := List.replicate (fnOf s fid).nargs .val ++ tail) hcase
      (by rw [hd, ← List.append_assoc, List.replicate_append_replicate]; congr 2; omega)
    exact ⟨h1, by rw [h2, hsig, List.replicate_succ, List.cons_append]⟩
  · rename_i hv
    obtain ⟨rfl, rfl⟩ := hcase
    rw [Bool.not_eq_true] at hv
    rw [hv] at hsig
    exact ⟨hw.data, by rw [hd, hsig]; rfl⟩

/-- the pseudo caller of a nested `Run` started from `s` over the data `d` -/
def baseOf (d : List (Option Val)) (s : St) : Base := ⟨d, s.linear, s.addr, s.curfunc, -2, false⟩

/-- after `CallFunction` the callee is the top activation, entered on the data cells `D` under its operands; `acts`
are the activations under it, the caller's address on top of theirs: the suspended callers in a loop, none in a
nested evaluation (`baseOf`) -/
theorem entered {b : Base} {s s' : St} {fid k : Nat} {D : List Cell} {acts : List Act} (hw : WF s) (h2 : 2 ≤ fid)
    (hlt : fid < s.fns.length) (hd : s.data.map cellOf = List.replicate k .val ++ D)
    (hc : (callFunction fid k).run s = (.ok (), s'))
    (hch : Chain b s acts D s.linear.length (some (s.curfunc, s.pc + 1) :: s.addr)) (hl : b.linear <:+ s.linear) :
    WF s' ∧ TExt s s' ∧ s'.suspended = s.suspended ∧ s'.linear = s.linear ∧ ∃ top, Running b s' top acts := by
  obtain ⟨c1, c2, c3, c4, c5, c6, c7, hw1, c9⟩ := callFunction_ok fid k s s' _ hw (hw.fns fid h2 hlt) hd hc
  have he : TExt s s' := TExt.same c6 c7
  have hid1 : fid < s'.fns.length := by rw [c6]; exact hlt
  obtain ⟨ann, hV, hact⟩ := actOK_of_good (hw1.fns fid h2 hid1) hid1
  refine ⟨hw1, he, c5, c4, ⟨fid, ann, D, s.linear.length, s.addr.length + 1⟩, c1, by rw [c2]; exact Int.le_refl 0, ?_,
    hact _ _ _, by rw [c3]; exact Chain.ext he _ _ _ _ hch, by rw [c4]; exact hl⟩
  apply inv_entry _ _ hV
  · show s'.pc.toNat = 0; rw [c2]; rfl
  · show s'.data.map cellOf = List.replicate (fnOf s' fid).params.length Cell.val ++ _
    rw [c9, show fnOf s' fid = fnOf s fid by simp only [VM.fnOf, c6]]
  · show s'.linear.length = _; rw [c4]
  · show s'.addr.length = _; rw [c3]; simp

/-- a call seen from the caller: `p` operands popped, one value pushed, everything else as before -/
theorem call_step {b : Base} {s s' : St} {top : Act} {rest : List Act} {i : Instr} {p : Nat} {tail : List Cell}
    (hr : Running b s top rest) (hf : (fnOf s s.curfunc).code[s.pc.toNat]? = some i)
    (he : eff (toB s.loops i) = .simple p 1) (hd : s.data.map cellOf = List.replicate p .val ++ tail)
    (hw' : WF s') (hext : TExt s s') (hd' : s'.data.map cellOf = .val :: tail) (hl : s'.linear = s.linear)
    (ha : s'.addr = s.addr) (hc : s'.curfunc = s.curfunc) (hp : s'.pc = s.pc + 1) (hs : s'.suspended = s.suspended) :
    WF s' ∧ TExt s s' ∧ Next b s' top rest ∧ s'.suspended = s.suspended := by
  have hstep : CStep (fnB s s.curfunc) (absC s) (absC s') := by
    have := CStep.simple (f := fnB s s.curfunc) (absC s) _ p 1 (List.replicate p .val) tail (Refine.fetchB hf) he hd (by simp)
    have heq : absC s' = { absC s with pc := (absC s).pc + 1, data := List.replicate 1 .val ++ tail } := by
      apply absC_eq
      · show s'.pc.toNat = s.pc.toNat + 1
        rw [hp]; have := hr.pc; omega
      · exact hd'
      · show s'.linear.length = s.linear.length; rw [hl]
      · show s'.addr.length = s.addr.length; rw [ha]
    rw [heq]; exact this
  have r := finish_step hr hw' hext hstep hc ha (by rw [hp]; have := hr.pc; omega) (Or.inl hl) hs
  exact ⟨r.wf, r.ext, Or.inl r.run, r.susp⟩

end ZygoVerif.RunInv
