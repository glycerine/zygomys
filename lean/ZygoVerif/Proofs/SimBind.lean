/-
C02, execution half — the parallel bindings of `let`.

`GenerateLet` evaluates the initialisers left to right and then binds the names by popping:
the LAST name is bound first. The reference evaluator (`Ref.bindAll`) binds the FIRST name
first. With pairwise distinct names the two orders agree — every binding is checked against
(and replaces) the value the name had before the `let`'s bindings, whatever the order — and the
resulting frames hold the same bindings (as association lists they differ in order only).
With a repeated name they do not agree: `(let [a 1 a 2] a)` is 1 on the VM (and in the
implementation), 2 in the reference evaluator; that program is outside the proved fragment.
-/
import ZygoVerif.Proofs.SimEnv
namespace ZygoVerif.Sim
open ZygoVerif.Core ZygoVerif.VM

def defineAll (rs : Ref.St) (fr : Nat) : List (String × Val) → Option Ref.St
  | [] => some rs
  | (x, v) :: ps => match Ref.define rs fr x v with
    | some rs' => defineAll rs' fr ps
    | none => none

theorem bindAll_eq_defineAll (fr : Nat) : ∀ (names : List String) (vs : List Val) (rs : Ref.St),
    Ref.bindAll rs fr names vs = defineAll rs fr (names.zip vs)
  | [], _, rs => by cases ‹List Val› <;> rfl
  | _ :: _, [], rs => rfl
  | x :: xs, v :: vs, rs => by
    simp only [Ref.bindAll, List.zip_cons_cons, defineAll]
    cases Ref.define rs fr x v with
    | none => rfl
    | some rs' => exact bindAll_eq_defineAll fr xs vs rs'

/-- may `x` (currently bound to `cur?`) be bound to `v` -/
def okBind (h : DataHeap) (cur? : Option Val) (v : Val) : Bool :=
  match cur? with
  | some cur => rebindOk h cur v
  | none => true

/-- `rs` with the variables of frame `fr` (which is `fr0`) replaced -/
def withVars (rs : Ref.St) (fr : Nat) (fr0 : Ref.Frame) (vars : List (String × Val)) : Ref.St :=
  { rs with frames := rs.frames.set fr { fr0 with vars := vars } }

theorem define_withVars (rs : Ref.St) (fr : Nat) (fr0 : Ref.Frame) (hfr : rs.frames[fr]? = some fr0)
    (vars : List (String × Val)) (x : String) (v : Val) :
    Ref.define (withVars rs fr fr0 vars) fr x v =
      if okBind rs.heap (vars.lookup x) v then some (withVars rs fr fr0 (VM.assocSet vars x v)) else none := by
  have hlt := lt_of_getElem?_some hfr
  have hget : (withVars rs fr fr0 vars).frames[fr]? = some { fr0 with vars := vars } := List.getElem?_set_self hlt
  have hset : Ref.setVar (withVars rs fr fr0 vars) fr x v = withVars rs fr fr0 (VM.assocSet vars x v) := by
    unfold Ref.setVar
    rw [hget]
    show ({ rs with frames := (rs.frames.set fr _).set fr _ } : Ref.St) = _
    rw [List.set_set]; rfl
  unfold Ref.define
  rw [hget]
  simp only [hset]
  unfold okBind
  cases vars.lookup x with
  | none => rfl
  | some cur => rfl

/-- What `defineAll` does, for pairwise distinct names: it succeeds iff every pair may be bound
over the ORIGINAL variables, and then every name holds its new value, the others their old one. -/
theorem defineAll_spec (rs : Ref.St) (fr : Nat) (fr0 : Ref.Frame) (hfr : rs.frames[fr]? = some fr0) :
    ∀ (ps : List (String × Val)) (vars : List (String × Val)), (ps.map (·.1)).Nodup →
      match defineAll (withVars rs fr fr0 vars) fr ps with
      | some rs' => (∀ p ∈ ps, okBind rs.heap (vars.lookup p.1) p.2 = true)
          ∧ ∃ vars', rs' = withVars rs fr fr0 vars'
            ∧ ∀ y, vars'.lookup y = (match ps.lookup y with | some v => some v | none => vars.lookup y)
      | none => ∃ p ∈ ps, okBind rs.heap (vars.lookup p.1) p.2 = false
  | [], vars, _ => by
    simp only [defineAll]
    exact ⟨fun p hp => (by cases hp), vars, rfl, fun y => rfl⟩
  | (x, v) :: ps, vars, hnd => by
    simp only [List.map_cons, List.nodup_cons] at hnd
    simp only [defineAll, define_withVars rs fr fr0 hfr]
    by_cases hok : okBind rs.heap (vars.lookup x) v = true
    · rw [if_pos hok]
      simp only
      have ih := defineAll_spec rs fr fr0 hfr ps (VM.assocSet vars x v) hnd.2
      have hne : ∀ p ∈ ps, (p.1 == x) = false := by
        intro p hp
        have : p.1 ≠ x := fun e => hnd.1 (e ▸ List.mem_map_of_mem (f := (·.1)) hp)
        simpa using this
      cases hd : defineAll (withVars rs fr fr0 (VM.assocSet vars x v)) fr ps with
      | some rs' =>
        rw [hd] at ih
        obtain ⟨hall, vars', hrs, hlook⟩ := ih
        refine ⟨?_, vars', hrs, ?_⟩
        · intro p hp
          rcases List.mem_cons.mp hp with rfl | hp
          · exact hok
          · have := hall p hp
            rw [lookup_assocSet, hne p hp] at this
            simpa using this
        · intro y
          rw [hlook y, List.lookup_cons]
          by_cases hy : (y == x) = true
          · have hyx : y = x := by simpa using hy
            subst hyx
            have hnone : ps.lookup y = none := by
              rw [List.lookup_eq_none_iff]
              intro p hp
              have := hne p hp
              simpa [beq_eq_false_iff_ne, ne_comm] using this
            rw [hnone, lookup_assocSet]; simp
          · have hy' : (y == x) = false := by simpa using hy
            rw [hy']
            cases ps.lookup y with
            | some w => rfl
            | none => simp only; rw [lookup_assocSet, hy']; rfl
      | none =>
        rw [hd] at ih
        obtain ⟨p, hp, hbad⟩ := ih
        refine ⟨p, List.mem_cons_of_mem _ hp, ?_⟩
        rw [lookup_assocSet, hne p hp] at hbad
        simpa using hbad
    · rw [if_neg hok]
      exact ⟨(x, v), List.mem_cons_self, by simpa using hok⟩

theorem nodup_reverse' {α} {l : List α} (h : l.Nodup) : l.reverse.Nodup := by
  unfold List.Nodup at *
  rw [List.pairwise_reverse]
  exact h.imp (fun hab => fun e => hab e.symm)


theorem lookup_eq_some_iff_mem : ∀ (ps : List (String × Val)), (ps.map (·.1)).Nodup → ∀ y v,
    ps.lookup y = some v ↔ (y, v) ∈ ps
  | [], _, y, v => by simp
  | (x, w) :: ps, hnd, y, v => by
    simp only [List.map_cons, List.nodup_cons] at hnd
    rw [List.lookup_cons]
    by_cases hy : (y == x) = true
    · have hyx : y = x := by simpa using hy
      subst hyx
      simp only [beq_self_eq_true, Option.some.injEq, List.mem_cons, Prod.mk.injEq, true_and]
      constructor
      · intro h; exact Or.inl h.symm
      · rintro (h | h)
        · exact h.symm
        · exact absurd (List.mem_map_of_mem (f := (·.1)) h) hnd.1
    · have hy' : (y == x) = false := by simpa using hy
      have hne : y ≠ x := by simpa using hy
      rw [hy']
      simp only [List.mem_cons, Prod.mk.injEq]
      rw [lookup_eq_some_iff_mem ps hnd.2 y v]
      constructor
      · intro h; exact Or.inr h
      · rintro (⟨h, _⟩ | h)
        · exact absurd h hne
        · exact h

theorem lookup_reverse_of_nodup (ps : List (String × Val)) (hnd : (ps.map (·.1)).Nodup) (y : String) :
    ps.reverse.lookup y = ps.lookup y := by
  have hnd' : (ps.reverse.map (·.1)).Nodup := by rw [List.map_reverse]; exact nodup_reverse' hnd
  apply Option.ext
  intro v
  rw [lookup_eq_some_iff_mem _ hnd', lookup_eq_some_iff_mem _ hnd, List.mem_reverse]

theorem set_self_of_getElem? {α} {l : List α} {i : Nat} {a : α} (h : l[i]? = some a) : l.set i a = l := by
  obtain ⟨hlt, rfl⟩ := List.getElem?_eq_some_iff.mp h
  exact List.set_getElem_self hlt

theorem withVars_self (rs : Ref.St) (fr : Nat) (fr0 : Ref.Frame) (hfr : rs.frames[fr]? = some fr0) :
    withVars rs fr fr0 fr0.vars = rs := by
  unfold withVars
  rw [show ({ fr0 with vars := fr0.vars } : Ref.Frame) = fr0 from rfl, set_self_of_getElem? hfr]

/-- Binding the pairs in reverse order: same success, same bindings. -/
theorem defineAll_reverse (rs : Ref.St) (fr : Nat) (fr0 : Ref.Frame) (hfr : rs.frames[fr]? = some fr0)
    (ps : List (String × Val)) (hnd : (ps.map (·.1)).Nodup) :
    match defineAll rs fr ps, defineAll rs fr ps.reverse with
    | some a, some b => ∃ va vb, a = withVars rs fr fr0 va ∧ b = withVars rs fr fr0 vb ∧ ∀ y, va.lookup y = vb.lookup y
    | none, none => True
    | _, _ => False := by
  have hnd' : (ps.reverse.map (·.1)).Nodup := by rw [List.map_reverse]; exact nodup_reverse' hnd
  have h1 := defineAll_spec rs fr fr0 hfr ps fr0.vars hnd
  have h2 := defineAll_spec rs fr fr0 hfr ps.reverse fr0.vars hnd'
  rw [withVars_self rs fr fr0 hfr] at h1 h2
  cases ha : defineAll rs fr ps with
  | some a =>
    rw [ha] at h1
    obtain ⟨hall, va, hva, hla⟩ := h1
    cases hb : defineAll rs fr ps.reverse with
    | some b =>
      rw [hb] at h2
      obtain ⟨_, vb, hvb, hlb⟩ := h2
      refine ⟨va, vb, hva, hvb, fun y => ?_⟩
      rw [hla y, hlb y, lookup_reverse_of_nodup ps hnd y]
    | none =>
      rw [hb] at h2
      obtain ⟨p, hp, hbad⟩ := h2
      have := hall p (List.mem_reverse.mp hp)
      rw [hbad] at this; cases this
  | none =>
    rw [ha] at h1
    obtain ⟨p, hp, hbad⟩ := h1
    cases hb : defineAll rs fr ps.reverse with
    | some b =>
      rw [hb] at h2
      have := h2.1 p (List.mem_reverse.mpr hp)
      rw [hbad] at this; cases this
    | none => trivial

/-- a frame whose bindings are replaced by others with the same lookups: every lookup in every frame is as it was -/
theorem lookup_withVars_congr (rs : Ref.St) (fr : Nat) (fr0 : Ref.Frame) {va vb : List (String × Val)}
    (hl : ∀ y, va.lookup y = vb.lookup y) (i : Nat) (y : String) :
    ((withVars rs fr fr0 va).frames.getD i {}).vars.lookup y = ((withVars rs fr fr0 vb).frames.getD i {}).vars.lookup y := by
  simp only [withVars, List.getD_eq_getElem?_getD, List.getElem?_set]
  by_cases hi : fr = i
  · subst hi
    by_cases hlt : fr < rs.frames.length
    · simp only [hlt, if_true, Option.getD_some, hl y]
    · simp only [hlt, if_false]
  · simp only [hi, if_false]

/-- the relation does not see the order of the bindings inside a frame -/
theorem RelCore.withVars_congr {s : St} {rs : Ref.St} {fr : Nat} {fr0 : Ref.Frame} {va vb : List (String × Val)} {env : Nat}
    (h : RelCore s (withVars rs fr fr0 vb) env) (hfr : rs.frames[fr]? = some fr0)
    (hl : ∀ y, va.lookup y = vb.lookup y) : RelCore s (withVars rs fr fr0 va) env := by
  have hlt := lt_of_getElem?_some hfr
  refine ⟨?_, fun i x => (h.vars i x).trans (lookup_withVars_congr rs fr fr0 hl i x).symm, h.nofn, ?_, h.heap, h.trace⟩
  · have := h.len
    simp only [withVars, List.length_set] at this ⊢
    exact this
  · have hc := h.chain
    have hget : (withVars rs fr fr0 vb).frames[fr]? = some { fr0 with vars := vb } := List.getElem?_set_self hlt
    have := Chain.set_vars hget va hc
    simp only [withVars, List.set_set] at this ⊢
    exact this

theorem Rel.withVars_congr {s : St} {rs : Ref.St} {fr : Nat} {fr0 : Ref.Frame} {va vb : List (String × Val)} {env : Nat}
    (h : Rel s (withVars rs fr fr0 vb) env) (hfr : rs.frames[fr]? = some fr0)
    (hl : ∀ y, va.lookup y = vb.lookup y) : Rel s (withVars rs fr fr0 va) env :=
  ⟨h.toRelCore.withVars_congr hfr hl, h.fnpar, h.fnclo⟩

theorem FramesExt.withVars_congr {rs0 rs : Ref.St} {fr : Nat} {fr0 : Ref.Frame} {va vb : List (String × Val)}
    (h : FramesExt rs0 (withVars rs fr fr0 vb)) : FramesExt rs0 (withVars rs fr fr0 va) := by
  intro i f hf
  obtain ⟨f', hf', hp'⟩ := h i f hf
  simp only [withVars, List.getElem?_set] at hf' ⊢
  by_cases hi : fr = i
  · subst hi
    by_cases hlt : fr < rs.frames.length
    · simp only [hlt, if_true, Option.some.injEq] at hf' ⊢
      subst hf'
      exact ⟨_, rfl, hp'⟩
    · simp only [hlt, if_false] at hf' ⊢
      simp only [if_true] at hf' ⊢
      exact ⟨f', hf', hp'⟩
  · simp only [hi, if_false] at hf' ⊢
    exact ⟨f', hf', hp'⟩

end ZygoVerif.Sim
