/-
Parsing the tokens of printed data gives the value back (the parser half of
`read (print v) = v`): by structural induction over lists, dotted tails and arrays, nested to
any depth, with the fuel the model's loops need made explicit (`cost…`).
-/
import ZygoVerif.Proofs.ParseTokens
import ZygoVerif.Proofs.ReadPrintDefs
import ZygoVerif.Proofs.LexNumbers
namespace ZygoVerif.ReadPrint
open ZygoVerif ZygoVerif.Lexer ZygoVerif.Parser ZygoVerif.PrintData

theorem Char.toNat_ofNat_of_valid (v : Nat) (h : v.isValidChar) : (Char.ofNat v).toNat = v := by
  unfold Char.ofNat
  rw [dif_pos h]
  rfl

/-- the `switch tok.typ` on the token of an atom yields the atom, without reading further -/
theorem parseExprTok_atom (ff : FloatFmt) (hlaw : FloatLaw ff) (a : Sexp) (h : okAtom a = true) (f : Nat) :
    parseExprTok (f + 1) (atomTok ff a) = Prog.pure a := by
  cases a with
  | uint v =>
    simp only [okAtom, decide_eq_true_eq] at h
    unfold parseExprTok
    simp only [atomTok, atomOfTok_uint v h]
    rfl
  | float b sci =>
    simp only [okAtom] at h
    obtain ⟨p, hv, hpr, hsci, hpf⟩ := hlaw b sci h
    unfold parseExprTok
    simp only [atomTok, hpr, atomOfTok_floatParts p hv b hpf, hsci]
    rfl
  | int v =>
    simp only [okAtom, decide_eq_true_eq] at h
    unfold parseExprTok
    simp only [atomTok, atomOfTok_itoa v h.1 h.2]
    rfl
  | char v =>
    simp only [okAtom] at h
    unfold parseExprTok
    simp only [atomTok, atomOfTok]
    have : (Char.ofNat v).toNat = v := Char.toNat_ofNat_of_valid v (by simpa using h)
    rw [this]; rfl
  | str s raw =>
    simp only [okAtom, Bool.not_eq_true'] at h
    subst h
    unfold parseExprTok
    simp only [atomTok, atomOfTok]
    rfl
  | bool b =>
    unfold parseExprTok
    cases b
    · have : ("false".toList == "true".toList) = false := by decide
      simp only [atomTok, atomOfTok, this, Bool.false_eq_true, ↓reduceIte]; rfl
    · have : ("true".toList == "true".toList) = true := by decide
      simp only [atomTok, atomOfTok, this, ↓reduceIte]; rfl
  | sym n ct dot =>
    simp only [okAtom, Bool.and_eq_true, Bool.not_eq_true'] at h
    obtain ⟨⟨rfl, rfl⟩, hs⟩ := h
    obtain ⟨hne, hpl, _⟩ := symOK_facts n hs
    have h1 : (n == ['-']) = false := by
      rw [beq_eq_false_iff_ne]; intro hn; subst hn
      have := hpl '-' (by simp); revert this; decide
    have h2 : (n == ['+']) = false := by
      rw [beq_eq_false_iff_ne]; intro hn; subst hn
      have := hpl '+' (by simp); revert this; decide
    unfold parseExprTok
    simp only [atomTok, h1, h2, Bool.or_self, Bool.false_eq_true, ↓reduceIte]
    rfl
  | _ => simp [okAtom] at h

mutual
/-- fuel for `parseExprTok` once the first token of the value is in hand -/
def costTok : Sexp → Nat
  | .pair h t => 2 + max (1 + costTok h) (costRest t)
  | .array es _ => 1 + costArr es
  | _ => 1
/-- fuel for what `parseList` does after a head -/
def costRest : Sexp → Nat
  | .pair h t => 1 + max (1 + costTok h) (costRest t)
  | .null => 1
  | .array es _ => 2 + costArr es
  | _ => 2
def costArr : List Sexp → Nat
  | [] => 1
  | e :: r => 1 + max (1 + costTok e) (costArr r)
end

/-- a token that can start a value inside a list or an array -/
def headOK (t : Token) : Prop :=
  t.typ ≠ .rparen ∧ t.typ ≠ .backslash ∧ t.typ ≠ .comma ∧ t.typ ≠ .rsquare

/-- no atom token, nor the token that stands for "not an atom", is one of the four -/
theorem headOK_atom (ff : FloatFmt) (a : Sexp) : headOK (atomTok ff a) := by
  cases a <;> exact ⟨nofun, nofun, nofun, nofun⟩

theorem parseExprTok_lparen (f : Nat) : parseExprTok (f + 1) tLP = parseList f .rparen := by
  unfold parseExprTok; rfl

theorem parseExprTok_lsquare (f : Nat) : parseExprTok (f + 1) tLS = parseArray f [] := by
  unfold parseExprTok; rfl

/-- the dotted end of `parseList`: `\ tail )` -/
theorem consumes_list_dotted (f : Nat) (h x : Sexp) (pre : List Token) (th : Token) (tsh : List Token)
    (hth : pre = th :: tsh) (hok : headOK th) (hh : Consumes (parseExprNested f) pre h)
    (txs : List Token) (hx : Consumes (parseExprNested f) txs x) :
    Consumes (parseList (f + 1) .rparen) (pre ++ (tBS :: (txs ++ [tRP]))) (.pair h x) := by
  subst hth
  refine consumes_list_elem f th _ _ hok.1 (Consumes.bind hh ?_)
  apply consumes_peek0
  rw [if_pos (by decide)]
  apply consumes_pop
  apply Consumes.bind hx
  apply consumes_peek0
  apply consumes_pop
  rw [if_neg (by decide)]
  exact Consumes.pure _

theorem costArr_pos (es : List Sexp) : 1 ≤ costArr es := by
  cases es <;> simp only [costArr] <;> omega

theorem okAtom_costs (a : Sexp) (h : okAtom a = true) : costTok a = 1 ∧ costRest a = 2 := by
  cases a <;> first | exact ⟨rfl, rfl⟩ | cases h

/-- a value that starts with a token `t` that can start a value, parsed with enough fuel -/
def ParseV (ff : FloatFmt) (v : Sexp) : Prop :=
  ∀ f, costTok v ≤ f → ∃ t ts, toks ff v = t :: ts ∧ headOK t ∧ Consumes (parseExprTok f t) ts v

theorem ParseV.nested {ff : FloatFmt} {v : Sexp} (h : ParseV ff v) (f : Nat) (hf : costTok v ≤ f) :
    ∃ t ts, toks ff v = t :: ts ∧ headOK t ∧ Consumes (parseExprNested (f + 1)) (toks ff v) v := by
  obtain ⟨t, ts, ht, hok, hc⟩ := h f hf
  exact ⟨t, ts, ht, hok, by rw [ht]; exact consumes_nested f t ts v hc⟩

/-- the rest of a list after a head `h` that has been parsed -/
def ParseRest (ff : FloatFmt) (t : Sexp) : Prop :=
  ∀ (h : Sexp) (f : Nat) (th : Token) (tsh : List Token),
    toks ff h = th :: tsh → headOK th → Consumes (parseExprNested (f + 1)) (toks ff h) h → costRest t ≤ f + 1 →
    Consumes (parseList (f + 2) .rparen) (toks ff h ++ toksRest ff t) (.pair h t)

def ParseElems (ff : FloatFmt) (es : List Sexp) : Prop :=
  ∀ (acc : List Sexp) (f : Nat), costArr es ≤ f + 1 →
    Consumes (parseArray (f + 1) acc) (toksElems ff es ++ [tRS]) (.array (acc.reverse ++ es) false)

theorem parseV_atom (ff : FloatFmt) (hlaw : FloatLaw ff) (a : Sexp) (ha : okAtom a = true) : ParseV ff a := by
  intro f hf
  rw [(okAtom_costs a ha).1] at hf
  obtain ⟨f', rfl⟩ : ∃ f', f = f' + 1 := ⟨f - 1, by omega⟩
  refine ⟨_, [], (okAtom_forms ff a ha).2.2.1, headOK_atom ff a, ?_⟩
  rw [parseExprTok_atom ff hlaw a ha f']
  exact Consumes.pure a

theorem parseV_array (ff : FloatFmt) (es : List Sexp) (h : ParseElems ff es) : ParseV ff (.array es false) := by
  intro f hf
  have hf : 1 + costArr es ≤ f := hf
  have hpos := costArr_pos es
  obtain ⟨f', rfl⟩ : ∃ f', f = f' + 2 := ⟨f - 2, by omega⟩
  exact ⟨tLS, toksElems ff es ++ [tRS], rfl, ⟨nofun, nofun, nofun, nofun⟩, h [] f' (by omega)⟩

/-- the dotted end of a list, `\ x )`: the head, then `consumes_list_dotted` on a value `x` that as a tail costs one
turn more than by itself -/
theorem parseRest_dotted (ff : FloatFmt) (x : Sexp) (hx : ParseV ff x)
    (htk : toksRest ff x = tBS :: (toks ff x ++ [tRP])) (hc : costTok x + 1 ≤ costRest x) : ParseRest ff x := by
  intro h f th tsh hth hok hh hf
  obtain ⟨_, _, _, _, hxn⟩ := hx.nested f (by omega)
  rw [htk]
  exact consumes_list_dotted (f + 1) h x _ th tsh hth hok hh _ hxn

theorem parse_all (ff : FloatFmt) (hlaw : FloatLaw ff) :
    (∀ v, okV v = true → ParseV ff v) ∧ (∀ t, okTail t = true → ParseRest ff t) ∧
    (∀ es, okList es = true → ParseElems ff es) := by
  refine okV_induction_all ?_ (parseV_array ff) (parseV_atom ff hlaw) ?_ ?_ ?_ ?_ ?_ ?_
  · intro h t ihh iht f hf
    have hf : 2 + max (1 + costTok h) (costRest t) ≤ f := hf
    obtain ⟨f', rfl⟩ : ∃ f', f = f' + 3 := ⟨f - 3, by omega⟩
    obtain ⟨th, tsh, hth, hok, hh⟩ := ihh.nested f' (by omega)
    exact ⟨tLP, toks ff h ++ toksRest ff t, rfl, ⟨nofun, nofun, nofun, nofun⟩,
      iht h f' th tsh hth hok hh (by omega)⟩
  · intro h2 t2 ihh iht h f th tsh hth hok hh hf
    have hf : 1 + max (1 + costTok h2) (costRest t2) ≤ f + 1 := hf
    obtain ⟨f', rfl⟩ : ∃ f', f = f' + 1 := ⟨f - 1, by omega⟩
    obtain ⟨th2, tsh2, hth2, hok2, hh2⟩ := ihh.nested f' (by omega)
    have ht := iht h2 f' th2 tsh2 hth2 hok2 hh2 (by omega)
    rw [hth] at hh ⊢
    refine consumes_list_elem (f' + 2) th _ _ hok.1 (Consumes.bind hh ?_)
    show Consumes _ (toks ff h2 ++ toksRest ff t2) _
    rw [hth2] at ht ⊢
    exact consumes_list_tail (f' + 2) h _ th2 _ hok2.2.1 ht
  · intro h f th tsh hth hok hh _
    rw [hth] at hh ⊢
    exact consumes_list_elem (f + 1) th _ _ hok.1
      (Consumes.bind hh (consumes_list_tail (f + 1) h .null tRP [] (by decide) (consumes_list_end f .rparen tRP rfl)))
  · exact fun es hes => parseRest_dotted ff (.array es false) (parseV_array ff es hes) rfl
      (show 1 + costArr es + 1 ≤ 2 + costArr es by omega)
  · intro a ha
    obtain ⟨_, _, f3, f4⟩ := okAtom_forms ff a ha
    have := okAtom_costs a ha
    exact parseRest_dotted ff a (parseV_atom ff hlaw a ha) (by rw [f4, f3]; rfl) (by omega)
  · intro acc f _
    simpa [toksElems] using consumes_array_end f acc tRS rfl
  · intro e r ihe ihr acc f hf
    have hf : 1 + max (1 + costTok e) (costArr r) ≤ f + 1 := hf
    obtain ⟨f', rfl⟩ : ∃ f', f = f' + 1 := ⟨f - 1, by omega⟩
    obtain ⟨th, tsh, hth, hok, he⟩ := ihe f' (by omega)
    have := consumes_array_elem (f' + 1) acc th _ _ hok.2.2.1 hok.2.2.2
      (Consumes.bind (consumes_nested f' th tsh e he) (ihr (e :: acc) f' (by omega)))
    simpa [toksElems, hth, List.append_assoc] using this

theorem parse_val (ff : FloatFmt) (hlaw : FloatLaw ff) : (v : Sexp) → okV v = true → ∀ f, costTok v ≤ f →
    ∃ t ts, toks ff v = t :: ts ∧ headOK t ∧ Consumes (parseExprTok f t) ts v :=
  (parse_all ff hlaw).1

theorem parse_rest (ff : FloatFmt) (hlaw : FloatLaw ff) : (t : Sexp) → okTail t = true →
    ∀ (h : Sexp) (f : Nat) (th : Token) (tsh : List Token),
    toks ff h = th :: tsh → headOK th → Consumes (parseExprNested (f + 1)) (toks ff h) h → costRest t ≤ f + 1 →
    Consumes (parseList (f + 2) .rparen) (toks ff h ++ toksRest ff t) (.pair h t) :=
  (parse_all ff hlaw).2.1

theorem parse_elems (ff : FloatFmt) (hlaw : FloatLaw ff) : (es : List Sexp) → okList es = true →
    ∀ (acc : List Sexp) (f : Nat), costArr es ≤ f + 1 →
    Consumes (parseArray (f + 1) acc) (toksElems ff es ++ [tRS]) (.array (acc.reverse ++ es) false) :=
  (parse_all ff hlaw).2.2

end ZygoVerif.ReadPrint
