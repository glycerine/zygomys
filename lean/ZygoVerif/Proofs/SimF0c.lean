/-
C02, execution half — the pure control fragment F0c.

F0c = literals (int, bool, string, `()`), `begin`, `cond` (any number of arms,
default), `and`, `or` (any arity, including none), nested arbitrarily.

* `segment_F0c`               — the segment lemma: the code `compile` produces for an F0c
  expression, embedded anywhere, pushes exactly the value `Ref.eval` computes (`Pushes`); by the steps of
  Proofs/SimStep.lean for the system `f0Sys` and the fragment `f0Frag`;
* `compile_total`             — `compile` succeeds on F0c, without touching generator state;
* `refEval_total`             — `Ref.eval` yields a value on F0c, with fuel `≥ esize e`, and
  leaves the state alone.

An empty `begin` is in the fragment: `Generate` pushes nil for it, as the reference evaluator does. An empty
statement list handed to `GenerateBegin` itself yields no code, so the statements about `compileBegin` ask for a
non-empty list.
-/
import ZygoVerif.Proofs.SimStep
namespace ZygoVerif.Sim
open ZygoVerif.Core ZygoVerif.VM

mutual
def F0c : Expr → Bool
  | .int _ | .bool _ | .str _ | .nilLit => true
  | .begin_ es => F0cList es
  | .cond arms d => F0cArms arms && F0c d
  | .and_ es => F0cList es
  | .or_ es => F0cList es
  | _ => false
def F0cList : List Expr → Bool
  | [] => true
  | e :: es => F0c e && F0cList es
def F0cArms : List (Expr × Expr) → Bool
  | [] => true
  | (p, b) :: r => F0c p && F0c b && F0cArms r
end

/-- F0c as a system: nothing is related — the forms of F0c read and write no state —, a run only moves the program
counter and the data stack, the reference state stays as it is; the statement is that of `Pushes` at one state -/
@[reducible] def f0Sys : Sys where
  W := Unit
  R _ _ _ _ := True
  Rch K := Reach K 1
  Fl := Fails
  X _ s rs _ s' rs' := (∃ p d, s' = s.jmp p d) ∧ rs' = rs
  tv _ v := v
  Cl _ _ _ _ := True
  OkB _ := True
  OkS _ := True
  Ex _ _ _ _ := False
  Sm code _ s rs _ res := match res with
    | .ok v rs' => rs' = rs ∧ Reach code.length 1 s (s.jmp (s.pc + code.length) (some v :: s.data))
    | .err rs' => Fails code.length s rs'.trace
    | .timeout => True
    | _ => False
  sm_ok := ⟨fun ⟨h1, h2⟩ => .inl ⟨_, (), _, h2, ⟨rfl, rfl, rfl⟩, rfl, trivial, ⟨⟨_, _, rfl⟩, h1⟩, trivial⟩,
    fun h => h.elim (fun ⟨_, _, _, r, l, hv, _, ⟨⟨p, d, hs⟩, hrs⟩, _⟩ => by
      subst hs hv
      exact ⟨hrs, (show p = _ from l.pc) ▸ (show d = _ from l.data) ▸ r⟩) False.elim⟩
  sm_err := Iff.rfl
  sm_timeout := trivial
  sm_brk := Iff.rfl
  sm_cont := Iff.rfl
  ex_moved _ _ _ h := h
  ex_push _ h := h
  rch h := h
  rtrans h₁ h₂ := (h₁.trans h₂).mono (Nat.le_refl _) (by simp)
  rmono h hK := h.mono hK (Nat.le_refl _)
  fl h := h
  flr := Fails.of_reach
  flmono := Fails.mono
  xrefl _ s _ := ⟨⟨s.pc, s.data, rfl⟩, rfl⟩
  xtrans := fun ⟨⟨_, _, h₁⟩, e₁⟩ ⟨⟨p, d, h₂⟩, e₂⟩ => ⟨⟨p, d, by rw [h₂, h₁]; rfl⟩, e₂.trans e₁⟩
  xjmp _ _ _ p d := ⟨⟨p, d, rfl⟩, rfl⟩
  cl_ext _ _ := trivial
  tv_ext _ _ := rfl
  cl_lit _ _ _ _ _ := ⟨trivial, rfl⟩
  truthy_tv _ _ := rfl
  rjmp _ _ _ := trivial

/-- the fragment: no bindings, no scopes, no loops -/
@[reducible] def f0Frag : FgP f0Sys where
  F := F0c
  FStmt := F0c
  FPred := F0c
  FList := F0cList
  FArms := F0cArms
  FBinds _ := false
  Cok _ := True
  Inv _ _ _ _ _ _ _ := True
  cok _ _ _ := trivial
  inv_tail _ _ := trivial
  inv_range _ _ _ _ := trivial
  inv_pre _ _ := trivial
  inv_adv _ _ _ := trivial
  inv_push _ _ _ := trivial
  inv_x _ _ := trivial
  inv_any _ _ := trivial
  inv_for _ _ := trivial
  noex _ _ _ _ := id
  flist_one h := by rw [F0cList] at h; simpa [F0cList] using h
  flist_cons h := by rw [F0cList] at h; simpa using h
  farms_cons h := by rw [F0cArms] at h; simpa [and_assoc] using h
  fvals_cons h := by rw [F0cList] at h; simpa using h
  fbinds_cons h := by cases h
  fbinds_rhs h := by cases h
  f_begin h := by rw [F0c] at h; exact h
  f_cond h := by rw [F0c] at h; simpa using h
  f_and h := by rw [F0c] at h; exact h
  f_or h := by rw [F0c] at h; exact h
  f_sym h := by simp [F0c] at h
  f_def h := by simp [F0c] at h
  f_set h := by simp [F0c] at h
  f_newScope h := by simp [F0c] at h
  f_let h := by simp [F0c] at h
  f_for h := by simp [F0c] at h

theorem f0claims : ∀ n, HClaimE f0Sys f0Frag.toFg F0c n ∧ HClaimB f0Sys f0Frag.toFg n ∧ HClaimC f0Sys f0Frag.toFg n
    ∧ HClaimS f0Sys f0Frag n
  | 0 => ⟨hclaimE_zero _ _, hclaimB_zero _, hclaimC_zero _, hclaimS_zero _⟩
  | n + 1 => by
    obtain ⟨hE, hB, hC, hS⟩ := f0claims n
    have hN := f0Frag.toN hE
    exact ⟨fun e he => hclaimE_pure hB hC hS e (by cases e <;> first | rfl | (exact absurd he (by simp [F0c]))) he,
      hclaimB_succ hN hE hB, hclaimC_succ hN hE hC, hclaimS_succ hE hS⟩

theorem seg_alone (code : List Instr) : Seg { fns := [{ code := code }], scopes := [] } [] code [] :=
  ⟨rfl, by show code = [] ++ code ++ []; simp, rfl⟩

/-- Segment lemma for F0c. Whatever code `compile` produces for an F0c expression (any
generator context, any generator state), and whatever value the reference evaluator
returns for it (any fuel, any environment, any state): the reference state is unchanged and
the code, embedded at any offset of any compiled function, runs from its first instruction
to just behind its last one within `code.length` VM instructions, pushing exactly that value
and changing nothing else (`Pushes`). -/
theorem segment_F0c (e : Expr) (he : F0c e = true) (isFn : Nat → Bool) (c : Ctx) (gs : GS)
    (code : List Instr) (t : Bool) (gs' : GS) (hc : (compile isFn c e).run gs = .ok ((code, t), gs'))
    (n env : Nat) (rs : Ref.St) (v : Val) (rs' : Ref.St) (hr : Ref.eval n e env rs = .ok v rs') :
    rs' = rs ∧ Pushes code v := by
  have h := fun s pre post hseg => (f0claims n).1 e he isFn c gs ((code, t), gs') hc trivial () s rs env pre post trivial trivial hseg
  rw [hr] at h
  exact ⟨(h _ _ _ (seg_alone code)).1, fun s pre post hseg => (h s pre post hseg).2⟩

/-- the same for a statement list (`GenerateBegin`, the top level of a program text) -/
theorem segment_F0c_begin (es : List Expr) (hne : es ≠ []) (he : F0cList es = true) (isFn : Nat → Bool) (c : Ctx) (gs : GS)
    (code : List Instr) (t : Bool) (gs' : GS) (hc : (compileBegin isFn c es).run gs = .ok ((code, t), gs'))
    (n env : Nat) (rs : Ref.St) (v : Val) (rs' : Ref.St) (hr : Ref.evalBegin n es env rs = .ok v rs') :
    rs' = rs ∧ Pushes code v := by
  have h := fun s pre post hseg =>
    (f0claims n).2.1 es hne he isFn c gs ((code, t), gs') hc trivial () s rs env pre post trivial trivial hseg
  rw [hr] at h
  exact ⟨(h _ _ _ (seg_alone code)).1, fun s pre post hseg => (h s pre post hseg).2⟩

mutual
theorem compile_total : ∀ (e : Expr), F0c e = true → ∀ isFn c gs, ∃ code, (compile isFn c e).run gs = .ok ((code, c.tail), gs)
  | .int v, _, isFn, c, gs => ⟨_, by rw [compile]; rfl⟩
  | .bool v, _, isFn, c, gs => ⟨_, by rw [compile]; rfl⟩
  | .str v, _, isFn, c, gs => ⟨_, by rw [compile]; rfl⟩
  | .nilLit, _, isFn, c, gs => ⟨_, by rw [compile]; rfl⟩
  | .begin_ es, he, isFn, c, gs => by
    rw [F0c] at he
    cases es with
    | nil => exact ⟨[.push .nil], by rw [compile]; rfl⟩
    | cons e0 es0 =>
      rw [compile]
      · exact compileBegin_total (e0 :: es0) (by simp) he isFn c gs
      · intro hh; cases hh
  | .cond arms d, he, isFn, c, gs => by
    rw [F0c] at he
    simp only [Bool.and_eq_true] at he
    obtain ⟨dc, hd⟩ := compile_total d he.2 isFn c gs
    obtain ⟨as, has⟩ := compileArms_total arms he.1 isFn c gs
    refine ⟨asmCond as dc, ?_⟩
    exact compile_cond_ok.mpr ⟨_, _, hd, _, _, has, rfl⟩
  | .and_ es, he, isFn, c, gs => by
    rw [F0c] at he
    obtain ⟨cs, hcs⟩ := compileSC_total es he isFn c gs
    refine ⟨asmSC false cs, ?_⟩
    exact compile_and_ok.mpr ⟨_, _, hcs, rfl⟩
  | .or_ es, he, isFn, c, gs => by
    rw [F0c] at he
    obtain ⟨cs, hcs⟩ := compileSC_total es he isFn c gs
    refine ⟨asmSC true cs, ?_⟩
    exact compile_or_ok.mpr ⟨_, _, hcs, rfl⟩
  | .sym _, he, _, _, _ | .arr _, he, _, _, _ | .call _ _, he, _, _, _ | .def_ _ _, he, _, _, _
  | .set_ _ _, he, _, _, _ | .let_ _ _ _, he, _, _, _ | .newScope _, he, _, _, _
  | .for_ _ _ _ _ _, he, _, _, _ | .break_ _, he, _, _, _ | .continue_ _, he, _, _, _
  | .fn _ _ _, he, _, _, _ | .defn _ _ _ _, he, _, _, _ | .assign _ _, he, _, _, _ | .bad _, he, _, _, _ => by
    simp [F0c] at he
theorem compileBegin_total : ∀ (es : List Expr), es ≠ [] → F0cList es = true → ∀ isFn c gs, ∃ code, (compileBegin isFn c es).run gs = .ok ((code, c.tail), gs)
  | [], hne, _, _, _, _ => absurd rfl hne
  | [e], _, he, isFn, c, gs => by
    rw [F0cList] at he
    simp only [Bool.and_eq_true] at he
    rw [compileBegin]
    exact compile_total e he.1 isFn c gs
  | e :: e' :: es, _, he, isFn, c, gs => by
    rw [F0cList] at he
    simp only [Bool.and_eq_true] at he
    obtain ⟨a, ha⟩ := compile_total e he.1 isFn { c with tail := false } gs
    obtain ⟨b, hb⟩ := compileBegin_total (e' :: es) (by simp) he.2 isFn c gs
    exact ⟨_, compileBegin_cons_ok.mpr ⟨_, _, ha, _, _, hb, rfl⟩⟩
theorem compileSC_total : ∀ (es : List Expr), F0cList es = true → ∀ isFn c gs, ∃ cs, (compileSC isFn c es).run gs = .ok (cs, gs)
  | [], _, isFn, c, gs => ⟨[], by rw [compileSC]; rfl⟩
  | [e], he, isFn, c, gs => by
    rw [F0cList] at he
    simp only [Bool.and_eq_true] at he
    obtain ⟨a, ha⟩ := compile_total e he.1 isFn c gs
    exact ⟨_, compileSC_one_ok.mpr ⟨_, _, ha, rfl⟩⟩
  | e :: e' :: es, he, isFn, c, gs => by
    rw [F0cList] at he
    simp only [Bool.and_eq_true] at he
    obtain ⟨a, ha⟩ := compile_total e he.1 isFn { c with tail := false } gs
    obtain ⟨b, hb⟩ := compileSC_total (e' :: es) he.2 isFn c gs
    exact ⟨_, compileSC_cons_ok.mpr ⟨_, _, hb, _, _, ha, rfl⟩⟩
theorem compileArms_total : ∀ (arms : List (Expr × Expr)), F0cArms arms = true → ∀ isFn c gs, ∃ as, (compileArms isFn c arms).run gs = .ok (as, gs)
  | [], _, isFn, c, gs => ⟨[], by rw [compileArms]; rfl⟩
  | (p, b) :: arms, he, isFn, c, gs => by
    rw [F0cArms] at he
    simp only [Bool.and_eq_true] at he
    obtain ⟨pc, hp⟩ := compile_total p he.1.1 isFn { c with tail := false } gs
    obtain ⟨bc, hb⟩ := compile_total b he.1.2 isFn c gs
    obtain ⟨r, hr⟩ := compileArms_total arms he.2 isFn c gs
    exact ⟨_, compileArms_cons_ok.mpr ⟨_, _, hr, _, _, hp, _, _, hb, rfl⟩⟩
end

mutual
/-- a fuel that suffices for the reference evaluator (the size of the expression) -/
def esize : Expr → Nat
  | .begin_ es => 1 + esizeList es
  | .cond arms d => 1 + esizeArms arms + esize d
  | .and_ es => 1 + esizeList es
  | .or_ es => 1 + esizeList es
  | _ => 1
def esizeList : List Expr → Nat
  | [] => 1
  | e :: es => 1 + esize e + esizeList es
def esizeArms : List (Expr × Expr) → Nat
  | [] => 1
  | (p, b) :: r => 1 + esize p + esize b + esizeArms r
end

theorem esize_pos (e : Expr) : 1 ≤ esize e := by
  cases e <;> simp [esize] <;> omega

mutual
theorem refEval_total : ∀ (e : Expr), F0c e = true → ∀ n, esize e ≤ n → ∀ env rs, ∃ v, Ref.eval n e env rs = .ok v rs
  | .int v, _, n, hn, env, rs => by
    obtain ⟨m, rfl⟩ : ∃ m, n = m + 1 := ⟨n - 1, by have := esize_pos (Expr.int v); omega⟩
    exact ⟨_, by rw [Ref.eval]⟩
  | .bool v, _, n, hn, env, rs => by
    obtain ⟨m, rfl⟩ : ∃ m, n = m + 1 := ⟨n - 1, by have := esize_pos (Expr.bool v); omega⟩
    exact ⟨_, by rw [Ref.eval]⟩
  | .str v, _, n, hn, env, rs => by
    obtain ⟨m, rfl⟩ : ∃ m, n = m + 1 := ⟨n - 1, by have := esize_pos (Expr.str v); omega⟩
    exact ⟨_, by rw [Ref.eval]⟩
  | .nilLit, _, n, hn, env, rs => by
    obtain ⟨m, rfl⟩ : ∃ m, n = m + 1 := ⟨n - 1, by have := esize_pos (Expr.nilLit); omega⟩
    exact ⟨_, by rw [Ref.eval]⟩
  | .begin_ es, he, n, hn, env, rs => by
    rw [F0c] at he
    rw [esize] at hn
    obtain ⟨m, rfl⟩ : ∃ m, n = m + 1 := ⟨n - 1, by omega⟩
    rw [Ref.eval]
    cases es with
    | nil =>
      rw [esizeList] at hn
      exact ⟨.nil, by rw [Ref.evalBegin]; omega⟩
    | cons e0 es0 => exact refBegin_total (e0 :: es0) (by simp) he m (by omega) env rs
  | .cond arms d, he, n, hn, env, rs => by
    rw [F0c] at he
    simp only [Bool.and_eq_true] at he
    rw [esize] at hn
    obtain ⟨m, rfl⟩ : ∃ m, n = m + 1 := ⟨n - 1, by omega⟩
    rw [Ref.eval]
    exact refCond_total arms he.1 d (refEval_total d he.2) m (by omega) env rs
  | .and_ es, he, n, hn, env, rs => by
    rw [F0c] at he
    rw [esize] at hn
    obtain ⟨m, rfl⟩ : ∃ m, n = m + 1 := ⟨n - 1, by omega⟩
    rw [Ref.eval]
    exact refSC_total es he false m (by omega) env rs
  | .or_ es, he, n, hn, env, rs => by
    rw [F0c] at he
    rw [esize] at hn
    obtain ⟨m, rfl⟩ : ∃ m, n = m + 1 := ⟨n - 1, by omega⟩
    rw [Ref.eval]
    exact refSC_total es he true m (by omega) env rs
  | .sym _, he, _, _, _, _ | .arr _, he, _, _, _, _ | .call _ _, he, _, _, _, _ | .def_ _ _, he, _, _, _, _
  | .set_ _ _, he, _, _, _, _ | .let_ _ _ _, he, _, _, _, _ | .newScope _, he, _, _, _, _
  | .for_ _ _ _ _ _, he, _, _, _, _ | .break_ _, he, _, _, _, _ | .continue_ _, he, _, _, _, _
  | .fn _ _ _, he, _, _, _, _ | .defn _ _ _ _, he, _, _, _, _ | .assign _ _, he, _, _, _, _ | .bad _, he, _, _, _, _ => by
    simp [F0c] at he
theorem refBegin_total : ∀ (es : List Expr), es ≠ [] → F0cList es = true → ∀ n, esizeList es ≤ n → ∀ env rs, ∃ v, Ref.evalBegin n es env rs = .ok v rs
  | [], hne, _, _, _, _, _ => absurd rfl hne
  | [e], _, he, n, hn, env, rs => by
    rw [F0cList] at he
    simp only [Bool.and_eq_true] at he
    rw [esizeList] at hn
    obtain ⟨m, rfl⟩ : ∃ m, n = m + 1 := ⟨n - 1, by omega⟩
    rw [Ref.evalBegin]
    exact refEval_total e he.1 m (by omega) env rs
  | e :: e' :: es, _, he, n, hn, env, rs => by
    rw [F0cList] at he
    simp only [Bool.and_eq_true] at he
    rw [esizeList] at hn
    obtain ⟨m, rfl⟩ : ∃ m, n = m + 1 := ⟨n - 1, by omega⟩
    obtain ⟨v1, h1⟩ := refEval_total e he.1 m (by omega) env rs
    rw [Ref.evalBegin]
    · rw [h1]
      exact refBegin_total (e' :: es) (by simp) he.2 m (by omega) env rs
    · intro hh; cases hh
theorem refCond_total : ∀ (arms : List (Expr × Expr)), F0cArms arms = true → ∀ d,
    (∀ n, esize d ≤ n → ∀ env rs, ∃ v, Ref.eval n d env rs = .ok v rs) →
    ∀ n, esizeArms arms + esize d ≤ n → ∀ env rs, ∃ v, Ref.evalCond n arms d env rs = .ok v rs
  | [], _, d, hd, n, hn, env, rs => by
    rw [esizeArms] at hn
    obtain ⟨m, rfl⟩ : ∃ m, n = m + 1 := ⟨n - 1, by omega⟩
    rw [Ref.evalCond]
    exact hd m (by omega) env rs
  | (p, b) :: arms, he, d, hd, n, hn, env, rs => by
    rw [F0cArms] at he
    simp only [Bool.and_eq_true] at he
    rw [esizeArms] at hn
    obtain ⟨m, rfl⟩ : ∃ m, n = m + 1 := ⟨n - 1, by omega⟩
    obtain ⟨v1, h1⟩ := refEval_total p he.1.1 m (by omega) env rs
    rw [Ref.evalCond, h1]
    simp only
    split
    · exact refEval_total b he.1.2 m (by omega) env rs
    · exact refCond_total arms he.2 d hd m (by omega) env rs
theorem refSC_total : ∀ (es : List Expr), F0cList es = true → ∀ isOr n, esizeList es ≤ n → ∀ env rs, ∃ v, Ref.evalAndOr n isOr es env rs = .ok v rs
  | [], _, isOr, n, hn, env, rs => by
    rw [esizeList] at hn
    obtain ⟨m, rfl⟩ : ∃ m, n = m + 1 := ⟨n - 1, by omega⟩
    refine ⟨.bool (!isOr), ?_⟩
    rw [Ref.evalAndOr]
    omega
  | [e], he, isOr, n, hn, env, rs => by
    rw [F0cList] at he
    simp only [Bool.and_eq_true] at he
    rw [esizeList] at hn
    obtain ⟨m, rfl⟩ : ∃ m, n = m + 1 := ⟨n - 1, by omega⟩
    rw [Ref.evalAndOr]
    exact refEval_total e he.1 m (by omega) env rs
  | e :: e' :: es, he, isOr, n, hn, env, rs => by
    rw [F0cList] at he
    simp only [Bool.and_eq_true] at he
    rw [esizeList] at hn
    obtain ⟨m, rfl⟩ : ∃ m, n = m + 1 := ⟨n - 1, by omega⟩
    obtain ⟨v1, h1⟩ := refEval_total e he.1 m (by omega) env rs
    rw [Ref.evalAndOr]
    · rw [h1]
      simp only
      split
      · exact ⟨_, rfl⟩
      · exact refSC_total (e' :: es) he.2 isOr m (by omega) env rs
    · intro hh; cases hh
end

/-- a value (state unchanged) or fuel exhaustion -/
def OkOrTimeout (res : Ref.R Val) (rs : Ref.St) : Prop := (∃ v, res = .ok v rs) ∨ res = .timeout

mutual
theorem refEval_noFail : ∀ (e : Expr), F0c e = true → ∀ n env rs, OkOrTimeout (Ref.eval n e env rs) rs
  | e, he, 0, env, rs => Or.inr (by rw [Ref.eval])
  | .int v, _, m + 1, env, rs => Or.inl ⟨_, by rw [Ref.eval]⟩
  | .bool v, _, m + 1, env, rs => Or.inl ⟨_, by rw [Ref.eval]⟩
  | .str v, _, m + 1, env, rs => Or.inl ⟨_, by rw [Ref.eval]⟩
  | .nilLit, _, m + 1, env, rs => Or.inl ⟨_, by rw [Ref.eval]⟩
  | .begin_ es, he, m + 1, env, rs => by
    rw [F0c] at he
    rw [Ref.eval]
    cases es with
    | nil =>
      cases m with
      | zero => exact Or.inr (by rw [Ref.evalBegin])
      | succ k => exact Or.inl ⟨.nil, by rw [Ref.evalBegin]; omega⟩
    | cons e0 es0 => exact refBegin_noFail (e0 :: es0) (by simp) he m env rs
  | .cond arms d, he, m + 1, env, rs => by
    rw [F0c] at he
    simp only [Bool.and_eq_true] at he
    rw [Ref.eval]
    exact refCond_noFail arms he.1 d (refEval_noFail d he.2) m env rs
  | .and_ es, he, m + 1, env, rs => by
    rw [F0c] at he
    rw [Ref.eval]
    exact refSC_noFail es he false m env rs
  | .or_ es, he, m + 1, env, rs => by
    rw [F0c] at he
    rw [Ref.eval]
    exact refSC_noFail es he true m env rs
  | .sym _, he, _ + 1, _, _ | .arr _, he, _ + 1, _, _ | .call _ _, he, _ + 1, _, _ | .def_ _ _, he, _ + 1, _, _
  | .set_ _ _, he, _ + 1, _, _ | .let_ _ _ _, he, _ + 1, _, _ | .newScope _, he, _ + 1, _, _
  | .for_ _ _ _ _ _, he, _ + 1, _, _ | .break_ _, he, _ + 1, _, _ | .continue_ _, he, _ + 1, _, _
  | .fn _ _ _, he, _ + 1, _, _ | .defn _ _ _ _, he, _ + 1, _, _ | .assign _ _, he, _ + 1, _, _ | .bad _, he, _ + 1, _, _ => by
    simp [F0c] at he
theorem refBegin_noFail : ∀ (es : List Expr), es ≠ [] → F0cList es = true → ∀ n env rs, OkOrTimeout (Ref.evalBegin n es env rs) rs
  | [], hne, _, _, _, _ => absurd rfl hne
  | es, _, _, 0, env, rs => Or.inr (by rw [Ref.evalBegin])
  | [e], _, he, m + 1, env, rs => by
    rw [F0cList] at he
    simp only [Bool.and_eq_true] at he
    rw [Ref.evalBegin]
    exact refEval_noFail e he.1 m env rs
  | e :: e' :: es, _, he, m + 1, env, rs => by
    rw [F0cList] at he
    simp only [Bool.and_eq_true] at he
    rw [Ref.evalBegin]
    · rcases refEval_noFail e he.1 m env rs with ⟨v1, h1⟩ | h1
      · rw [h1]
        exact refBegin_noFail (e' :: es) (by simp) he.2 m env rs
      · rw [h1]; exact Or.inr rfl
    · intro hh; cases hh
theorem refCond_noFail : ∀ (arms : List (Expr × Expr)), F0cArms arms = true → ∀ d,
    (∀ n env rs, OkOrTimeout (Ref.eval n d env rs) rs) →
    ∀ n env rs, OkOrTimeout (Ref.evalCond n arms d env rs) rs
  | arms, _, d, hd, 0, env, rs => Or.inr (by rw [Ref.evalCond])
  | [], _, d, hd, m + 1, env, rs => by
    rw [Ref.evalCond]
    exact hd m env rs
  | (p, b) :: arms, he, d, hd, m + 1, env, rs => by
    rw [F0cArms] at he
    simp only [Bool.and_eq_true] at he
    rw [Ref.evalCond]
    rcases refEval_noFail p he.1.1 m env rs with ⟨v1, h1⟩ | h1
    · rw [h1]
      simp only
      split
      · exact refEval_noFail b he.1.2 m env rs
      · exact refCond_noFail arms he.2 d hd m env rs
    · rw [h1]; exact Or.inr rfl
theorem refSC_noFail : ∀ (es : List Expr), F0cList es = true → ∀ isOr n env rs, OkOrTimeout (Ref.evalAndOr n isOr es env rs) rs
  | es, _, isOr, 0, env, rs => Or.inr (by rw [Ref.evalAndOr])
  | [], _, isOr, m + 1, env, rs => Or.inl ⟨.bool (!isOr), by rw [Ref.evalAndOr]; omega⟩
  | [e], he, isOr, m + 1, env, rs => by
    rw [F0cList] at he
    simp only [Bool.and_eq_true] at he
    rw [Ref.evalAndOr]
    exact refEval_noFail e he.1 m env rs
  | e :: e' :: es, he, isOr, m + 1, env, rs => by
    rw [F0cList] at he
    simp only [Bool.and_eq_true] at he
    rw [Ref.evalAndOr]
    · rcases refEval_noFail e he.1 m env rs with ⟨v1, h1⟩ | h1
      · rw [h1]
        simp only
        split
        · exact Or.inl ⟨_, rfl⟩
        · exact refSC_noFail (e' :: es) he.2 isOr m env rs
      · rw [h1]; exact Or.inr rfl
    · intro hh; cases hh
end

end ZygoVerif.Sim
