/-
Lemmas for C14: the abstraction to the ordered association list and the
commutation of every mutator and observer with it.
-/
import ZygoVerif.Proofs.HashInv
import ZygoVerif.Spec.OrderedMap
namespace ZygoVerif.Hash
variable {K V : Type} {o : KeyOps K}

/-- one entry of the abstract map: a KeyOrder key with the value it resolves to -/
def entry (g : K → Option V) (k : K) : Option (K × V) := (g k).map (fun v => (k, v))

/-- The association list a hash stands for: KeyOrder, each key paired with its value. -/
def abs (o : KeyOps K) (h : Hash K V) : Spec.OMap K V := h.keyOrder.filterMap (entry (get? o h))

theorem fm_congr (ko : List K) (g g' : K → Option V) (h : ∀ k ∈ ko, g k = g' k) :
    ko.filterMap (entry g) = ko.filterMap (entry g') := by
  induction ko with
  | nil => rfl
  | cons a r ih =>
    simp only [List.filterMap_cons, entry, h a List.mem_cons_self]
    rw [show List.filterMap (entry g) r = List.filterMap (entry g') r from
      ih (fun k hk => h k (List.mem_cons_of_mem _ hk))]

theorem fm_keys (ko : List K) (g : K → Option V) (h : ∀ k ∈ ko, (g k).isSome = true) :
    (ko.filterMap (entry g)).map (·.1) = ko := by
  induction ko with
  | nil => rfl
  | cons a r ih =>
    have ha := h a List.mem_cons_self
    obtain ⟨v, hv⟩ := Option.isSome_iff_exists.1 ha
    simp only [List.filterMap_cons, entry, hv, Option.map_some, List.map_cons]
    rw [ih (fun k hk => h k (List.mem_cons_of_mem _ hk))]

theorem fm_mem (ko : List K) (g : K → Option V) (e : K × V) (he : e ∈ ko.filterMap (entry g)) :
    e.1 ∈ ko ∧ g e.1 = some e.2 := by
  obtain ⟨k, hk, hke⟩ := List.mem_filterMap.1 he
  simp only [entry, Option.map_eq_some_iff] at hke
  obtain ⟨v, hv, rfl⟩ := hke
  exact ⟨hk, hv⟩

/-- value update of the entries equal to `k` = re-resolving with the updated resolver -/
theorem fm_update (ko : List K) (g : K → Option V) (k : K) (v : V)
    (hl : ∀ k' ∈ ko, o.keq k' k = true → (g k').isSome = true) :
    (ko.filterMap (entry g)).map (fun e => if o.keq e.1 k then (e.1, v) else e) =
      ko.filterMap (entry (fun k' => if o.keq k' k then some v else g k')) := by
  induction ko with
  | nil => rfl
  | cons a r ih =>
    have ih' := ih (fun k' hk' => hl k' (List.mem_cons_of_mem _ hk'))
    simp only [List.filterMap_cons, entry] at ih' ⊢
    by_cases hq : o.keq a k = true
    · obtain ⟨x, hx⟩ := Option.isSome_iff_exists.1 (hl a List.mem_cons_self hq)
      simp only [hx, Option.map_some, List.map_cons, hq, if_true]
      rw [ih']
    · have hq' : o.keq a k = false := by simpa using hq
      cases hg : g a with
      | none => simp only [hq', Bool.false_eq_true, if_false, Option.map_none]; exact ih'
      | some x =>
        simp only [hq', Bool.false_eq_true, if_false, Option.map_some, List.map_cons]
        rw [ih']

/-- dropping the entries equal to `k` = re-resolving with `k` removed from the resolver -/
theorem fm_erase (ko : List K) (g : K → Option V) (k : K) :
    ko.filterMap (entry (fun k' => if o.keq k' k then none else g k')) =
      (ko.filterMap (entry g)).filter (fun e => !o.keq e.1 k) := by
  induction ko with
  | nil => rfl
  | cons a r ih =>
    simp only [List.filterMap_cons, entry] at ih ⊢
    by_cases hq : o.keq a k = true
    · simp only [hq, if_true, Option.map_none]
      cases hg : g a with
      | none => simp only [Option.map_none]; exact ih
      | some x => simp only [Option.map_some, List.filter_cons, hq, Bool.not_true, Bool.false_eq_true, if_false]; exact ih
    · have hq' : o.keq a k = false := by simpa using hq
      simp only [hq', Bool.false_eq_true, if_false]
      cases hg : g a with
      | none => simp only [Option.map_none]; exact ih
      | some x => simp only [Option.map_some, List.filter_cons, hq', Bool.not_false, if_true]; rw [ih]

/-- … and the first KeyOrder entry equal to `k` may as well be removed first -/
theorem fm_koRemove (ko : List K) (g : K → Option V) (k : K) :
    (koRemove o ko k).filterMap (entry (fun k' => if o.keq k' k then none else g k')) =
      ko.filterMap (entry (fun k' => if o.keq k' k then none else g k')) := by
  induction ko with
  | nil => rfl
  | cons a r ih =>
    simp only [koRemove]
    by_cases hq : o.keq a k = true
    · simp [hq, entry]
    · have hq' : o.keq a k = false := by simpa using hq
      simp only [hq', Bool.false_eq_true, if_false, List.filterMap_cons, ih]

theorem fm_getElem? (ko : List K) (g : K → Option V) (h : ∀ k ∈ ko, (g k).isSome = true) (i : Nat) :
    (ko.filterMap (entry g))[i]? = (ko[i]?).bind (entry g) := by
  induction ko generalizing i with
  | nil => simp
  | cons a r ih =>
    obtain ⟨v, hv⟩ := Option.isSome_iff_exists.1 (h a List.mem_cons_self)
    have ih' := ih (fun k hk => h k (List.mem_cons_of_mem _ hk))
    cases i with
    | zero => simp [entry, hv]
    | succ j =>
      simp only [List.filterMap_cons, entry, hv, Option.map_some, List.getElem?_cons_succ]
      exact ih' j

theorem fm_lookup (ko : List K) (g : K → Option V) (k : K)
    (hc : ∀ k0 ∈ ko, o.keq k0 k = true → g k0 = g k) :
    Spec.lookup o.keq (ko.filterMap (entry g)) k =
      if ko.any (fun k0 => o.keq k0 k && (g k0).isSome) then g k else none := by
  induction ko with
  | nil => rfl
  | cons a r ih =>
    have ih' := ih (fun k0 h0 => hc k0 (List.mem_cons_of_mem _ h0))
    simp only [Spec.lookup, List.filterMap_cons, entry, List.any_cons] at ih' ⊢
    have hga : g a = none ∨ ∃ x, g a = some x := by cases g a <;> simp
    rcases hga with hg | ⟨x, hg⟩
    · simp only [hg, Option.map_none, Option.isSome_none, Bool.and_false, Bool.false_or]; exact ih'
    · by_cases hq : o.keq a k = true
      · have := hc a List.mem_cons_self hq
        rw [hg] at this
        simp [hg, hq, ← this]
      · have hq' : o.keq a k = false := by simpa using hq
        simp only [hg, Option.map_some, List.find?_cons, hq', Bool.false_and, Bool.false_or]
        exact ih'

/-- the resolvers after HashSet / HashDelete test `keq k k'`, the specification `keq e.1 k` -/
theorem flip_keq (L : KeyLaws o) (k : K) (r : Option V) (g : K → Option V) :
    (fun k' => if o.keq k k' then r else g k') = fun k' => if o.keq k' k then r else g k' :=
  funext fun k' => by rw [keq_comm L]

/-! The abstraction reads only a resolver and a key list: that binding and lookup commute with it
is a fact about `Lists`, and the buckets enter through `get?_set`, `get?_del`, `set_keyOrder`
and `del_keyOrder` alone. -/
namespace Lists
variable {g : K → Option V} {ko : List K}

theorem fm_set (L : KeyLaws o) (S : Lists o g ko) (k : K) (v : V) :
    (if (g k).isSome then ko else ko ++ [k]).filterMap
        (entry (fun k' => if o.keq k k' then some v else g k')) =
      Spec.set o.keq (ko.filterMap (entry g)) k v := by
  unfold Spec.set
  rw [flip_keq L]
  cases hs : (g k).isSome
  · have hf := S.keq_false k hs
    have hany : (ko.filterMap (entry g)).any (fun e => o.keq e.1 k) = false := by
      rw [List.any_eq_false]
      intro e he
      have := hf e.1 (fm_mem _ _ e he).1
      simp [this]
    simp only [Bool.false_eq_true, if_false, hany, List.filterMap_append]
    congr 1
    · exact fm_congr _ _ _ (fun k' hk' => by simp [hf k' hk'])
    · simp [entry, L.refl]
  · obtain ⟨k0, h0, hq0⟩ := S.rep k hs
    obtain ⟨x, hx⟩ := Option.isSome_iff_exists.1 (S.live k0 h0)
    have hany : (ko.filterMap (entry g)).any (fun e => o.keq e.1 k) = true := by
      rw [List.any_eq_true]
      exact ⟨(k0, x), List.mem_filterMap.2 ⟨k0, h0, by simp [entry, hx]⟩, hq0⟩
    simp only [if_true, hany]
    exact (fm_update _ _ _ _ (fun k' hk' _ => S.live k' hk')).symm

theorem fm_resolves (S : Lists o g ko) (k : K) :
    Spec.lookup o.keq (ko.filterMap (entry g)) k = g k := by
  rw [fm_lookup _ _ _ (fun k0 _ hq => S.congr _ _ hq)]
  cases hg : g k with
  | none => simp
  | some x =>
    obtain ⟨k0, h0, hq0⟩ := S.rep k (by simp [hg])
    have : ko.any (fun k0 => o.keq k0 k && (g k0).isSome) = true := by
      rw [List.any_eq_true]
      exact ⟨k0, h0, by simp [hq0, S.live k0 h0]⟩
    simp [this]

end Lists

section commute
variable (L : KeyLaws o)
include L

theorem abs_set (h : Hash K V) (I : Inv o h) (k : K) (v : V) :
    abs o (set o h k v) = Spec.set o.keq (abs o h) k v := by
  unfold abs
  rw [funext (fun k' => get?_set L h k k' v), set_keyOrder]
  exact (I.lists L).fm_set L k v

theorem abs_del (h : Hash K V) (I : Inv o h) (k : K) :
    abs o (del o h k) = Spec.del o.keq (abs o h) k := by
  unfold abs Spec.del
  rw [funext (fun k' => get?_del L h k k' I.bucketPw), flip_keq L, ← fm_erase, del_keyOrder]
  cases (get? o h k).isSome
  · rfl
  · exact fm_koRemove _ _ _

theorem abs_lookup (h : Hash K V) (I : Inv o h) (k : K) :
    Spec.lookup o.keq (abs o h) k = get? o h k :=
  (I.lists L).fm_resolves k

end commute

theorem abs_keys (h : Hash K V) (I : Inv o h) : (abs o h).map (·.1) = h.keyOrder :=
  fm_keys _ _ I.koLive

theorem abs_length (h : Hash K V) (I : Inv o h) : (abs o h).length = h.keyOrder.length := by
  rw [← abs_keys h I, List.length_map]

theorem countKeys_inv (h : Hash K V) (I : Inv o h) : countKeys h = some ((abs o h).length : Int) := by
  unfold countKeys
  rw [← I.numKeys_eq, I.numKeys_eq, I.count, abs_length h I]
  simp

theorem firstLive_live (h : Hash K V) (l : List K) (hl : ∀ k ∈ l, (get? o h k).isSome = true) :
    firstLive o h l = l.head?.bind (entry (get? o h)) := by
  cases l with
  | nil => rfl
  | cons a r =>
    obtain ⟨x, hx⟩ := Option.isSome_iff_exists.1 (hl a List.mem_cons_self)
    simp [firstLive, hx, entry]

theorem pairi_inv (h : Hash K V) (I : Inv o h) (pos : Nat) (hp : pos < h.keyOrder.length) :
    pairi o h pos = match (abs o h)[pos]? with
      | some (k, v) => .pair k v
      | none => .err := by
  unfold pairi
  have hnk : ¬ ((pos : Int) > h.numKeys) := by rw [I.numKeys_eq, I.count]; omega
  simp only [hnk, if_false]
  rw [firstLive_live h _ (fun k hk => I.koLive k (List.mem_of_mem_drop hk))]
  unfold abs
  rw [fm_getElem? _ _ I.koLive, List.head?_drop]
  obtain ⟨x, hx⟩ := Option.isSome_iff_exists.1 (I.koLive h.keyOrder[pos] (List.getElem_mem hp))
  simp [List.getElem?_eq_getElem hp, entry, hx]

theorem hpair_inv (h : Hash K V) (I : Inv o h) (pos : Nat) :
    hpair o h pos = match (abs o h)[pos]? with
      | some (k, v) => .pair k v
      | none => .err := by
  unfold hpair
  by_cases hp : pos < h.keyOrder.length
  · simp only [hp, if_true]; exact pairi_inv h I pos hp
  · have : (abs o h)[pos]? = none := by
      rw [List.getElem?_eq_none_iff, abs_length h I]; omega
    simp [hp, this]

theorem collect_pairs (l : List (K × V)) (acc : List (K × V)) :
    collect (l.map (fun e => (Obs.pair e.1 e.2 : Obs K V))) acc = .pairs (acc ++ l) := by
  induction l generalizing acc with
  | nil => simp [collect]
  | cons a r ih => simp [collect, ih]

theorem range_inv (h : Hash K V) (I : Inv o h) : range o h = .pairs (abs o h) := by
  unfold range
  rw [countKeys_inv h I]
  simp only [Int.toNat_natCast]
  have : (List.range (abs o h).length).map (rangePair o h) =
      (abs o h).map (fun e => (Obs.pair e.1 e.2 : Obs K V)) := by
    apply List.ext_getElem
    · simp
    · intro i h1 h2
      simp only [List.length_map, List.length_range] at h1
      simp only [List.getElem_map, List.getElem_range]
      unfold rangePair
      rw [countKeys_inv h I]
      have : ¬ ((i : Int) ≥ ((abs o h).length : Int)) := by omega
      simp only [this, if_false]
      rw [pairi_inv h I i (by rw [← abs_length h I]; exact h1)]
      simp [List.getElem?_eq_getElem h1]
  rw [this, collect_pairs]; simp

end ZygoVerif.Hash
