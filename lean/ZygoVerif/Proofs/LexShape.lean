/-
Stepping the lexer model through printed text: the part of the lexer state that later lexing
depends on (`Shape`: mode, buffer, token queue, the last rune in the look-back ring), the
relation `Lex sh text sh'` (from every state of shape `sh`, feeding `text` succeeds and ends in
a state of shape `sh'`) in which the results about printed text are stated. The proofs use `Reads`
(Proofs/LexReads) and arrive here by `Reads.lex`.
-/
import ZygoVerif.Proofs.LexTokens
namespace ZygoVerif.Lexer

def pushRing (s : LexCore) (r : Char) : LexCore :=
  { s with priorRune := s.priorRune.set s.priori r, priori := (s.priori + 1) % 20 }

theorem step_def (s : LexCore) (r : Char) : step s r = stepMode (pushRing s r) r := rfl

structure RingOK (s : LexCore) : Prop where
  len : s.priorRune.length = 20
  lt : s.priori < 20

def lastRune (s : LexCore) : Char := s.priorRune.getD ((s.priori + 19) % 20) '\x00'

theorem ringOK_init : RingOK LexCore.init := ⟨by decide, by decide⟩
theorem lastRune_init : lastRune LexCore.init = '\x00' := by decide

theorem ringOK_pushRing (s : LexCore) (r : Char) (h : RingOK s) : RingOK (pushRing s r) :=
  ⟨by simp [pushRing, h.len], by simp only [pushRing]; omega⟩

theorem lastRune_pushRing (s : LexCore) (r : Char) (h : RingOK s) : lastRune (pushRing s r) = r := by
  have hlt := h.lt
  have hidx : ((s.priori + 1) % 20 + 19) % 20 = s.priori := by omega
  simp only [lastRune, pushRing, hidx, List.getD_eq_getElem?_getD]
  rw [List.getElem?_set_self (by rw [h.len]; exact hlt)]
  rfl

theorem twoback_pushRing (s : LexCore) (r : Char) (h : RingOK s) : twoback (pushRing s r) = lastRune s := by
  have hlt := h.lt
  have hidx : ((s.priori + 1) % 20 + 18) % 20 = (s.priori + 19) % 20 := by omega
  have hne : s.priori ≠ (s.priori + 19) % 20 := by omega
  simp only [twoback, lastRune, pushRing, hidx, List.getD_eq_getElem?_getD]
  rw [List.getElem?_set_ne hne]

structure Shape where
  state : Mode
  buffer : List Char
  tokens : List Token
  last : Char

structure HasShape (s : LexCore) (sh : Shape) : Prop where
  state : s.state = sh.state
  buffer : s.buffer = sh.buffer
  tokens : s.tokens = sh.tokens
  ring : RingOK s
  last : lastRune s = sh.last

def Lex (a : Shape) (text : List Char) (b : Shape) : Prop :=
  ∀ s, HasShape s a → ∃ s', feed (.ok s) text = .ok s' ∧ HasShape s' b

end ZygoVerif.Lexer
