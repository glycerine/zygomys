/-
Histories on shared records (`Model/ToGoHist.lean`): what a conversion in the middle of a history
can depend on. Only `hset` changes the script's records (`step_store`, `run_store`); a conversion
of an argument, and of a record that has no struct attached, answers from the records' current
fields alone (`stepArg_ans_of_store`, `stepTogo_fresh_ans_of_store`, `stepSelf_fresh_ans_of_store`).
-/
import ZygoVerif.Model.ToGoHist
namespace ZygoVerif.ToGoHistProofs
open ZygoVerif.ToGo ZygoVerif.ToGoHist

theorem record_of_store (h h' : HSt) (hs : h.store = h'.store) (r : Nat) : h.record r = h'.record r := by
  simp [HSt.record, hs]

theorem convertFresh_store (w : World) (fuel : Nat) (h : HSt) (want : Option String) (x : Sx) (a : Bool)
    (f : Fresh) (hf : convertFresh w fuel h want x a = .ok f) : f.st.store = h.store := by
  simp only [convertFresh] at hf
  split at hf
  · simp at hf
  · simp only [Except.ok.injEq] at hf
    subst hf; rfl

/-- A refill that succeeds: the record's type is registered, the attached struct is there, the
field loop ran over the record's pairs, starting from what the struct held; nothing but the heap and
the attachments changes. -/
theorem convertRefill_ok {w : World} {fuel : Nat} {h : HSt} {o : Nat} {x : Sx} {h1 : HSt}
    (hr : convertRefill w fuel h o x = .ok h1) :
    ∃ id tn kvs d cur sv st1, x = .hash id tn kvs ∧ w.lookupReg tn = some d ∧ h.heap[o]? = some cur ∧
      fillFields (conv w fuel) (fieldTable w 8 d.fields 0 []) ⟨h.heap, []⟩ cur kvs = .ok (sv, st1) ∧
      h1 = { h with heap := st1.heap.set o sv, shadow := attachAll h.shadow st1.cache 0 none } := by
  simp only [convertRefill] at hr
  split at hr
  · split at hr
    · split at hr
      · cases hr; exact ⟨_, _, _, _, _, _, _, rfl, ‹_›, ‹_›, ‹_›, rfl⟩
      · cases hr
    · cases hr
  · cases hr

theorem stepTogo_store (w : World) (fuel : Nat) (h : HSt) (r : Nat) : (stepTogo w fuel h r).2.store = h.store := by
  simp only [stepTogo]
  split
  · split
    · rename_i h1 hr
      obtain ⟨_, _, _, _, _, _, _, _, _, _, _, rfl⟩ := convertRefill_ok hr
      rfl
    · rfl
  · split
    · rename_i f hf
      exact convertFresh_store w fuel h _ _ _ f hf
    · rfl

theorem stepArg_store (w : World) (fuel : Nat) (h : HSt) (r : Nat) (m : Bool) : (stepArg w fuel h r m).2.store = h.store := by
  simp only [stepArg]
  split
  · rename_i f hf
    simp [convertFresh_store w fuel h _ _ _ f hf]
  · rfl

theorem stepSelf_store (w : World) (fuel : Nat) (h : HSt) (r : Nat) : (stepSelf w fuel h r).2.store = h.store := by
  simp only [stepSelf]
  split
  · rfl
  · split
    · rename_i f hf
      exact convertFresh_store w fuel h _ _ _ f hf
    · rfl

/-- the records after one step: an `hset` updates its record, every other step leaves all alone -/
def storeStep (s : Store) : Step → Store
  | .hset r k v => (hset s r k v).getD s
  | _ => s

theorem step_store (w : World) (fuel : Nat) (h : HSt) (s : Step) : (step w fuel h s).2.store = storeStep h.store s := by
  cases s with
  | togo r => exact stepTogo_store w fuel h r
  | hset r k v =>
    simp only [step, storeStep]
    cases hset h.store r k v <;> rfl
  | echo r => exact stepArg_store w fuel h r false
  | touch r => exact stepArg_store w fuel h r true
  | read r => rfl
  | self r => exact stepSelf_store w fuel h r

/-- the steps of a history that were executed (it ends at the first failing step) -/
def executed (w : World) (fuel : Nat) : HSt → List Step → List Step
  | _, [] => []
  | h, s :: rest =>
    let (a, h1) := step w fuel h s
    if a.failed then [s] else s :: executed w fuel h1 rest

/-- `run_store`: after ANY history the script's records are what the executed `hset`s made them —
conversions, method calls and everything they attach do not enter. -/
theorem run_store (w : World) (fuel : Nat) : ∀ (steps : List Step) (h : HSt),
    (run w fuel h steps).2.store = (executed w fuel h steps).foldl storeStep h.store := by
  intro steps
  induction steps with
  | nil => intro h; rfl
  | cons s rest ih =>
    intro h
    simp only [run, executed]
    cases hs : step w fuel h s with
    | mk a h1 =>
      have hst : h1.store = storeStep h.store s := by
        have := step_store w fuel h s
        rw [hs] at this; exact this
      by_cases hf : a.failed = true
      · simp [hf, hst]
      · simp only [hf, if_false, Bool.false_eq_true]
        rw [List.foldl_cons, ← hst]
        exact ih h1

/-- `stepArg_ans_of_store`: two states with the same records — whatever their heaps and attached
structs — answer an argument conversion (identity method or mutating method) identically. -/
theorem stepArg_ans_of_store (w : World) (fuel : Nat) (h h' : HSt) (hs : h.store = h'.store) (r : Nat) (m : Bool) :
    (stepArg w fuel h r m).1 = (stepArg w fuel h' r m).1 := by
  simp only [stepArg, convertFresh, record_of_store h h' hs r]
  cases toGoTop w fuel (wantOf w (h'.record r)) (h'.record r) with
  | error e => rfl
  | ok p => rfl

theorem stepTogo_fresh_ans_of_store (w : World) (fuel : Nat) (h h' : HSt) (hs : h.store = h'.store) (r : Nat)
    (hn : h.shadowOf r = none) (hn' : h'.shadowOf r = none) :
    (stepTogo w fuel h r).1 = (stepTogo w fuel h' r).1 := by
  simp only [stepTogo, hn, hn', convertFresh, record_of_store h h' hs r]
  cases toGoTop w fuel none (h'.record r) with
  | error e => rfl
  | ok p => rfl

theorem stepSelf_fresh_ans_of_store (w : World) (fuel : Nat) (h h' : HSt) (hs : h.store = h'.store) (r : Nat)
    (hn : h.shadowOf r = none) (hn' : h'.shadowOf r = none) :
    (stepSelf w fuel h r).1 = (stepSelf w fuel h' r).1 := by
  simp only [stepSelf, hn, hn', convertFresh, record_of_store h h' hs r]
  cases toGoTop w fuel none (h'.record r) with
  | error e => rfl
  | ok p => rfl

/-- a state in which nothing was ever converted: the given records, no Go object -/
def pristine (s : Store) : HSt := ⟨s, [], []⟩

/-- For ALL histories: `(togo r)`, when `r` has no struct attached after the history, answers exactly
like the first conversion of a never-converted record with the fields `r` has now. -/
theorem togo_reflects_current_record_unattached (w : World) (fuel : Nat) (h0 : HSt) (pre : List Step) (r : Nat)
    (hn : (run w fuel h0 pre).2.shadowOf r = none) :
    (stepTogo w fuel (run w fuel h0 pre).2 r).1 =
      (stepTogo w fuel (pristine ((executed w fuel h0 pre).foldl storeStep h0.store)) r).1 :=
  stepTogo_fresh_ans_of_store w fuel _ _ (run_store w fuel pre h0) r hn rfl

end ZygoVerif.ToGoHistProofs
