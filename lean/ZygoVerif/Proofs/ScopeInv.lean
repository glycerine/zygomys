/-
The scope/closure tables only grow: invariants of the VM model (`Model/VM.lean`) that every
execution step preserves.

* `WF s`   — every scope id held by the live scope stack, by a suspended scope stack, by the
             captured stack of any function object or by the stack of any lazy argument is
             below `s.scopes.length` (ids are allocated monotonically: the next scope gets
             the id `s.scopes.length`).
* `Ext s s'` — `s'` extends `s`: no scope cell and no function object disappears; the
             function-boundary flag and the template of a scope, the captured stack and the
             parent of a function object never change.
* `Step s s' = Ext s s' ∧ (WF s → WF s')`, reflexive and transitive.

`Safe m` says that running `m` from any state is a `Step`; here is one `Step` lemma for each way in
which the machine updates its tables. That `Safe` holds of every function of the VM's mutual block
(`respects`, `allSafe`) is in `Proofs/ScopeGen.lean`, behind the generator's part.
-/
import ZygoVerif.Proofs.Scope
import ZygoVerif.Proofs.VMBody
namespace ZygoVerif.Scope
open ZygoVerif.Core ZygoVerif.VM
open ZygoVerif.Sim (run_bind run_get run_set run_modify run_throw)

structure WF (s : St) : Prop where
  linear : ∀ id ∈ idsOf s.linear, id < s.scopes.length
  suspended : ∀ l ∈ s.suspended, ∀ id ∈ idsOf l, id < s.scopes.length
  closing : ∀ f ∈ s.fns, ∀ id ∈ idsOf f.closing, id < s.scopes.length
  lazies : ∀ z ∈ s.lazies, ∀ id ∈ idsOf z.stack, id < s.scopes.length

structure Ext (s s' : St) : Prop where
  scopesLen : s.scopes.length ≤ s'.scopes.length
  flags : ∀ id, id < s.scopes.length →
    (scopeOf s' id).isFunction = (scopeOf s id).isFunction ∧ (scopeOf s' id).myFunction = (scopeOf s id).myFunction
  fnsLen : s.fns.length ≤ s'.fns.length
  fns : ∀ i, i < s.fns.length →
    (fnOf s' i).closing = (fnOf s i).closing ∧ (fnOf s' i).parent = (fnOf s i).parent
  lazyLen : s.lazies.length ≤ s'.lazies.length
  lazyStack : ∀ i, i < s.lazies.length → (s'.lazies[i]?).map (·.stack) = (s.lazies[i]?).map (·.stack)

def Step (s s' : St) : Prop := Ext s s' ∧ (WF s → WF s')

theorem Ext.refl (s : St) : Ext s s :=
  ⟨Nat.le_refl _, fun _ _ => ⟨rfl, rfl⟩, Nat.le_refl _, fun _ _ => ⟨rfl, rfl⟩, Nat.le_refl _, fun _ _ => rfl⟩

theorem Ext.trans {a b c : St} (h1 : Ext a b) (h2 : Ext b c) : Ext a c where
  scopesLen := Nat.le_trans h1.scopesLen h2.scopesLen
  flags := fun id hid =>
    let p := h1.flags id hid
    let q := h2.flags id (Nat.lt_of_lt_of_le hid h1.scopesLen)
    ⟨q.1.trans p.1, q.2.trans p.2⟩
  fnsLen := Nat.le_trans h1.fnsLen h2.fnsLen
  fns := fun i hi =>
    let p := h1.fns i hi
    let q := h2.fns i (Nat.lt_of_lt_of_le hi h1.fnsLen)
    ⟨q.1.trans p.1, q.2.trans p.2⟩
  lazyLen := Nat.le_trans h1.lazyLen h2.lazyLen
  lazyStack := fun i hi => (h2.lazyStack i (Nat.lt_of_lt_of_le hi h1.lazyLen)).trans (h1.lazyStack i hi)

theorem Step.refl (s : St) : Step s s := ⟨Ext.refl s, id⟩

theorem Step.trans {a b c : St} (h1 : Step a b) (h2 : Step b c) : Step a c :=
  ⟨h1.1.trans h2.1, fun h => h2.2 (h1.2 h)⟩

theorem run_pure {α} (a : α) (s : St) : (pure a : M α).run s = (.ok a, s) := Sim.run_pure a s
theorem run_err {α} (s : St) : (err : M α).run s = (.error .err, s) := Sim.run_err s
theorem run_hostPanic {α} (s : St) : (hostPanic : M α).run s = (.error .panic, s) := Sim.run_hostPanic s

def Safe {α} (m : M α) : Prop := ∀ s, Step s (m.run s).2

theorem Step.pre : Pre Step := ⟨Step.refl, Step.trans⟩

theorem safe_of_run {α} {m : M α} (hm : Safe m) {s s' : St} {r : Except Fault α} (h : m.run s = (r, s')) :
    Step s s' := by
  have := hm s
  rw [h] at this
  exact this

theorem idsOf_truncate_sub (l : List (Option Nat)) (n : Nat) : ∀ id ∈ idsOf (truncate l n), id ∈ idsOf l := by
  refine idsOf_sub fun id hid => ?_
  unfold truncate at hid
  split at hid
  · exact List.mem_of_mem_drop hid
  · rcases List.mem_append.mp hid with h | h
    · cases (List.mem_replicate.mp h).2
    · exact h

theorem Step.of_scopes_same {s s' : St} (hsc : s'.scopes = s.scopes)
    (hfl : s.fns.length ≤ s'.fns.length)
    (hfp : ∀ i, i < s.fns.length → (fnOf s' i).closing = (fnOf s i).closing ∧ (fnOf s' i).parent = (fnOf s i).parent)
    (hlin : WF s → ∀ id ∈ idsOf s'.linear, id < s.scopes.length)
    (hsus : WF s → ∀ l ∈ s'.suspended, ∀ id ∈ idsOf l, id < s.scopes.length)
    (hcl : WF s → ∀ f ∈ s'.fns, ∀ id ∈ idsOf f.closing, id < s.scopes.length)
    (hlz : WF s → ∀ z ∈ s'.lazies, ∀ id ∈ idsOf z.stack, id < s.scopes.length)
    (hll : s.lazies.length ≤ s'.lazies.length := by simp)
    (hls : ∀ i, i < s.lazies.length → (s'.lazies[i]?).map (·.stack) = (s.lazies[i]?).map (·.stack) := by intros; rfl) :
    Step s s' := by
  refine ⟨⟨by rw [hsc]; exact Nat.le_refl _, fun id _ => by simp [scopeOf, hsc], hfl, hfp, hll, hls⟩, fun w => ⟨?_, ?_, ?_, ?_⟩⟩
  · rw [hsc]; exact hlin w
  · rw [hsc]; exact hsus w
  · rw [hsc]; exact hcl w
  · rw [hsc]; exact hlz w

theorem Step.of_linear {s s' : St} (h1 : s'.scopes = s.scopes) (h2 : s'.fns = s.fns)
    (h3 : WF s → ∀ id ∈ idsOf s'.linear, id < s.scopes.length)
    (h4 : WF s → ∀ l ∈ s'.suspended, ∀ id ∈ idsOf l, id < s.scopes.length) (h5 : s'.lazies = s.lazies) : Step s s' :=
  Step.of_scopes_same h1 (Nat.le_of_eq (congrArg _ h2.symm)) (fun i _ => by simp [fnOf, h2]) h3 h4
    (fun w => h2 ▸ w.closing) (fun w => h5 ▸ w.lazies) (Nat.le_of_eq (congrArg _ h5.symm)) (fun i _ => by rw [h5])

theorem Step.of_same {s s' : St} (h1 : s'.scopes = s.scopes) (h2 : s'.fns = s.fns) (h3 : s'.linear = s.linear)
    (h4 : s'.suspended = s.suspended) (h5 : s'.lazies = s.lazies) : Step s s' :=
  Step.of_linear h1 h2 (fun w => h3 ▸ w.linear) (fun w => h4 ▸ w.suspended) h5

/-- What a generator run may do to the function table: old entries keep their captured
stack and parent; every entry afterwards has the captured stack of an old entry or one
drawn from the live stack the generator was started with. -/
structure FnsExt (live : List (Option Nat)) (fns fns' : List FnObj) : Prop where
  len : fns.length ≤ fns'.length
  old : ∀ i, i < fns.length →
    (fns'.getD i {}).closing = (fns.getD i {}).closing ∧ (fns'.getD i {}).parent = (fns.getD i {}).parent
  all : ∀ f ∈ fns', (∃ f0 ∈ fns, f.closing = f0.closing) ∨ (∀ id ∈ idsOf f.closing, id ∈ idsOf live)

theorem FnsExt.refl (live : List (Option Nat)) (fns : List FnObj) : FnsExt live fns fns :=
  ⟨Nat.le_refl _, fun _ _ => ⟨rfl, rfl⟩, fun f hf => Or.inl ⟨f, hf, rfl⟩⟩

theorem FnsExt.trans {live : List (Option Nat)} {a b c : List FnObj} (h1 : FnsExt live a b) (h2 : FnsExt live b c) :
    FnsExt live a c where
  len := Nat.le_trans h1.len h2.len
  old := fun i hi =>
    let p := h1.old i hi
    let q := h2.old i (Nat.lt_of_lt_of_le hi h1.len)
    ⟨q.1.trans p.1, q.2.trans p.2⟩
  all := fun f hf => by
    rcases h2.all f hf with ⟨f0, hf0, he⟩ | h
    · rcases h1.all f0 hf0 with ⟨f1, hf1, he1⟩ | h
      · exact Or.inl ⟨f1, hf1, he.trans he1⟩
      · exact Or.inr (by rw [he]; exact h)
    · exact Or.inr h

theorem FnsExt.set (live : List (Option Nat)) (fns : List FnObj) (j : Nat) (mf : FnObj)
    (hc : mf.closing = (fns.getD j {}).closing) (hp : mf.parent = (fns.getD j {}).parent) :
    FnsExt live fns (fns.set j mf) where
  len := by simp
  old := fun i _ => ⟨getD_set_proj (·.closing) fns j i mf {} hc, getD_set_proj (·.parent) fns j i mf {} hp⟩
  all := fun f hf => by
    rcases List.mem_or_eq_of_mem_set hf with hf | rfl
    · exact .inl ⟨f, hf, rfl⟩
    · rcases getD_mem_or_default fns j {} with hm | hd
      · exact .inl ⟨_, hm, hc⟩
      · exact .inr (by rw [hc, hd]; intro id hid; cases hid)

theorem FnsExt.append (live : List (Option Nat)) (fns : List FnObj) (f : FnObj)
    (h : ∀ id ∈ idsOf f.closing, id ∈ idsOf live) : FnsExt live fns (fns ++ [f]) where
  len := by simp
  old := fun i hi => by simp only [getD_append_lt fns [f] i {} hi, and_self]
  all := fun g hg => by
    rcases List.mem_append.mp hg with hg | hg
    · exact .inl ⟨g, hg, rfl⟩
    · cases List.mem_singleton.mp hg
      exact .inr h

/-- the function table extended over a stack whose ids are in bounds (the live stack, for the generator and
`CreateClosure`; a thunk's stack, for `Force`), everything else as it was -/
theorem Step.of_fnsExt {s s' : St} {stk : List (Option Nat)} (hsc : s'.scopes = s.scopes) (hlin : s'.linear = s.linear)
    (hsus : s'.suspended = s.suspended) (hlz : s'.lazies = s.lazies) (h : FnsExt stk s.fns s'.fns)
    (hb : WF s → ∀ id ∈ idsOf stk, id < s.scopes.length) : Step s s' :=
  Step.of_scopes_same hsc h.len h.old (fun w => hlin ▸ w.linear) (fun w => hsus ▸ w.suspended)
    (fun w f hf id hid => by
      rcases h.all f hf with ⟨f0, hf0, he⟩ | h
      · exact w.closing f0 hf0 id (he ▸ hid)
      · exact hb w id (h id hid))
    (fun w => hlz ▸ w.lazies) (Nat.le_of_eq (congrArg _ hlz.symm)) (fun i _ => by rw [hlz])

theorem Step.of_addFn {s s' : St} (f : FnObj) (hsc : s'.scopes = s.scopes) (hf : s'.fns = s.fns ++ [f])
    (hlin : s'.linear = s.linear) (hsus : s'.suspended = s.suspended) (hlz : s'.lazies = s.lazies)
    (hb : WF s → ∀ id ∈ idsOf f.closing, id < s.scopes.length) : Step s s' :=
  Step.of_fnsExt hsc hlin hsus hlz (hf ▸ FnsExt.append f.closing s.fns f fun _ h => h) hb

theorem Step.of_addLazy {s s' : St} (z : LazyObj) (hsc : s'.scopes = s.scopes) (hf : s'.fns = s.fns)
    (hlin : s'.linear = s.linear) (hsus : s'.suspended = s.suspended) (hlz : s'.lazies = s.lazies ++ [z])
    (hb : WF s → ∀ id ∈ idsOf z.stack, id < s.scopes.length) : Step s s' := by
  refine Step.of_scopes_same hsc (by simp [hf]) (fun i _ => by simp [fnOf, hf]) (fun w => by rw [hlin]; exact w.linear)
    (fun w => by rw [hsus]; exact w.suspended) (fun w => by rw [hf]; exact w.closing) (fun w y hy => ?_)
    (by simp [hlz]) (fun i hi => by rw [hlz, List.getElem?_append_left hi])
  rw [hlz] at hy
  rcases List.mem_append.mp hy with hy | hy
  · exact w.lazies y hy
  · simp only [List.mem_singleton] at hy
    subst hy
    exact hb w

/-- A variable is (re)bound in a scope cell: the cell keeps its place, its boundary flag and
its template. -/
theorem Step.of_setVar (s : St) (id : Nat) (x : String) (v : Val) : Step s (setVarSt s id x v) := by
  refine ⟨⟨by simp [setVarSt], fun j _ => ?_, Nat.le_refl _, fun i _ => ⟨rfl, rfl⟩, Nat.le_refl _, fun _ _ => rfl⟩,
    fun w => ⟨?_, ?_, ?_, ?_⟩⟩
  · exact scopeOf_set_flags s id j _ rfl rfl
  · simpa [setVarSt] using w.linear
  · simpa [setVarSt] using w.suspended
  · simpa [setVarSt] using w.closing
  · simpa [setVarSt] using w.lazies

/-- `AddScopeInstr` / `AddFuncScopeInstr`: a new cell at the end of the table, its id pushed
on the live stack. -/
theorem Step.of_addScope {s s' : St} (sc : Scope) (hsc : s'.scopes = s.scopes ++ [sc]) (hf : s'.fns = s.fns)
    (hlin : s'.linear = some s.scopes.length :: s.linear) (hsus : s'.suspended = s.suspended)
    (hlz : s'.lazies = s.lazies) : Step s s' := by
  refine ⟨⟨by simp [hsc], fun j hj => ?_, by simp [hf], fun i _ => by simp [fnOf, hf], by simp [hlz],
    fun i _ => by rw [hlz]⟩, fun w => ⟨?_, ?_, ?_, ?_⟩⟩
  · simp only [scopeOf, hsc, getD_append_lt s.scopes [sc] j {} hj, and_self]
  · intro id hid
    rw [hlin] at hid
    simp only [idsOf, List.mem_cons] at hid
    rw [hsc]
    rcases hid with rfl | hid
    · simp
    · have := w.linear id hid
      simp; omega
  · intro l hl id hid
    rw [hsus] at hl
    have := w.suspended l hl id hid
    rw [hsc]; simp; omega
  · intro f hf' id hid
    rw [hf] at hf'
    have := w.closing f hf' id hid
    rw [hsc]; simp; omega
  · intro z hz id hid
    rw [hlz] at hz
    have := w.lazies z hz id hid
    rw [hsc]; simp; omega

theorem safe_capture : Safe capture := fun s => Step.refl s

theorem safe_popScope : Safe popScope := by
  refine Moves.get_bind fun s => ?_
  split
  · exact Step.refl s
  · rename_i x rest h
    simp only [run_set]
    refine Step.of_linear rfl rfl (fun w id hid => w.linear id ?_) (fun w => w.suspended) rfl
    rw [h]
    exact idsOf_sub (fun _ => List.mem_cons_of_mem _) id hid

theorem safe_setInScope (id : Nat) (x : String) (v : Val) : Safe (setInScope id x v) :=
  fun s => Step.of_setVar s id x v

theorem safe_restore (c : CtlState) : Safe (restore c) := by
  intro s
  simp only [restore, run_modify]
  by_cases hgt : s.suspended.length > c.susp
  · simp only [hgt, if_true]
    refine Step.of_scopes_same rfl (Nat.le_refl _) (fun i _ => ⟨rfl, rfl⟩) (fun w id hid => ?_) (fun w l hl => ?_)
      (fun w => w.closing) (fun w => w.lazies)
    · have hid' := idsOf_truncate_sub _ _ id hid
      rcases getD_mem_or_default s.suspended (s.suspended.length - c.susp - 1) [] with hm | hd
      · exact w.suspended _ hm id hid'
      · rw [hd] at hid'
        simp [idsOf] at hid'
    · exact w.suspended l (List.mem_of_mem_drop hl)
  · simp only [hgt, if_false]
    refine Step.of_scopes_same rfl (Nat.le_refl _) (fun i _ => ⟨rfl, rfl⟩) (fun w id hid => ?_) (fun w => w.suspended)
      (fun w => w.closing) (fun w => w.lazies)
    exact w.linear id (idsOf_truncate_sub _ _ id hid)

def GenOK {α} (g : G α) : Prop :=
  ∀ gs a gs', g.run gs = .ok (a, gs') → gs'.live = gs.live ∧ FnsExt gs.live gs.fns gs'.fns

theorem safe_runGen {α} (g : G α) (hg : GenOK g) : Safe (runGen g) := by
  refine Moves.get_bind fun s => ?_
  dsimp only
  split
  · rename_i a gs' hrun
    simp only [run_bind, run_set, run_pure]
    exact Step.of_fnsExt rfl rfl rfl rfl (hg _ _ _ hrun).2 fun w => w.linear
  · exact Step.refl s

theorem safe_mkFunction_at (s : St) (name : String) (code : List Instr) (closing : List (Option Nat)) (parent : Option Nat)
    (hb : WF s → ∀ id ∈ idsOf closing, id < s.scopes.length) :
    Step s ((mkFunction name code closing parent).run s).2 := by
  simp only [mkFunction, run_bind, run_get, run_set, run_pure]
  exact Step.of_addFn { name, code, closing, parent } rfl rfl rfl rfl rfl hb

structure AllSafe (fuel : Nat) : Prop where
  run : Safe (run fuel)
  runLoop : ∀ st, Safe (runLoop fuel st)
  exec : ∀ i, Safe (exec fuel i)
  evalCallExpr : ∀ e, Safe (evalCallExpr fuel e)
  nested : ∀ f st, Safe (nested fuel f st)
  prepareArgs : ∀ f i es, Safe (prepareArgs fuel f i es)
  callResolved : ∀ f args, Safe (callResolved fuel f args)
  callUser : ∀ name n, Safe (callUser fuel name n)
  builtin : ∀ name args, Safe (builtin fuel name args)
  applyFn : ∀ f args, Safe (applyFn fuel f args)
  mapArr : ∀ f r i n, Safe (mapArr fuel f r i n)
  mapList : ∀ f l, Safe (mapList fuel f l)
  forceLazy : ∀ id, Safe (forceLazy fuel id)

/-- the `guarded` wrapper of `CallResolved`, and the same shape elsewhere: run `m` from the
current state, keep its state, continue on its result. -/
theorem step_run_set {α β} (m : M α) (hm : Safe m) (k : Except Fault α → M β) (hk : ∀ r, Safe (k r)) (s : St) :
    Step s ((do set (m.run s).2; k (m.run s).1 : M β).run s).2 :=
  Step.pre.run_set hm hk s

def LazyHas (id : Nat) (stk : List (Option Nat)) (s : St) : Prop := (s.lazies[id]?).map (·.stack) = some stk

theorem LazyHas.lt {id : Nat} {stk : List (Option Nat)} {s : St} (h : LazyHas id stk s) : id < s.lazies.length := by
  unfold LazyHas at h
  cases hg : s.lazies[id]? with
  | none => simp [hg] at h
  | some z => exact (List.getElem?_eq_some_iff.mp hg).1

theorem LazyHas.stable {id : Nat} {stk : List (Option Nat)} {s s' : St} (h : LazyHas id stk s) (e : Ext s s') :
    LazyHas id stk s' := by
  unfold LazyHas
  rw [e.lazyStack id h.lt]; exact h

theorem LazyHas.bounded {id : Nat} {stk : List (Option Nat)} {s : St} (h : LazyHas id stk s) (w : WF s) :
    ∀ j ∈ idsOf stk, j < s.scopes.length := by
  unfold LazyHas at h
  cases hg : s.lazies[id]? with
  | none => simp [hg] at h
  | some z =>
    simp only [hg, Option.map_some, Option.some.injEq] at h
    rw [← h]
    exact w.lazies z (List.mem_of_getElem? hg)

/-! `Force` reads the thunk in the state it starts in and installs the thunk's scope stack several steps later (after
compiling and registering the helper function): that the thunk still has that stack (`LazyHas.stable`), and that
its ids are in bounds (`LazyHas.bounded`), is what the two moves of `VM.force_moves` need. -/

theorem LazyHas.finish {id : Nat} {lz : LazyObj} {s : St} (hp : LazyHas id lz.stack s) (v : Val) :
    Step s ((C16.forceFinish id lz v).run s).2 := by
  simp only [C16.forceFinish, run_bind, run_modify, run_pure]
  refine Step.of_scopes_same rfl (Nat.le_refl _) (fun _ _ => ⟨rfl, rfl⟩) (fun w => w.linear) (fun w => w.suspended)
    (fun w => w.closing) (fun w z hz => ?_) (by simp) (fun i hi => ?_)
  · rcases List.mem_or_eq_of_mem_set hz with hz | hz
    · exact w.lazies z hz
    · subst hz; exact hp.bounded w
  · by_cases hi' : i = id
    · subst hi'
      have hlt := hp.lt
      unfold LazyHas at hp
      simp [List.getElem?_set_self hlt, hp]
    · simp [List.getElem?_set_ne (Ne.symm hi')]

/-- the helper registered over the thunk's stack, that stack installed, the live one set aside -/
theorem LazyHas.enter {id : Nat} {lz : LazyObj} {s : St} (hp : LazyHas id lz.stack s) (o : FnObj) (ho : o.closing = lz.stack) :
    Step s (thunkSt s o lz.stack (s.linear :: s.suspended)) := by
  have a : Step s { s with fns := s.fns ++ [o] } := Step.of_addFn o rfl rfl rfl rfl rfl fun w => ho ▸ hp.bounded w
  refine a.trans (Step.of_scopes_same rfl (Nat.le_refl _) (fun _ _ => ⟨rfl, rfl⟩) (fun w => (hp.stable a.1).bounded w)
    (fun w l hl => ?_) (fun w => w.closing) (fun w => w.lazies) (Nat.le_refl _) (fun _ _ => rfl))
  rcases List.mem_cons.mp hl with rfl | hl
  · exact w.linear
  · exact w.suspended l hl

end ZygoVerif.Scope
