/-
C02, execution half — function values: the two evaluators number closures differently.

The VM names a closure by its index in the function table (`createClosure` pushes
`.fn s.fns.length`; the table also holds templates and the helper functions of operand
evaluation), the reference evaluator by its index in `clos`. So script values agree only up to a
map `m` from VM function ids to reference closure ids: `tr m β μ v` is the reference's version of
the VM value `v` (function ids mapped, through pairs; array references are the same on both
sides, the heaps correspond element by element: `trHeap m β μ`).

Nothing observable depends on the id: printing shows `fn`, `compareVals` refuses functions,
the typing rule of `BindSymbol` ignores them — every first-order builtin commutes with `tr m β μ`
(`prim_tr`).
-/
import ZygoVerif.Model.Prim
namespace ZygoVerif.Sim
open ZygoVerif.Core

def tr (m : Nat → Nat) (β : String → String) (μ : Nat → Nat) : Val → Val
  | .nil => .nil
  | .bool b => .bool b
  | .int v => .int v
  | .str s => .str s
  | .pair a b => .pair (tr m β μ a) (tr m β μ b)
  | .arr r => .arr r
  | .fn id => .fn (m id)
  | .builtin n => .builtin (β n)
  | .lazy id => .lazy id
  | .mark l => .mark (μ l)
  | .sym x => .sym x

def trHeap (m : Nat → Nat) (β : String → String) (μ : Nat → Nat) (h : DataHeap) : DataHeap :=
  { arrs := h.arrs.map (List.map (tr m β μ)) }

@[simp] theorem trHeap_get (m : Nat → Nat) (β : String → String) (μ : Nat → Nat) (h : DataHeap) (r : Nat) : (trHeap m β μ h).get r = (h.get r).map (tr m β μ) := by
  unfold trHeap DataHeap.get
  simp only [List.getD_eq_getElem?_getD, List.getElem?_map]
  cases h.arrs[r]? <;> rfl

theorem trHeap_alloc (m : Nat → Nat) (β : String → String) (μ : Nat → Nat) (h : DataHeap) (xs : List Val) :
    (trHeap m β μ h).alloc (xs.map (tr m β μ)) = (tr m β μ (h.alloc xs).1, trHeap m β μ (h.alloc xs).2) := by
  simp [trHeap, DataHeap.alloc, tr]

theorem trHeap_set (m : Nat → Nat) (β : String → String) (μ : Nat → Nat) (h : DataHeap) (r : Nat) (xs : List Val) :
    (trHeap m β μ h).set r (xs.map (tr m β μ)) = trHeap m β μ (h.set r xs) := by
  simp [trHeap, DataHeap.set, List.map_set]

@[simp] theorem truthy_tr (m : Nat → Nat) (β : String → String) (μ : Nat → Nat) (v : Val) : truthy (tr m β μ v) = truthy v := by cases v <;> rfl

@[simp] theorem isFunction_tr (m : Nat → Nat) (β : String → String) (μ : Nat → Nat) (v : Val) : isFunction (tr m β μ v) = isFunction v := by cases v <;> rfl

theorem tr_mkList (m : Nat → Nat) (β : String → String) (μ : Nat → Nat) : ∀ (xs : List Val), mkList (xs.map (tr m β μ)) = tr m β μ (mkList xs)
  | [] => rfl
  | x :: xs => by simp only [List.map_cons, mkList, tr, tr_mkList m β μ xs]

theorem listToArray_tr (m : Nat → Nat) (β : String → String) (μ : Nat → Nat) : ∀ (v : Val), listToArray (tr m β μ v) = (listToArray v).map (List.map (tr m β μ))
  | .nil => rfl
  | .pair a t => by
    simp only [tr, listToArray, listToArray_tr m β μ t]
    cases listToArray t <;> rfl
  | .bool _ | .int _ | .str _ | .arr _ | .fn _ | .builtin _ | .lazy _ | .mark _ | .sym _ => rfl

theorem allInts_tr (m : Nat → Nat) (β : String → String) (μ : Nat → Nat) : ∀ (xs : List Val), allInts (xs.map (tr m β μ)) = allInts xs
  | [] => rfl
  | x :: xs => by
    cases x <;> simp only [List.map_cons, tr, allInts, allInts_tr m β μ xs]

theorem compareVals_tr (m : Nat → Nat) (β : String → String) (μ : Nat → Nat) (a b : Val) : compareVals (tr m β μ a) (tr m β μ b) = compareVals a b := by
  cases a <;> cases b <;> rfl

theorem tyOf_tr (m : Nat → Nat) (β : String → String) (μ : Nat → Nat) (h : DataHeap) (v : Val) : tyOf (trHeap m β μ h) (tr m β μ v) = tyOf h v := by
  cases v <;> simp only [tr, tyOf, trHeap_get]
  rename_i r
  cases h.get r with
  | nil => rfl
  | cons x xs => cases x <;> rfl

theorem rebindOk_tr (m : Nat → Nat) (β : String → String) (μ : Nat → Nat) (h : DataHeap) (a b : Val) :
    rebindOk (trHeap m β μ h) (tr m β μ a) (tr m β μ b) = rebindOk h a b := by
  simp only [rebindOk, tyOf_tr]

mutual
theorem showVal_tr (m : Nat → Nat) (β : String → String) (μ : Nat → Nat) (h : DataHeap) : ∀ (d : Nat) (v : Val), showVal (trHeap m β μ h) d (tr m β μ v) = showVal h d v
  | d, .nil => by simp only [tr, showVal]
  | d, .bool b => by simp only [tr, showVal]
  | d, .int _ => by simp only [tr, showVal]
  | d, .str _ => by simp only [tr, showVal]
  | d, .fn _ => by simp only [tr, showVal]
  | d, .builtin _ => by simp only [tr, showVal]
  | d, .lazy _ => by simp only [tr, showVal]
  | d, .mark _ => by simp only [tr, showVal]
  | d, .sym _ => by simp only [tr, showVal]
  | 0, .arr r => by simp only [tr, showVal]
  | 0, .pair a b => by simp only [tr, showVal]
  | d+1, .arr r => by
    simp only [tr, showVal, trHeap_get]
    rw [showVals_tr m β μ h d (h.get r)]
  | d+1, .pair a b => by
    have := showTail_tr m β μ h d (.pair a b)
    simp only [tr] at this
    simp only [tr, showVal, this]
termination_by d v => (d, sizeOf v, 0)
theorem showVals_tr (m : Nat → Nat) (β : String → String) (μ : Nat → Nat) (h : DataHeap) : ∀ (d : Nat) (xs : List Val),
    showVals (trHeap m β μ h) d (xs.map (tr m β μ)) = showVals h d xs
  | _, [] => by simp only [List.map_nil, showVals]
  | d, x :: xs => by
    simp only [List.map_cons, showVals, showVal_tr m β μ h d x, showVals_tr m β μ h d xs]
termination_by d xs => (d, sizeOf xs, 0)
theorem showTail_tr (m : Nat → Nat) (β : String → String) (μ : Nat → Nat) (h : DataHeap) : ∀ (d : Nat) (v : Val), showTail (trHeap m β μ h) d (tr m β μ v) = showTail h d v
  | d, .pair a b => by
    simp only [tr, showTail, showVal_tr m β μ h d a, showTail_tr m β μ h d b]
  | _, .nil => by simp only [tr, showTail]
  | d, .bool b => by simp only [tr, showTail, showVal]
  | d, .int _ => by simp only [tr, showTail, showVal]
  | d, .str _ => by simp only [tr, showTail, showVal]
  | d, .fn _ => by simp only [tr, showTail, showVal]
  | d, .builtin _ => by simp only [tr, showTail, showVal]
  | d, .lazy _ => by simp only [tr, showTail, showVal]
  | d, .mark _ => by simp only [tr, showTail, showVal]
  | d, .sym _ => by simp only [tr, showTail, showVal]
  | d, .arr r => by
    have := showVal_tr m β μ h d (.arr r)
    simp only [tr] at this
    simp only [tr, showTail, this]
termination_by d v => (d, sizeOf v, 1)
end

theorem pr_tr (m : Nat → Nat) (β : String → String) (μ : Nat → Nat) (h : DataHeap) (v : Val) : pr (trHeap m β μ h) (tr m β μ v) = pr h v := showVal_tr m β μ h _ v

theorem concatLists_tr (m : Nat → Nat) (β : String → String) (μ : Nat → Nat) : ∀ (bs : List Val) (a : Val),
    concatLists (tr m β μ a) (bs.map (tr m β μ)) = (concatLists a bs).map (tr m β μ)
  | [], a => rfl
  | b :: bs, a => by
    simp only [List.map_cons, concatLists, listToArray_tr]
    cases listToArray a with
    | none => rfl
    | some xs =>
      cases listToArray b with
      | none => rfl
      | some ys =>
        simp only [Option.map_some, ← List.map_append, tr_mkList]
        cases hm : mkList (xs ++ ys) with
        | nil => rfl
        | pair p q =>
          have := concatLists_tr m β μ bs (.pair p q)
          simp only [tr] at this ⊢
          exact this
        | _ => exact absurd hm (by cases xs <;> cases ys <;> simp [mkList])

theorem concatArrs_tr (m : Nat → Nat) (β : String → String) (μ : Nat → Nat) (h : DataHeap) : ∀ (rest : List Val) (acc : List Val),
    concatArrs (trHeap m β μ h) (acc.map (tr m β μ)) (rest.map (tr m β μ)) = (concatArrs h acc rest).map (List.map (tr m β μ))
  | [], acc => rfl
  | x :: rest, acc => by
    cases x <;> simp only [List.map_cons, tr, concatArrs, Option.map_none]
    rename_i r
    rw [trHeap_get, ← List.map_append]
    exact concatArrs_tr m β μ h rest _

theorem concatStrs_tr (m : Nat → Nat) (β : String → String) (μ : Nat → Nat) : ∀ (rest : List Val) (acc : String),
    concatStrs acc (rest.map (tr m β μ)) = concatStrs acc rest
  | [], acc => rfl
  | x :: rest, acc => by
    cases x <;> simp only [List.map_cons, tr, concatStrs]
    exact concatStrs_tr m β μ rest _

abbrev trp (m : Nat → Nat) (β : String → String) (μ : Nat → Nat) : Val × DataHeap → Val × DataHeap := fun p => (tr m β μ p.1, trHeap m β μ p.2)

/-- one test of the cascade in `prim`: both sides branch alike -/
theorem ite_map {c : Prop} [Decidable c] {α β : Type} (f : α → β) {a' b' : β} {a b : α}
    (h₁ : a' = f a) (h₂ : b' = f b) : (if c then a' else b') = f (if c then a else b) := by
  split <;> assumption

theorem prim_tr (m : Nat → Nat) (β : String → String) (μ : Nat → Nat) (name : String) (args : List Val) (h : DataHeap) :
    prim name (args.map (tr m β μ)) (trHeap m β μ h) = (prim name args h).map (trp m β μ) := by
  unfold prim
  refine ite_map _ ?arith <| ite_map _ ?mod <| ite_map _ ?cmp <| ite_map _ ?not <| ite_map _ ?cons <| ite_map _ ?first <|
    ite_map _ ?rest <| ite_map _ ?second <| ite_map _ ?list <| ite_map _ ?array <| ite_map _ ?len <| ite_map _ ?append <|
    ite_map _ ?concat <| ite_map _ ?aget <| ite_map _ ?aset rfl
  case arith =>
    rcases args with _ | ⟨x, _ | ⟨y, rest⟩⟩
    · rfl
    · simp only [List.map_cons, List.map_nil]
      refine ite_map _ ?_ (ite_map _ rfl rfl)
      cases x <;> rfl
    · have := allInts_tr m β μ (x :: y :: rest)
      simp only [List.map_cons] at this ⊢
      rw [this]
      cases allInts (x :: y :: rest) with
      | none => rfl
      | some l => cases l <;> rfl
  case mod =>
    rcases args with _ | ⟨x, _ | ⟨y, _ | ⟨z, rest⟩⟩⟩
    · rfl
    · cases x <;> rfl
    · cases x <;> (try rfl)
      cases y <;> simp only [List.map_cons, List.map_nil, tr] <;> (try rfl)
      split <;> rfl
    · cases x <;> (try rfl)
      cases y <;> rfl
  case cmp =>
    rcases args with _ | ⟨x, _ | ⟨y, _ | ⟨z, rest⟩⟩⟩
    · rfl
    · rfl
    · simp only [List.map_cons, List.map_nil, compareVals_tr]
      cases compareVals x y <;> rfl
    · rfl
  case not =>
    rcases args with _ | ⟨x, _ | ⟨y, rest⟩⟩
    · rfl
    · simp only [List.map_cons, List.map_nil, truthy_tr]; rfl
    · rfl
  case cons =>
    rcases args with _ | ⟨x, _ | ⟨y, _ | ⟨z, rest⟩⟩⟩ <;> rfl
  case first =>
    rcases args with _ | ⟨x, _ | ⟨y, rest⟩⟩
    · rfl
    · cases x <;> simp only [List.map_cons, List.map_nil, tr] <;> (try rfl)
      rename_i r
      simp only [trHeap_get, List.head?_map]
      cases (h.get r).head? <;> rfl
    · cases x <;> rfl
  case rest =>
    rcases args with _ | ⟨x, _ | ⟨y, rest⟩⟩
    · rfl
    · cases x <;> simp only [List.map_cons, List.map_nil, tr] <;> (try rfl)
      rename_i r
      simp only [trHeap_get]
      cases hg : h.get r with
      | nil => rfl
      | cons a t =>
        simp only [List.map_cons, Option.map_some]
        rw [trHeap_alloc]
    · cases x <;> rfl
  case second =>
    rcases args with _ | ⟨x, _ | ⟨y, rest⟩⟩
    · rfl
    · cases x <;> simp only [List.map_cons, List.map_nil, tr] <;> (try rfl)
      · rename_i a b
        cases b <;> rfl
      · rename_i r
        simp only [trHeap_get]
        rcases h.get r with _ | ⟨a, _ | ⟨b, t⟩⟩ <;> rfl
    · cases x <;> (try rfl)
      rename_i a b
      cases b <;> rfl
  case list => simp only [tr_mkList]; rfl
  case array => simp only [trHeap_alloc]; rfl
  case len =>
    rcases args with _ | ⟨x, _ | ⟨y, rest⟩⟩
    · rfl
    · cases x <;> simp only [List.map_cons, List.map_nil, tr] <;> (try rfl)
      · rename_i a b
        have := listToArray_tr m β μ (.pair a b)
        simp only [tr] at this
        rw [this]
        cases listToArray (.pair a b) with
        | none => rfl
        | some l => simp only [Option.map_some, List.length_map]; rfl
      · rename_i r
        simp only [trHeap_get, List.length_map]; rfl
    · cases x <;> rfl
  case append =>
    rcases args with _ | ⟨x, _ | ⟨y, _ | ⟨z, rest⟩⟩⟩
    · rfl
    · cases x <;> rfl
    · cases x <;> simp only [List.map_cons, List.map_nil, tr] <;> (try rfl)
      rename_i r
      simp only [trHeap_get]
      have := trHeap_alloc m β μ h (h.get r ++ [y])
      simp only [List.map_append, List.map_cons, List.map_nil] at this
      rw [this]; rfl
    · cases x <;> rfl
  case concat =>
    rcases args with _ | ⟨x, rest⟩
    · rfl
    · cases x <;> simp only [List.map_cons, tr] <;> (try rfl)
      · rename_i s0
        rw [concatStrs_tr]
        cases concatStrs s0 rest <;> rfl
      · rename_i a b
        cases rest with
        | nil => rfl
        | cons y ys =>
          have := concatLists_tr m β μ (y :: ys) (.pair a b)
          simp only [tr, List.map_cons] at this
          simp only [List.map_cons]
          rw [this]
          cases concatLists (.pair a b) (y :: ys) <;> rfl
      · rename_i r
        simp only [trHeap_get]
        rw [concatArrs_tr]
        cases concatArrs h (h.get r) rest with
        | none => rfl
        | some l => simp only [Option.map_some, trHeap_alloc]
  case aget =>
    rcases args with _ | ⟨x, _ | ⟨y, _ | ⟨z, _ | ⟨w, rest⟩⟩⟩⟩
    · rfl
    · cases x <;> rfl
    · cases x <;> (try rfl)
      cases y <;> simp only [List.map_cons, List.map_nil, tr] <;> (try rfl)
      rename_i r i
      simp only [trHeap_get, List.getElem?_map]
      cases (h.get r)[i.toInt.toNat]? with
      | none => rfl
      | some e =>
        simp only [Option.map_some, Option.filter]
        split <;> rfl
    · cases x <;> (try rfl)
      cases y <;> simp only [List.map_cons, List.map_nil, tr] <;> (try rfl)
      rename_i r i
      simp only [trHeap_get, List.getElem?_map]
      cases (h.get r)[i.toInt.toNat]? with
      | none => rfl
      | some e =>
        simp only [Option.map_some, Option.filter]
        split <;> rfl
    · cases x <;> (try rfl)
      cases y <;> rfl
  case aset =>
    rcases args with _ | ⟨x, _ | ⟨y, _ | ⟨z, _ | ⟨w, rest⟩⟩⟩⟩
    · rfl
    · cases x <;> rfl
    · cases x <;> (try rfl)
      cases y <;> rfl
    · cases x <;> (try rfl)
      cases y <;> simp only [List.map_cons, List.map_nil, tr] <;> (try rfl)
      rename_i r i
      simp only [trHeap_get, List.length_map]
      split
      · simp only [Option.map_some, ← List.map_set, trHeap_set]; rfl
      · rfl
    · cases x <;> (try rfl)
      cases y <;> rfl

structure Agree (P : Nat → Prop) (B : String → Prop) (M : Nat → Prop) (m m' : Nat → Nat) (β β' : String → String)
    (μ μ' : Nat → Nat) : Prop where
  fn : ∀ id, P id → m id = m' id
  bi : ∀ n, B n → β n = β' n
  mark : ∀ l, M l → μ l = μ' l

/-- `v` mentions only function ids in `P`, builtins in `B`, marks in `M` — said through the
translation: translations that agree there translate `v` alike. So whatever commutes with every
translation (`prim_tr`) invents no function id, no builtin, no mark. -/
def ValIn (P : Nat → Prop) (B : String → Prop) (M : Nat → Prop) (v : Val) : Prop :=
  ∀ m m' β β' μ μ', Agree P B M m m' β β' μ μ' → tr m β μ v = tr m' β' μ' v

def HeapIn (P : Nat → Prop) (B : String → Prop) (M : Nat → Prop) (h : DataHeap) : Prop :=
  ∀ m m' β β' μ μ', Agree P B M m m' β β' μ μ' → trHeap m β μ h = trHeap m' β' μ' h

theorem Agree.mono {P Q : Nat → Prop} {B M m m' β β' μ μ'} (h : Agree Q B M m m' β β' μ μ') (hpq : ∀ id, P id → Q id) :
    Agree P B M m m' β β' μ μ' := ⟨fun id hid => h.fn id (hpq id hid), h.bi, h.mark⟩

theorem HeapIn.mono {P Q : Nat → Prop} {B M} {h : DataHeap} (hh : HeapIn P B M h) (hpq : ∀ id, P id → Q id) :
    HeapIn Q B M h :=
  fun m m' β β' μ μ' hm => hh m m' β β' μ μ' (hm.mono hpq)

theorem ValIn.imp {P Q : Nat → Prop} {B B' : String → Prop} {M M' : Nat → Prop} {v : Val} (h : ValIn P B M v)
    (hp : ∀ id, P id → Q id) (hb : ∀ n, B n → B' n) (hm : ∀ l, M l → M' l) : ValIn Q B' M' v :=
  fun m m' β β' μ μ' ha => h m m' β β' μ μ' ⟨fun id hid => ha.fn id (hp id hid), fun n hn => ha.bi n (hb n hn),
    fun l hl => ha.mark l (hm l hl)⟩

theorem ValIn.mono {P Q : Nat → Prop} {B M} {v : Val} (h : ValIn P B M v) (hpq : ∀ id, P id → Q id) : ValIn Q B M v :=
  h.imp hpq (fun _ => id) (fun _ => id)

theorem ValIn.fn {P B M} {k : Nat} (h : ValIn P B M (.fn k)) : P k := by
  classical
  have := h (fun _ => 0) (fun id => if P id then 0 else 1) id id id id
    ⟨fun id hid => by simp [hid], fun _ _ => rfl, fun _ _ => rfl⟩
  simp only [tr, Val.fn.injEq] at this
  by_cases hk : P k
  · exact hk
  · simp [hk] at this

theorem ValIn.builtin {P B M} {n : String} (h : ValIn P B M (.builtin n)) : B n := by
  classical
  have := h id id (fun _ => "") (fun x => if B x then "" else "x") id id
    ⟨fun _ _ => rfl, fun x hx => by simp [hx], fun _ _ => rfl⟩
  simp only [tr, Val.builtin.injEq] at this
  by_cases hk : B n
  · exact hk
  · simp [hk] at this

theorem ValIn.mark {P B M} {l : Nat} (h : ValIn P B M (.mark l)) : M l := by
  classical
  have := h id id id id (fun _ => 0) (fun x => if M x then 0 else 1)
    ⟨fun _ _ => rfl, fun _ _ => rfl, fun x hx => by simp [hx]⟩
  simp only [tr, Val.mark.injEq] at this
  by_cases hk : M l
  · exact hk
  · simp [hk] at this

theorem valIn_fn {P B M} {k : Nat} (h : P k) : ValIn P B M (.fn k) :=
  fun m m' β β' μ μ' hm => by simp only [tr, hm.fn k h]

theorem valIn_builtin {P B M} {n : String} (h : B n) : ValIn P B M (.builtin n) :=
  fun m m' β β' μ μ' hm => by simp only [tr, hm.bi n h]

theorem ValIn.pair {P B M} {a b : Val} (h : ValIn P B M (.pair a b)) : ValIn P B M a ∧ ValIn P B M b :=
  ⟨fun m m' β β' μ μ' hm => by have := h m m' β β' μ μ' hm; simp only [tr, Val.pair.injEq] at this; exact this.1,
   fun m m' β β' μ μ' hm => by have := h m m' β β' μ μ' hm; simp only [tr, Val.pair.injEq] at this; exact this.2⟩

theorem valIn_pair {P B M} {a b : Val} (ha : ValIn P B M a) (hb : ValIn P B M b) : ValIn P B M (.pair a b) :=
  fun m m' β β' μ μ' hm => by simp only [tr, ha m m' β β' μ μ' hm, hb m m' β β' μ μ' hm]

theorem valIn_of_const {P B M} {v : Val} (h : ∀ m β μ, tr m β μ v = v) : ValIn P B M v :=
  fun m m' β β' μ μ' _ => by rw [h m β μ, h m' β' μ']

theorem HeapIn.get {P B M} {h : DataHeap} (hh : HeapIn P B M h) (r : Nat) : ∀ x ∈ h.get r, ValIn P B M x := by
  intro x hx m m' β β' μ μ' hm
  have := congrArg (fun h' => DataHeap.get h' r) (hh m m' β β' μ μ' hm)
  simp only [trHeap_get] at this
  exact List.map_inj_left.mp this x hx

theorem prim_valIn {P B M} (name : String) (args : List Val) (h : DataHeap) (v : Val) (h' : DataHeap)
    (hp : prim name args h = some (v, h')) (ha : ∀ a ∈ args, ValIn P B M a) (hh : HeapIn P B M h) :
    ValIn P B M v ∧ HeapIn P B M h' := by
  have key : ∀ m m' β β' μ μ', Agree P B M m m' β β' μ μ' →
      tr m β μ v = tr m' β' μ' v ∧ trHeap m β μ h' = trHeap m' β' μ' h' := by
    intro m m' β β' μ μ' hm
    have e1 : args.map (tr m β μ) = args.map (tr m' β' μ') :=
      List.map_inj_left.mpr (fun a ha' => ha a ha' m m' β β' μ μ' hm)
    have e2 := hh m m' β β' μ μ' hm
    have p1 := prim_tr m β μ name args h
    have p2 := prim_tr m' β' μ' name args h
    rw [e1, e2, p2, hp] at p1
    simp only [Option.map_some, Option.some.injEq, Prod.mk.injEq] at p1
    exact ⟨p1.1.symm, p1.2.symm⟩
  exact ⟨fun m m' β β' μ μ' hm => (key m m' β β' μ μ' hm).1, fun m m' β β' μ μ' hm => (key m m' β β' μ μ' hm).2⟩

theorem heapIn_alloc {P B M} {h : DataHeap} (hh : HeapIn P B M h) (xs : List Val) (hx : ∀ x ∈ xs, ValIn P B M x) :
    HeapIn P B M (h.alloc xs).2 := by
  intro m m' β β' μ μ' hm
  have e1 : xs.map (tr m β μ) = xs.map (tr m' β' μ') :=
    List.map_inj_left.mpr (fun a ha' => hx a ha' m m' β β' μ μ' hm)
  have a1 := trHeap_alloc m β μ h xs
  have a2 := trHeap_alloc m' β' μ' h xs
  rw [e1, hh m m' β β' μ μ' hm, a2] at a1
  exact (Prod.mk.inj a1).2.symm

end ZygoVerif.Sim
