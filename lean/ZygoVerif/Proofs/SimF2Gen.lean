/-
C02, execution half — F2: the generator on the fragment `Ff`.

`fn` and `defn` register a template (`allocTemplate`), compile the body, complete the template
(`finishTemplate`); everything else leaves the function table alone. `Ff`, `Fx` and `Fz` lie in `Cp`
(Proofs/GenTotal.lean), so `compile` succeeds on them; that its code is never empty and the tables
only grow (`KeepFns`) holds of every run (Proofs/GenFacts.lean).
-/
import ZygoVerif.Proofs.SimF2Env
namespace ZygoVerif.Sim
open ZygoVerif.Core ZygoVerif.VM

theorem compile_defn_eq (isFn : Nat → Bool) (c : Ctx) (name : String) (ps : List String) (rest : Option String)
    (body : List Expr) (gs g₂ : GS) (b : List Instr) (tl : Bool)
    (hb : (compileBegin isFn (Bal.bodyCtx c gs name (!rebindsOwnName name ps rest body)) body).run (Bal.allocGs isFn gs name ps rest)
      = .ok ((b, tl), g₂)) :
    (compile isFn c (.defn name ps rest body)).run gs =
      .ok (([.createClosure gs.fns.length, .popStackPutEnv name, .push .nil], c.tail), Bal.finishGs gs.fns.length b g₂) :=
  Bal.compile_defn_ok.mpr ⟨_, _, hb, rfl⟩

theorem compile_fn_eq (isFn : Nat → Bool) (c : Ctx) (ps : List String) (rest : Option String) (body : List Expr) (gs g₂ : GS)
    (b : List Instr) (tl : Bool)
    (hb : (compileBegin isFn (Bal.bodyCtx c gs "" true) body).run (Bal.allocGs isFn gs "" ps rest) = .ok ((b, tl), g₂)) :
    (compile isFn c (.fn ps rest body)).run gs =
      .ok (([.createClosure gs.fns.length], c.tail), Bal.finishGs gs.fns.length b g₂) :=
  Bal.compile_fn_ok.mpr ⟨_, _, hb, rfl⟩

theorem tmplName_of_ne {gs : GS} {name : String} (h : name ≠ "") : Bal.tmplName gs name = name := by
  simp [Bal.tmplName, h]

theorem finishGs_tmpl (isFn : Nat → Bool) (gs g₂ : GS) (name : String) (ps : List String) (rest : Option String) (b : List Instr)
    (hk : KeepFns (Bal.allocGs isFn gs name ps rest) g₂) :
    (Bal.finishGs gs.fns.length b g₂).fns.getD gs.fns.length {}
      = { Bal.tmplOf isFn gs name ps rest with code := fnCode gs.fns.length (ps ++ rest.toList) b } := by
  have hl : gs.fns.length < g₂.fns.length := by have := hk.len; simp [Bal.allocGs] at this; omega
  have h : g₂.fns.getD gs.fns.length {} = Bal.tmplOf isFn gs name ps rest := by
    rw [hk.fns gs.fns.length (by simp [Bal.allocGs])]
    simp [Bal.allocGs, List.getD_eq_getElem?_getD]
  simp only [Bal.finishGs, List.getD_eq_getElem?_getD, List.getElem?_set_self hl, Option.getD_some]
  rw [← List.getD_eq_getElem?_getD, h]
  rfl

theorem finishGs_getD_ne (g₂ : GS) (t t' : Nat) (b : List Instr) (h : t' ≠ t) :
    (Bal.finishGs t b g₂).fns.getD t' {} = g₂.fns.getD t' {} := by
  simp only [Bal.finishGs, List.getD_eq_getElem?_getD]
  rw [List.getElem?_set_ne (fun e => h e.symm)]

theorem bodyCtx_funcname (c : Ctx) (gs : GS) (name : String) (st : Bool) : FnameOk name (Bal.bodyCtx c gs name st) := by
  cases st with
  | false => exact Or.inr (Or.inl rfl)
  | true =>
    by_cases hn : name = ""
    · subst hn; exact Or.inr (Or.inr ⟨gs.fns.length, rfl⟩)
    · exact Or.inl (by simp [Bal.bodyCtx, tmplName_of_ne hn])

theorem newClosing_single (isFn : Nat → Bool) : newClosing isFn [some 0] = [some 0] := by
  unfold newClosing
  simp only [newClosing.go]
  split <;> simp

theorem ff_call_ne {self h : String} {c : Ctx} (hc : FnameOk self c)
    (h1 : (h != self) = true) (h2 : (h != "") = true) (h3 : okHead h = true) : (h == c.funcname) = false := by
  rcases hc with hc | hc | ⟨t, hc⟩ <;> rw [hc]
  · simpa using h1
  · simpa using h2
  · unfold okHead at h3
    simp only [Bool.and_eq_true, Bool.not_eq_true'] at h3
    exact ne_anon t h h3.2

abbrev TotF (fnOk : Bool) (gs gs' : GS) : Prop := KeepFns gs gs' ∧ (fnOk = false → gs'.fns = gs.fns)

/- Ff has no `break`, and `fn`/`defn` only where `fnOk`. The operands of a call are in `Ff false ""`, so they lie in
`Cp` whatever the flag `f'`. -/
mutual
theorem cp_of_ff : ∀ (e : Expr) (fnOk f' : Bool) (self : String) (ls : List (Option String)), Ff fnOk self e = true →
    (fnOk = true → f' = true) → Cp true f' ls e = true
  | .int _, _, _, _, _, _, _ | .bool _, _, _, _, _, _, _ | .str _, _, _, _, _, _, _ | .nilLit, _, _, _, _, _, _
  | .sym _, _, _, _, _, _, _ => by unfold Cp; rfl
  | .begin_ es, fnOk, f', self, ls, h, hf | .and_ es, fnOk, f', self, ls, h, hf | .or_ es, fnOk, f', self, ls, h, hf
  | .arr es, fnOk, f', self, ls, h, hf => by unfold Ff at h; unfold Cp; exact cpList_of_ff es fnOk f' self ls h hf
  | .def_ _ e, fnOk, f', self, ls, h, hf | .set_ _ e, fnOk, f', self, ls, h, hf => by
    unfold Ff at h; unfold Cp; exact cp_of_ff e fnOk f' self ls (Bool.and_eq_true_iff.mp h).2 hf
  | .cond arms d, fnOk, f', self, ls, h, hf => by
    unfold Ff at h; unfold Cp; simp only [Bool.and_eq_true] at h ⊢
    exact ⟨cpArms_of_ff arms fnOk f' self ls h.1 hf, cp_of_ff d fnOk f' self ls h.2 hf⟩
  | .newScope es, fnOk, f', self, ls, h, hf => by
    unfold Ff at h; unfold Cp; exact cpList_of_ff es fnOk f' self ls (Bool.and_eq_true_iff.mp h).2 hf
  | .let_ seq bs body, fnOk, f', self, ls, h, hf => by
    unfold Ff at h; unfold Cp; simp only [Bool.and_eq_true] at h ⊢
    exact ⟨cpBinds_of_ff bs fnOk f' self ls h.1.2 hf, cpList_of_ff body fnOk f' self ls h.2 hf⟩
  | .for_ l i t s b, fnOk, f', self, ls, h, hf => by
    unfold Ff at h; unfold Cp; simp only [Bool.and_eq_true] at h ⊢
    exact ⟨⟨⟨⟨trivial, cp_of_ff i fnOk f' self _ h.1.1.1 hf⟩, cp_of_ff t fnOk f' self _ h.1.1.2 hf⟩,
      cp_of_ff s fnOk f' self _ h.1.2 hf⟩, cpList_of_ff b fnOk f' self _ h.2 hf⟩
  | .call f args, fnOk, f', self, ls, h, _ => by
    unfold Cp
    refine cpList_of_fa args f' ls ?_
    cases f with
    | sym x => unfold Ff at h; exact (Bool.and_eq_true_iff.mp h).2
    | _ => rw [ff_call_nonsym (fun _ hh => by cases hh)] at h; exact (Bool.and_eq_true_iff.mp h).2
  | .fn ps rest body, fnOk, f', self, ls, h, hf => by
    unfold Ff at h; unfold Cp; simp only [Bool.and_eq_true] at h ⊢
    exact ⟨hf h.1.1.1.1.1, cpList_of_ff body true true "" ls h.2 id⟩
  | .defn name ps rest body, fnOk, f', self, ls, h, hf => by
    unfold Ff at h; unfold Cp; simp only [Bool.and_eq_true] at h ⊢
    exact ⟨hf h.1.1.1.1.1.1.1, cpList_of_ff body true true name ls h.2 id⟩
  | .break_ _, _, _, _, _, h, _ | .continue_ _, _, _, _, _, h, _ | .assign _ _, _, _, _, _, h, _ | .bad _, _, _, _, _, h, _ => by
    simp [Ff] at h
theorem cpList_of_ff : ∀ (es : List Expr) (fnOk f' : Bool) (self : String) (ls : List (Option String)), FfList fnOk self es = true →
    (fnOk = true → f' = true) → CpList true f' ls es = true
  | [], _, _, _, _, _, _ => by unfold CpList; rfl
  | e :: es, fnOk, f', self, ls, h, hf => by
    unfold FfList at h; unfold CpList; simp only [Bool.and_eq_true] at h ⊢
    exact ⟨cp_of_ff e fnOk f' self ls h.1 hf, cpList_of_ff es fnOk f' self ls h.2 hf⟩
theorem cpArms_of_ff : ∀ (arms : List (Expr × Expr)) (fnOk f' : Bool) (self : String) (ls : List (Option String)),
    FfArms fnOk self arms = true → (fnOk = true → f' = true) → CpArms true f' ls arms = true
  | [], _, _, _, _, _, _ => by unfold CpArms; rfl
  | (p, b) :: r, fnOk, f', self, ls, h, hf => by
    unfold FfArms at h; unfold CpArms; simp only [Bool.and_eq_true] at h ⊢
    exact ⟨⟨cp_of_ff p fnOk f' self ls h.1.1 hf, cp_of_ff b fnOk f' self ls h.1.2 hf⟩, cpArms_of_ff r fnOk f' self ls h.2 hf⟩
theorem cpBinds_of_ff : ∀ (bs : List (String × Expr)) (fnOk f' : Bool) (self : String) (ls : List (Option String)),
    FfBinds fnOk self bs = true → (fnOk = true → f' = true) → CpBinds true f' ls bs = true
  | [], _, _, _, _, _, _ => by unfold CpBinds; rfl
  | (x, e) :: r, fnOk, f', self, ls, h, hf => by
    unfold FfBinds at h; unfold CpBinds; simp only [Bool.and_eq_true] at h ⊢
    exact ⟨cp_of_ff e fnOk f' self ls h.1.2 hf, cpBinds_of_ff r fnOk f' self ls h.2 hf⟩
theorem cpList_of_fa : ∀ (es : List Expr) (f' : Bool) (ls : List (Option String)), FaList es = true → CpList true f' ls es = true
  | [], _, _, _ => by unfold CpList; rfl
  | e :: es, f', ls, h => by
    unfold FaList at h; unfold CpList; simp only [Bool.and_eq_true] at h ⊢
    exact ⟨cp_of_ff e false f' "" ls h.1 nofun, cpList_of_fa es f' ls h.2⟩
end

/- Fx adds `break`/`continue` with a label of `ls` to `Ff true`. -/
mutual
theorem cp_of_fx : ∀ (ls : List (Option String)) (self : String) (e : Expr), Fx ls self e = true → Cp true true ls e = true
  | ls, _, .break_ l, h | ls, _, .continue_ l, h => by unfold Fx at h; unfold Cp; exact h
  | ls, self, .begin_ es, h => by unfold Fx at h; unfold Cp; exact cpList_of_fx ls self es h
  | ls, self, .cond arms d, h => by
    unfold Fx at h; unfold Cp; simp only [Bool.and_eq_true] at h ⊢
    exact ⟨cpArms_of_fx ls self arms h.1, cp_of_fx ls self d h.2⟩
  | ls, self, .let_ seq bs body, h => by
    unfold Fx at h; unfold Cp; simp only [Bool.and_eq_true] at h ⊢
    exact ⟨cpBinds_of_ff bs true true self ls h.1.2 id, cpList_of_fx ls self body h.2⟩
  | ls, self, .newScope es, h => by unfold Fx at h; unfold Cp; exact cpList_of_fx ls self es (Bool.and_eq_true_iff.mp h).2
  | ls, self, .for_ l i t s b, h => by
    unfold Fx at h; unfold Cp; simp only [Bool.and_eq_true] at h ⊢
    exact ⟨⟨⟨⟨trivial, cp_of_ff i true true self _ h.1.1.1 id⟩, cp_of_ff t true true self _ h.1.1.2 id⟩,
      cp_of_ff s true true self _ h.1.2 id⟩, cpList_of_fx _ self b h.2⟩
  | ls, self, .int v, h | ls, self, .bool v, h | ls, self, .str v, h | ls, self, .nilLit, h | ls, self, .sym x, h
  | ls, self, .arr es, h | ls, self, .call f args, h | ls, self, .def_ x e, h | ls, self, .set_ x e, h | ls, self, .and_ es, h
  | ls, self, .or_ es, h | ls, self, .fn _ _ _, h | ls, self, .defn _ _ _ _, h => by
    unfold Fx at h; exact cp_of_ff _ true true self ls h id
  | _, _, .assign _ _, h | _, _, .bad _, h => by simp [Fx] at h
theorem cpList_of_fx : ∀ (ls : List (Option String)) (self : String) (es : List Expr), FxList ls self es = true →
    CpList true true ls es = true
  | _, _, [], _ => by unfold CpList; rfl
  | ls, self, e :: es, h => by
    unfold FxList at h; unfold CpList; simp only [Bool.and_eq_true] at h ⊢
    exact ⟨cp_of_fx ls self e h.1, cpList_of_fx ls self es h.2⟩
theorem cpArms_of_fx : ∀ (ls : List (Option String)) (self : String) (arms : List (Expr × Expr)), FxArms ls self arms = true →
    CpArms true true ls arms = true
  | _, _, [], _ => by unfold CpArms; rfl
  | ls, self, (p, b) :: r, h => by
    unfold FxArms at h; unfold CpArms; simp only [Bool.and_eq_true] at h ⊢
    exact ⟨⟨cp_of_ff p true true self ls h.1.1 id, cp_of_fx ls self b h.1.2⟩, cpArms_of_fx ls self r h.2⟩
end

/-- a statement of a body that is not a nested function with a body of `FzList` -/
theorem cp_of_stmt {ex : Bool} {self : String} {e : Expr} (h : (if ex then Fx [] self e else Ff true self e) = true) :
    Cp true true [] e = true := by
  cases ex with
  | false => exact cp_of_ff e true true self [] (by simpa using h) id
  | true => exact cp_of_fx [] self e (by simpa using h)

/- Fz and Fs: self tail calls have their operands in `Ff false`, loops are those of `Fx []` resp. `Ff`, nested function
bodies are in Fz again. -/
mutual
theorem cp_of_fz : ∀ (ex : Bool) (self : String) (e : Expr), Fz ex self e = true → Cp true true [] e = true
  | ex, self, .call f args, h => by
    cases f with
    | sym x =>
      unfold Fz at h; simp only [Bool.and_eq_true] at h
      unfold Cp; exact cpList_of_fa args true [] h.1.2
    | _ => rw [fz_call_nonsym (fun _ hh => by cases hh)] at h; exact cp_of_ff _ true true self [] h id
  | ex, self, .begin_ es, h => by unfold Fz at h; unfold Cp; exact cpList_of_fz ex self es h
  | ex, self, .cond arms d, h => by
    unfold Fz at h; unfold Cp; simp only [Bool.and_eq_true] at h ⊢
    exact ⟨cpArms_of_fz ex self arms h.1, cp_of_fz ex self d h.2⟩
  | ex, self, .newScope es, h => by unfold Fz at h; unfold Cp; exact cpList_of_fz ex self es (Bool.and_eq_true_iff.mp h).2
  | ex, self, .let_ seq bs body, h => by
    unfold Fz at h; unfold Cp; simp only [Bool.and_eq_true] at h ⊢
    exact ⟨cpBinds_of_ff bs true true self [] h.1.2 id, cpList_of_fz ex self body h.2⟩
  | ex, self, .for_ l i t s b, h => by unfold Fz at h; exact cp_of_stmt h
  | ex, self, .int v, h | ex, self, .bool v, h | ex, self, .str v, h | ex, self, .nilLit, h | ex, self, .sym x, h
  | ex, self, .arr es, h | ex, self, .def_ x e, h | ex, self, .set_ x e, h | ex, self, .and_ es, h | ex, self, .or_ es, h => by
    unfold Fz at h; exact cp_of_ff _ true true self [] h id
  | ex, self, .fn ps rest body, h => by
    unfold Fz at h; rw [Bool.or_eq_true] at h
    rcases h with h | h
    · exact cp_of_ff _ true true self [] h id
    · unfold Cp; rw [Bool.true_and]; exact cpList_of_fz ex "" body (Bool.and_eq_true_iff.mp h).2
  | ex, self, .defn name ps rest body, h => by
    unfold Fz at h; rw [Bool.or_eq_true] at h
    rcases h with h | h
    · exact cp_of_ff _ true true self [] h id
    · unfold Cp; rw [Bool.true_and]; exact cpList_of_fz ex name body (Bool.and_eq_true_iff.mp h).2
  | _, _, .assign _ _, h | _, _, .bad _, h | _, _, .break_ _, h | _, _, .continue_ _, h => by simp [Fz] at h
theorem cp_of_fs : ∀ (ex : Bool) (self : String) (e : Expr), Fs ex self e = true → Cp true true [] e = true
  | ex, self, .fn ps rest body, h => by
    unfold Fs at h; rw [Bool.or_eq_true] at h
    rcases h with h | h
    · exact cp_of_stmt h
    · unfold Cp; rw [Bool.true_and]; exact cpList_of_fz ex "" body (Bool.and_eq_true_iff.mp h).2
  | ex, self, .defn name ps rest body, h => by
    unfold Fs at h; rw [Bool.or_eq_true] at h
    rcases h with h | h
    · exact cp_of_stmt h
    · unfold Cp; rw [Bool.true_and]; exact cpList_of_fz ex name body (Bool.and_eq_true_iff.mp h).2
  | ex, self, .call _ _, h | ex, self, .begin_ _, h | ex, self, .cond _ _, h | ex, self, .newScope _, h
  | ex, self, .let_ _ _ _, h | ex, self, .for_ _ _ _ _ _, h | ex, self, .int _, h | ex, self, .bool _, h
  | ex, self, .str _, h | ex, self, .nilLit, h | ex, self, .sym _, h | ex, self, .arr _, h | ex, self, .def_ _ _, h
  | ex, self, .set_ _ _, h | ex, self, .and_ _, h | ex, self, .or_ _, h | ex, self, .assign _ _, h | ex, self, .bad _, h
  | ex, self, .break_ _, h | ex, self, .continue_ _, h => by unfold Fs at h; exact cp_of_stmt h
theorem cpList_of_fz : ∀ (ex : Bool) (self : String) (es : List Expr), FzList ex self es = true → CpList true true [] es = true
  | _, _, [], _ => by unfold CpList; rfl
  | ex, self, [e], h => by unfold FzList at h; rw [CpList, CpList, Bool.and_true]; exact cp_of_fz ex self e h
  | ex, self, e :: e' :: es, h => by
    unfold FzList at h; unfold CpList; simp only [Bool.and_eq_true] at h ⊢
    exact ⟨cp_of_fs ex self e h.1, cpList_of_fz ex self (e' :: es) h.2⟩
theorem cpArms_of_fz : ∀ (ex : Bool) (self : String) (arms : List (Expr × Expr)), FzArms ex self arms = true →
    CpArms true true [] arms = true
  | _, _, [], _ => by unfold CpArms; rfl
  | ex, self, (p, b) :: r, h => by
    unfold FzArms at h; unfold CpArms; simp only [Bool.and_eq_true] at h ⊢
    exact ⟨⟨cp_of_ff p true true self [] h.1.1 id, cp_of_fz ex self b h.1.2⟩, cpArms_of_fz ex self r h.2⟩
end

theorem compile_total_Ff : ∀ (fnOk : Bool) (self : String) (e : Expr), Ff fnOk self e = true → ∀ isFn c gs,
    FnameOk self c → ∃ code t gs', (compile isFn c e).run gs = .ok ((code, t), gs') ∧ code ≠ [] ∧ TotF fnOk gs gs' := by
  intro fnOk self e he isFn c gs _
  obtain ⟨r, h, hf⟩ := compile_ok_Cp (isFn := isFn) e (cp_of_ff e fnOk fnOk self [] he id) c (.nil gs)
  have hk := compile_facts e isFn c gs r h
  exact ⟨_, _, _, h, hk.1, hk.2.1, hf.1⟩

theorem compileBegin_total_Ff : ∀ (fnOk : Bool) (self : String) (es : List Expr), es ≠ [] → FfList fnOk self es = true →
    ∀ isFn c gs, FnameOk self c →
    ∃ code t gs', (compileBegin isFn c es).run gs = .ok ((code, t), gs') ∧ code ≠ [] ∧ TotF fnOk gs gs' := by
  intro fnOk self es hne he isFn c gs _
  obtain ⟨r, h, hf⟩ := compileBegin_ok_Cp (isFn := isFn) es (cpList_of_ff es fnOk fnOk self [] he id) c (.nil gs)
  have hk := compileBegin_facts es isFn c gs r h
  exact ⟨_, _, _, h, hk.1 hne, hk.2.1, hf.1⟩

/-- a statement list that may be empty (the body of a `for`) -/
theorem compileBeginAny_total_Ff : ∀ (fnOk : Bool) (self : String) (es : List Expr), FfList fnOk self es = true →
    ∀ isFn c gs, FnameOk self c →
    ∃ code t gs', (compileBegin isFn c es).run gs = .ok ((code, t), gs') ∧ TotF fnOk gs gs' := by
  intro fnOk self es he isFn c gs _
  obtain ⟨r, h, hf⟩ := compileBegin_ok_Cp (isFn := isFn) es (cpList_of_ff es fnOk fnOk self [] he id) c (.nil gs)
  exact ⟨_, _, _, h, (compileBegin_facts es isFn c gs r h).2.1, hf.1⟩

theorem compileSC_total_Ff : ∀ (fnOk : Bool) (self : String) (es : List Expr), FfList fnOk self es = true → ∀ isFn c gs,
    FnameOk self c → ∃ cs gs', (compileSC isFn c es).run gs = .ok (cs, gs') ∧ (∀ x ∈ cs, x ≠ []) ∧ TotF fnOk gs gs' := by
  intro fnOk self es he isFn c gs _
  obtain ⟨r, h, hf⟩ := compileSC_ok_Cp (isFn := isFn) es (cpList_of_ff es fnOk fnOk self [] he id) c (.nil gs)
  have hk := compileSC_facts es isFn c gs r h
  exact ⟨_, _, h, fun x hx => (hk.2 x hx).1, hk.1, hf.1⟩

theorem compileNewScope_total_Ff : ∀ (fnOk : Bool) (self : String) (es : List Expr), es ≠ [] → FfList fnOk self es = true →
    ∀ isFn c oldtail gs, FnameOk self c →
    ∃ code t gs', (compileNewScope isFn c oldtail es).run gs = .ok ((code, t), gs') ∧ code ≠ [] ∧ TotF fnOk gs gs' := by
  intro fnOk self es hne he isFn c ot gs _
  obtain ⟨r, h, hf⟩ := compileNewScope_ok_Cp (isFn := isFn) es (cpList_of_ff es fnOk fnOk self [] he id) c ot (.nil gs)
  have hk := compileNewScope_facts es isFn c ot gs r h
  exact ⟨_, _, _, h, hk.1 hne, hk.2.1, hf.1⟩

theorem compileBinds_total_Ff : ∀ (fnOk : Bool) (self : String) (bs : List (String × Expr)), FfBinds fnOk self bs = true →
    ∀ isFn c seq gs, FnameOk self c →
    ∃ code t gs', (compileBinds isFn c seq bs).run gs = .ok ((code, t), gs') ∧ TotF fnOk gs gs' := by
  intro fnOk self bs he isFn c seq gs _
  obtain ⟨r, h, hf⟩ := compileBinds_ok_Cp (isFn := isFn) bs (cpBinds_of_ff bs fnOk fnOk self [] he id) c seq (.nil gs)
  exact ⟨_, _, _, h, (compileBinds_facts bs isFn c seq gs r h).1, hf.1⟩

theorem compileAll_total_Ff : ∀ (fnOk : Bool) (self : String) (es : List Expr), FfList fnOk self es = true →
    ∀ isFn c gs, FnameOk self c →
    ∃ code t gs', (compileAll isFn c es).run gs = .ok ((code, t), gs') ∧ TotF fnOk gs gs' := by
  intro fnOk self es he isFn c gs _
  obtain ⟨r, h, hf⟩ := compileAll_ok_Cp (isFn := isFn) es (cpList_of_ff es fnOk fnOk self [] he id) c (.nil gs)
  exact ⟨_, _, _, h, (compileAll_facts es isFn c gs r h).1, hf.1⟩

theorem compileArms_total_Ff : ∀ (fnOk : Bool) (self : String) (arms : List (Expr × Expr)), FfArms fnOk self arms = true →
    ∀ isFn c gs, FnameOk self c →
    ∃ as gs', (compileArms isFn c arms).run gs = .ok (as, gs') ∧ TotF fnOk gs gs' := by
  intro fnOk self arms he isFn c gs _
  obtain ⟨r, h, hf⟩ := compileArms_ok_Cp (isFn := isFn) arms (cpArms_of_ff arms fnOk fnOk self [] he id) c (.nil gs)
  exact ⟨_, _, h, (compileArms_facts arms isFn c gs r h).1, hf.1⟩

theorem compile_ne_nil_Ff {fnOk : Bool} {self : String} {e : Expr} (_he : Ff fnOk self e = true) {isFn c gs r}
    (h : (compile isFn c e).run gs = .ok r) (_hfn : FnameOk self c) : r.1.1 ≠ [] :=
  (compile_facts e isFn c gs r h).1

/-- the run is unique, so what totality promises holds of the state it leaves -/
theorem TotF.of_run {α} {fnOk : Bool} {gs : GS} {x : G α} {r : α × GS}
    (hk : KeepFns gs r.2) (ht : ∃ r', x.run gs = .ok r' ∧ Foot true fnOk gs r'.2) (h : x.run gs = .ok r) :
    TotF fnOk gs r.2 := by
  obtain ⟨r', h', hf⟩ := ht
  rw [h] at h'
  cases h'
  exact ⟨hk, hf.1⟩

theorem compile_keep_Ff {fnOk : Bool} {self : String} {e : Expr} (he : Ff fnOk self e = true) {isFn c gs r}
    (h : (compile isFn c e).run gs = .ok r) (_hfn : FnameOk self c) : TotF fnOk gs r.2 :=
  .of_run (compile_facts e isFn c gs r h).2.1 (compile_ok_Cp e (cp_of_ff e fnOk fnOk self [] he id) c (.nil gs)) h

theorem compileBegin_keep_Ff {fnOk : Bool} {self : String} {es : List Expr} (_hne : es ≠ []) (he : FfList fnOk self es = true)
    {isFn c gs r} (h : (compileBegin isFn c es).run gs = .ok r) (_hfn : FnameOk self c) : TotF fnOk gs r.2 :=
  .of_run (compileBegin_facts es isFn c gs r h).2.1 (compileBegin_ok_Cp es (cpList_of_ff es fnOk fnOk self [] he id) c (.nil gs)) h

theorem compileArms_keep_Ff {fnOk : Bool} {self : String} {arms : List (Expr × Expr)} (he : FfArms fnOk self arms = true)
    {isFn c gs r} (h : (compileArms isFn c arms).run gs = .ok r) (_hfn : FnameOk self c) : TotF fnOk gs r.2 :=
  .of_run (compileArms_facts arms isFn c gs r h).1 (compileArms_ok_Cp arms (cpArms_of_ff arms fnOk fnOk self [] he id) c (.nil gs)) h

theorem compileSC_keep_Ff {fnOk : Bool} {self : String} {es : List Expr} (he : FfList fnOk self es = true)
    {isFn c gs r} (h : (compileSC isFn c es).run gs = .ok r) (_hfn : FnameOk self c) : TotF fnOk gs r.2 :=
  .of_run (compileSC_facts es isFn c gs r h).1 (compileSC_ok_Cp es (cpList_of_ff es fnOk fnOk self [] he id) c (.nil gs)) h

theorem compileNewScope_keep_Ff {fnOk : Bool} {self : String} {es : List Expr} (_hne : es ≠ []) (he : FfList fnOk self es = true)
    {isFn c oldtail gs r} (h : (compileNewScope isFn c oldtail es).run gs = .ok r) (_hfn : FnameOk self c) :
    TotF fnOk gs r.2 :=
  .of_run (compileNewScope_facts es isFn c oldtail gs r h).2.1
    (compileNewScope_ok_Cp es (cpList_of_ff es fnOk fnOk self [] he id) c oldtail (.nil gs)) h

theorem compileBinds_keep_Ff {fnOk : Bool} {self : String} {bs : List (String × Expr)} (he : FfBinds fnOk self bs = true)
    {isFn c seq gs r} (h : (compileBinds isFn c seq bs).run gs = .ok r) (_hfn : FnameOk self c) : TotF fnOk gs r.2 :=
  .of_run (compileBinds_facts bs isFn c seq gs r h).1 (compileBinds_ok_Cp bs (cpBinds_of_ff bs fnOk fnOk self [] he id) c seq (.nil gs)) h

theorem compileAll_keep_Ff {fnOk : Bool} {self : String} {es : List Expr} (he : FfList fnOk self es = true)
    {isFn c gs r} (h : (compileAll isFn c es).run gs = .ok r) (_hfn : FnameOk self c) : TotF fnOk gs r.2 :=
  .of_run (compileAll_facts es isFn c gs r h).1 (compileAll_ok_Cp es (cpList_of_ff es fnOk fnOk self [] he id) c (.nil gs)) h

theorem compileBeginAny_keep_Ff {fnOk : Bool} {self : String} {es : List Expr} (he : FfList fnOk self es = true)
    {isFn c gs r} (h : (compileBegin isFn c es).run gs = .ok r) (_hfn : FnameOk self c) : TotF fnOk gs r.2 :=
  .of_run (compileBegin_facts es isFn c gs r h).2.1 (compileBegin_ok_Cp es (cpList_of_ff es fnOk fnOk self [] he id) c (.nil gs)) h

/-- inside a `for`: the records completed so far (the loop's own record is still open) -/
theorem LoopsFinal.for_body {gs g2 g5 : GS} {c : Ctx} {label : Option String} {b k : Int} {s : St}
    (h : LoopsFinal (forDone g5 gs.loops.length b k) s) (h1 : KeepFns (forGs gs c label) g2) (h2 : KeepFns g2 g5) :
    LoopsFinal g2 s := by
  have hl5 : (forDone g5 gs.loops.length b k).loops.length = g5.loops.length := by simp [forDone]
  have hst2 : g2.loopstack = gs.loops.length :: gs.loopstack := h1.loopstack
  have hst5 : (forDone g5 gs.loops.length b k).loopstack = gs.loopstack := by
    show g5.loopstack.drop 1 = _
    rw [h2.loopstack, hst2]; rfl
  refine ⟨Nat.le_trans h2.loopsLen (hl5 ▸ h.1), fun id hid hns => ?_⟩
  rw [hst2] at hns
  have hne : gs.loops.length ≠ id := fun e => hns (e ▸ List.mem_cons_self ..)
  rw [h.2 id (by rw [hl5]; exact Nat.lt_of_lt_of_le hid h2.loopsLen)
    (by rw [hst5]; exact fun hm => hns (List.mem_cons_of_mem _ hm))]
  show (g5.loops.set gs.loops.length _).getD id {} = _
  rw [List.getD_eq_getElem?_getD, List.getElem?_set_ne hne, ← List.getD_eq_getElem?_getD]
  exact h2.loopsGet id hid

theorem tailCode_ne_nil (h : String) (sc : Nat) (args : List Expr) (code : List Instr) : tailCode h sc args code ≠ [] := by
  simp [tailCode]

/-- a call in tail position: an ordinary call, or (own name, right arity) the tail sequence -/
theorem compile_total_call {self h : String} {args : List Expr} (hh : (h != "") = true) (hhead : okHead h = true)
    (hself : (h != self) = true ∨ FfList false self args = true) (isFn : Nat → Bool) (c : Ctx) (gs : GS) (hfn : FnameOk self c) :
    ∃ code gs', (compile isFn c (.call (.sym h) args)).run gs = .ok ((code, c.tail), gs') ∧ code ≠ [] ∧ KeepFns gs gs' := by
  rw [compile_call_eq]
  by_cases hc : (c.tail && h == c.funcname) = true ∧ arityOk (knownFn c gs h) args.length = true
  · rw [if_pos hc]
    have hhc : h = c.funcname := by have := hc.1; simp only [Bool.and_eq_true, beq_iff_eq] at this; exact this.2
    have hargs : FfList false self args = true := by
      rcases hself with hne | ha
      · have := ff_call_ne hfn hne hh hhead
        rw [← hhc] at this; simp at this
      · exact ha
    obtain ⟨⟨code, g1⟩, hcode, -⟩ := compileCallArgs_ok_Cp (isFn := isFn) args (cpList_of_ff args false false self [] hargs id)
      { c with tail := false } (knownFn c gs h) 0 (.nil gs)
    refine ⟨tailCode h c.scopes args code, g1, ?_, tailCode_ne_nil _ _ _ _, (compileCallArgs_facts _ _ _ _ _ _ _ hcode).1⟩
    rw [hcode]
  · rw [if_neg hc]
    exact ⟨_, gs, rfl, by simp, KeepFns.refl _⟩

theorem knownOk_bodyCtx (isFn : Nat → Bool) (c : Ctx) (gs : GS) (name : String) (ps : List String) (rest : Option String)
    (st : Bool) : KnownOk (Bal.bodyCtx c gs name st) (Bal.allocGs isFn gs name ps rest) ps rest := by
  intro hne
  cases st with
  | false => exact absurd rfl hne
  | true =>
    by_cases hn : name = ""
    · subst hn; exact Or.inl ⟨gs.fns.length, rfl⟩
    · refine Or.inr ⟨gs.fns.length, ?_, by simp [Bal.allocGs], ?_, ?_, ?_⟩ <;>
        simp [Bal.bodyCtx, Bal.allocGs, Bal.tmplOf, tmplName_of_ne hn, hn, List.getD_eq_getElem?_getD]

end ZygoVerif.Sim
