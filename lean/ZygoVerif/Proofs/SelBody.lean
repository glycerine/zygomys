/-
The selector `a[i]`, `a[i:j]`, `a[:j]`, `a[i:]`: `normalizeArraySelector` of pratt.go (model) and the selector of
the stratified specification are one function `selBody` of the two parsers they call (one that must use all
tokens, one that parses from the front), so what is said about selectors is said here once for both.
-/
import ZygoVerif.Model.Pratt
import ZygoVerif.Proofs.FuelSettles
namespace ZygoVerif.Pratt

def selBefore (toks : List Sx) : List Sx := toks.takeWhile (fun t => !t.isNamed ":")
def selAfter (toks : List Sx) : List Sx := (toks.dropWhile (fun t => !t.isNamed ":")).tail

theorem selBefore_sub (toks : List Sx) : ∀ t ∈ selBefore toks, t ∈ toks :=
  fun _ h => (List.takeWhile_sublist _).subset h

theorem selAfter_sub (toks : List Sx) : ∀ t ∈ selAfter toks, t ∈ toks :=
  fun _ h => (List.dropWhile_sublist _).subset (List.mem_of_mem_tail h)

/-- for an additive measure the parts of a slice weigh no more than the selector, and less when there is a colon
(the colon is a token of its own) -/
theorem sel_parts_le {m : List Sx → Nat} (happ : ∀ a b, m (a ++ b) = m a + m b) (hcons : ∀ d r, m r ≤ m (d :: r))
    (toks : List Sx) : m (selBefore toks) ≤ m toks ∧ m (selAfter toks) ≤ m toks := by
  have h := happ (toks.takeWhile (fun t => !t.isNamed ":")) (toks.dropWhile (fun t => !t.isNamed ":"))
  rw [List.takeWhile_append_dropWhile] at h
  unfold selBefore selAfter
  cases hd : toks.dropWhile (fun t => !t.isNamed ":") with
  | nil => rw [hd] at h; exact ⟨by omega, by simp only [List.tail_nil]; omega⟩
  | cons d r => rw [hd] at h; have := hcons d r; exact ⟨by omega, by simp only [List.tail_cons]; omega⟩

theorem sel_parts_lt {m : List Sx → Nat} (happ : ∀ a b, m (a ++ b) = m a + m b) (hcons : ∀ d r, m r + 1 ≤ m (d :: r))
    (toks : List Sx) (h : countNamed ":" toks ≥ 1) : m (selBefore toks) + 1 ≤ m toks ∧ m (selAfter toks) + 1 ≤ m toks := by
  have happ' := happ (toks.takeWhile (fun t => !t.isNamed ":")) (toks.dropWhile (fun t => !t.isNamed ":"))
  rw [List.takeWhile_append_dropWhile] at happ'
  unfold selBefore selAfter
  cases hd : toks.dropWhile (fun t => !t.isNamed ":") with
  | nil =>
    exfalso
    have hall : ∀ l : List Sx, l.dropWhile (fun t => !t.isNamed ":") = [] → l.filter (fun t => t.isNamed ":") = [] := by
      intro l
      induction l with
      | nil => intro _; rfl
      | cons a r ih =>
        intro h
        by_cases ha : a.isNamed ":" = true
        · simp [List.dropWhile, ha] at h
        · have ha' : a.isNamed ":" = false := by simpa using ha
          simp only [List.dropWhile, ha', Bool.not_false] at h
          simp only [List.filter, ha']
          exact ih h
    simp [countNamed, hall toks hd] at h
  | cons d r => rw [hd] at happ'; have := hcons d r; exact ⟨by omega, by simp only [List.tail_cons]; omega⟩

def optOne (one : List Sx → Option Sx) (l : List Sx) : Option (List Sx) :=
  if l.isEmpty then some [] else (one l).map ([·])

/-- `normalizeArraySelector` on the tokens of a selector — and the selector of the specification: `one` parses
a token list that must be one expression, `whole` an expression from the front of a list. -/
def selBody (one : List Sx → Option Sx) (whole : List Sx → Option (Sx × List Sx)) (toks : List Sx) : Option Sx :=
  if countNamed ":" toks > 1 then none
  else if countNamed ":" toks == 1 then
    (optOne one (selBefore toks)).bind fun s => (optOne one (selAfter toks)).map fun e => .arr (s ++ .sym ":" :: e)
  else if toks.length ≤ 1 then some (.arr toks)
  else (whole toks).map fun r => match r with
    | (x, []) => .arr [x]
    | _ => .arr toks

theorem optOne_step {one one' : List Sx → Option Sx} {l : List Sx} {M : Prop} (hC : (optOne one l).isSome = true ∨ M)
    (h : (one l).isSome = true ∨ M → one' l = one l) : optOne one' l = optOne one l := by
  unfold optOne at hC ⊢
  by_cases he : l.isEmpty = true
  · rw [if_pos he, if_pos he]
  · rw [if_neg he, Option.isSome_map] at hC
    rw [if_neg he, if_neg he, h hC]

/-- `selBody` depends on its two parsers through the parts of a slice (when there is one colon) or the whole (when
there is none): when it has returned or `M` holds, it is enough to compare the parsers there under the same
condition -/
theorem selBody_step {one one' : List Sx → Option Sx} {whole whole' : List Sx → Option (Sx × List Sx)} {toks : List Sx}
    {M : Prop} (hC : (selBody one whole toks).isSome = true ∨ M)
    (h1 : countNamed ":" toks = 1 → (one (selBefore toks)).isSome = true ∨ M → one' (selBefore toks) = one (selBefore toks))
    (h2 : countNamed ":" toks = 1 → (one (selAfter toks)).isSome = true ∨ M → one' (selAfter toks) = one (selAfter toks))
    (h3 : countNamed ":" toks = 0 → (whole toks).isSome = true ∨ M → whole' toks = whole toks) :
    selBody one' whole' toks = selBody one whole toks := by
  unfold selBody at hC ⊢
  by_cases c1 : countNamed ":" toks > 1
  · rw [if_pos c1, if_pos c1]
  · rw [if_neg c1] at hC
    rw [if_neg c1, if_neg c1]
    by_cases c2 : (countNamed ":" toks == 1) = true
    · rw [if_pos c2] at hC
      rw [if_pos c2, if_pos c2]
      refine bind_step hC (fun h => optOne_step h (h1 (beq_iff_eq.1 c2))) fun s _ h => ?_
      rw [Option.isSome_map] at h
      rw [optOne_step h (h2 (beq_iff_eq.1 c2))]
    · rw [if_neg c2] at hC
      rw [if_neg c2, if_neg c2]
      by_cases c3 : toks.length ≤ 1
      · rw [if_pos c3, if_pos c3]
      · rw [if_neg c3, Option.isSome_map] at hC
        rw [if_neg c3, if_neg c3, h3 (by have : countNamed ":" toks ≠ 1 := fun h => c2 (beq_iff_eq.2 h); omega) hC]

/-- the selector settles where `one` does on every part of the token list that is lighter than it (for an additive
measure `m`: the parts of a slice, the colon being a token of its own) and `whole` does on the list itself -/
theorem selBody_settles {m : List Sx → Nat} (happ : ∀ a b, m (a ++ b) = m a + m b) (hcons : ∀ d r, m r + 1 ≤ m (d :: r))
    {one : Nat → List Sx → Option Sx} {whole : Nat → List Sx → Option (Sx × List Sx)} {toks : List Sx} {k : Nat}
    (h1 : countNamed ":" toks = 1 → ∀ l, (∀ t ∈ l, t ∈ toks) → m l + 1 ≤ m toks → Settles (fun f => one f l) k)
    (h3 : countNamed ":" toks = 0 → Settles (fun f => whole f toks) k) : Settles (fun f => selBody (one f) (whole f) toks) k :=
  fun f hf => selBody_step hf
    (fun c => h1 c _ (selBefore_sub _) (sel_parts_lt happ hcons toks (Nat.le_of_eq c.symm)).1 f)
    (fun c => h1 c _ (selAfter_sub _) (sel_parts_lt happ hcons toks (Nat.le_of_eq c.symm)).2 f) (fun c => h3 c f)

/-- what `selBody` returns with a pair of fuel-indexed parsers (with enough fuel) depends on the parsers through what
they return on the parts of the slice and on the whole -/
theorem selBody_returns_congr {one one' : Nat → List Sx → Option Sx} {whole whole' : Nat → List Sx → Option (Sx × List Sx)}
    {toks : List Sx} {s : Sx}
    (k1 : Keeps fun f => one f (selBefore toks)) (k2 : Keeps fun f => one f (selAfter toks)) (k3 : Keeps fun f => whole f toks)
    (k1' : Keeps fun f => one' f (selBefore toks)) (k2' : Keeps fun f => one' f (selAfter toks)) (k3' : Keeps fun f => whole' f toks)
    (h1 : ∀ y, Returns (fun f => one f (selBefore toks)) y ↔ Returns (fun f => one' f (selBefore toks)) y)
    (h2 : ∀ y, Returns (fun f => one f (selAfter toks)) y ↔ Returns (fun f => one' f (selAfter toks)) y)
    (h3 : ∀ r, Returns (fun f => whole f toks) r ↔ Returns (fun f => whole' f toks) r) :
    Returns (fun f => selBody (one f) (whole f) toks) s ↔ Returns (fun f => selBody (one' f) (whole' f) toks) s := by
  -- one direction: each parser that has returned is caught up with by the other, from some fuel on
  have imp : ∀ {one one' : Nat → List Sx → Option Sx} {whole whole' : Nat → List Sx → Option (Sx × List Sx)},
      Keeps (fun f => one' f (selBefore toks)) → Keeps (fun f => one' f (selAfter toks)) → Keeps (fun f => whole' f toks) →
      (∀ y, Returns (fun f => one f (selBefore toks)) y → Returns (fun f => one' f (selBefore toks)) y) →
      (∀ y, Returns (fun f => one f (selAfter toks)) y → Returns (fun f => one' f (selAfter toks)) y) →
      (∀ r, Returns (fun f => whole f toks) r → Returns (fun f => whole' f toks) r) →
      Returns (fun f => selBody (one f) (whole f) toks) s → Returns (fun f => selBody (one' f) (whole' f) toks) s := by
    intro one one' whole whole' k1 k2 k3 h1 h2 h3 ⟨f, h⟩
    have reach : ∀ {β : Type} {o : Option β} {g : Nat → Option β}, Keeps g → (∀ y, o = some y → Returns g y) →
        ∃ f0, ∀ f', f0 ≤ f' → o.isSome = true ∨ False → g f' = o := by
      intro β o g k hr
      cases ho : o with
      | none => exact ⟨0, fun _ _ h => by simp at h⟩
      | some y => obtain ⟨f0, h0⟩ := hr y ho; exact ⟨f0, fun f' hf _ => k.mono hf h0⟩
    obtain ⟨f1, g1⟩ := reach k1 fun y hy => h1 y ⟨f, hy⟩
    obtain ⟨f2, g2⟩ := reach k2 fun y hy => h2 y ⟨f, hy⟩
    obtain ⟨f3, g3⟩ := reach k3 fun r hr => h3 r ⟨f, hr⟩
    refine ⟨max f1 (max f2 f3), (selBody_step (Or.inl (Option.isSome_iff_exists.2 ⟨s, h⟩)) (fun _ => g1 _ (by omega)) (fun _ => g2 _ (by omega))
      (fun _ => g3 _ (by omega))).trans h⟩
  exact ⟨imp k1' k2' k3' (fun y => (h1 y).1) (fun y => (h2 y).1) (fun r => (h3 r).1),
    imp k1 k2 k3 (fun y => (h1 y).2) (fun y => (h2 y).2) (fun r => (h3 r).2)⟩

end ZygoVerif.Pratt
