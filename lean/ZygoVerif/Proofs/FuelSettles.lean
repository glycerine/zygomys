/-
Functions indexed by fuel (`g : Nat → Option β`), used for the model of pratt.go and for the stratified parser of
the specification alike.

`Settles g k` and its consequences — more fuel never changes a result; the value at `k` is the value with enough
fuel. `Returns g r` — `g` returns `r` with enough fuel — is what the fuel-free statements are made of; `Keeps g`
(the half of `Settles` that needs no measure) is what `Returns` asks of a sub-run followed by a continuation
(`Returns.bind`). A round of a fuel-indexed function is `g 0 = none`, `g (f + 1) = body f`, so its fuel-free
equation is `Returns.step` followed by the lemma for the shape of the body; that it settles is `Settles.step` followed
by the lemma of the same name (`Settles.bind`, `map`, `const`), the measure growing by one per round — which makes
"the fuel suffices" an induction on the size of the input, not on the fuel.
-/
namespace ZygoVerif

/-- `g` settles at `k`: one more unit of fuel changes nothing — neither a result nor a `none` — once `g` has returned
a result or the fuel has reached `k` -/
def Settles {β : Type} (g : Nat → Option β) (k : Nat) : Prop := ∀ f, (g f).isSome = true ∨ k ≤ f → g (f + 1) = g f

/-- One more unit of fuel keeps a result. This is what a sub-run must satisfy before anything can be said
of a run that continues after it (`Returns.bind`, `Returns.det`); it comes from `Settles.keeps`, i.e. from
a measure, or from the shape of `g` (`Keeps.const`). -/
def Keeps {β : Type} (g : Nat → Option β) : Prop := ∀ f, (g f).isSome = true → g (f + 1) = g f

/-- `g` returns `r` with enough fuel. Nothing is said of failure: that `g` returns nothing does not tell an
error from running out at every fuel — for "`none` with any fuel" use `Settles.none_at`, which needs the
measure. Without `Keeps g` two different results are not excluded (`Returns.det`). -/
def Returns {β : Type} (g : Nat → Option β) (r : β) : Prop := ∃ f, g f = some r

/-- a sub-run followed by a continuation: when the whole has returned or `M` holds, it is enough to compare the
sub-runs and the continuations under the same condition -/
theorem bind_step {α β : Type} {o o' : Option α} {k k' : α → Option β} {M : Prop}
    (hC : (o.bind k).isSome = true ∨ M) (ho : o.isSome = true ∨ M → o' = o)
    (hk : ∀ a, o = some a → (k a).isSome = true ∨ M → k' a = k a) : o'.bind k' = o.bind k := by
  rw [ho (hC.imp (fun h => by cases o with | none => cases h | some a => rfl) id)]
  cases o with
  | none => rfl
  | some a => exact hk a rfl hC

namespace Keeps
variable {α β : Type} {g : Nat → Option α}

theorem mono (h : Keeps g) {f f' : Nat} (hle : f ≤ f') {r : α} (hr : g f = some r) : g f' = some r := by
  induction hle with
  | refl => exact hr
  | step _ ih => rw [h _ (by rw [ih]; rfl)]; exact ih

theorem const (o : Option α) : Keeps fun _ => o := fun _ _ => rfl

end Keeps

namespace Settles
variable {α β : Type} {k : Nat}

theorem const (o : Option β) (k : Nat) : Settles (fun _ => o) k := fun _ _ => rfl

/-- a function that returns nothing without fuel and, with a unit of fuel, what `g'` returns: one unit more than `g'` -/
theorem step {g g' : Nat → Option β} (h0 : g 0 = none) (hs : ∀ f, g (f + 1) = g' f) (h : Settles g' k) :
    Settles g (k + 1) := fun f hf => by
  cases f with
  | zero => rw [h0] at hf; rcases hf with hf | hf; cases hf; omega
  | succ f => rw [hs] at hf; rw [hs, hs]; exact h f (hf.imp id Nat.le_of_succ_le_succ)

/-- a sub-run followed by a continuation; the continuation is only asked about on what the sub-run returns -/
theorem bind {g : Nat → Option α} {c : Nat → α → Option β} (hg : Settles g k)
    (hc : ∀ a, Returns g a → Settles (fun f => c f a) k) : Settles (fun f => (g f).bind (c f)) k :=
  fun f hf => bind_step hf (hg f) fun a ha => hc a ⟨f, ha⟩ f

end Settles

namespace Settles
variable {β : Type} {g : Nat → Option β} {k : Nat} (h : Settles g k)
include h

theorem keeps : Keeps g := fun f hf => h f (Or.inl hf)

theorem mono {f f' : Nat} (hle : f ≤ f') {r : β} (hr : g f = some r) : g f' = some r := h.keeps.mono hle hr

theorem stable {f : Nat} (hle : k ≤ f) : g f = g k := by
  induction hle with
  | refl => rfl
  | @step m hm ih => rw [h m (Or.inr hm), ih]

theorem some_at {f : Nat} {r : β} (hr : g f = some r) : g k = some r := by
  have := h.mono (Nat.le_max_left f k) hr
  rwa [h.stable (Nat.le_max_right f k)] at this

theorem none_at (hn : g k = none) (f : Nat) : g f = none := by
  cases hx : g f with
  | none => rfl
  | some r => rw [h.some_at hx] at hn; cases hn

theorem of_le {k' : Nat} (hk : k ≤ k') : Settles g k' := fun f hf => h f (hf.imp id (Nat.le_trans hk))

theorem map {γ : Type} (m : β → γ) : Settles (fun f => (g f).map m) k := fun f hf => by
  show (g (f + 1)).map m = (g f).map m
  rw [h f (hf.imp (fun hs => by rwa [Option.isSome_map] at hs) id)]

theorem returns_iff {r : β} : Returns g r ↔ g k = some r := ⟨fun ⟨_, hr⟩ => h.some_at hr, fun hr => ⟨k, hr⟩⟩

end Settles

theorem eq_of_returns_iff {β : Type} {g g' : Nat → Option β} {o o' : Option β} (ho : ∀ r, Returns g r ↔ o = some r)
    (ho' : ∀ r, Returns g' r ↔ o' = some r) (h : ∀ r, Returns g r ↔ Returns g' r) : o = o' :=
  Option.ext fun r => by rw [← ho, ← ho', h]

namespace Returns
variable {α β : Type} {g : Nat → Option α} {r : α}

/-- a function that returns nothing without fuel and, with a unit of fuel, what `g'` returns -/
theorem step {g' : Nat → Option α} (h0 : g 0 = none) (hs : ∀ f, g (f + 1) = g' f) : Returns g r ↔ Returns g' r := by
  constructor
  · rintro ⟨f, h⟩
    cases f with
    | zero => rw [h0] at h; cases h
    | succ f => exact ⟨f, (hs f).symm.trans h⟩
  · rintro ⟨f, h⟩; exact ⟨f + 1, (hs f).trans h⟩

theorem pure {a : α} : Returns (fun _ => some a) r ↔ r = a :=
  ⟨fun ⟨_, h⟩ => (Option.some.inj h).symm, fun h => ⟨0, h ▸ rfl⟩⟩

/-- a sub-run followed by a continuation returns iff the sub-run returns and the continuation returns on its
result; `Keeps` of the continuation is only asked on what the sub-run returns -/
theorem bind {k : Nat → α → Option β} {b : β} (hg : Keeps g) (hk : ∀ a, Returns g a → Keeps fun f => k f a) :
    Returns (fun f => (g f).bind (k f)) b ↔ ∃ a, Returns g a ∧ Returns (fun f => k f a) b := by
  constructor
  · rintro ⟨f, h⟩
    obtain ⟨a, ha, hb⟩ := Option.bind_eq_some_iff.1 h
    exact ⟨a, ⟨f, ha⟩, ⟨f, hb⟩⟩
  · rintro ⟨a, ⟨f1, h1⟩, ⟨f2, h2⟩⟩
    refine ⟨max f1 f2, ?_⟩
    show (g (max f1 f2)).bind (k (max f1 f2)) = some b
    rw [hg.mono (Nat.le_max_left f1 f2) h1]
    exact (hk a ⟨f1, h1⟩).mono (g := fun f => k f a) (Nat.le_max_right f1 f2) h2

/-- a continuation that uses no fuel -/
theorem bind_const {k : α → Option β} {b : β} : Returns (fun f => (g f).bind k) b ↔ ∃ a, Returns g a ∧ k a = some b := by
  constructor
  · rintro ⟨f, h⟩
    obtain ⟨a, ha, hb⟩ := Option.bind_eq_some_iff.1 h
    exact ⟨a, ⟨f, ha⟩, hb⟩
  · rintro ⟨a, ⟨f, h⟩, hb⟩; exact ⟨f, Option.bind_eq_some_iff.2 ⟨a, h, hb⟩⟩

theorem map {m : α → β} {b : β} : Returns (fun f => (g f).map m) b ↔ ∃ a, Returns g a ∧ b = m a := by
  constructor
  · rintro ⟨f, h⟩
    obtain ⟨a, ha, hb⟩ := Option.map_eq_some_iff.1 h
    exact ⟨a, ⟨f, ha⟩, hb.symm⟩
  · rintro ⟨a, ⟨f, h⟩, hb⟩; exact ⟨f, Option.map_eq_some_iff.2 ⟨a, h, hb.symm⟩⟩

theorem det (hg : Keeps g) {r' : α} (h : Returns g r) (h' : Returns g r') : r = r' := by
  obtain ⟨f1, h1⟩ := h
  obtain ⟨f2, h2⟩ := h'
  have a := hg.mono (Nat.le_max_left f1 f2) h1
  rw [hg.mono (Nat.le_max_right f1 f2) h2] at a
  exact (Option.some.inj a).symm

end Returns

end ZygoVerif
