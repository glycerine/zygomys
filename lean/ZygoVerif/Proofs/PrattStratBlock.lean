/-
C06, Pratt loop = stratified grammar: the statements of a block.

`Stmts G E ts xs` — the specification's statements of a block, fuel-free: parse one expression
at the loosest level, skip one `;`, go on; an expression that is just `;` is no statement.
`parseBlock` returns only such lists (`statements_sound`). `InfixExpandArray` (model, with enough
fuel) returns `out` iff the stratified statements are `out` (`expandArray_iff`), for every table and
grammar in correspondence, for every non-empty token list of the fragment.
-/
import ZygoVerif.Proofs.PrattStratTable
namespace ZygoVerif.Pratt
open ZygoVerif.Stratified

def dropSemi : List Sx → List Sx
  | u :: us => if u.isSemi then us else u :: us
  | [] => []

inductive Stmts (G : Grammar) (E : Sx) : List Sx → List Sx → Prop
  | nil : Stmts G E [] []
  | cons (t : Sx) (ts : List Sx) (x : Sx) (rest xs : List Sx) :
      SS G E G (t :: ts) (x, rest) → Stmts G E (dropSemi rest) xs →
      Stmts G E (t :: ts) (if x.isSemi then xs else x :: xs)

theorem statements_succ (G : Grammar) (E : Sx) (f : Nat) (t : Sx) (ts : List Sx) :
    statements G E (f + 1) (t :: ts) =
      match strat G E (Stratified.fuelFor G (t :: ts)) G (t :: ts) with
      | none => none
      | some (x, rest) => (statements G E f (dropSemi rest)).map (fun xs => if x.isSemi then xs else x :: xs) := by
  rw [statements.eq_3]
  cases strat G E (Stratified.fuelFor G (t :: ts)) G (t :: ts) with
  | none => rfl
  | some p =>
    obtain ⟨x, rest⟩ := p
    cases rest <;> rfl

theorem statements_sound (G : Grammar) (E : Sx) : ∀ (f : Nat) (ts out : List Sx),
    statements G E f ts = some out → Stmts G E ts out := by
  intro f
  induction f with
  | zero => intro ts out h; simp [statements] at h
  | succ f ih =>
    intro ts out h
    cases ts with
    | nil => rw [statements.eq_2] at h; cases h; exact Stmts.nil
    | cons t ts =>
      rw [statements_succ] at h
      cases hx : strat G E (Stratified.fuelFor G (t :: ts)) G (t :: ts) with
      | none => rw [hx] at h; cases h
      | some p =>
        obtain ⟨x, rest⟩ := p
        rw [hx] at h
        simp only at h
        cases hr : statements G E f (dropSemi rest) with
        | none => rw [hr] at h; cases h
        | some xs =>
          rw [hr] at h
          simp only [Option.map_some, Option.some.injEq] at h
          subst h
          exact Stmts.cons t ts x rest xs ⟨_, hx⟩ (ih _ _ hr)

theorem Stmts_det {G : Grammar} {E : Sx} {ts o1 o2 : List Sx} (h1 : Stmts G E ts o1) (h2 : Stmts G E ts o2) : o1 = o2 := by
  induction h1 generalizing o2 with
  | nil => cases h2; rfl
  | cons t ts x rest xs hss _ ih =>
    cases h2 with
    | cons _ _ x' rest' xs' hss' hst' =>
      have := SS_det hss hss'
      simp only [Prod.mk.injEq] at this
      obtain ⟨rfl, rfl⟩ := this
      rw [ih hst']

/-- no token is named `for` (labelled `for` statements are outside the fragment) -/
def noFor (ts : List Sx) : Prop := ∀ t ∈ ts, t.isNamed "for" = false

theorem dropSemi_suffix (l : List Sx) : dropSemi l <:+ l := by
  cases l with
  | nil => exact List.suffix_refl _
  | cons u us =>
    simp only [dropSemi]
    split
    · exact List.suffix_cons u us
    · exact List.suffix_refl _

/-- a round of `InfixExpandArray`: one expression, its tree appended unless it is just `;`, one `;` skipped -/
theorem expandArray_succ' (T : Table) (f : Nat) (st : Sx) (ts acc : List Sx)
    (hnf : ∀ l u us, ts = .lab l :: u :: us → u.isNamed "for" = false) :
    expandArray T (f + 1) st ts acc =
      (expr T f 0 st ts).bind fun p =>
        if (dropSemi p.2.2).isEmpty then some (if p.1.isSemi then acc else acc ++ [p.1])
        else expandArray T f p.2.1 (dropSemi p.2.2) (if p.1.isSemi then acc else acc ++ [p.1]) := by
  have hstep : ∀ o : Res, (match o with
      | none => none
      | some (x, st1, ts1) =>
        match ts1 with
        | [] => some (if x.isSemi then acc else acc ++ [x])
        | u :: us =>
          if u.isSemi then (if us.isEmpty then some (if x.isSemi then acc else acc ++ [x])
            else expandArray T f st1 us (if x.isSemi then acc else acc ++ [x]))
          else expandArray T f st1 ts1 (if x.isSemi then acc else acc ++ [x])) =
      o.bind fun p =>
        if (dropSemi p.2.2).isEmpty then some (if p.1.isSemi then acc else acc ++ [p.1])
        else expandArray T f p.2.1 (dropSemi p.2.2) (if p.1.isSemi then acc else acc ++ [p.1]) := by
    intro o
    cases o with
    | none => rfl
    | some p =>
      obtain ⟨x, st1, ts1⟩ := p
      cases ts1 with
      | nil => rfl
      | cons u us => cases hu : u.isSemi <;> simp [dropSemi, hu]
  rw [← hstep]
  conv => lhs; unfold expandArray
  split
  · rename_i l u us
    simp only [hnf l u us rfl, Bool.false_eq_true, ↓reduceIte]
    rfl
  · rfl

theorem expandArray_succ (T : Table) (f : Nat) (st : Sx) (ts acc : List Sx) (hnf : noFor ts) :
    expandArray T (f + 1) st ts acc =
      (expr T f 0 st ts).bind fun p =>
        if (dropSemi p.2.2).isEmpty then some (if p.1.isSemi then acc else acc ++ [p.1])
        else expandArray T f p.2.1 (dropSemi p.2.2) (if p.1.isSemi then acc else acc ++ [p.1]) :=
  expandArray_succ' T f st ts acc fun l u us h => hnf u (by rw [h]; simp)

/-- the measure: `Expression` consumes at least the first token of each statement -/
theorem expandArray_settles {T : Table} (hc : okNudB T (.sym ":") = true) {ts : List Sx} (hfr : fragList (okNudB T) ts = true)
    (hnf : noFor ts) {st : Sx} {acc : List Sx} : Settles (fun f => expandArray T f st ts acc) (pwList ts + 2) := by
  induction hn : pwList ts using Nat.strongRecOn generalizing ts st acc with
  | _ n ih =>
    subst hn
    refine Settles.step rfl (fun f => expandArray_succ T f st ts acc hnf) <| (expr_settles hc hfr).bind fun p ⟨f, hp⟩ => ?_
    replace hp : expr T f 0 st ts = some p := hp
    by_cases he : (dropSemi p.2.2).isEmpty = true
    · simp only [if_pos he]; exact Settles.const _ _
    · simp only [if_neg he]
      cases ts with
      | nil =>
        cases f with
        | zero => simp [expr] at hp
        | succ f => rw [expr.eq_2] at hp; cases hp; exact absurd rfl he
      | cons t ts' =>
        have hs1 : dropSemi p.2.2 <:+ ts' := (dropSemi_suffix _).trans (expr_consumes hfr hp)
        have hs := hs1.trans (List.suffix_cons t ts')
        have := pwList_suffix hs1
        have := pwList_cons_lt t ts'
        exact (ih _ (by omega) (frag_suffix hfr hs) (fun a ha => hnf a (hs.subset ha)) rfl).of_le (by omega)

/-- `InfixExpandArray` = the stratified statements: with the statements `acc` collected so far, the loop returns
`out` (with enough fuel) iff `out` is `acc` followed by the stratified statements of the remaining tokens. -/
theorem expandArray_iff {T : Table} {G : Grammar} {bps : List Nat} (hC : Corr T G bps) (E : Sx) :
    ∀ (ts : List Sx), ts ≠ [] → Frag T G ts → noFor ts → ∀ (acc out : List Sx),
    Returns (fun f => expandArray T f E ts acc) out ↔ ∃ xs, Stmts G E ts xs ∧ out = acc ++ xs := by
  have hcn := Corr.colonNud hC
  intro ts
  induction hn : ts.length using Nat.strongRecOn generalizing ts with
  | _ n ih =>
    intro hne hfr hnf acc out
    cases ts with
    | nil => exact absurd rfl hne
    | cons t ts' =>
      have hnfr := hfr.nudFrag
      -- what is left after the first expression (`Expression` consumes at least the first token) is shorter and in
      -- the fragment
      have hrest : ∀ {f : Nat} {p : Sx × Sx × List Sx}, expr T f 0 E (t :: ts') = some p →
          p.2.1 = E ∧ (dropSemi p.2.2).length < n ∧ Frag T G (dropSemi p.2.2) ∧ noFor (dropSemi p.2.2) := by
        intro f p he
        have hs1 : dropSemi p.2.2 <:+ ts' := (dropSemi_suffix _).trans (expr_consumes hnfr he)
        have hs := hs1.trans (List.suffix_cons t ts')
        have := hs1.length_le
        exact ⟨(expr_stale_suffix hnfr _ _ he).1, by simp only [List.length_cons] at hn; omega, hfr.suffix hs,
          fun a ha => hnf a (hs.subset ha)⟩
      -- the rounds after the first: the statements of what is left
      have hcont : ∀ {f0 : Nat} {p : Sx × Sx × List Sx} (acc' : List Sx), expr T f0 0 E (t :: ts') = some p →
          (Keeps fun f => if (dropSemi p.2.2).isEmpty then some acc' else expandArray T f p.2.1 (dropSemi p.2.2) acc') ∧
          (Returns (fun f => if (dropSemi p.2.2).isEmpty then some acc' else expandArray T f p.2.1 (dropSemi p.2.2) acc') out ↔
            ∃ xs, Stmts G E (dropSemi p.2.2) xs ∧ out = acc' ++ xs) := by
        intro f0 p acc' he
        obtain ⟨hst, hlen, hfr1, hnf1⟩ := hrest he
        by_cases hemp : (dropSemi p.2.2).isEmpty = true
        · rw [List.isEmpty_iff.1 hemp]
          simp only [List.isEmpty_nil, ↓reduceIte, Returns.pure]
          exact ⟨Keeps.const _, fun h => ⟨[], Stmts.nil, by rw [h, List.append_nil]⟩,
            fun ⟨xs, hs, h⟩ => by cases hs; rw [h, List.append_nil]⟩
        · simp only [if_neg hemp, hst]
          exact ⟨(expandArray_settles hcn hfr1.nudFrag hnf1).keeps,
            ih _ hlen _ rfl (fun h => hemp (by rw [h]; rfl)) hfr1 hnf1 acc' out⟩
      have hacc : ∀ (x : Sx) (xs : List Sx), acc ++ (if x.isSemi = true then xs else x :: xs) =
          (if x.isSemi = true then acc else acc ++ [x]) ++ xs := by
        intro x xs; by_cases hxs : x.isSemi = true <;> simp [hxs]
      refine (Returns.step rfl fun f => expandArray_succ T f E _ acc hnf).trans ?_
      refine (Returns.bind (expr_settles hcn hnfr).keeps fun p ⟨_, hp⟩ => (hcont _ hp).1).trans ?_
      constructor
      · rintro ⟨⟨x, st1, ts1⟩, ⟨f, hx⟩, h2⟩
        obtain ⟨xs, hst, hout⟩ := ((hcont _ hx).2).1 h2
        obtain rfl : E = st1 := (hrest hx).1.symm
        exact ⟨_, Stmts.cons t ts' x ts1 xs ((pratt_iff_strat hC _ hfr E _).1 ⟨f, hx⟩) hst, by rw [hout, hacc]⟩
      · rintro ⟨_, hst, rfl⟩
        cases hst with
        | cons _ _ x rest xs hss hst' =>
          obtain ⟨f, hx⟩ := (pratt_iff_strat hC _ hfr E _).2 hss
          exact ⟨_, ⟨f, hx⟩, ((hcont _ hx).2).2 ⟨xs, hst', hacc x xs⟩⟩

end ZygoVerif.Pratt
