/-
C02, execution half — top level: a program text of the fragment Fv (literals, symbols,
`def`, `set`, `begin`, `cond`, `and`, `or`, `newScope`, `let`), loaded and run by the VM model and
evaluated by the reference evaluator, from related states.
-/
import ZygoVerif.Proofs.SimFv
import ZygoVerif.Proofs.SimText
import ZygoVerif.Proofs.SimCall
namespace ZygoVerif.Sim
open ZygoVerif.Core ZygoVerif.VM

theorem rel_initSt : Rel initSt Ref.initSt 0 := by
  refine ⟨⟨rfl, ?_, ?_, ?_, rfl, rfl⟩, rfl, rfl⟩
  · intro i x
    cases i with
    | zero => rfl
    | succ i => rfl
  · intro i
    cases i with
    | zero => rfl
    | succ i => rfl
  · exact Chain.root _ rfl rfl

/-- loading a text keeps the relation (it touches the code of `__main`, `curfunc` and the trace) -/
theorem Rel.loaded {s : St} {rs : Ref.St} (h : Rel s rs 0) (hs : AtRest s) (code : List Instr) :
    Rel (loadState (clearTrace s) (clearTrace s) code) { rs with trace := [] } 0 := by
  have hf : fnOf (loadState (clearTrace s) (clearTrace s) code) (loadState (clearTrace s) (clearTrace s) code).curfunc
      = { fnOf s mainFn with code := (fnOf s mainFn).code ++ (if (clearTrace s).pc ≥ curSize (clearTrace s) then [] else [.pop]) ++ code } := by
    show (List.set s.fns mainFn _).getD mainFn {} = _
    simp only [List.getD_eq_getElem?_getD, List.getElem?_set_self hs.main, Option.getD_some]
    rfl
  have hcur := hs.cur
  exact ⟨⟨h.len, h.vars, h.nofn, h.chain, h.heap, rfl⟩,
    by rw [hf]; have := h.fnpar; rw [hcur] at this; exact this,
    by rw [hf]; have := h.fnclo; rw [hcur] at this; exact this⟩

/-- what `runText` must report for a reference result; the final states are related again -/
def TextAgrees (out : VM.Outcome × St × Bool) (res : Ref.R Val) : Prop := TextOutQ (fun sf rs' => Rel sf rs' 0) out res

/-- A non-empty Fv program text, loaded and run, from a resting VM state related to the
reference state: with enough fuel, `runText` reports class `ok` with the
value and trace of the reference evaluator (and the final states are related again), or class
`err` with the reference trace — whichever the reference evaluator yields. -/
theorem runText_Fv (s : St) (rs : Ref.St) (p : List Expr) (hne : p ≠ []) (hp : FvList p = true)
    (hs : AtRest s) (hrel : Rel s rs 0) (n : Nat) :
    ∃ N, ∀ fuel, N ≤ fuel → TextAgrees (runText fuel p s) (Ref.evalBegin n p 0 { rs with trace := [] }) := by
  obtain ⟨code, t, hc, -⟩ := compileBegin_total_Fv p hne hp (isFnScope s) {}
    s.gs
  have hseg := hs.loaded code
  have hsim := segment_Fv_begin p hne hp _ _ _ code t _ hc _ _ 0 _ [] (hrel.loaded hs code) hseg n
  refine runText_of_run _ s p hc ?_
  cases hres : Ref.evalBegin n p 0 { rs with trace := [] } with
  | ok v rs' =>
    rw [hres] at hsim
    obtain ⟨s1, r, l, rel1, -⟩ := hsim
    exact ⟨_, v, ⟨code.length + 3, fun fuel hf => run_of_reach hseg r l.fn l.pc l.data fuel hf⟩, congrArg (pr · v) rel1.heap, rel1.trace,
      rel1.jmp _ _⟩
  | err rs' => rw [hres] at hsim; exact run_of_failsE hsim.toX
  | timeout => trivial
  | brk l rs' => rw [hres] at hsim; exact hsim
  | cont l rs' => rw [hres] at hsim; exact hsim

end ZygoVerif.Sim
