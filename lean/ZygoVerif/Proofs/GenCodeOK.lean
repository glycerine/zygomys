/-
What generated code carries with it: the expressions inside `callExpr`
and `pushLazy` (compiled at run time by `EvalCallExpression` / `Force`) are again in the covered
grammar, pushed constants are literals, loop ids name existing loop records, and every
template has a well-formed signature. A walk over the successful runs (`cokWalk`, on `GenWalk`).
Used by the run-time invariant of Proofs/RunInv.lean ("compile at run time only adds verified
functions").
-/
import ZygoVerif.Proofs.GenBalancedAll
namespace ZygoVerif.Bal
open ZygoVerif.VM ZygoVerif.Core
open ZygoVerif.Sim (forGs forDone forCode)

def litVal : Val → Bool
  | .nil => true
  | .bool _ => true
  | .int _ => true
  | .str _ => true
  | _ => false

structure Sz where
  loops : Nat
  fns : Nat

def Sz.le (a b : Sz) : Prop := a.loops ≤ b.loops ∧ a.fns ≤ b.fns

def szOf (gs : GS) : Sz := ⟨gs.loops.length, gs.fns.length⟩

/-- an instruction of generated code, with tables of sizes `N` (function ids 0 and 1 are `__main` and the builtin stub of
`initSt`: never a template) -/
def instrOK (N : Sz) : Instr → Bool
  | .callExpr c as => okL c && okLs as
  | .pushLazy e => okL e
  | .push v => litVal v
  | .brk l _ => decide (l < N.loops)
  | .cont l _ => decide (l < N.loops)
  | .createClosure t => decide (2 ≤ t ∧ t < N.fns)
  | _ => true

def AllOK (N : Sz) (code : List Instr) : Prop := ∀ i ∈ code, instrOK N i = true

theorem instrOK_mono {N M : Sz} (h : N.le M) (i : Instr) (hi : instrOK N i = true) : instrOK M i = true := by
  obtain ⟨h1, h2⟩ := h
  cases i <;> simp only [instrOK, decide_eq_true_eq] at hi ⊢ <;> first | exact hi | omega

theorem AllOK.mono {N M : Sz} {code : List Instr} (h : AllOK N code) (hle : N.le M) : AllOK M code :=
  fun i hi => instrOK_mono hle i (h i hi)

theorem Ext.sz {a b : GS} (h : Ext a b) : (szOf a).le (szOf b) := ⟨h.loops_len, h.fns_len⟩

theorem AllOK.monoE {a b : GS} {code : List Instr} (h : AllOK (szOf a) code) (e : Ext a b) : AllOK (szOf b) code :=
  h.mono e.sz

theorem AllOK.nil (N : Sz) : AllOK N [] := fun _ h => by cases h

theorem AllOK.append {N : Sz} {a b : List Instr} (ha : AllOK N a) (hb : AllOK N b) : AllOK N (a ++ b) :=
  List.forall_mem_append.mpr ⟨ha, hb⟩

theorem AllOK.of_forall {N : Sz} {code : List Instr} (h : ∀ i ∈ code, instrOK N i = true) : AllOK N code := h

theorem AllOK.cons {N : Sz} {i : Instr} {code : List Instr} (hi : instrOK N i = true) (h : AllOK N code) :
    AllOK N (i :: code) :=
  List.forall_mem_cons.mpr ⟨hi, h⟩

theorem AllOK.asmCond {N : Sz} : ∀ (arms : List (List Instr × List Instr)) (d : List Instr),
    AllOK N d → (∀ a ∈ arms, AllOK N a.1 ∧ AllOK N a.2) → AllOK N (asmCond arms d)
  | [], d, hd, _ => by simpa [VM.asmCond] using hd
  | (p, b) :: arms, d, hd, h => by
    have ih := AllOK.asmCond arms d hd (fun a ha => h a (by simp [ha]))
    obtain ⟨hp, hb⟩ := h (p, b) (by simp)
    simp only [VM.asmCond]
    exact (((hp.append (.cons rfl (.nil _))).append hb).append (.cons rfl (.nil _))).append ih

theorem AllOK.asmSC {N : Sz} (isOr : Bool) : ∀ (cs : List (List Instr)), (∀ c ∈ cs, AllOK N c) → AllOK N (asmSC isOr cs)
  | [], _ => .cons rfl (.nil _)
  | [c], h => by simpa [VM.asmSC] using h c (by simp)
  | c :: c' :: rest, h => by
    have ih := AllOK.asmSC isOr (c' :: rest) (fun x hx => h x (by simp [hx]))
    simp only [VM.asmSC]
    exact ((h c (by simp)).append (.cons rfl (.cons rfl (.cons rfl (.nil _))))).append ih

theorem allOK_forCode {N : Sz} (loop : Nat) (i t s b : List Instr)
    (hi : AllOK N i) (ht : AllOK N t) (hs : AllOK N s) (hb : AllOK N b) : AllOK N (forCode loop i t s b) := by
  have app : ∀ {a b}, AllOK N (a ++ b) ↔ AllOK N a ∧ AllOK N b := List.forall_mem_append
  have cons : ∀ {x c}, AllOK N (x :: c) ↔ instrOK N x = true ∧ AllOK N c := List.forall_mem_cons
  have nil : AllOK N [] ↔ True := iff_true_intro (AllOK.nil N)
  rw [Sim.forCode_lFor]
  simp only [Sim.lFor, Sim.lCont, Sim.lTest, Sim.lEnd, app, cons, nil, hi, ht, hs, hb, instrOK, litVal, and_self]

def tmplOK (N : Sz) (f : FnObj) : Prop :=
  AllOK N f.code ∧ f.user = false ∧ f.params.length = f.nargs + (if f.varargs then 1 else 0)

structure COK (gs gs' : GS) (code : List Instr) : Prop where
  code : AllOK (szOf gs') code
  fns : ∀ i f, gs.fns.length ≤ i → gs'.fns[i]? = some f → tmplOK (szOf gs') f

theorem tmplOK.mono {N M : Sz} {f : FnObj} (h : tmplOK N f) (hle : N.le M) : tmplOK M f :=
  ⟨h.1.mono hle, h.2⟩

/-- the `fns` field of `COK` alone: for the arms of `cond` and `and`/`or`, which return no single code -/
def FnsCOK (gs gs' : GS) : Prop := ∀ i f, gs.fns.length ≤ i → gs'.fns[i]? = some f → tmplOK (szOf gs') f

theorem FnsCOK.refl (gs : GS) : FnsCOK gs gs := by
  intro i f hi hf
  have : i < gs.fns.length := by
    rcases Nat.lt_or_ge i gs.fns.length with h | h
    · exact h
    · rw [List.getElem?_eq_none_iff.mpr h] at hf; cases hf
  omega

theorem FnsCOK.trans {a b c : GS} (h1 : FnsCOK a b) (h2 : FnsCOK b c) (e2 : Ext b c) : FnsCOK a c := by
  intro i f hi hf
  rcases Nat.lt_or_ge i b.fns.length with h | h
  · rw [e2.fns_get i h] at hf
    exact (h1 i f hi hf).mono e2.sz
  · exact h2 i f h hf

theorem COK.seq {gs gs1 gs2 : GS} {c1 c2 : List Instr} (r1 : COK gs gs1 c1) (r2 : COK gs1 gs2 c2) (e2 : Ext gs1 gs2) :
    COK gs gs2 (c1 ++ c2) :=
  ⟨(r1.code.monoE e2).append r2.code, FnsCOK.trans r1.fns r2.fns e2⟩

theorem COK.recode {gs gs' : GS} {c c' : List Instr} (r : COK gs gs' c) (h : AllOK (szOf gs') c') : COK gs gs' c' :=
  ⟨h, r.fns⟩

theorem COK.atom (gs : GS) (i : Instr) (h : instrOK (szOf gs) i = true) : COK gs gs [i] :=
  ⟨.cons h (.nil _), FnsCOK.refl gs⟩

theorem szOf_finish (t : Nat) (b : List Instr) (g2 : GS) : szOf (finishGs t b g2) = szOf g2 := by
  simp [szOf, finishGs]

theorem szOf_forDone (g5 : GS) (l : Nat) (x y : Int) : szOf (forDone g5 l x y) = szOf g5 := by
  simp [szOf, forDone]

theorem AllOK.map_reverse {α} {N : Sz} (f : α → Instr) (h : ∀ a, instrOK N (f a) = true) (l : List α) :
    AllOK N (l.map f).reverse := fun x hx => by
  obtain ⟨a, _, rfl⟩ := List.mem_map.mp (List.mem_reverse.mp hx)
  exact h a

theorem cok_template (isFn : Nat → Bool) (gs g2 : GS) (name : String) (ps : List String) (rest : Option String)
    (b : List Instr) (e : Ext (allocGs isFn gs name ps rest) g2) (hb : COK (allocGs isFn gs name ps rest) g2 b) :
    FnsCOK gs (finishGs gs.fns.length b g2) := by
  intro i f hi hf
  rw [szOf_finish]
  by_cases hit : i = gs.fns.length
  · subst hit
    rw [finishGs_get_self e] at hf
    cases hf
    refine ⟨?_, rfl, params_len ps rest⟩
    show AllOK (szOf g2) (fnCode gs.fns.length (ps ++ rest.toList) b)
    simp only [fnCode]
    exact ((AllOK.append (.cons rfl (.nil _)) (.map_reverse _ (fun _ => rfl) _)).append hb.code).append
      (.cons rfl (.cons rfl (.nil _)))
  · rw [finishGs_get_ne (Ne.symm hit)] at hf
    refine hb.fns i f ?_ hf
    simp only [allocGs, List.length_append, List.length_cons, List.length_nil]
    omega

theorem closure_ok {isFn : Nat → Bool} {gs g2 : GS} {name : String} {ps : List String} {rest : Option String}
    {b : List Instr} (hn2 : 2 ≤ gs.fns.length) (eb : Ext (allocGs isFn gs name ps rest) g2) :
    instrOK (szOf (finishGs gs.fns.length b g2)) (.createClosure gs.fns.length) = true := by
  have : gs.fns.length + 1 ≤ g2.fns.length := by simpa [allocGs] using eb.fns_len
  have hl : (finishGs gs.fns.length b g2).fns.length = g2.fns.length := List.length_set ..
  exact decide_eq_true ⟨hn2, by show _ < (finishGs gs.fns.length b g2).fns.length; omega⟩

@[reducible] def cokWalk (isFn : Nat → Bool) : GenWalk isFn where
  E _ e gs a _ g' := okL e = true → GSok gs → 2 ≤ gs.fns.length → COK gs g' a
  A _ es gs a _ g' := okLs es = true → GSok gs → 2 ≤ gs.fns.length → COK gs g' a
  C _ _ _ es gs a g' := okLs es = true → GSok gs → 2 ≤ gs.fns.length → COK gs g' a
  B _ es gs a _ g' := okLs es = true → GSok gs → 2 ≤ gs.fns.length → COK gs g' a
  R _ arms gs as g' := okLArms arms = true → GSok gs → 2 ≤ gs.fns.length →
    (∀ a ∈ as, AllOK (szOf g') a.1 ∧ AllOK (szOf g') a.2) ∧ FnsCOK gs g'
  S _ es gs cs g' := okLs es = true → GSok gs → 2 ≤ gs.fns.length → (∀ x ∈ cs, AllOK (szOf g') x) ∧ FnsCOK gs g'
  L _ _ bs gs a _ g' := okLBinds bs = true → GSok gs → 2 ≤ gs.fns.length → COK gs g' a
  N _ _ es gs a _ g' := okLs es = true → GSok gs → 2 ≤ gs.fns.length → COK gs g' a
  int _ _ _ _ := COK.atom _ _ (by simp [instrOK, litVal, intOfLit])
  bool _ _ _ _ := COK.atom _ _ rfl
  str _ _ _ _ := COK.atom _ _ rfl
  nil _ _ _ := COK.atom _ _ rfl
  sym _ _ _ _ := COK.atom _ _ rfl
  arr _ ih hok hgs hn2 := (ih hok hgs hn2).recode ((ih hok hgs hn2).code.append (.cons rfl (.nil _)))
  call f args hok _ _ := COK.atom _ _ (by
    show (okL f && okLs args) = true
    cases f <;> first | exact hok | exact (okL_call_sym hok).2)
  selfCall _ _ _ _ _ ih hok hgs hn2 := by
    have r := ih (okL_call_sym hok).2 hgs hn2
    refine r.recode (((((AllOK.cons rfl (.nil _)).append r.code).append (.cons rfl (.nil _))).append ?_).append
      (.cons rfl (.cons (okL_call_sym hok).2 (.nil _))))
    intro x hx
    rw [List.eq_of_mem_replicate hx]; rfl
  beginNil _ _ _ := COK.atom _ _ rfl
  begin_ _ ih := ih
  def_ _ _ ih hok hgs hn2 := (ih hok hgs hn2).recode ((ih hok hgs hn2).code.append (.cons rfl (.cons rfl (.nil _))))
  set_ _ _ ih hok hgs hn2 := (ih hok hgs hn2).recode ((ih hok hgs hn2).code.append (.cons rfl (.cons rfl (.nil _))))
  cond hd ihd ha iha hok hgs hn2 := by
    have hok := Bool.and_eq_true_iff.mp hok
    have rd := ihd hok.2 hgs hn2
    obtain ⟨ra, rf⟩ := iha hok.1 (hgs.ext (ext_compile hd)) (Nat.le_trans hn2 (ext_compile hd).fns_len)
    exact ⟨AllOK.asmCond _ _ (rd.code.monoE (ext_compileArms ha)) ra, FnsCOK.trans rd.fns rf (ext_compileArms ha)⟩
  and_ _ ih hok hgs hn2 := ⟨AllOK.asmSC false _ (ih hok hgs hn2).1, (ih hok hgs hn2).2⟩
  or_ _ ih hok hgs hn2 := ⟨AllOK.asmSC true _ (ih hok hgs hn2).1, (ih hok hgs hn2).2⟩
  let_ seq bs hr ihr hb ihb hok hgs hn2 := by
    obtain ⟨hokb, -, hokbody⟩ := okL_let hok
    have rr := ihr hokb hgs hn2
    have rb := ihb hokbody (hgs.ext (ext_compileBinds hr)) (Nat.le_trans hn2 (ext_compileBinds hr).fns_len)
    refine ⟨((((AllOK.cons rfl (.nil _)).append (rr.code.monoE (ext_compileBegin hb))).append ?_).append rb.code).append
      (.cons rfl (.nil _)), FnsCOK.trans rr.fns rb.fns (ext_compileBegin hb)⟩
    cases seq
    · exact .map_reverse _ (fun _ => rfl) _
    · exact AllOK.nil _
  newScopeNil _ _ _ := COK.atom _ _ rfl
  newScope _ ih hok hgs hn2 :=
    (ih hok hgs hn2).recode (((AllOK.cons rfl (.nil _)).append (ih hok hgs hn2).code).append (.cons rfl (.nil _)))
  for_ c gs label hb ihb hi ihi ht iht hs ihs hok hgs hn2 := by
    obtain ⟨hoi, hot, hos, hob⟩ := okL_for hok
    have eb := ext_compileBegin hb; have ei := ext_compile hi; have et := ext_compile ht; have es := ext_compile hs
    have hgA := (hgs.for_ c label).ext eb
    have rb := ihb hob (hgs.for_ c label) hn2
    have ri := ihi hoi hgA (Nat.le_trans hn2 eb.fns_len)
    have rt := iht hot (hgA.ext ei) (Nat.le_trans hn2 (eb.trans ei).fns_len)
    have rs := ihs hos ((hgA.ext ei).ext et) (Nat.le_trans hn2 ((eb.trans ei).trans et).fns_len)
    refine ⟨?_, ?_⟩
    · show AllOK (szOf (forDone _ _ _ _)) _
      rw [szOf_forDone]
      exact allOK_forCode _ _ _ _ _ (ri.code.monoE (et.trans es)) (rt.code.monoE es) rs.code (rb.code.monoE (ei.trans (et.trans es)))
    · have hall :=
        FnsCOK.trans (FnsCOK.trans (FnsCOK.trans rb.fns ri.fns ei) rt.fns et) rs.fns es
      intro i f hi' hf
      show tmplOK (szOf (forDone _ _ _ _)) f
      rw [szOf_forDone]
      exact hall i f hi' hf
  break_ hf _ hgs _ := COK.atom _ _ (decide_eq_true (hgs _ (findLoop_mem hf)))
  continue_ hf _ hgs _ := COK.atom _ _ (decide_eq_true (hgs _ (findLoop_mem hf)))
  fn c gs ps rest hb ih hok hgs hn2 :=
    have rb := ih (okL_body hok).2 (hgs.alloc isFn "" ps rest) (Nat.le_trans hn2 (Ext.alloc isFn gs "" ps rest).fns_len)
    ⟨.cons (closure_ok hn2 (ext_compileBegin hb)) (.nil _), cok_template isFn gs _ "" ps rest _ (ext_compileBegin hb) rb⟩
  defn c gs name ps rest hb ih hok hgs hn2 :=
    have rb := ih (okL_body hok).2 (hgs.alloc isFn name ps rest) (Nat.le_trans hn2 (Ext.alloc isFn gs name ps rest).fns_len)
    ⟨.cons (closure_ok hn2 (ext_compileBegin hb)) (.cons rfl (.cons rfl (.nil _))),
      cok_template isFn gs _ name ps rest _ (ext_compileBegin hb) rb⟩
  assign ha iha hb ihb hok hgs hn2 := by
    have hok := Bool.and_eq_true_iff.mp hok
    have ra := iha hok.1 hgs hn2
    have rb := ihb hok.2 (hgs.ext (ext_compile ha)) (Nat.le_trans hn2 (ext_compile ha).fns_len)
    exact (ra.seq rb (ext_compile hb)).recode (((ra.code.monoE (ext_compile hb)).append rb.code).append (.cons rfl (.nil _)))
  allNil _ _ _ := ⟨.nil _, FnsCOK.refl _⟩
  allCons ha iha hb ihb hok hgs hn2 :=
    have hok := Bool.and_eq_true_iff.mp hok
    (iha hok.1 hgs hn2).seq (ihb hok.2 (hgs.ext (ext_compile ha)) (Nat.le_trans hn2 (ext_compile ha).fns_len)) (ext_compileAll hb)
  argsNil _ _ _ := ⟨.nil _, FnsCOK.refl _⟩
  argsLazy _ hb ih hok hgs hn2 :=
    have hok := Bool.and_eq_true_iff.mp hok
    (COK.atom _ (.pushLazy _) hok.1).seq (ih hok.2 hgs hn2) (ext_compileCallArgs hb)
  argsCons ha iha hb ihb hok hgs hn2 :=
    have hok := Bool.and_eq_true_iff.mp hok
    (iha hok.1 hgs hn2).seq (ihb hok.2 (hgs.ext (ext_compile ha)) (Nat.le_trans hn2 (ext_compile ha).fns_len)) (ext_compileCallArgs hb)
  beginNilL _ _ _ := ⟨.nil _, FnsCOK.refl _⟩
  beginOne _ ih hok := ih (Bool.and_eq_true_iff.mp hok).1
  beginCons a ha iha hb ihb hok hgs hn2 := by
    have hok := Bool.and_eq_true_iff.mp hok
    have r1 := iha hok.1 hgs hn2
    have r2 := ihb hok.2 (hgs.ext (ext_compile ha)) (Nat.le_trans hn2 (ext_compile ha).fns_len)
    refine (r1.seq r2 (ext_compileBegin hb)).recode (((r1.code.monoE (ext_compileBegin hb)).append ?_).append r2.code)
    cases a.isEmpty
    · exact .cons rfl (.nil _)
    · exact .nil _
  armsNil _ _ _ := ⟨fun a ha => (nomatch ha), FnsCOK.refl _⟩
  armsCons hr ihr hp ihp hb ihb hok hgs hn2 := by
    have hok := Bool.and_eq_true_iff.mp hok
    have hok1 := Bool.and_eq_true_iff.mp hok.1
    have er := ext_compileArms hr; have ep := ext_compile hp; have eb := ext_compile hb
    obtain ⟨rr, rf⟩ := ihr hok.2 hgs hn2
    have rp := ihp hok1.1 (hgs.ext er) (Nat.le_trans hn2 er.fns_len)
    have rb := ihb hok1.2 ((hgs.ext er).ext ep) (Nat.le_trans hn2 (er.trans ep).fns_len)
    refine ⟨fun a ha => ?_, FnsCOK.trans (FnsCOK.trans rf rp.fns ep) rb.fns eb⟩
    rcases List.mem_cons.mp ha with rfl | ha
    · exact ⟨rp.code.monoE eb, rb.code⟩
    · exact ⟨(rr a ha).1.monoE (ep.trans eb), (rr a ha).2.monoE (ep.trans eb)⟩
  scNil _ _ _ := ⟨fun x hx => (nomatch hx), FnsCOK.refl _⟩
  scOne _ ih hok hgs hn2 :=
    have ra := ih (Bool.and_eq_true_iff.mp hok).1 hgs hn2
    ⟨fun x hx => by rw [List.mem_singleton.mp hx]; exact ra.code, ra.fns⟩
  scCons hr ihr ha iha hok hgs hn2 := by
    have hok := Bool.and_eq_true_iff.mp hok
    obtain ⟨rr, rf⟩ := ihr hok.2 hgs hn2
    have ra := iha hok.1 (hgs.ext (ext_compileSC hr)) (Nat.le_trans hn2 (ext_compileSC hr).fns_len)
    refine ⟨fun x hx => ?_, FnsCOK.trans rf ra.fns (ext_compile ha)⟩
    rcases List.mem_cons.mp hx with rfl | hx
    · exact ra.code
    · exact (rr x hx).monoE (ext_compile ha)
  bindsNil _ _ _ := ⟨.nil _, FnsCOK.refl _⟩
  bindsCons seq _ ha iha hb ihb hok hgs hn2 := by
    have hok := Bool.and_eq_true_iff.mp hok
    have r1 := iha hok.1 hgs hn2
    have r2 := ihb hok.2 (hgs.ext (ext_compile ha)) (Nat.le_trans hn2 (ext_compile ha).fns_len)
    refine (r1.seq r2 (ext_compileBinds hb)).recode (((r1.code.monoE (ext_compileBinds hb)).append ?_).append r2.code)
    cases seq
    · exact .nil _
    · exact .cons rfl (.nil _)
  nsNil _ _ _ := ⟨.nil _, FnsCOK.refl _⟩
  nsOne _ ih hok := ih (Bool.and_eq_true_iff.mp hok).1
  nsCons ha iha hb ihb hok hgs hn2 := by
    have hok := Bool.and_eq_true_iff.mp hok
    have r1 := iha hok.1 hgs hn2
    have r2 := ihb hok.2 (hgs.ext (ext_compile ha)) (Nat.le_trans hn2 (ext_compile ha).fns_len)
    exact (r1.seq r2 (ext_compileNewScope hb)).recode (((r1.code.monoE (ext_compileNewScope hb)).append (.cons rfl (.nil _))).append r2.code)

theorem cok_compile (isFn : Nat → Bool) : ∀ (e : Expr) (c : Ctx) (gs : GS) (code : List Instr) (t : Bool) (gs' : GS),
    okL e = true → GSok gs → 2 ≤ gs.fns.length → compile isFn c e gs = Except.ok ((code, t), gs') → COK gs gs' code :=
  fun e _ _ _ _ _ hok hgs hn2 h => (cokWalk isFn).of_compile e h hok hgs hn2

theorem cok_compileAll (isFn : Nat → Bool) : ∀ (es : List Expr) (c : Ctx) (gs : GS) (code : List Instr) (t : Bool) (gs' : GS),
    okLs es = true → GSok gs → 2 ≤ gs.fns.length → compileAll isFn c es gs = Except.ok ((code, t), gs') → COK gs gs' code :=
  fun es _ _ _ _ _ hok hgs hn2 h => (cokWalk isFn).of_compileAll es h hok hgs hn2

theorem cok_compileCallArgs (isFn : Nat → Bool) : ∀ (args : List Expr) (c : Ctx) (f : Option FnObj) (i : Nat) (gs : GS)
    (code : List Instr) (gs' : GS),
    okLs args = true → GSok gs → 2 ≤ gs.fns.length → compileCallArgs isFn c f i args gs = Except.ok (code, gs') → COK gs gs' code ∧ Ext gs gs' :=
  fun args _ _ _ _ _ _ hok hgs hn2 h => ⟨(cokWalk isFn).of_compileCallArgs args h hok hgs hn2, ext_compileCallArgs h⟩

theorem cok_compileBegin (isFn : Nat → Bool) : ∀ (es : List Expr) (c : Ctx) (gs : GS) (code : List Instr) (t : Bool) (gs' : GS),
    okLs es = true → GSok gs → 2 ≤ gs.fns.length → compileBegin isFn c es gs = Except.ok ((code, t), gs') → COK gs gs' code :=
  fun es _ _ _ _ _ hok hgs hn2 h => (cokWalk isFn).of_compileBegin es h hok hgs hn2

theorem cok_compileArms (isFn : Nat → Bool) : ∀ (arms : List (Expr × Expr)) (c : Ctx) (gs : GS)
    (as : List (List Instr × List Instr)) (gs' : GS),
    okLArms arms = true → GSok gs → 2 ≤ gs.fns.length → compileArms isFn c arms gs = Except.ok (as, gs') →
    (∀ a ∈ as, AllOK (szOf gs') a.1 ∧ AllOK (szOf gs') a.2) ∧ FnsCOK gs gs' :=
  fun arms _ _ _ _ hok hgs hn2 h => (cokWalk isFn).of_compileArms arms h hok hgs hn2

theorem cok_compileSC (isFn : Nat → Bool) : ∀ (es : List Expr) (c : Ctx) (gs : GS) (cs : List (List Instr)) (gs' : GS),
    okLs es = true → GSok gs → 2 ≤ gs.fns.length → compileSC isFn c es gs = Except.ok (cs, gs') →
    (∀ x ∈ cs, AllOK (szOf gs') x) ∧ FnsCOK gs gs' :=
  fun es _ _ _ _ hok hgs hn2 h => (cokWalk isFn).of_compileSC es h hok hgs hn2

theorem cok_compileBinds (isFn : Nat → Bool) : ∀ (bs : List (String × Expr)) (c : Ctx) (seq : Bool) (gs : GS)
    (code : List Instr) (t : Bool) (gs' : GS),
    okLBinds bs = true → GSok gs → 2 ≤ gs.fns.length → compileBinds isFn c seq bs gs = Except.ok ((code, t), gs') → COK gs gs' code :=
  fun bs _ _ _ _ _ _ hok hgs hn2 h => (cokWalk isFn).of_compileBinds bs h hok hgs hn2

theorem cok_compileNewScope (isFn : Nat → Bool) : ∀ (es : List Expr) (c : Ctx) (oldtail : Bool) (gs : GS)
    (code : List Instr) (t : Bool) (gs' : GS),
    okLs es = true → GSok gs → 2 ≤ gs.fns.length → compileNewScope isFn c oldtail es gs = Except.ok ((code, t), gs') → COK gs gs' code :=
  fun es _ _ _ _ _ _ hok hgs hn2 h => (cokWalk isFn).of_compileNewScope es h hok hgs hn2

end ZygoVerif.Bal
