/-
C02, execution half — calls of builtins: vocabulary.

A call compiles to one instruction, `callExpr callee args`; executing it evaluates the operands
by compiling each of them at run time into a fresh function object and running it in a nested
`Run` (`EvalCallExpression` → `nested`). So
* the fuel a step needs is not bounded by 1: `ReachE`/`FailsE` quantify the fuel floor existentially;
* the function table grows, and the current function may be such a helper, with a parent:
  `FnChainOk` (every closing list on the parent chain of the current function is a suffix of the
  linear scope stack) stands in the relation `RelC` where `Rel` says "the current function is top-level";
* what a balanced piece of code leaves alone is recorded explicitly (`Frame`);
* the callee of a call in the fragment is the name of a first-order builtin; `Globals` says those
  names are bound in the global frame only, to themselves.
-/
import ZygoVerif.Proofs.SimGlue
import ZygoVerif.Proofs.SimBind
import ZygoVerif.Proofs.SimClean
namespace ZygoVerif.Sim
open ZygoVerif.Core ZygoVerif.VM

def ReachE (K : Nat) (s s' : St) : Prop := ∃ m, Reach K m s s'

theorem Reach.toE {K m : Nat} {s s' : St} (h : Reach K m s s') : ReachE K s s' := ⟨m, h⟩
theorem ReachE.refl (s : St) : ReachE 0 s s := ⟨0, Reach.refl s⟩
theorem ReachE.mono {K K' : Nat} {s s' : St} (h : ReachE K s s') (hK : K ≤ K') : ReachE K' s s' := by
  obtain ⟨m, h⟩ := h; exact ⟨m, h.mono hK (Nat.le_refl _)⟩
theorem ReachE.trans {K₁ K₂ : Nat} {s s₁ s₂ : St} (h₁ : ReachE K₁ s s₁) (h₂ : ReachE K₂ s₁ s₂) :
    ReachE (K₁ + K₂) s s₂ := by
  obtain ⟨m₁, h₁⟩ := h₁; obtain ⟨m₂, h₂⟩ := h₂; exact ⟨_, h₁.trans h₂⟩
theorem ReachE.cast {K : Nat} {s s' s'' : St} (h : ReachE K s s') (e : s' = s'') : ReachE K s s'' := e ▸ h

/-- From `s` the run loop ends in a script error after at most `K` instructions — for every
enclosing `Run` and every sufficiently large remaining fuel; the final trace is `tr`. -/
def FailsE (K : Nat) (s : St) (tr : List String) : Prop :=
  ∃ k, k ≤ K ∧ ∃ m, ∀ fuel, m ≤ fuel → ∀ st, ∃ sf, (runLoop (fuel + k) st).run s = (.error .err, sf) ∧ sf.trace = tr

theorem Fails.toE {K : Nat} {s : St} {tr} (h : Fails K s tr) : FailsE K s tr := by
  obtain ⟨k, hk, H⟩ := h; exact ⟨k, hk, 1, H⟩

theorem FailsE.mono {K K' : Nat} {s : St} {tr} (h : FailsE K s tr) (hK : K ≤ K') : FailsE K' s tr := by
  obtain ⟨k, hk, H⟩ := h; exact ⟨k, Nat.le_trans hk hK, H⟩

theorem FailsE.of_reach {K₁ K₂ : Nat} {s s₁ : St} {tr} (h₁ : ReachE K₁ s s₁) (h₂ : FailsE K₂ s₁ tr) :
    FailsE (K₁ + K₂) s tr := by
  obtain ⟨m₁, k₁, hk₁, H₁⟩ := h₁
  obtain ⟨k₂, hk₂, H₂⟩ := h₂
  exact ⟨k₂ + k₁, by omega, (Ev.and (Ev.later ⟨m₁, H₁⟩ k₂) H₂).mono fun f ⟨e₁, e₂⟩ st => by
    rw [← Nat.add_assoc, e₁ st]; exact e₂ st⟩

theorem ReachE.step {s s' : St} {pre i post} (h : At s pre i post) (m : Nat)
    (hx : ∀ f, m ≤ f → (exec (f + 1) i).run s = (.ok (), s')) : ReachE 1 s s' :=
  ⟨m + 1, Reach.step_from h m hx⟩

theorem FailsE.step {s : St} {tr : List String} {pre i post} (h : At s pre i post) (m : Nat)
    (hx : ∀ f, m ≤ f → ∃ se, (exec (f + 1) i).run s = (.error .err, se) ∧ se.trace = tr) : FailsE 1 s tr :=
  ⟨1, Nat.le_refl _, Ev.shift 1 ⟨m, hx⟩ fun f ⟨se, hse, htr⟩ st =>
    ⟨_, runLoop_step_err h (f + 1) st hse, by rw [← htr]; exact restore_trace st se⟩⟩

def ReachX (s s' : St) : Prop := ∃ K, ReachE K s s'
def FailsX (s : St) (tr : List String) : Prop := ∃ K, FailsE K s tr

theorem ReachE.toX {K : Nat} {s s' : St} (h : ReachE K s s') : ReachX s s' := ⟨K, h⟩
theorem Reach.toX {K m : Nat} {s s' : St} (h : Reach K m s s') : ReachX s s' := h.toE.toX
theorem ReachX.refl (s : St) : ReachX s s := (ReachE.refl s).toX
theorem ReachX.trans {s s₁ s₂ : St} (h₁ : ReachX s s₁) (h₂ : ReachX s₁ s₂) : ReachX s s₂ := by
  obtain ⟨K₁, h₁⟩ := h₁; obtain ⟨K₂, h₂⟩ := h₂; exact ⟨_, h₁.trans h₂⟩
theorem FailsE.toX {K : Nat} {s : St} {tr} (h : FailsE K s tr) : FailsX s tr := ⟨K, h⟩
theorem Fails.toX {K : Nat} {s : St} {tr} (h : Fails K s tr) : FailsX s tr := h.toE.toX
theorem FailsX.of_reach {s s₁ : St} {tr} (h₁ : ReachX s s₁) (h₂ : FailsX s₁ tr) : FailsX s tr := by
  obtain ⟨K₁, h₁⟩ := h₁; obtain ⟨K₂, h₂⟩ := h₂; exact ⟨_, FailsE.of_reach h₁ h₂⟩
theorem ReachX.step {s s' : St} {pre i post} (h : At s pre i post) (m : Nat)
    (hx : ∀ f, m ≤ f → (exec (f + 1) i).run s = (.ok (), s')) : ReachX s s' := (ReachE.step h m hx).toX
theorem FailsX.step {s : St} {tr : List String} {pre i post} (h : At s pre i post) (m : Nat)
    (hx : ∀ f, m ≤ f → ∃ se, (exec (f + 1) i).run s = (.error .err, se) ∧ se.trace = tr) : FailsX s tr :=
  (FailsE.step h m hx).toX

/-- what balanced code leaves alone: the control stacks and the function and loop records that were there -/
structure Frame (s s' : St) : Prop where
  linear : s'.linear = s.linear
  curfunc : s'.curfunc = s.curfunc
  addr : s'.addr = s.addr
  susp : s'.suspended = s.suspended
  fnsLen : s.fns.length ≤ s'.fns.length
  fns : ∀ id, id < s.fns.length → fnOf s' id = fnOf s id
  loopsLen : s.loops.length ≤ s'.loops.length
  loops : ∀ id, id < s.loops.length → s'.loops.getD id {} = s.loops.getD id {}

theorem Frame.refl (s : St) : Frame s s :=
  ⟨rfl, rfl, rfl, rfl, Nat.le_refl _, fun _ _ => rfl, Nat.le_refl _, fun _ _ => rfl⟩

theorem Frame.trans {a b c : St} (h₁ : Frame a b) (h₂ : Frame b c) : Frame a c :=
  ⟨h₂.linear.trans h₁.linear, h₂.curfunc.trans h₁.curfunc, h₂.addr.trans h₁.addr, h₂.susp.trans h₁.susp,
   Nat.le_trans h₁.fnsLen h₂.fnsLen,
   fun id hid => (h₂.fns id (Nat.lt_of_lt_of_le hid h₁.fnsLen)).trans (h₁.fns id hid),
   Nat.le_trans h₁.loopsLen h₂.loopsLen,
   fun id hid => (h₂.loops id (Nat.lt_of_lt_of_le hid h₁.loopsLen)).trans (h₁.loops id hid)⟩

theorem Frame.jmp (s : St) (p : Int) (d : List (Option Val)) : Frame s (s.jmp p d) :=
  ⟨rfl, rfl, rfl, rfl, Nat.le_refl _, fun _ _ => rfl, Nat.le_refl _, fun _ _ => rfl⟩

theorem Frame.bind (s : St) (id : Nat) (x : String) (v : Val) : Frame s (s.bind id x v) :=
  ⟨rfl, rfl, rfl, rfl, Nat.le_refl _, fun _ _ => rfl, Nat.le_refl _, fun _ _ => rfl⟩

/-- Every function on the parent chain of `f` exists and closes over a suffix of the linear stack. -/
inductive FnChainOk (s : St) : Nat → Prop
  | root (f : Nat) : f < s.fns.length → (fnOf s f).parent = none →
      (∃ t, s.linear = t ++ (fnOf s f).closing) → FnChainOk s f
  | step (f p : Nat) : f < s.fns.length → (fnOf s f).parent = some p →
      (∃ t, s.linear = t ++ (fnOf s f).closing) → FnChainOk s p → FnChainOk s f

theorem FnChainOk.lt {s f} (h : FnChainOk s f) : f < s.fns.length := by cases h <;> assumption

theorem FnChainOk.suffix {s f} (h : FnChainOk s f) : ∃ t, s.linear = t ++ (fnOf s f).closing := by
  cases h <;> assumption

/-- the chain is still fine when the function table has grown and the linear stack was extended on top -/
theorem FnChainOk.transfer {s s' : St} (hlin : ∃ t, s'.linear = t ++ s.linear) (hlen : s.fns.length ≤ s'.fns.length)
    (hfns : ∀ id, id < s.fns.length → fnOf s' id = fnOf s id) : ∀ {f}, FnChainOk s f → FnChainOk s' f := by
  intro f h
  obtain ⟨t0, ht0⟩ := hlin
  induction h with
  | root f hlt hp hs =>
    obtain ⟨t, ht⟩ := hs
    exact FnChainOk.root f (Nat.lt_of_lt_of_le hlt hlen) (by rw [hfns f hlt]; exact hp)
      ⟨t0 ++ t, by rw [hfns f hlt, ht0, ht, List.append_assoc]⟩
  | step f p hlt hp hs _ ih =>
    obtain ⟨t, ht⟩ := hs
    exact FnChainOk.step f p (Nat.lt_of_lt_of_le hlt hlen) (by rw [hfns f hlt]; exact hp)
      ⟨t0 ++ t, by rw [hfns f hlt, ht0, ht, List.append_assoc]⟩ ih

/-- the chain only reads parents, closing lists, the table size and the linear stack -/
theorem FnChainOk.congr {s s' : St} (hlin : s'.linear = s.linear) (hlen : s'.fns.length = s.fns.length)
    (hpar : ∀ id, (fnOf s' id).parent = (fnOf s id).parent) (hclo : ∀ id, (fnOf s' id).closing = (fnOf s id).closing) :
    ∀ {f}, FnChainOk s f → FnChainOk s' f := by
  intro f h
  induction h with
  | root f hlt hp hs =>
    exact FnChainOk.root f (by rw [hlen]; exact hlt) (by rw [hpar]; exact hp) (by rw [hlin, hclo]; exact hs)
  | step f p hlt hp hs _ ih =>
    exact FnChainOk.step f p (by rw [hlen]; exact hlt) (by rw [hpar]; exact hp) (by rw [hlin, hclo]; exact hs) ih

theorem lookupUntilFn_suffix_none {s : St} (hnofn : ∀ i, (scopeOf s i).isFunction = false) (x : String) (cc : Bool)
    (l : List (Option Nat)) : ∀ (t : List (Option Nat)), lookupUntilFn s x cc (t ++ l) = none → lookupUntilFn s x cc l = none
  | [], h => h
  | none :: t, h => by
    simp only [List.cons_append, lookupUntilFn] at h
    exact lookupUntilFn_suffix_none hnofn x cc l t h
  | some id :: t, h => by
    simp only [List.cons_append, lookupUntilFn, hnofn id] at h
    cases hl : (scopeOf s id).vars.lookup x with
    | some v => rw [hl] at h; cases h
    | none => rw [hl] at h; exact lookupUntilFn_suffix_none hnofn x cc l t h

/-- what stage 1 does not find, the walk along the parent chain of closures does not find either -/
theorem lookupChain_none {s : St} (hnofn : ∀ i, (scopeOf s i).isFunction = false) (x : String)
    (h1 : lookupUntilFn s x false s.linear = none) : ∀ fuel f, FnChainOk s f → lookupChain s x fuel f = none
  | 0, _, _ => rfl
  | fuel + 1, f, hc => by
    cases hc with
    | root _ _ hp _ => simp only [lookupChain, hp]
    | step _ p _ hp hs hrest =>
      obtain ⟨t, ht⟩ := hs
      have hclo : lookupUntilFn s x false (fnOf s f).closing = none :=
        lookupUntilFn_suffix_none hnofn x false _ t (by rw [← ht]; exact h1)
      simp only [lookupChain, hp, hclo]
      exact lookupChain_none hnofn x h1 fuel p hrest

/-- the builtins a call of the fragment may name: every core builtin that does not call back
into the evaluator (`map`, `apply`, `force` do), and the host function `trace`. `hash`, `hget`, `hset` are
among them as names only: hashes are outside the modelled core, `Core.prim` has no arm for them, so a call of
one of them is a script error in both models, and that is all the simulation says of it. -/
def foBuiltins : List String :=
  ["+", "-", "*", "mod", "<", ">", "<=", ">=", "==", "!=", "not", "cons", "first", "rest",
   "second", "list", "array", "len", "append", "concat", "aget", "aset", "hash", "hget", "hset", "trace"]

theorem foBuiltins_not_ho : ∀ h ∈ foBuiltins, h ≠ "force" ∧ h ≠ "apply" ∧ h ≠ "map" := by decide
/-- `substitute` (C16) reads the thunk table: not first-order either -/
theorem foBuiltins_not_substitute : ∀ h ∈ foBuiltins, h ≠ "substitute" := by decide
/-- `probe` (C09, channel `tail`) reads the stack depths: not first-order either -/
theorem foBuiltins_not_probe : ∀ h ∈ foBuiltins, h ≠ "probe" := by decide

/-- a name a `def`/`set`/`let`/`letseq` of the fragment may bind -/
def okBinder (x : String) : Bool := !foBuiltins.contains x

theorem okBinder_ne {x h : String} (hx : okBinder x = true) (hh : h ∈ foBuiltins) : (h == x) = false := by
  unfold okBinder at hx
  have : ¬ x ∈ foBuiltins := by simpa using hx
  have hne : h ≠ x := fun e => this (e ▸ hh)
  simpa using hne

/-- first-order builtin names are bound in the global frame only, to themselves -/
def Globals (rs : Ref.St) : Prop :=
  ∀ h, h ∈ foBuiltins → (rs.frames.getD 0 {}).vars.lookup h = some (.builtin h)
    ∧ ∀ i, 0 < i → (rs.frames.getD i {}).vars.lookup h = none

theorem Globals.lookupIn {rs : Ref.St} (hg : Globals rs) {h : String} (hh : h ∈ foBuiltins) :
    ∀ {env lin}, Chain rs.frames env lin → ∀ fuel, env + 1 ≤ fuel →
      Ref.lookupIn rs.frames fuel env h = some (0, .builtin h) := by
  intro env lin hc
  induction hc with
  | root fr h0 hp =>
    intro fuel hf
    obtain ⟨f, rfl⟩ : ∃ f, fuel = f + 1 := ⟨fuel - 1, by omega⟩
    have hv := (hg h hh).1
    rw [List.getD_eq_getElem?_getD, h0, Option.getD_some] at hv
    simp only [Ref.lookupIn, h0, hv]
  | cons env p fr rest h0 hp hlt _ ih =>
    intro fuel hf
    obtain ⟨f, rfl⟩ : ∃ f, fuel = f + 1 := ⟨fuel - 1, by omega⟩
    have hv := (hg h hh).2 env (by omega)
    rw [List.getD_eq_getElem?_getD, h0, Option.getD_some] at hv
    simp only [Ref.lookupIn, h0, hv, hp]
    exact ih f (by omega)

theorem Globals.setVar {rs : Ref.St} (hg : Globals rs) (id : Nat) {x : String} (hx : okBinder x = true) (v : Val) :
    Globals (Ref.setVar rs id x v) := fun h hh => by
  have key : ∀ i, ((Ref.setVar rs id x v).frames.getD i {}).vars.lookup h = (rs.frames.getD i {}).vars.lookup h :=
    fun i => by rw [lookup_setVar, okBinder_ne hx hh, if_neg (by simp)]
  exact ⟨by rw [key]; exact (hg h hh).1, fun i hi => by rw [key]; exact (hg h hh).2 i hi⟩

theorem Globals.newFrame {rs : Ref.St} (hg : Globals rs) (env : Nat) (hne : rs.frames ≠ []) :
    Globals (Ref.newFrame rs env).2 := fun h hh => by
  have hpos : 0 < rs.frames.length := List.length_pos_iff.mpr hne
  refine ⟨by rw [getD_newFrame, if_pos hpos]; exact (hg h hh).1, fun i hi => ?_⟩
  rw [getD_newFrame]
  split
  · exact (hg h hh).2 i hi
  · split <;> rfl

/-- no stack mark in any binding or array of the reference state (`for` relies on it) -/
def CleanSt (rs : Ref.St) : Prop :=
  (∀ i x v, (rs.frames.getD i {}).vars.lookup x = some v → Clean v) ∧ CleanHeap rs.heap

theorem CleanSt.setVar {rs : Ref.St} (hc : CleanSt rs) (id : Nat) (x : String) {v : Val} (hv : Clean v) :
    CleanSt (Ref.setVar rs id x v) := by
  refine ⟨fun i y w hw => ?_, by unfold Ref.setVar; split <;> exact hc.2⟩
  rw [lookup_setVar] at hw
  split at hw
  · injection hw with hw; subst hw; exact hv
  · exact hc.1 i y w hw

theorem CleanSt.newFrame {rs : Ref.St} (hc : CleanSt rs) (env : Nat) : CleanSt (Ref.newFrame rs env).2 := by
  refine ⟨fun i y w hw => ?_, hc.2⟩
  rw [getD_newFrame] at hw
  split at hw
  · exact hc.1 i y w hw
  · split at hw <;> cases hw

structure RelC (s : St) (rs : Ref.St) (env : Nat) : Prop extends RelCore s rs env where
  fnchain : FnChainOk s s.curfunc
  globals : Globals rs
  clean : CleanSt rs

/-- Under `RelC`, the three-stage `LexicalLookupSymbol` is the reference lookup. -/
theorem RelC.lexLookup {s rs env} (h : RelC s rs env) (x : String) :
    lexLookup s x = Ref.lookup rs env x := by
  have h1 := h.toRelCore.stage1 x
  unfold VM.lexLookup
  rw [h1 false]
  cases hl : Ref.lookup rs env x with
  | some r => rfl
  | none =>
    have hs1 : lookupUntilFn s x false s.linear = none := by rw [h1 false, hl]
    have hch := lookupChain_none h.nofn x hs1 (s.fns.length + 1) s.curfunc h.fnchain
    obtain ⟨t, ht⟩ := h.fnchain.suffix
    have hclo : lookupUntilFn s x false (fnOf s s.curfunc).closing = none :=
      lookupUntilFn_suffix_none h.nofn x false _ t (by rw [← ht]; exact hs1)
    simp only [hch, hclo, ite_self, h1 true, hl]

/-- a first-order builtin name always denotes that builtin -/
theorem RelC.lookup_fo {s rs env} (h : RelC s rs env) {name : String} (hn : name ∈ foBuiltins) :
    Ref.lookup rs env name = some (0, .builtin name) :=
  h.globals.lookupIn hn h.chain _ (by have := h.chain.lt; omega)

theorem RelC.jmp {s rs env} (h : RelC s rs env) (p : Int) (d : List (Option Val)) : RelC (s.jmp p d) rs env :=
  ⟨h.toRelCore.jmp p d, h.fnchain.transfer (s' := s.jmp p d) ⟨[], rfl⟩ (Nat.le_refl _) (fun _ _ => rfl), h.globals,
   h.clean⟩

theorem RelC.bind {s rs env} (h : RelC s rs env) (id : Nat) (hid : id < rs.frames.length) {x : String}
    (hx : okBinder x = true) {v : Val} (hv : Clean v) : RelC (s.bind id x v) (Ref.setVar rs id x v) env :=
  ⟨h.toRelCore.bind id hid x v, h.fnchain.transfer (s' := s.bind id x v) ⟨[], rfl⟩ (Nat.le_refl _) (fun _ _ => rfl),
   h.globals.setVar id hx v, h.clean.setVar id x hv⟩

theorem RelC.pushScope {s rs env} (h : RelC s rs env) :
    RelC s.pushScope (Ref.newFrame rs env).2 rs.frames.length :=
  ⟨h.toRelCore.pushScope,
   h.fnchain.transfer (s' := s.pushScope) ⟨[some s.scopes.length], rfl⟩ (Nat.le_refl _) (fun _ _ => rfl),
   h.globals.newFrame env (by intro e; have := h.chain.lt; rw [e] at this; simp at this),
   h.clean.newFrame env⟩

end ZygoVerif.Sim
