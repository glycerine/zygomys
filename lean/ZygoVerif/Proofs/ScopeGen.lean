/-
The code generator of the model (`Model/Gen.lean`) only *extends* the function table: every
`compile…` function is `GenOK` — it leaves the live stack alone, never changes the captured
stack or the parent of an existing function object, and gives a new template a captured
stack drawn from the live stack (`NewClosing`). With that, every function of the VM's mutual block is
`Safe` (`allSafe`): each way in which the machine updates its tables is a `Step` (`respects`), and the
induction on the fuel is `VM.allMoves`; so is loading and running a whole text (`runText_step`).
-/
import ZygoVerif.Proofs.ScopeInv
import ZygoVerif.Proofs.GenShape
namespace ZygoVerif.Scope
open ZygoVerif.Core ZygoVerif.VM ZygoVerif.Sim

def GenOKAt {α} (gs : GS) (g : G α) : Prop :=
  ∀ a gs', g.run gs = .ok (a, gs') → gs'.live = gs.live ∧ FnsExt gs.live gs.fns gs'.fns

theorem genOK_iff {α} (g : G α) : GenOK g ↔ ∀ gs, GenOKAt gs g :=
  ⟨fun h gs a gs' hr => h gs a gs' hr, fun h gs a gs' hr => h gs a gs' hr⟩

theorem genOK_ite {α} {c : Prop} [Decidable c] {a b : G α} (ha : GenOK a) (hb : GenOK b) :
    GenOK (if c then a else b) := by
  split <;> assumption

theorem genOK_modify_loops (f : GS → GS) (h : ∀ gs, (f gs).fns = gs.fns ∧ (f gs).live = gs.live) : GenOK (modify f) := by
  intro gs a gs' hr
  cases g_modify_ok.mp hr
  exact ⟨(h gs).2, (h gs).1 ▸ FnsExt.refl _ _⟩

theorem genOK_alloc (isFn : Nat → Bool) (gs : GS) (name : String) (ps : List String) (rest : Option String) :
    (Bal.allocGs isFn gs name ps rest).live = gs.live ∧ FnsExt gs.live gs.fns (Bal.allocGs isFn gs name ps rest).fns :=
  ⟨rfl, FnsExt.append _ _ _ (idsOf_newClosing_sub isFn gs.live)⟩

theorem genOK_finish (t : Nat) (b : List Instr) (gs : GS) :
    (Bal.finishGs t b gs).live = gs.live ∧ FnsExt gs.live gs.fns (Bal.finishGs t b gs).fns :=
  ⟨rfl, FnsExt.set _ _ _ _ rfl rfl⟩

/-- leaving the live stack alone and extending the function table in bounds is an invariant of
the generator (the loop tables are not looked at) -/
theorem genOK_respects : GRespects (fun gs gs' => gs'.live = gs.live ∧ FnsExt gs.live gs.fns gs'.fns) where
  refl := fun _ => ⟨rfl, FnsExt.refl _ _⟩
  trans := fun h1 h2 => ⟨h2.1.trans h1.1, h1.2.trans (h1.1 ▸ h2.2)⟩
  alloc := genOK_alloc
  finish := genOK_finish
  loop := fun _ _ _ _ _ _ h => h

theorem genOK_compile (isFn : Nat → Bool) : ∀ (e : Expr) (c : Ctx), GenOK (compile isFn c e) :=
  fun e _ _ a _ hr => (genOK_respects.walk isFn).of_compile e (a := a.1) (t := a.2) hr

theorem genOK_compileAll (isFn : Nat → Bool) : ∀ (es : List Expr) (c : Ctx), GenOK (compileAll isFn c es) :=
  fun es _ _ a _ hr => (genOK_respects.walk isFn).of_compileAll es (a := a.1) (t := a.2) hr

theorem genOK_compileCallArgs (isFn : Nat → Bool) : ∀ (es : List Expr) (c : Ctx) (f : Option FnObj) (i : Nat),
    GenOK (compileCallArgs isFn c f i es) :=
  fun es _ _ _ _ _ _ hr => (genOK_respects.walk isFn).of_compileCallArgs es hr

theorem genOK_compileBegin (isFn : Nat → Bool) : ∀ (es : List Expr) (c : Ctx), GenOK (compileBegin isFn c es) :=
  fun es _ _ a _ hr => (genOK_respects.walk isFn).of_compileBegin es (a := a.1) (t := a.2) hr

theorem genOK_compileArms (isFn : Nat → Bool) : ∀ (arms : List (Expr × Expr)) (c : Ctx), GenOK (compileArms isFn c arms) :=
  fun arms _ _ _ _ hr => (genOK_respects.walk isFn).of_compileArms arms hr

theorem genOK_compileSC (isFn : Nat → Bool) : ∀ (es : List Expr) (c : Ctx), GenOK (compileSC isFn c es) :=
  fun es _ _ _ _ hr => (genOK_respects.walk isFn).of_compileSC es hr

theorem genOK_compileBinds (isFn : Nat → Bool) : ∀ (bs : List (String × Expr)) (c : Ctx) (seq : Bool),
    GenOK (compileBinds isFn c seq bs) :=
  fun bs _ _ _ a _ hr => (genOK_respects.walk isFn).of_compileBinds bs (a := a.1) (t := a.2) hr

theorem genOK_compileNewScope (isFn : Nat → Bool) : ∀ (es : List Expr) (c : Ctx) (oldtail : Bool),
    GenOK (compileNewScope isFn c oldtail es) :=
  fun es _ _ _ a _ hr => (genOK_respects.walk isFn).of_compileNewScope es (a := a.1) (t := a.2) hr

theorem safe_forceLazy_succ (n : Nat) (ih : ∀ f st, Safe (nested n f st)) (id : Nat) : Safe (forceLazy (n+1) id) := fun s =>
  have hp : ∀ {lz t}, s.lazies[id]? = some lz → Step s t → LazyHas id lz.stack t := fun hlz h =>
    LazyHas.stable (by unfold LazyHas; simp [hlz]) h.1
  force_moves (C := fun _ => True) Step.pre (fun _ _ _ => safe_runGen _ (genOK_compile _ _ _)) n (fun f st _ => ih f st) id s
    (fun _ _ _ _ hlz _ h1 ht => (h1.trans ((hp hlz h1).enter _ rfl)).trans (ht trivial))
    (fun _ _ v hlz _ ht => ht.trans ((hp hlz ht).finish v))

/-- growing the scope and closure tables within bounds is an invariant of the machine -/
theorem respects : Respects Step (fun _ => True) where
  refl := Step.refl
  trans := Step.trans
  frame := fun hf hs _ hz hl hsus => Step.of_same hs hf hl hsus hz
  setVar := safe_setInScope
  dropScope := safe_popScope
  addScope := fun _ sc _ => Step.of_addScope sc rfl rfl rfl rfl rfl
  addFn := fun s f hf =>
    Step.of_fnsExt rfl rfl rfl rfl (FnsExt.append _ _ f (hf ▸ idsOf_newClosing_sub _ s.linear)) fun w => w.linear
  addLazy := fun s z hz => Step.of_addLazy z rfl rfl rfl rfl rfl fun w id hid => by
    rcases hz with hz | hz <;> rw [hz] at hid
    · exact w.linear id hid
    · cases hid
  gen := fun _ _ _ => safe_runGen _ (genOK_compile _ _ _)
  captureBind := fun hf => Step.pre.bind safe_capture fun st => hf st trivial
  restoreTo := fun st _ => safe_restore st
  force := fun n ih => safe_forceLazy_succ n fun f st => ih f st trivial

theorem allSafe : ∀ fuel, AllSafe fuel := fun fuel =>
  have a := allMoves respects fuel
  ⟨a.run, fun st => a.runLoop st trivial, a.exec, a.evalCallExpr, fun f st => a.nested f st trivial, a.prepareArgs,
    a.callResolved, a.callUser, a.builtin, a.applyFn, a.mapArr, a.mapList, a.forceLazy⟩

theorem wf_initSt : WF initSt := by
  refine ⟨?_, ?_, ?_, ?_⟩ <;> simp [initSt, idsOf]

/-- replacing a function object by one with the same captured stack and parent (new code for
`__main`, when a text is loaded) -/
theorem step_setFn (s : St) (j c : Nat) (mf : FnObj) (hc : mf.closing = (fnOf s j).closing)
    (hp : mf.parent = (fnOf s j).parent) :
    Step s { s with fns := s.fns.set j mf, curfunc := c } :=
  Step.of_fnsExt rfl rfl rfl rfl (FnsExt.set s.linear _ _ _ hc hp) fun w => w.linear

theorem runText_step (fuel : Nat) (es : List Expr) (s : St) : Step s (runText fuel es s).2.1 :=
  respects.runText (fun isFn es => safe_runGen _ (genOK_compileBegin isFn es {}))
    (fun _ _ _ => by apply step_setFn <;> rfl) fuel es s

end ZygoVerif.Scope
