/-
The domain of the `read (print v) = v` theorem and the token image of a printed value.

`okV` — the values covered by the proof: 64-bit integers, characters (valid code points),
strings (any runes), uint64, finite floats (under the law `FloatLaw`), booleans, symbols whose name is made of runes with no meaning of their own
to the lexer and which `DecodeAtom` classifies as a symbol (`symOK`: "a name the reader reads as
a symbol"), lists of such values with or without a dotted tail, arrays of such values; nested
to any depth. `nil` is covered only as the end of a list (known finding: the text `nil` reads
back as the symbol `nil`); NaN and ±Inf are covered by the `rt` channel only.
`toks` — the tokens the lexer produces for the printed text.
-/
import ZygoVerif.Proofs.LexNormal
import ZygoVerif.Proofs.LexFloat
import ZygoVerif.Model.PrintData
namespace ZygoVerif.ReadPrint
open ZygoVerif ZygoVerif.Lexer ZygoVerif.PrintData

/-- a name the reader reads as a plain symbol -/
def symOK (n : List Char) : Bool :=
  !n.isEmpty && n.all (fun c => !isSpecial c) &&
  (match decodeAtom n with
   | .ok t => t == ⟨.symbol, n⟩
   | .error _ => false)

theorem symOK_facts (n : List Char) (h : symOK n = true) :
    n ≠ [] ∧ (∀ c ∈ n, isSpecial c = false) ∧ decodeAtom n = .ok ⟨.symbol, n⟩ := by
  simp only [symOK, Bool.and_eq_true, Bool.not_eq_true', List.all_eq_true] at h
  obtain ⟨⟨h1, h2⟩, h3⟩ := h
  refine ⟨by intro hn; rw [hn] at h1; simp at h1, fun c hc => by simpa using h2 c hc, ?_⟩
  cases hd : decodeAtom n with
  | ok t => rw [hd] at h3; have : t = ⟨.symbol, n⟩ := by simpa using h3
            rw [this]
  | error e => rw [hd] at h3; cases h3

def okAtom : Sexp → Bool
  | .int v => decide (-(2 : Int) ^ 63 ≤ v ∧ v < 2 ^ 63)
  | .uint v => decide (v < 2 ^ 64)
  | .float b _ => isFiniteBits b
  | .char v => v.isValidChar
  | .str _ raw => !raw
  | .bool _ => true
  | .sym n ct dot => !ct && !dot && symOK n
  | _ => false

mutual
def okV : Sexp → Bool
  | .pair h t => okV h && okTail t
  | .array es inf => !inf && okList es
  | .int v => okAtom (.int v)
  | .uint v => okAtom (.uint v)
  | .float b s => okAtom (.float b s)
  | .char v => okAtom (.char v)
  | .str s raw => okAtom (.str s raw)
  | .sym n a b => okAtom (.sym n a b)
  | .bool b => okAtom (.bool b)
  | .comment _ _ => false
  | .comma => false
  | .semicolon => false
  | .null => false
  | .endS => false
  | .emptyHash => false
/-- the tail of a list: more elements, the end, or a dotted value (an atom or an array) -/
def okTail : Sexp → Bool
  | .pair h t => okV h && okTail t
  | .null => true
  | .array es inf => !inf && okList es
  | .int v => okAtom (.int v)
  | .uint v => okAtom (.uint v)
  | .float b s => okAtom (.float b s)
  | .char v => okAtom (.char v)
  | .str s raw => okAtom (.str s raw)
  | .sym n a b => okAtom (.sym n a b)
  | .bool b => okAtom (.bool b)
  | .comment _ _ => false
  | .comma => false
  | .semicolon => false
  | .endS => false
  | .emptyHash => false
def okList : List Sexp → Bool
  | [] => true
  | e :: r => okV e && okList r
end

/-- the token of an atom -/
def atomTok (ff : FloatFmt) : Sexp → Token
  | .int v => ⟨.decimal, itoa v⟩
  | .uint v => ⟨.uint64, natDec v ++ "ULL".toList⟩
  | .float b sci => ⟨.float, printFloat ff b sci⟩
  | .char v => ⟨.char, [Char.ofNat v]⟩
  | .str s _ => ⟨.string, s⟩
  | .bool b => ⟨.bool, if b then "true".toList else "false".toList⟩
  | .sym n _ _ => ⟨.symbol, n⟩
  | _ => Token.zero

def tLP : Token := ⟨.lparen, []⟩
def tRP : Token := ⟨.rparen, []⟩
def tLS : Token := ⟨.lsquare, []⟩
def tRS : Token := ⟨.rsquare, []⟩
def tBS : Token := ⟨.backslash, []⟩

mutual
/-- the tokens of the printed value -/
def toks (ff : FloatFmt) : Sexp → List Token
  | .pair h t => tLP :: (toks ff h ++ toksRest ff t)
  | .array es _ => tLS :: (toksElems ff es ++ [tRS])
  | .int v => [atomTok ff (.int v)]
  | .uint v => [atomTok ff (.uint v)]
  | .float b s => [atomTok ff (.float b s)]
  | .char v => [atomTok ff (.char v)]
  | .str s raw => [atomTok ff (.str s raw)]
  | .sym n a b => [atomTok ff (.sym n a b)]
  | .bool b => [atomTok ff (.bool b)]
  | .comment t b => [atomTok ff (.comment t b)]
  | .comma => [atomTok ff .comma]
  | .semicolon => [atomTok ff .semicolon]
  | .null => [atomTok ff .null]
  | .endS => [atomTok ff .endS]
  | .emptyHash => [atomTok ff .emptyHash]
/-- the tokens of the rest of a list after a head, including the closing bracket -/
def toksRest (ff : FloatFmt) : Sexp → List Token
  | .pair h t => toks ff h ++ toksRest ff t
  | .null => [tRP]
  | .array es _ => tBS :: (tLS :: (toksElems ff es ++ [tRS])) ++ [tRP]
  | .int v => [tBS, atomTok ff (.int v), tRP]
  | .uint v => [tBS, atomTok ff (.uint v), tRP]
  | .float b s => [tBS, atomTok ff (.float b s), tRP]
  | .char v => [tBS, atomTok ff (.char v), tRP]
  | .str s raw => [tBS, atomTok ff (.str s raw), tRP]
  | .sym n a b => [tBS, atomTok ff (.sym n a b), tRP]
  | .bool b => [tBS, atomTok ff (.bool b), tRP]
  | .comment t b => [tBS, atomTok ff (.comment t b), tRP]
  | .comma => [tBS, atomTok ff .comma, tRP]
  | .semicolon => [tBS, atomTok ff .semicolon, tRP]
  | .endS => [tBS, atomTok ff .endS, tRP]
  | .emptyHash => [tBS, atomTok ff .emptyHash, tRP]
def toksElems (ff : FloatFmt) : List Sexp → List Token
  | [] => []
  | e :: r => toks ff e ++ toksElems ff r
end

/-- an atom of the domain is printed by `printAtom` and is one token, also as a dotted tail -/
theorem okAtom_forms (ff : FloatFmt) (a : Sexp) (h : okAtom a = true) :
    printSexp ff a = printAtom ff a ∧ printRest ff a = " \\ ".toList ++ printAtom ff a ++ [')'] ∧
    toks ff a = [atomTok ff a] ∧ toksRest ff a = [tBS, atomTok ff a, tRP] := by
  cases a <;> first | exact ⟨rfl, rfl, rfl, rfl⟩ | cases h

/-! Induction over the domain: a value is a pair, an array or an atom; a tail is a pair, the end, an
array or an atom; the elements of an array are values. -/
section
variable {P Q : Sexp → Prop} {R : List Sexp → Prop}
  (pair : ∀ h t, P h → Q t → P (.pair h t)) (array : ∀ es, R es → P (.array es false))
  (atom : ∀ a, okAtom a = true → P a)
  (tpair : ∀ h t, P h → Q t → Q (.pair h t)) (tnull : Q .null) (tarray : ∀ es, R es → Q (.array es false))
  (tatom : ∀ a, okAtom a = true → Q a)
  (nil : R []) (cons : ∀ e r, P e → R r → R (e :: r))
include pair array atom tpair tnull tarray tatom nil cons

mutual
theorem okV_induction : (v : Sexp) → okV v = true → P v
  | .pair h t, hv => pair h t
      (okV_induction h ((Bool.and_eq_true _ _).mp hv).1) (okTail_induction t ((Bool.and_eq_true _ _).mp hv).2)
  | .array _ true, hv => nomatch hv
  | .array es false, hv => array es (okList_induction es hv)
  | .int _, hv => atom _ hv
  | .uint _, hv => atom _ hv
  | .float _ _, hv => atom _ hv
  | .char _, hv => atom _ hv
  | .str _ _, hv => atom _ hv
  | .sym _ _ _, hv => atom _ hv
  | .bool _, hv => atom _ hv
  | .comment _ _, hv => nomatch hv
  | .comma, hv => nomatch hv
  | .semicolon, hv => nomatch hv
  | .null, hv => nomatch hv
  | .endS, hv => nomatch hv
  | .emptyHash, hv => nomatch hv
theorem okTail_induction : (t : Sexp) → okTail t = true → Q t
  | .pair h t, hv => tpair h t
      (okV_induction h ((Bool.and_eq_true _ _).mp hv).1) (okTail_induction t ((Bool.and_eq_true _ _).mp hv).2)
  | .null, _ => tnull
  | .array _ true, hv => nomatch hv
  | .array es false, hv => tarray es (okList_induction es hv)
  | .int _, hv => tatom _ hv
  | .uint _, hv => tatom _ hv
  | .float _ _, hv => tatom _ hv
  | .char _, hv => tatom _ hv
  | .str _ _, hv => tatom _ hv
  | .sym _ _ _, hv => tatom _ hv
  | .bool _, hv => tatom _ hv
  | .comment _ _, hv => nomatch hv
  | .comma, hv => nomatch hv
  | .semicolon, hv => nomatch hv
  | .endS, hv => nomatch hv
  | .emptyHash, hv => nomatch hv
theorem okList_induction : (es : List Sexp) → okList es = true → R es
  | [], _ => nil
  | e :: r, hv => cons e r
      (okV_induction e ((Bool.and_eq_true _ _).mp hv).1) (okList_induction r ((Bool.and_eq_true _ _).mp hv).2)
end

theorem okV_induction_all :
    (∀ v, okV v = true → P v) ∧ (∀ t, okTail t = true → Q t) ∧ (∀ es, okList es = true → R es) :=
  ⟨okV_induction pair array atom tpair tnull tarray tatom nil cons,
   okTail_induction pair array atom tpair tnull tarray tatom nil cons,
   okList_induction pair array atom tpair tnull tarray tatom nil cons⟩
end

end ZygoVerif.ReadPrint
