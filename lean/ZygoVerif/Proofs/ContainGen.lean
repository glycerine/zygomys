/-
C05, the loop-record stack (`env.loopstack`, the fourth depth of the harness vocabulary).
Only the code generator touches it: `GenerateForLoop` pushes the loop record and pops it again
through a `defer`. `genLS_compile`: every `compile…` function of the model generator
(`Model/Gen.lean`, all eight mutually recursive ones, every expression) that SUCCEEDS leaves the
loop stack exactly as it found it. (A failed compilation is discarded as a whole by `runGen`.)
-/
import ZygoVerif.Proofs.GenFacts
namespace ZygoVerif.Contain
open ZygoVerif.Core ZygoVerif.VM ZygoVerif.Sim

/-- the `loopstack` field of `Sim.KeepFns`, as a predicate on a generator computation -/
def GenLS {α} (g : G α) : Prop := ∀ gs a gs', g.run gs = .ok (a, gs') → gs'.loopstack = gs.loopstack

theorem genLS_compile (isFn : Nat → Bool) : ∀ (e : Expr) (c : Ctx), GenLS (compile isFn c e) :=
  fun e c gs _ _ h => (compile_facts e isFn c gs _ h).2.1.loopstack

theorem genLS_compileAll (isFn : Nat → Bool) : ∀ (es : List Expr) (c : Ctx), GenLS (compileAll isFn c es) :=
  fun es c gs _ _ h => (compileAll_facts es isFn c gs _ h).1.loopstack

theorem genLS_compileCallArgs (isFn : Nat → Bool) : ∀ (es : List Expr) (c : Ctx) (f : Option FnObj) (i : Nat),
    GenLS (compileCallArgs isFn c f i es) :=
  fun es c f i gs _ _ h => (compileCallArgs_facts es isFn c f i gs _ h).1.loopstack

theorem genLS_compileBegin (isFn : Nat → Bool) : ∀ (es : List Expr) (c : Ctx), GenLS (compileBegin isFn c es) :=
  fun es c gs _ _ h => (compileBegin_facts es isFn c gs _ h).2.1.loopstack

theorem genLS_compileArms (isFn : Nat → Bool) : ∀ (arms : List (Expr × Expr)) (c : Ctx), GenLS (compileArms isFn c arms) :=
  fun arms c gs _ _ h => (compileArms_facts arms isFn c gs _ h).1.loopstack

theorem genLS_compileSC (isFn : Nat → Bool) : ∀ (es : List Expr) (c : Ctx), GenLS (compileSC isFn c es) :=
  fun es c gs _ _ h => (compileSC_facts es isFn c gs _ h).1.loopstack

theorem genLS_compileBinds (isFn : Nat → Bool) : ∀ (bs : List (String × Expr)) (c : Ctx) (seq : Bool),
    GenLS (compileBinds isFn c seq bs) :=
  fun bs c seq gs _ _ h => (compileBinds_facts bs isFn c seq gs _ h).1.loopstack

theorem genLS_compileNewScope (isFn : Nat → Bool) : ∀ (es : List Expr) (c : Ctx) (oldtail : Bool),
    GenLS (compileNewScope isFn c oldtail es) :=
  fun es c ot gs _ _ h => (compileNewScope_facts es isFn c ot gs _ h).2.1.loopstack

end ZygoVerif.Contain
