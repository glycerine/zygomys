/-
C06 front end, glue: the text of a legal spacing of a block, delivered to the parser model,
yields exactly the token array of the block — whatever the spacing: `lex_spacing` for the lexer, `parse_block` for
the parser, `read_of_tokens` for the reader as the two in a row, and the bound of the parser's fuel by the length of
the text.
-/
import ZygoVerif.Proofs.InfixRead
import ZygoVerif.Proofs.ReadPrintMain
import ZygoVerif.Model.InfixFront
namespace ZygoVerif.InfixRead
open ZygoVerif ZygoVerif.Lexer ZygoVerif.Parser
open ZygoVerif.Spacing (Tok Src)

theorem toks_length_pos (x : Src) : 1 ≤ (toks x).length := by
  cases x <;> simp [toks, Src.flat]

mutual
theorem costTok_bound : (x : Src) → costTok x ≤ 2 * (toks x).length
  | .tok t => by simp [costTok, toks_tok]
  | .arr xs => by
    have := costSeq_bound xs
    simp only [costTok, toks_arr, List.length_cons, List.length_append, List.length_nil]; omega
  | .call xs => by
    have := costSeq_bound xs
    simp only [costTok, toks_call, List.length_cons, List.length_append, List.length_nil]; omega
  | .block xs => by
    have := costSeq_bound xs
    simp only [costTok, toks_block, List.length_cons, List.length_append, List.length_nil]; omega
theorem costSeq_bound : (xs : List Src) → costSeq xs ≤ 2 * (toksL xs).length + 2
  | [] => by simp [costSeq]
  | x :: r => by
    have h1 := costTok_bound x
    have h2 := costSeq_bound r
    have h3 := toks_length_pos x
    simp only [costSeq, toksL_cons, List.length_append]; omega
end

theorem renderItems_length (items : List Spacing.Item) (h : ∀ it ∈ items, it.2.text ≠ []) :
    items.length ≤ (Spacing.renderItems items).length := by
  induction items with
  | nil => simp
  | cons it rest ih =>
    obtain ⟨g, R⟩ := it
    have h1 : 1 ≤ R.text.length := by
      have := h (g, R) (by simp)
      cases ht : R.text with
      | nil => exact absurd ht this
      | cons a b => simp
    have h2 := ih (fun x hx => h x (by simp [hx]))
    simp only [Spacing.renderItems, List.length_cons, List.length_append]; omega

/-- the front end on a legal spacing: the text of a non-empty block `{ xs }` written in any legal
spacing (`items` spaces the tokens `{`, those of `xs`, `}`), delivered in any pieces to a parser
with any history, is read as one expression: the infix block holding the expressions of `xs`. -/
theorem read_block (x : Src) (xs : List Src) (hok : okL (x :: xs) = true) (items : List Spacing.Item)
    (hitems : items.map (·.2) = Src.flat (.block (x :: xs))) (hlegal : Spacing.legal '\x00' items = true)
    (l : LexState) (cs : List (List Char)) (hcs : cs.flatten = Spacing.renderItems items) :
    (parseChunksFrom l cs).status = .done ∧ (parseChunksFrom l cs).exprs = [toSexp (.block (x :: xs))] := by
  have hlex := lex_spacing items '\x00' '\n' (by decide) hlegal []
  have htoks : ([] ++ items.map (fun it => expTok it.2) : List Token) = tLC :: (toksL (x :: xs) ++ [tRC]) := by
    have : items.map (fun it => expTok it.2) = (items.map (·.2)).map expTok := by simp
    rw [List.nil_append, this, hitems, ← toks_block]; rfl
  rw [htoks] at hlex
  -- the fuel: every token is at least one rune of the text
  have hwf := legal_wf '\x00' items hlegal
  have hlen := renderItems_length items (fun it hit => tok_text_ne_nil it.2 (hwf it hit))
  have hilen : items.length = (toks (.block (x :: xs))).length := by
    have := congrArg List.length hitems
    simpa [toks] using this
  have hcost := costTok_bound (.block (x :: xs))
  exact (ReadPrint.read_of_tokens _ tLC _ hlex l cs hcs).1 _ (parse_block x xs hok _ (by omega))

/-- the token array of the Pratt model for a block: a function of the source tree alone -/
def blockSx (xs : List Src) : List Pratt.Sx := Sexp.listSx (elems xs)

theorem tokSexp_not_comment (t : Tok) (h : atomOK t = true) : Sexp.isComment (tokSexp (expTok t)) = false := by
  have htyp := atom_typ t h
  unfold tokSexp
  by_cases hs : (expTok t).typ = .symbol
  · simp [hs, Sexp.isComment]
  · have hs' : ((expTok t).typ == TokType.symbol) = false := by simpa using hs
    simp only [hs', Bool.false_eq_true, ↓reduceIte]
    rcases htyp with h1 | h1 | h1 | h1 | h1 | h1 | h1
    · exact absurd h1 hs
    · simp [atomOfTok, h1, Sexp.isComment]
    · simp only [atomOfTok, h1]
      cases NumLit.parseInt64 10 (List.filter (fun x => x != '_') (expTok t).str) <;> simp [Sexp.isComment]
    · simp only [atomOfTok, h1]
      by_cases hnan : ((expTok t).str == "NaN".toList) = true
      · simp only [hnan, ↓reduceIte]; rfl
      · simp only [hnan, Bool.false_eq_true, ↓reduceIte]
        cases NumLit.parseFloat (expTok t).str <;> simp [Sexp.isComment]
    · simp [atomOfTok, h1, Sexp.isComment]
    · simp [atomOfTok, h1, Sexp.isComment]
    · simp [atomOfTok, h1, Sexp.isComment]

theorem toSexp_not_comment (x : Src) (h : okSrc x = true) : Sexp.isComment (toSexp x) = false := by
  cases x with
  | tok t => simpa [toSexp] using tokSexp_not_comment t (by simpa [okSrc] using h)
  | arr xs => simp [toSexp, Sexp.isComment]
  | call xs => cases xs <;> simp [toSexp, callList, Sexp.isComment]
  | block xs => cases xs <;> simp [toSexp, Sexp.isComment]

theorem blockSx_ne_nil (x : Src) (xs : List Src) (hok : okL (x :: xs) = true) : blockSx (x :: xs) ≠ [] := by
  simp only [okL, Bool.and_eq_true] at hok
  simp [blockSx, elems, Sexp.listSx, toSexp_not_comment x hok.1]

end ZygoVerif.InfixRead
