/-
C05 on the executable VM model: one program text (`VM.runText` = `LoadExpressions` +
`Run`) given to an interpreter at rest. A text that fails — at compile time (class `cerr`) or
at any point of its execution at any depth of re-entry (class `err`) — leaves the interpreter
with an empty data stack, ONE scope, an empty address stack, `curfunc = mainfunc` and the pc
behind the code of `mainfunc`: depths `0,1,0` in the harness vocabulary. No hypothesis about
the text.
-/
import ZygoVerif.Proofs.ContainSize
import ZygoVerif.Proofs.VMRest
namespace ZygoVerif.Contain
open ZygoVerif.Core ZygoVerif.VM ZygoVerif.Sim

/-- the control part of an interpreter at rest, sizes only: what `VerifDepths`/`VerifAtEnd`
observe (`0,1,0`, at the end of `mainfunc`). -/
structure RestSized (s : St) : Prop where
  data : s.data = []
  linear : s.linear.length = 1
  addr : s.addr = []
  curfunc : s.curfunc = mainFn
  pcEnd : curSize s ≤ s.pc

theorem RestSized.of_atRest {s : St} (h : AtRest s) : RestSized s :=
  ⟨h.data, by rw [h.linear]; rfl, h.addr, h.curfunc, h.pcEnd⟩

theorem depths_rest (s : St) (hd : s.data = []) (hl : s.linear.length = 1) (ha : s.addr = [])
    (hls : s.loopstack = []) : depths s = "0,1,0,0" := by
  unfold depths
  rw [hd, hl, ha, hls]
  decide

/-- the report of a `Run` has class `err` only when `Run` ended in an error (and never class `cerr`); the interpreter
stays usable and the depths are those of the state -/
theorem finishRun_failed {r : Except Fault Val × St} {cls v d : String} {tr : List String} {s' : St} {alive : Bool}
    (h : finishRun r = (.done cls v tr d, s', alive)) (hcls : cls = "err" ∨ cls = "cerr") :
    r = (.error .err, s') ∧ alive = true ∧ d = depths s' := by
  rcases r with ⟨(_ | _ | _) | _, s⟩ <;> cases h
  · exact ⟨rfl, rfl, rfl⟩
  all_goals rcases hcls with h | h <;> exact absurd h (by decide)

theorem runText_error_sized (fuel : Nat) (es : List Expr) (s s' : St) (cls v d : String) (tr : List String)
    (alive : Bool) (h : AtRest s) (hr : runText fuel es s = (.done cls v tr d, s', alive))
    (hcls : cls = "err" ∨ cls = "cerr") :
    RestSized s' ∧ alive = true ∧ d = depths s' := by
  have hrs := RestSized.of_atRest h
  rw [runText_eq] at hr
  split at hr <;> rename_i hc
  · cases (runGen_fail hc).2
    cases hr
    exact ⟨⟨hrs.data, hrs.linear, hrs.addr, hrs.curfunc, hrs.pcEnd⟩, rfl, rfl⟩
  · obtain ⟨gs', -, rfl⟩ := runGen_ok hc
    obtain ⟨hrun, ha, hd⟩ := finishRun_failed hr hcls
    -- `loaded` has the stacks of `s`: the sizes `Run` restores are those of the interpreter at rest
    have hsz := run_error_sized fuel _ _ hrun
    exact ⟨⟨List.eq_nil_of_length_eq_zero (hsz.data.trans (congrArg List.length hrs.data)), hsz.linear.trans hrs.linear,
      List.eq_nil_of_length_eq_zero (hsz.addr.trans (congrArg List.length hrs.addr)), hsz.curfunc, Int.le_of_eq hsz.pcEnd.symm⟩,
      ha, hd⟩

end ZygoVerif.Contain
