/-
Structural part of `json_wellformed` (C11): the RFC 8259 parser reads the text written by
the model of SexpToJson back as the denotation of the value, at any depth. Number leaves
enter through the hypothesis `NumLeaves`, which is proved nowhere.

`Parses t j n` is the unit: the text `t` is read as `j` in front of whatever the encoder goes on with. The leaves
are `Parses` facts; a text that `Parses` is taken off the front of a list of elements or members by
`parseElems_comma` … `parseMembers_close`; `wf_value` follows the value with these and never opens the parser.
-/
import ZygoVerif.Proofs.JsonString
import ZygoVerif.Spec.JsonData
namespace ZygoVerif.Proofs.JsonWf
open ZygoVerif.Rfc8259 ZygoVerif.Json ZygoVerif.Print ZygoVerif.JsonData
open ZygoVerif.Proofs.JsonString

/-- what may follow a value inside the encoder's output: nothing, `,`, `]` or `}` -/
def Follow (rest : Bytes) : Prop :=
  rest = [] ∨ ∃ c r, rest = c :: r ∧ (c = 0x2C ∨ c = 0x5D ∨ c = 0x7D)

/-- the number leaves: text of an integer / of a finite float parses to its denotation -/
structure NumLeaves : Prop where
  int_head : ∀ n : Int, ∃ c r, itoa n = c :: r ∧ (c = 0x2D ∨ isDigit c = true)
  int_parse : ∀ (n : Int) (rest : Bytes), Follow rest →
    parseNumber (itoa n ++ rest) = some (JNumber.make (decide (n < 0)) n.natAbs 0 true, rest)
  flt_head : ∀ t, floatTextOk t = true → ∃ c r, floatJson t = c :: r ∧ (c = 0x2D ∨ isDigit c = true)
  flt_parse : ∀ (t : FloatText) (rest : Bytes), floatTextOk t = true → Follow rest →
    parseNumber (floatJson t ++ rest) = some (floatNumber t, rest)

theorem follow_comma (X : Bytes) : Follow (0x2C :: X) := Or.inr ⟨_, _, rfl, Or.inl rfl⟩
theorem follow_brack (X : Bytes) : Follow (0x5D :: X) := Or.inr ⟨_, _, rfl, Or.inr (Or.inl rfl)⟩
theorem follow_brace (X : Bytes) : Follow (0x7D :: X) := Or.inr ⟨_, _, rfl, Or.inr (Or.inr rfl)⟩

theorem skipWs_good (c : Nat) (X : Bytes) (h : isWs c = false) : skipWs (c :: X) = c :: X := by
  simp [skipWs, h]

/-- The parser reads the text `t` as `j` off the front of any input that goes on as the encoder's output does, with
any fuel above `n`. -/
def Parses (t : Bytes) (j : JValue) (n : Nat) : Prop :=
  ∀ f, n ≤ f → ∀ rest, Follow rest → parseValue (f + 1) (t ++ rest) = some (j, rest)

namespace Parses

theorem null : Parses (asciiBytes "null") .null 0 := fun _ _ _ _ => rfl
theorem bool (b : Bool) : Parses (if b then asciiBytes "true" else asciiBytes "false") (.bool b) 0 := by
  cases b <;> exact fun _ _ _ _ => rfl

theorem str {s : Bytes} (hv : validUtf8 s = true) : Parses (jsonQuote s) (.str s) 0 := fun f _ rest _ => by
  show parseValue (f + 1) (0x22 :: (jsonQuoteBody s ++ [0x22] ++ rest)) = _
  rw [List.append_assoc]
  simp only [parseValue, skipWs_good _ _ (show isWs 0x22 = false by decide), ↓reduceIte]
  rw [List.singleton_append, parseString_quote s rest hv]

/-- a number: the two facts `NumLeaves` gives of a number text -/
theorem num {t : Bytes} {n : JNumber} (hh : ∃ c r, t = c :: r ∧ (c = 0x2D ∨ isDigit c = true))
    (hp : ∀ rest, Follow rest → parseNumber (t ++ rest) = some (n, rest)) : Parses t (.num n) 0 := fun f _ rest hr => by
  obtain ⟨c, r, rfl, hc⟩ := hh
  have hp := hp rest hr
  have hws : isWs c = false := by
    rcases hc with rfl | hc
    · decide
    · simp only [isDigit, Bool.and_eq_true, decide_eq_true_eq] at hc
      simp only [isWs, Bool.or_eq_false_iff, decide_eq_false_iff_not]; omega
  have h1 : c ≠ 0x22 ∧ c ≠ 0x5B ∧ c ≠ 0x7B ∧ c ≠ 0x74 ∧ c ≠ 0x66 ∧ c ≠ 0x6E := by
    rcases hc with rfl | hc
    · decide
    · simp only [isDigit, Bool.and_eq_true, decide_eq_true_eq] at hc; omega
  obtain ⟨a1, a2, a3, a4, a5, a6⟩ := h1
  simp only [List.cons_append] at hp ⊢
  simp only [parseValue, skipWs_good _ _ hws]
  rw [if_neg a1, if_neg a2, if_neg a3, if_neg a4, if_neg a5, if_neg a6, if_pos hc, hp]

/-- with fuel within the length of the text, the text is a JSON text -/
theorem parse {t : Bytes} {j : JValue} {n : Nat} (h : Parses t j n) (hn : n ≤ t.length) : Rfc8259.parse t = some j := by
  have := h t.length hn [] (Or.inl rfl)
  rw [List.append_nil] at this
  unfold Rfc8259.parse
  rw [this]; rfl

end Parses

mutual
/-- parser fuel that suffices for a value -/
def need : V → Nat
  | .arr l => needList l + 1
  | .hash _ es => needEntries es + lenEntries es + 5
  | .nil => 0 | .bool _ => 0 | .int _ => 0 | .uint _ => 0 | .flt _ => 0 | .char _ => 0
  | .str _ _ => 0 | .sym _ => 0 | .list _ => 0
def needList : List V → Nat
  | [] => 0
  | a :: r => need a + 1 + needList r
def needEntries : List (V × V) → Nat
  | [] => 0
  | (_, v) :: r => need v + 1 + needEntries r
def lenEntries : List (V × V) → Nat
  | [] => 0
  | _ :: r => 1 + lenEntries r
end

theorem parseElems_succ (F : Nat) (inp : Bytes) (acc : List JValue) :
    parseElems (F + 1) inp acc =
      (match parseValue F inp with
       | none => none
       | some (v, r) =>
         match skipWs r with
         | 0x2C :: r' => parseElems F r' (acc ++ [v])
         | 0x5D :: r' => some (.arr (acc ++ [v]), r')
         | _ => none) := by
  rw [parseElems]; rfl

theorem parseMembers_succ (F : Nat) (inp : Bytes) (acc : List (Bytes × JValue)) :
    parseMembers (F + 1) inp acc =
      (match skipWs inp with
       | 0x22 :: r =>
         match parseString r with
         | none => none
         | some (k, r1) =>
           match skipWs r1 with
           | 0x3A :: r2 =>
             match parseValue F r2 with
             | none => none
             | some (v, r3) =>
               match skipWs r3 with
               | 0x2C :: r' => parseMembers F r' (acc ++ [(k, v)])
               | 0x7D :: r' => some (.obj (acc ++ [(k, v)]), r')
               | _ => none
           | _ => none
       | _ => none) := by
  rw [parseMembers]; rfl

/-- one member `"k":<value text>` in front of `X`, when the value text parses -/
theorem parse_member0 (F : Nat) (kt : Bytes) (hk : validUtf8 kt = true) (J X : Bytes) (jv : JValue)
    (acc : List (Bytes × JValue)) (hv : parseValue F (J ++ X) = some (jv, X)) :
    parseMembers (F + 1) (jsonQuote kt ++ 0x3A :: J ++ X) acc =
      (match skipWs X with
       | 0x2C :: r' => parseMembers F r' (acc ++ [(kt, jv)])
       | 0x7D :: r' => some (.obj (acc ++ [(kt, jv)]), r')
       | _ => none) := by
  rw [parseMembers_succ]
  have h1 : skipWs (jsonQuote kt ++ 0x3A :: J ++ X) = 0x22 :: (jsonQuoteBody kt ++ 0x22 :: (0x3A :: J ++ X)) := by
    simp [skipWs, isWs, jsonQuote]
  rw [h1]
  simp only [parseString_quote kt _ hk]
  have h2 : skipWs (0x3A :: J ++ X) = 0x3A :: (J ++ X) := by simp [skipWs, isWs]
  simp only [h2, hv]

/-! ### white space, and the two brackets -/

theorem parseValue_ws (f : Nat) (X : Bytes) : parseValue f (0x20 :: X) = parseValue f X := by
  cases f with
  | zero => simp only [parseValue]
  | succ f => simp only [parseValue, skipWs, show isWs 0x20 = true by decide, if_true]

theorem parseElems_ws (F : Nat) (X : Bytes) (acc : List JValue) : parseElems F (0x20 :: X) acc = parseElems F X acc := by
  cases F with
  | zero => simp only [parseElems]
  | succ f => rw [parseElems_succ, parseElems_succ, parseValue_ws]

theorem parseMembers_ws (F : Nat) (Y : Bytes) (acc : List (Bytes × JValue)) :
    parseMembers F (0x20 :: Y) acc = parseMembers F Y acc := by
  cases F with
  | zero => simp only [parseMembers]
  | succ f => rw [parseMembers_succ, parseMembers_succ]; rfl

theorem parseValue_brack (f : Nat) (X r : Bytes) (h : skipWs X = 0x5D :: r) : parseValue f X = none := by
  cases f with
  | zero => simp only [parseValue]
  | succ f => simp only [parseValue, h]; rfl

/-- `[` in front of elements that are read up to `]`. The parser looks for an empty array first; no value begins with
`]` (`parseValue_brack`), so elements that are read do not, and nothing need be known of how their text begins. -/
theorem parseValue_arr (f : Nat) (X : Bytes) (res : JValue × Bytes) (h : parseElems (f + 1) X [] = some res) :
    parseValue (f + 2) (0x5B :: X) = some res := by
  simp only [parseValue, skipWs_good _ _ (show isWs 0x5B = false by decide)]
  rw [if_neg (show ¬ (0x5B : Nat) = 0x22 by decide), if_true]
  split
  · rename_i r heq
    rw [parseElems_succ, parseValue_brack f X r heq] at h
    cases h
  · exact h

/-- `{` in front of members that are read up to `}`, in the same way -/
theorem parseValue_obj (f : Nat) (X : Bytes) (res : JValue × Bytes) (h : parseMembers (f + 1) X [] = some res) :
    parseValue (f + 2) (0x7B :: X) = some res := by
  simp only [parseValue, skipWs_good _ _ (show isWs 0x7B = false by decide)]
  rw [if_neg (show ¬ (0x7B : Nat) = 0x22 by decide), if_neg (show ¬ (0x7B : Nat) = 0x5B by decide), if_true]
  split
  · rename_i r heq
    rw [parseMembers_succ, heq] at h
    cases h
  · exact h

/-! ### one element, one member -/

section
variable {t : Bytes} {j : JValue} {n f : Nat} (h : Parses t j n) (hf : n ≤ f)
include h hf

theorem parseElems_comma (X : Bytes) (acc : List JValue) :
    parseElems (f + 2) (t ++ 0x2C :: X) acc = parseElems (f + 1) X (acc ++ [j]) := by
  rw [parseElems_succ, h f hf _ (follow_comma X)]; rfl

theorem parseElems_close (rest : Bytes) (acc : List JValue) :
    parseElems (f + 2) (t ++ 0x5D :: rest) acc = some (.arr (acc ++ [j]), rest) := by
  rw [parseElems_succ, h f hf _ (follow_brack rest)]; rfl

variable {k : Bytes} (hk : validUtf8 k = true)
include hk

theorem parseMembers_comma (X : Bytes) (acc : List (Bytes × JValue)) :
    parseMembers (f + 2) (jsonQuote k ++ 0x3A :: (t ++ 0x2C :: X)) acc = parseMembers (f + 1) X (acc ++ [(k, j)]) := by
  have := parse_member0 (f + 1) k hk t _ j acc (h f hf _ (follow_comma X))
  rw [List.append_assoc, List.cons_append] at this
  exact this

theorem parseMembers_close (rest : Bytes) (acc : List (Bytes × JValue)) :
    parseMembers (f + 2) (jsonQuote k ++ 0x3A :: (t ++ 0x7D :: rest)) acc = some (.obj (acc ++ [(k, j)]), rest) := by
  have := parse_member0 (f + 1) k hk t _ j acc (h f hf _ (follow_brace rest))
  rw [List.append_assoc, List.cons_append] at this
  exact this

end

/-- elements that are read up to `]`, between brackets -/
theorem Parses.arr {t : Bytes} {js : List JValue} {n : Nat}
    (h : ∀ F, n ≤ F → ∀ acc rest, parseElems (F + 1) (t ++ 0x5D :: rest) acc = some (.arr (acc ++ js), rest)) :
    Parses (0x5B :: t ++ [0x5D]) (.arr js) (n + 1) := fun f hf rest _ => by
  obtain ⟨f, rfl⟩ : ∃ g, f = g + 1 := ⟨f - 1, by omega⟩
  simpa using parseValue_arr f _ _ (h f (by omega) [] rest)

theorem Parses.arr_nil (n : Nat) : Parses [0x5B, 0x5D] (.arr []) n := fun _ _ _ _ => rfl

def keyOk : V → Bool
  | .str s _ => validUtf8 s
  | .sym n => validUtf8 n
  | _ => false

theorem keyOk_text (k : V) (h : keyOk k = true) : keyNameD k = keyText k ∧ validUtf8 (keyText k) = true := by
  cases k <;> simp_all [keyOk, keyNameD, keyName?, keyText]

theorem inDomEntries_cons (k v : V) (r : List (V × V)) (h : inDomEntries ((k, v) :: r) = true) :
    keyOk k = true ∧ inDom v = true ∧ inDomEntries r = true := by
  simp only [inDomEntries, Bool.and_eq_true] at h
  refine ⟨?_, h.1.2, h.2⟩
  cases k <;> simp_all [keyOk]

/-- the array of key names that closes an encoded hash -/
theorem wf_keys : ∀ (es : List (V × V)), es ≠ [] → inDomEntries es = true → ∀ (F : Nat), lenEntries es ≤ F →
    ∀ (acc : List JValue) (rest : Bytes),
    parseElems (F + 1) (jsonKeyList es ++ 0x5D :: rest) acc = some (.arr (acc ++ denoteKeys es), rest)
  | [], hne, _, _, _, _, _ => absurd rfl hne
  | (k, v) :: r, _, hd, F, hF, acc, rest => by
    obtain ⟨hk, _, hr⟩ := inDomEntries_cons k v r hd
    obtain ⟨hkt, hkv⟩ := keyOk_text k hk
    simp only [lenEntries] at hF
    obtain ⟨f, rfl⟩ : ∃ f, F = f + 1 := ⟨F - 1, by omega⟩
    cases r with
    | nil => simpa [jsonKeyList, jsonKeyListTail, denoteKeys, hkt] using parseElems_close (Parses.str hkv) (Nat.zero_le f) rest acc
    | cons e r =>
      have ih := wf_keys (e :: r) (by simp) hr f (by omega) (acc ++ [.str (keyText k)]) rest
      obtain ⟨k2, v2⟩ := e
      simp only [jsonKeyList, jsonKeyListTail, List.append_assoc, List.cons_append, List.nil_append] at ih ⊢
      rw [parseElems_comma (Parses.str hkv) (Nat.zero_le f), parseElems_ws, ih]
      simp [denoteKeys, hkt]

def afterLead : List (V × V) → Bytes → Bytes
  | [], Z => Z
  | (k, v) :: r, Z => jsonQuote (keyText k) ++ 0x3A :: sexpToJson v ++ 0x2C :: 0x20 :: afterLead r Z

theorem members_afterLead (es : List (V × V)) (Z : Bytes) :
    jsonMembers es ++ 0x2C :: 0x20 :: Z = 0x2C :: 0x20 :: afterLead es Z := by
  induction es with
  | nil => simp [jsonMembers, afterLead]
  | cons e r ih =>
    obtain ⟨k, v⟩ := e
    simp only [jsonMembers, afterLead, List.append_assoc, List.cons_append, List.nil_append, ih]

/-- the text of a hash, member by member -/
theorem hash_text (tn : Bytes) (es : List (V × V)) (rest : Bytes) :
    sexpToJson (.hash tn es) ++ rest = 0x7B :: (jsonQuote JsonData.atype ++ 0x3A :: (jsonQuote tn ++
      (if es.isEmpty then 0x7D :: rest else 0x2C :: 0x20 ::
        afterLead es (jsonQuote JsonData.zKeyOrder ++ 0x3A :: ((0x5B :: jsonKeyList es ++ [0x5D]) ++ 0x7D :: rest))))) := by
  have hA : asciiBytes "{\"Atype\":" = 0x7B :: (jsonQuote JsonData.atype ++ [0x3A]) := by decide +kernel
  have hZ : asciiBytes ", \"zKeyOrder\":[" = 0x2C :: 0x20 :: (jsonQuote JsonData.zKeyOrder ++ [0x3A, 0x5B]) := by
    decide +kernel
  simp only [sexpToJson, hA, hZ, ← members_afterLead]
  split <;> simp

mutual
theorem wf_value (nl : NumLeaves) : ∀ (v : V), inDom v = true → Parses (sexpToJson v) (denote v) (need v)
  | .nil, _ => by simpa only [sexpToJson, denote, need] using Parses.null
  | .bool b, _ => by simpa only [sexpToJson, sexpString, denote, need] using Parses.bool b
  | .int n, _ => by
    simpa only [sexpToJson, sexpString, denote, need] using Parses.num (nl.int_head n) (nl.int_parse n)
  | .flt fl, hd => by
    simp only [inDom] at hd
    simpa only [sexpToJson, denote, need] using
      Parses.num (nl.flt_head fl.jtext hd) (fun rest => nl.flt_parse fl.jtext rest hd)
  | .str s b, hd => by
    simp only [inDom] at hd
    simpa only [sexpToJson, denote, need] using Parses.str hd
  | .sym s, hd => by
    simp only [inDom] at hd
    simpa only [sexpToJson, denote, need] using Parses.str hd
  | .uint _, hd => by simp [inDom] at hd
  | .char _, hd => by simp [inDom] at hd
  | .list _, hd => by simp [inDom] at hd
  | .arr [], _ => by simpa [sexpToJson, jsonElems, denote, denoteList, need, needList] using Parses.arr_nil 1
  | .arr (a :: r), hd => by
    simp only [inDom] at hd
    simpa only [sexpToJson, denote, need] using Parses.arr (wf_list nl (a :: r) hd (by simp))
  | .hash tn es, hd => fun f hf rest _ => by
    simp only [inDom, Bool.and_eq_true] at hd
    simp only [need] at hf
    obtain ⟨g, rfl⟩ : ∃ g, f = g + 2 := ⟨f - 2, by omega⟩
    have hvA : validUtf8 JsonData.atype = true := by decide +kernel
    rw [hash_text]
    apply parseValue_obj
    cases es with
    | nil =>
      rw [List.isEmpty_nil, if_pos rfl, parseMembers_close (Parses.str hd.1) (Nat.zero_le g) hvA]
      simp [denote, denoteEntries]
    | cons e r =>
      have hvZ : validUtf8 JsonData.zKeyOrder = true := by decide +kernel
      rw [List.isEmpty_cons, if_neg Bool.false_ne_true, parseMembers_comma (Parses.str hd.1) (Nat.zero_le g) hvA,
        wf_entries nl (e :: r) hd.2 g (lenEntries (e :: r) + 2) (by omega) _ _
          (JsonData.zKeyOrder, .arr (denoteKeys (e :: r))) rest]
      · simp [denote]
      · intro F' hF' acc'
        obtain ⟨g', rfl⟩ : ∃ g', F' = g' + 1 := ⟨F' - 1, by omega⟩
        rw [parseMembers_ws]
        exact parseMembers_close (Parses.arr (wf_keys _ (by simp) hd.2)) (by omega) hvZ rest acc'
theorem wf_list (nl : NumLeaves) : ∀ (l : List V), inDomList l = true → l ≠ [] → ∀ (F : Nat), needList l ≤ F →
    ∀ (acc : List JValue) (rest : Bytes),
    parseElems (F + 1) (jsonElems l ++ 0x5D :: rest) acc = some (.arr (acc ++ denoteList l), rest)
  | [], _, hne, _, _, _, _ => absurd rfl hne
  | a :: r, hd, _, F, hF, acc, rest => by
    simp only [inDomList, Bool.and_eq_true] at hd
    simp only [needList] at hF
    obtain ⟨f, rfl⟩ : ∃ f, F = f + 1 := ⟨F - 1, by omega⟩
    have ha := wf_value nl a hd.1
    cases r with
    | nil => simpa [jsonElems, jsonElemsTail, denoteList] using parseElems_close ha (by omega) rest acc
    | cons b r =>
      have ih := wf_list nl (b :: r) hd.2 (by simp) f (by omega) (acc ++ [denote a]) rest
      simp only [jsonElems, jsonElemsTail, List.append_assoc, List.cons_append, List.nil_append] at ih ⊢
      rw [parseElems_comma ha (by omega), parseElems_ws, ih]
      simp [denoteList]
theorem wf_entries (nl : NumLeaves) : ∀ (es : List (V × V)), inDomEntries es = true → ∀ (F L : Nat), needEntries es + L ≤ F →
    ∀ (acc : List (Bytes × JValue)) (Z : Bytes) (zm : Bytes × JValue) (rest : Bytes),
    (∀ F', L ≤ F' → ∀ acc', parseMembers (F' + 1) (0x20 :: Z) acc' = some (.obj (acc' ++ [zm]), rest)) →
    parseMembers (F + 1) (0x20 :: afterLead es Z) acc = some (.obj (acc ++ denoteEntries es ++ [zm]), rest)
  | [], _, F, L, hF, acc, Z, zm, rest, hZ => by
    simp only [needEntries] at hF
    simpa [afterLead, denoteEntries] using hZ F (by omega) acc
  | (k, v) :: r, hd, F, L, hF, acc, Z, zm, rest, hZ => by
    obtain ⟨hk, hv, hr⟩ := inDomEntries_cons k v r hd
    obtain ⟨hkt, hkv⟩ := keyOk_text k hk
    simp only [needEntries] at hF
    obtain ⟨f, rfl⟩ : ∃ f, F = f + 1 := ⟨F - 1, by omega⟩
    simp only [afterLead, List.append_assoc, List.cons_append]
    rw [parseMembers_ws, parseMembers_comma (wf_value nl v hv) (by omega) hkv,
      wf_entries nl r hr f L (by omega) _ Z zm rest hZ]
    simp [denoteEntries, hkt]
end

end ZygoVerif.Proofs.JsonWf
