/-
What every run of the code generator does, whatever the expression.

* the loop ids of a listing (`Bal.ilids`, `Bal.idsIn`: each id once, allocated in a given range) along the ways code is put
  together;
* `GenWalk`: induction over the successful runs. The eight functions call one another, so a fact about what they return is
  proved for all eight at once; a `GenWalk` is such a proof laid out — one statement per function and one step per clause of
  the model — and `GenWalk.of_compile` … `of_compileNewScope` run the induction, once for every walk;
* `factsWalk`: the code is not empty, the generator's tables are extended and its stacks as they were (`KeepFns`), every
  `loopStart` id in the returned code occurs once and is that of a loop record allocated meanwhile (`Ran`), and the flag
  returned is never set when it was clear on entry. `compile_facts` and its siblings say the first three over `LsIn`.
  None of this depends on the fragment the expression lies in; the fragments only decide whether the run succeeds.
-/
import ZygoVerif.Proofs.GenClauses
namespace ZygoVerif.Bal
open ZygoVerif.VM ZygoVerif.Core

def ilid? : Instr → Option Nat
  | .loopStart l => some l
  | _ => none

def ilids (code : List Instr) : List Nat := code.filterMap ilid?

theorem ilids_append (a b : List Instr) : ilids (a ++ b) = ilids a ++ ilids b := by simp [ilids]

theorem ilids_cons (i : Instr) (r : List Instr) : ilids (i :: r) = (ilid? i).toList ++ ilids r := by
  simp only [ilids, List.filterMap_cons]
  cases ilid? i <;> simp

theorem ilids_plain_cons (x : Instr) (r : List Instr) (h : ilid? x = none) : ilids (x :: r) = ilids r := by
  rw [ilids_cons, h]; rfl

/-- each loop id in `code` occurs once and was allocated between `lo` and `hi` -/
def idsIn (code : List Instr) (lo hi : Nat) : Prop :=
  ∀ l, (ilids code).count l ≤ 1 ∧ (0 < (ilids code).count l → lo ≤ l ∧ l < hi)

theorem idsIn_nil (lo hi : Nat) : idsIn [] lo hi := by
  intro l; simp [ilids]

theorem idsIn_mono {code : List Instr} {lo hi lo' hi' : Nat} (h : idsIn code lo hi) (h1 : lo' ≤ lo) (h2 : hi ≤ hi') :
    idsIn code lo' hi' := by
  intro l
  have := h l
  omega

/-- two pieces with ids from disjoint ranges, in either order -/
theorem idsIn_app {a b : List Instr} {lo mid hi : Nat} (ha : idsIn a lo mid) (hb : idsIn b mid hi) (h1 : lo ≤ mid) (h2 : mid ≤ hi) :
    idsIn (a ++ b) lo hi := by
  intro l
  have := ha l
  have := hb l
  simp only [ilids_append, List.count_append]
  omega

theorem idsIn_comm {a b : List Instr} {lo hi : Nat} (h : idsIn (a ++ b) lo hi) : idsIn (b ++ a) lo hi := by
  intro l
  have := h l
  simp only [ilids_append, List.count_append] at this ⊢
  omega

theorem idsIn_app' {a b : List Instr} {lo mid hi : Nat} (ha : idsIn a mid hi) (hb : idsIn b lo mid) (h1 : lo ≤ mid) (h2 : mid ≤ hi) :
    idsIn (a ++ b) lo hi := idsIn_comm (idsIn_app hb ha h1 h2)

theorem idsIn_plain {a p : List Instr} {lo hi : Nat} (ha : idsIn a lo hi) (hp : ilids p = []) :
    idsIn (a ++ p) lo hi ∧ idsIn (p ++ a) lo hi := by
  constructor <;> intro l <;> have := ha l <;> simp only [ilids_append, List.count_append, hp, List.count_nil] <;> omega

theorem idsIn_of_plain {p : List Instr} (lo hi : Nat) (hp : ilids p = []) : idsIn p lo hi := by
  intro l; simp [hp]

theorem mem_range_of_idsIn {code : List Instr} {lo hi : Nat} (h : idsIn code lo hi) (l : Nat) (hl : l ∈ ilids code) :
    lo ≤ l ∧ l < hi :=
  (h l).2 (List.count_pos_iff.mpr hl)

theorem mem_ilids {code : List Instr} {l : Nat} : l ∈ ilids code ↔ Instr.loopStart l ∈ code := by
  simp only [ilids, List.mem_filterMap]
  constructor
  · rintro ⟨i, hi, he⟩
    cases i <;> first | (cases he; exact hi) | cases he
  · intro h; exact ⟨_, h, rfl⟩

theorem ilids_popBinds (bs : List (String × Expr)) : ilids ((bs.map (fun p => Instr.popStackPutEnv p.1)).reverse) = [] := by
  rw [← List.map_reverse]
  induction bs.reverse with
  | nil => rfl
  | cons x xs ih => rw [List.map_cons, ilids_plain_cons _ _ rfl]; exact ih

theorem idsIn_asmSC_cons (isOr : Bool) (a : List Instr) (rest : List (List Instr)) (lo mid hi : Nat)
    (h1 : lo ≤ mid) (h2 : mid ≤ hi) (ha : idsIn a mid hi) (hr : idsIn (asmSC isOr rest) lo mid) :
    idsIn (asmSC isOr (a :: rest)) lo hi := by
  cases rest with
  | nil => simpa [asmSC] using idsIn_mono ha h1 (Nat.le_refl _)
  | cons r rs =>
    have hp : ilids [Instr.dup, Instr.branch isOr (((asmSC isOr (r :: rs)).length : Int) + 2), Instr.pop] = [] := rfl
    have := idsIn_app' (idsIn_plain ha hp).1 hr h1 h2
    simpa [asmSC, List.append_assoc] using this

theorem ilids_forCode (loop : Nat) (i t s b : List Instr) :
    ilids (Sim.forCode loop i t s b) = loop :: (ilids i ++ (ilids s ++ (ilids t ++ ilids b))) := by
  rw [Sim.forCode_lFor]
  simp only [Sim.lFor, Sim.lCont, Sim.lTest, Sim.lEnd, ilids, List.filterMap_cons, List.filterMap_append, List.filterMap_nil,
    ilid?, List.append_nil]

theorem idsIn_for (loop : Nat) (i t s b : List Instr) (n2 n3 n4 n5 : Nat)
    (hb : idsIn b (loop + 1) n2) (hi : idsIn i n2 n3) (ht : idsIn t n3 n4) (hs : idsIn s n4 n5)
    (h1 : loop + 1 ≤ n2) (h2 : n2 ≤ n3) (h3 : n3 ≤ n4) (h4 : n4 ≤ n5) : idsIn (Sim.forCode loop i t s b) loop n5 := by
  intro l
  have := hb l
  have := hi l
  have := ht l
  have := hs l
  rw [ilids_forCode]
  simp only [List.count_cons, List.count_append]
  by_cases hl : loop = l
  · subst hl
    simp only [beq_self_eq_true, if_true]
    omega
  · have : (loop == l) = false := by simpa using hl
    simp only [this, Bool.false_eq_true, if_false]
    omega

/-- one more arm in front: test and body were compiled after the later arms -/
theorem idsIn_asmCond_cons {pc bc : List Instr} {rest : List (List Instr × List Instr)} {dflt : List Instr} {lo g1 g2 g3 : Nat}
    (hp : idsIn pc g1 g2) (hb : idsIn bc g2 g3) (hr : idsIn (asmCond rest dflt) lo g1) (h0 : lo ≤ g1) (h1 : g1 ≤ g2) (h2 : g2 ≤ g3) :
    idsIn (asmCond ((pc, bc) :: rest) dflt) lo g3 := by
  have s1 := (idsIn_plain hp (rfl : ilids [Instr.branch false ((bc.length : Int) + 2)] = [])).1
  have s3 := (idsIn_plain (idsIn_app s1 hb h1 h2) (rfl : ilids [Instr.jump (((asmCond rest dflt).length : Int) + 1)] = [])).1
  simpa [asmCond, List.append_assoc] using idsIn_app' s3 hr h0 (Nat.le_trans h1 h2)

theorem idsIn_tailCode {argcode : List Instr} {lo hi : Nat} (hd : String) (sc : Nat) (args : List Expr) (h : idsIn argcode lo hi) :
    idsIn (Sim.tailCode hd sc args argcode) lo hi := by
  unfold Sim.tailCode
  have hplain : ilids ([Instr.prepareCall hd args.length] ++ List.replicate (sc + 1) Instr.removeScope ++
      [Instr.goto 0, Instr.callExpr (.sym hd) args]) = [] := by
    have h2 : ilids [Instr.goto 0, Instr.callExpr (.sym hd) args] = [] := rfl
    have h1 : ilids [Instr.prepareCall hd args.length] = [] := rfl
    have hr : ilids (List.replicate (sc + 1) Instr.removeScope) = [] := List.filterMap_replicate_of_none rfl
    simp only [ilids_append, h1, hr, h2, List.append_nil]
  have h2 := (idsIn_plain (idsIn_plain h hplain).1 (rfl : ilids [Instr.tailGuard hd (argcode.length + sc + 4)] = [])).2
  simpa [List.append_assoc] using h2

/-- the code of a `let`: the scope instructions and the bindings of a parallel `let` carry no loop id -/
theorem idsIn_let {rhs b : List Instr} {lo mid hi : Nat} (seq : Bool) (bs : List (String × Expr)) (hr : idsIn rhs lo mid)
    (hb : idsIn b mid hi) (h1 : lo ≤ mid) (h2 : mid ≤ hi) :
    idsIn ([.addScope] ++ rhs ++ (if seq then [] else (bs.map (fun p => Instr.popStackPutEnv p.1)).reverse) ++ b ++ [.removeScope]) lo hi := by
  have hbinds : ilids (if seq then [] else (bs.map (fun p => Instr.popStackPutEnv p.1)).reverse) = [] := by
    cases seq
    · exact ilids_popBinds bs
    · rfl
  have s2 := (idsIn_plain (idsIn_plain hr (rfl : ilids [Instr.addScope] = [])).2 hbinds).1
  exact (idsIn_plain (idsIn_app s2 hb h1 h2) (rfl : ilids [Instr.removeScope] = [])).1

end ZygoVerif.Bal

namespace ZygoVerif.VM
open ZygoVerif.Core ZygoVerif.Sim

/-- A proof about what the eight compile functions return, laid out.
One statement per function, about the context, the input, the state before, and the code, flag and state returned: `E` for
`compile`, `A` `compileAll`, `C` `compileCallArgs`, `B` `compileBegin`, `R` `compileArms`, `S` `compileSC`, `L` `compileBinds`,
`N` `compileNewScope`. One step per clause of the model, named after the form: its hypotheses are the sub-runs the clause
makes, in the order the model makes them, each as its run equation followed by its statement; its conclusion is the
statement of the result the clause assembles. Only successful runs are walked: a clause that throws has no step, and
nothing is said about when a run exists (that is `Sim.compile_ok_Cp`). A walk that needs of a sub-run what another walk
shows takes it from the run equation (`Bal.balLWalk` reads `Sim.factsWalk` so). -/
structure GenWalk (isFn : Nat → Bool) where
  E : Ctx → Expr → GS → List Instr → Bool → GS → Prop
  A : Ctx → List Expr → GS → List Instr → Bool → GS → Prop
  C : Ctx → Option FnObj → Nat → List Expr → GS → List Instr → GS → Prop
  B : Ctx → List Expr → GS → List Instr → Bool → GS → Prop
  R : Ctx → List (Expr × Expr) → GS → List (List Instr × List Instr) → GS → Prop
  S : Ctx → List Expr → GS → List (List Instr) → GS → Prop
  L : Ctx → Bool → List (String × Expr) → GS → List Instr → Bool → GS → Prop
  N : Ctx → Bool → List Expr → GS → List Instr → Bool → GS → Prop
  int : ∀ {c gs} v, E c (.int v) gs [.push (intOfLit v)] c.tail gs
  bool : ∀ {c gs} b, E c (.bool b) gs [.push (.bool b)] c.tail gs
  str : ∀ {c gs} s, E c (.str s) gs [.push (.str s)] c.tail gs
  nil : ∀ {c gs}, E c .nilLit gs [.push .nil] c.tail gs
  sym : ∀ {c gs} x, E c (.sym x) gs [.envToStack x] c.tail gs
  arr : ∀ {c gs es a t g1}, (compileAll isFn { c with tail := false } es).run gs = .ok ((a, t), g1) →
    A { c with tail := false } es gs a t g1 → E c (.arr es) gs (a ++ [.callArr es.length]) c.tail g1
  call : ∀ {c gs} f args, E c (.call f args) gs [.callExpr f args] c.tail gs
  /-- the self tail call (fix C09-02) -/
  selfCall : ∀ {gs hd args a g1} c, c.tail = true → hd = c.funcname →
    arityOk (knownFn c gs hd) args.length = true →
    (compileCallArgs isFn { c with tail := false } (knownFn c gs hd) 0 args).run gs = .ok (a, g1) →
    C { c with tail := false } (knownFn c gs hd) 0 args gs a g1 →
    E c (.call (.sym hd) args) gs (tailCode hd c.scopes args a) c.tail g1
  beginNil : ∀ {c gs}, E c (.begin_ []) gs [.push .nil] c.tail gs
  begin_ : ∀ {c gs e es a t g1}, (compileBegin isFn c (e :: es)).run gs = .ok ((a, t), g1) → B c (e :: es) gs a t g1 →
    E c (.begin_ (e :: es)) gs a t g1
  def_ : ∀ {c gs e a t g1} x, (compile isFn { c with tail := false } e).run gs = .ok ((a, t), g1) →
    E { c with tail := false } e gs a t g1 → E c (.def_ x e) gs (a ++ [.dup, .popStackPutEnv x]) false g1
  set_ : ∀ {c gs e a t g1} x, (compile isFn { c with tail := false } e).run gs = .ok ((a, t), g1) →
    E { c with tail := false } e gs a t g1 → E c (.set_ x e) gs (a ++ [.dup, .update x]) false g1
  cond : ∀ {c gs arms d dc t g1 as g2}, (compile isFn c d).run gs = .ok ((dc, t), g1) → E c d gs dc t g1 →
    (compileArms isFn c arms).run g1 = .ok (as, g2) → R c arms g1 as g2 →
    E c (.cond arms d) gs (asmCond as dc) c.tail g2
  and_ : ∀ {c gs es cs g1}, (compileSC isFn c es).run gs = .ok (cs, g1) → S c es gs cs g1 →
    E c (.and_ es) gs (asmSC false cs) c.tail g1
  or_ : ∀ {c gs es cs g1}, (compileSC isFn c es).run gs = .ok (cs, g1) → S c es gs cs g1 →
    E c (.or_ es) gs (asmSC true cs) c.tail g1
  let_ : ∀ {c gs body rhs t1 g1 b t g2} seq bs,
    (compileBinds isFn { c with scopes := c.scopes + 1, tail := false } seq bs).run gs = .ok ((rhs, t1), g1) →
    L { c with scopes := c.scopes + 1, tail := false } seq bs gs rhs t1 g1 →
    (compileBegin isFn { c with scopes := c.scopes + 1 } body).run g1 = .ok ((b, t), g2) →
    B { c with scopes := c.scopes + 1 } body g1 b t g2 →
    E c (.let_ seq bs body) gs
      ([.addScope] ++ rhs ++ (if seq then [] else (bs.map (fun p => Instr.popStackPutEnv p.1)).reverse) ++ b ++ [.removeScope]) t g2
  newScopeNil : ∀ {c gs}, E c (.newScope []) gs [.push .nil] false gs
  newScope : ∀ {c gs e es a t g1},
    (compileNewScope isFn { c with scopes := c.scopes + 1 } c.tail (e :: es)).run gs = .ok ((a, t), g1) →
    N { c with scopes := c.scopes + 1 } c.tail (e :: es) gs a t g1 →
    E c (.newScope (e :: es)) gs ([.addScope] ++ a ++ [.removeScope]) t g1
  /-- the body first, then initialiser, test and increment, all with the loop's record pushed -/
  for_ : ∀ {init test incr body b tb g2 i ti g3 t tt g4 s ts g5} c gs label,
    (compileBegin isFn { c with tail := false, scopes := c.scopes + 1 } body).run (forGs gs c label) = .ok ((b, tb), g2) →
    B { c with tail := false, scopes := c.scopes + 1 } body (forGs gs c label) b tb g2 →
    (compile isFn { c with tail := false, scopes := c.scopes + 1 } init).run g2 = .ok ((i, ti), g3) →
    E { c with tail := false, scopes := c.scopes + 1 } init g2 i ti g3 →
    (compile isFn { c with tail := false, scopes := c.scopes + 1 } test).run g3 = .ok ((t, tt), g4) →
    E { c with tail := false, scopes := c.scopes + 1 } test g3 t tt g4 →
    (compile isFn { c with tail := false, scopes := c.scopes + 1 } incr).run g4 = .ok ((s, ts), g5) →
    E { c with tail := false, scopes := c.scopes + 1 } incr g4 s ts g5 →
    E c (.for_ label init test incr body) gs (forCode gs.loops.length i t s b) c.tail
      (forDone g5 gs.loops.length (forOffs gs.loops.length i t s b).1 (forOffs gs.loops.length i t s b).2)
  break_ : ∀ {c gs l id}, findLoop gs l = some id →
    E c (.break_ l) gs [.brk id (c.scopes - ((gs.loops.getD id {}).scopeDepth + 1))] c.tail gs
  continue_ : ∀ {c gs l id}, findLoop gs l = some id →
    E c (.continue_ l) gs [.cont id (c.scopes - ((gs.loops.getD id {}).scopeDepth + 1))] c.tail gs
  fn : ∀ {body b t g2} c gs ps rest,
    (compileBegin isFn (Bal.bodyCtx c gs "" true) body).run (Bal.allocGs isFn gs "" ps rest) = .ok ((b, t), g2) →
    B (Bal.bodyCtx c gs "" true) body (Bal.allocGs isFn gs "" ps rest) b t g2 →
    E c (.fn ps rest body) gs [.createClosure gs.fns.length] c.tail (Bal.finishGs gs.fns.length b g2)
  defn : ∀ {body b t g2} c gs name ps rest,
    (compileBegin isFn (Bal.bodyCtx c gs name (!rebindsOwnName name ps rest body)) body).run (Bal.allocGs isFn gs name ps rest)
      = .ok ((b, t), g2) →
    B (Bal.bodyCtx c gs name (!rebindsOwnName name ps rest body)) body (Bal.allocGs isFn gs name ps rest) b t g2 →
    E c (.defn name ps rest body) gs [.createClosure gs.fns.length, .popStackPutEnv name, .push .nil] c.tail
      (Bal.finishGs gs.fns.length b g2)
  assign : ∀ {c gs l e a ta g1 b tb g2}, (compile isFn { c with tail := false } l).run gs = .ok ((a, ta), g1) →
    E { c with tail := false } l gs a ta g1 → (compile isFn { c with tail := false } e).run g1 = .ok ((b, tb), g2) →
    E { c with tail := false } e g1 b tb g2 → E c (.assign l e) gs (a ++ b ++ [.assign]) false g2
  allNil : ∀ {c gs}, A c [] gs [] c.tail gs
  allCons : ∀ {c gs e es a ta g1 b tb g2}, (compile isFn c e).run gs = .ok ((a, ta), g1) → E c e gs a ta g1 →
    (compileAll isFn { c with tail := ta } es).run g1 = .ok ((b, tb), g2) → A { c with tail := ta } es g1 b tb g2 →
    A c (e :: es) gs (a ++ b) tb g2
  argsNil : ∀ {c f i gs}, C c f i [] gs [] gs
  argsLazy : ∀ {c fo i e es gs b g1}, fo.isLazyCallArg i = true →
    (compileCallArgs isFn c (some fo) (i + 1) es).run gs = .ok (b, g1) → C c (some fo) (i + 1) es gs b g1 →
    C c (some fo) i (e :: es) gs ([.pushLazy e] ++ b) g1
  argsCons : ∀ {c f i e es gs a ta g1 b g2}, (compile isFn c e).run gs = .ok ((a, ta), g1) → E c e gs a ta g1 →
    (compileCallArgs isFn c f (i + 1) es).run g1 = .ok (b, g2) → C c f (i + 1) es g1 b g2 →
    C c f i (e :: es) gs (a ++ b) g2
  beginNilL : ∀ {c gs}, B c [] gs [] false gs
  beginOne : ∀ {c gs e a t g1}, (compile isFn c e).run gs = .ok ((a, t), g1) → E c e gs a t g1 → B c [e] gs a t g1
  beginCons : ∀ {c gs e e' es ta g1 b tb g2} a, (compile isFn { c with tail := false } e).run gs = .ok ((a, ta), g1) →
    E { c with tail := false } e gs a ta g1 → (compileBegin isFn c (e' :: es)).run g1 = .ok ((b, tb), g2) →
    B c (e' :: es) g1 b tb g2 →
    B c (e :: e' :: es) gs (a ++ (if a.isEmpty then [] else [.pop]) ++ b) tb g2
  armsNil : ∀ {c gs}, R c [] gs [] gs
  /-- the later arms first -/
  armsCons : ∀ {c gs p b arms rr g1 pc tp g2 bc tb g3}, (compileArms isFn c arms).run gs = .ok (rr, g1) → R c arms gs rr g1 →
    (compile isFn { c with tail := false } p).run g1 = .ok ((pc, tp), g2) → E { c with tail := false } p g1 pc tp g2 →
    (compile isFn c b).run g2 = .ok ((bc, tb), g3) → E c b g2 bc tb g3 →
    R c ((p, b) :: arms) gs ((pc, bc) :: rr) g3
  scNil : ∀ {c gs}, S c [] gs [] gs
  scOne : ∀ {c gs e a t g1}, (compile isFn c e).run gs = .ok ((a, t), g1) → E c e gs a t g1 → S c [e] gs [a] g1
  /-- the later arms first -/
  scCons : ∀ {c gs e e' es rr g1 a t g2}, (compileSC isFn c (e' :: es)).run gs = .ok (rr, g1) → S c (e' :: es) gs rr g1 →
    (compile isFn { c with tail := false } e).run g1 = .ok ((a, t), g2) → E { c with tail := false } e g1 a t g2 →
    S c (e :: e' :: es) gs (a :: rr) g2
  bindsNil : ∀ {c seq gs}, L c seq [] gs [] c.tail gs
  bindsCons : ∀ {c e bs gs a ta g1 b tb g2} seq x, (compile isFn c e).run gs = .ok ((a, ta), g1) → E c e gs a ta g1 →
    (compileBinds isFn { c with tail := ta } seq bs).run g1 = .ok ((b, tb), g2) → L { c with tail := ta } seq bs g1 b tb g2 →
    L c seq ((x, e) :: bs) gs (a ++ (if seq then [.popStackPutEnv x] else []) ++ b) tb g2
  nsNil : ∀ {c ot gs}, N c ot [] gs [] false gs
  nsOne : ∀ {c ot gs e a t g1}, (compile isFn { c with tail := ot } e).run gs = .ok ((a, t), g1) →
    E { c with tail := ot } e gs a t g1 → N c ot [e] gs a t g1
  nsCons : ∀ {c ot gs e e' es a ta g1 b tb g2}, (compile isFn { c with tail := false } e).run gs = .ok ((a, ta), g1) →
    E { c with tail := false } e gs a ta g1 → (compileNewScope isFn c ot (e' :: es)).run g1 = .ok ((b, tb), g2) →
    N c ot (e' :: es) g1 b tb g2 → N c ot (e :: e' :: es) gs (a ++ [.pop] ++ b) tb g2

namespace GenWalk
variable {isFn : Nat → Bool} (w : GenWalk isFn)

mutual
theorem of_compile : ∀ (e : Expr) {c gs a t g'}, (compile isFn c e).run gs = .ok ((a, t), g') → w.E c e gs a t g'
  | .int v, c, gs, _, _, _, h => by rw [compile_int_run] at h; cases h; exact w.int v
  | .bool v, c, gs, _, _, _, h => by rw [compile_bool_run] at h; cases h; exact w.bool v
  | .str v, c, gs, _, _, _, h => by rw [compile_str_run] at h; cases h; exact w.str v
  | .nilLit, c, gs, _, _, _, h => by rw [compile_nil_run] at h; cases h; exact w.nil
  | .sym x, c, gs, _, _, _, h => by rw [compile_sym_run] at h; cases h; exact w.sym x
  | .arr es, c, gs, _, _, _, h => by
    obtain ⟨⟨a, t⟩, g1, ha, he⟩ := compile_arr_ok.mp h
    cases he
    exact w.arr ha (of_compileAll es ha)
  | .call f args, c, gs, _, _, _, h => by
    rcases Bal.compile_call_ok h with ⟨rfl, rfl, rfl⟩ | ⟨hd, rfl, htail, hname, rfl, harity, argcode, hargs, rfl⟩
    · exact w.call f args
    · exact w.selfCall c htail hname harity hargs (of_compileCallArgs args hargs)
  | .begin_ [], c, gs, _, _, _, h => by rw [compile_begin_nil_run] at h; cases h; exact w.beginNil
  | .begin_ (e :: es), c, gs, _, _, _, h => by
    rw [compile_begin_cons] at h
    exact w.begin_ h (of_compileBegin (e :: es) h)
  | .def_ x e, c, gs, _, _, _, h => by
    obtain ⟨⟨a, t⟩, g1, ha, he⟩ := compile_def_ok.mp h
    cases he
    exact w.def_ x ha (of_compile e ha)
  | .set_ x e, c, gs, _, _, _, h => by
    obtain ⟨⟨a, t⟩, g1, ha, he⟩ := compile_set_ok.mp h
    cases he
    exact w.set_ x ha (of_compile e ha)
  | .cond arms d, c, gs, _, _, _, h => by
    obtain ⟨⟨dc, t⟩, g1, hd, as, g2, has, he⟩ := compile_cond_ok.mp h
    cases he
    exact w.cond hd (of_compile d hd) has (of_compileArms arms has)
  | .and_ es, c, gs, _, _, _, h => by
    obtain ⟨cs, g1, hcs, he⟩ := compile_and_ok.mp h
    cases he
    exact w.and_ hcs (of_compileSC es hcs)
  | .or_ es, c, gs, _, _, _, h => by
    obtain ⟨cs, g1, hcs, he⟩ := compile_or_ok.mp h
    cases he
    exact w.or_ hcs (of_compileSC es hcs)
  | .let_ seq bs body, c, gs, _, _, _, h => by
    obtain ⟨⟨rhs, t1⟩, g1, hr, ⟨b, t⟩, g2, hb, he⟩ := compile_let_ok.mp h
    cases he
    exact w.let_ seq bs hr (of_compileBinds bs hr) hb (of_compileBegin body hb)
  | .newScope [], c, gs, _, _, _, h => by rw [compile_newScope_nil_run] at h; cases h; exact w.newScopeNil
  | .newScope (e :: es), c, gs, _, _, _, h => by
    obtain ⟨⟨a, t⟩, g1, hn, he⟩ := compile_newScope_cons_ok.mp h
    cases he
    exact w.newScope hn (of_compileNewScope (e :: es) hn)
  | .for_ label init test incr body, c, gs, _, _, _, h => by
    obtain ⟨⟨b, tb⟩, g2, hb, ⟨i, ti⟩, g3, hi, ⟨t, tt⟩, g4, ht, ⟨s, ts⟩, g5, hs, he⟩ := compile_for_ok.mp h
    cases he
    exact w.for_ c gs label hb (of_compileBegin body hb) hi (of_compile init hi) ht (of_compile test ht) hs (of_compile incr hs)
  | .break_ l, c, gs, _, _, _, h => by
    obtain ⟨id, hf, he⟩ := compile_break_ok.mp h
    cases he
    exact w.break_ hf
  | .continue_ l, c, gs, _, _, _, h => by
    obtain ⟨id, hf, he⟩ := compile_continue_ok.mp h
    cases he
    exact w.continue_ hf
  | .fn ps rest body, c, gs, _, _, _, h => by
    obtain ⟨⟨b, tb⟩, g2, hb, he⟩ := Bal.compile_fn_ok.mp h
    cases he
    exact w.fn c gs ps rest hb (of_compileBegin body hb)
  | .defn name ps rest body, c, gs, _, _, _, h => by
    obtain ⟨⟨b, tb⟩, g2, hb, he⟩ := Bal.compile_defn_ok.mp h
    cases he
    exact w.defn c gs name ps rest hb (of_compileBegin body hb)
  | .assign l e, c, gs, _, _, _, h => by
    obtain ⟨⟨a, ta⟩, g1, ha, ⟨b, tb⟩, g2, hb, he⟩ := compile_assign_ok.mp h
    cases he
    exact w.assign ha (of_compile l ha) hb (of_compile e hb)
  | .bad x, c, gs, _, _, _, h => by rw [compile_bad_run] at h; cases h
theorem of_compileAll : ∀ (es : List Expr) {c gs a t g'}, (compileAll isFn c es).run gs = .ok ((a, t), g') → w.A c es gs a t g'
  | [], c, gs, _, _, _, h => by rw [compileAll_nil_run] at h; cases h; exact w.allNil
  | e :: es, c, gs, _, _, _, h => by
    obtain ⟨⟨a, ta⟩, g1, ha, ⟨b, tb⟩, g2, hb, he⟩ := compileAll_cons_ok.mp h
    cases he
    exact w.allCons ha (of_compile e ha) hb (of_compileAll es hb)
theorem of_compileCallArgs : ∀ (es : List Expr) {c f i gs a g'}, (compileCallArgs isFn c f i es).run gs = .ok (a, g') →
    w.C c f i es gs a g'
  | [], c, f, i, gs, _, _, h => by rw [compileCallArgs_nil_run] at h; cases h; exact w.argsNil
  | e :: es, c, f, i, gs, code, g2, h => by
    rcases lazyArg_cases f i with ⟨fo, rfl, hl⟩ | hl
    · obtain ⟨rb, hb, hr⟩ := (compileCallArgs_cons_lazy hl).mp h
      simp only at hb hr; subst hr
      exact w.argsLazy hl hb (of_compileCallArgs es hb)
    · obtain ⟨⟨a, ta⟩, g1, rb, ha, hb, hr⟩ := (compileCallArgs_cons_run hl).mp h
      simp only at hb hr; subst hr
      exact w.argsCons ha (of_compile e ha) hb (of_compileCallArgs es hb)
theorem of_compileBegin : ∀ (es : List Expr) {c gs a t g'}, (compileBegin isFn c es).run gs = .ok ((a, t), g') → w.B c es gs a t g'
  | [], c, gs, _, _, _, h => by rw [compileBegin_nil_run] at h; cases h; exact w.beginNilL
  | [e], c, gs, _, _, _, h => by rw [compileBegin_one] at h; exact w.beginOne h (of_compile e h)
  | e :: e' :: es, c, gs, _, _, _, h => by
    obtain ⟨⟨a, ta⟩, g1, ha, ⟨b, tb⟩, g2, hb, he⟩ := compileBegin_cons_ok.mp h
    cases he
    exact w.beginCons a ha (of_compile e ha) hb (of_compileBegin (e' :: es) hb)
theorem of_compileArms : ∀ (arms : List (Expr × Expr)) {c gs as g'}, (compileArms isFn c arms).run gs = .ok (as, g') →
    w.R c arms gs as g'
  | [], c, gs, _, _, h => by rw [compileArms_nil_run] at h; cases h; exact w.armsNil
  | (p, b) :: arms, c, gs, _, _, h => by
    obtain ⟨rr, g1, hr, ⟨pc, tp⟩, g2, hp, ⟨bc, tb⟩, g3, hb, he⟩ := compileArms_cons_ok.mp h
    cases he
    exact w.armsCons hr (of_compileArms arms hr) hp (of_compile p hp) hb (of_compile b hb)
theorem of_compileSC : ∀ (es : List Expr) {c gs cs g'}, (compileSC isFn c es).run gs = .ok (cs, g') → w.S c es gs cs g'
  | [], c, gs, _, _, h => by rw [compileSC_nil_run] at h; cases h; exact w.scNil
  | [e], c, gs, _, _, h => by
    obtain ⟨⟨a, t⟩, g1, ha, he⟩ := compileSC_one_ok.mp h
    cases he
    exact w.scOne ha (of_compile e ha)
  | e :: e' :: es, c, gs, _, _, h => by
    obtain ⟨rr, g1, hr, ⟨a, t⟩, g2, ha, he⟩ := compileSC_cons_ok.mp h
    cases he
    exact w.scCons hr (of_compileSC (e' :: es) hr) ha (of_compile e ha)
theorem of_compileBinds : ∀ (bs : List (String × Expr)) {c seq gs a t g'}, (compileBinds isFn c seq bs).run gs = .ok ((a, t), g') →
    w.L c seq bs gs a t g'
  | [], c, seq, gs, _, _, _, h => by rw [compileBinds_nil_run] at h; cases h; exact w.bindsNil
  | (x, e) :: bs, c, seq, gs, _, _, _, h => by
    obtain ⟨⟨a, ta⟩, g1, ha, ⟨b, tb⟩, g2, hb, he⟩ := compileBinds_cons_ok.mp h
    cases he
    exact w.bindsCons seq x ha (of_compile e ha) hb (of_compileBinds bs hb)
theorem of_compileNewScope : ∀ (es : List Expr) {c ot gs a t g'}, (compileNewScope isFn c ot es).run gs = .ok ((a, t), g') →
    w.N c ot es gs a t g'
  | [], c, ot, gs, _, _, _, h => by rw [compileNewScope_nil_run] at h; cases h; exact w.nsNil
  | [e], c, ot, gs, _, _, _, h => by rw [compileNewScope_one] at h; exact w.nsOne h (of_compile e h)
  | e :: e' :: es, c, ot, gs, _, _, _, h => by
    obtain ⟨⟨a, ta⟩, g1, ha, ⟨b, tb⟩, g2, hb, he⟩ := compileNewScope_cons_ok.mp h
    cases he
    exact w.nsCons ha (of_compile e ha) hb (of_compileNewScope (e' :: es) hb)
end

end GenWalk
end ZygoVerif.VM

namespace ZygoVerif.Sim
open ZygoVerif.Core ZygoVerif.VM

theorem asmCond_ne_nil (as : List (List Instr × List Instr)) (d : List Instr) (hd : d ≠ []) : asmCond as d ≠ [] := by
  cases as with
  | nil => simpa [asmCond] using hd
  | cons a as => obtain ⟨p, b⟩ := a; simp [asmCond]

theorem asmSC_ne_nil (isOr : Bool) : ∀ (cs : List (List Instr)), (∀ c ∈ cs, c ≠ []) → asmSC isOr cs ≠ []
  | [], _ => by simp [asmSC]
  | [c], h => by simpa [asmSC] using h c (by simp)
  | c :: c' :: cs, _ => by simp [asmSC]

/-- what compiling does to the generator state: function table and loop table are only appended to (old entries as
they were), live stack and compile-time loop stack are as before -/
structure KeepFns (g₁ g₂ : GS) : Prop where
  len : g₁.fns.length ≤ g₂.fns.length
  fns : ∀ t, t < g₁.fns.length → g₂.fns.getD t {} = g₁.fns.getD t {}
  live : g₂.live = g₁.live
  loopsLen : g₁.loops.length ≤ g₂.loops.length
  loopsGet : ∀ id, id < g₁.loops.length → g₂.loops.getD id {} = g₁.loops.getD id {}
  loopstack : g₂.loopstack = g₁.loopstack

theorem KeepFns.refl (g : GS) : KeepFns g g := ⟨Nat.le_refl _, fun _ _ => rfl, rfl, Nat.le_refl _, fun _ _ => rfl, rfl⟩

theorem KeepFns.trans {a b c : GS} (h₁ : KeepFns a b) (h₂ : KeepFns b c) : KeepFns a c :=
  ⟨Nat.le_trans h₁.len h₂.len, fun t ht => (h₂.fns t (Nat.lt_of_lt_of_le ht h₁.len)).trans (h₁.fns t ht),
   h₂.live.trans h₁.live, Nat.le_trans h₁.loopsLen h₂.loopsLen,
   fun id hid => (h₂.loopsGet id (Nat.lt_of_lt_of_le hid h₁.loopsLen)).trans (h₁.loopsGet id hid),
   h₂.loopstack.trans h₁.loopstack⟩

/-- a whole `for`: the record is pushed, the parts only append, the record is completed and popped -/
theorem KeepFns.for_ {gs g5 : GS} {c : Ctx} {label : Option String} {brk cont : Int} (h : KeepFns (forGs gs c label) g5) :
    KeepFns gs (forDone g5 gs.loops.length brk cont) := by
  have hl := h.loopsLen
  simp only [forGs, List.length_append, List.length_cons, List.length_nil] at hl
  refine ⟨h.len, h.fns, h.live, ?_, fun id hid => ?_, ?_⟩
  · show gs.loops.length ≤ (g5.loops.set _ _).length
    simp only [List.length_set]; omega
  · show (g5.loops.set gs.loops.length _).getD id {} = _
    have hne : gs.loops.length ≠ id := by omega
    rw [List.getD_eq_getElem?_getD, List.getElem?_set_ne hne, ← List.getD_eq_getElem?_getD,
      h.loopsGet id (by simp [forGs]; omega)]
    simp only [forGs, List.getD_eq_getElem?_getD, List.getElem?_append_left hid]
  · show g5.loopstack.drop 1 = gs.loopstack
    rw [h.loopstack]; rfl

/-! ## The loop ids in code

`LsIn code a b`: every `loopStart` in `code` carries an id in `[a, b)`. Loop ids are allocated by
appending to the loop table, so code compiled from a state with `a` loop records to one with `b` is
such code. `BreakInstr`/`ContinueInstr` search the function for the FIRST `loopStart` with their id;
this is what makes that search find the right one. -/

def LsIn (code : List Instr) (a b : Nat) : Prop := ∀ l, Instr.loopStart l ∈ code → a ≤ l ∧ l < b

theorem LsIn.nil (a b : Nat) : LsIn [] a b := fun _ h => by cases h

theorem LsIn.app {x y : List Instr} {a b : Nat} (h₁ : LsIn x a b) (h₂ : LsIn y a b) : LsIn (x ++ y) a b :=
  fun l hl => (List.mem_append.mp hl).elim (h₁ l) (h₂ l)

theorem LsIn.cons_ne {i : Instr} {x : List Instr} {a b : Nat} (hi : ∀ l, Instr.loopStart l ≠ i) (h : LsIn x a b) :
    LsIn (i :: x) a b :=
  fun l hl => (List.mem_cons.mp hl).elim (fun e => absurd e (hi l)) (h l)

theorem LsIn.mono {x : List Instr} {a b a' b' : Nat} (h : LsIn x a b) (ha : a' ≤ a) (hb : b ≤ b') : LsIn x a' b' :=
  fun l hl => ⟨Nat.le_trans ha (h l hl).1, Nat.lt_of_lt_of_le (h l hl).2 hb⟩

/-- close `LsIn` goals about concatenations of sub-codes and fixed instructions -/
macro "lsin" : tactic =>
  `(tactic| repeat (first
    | exact LsIn.nil _ _
    | assumption
    | apply LsIn.app
    | apply LsIn.cons_ne (by intro _ h; cases h)
    | (split <;> skip)))

theorem lsIn_asmCond {a b : Nat} : ∀ (as : List (List Instr × List Instr)) (d : List Instr),
    (∀ p ∈ as, LsIn p.1 a b ∧ LsIn p.2 a b) → LsIn d a b → LsIn (asmCond as d) a b
  | [], d, _, hd => by rw [asmCond]; exact hd
  | (p, bd) :: as, d, h, hd => by
    rw [asmCond]
    have h1 := (h (p, bd) (List.mem_cons_self ..)).1
    have h2 := (h (p, bd) (List.mem_cons_self ..)).2
    have h3 := lsIn_asmCond as d (fun q hq => h q (List.mem_cons_of_mem _ hq)) hd
    simp only at h1 h2 ⊢
    lsin

theorem lsIn_asmSC {a b : Nat} (isOr : Bool) : ∀ (cs : List (List Instr)),
    (∀ c ∈ cs, LsIn c a b) → LsIn (asmSC isOr cs) a b
  | [], _ => by rw [asmSC]; lsin
  | [c], h => by rw [asmSC]; exact h c (List.mem_cons_self ..)
  | c :: c' :: cs, h => by
    rw [asmSC]
    · have h1 := h c (List.mem_cons_self ..)
      have h3 := lsIn_asmSC isOr (c' :: cs) (fun q hq => h q (List.mem_cons_of_mem _ hq))
      skip
      lsin
    · intro hh; cases hh

theorem lsIn_forCode {a b L : Nat} {i t s bd : List Instr} (hi : LsIn i a b) (ht : LsIn t a b) (hs : LsIn s a b)
    (hb : LsIn bd a b) (hL : a ≤ L ∧ L < b) : LsIn (forCode L i t s bd) a b := by
  rw [forCode_lFor]
  intro l hl
  simp only [lFor, lCont, lTest, lEnd, List.mem_cons, List.mem_append, Instr.loopStart.injEq, reduceCtorEq, false_or,
    List.not_mem_nil, or_false] at hl
  rcases hl with rfl | hl | hl | hl | hl
  · exact hL
  · exact hi l hl
  · exact hs l hl
  · exact ht l hl
  · exact hb l hl

/-- `LsIn` between the two table lengths, with the fact that the table only grows beside it -/
abbrev LsRes (gs gs' : GS) (code : List Instr) : Prop :=
  gs.loops.length ≤ gs'.loops.length ∧ LsIn code gs.loops.length gs'.loops.length

theorem forDone_len (g5 : GS) (L : Nat) (x y : Int) : (forDone g5 L x y).loops.length = g5.loops.length := by
  simp [forDone]

theorem forGs_len (gs : GS) (c : Ctx) (label : Option String) : (forGs gs c label).loops.length = gs.loops.length + 1 := by
  simp [forGs]

/-- what a successful run of any of the eight compile functions does: `KeepFns`, and the code's loop ids are the
newly allocated ones -/
abbrev GenRes (gs gs' : GS) (code : List Instr) : Prop := KeepFns gs gs' ∧ LsIn code gs.loops.length gs'.loops.length

theorem GenRes.seq {gs g1 g2 : GS} {a b code : List Instr} (h₁ : GenRes gs g1 a) (h₂ : GenRes g1 g2 b)
    (h : ∀ x y, LsIn a x y → LsIn b x y → LsIn code x y) : GenRes gs g2 code :=
  ⟨h₁.1.trans h₂.1, h _ _ (h₁.2.mono (Nat.le_refl _) h₂.1.loopsLen) (h₂.2.mono h₁.1.loopsLen (Nat.le_refl _))⟩

theorem GenRes.ls {gs gs' : GS} {code : List Instr} (h : GenRes gs gs' code) : LsRes gs gs' code := ⟨h.1.loopsLen, h.2⟩

theorem LsIn.of_ids {code : List Instr} {a b : Nat} (h : Bal.idsIn code a b) : LsIn code a b :=
  fun l hl => Bal.mem_range_of_idsIn h l (Bal.mem_ilids.mpr hl)

theorem mem_asmCond_arm {as : List (List Instr × List Instr)} {p : List Instr × List Instr} (d : List Instr) (hp : p ∈ as)
    {i : Instr} (hi : i ∈ p.1 ∨ i ∈ p.2) : i ∈ asmCond as d := by
  induction as with
  | nil => cases hp
  | cons q as ih =>
    obtain ⟨pc, bc⟩ := q
    simp only [asmCond, List.mem_append]
    rcases List.mem_cons.mp hp with rfl | hp
    · rcases hi with hi | hi
      · exact .inl (.inl (.inl (.inl hi)))
      · exact .inl (.inl (.inr hi))
    · exact .inr (ih hp)

theorem mem_asmSC (isOr : Bool) {x : List Instr} {i : Instr} (hi : i ∈ x) : ∀ {cs : List (List Instr)}, x ∈ cs → i ∈ asmSC isOr cs
  | [c], hx => by rw [List.mem_singleton.mp hx] at hi; simpa [asmSC] using hi
  | c :: c' :: cs, hx => by
    simp only [asmSC, List.mem_append]
    rcases List.mem_cons.mp hx with rfl | hx
    · exact .inl (.inl hi)
    · exact .inr (mem_asmSC isOr hi hx)

/-- a whole `fn`/`defn`: the template is registered, the body only appends, the template is completed -/
theorem keepFns_fin (isFn : Nat → Bool) (gs g₂ : GS) (name : String) (ps : List String) (rest : Option String) (b : List Instr)
    (hk : KeepFns (Bal.allocGs isFn gs name ps rest) g₂) : KeepFns gs (Bal.finishGs gs.fns.length b g₂) := by
  have hl : gs.fns.length + 1 ≤ g₂.fns.length := by have := hk.len; simpa [Bal.allocGs] using this
  refine ⟨by simp [Bal.finishGs]; omega, fun t ht => ?_, hk.live, hk.loopsLen, hk.loopsGet, hk.loopstack⟩
  simp only [Bal.finishGs, List.getD_eq_getElem?_getD]
  rw [List.getElem?_set_ne (by omega), ← List.getD_eq_getElem?_getD, hk.fns t (by simp [Bal.allocGs]; omega)]
  simp only [Bal.allocGs, List.getD_eq_getElem?_getD, List.getElem?_append_left ht]

/-- What a successful run from `gs` to `gs'` returning `code` does, whatever the expression: the tables are extended and the
stacks as found; every loop id in the code occurs once and was allocated meanwhile. -/
structure Ran (gs : GS) (code : List Instr) (gs' : GS) : Prop where
  keep : KeepFns gs gs'
  ids : Bal.idsIn code gs.loops.length gs'.loops.length

namespace Ran
variable {gs g1 g2 : GS} {a b p : List Instr}

theorem plain (gs : GS) (hp : Bal.ilids p = []) : Ran gs p gs := ⟨KeepFns.refl gs, Bal.idsIn_of_plain _ _ hp⟩

theorem append (h : Ran gs a g1) (hp : Bal.ilids p = []) : Ran gs (a ++ p) g1 := ⟨h.keep, (Bal.idsIn_plain h.ids hp).1⟩

theorem prepend (h : Ran gs a g1) (hp : Bal.ilids p = []) : Ran gs (p ++ a) g1 := ⟨h.keep, (Bal.idsIn_plain h.ids hp).2⟩

theorem seq (h₁ : Ran gs a g1) (h₂ : Ran g1 b g2) : Ran gs (a ++ b) g2 :=
  ⟨h₁.keep.trans h₂.keep, Bal.idsIn_app h₁.ids h₂.ids h₁.keep.loopsLen h₂.keep.loopsLen⟩

theorem res (h : Ran gs a g1) : GenRes gs g1 a := ⟨h.keep, .of_ids h.ids⟩

end Ran

/-- What every successful run does, as a walk: `Ran`, the code is not empty, and the flag a `Generate*` leaves behind is
never set when it was clear on entry. For the arms of a `cond` and of `and`/`or` the ids are those of the assembled code. -/
@[reducible] def factsWalk (isFn : Nat → Bool) : GenWalk isFn where
  E c _ gs a t g' := a ≠ [] ∧ (t = true → c.tail = true) ∧ Ran gs a g'
  A c _ gs a t g' := (t = true → c.tail = true) ∧ Ran gs a g'
  C _ _ _ _ gs a g' := Ran gs a g'
  B c es gs a t g' := (es ≠ [] → a ≠ []) ∧ (t = true → c.tail = true) ∧ Ran gs a g'
  R _ _ gs as g' := KeepFns gs g' ∧
    ∀ dflt lo, lo ≤ gs.loops.length → Bal.idsIn dflt lo gs.loops.length → Bal.idsIn (asmCond as dflt) lo g'.loops.length
  S _ _ gs cs g' := KeepFns gs g' ∧ (∀ x ∈ cs, x ≠ []) ∧ ∀ isOr, Bal.idsIn (asmSC isOr cs) gs.loops.length g'.loops.length
  L c _ _ gs a t g' := (t = true → c.tail = true) ∧ Ran gs a g'
  N _ ot es gs a t g' := (es ≠ [] → a ≠ []) ∧ (t = true → ot = true) ∧ Ran gs a g'
  int _ := ⟨by simp, id, .plain _ rfl⟩
  bool _ := ⟨by simp, id, .plain _ rfl⟩
  str _ := ⟨by simp, id, .plain _ rfl⟩
  nil := ⟨by simp, id, .plain _ rfl⟩
  sym _ := ⟨by simp, id, .plain _ rfl⟩
  arr _ ih := ⟨by simp, id, ih.2.append rfl⟩
  call _ _ := ⟨by simp, id, .plain _ rfl⟩
  selfCall _ _ _ _ _ ih := ⟨by simp [tailCode], id, ih.keep, Bal.idsIn_tailCode _ _ _ ih.ids⟩
  beginNil := ⟨by simp, id, .plain _ rfl⟩
  begin_ _ ih := ⟨ih.1 (by simp), ih.2⟩
  def_ _ _ ih := ⟨by simp, nofun, ih.2.2.append rfl⟩
  set_ _ _ ih := ⟨by simp, nofun, ih.2.2.append rfl⟩
  cond _ hd _ ha := ⟨asmCond_ne_nil _ _ hd.1, id, hd.2.2.keep.trans ha.1, ha.2 _ _ hd.2.2.keep.loopsLen hd.2.2.ids⟩
  and_ _ h := ⟨asmSC_ne_nil _ _ h.2.1, id, h.1, h.2.2 false⟩
  or_ _ h := ⟨asmSC_ne_nil _ _ h.2.1, id, h.1, h.2.2 true⟩
  let_ seq bs _ hr _ hb := ⟨by simp, hb.2.1, hr.2.keep.trans hb.2.2.keep,
    Bal.idsIn_let seq bs hr.2.ids hb.2.2.ids hr.2.keep.loopsLen hb.2.2.keep.loopsLen⟩
  newScopeNil := ⟨by simp, nofun, .plain _ rfl⟩
  newScope _ ih := ⟨by simp, ih.2.1, (ih.2.2.prepend rfl).append rfl⟩
  for_ c gs label _ hb _ hi _ ht _ hs := by
    obtain ⟨kb, ib⟩ := hb.2.2
    obtain ⟨ki, ii⟩ := hi.2.2
    obtain ⟨kt, it⟩ := ht.2.2
    obtain ⟨ks, is⟩ := hs.2.2
    have lb := kb.loopsLen
    rw [forGs_len] at lb ib
    refine ⟨by simp [forCode, asmFor], id, KeepFns.for_ (((kb.trans ki).trans kt).trans ks), ?_⟩
    show Bal.idsIn _ _ (forDone _ _ _ _).loops.length
    rw [forDone_len]
    exact Bal.idsIn_for gs.loops.length _ _ _ _ _ _ _ _ ib ii it is lb ki.loopsLen kt.loopsLen ks.loopsLen
  break_ _ := ⟨by simp, id, .plain _ rfl⟩
  continue_ _ := ⟨by simp, id, .plain _ rfl⟩
  fn _ _ _ _ _ ih := ⟨by simp, id, keepFns_fin _ _ _ _ _ _ _ ih.2.2.keep, Bal.idsIn_of_plain _ _ rfl⟩
  defn _ _ _ _ _ _ ih := ⟨by simp, id, keepFns_fin _ _ _ _ _ _ _ ih.2.2.keep, Bal.idsIn_of_plain _ _ rfl⟩
  assign _ ha _ hb := ⟨by simp, nofun, (ha.2.2.seq hb.2.2).append rfl⟩
  allNil := ⟨id, .plain _ rfl⟩
  allCons _ ha _ hb := ⟨fun h => ha.2.1 (hb.1 h), ha.2.2.seq hb.2⟩
  argsNil := .plain _ rfl
  argsLazy _ _ ih := ih.prepend rfl
  argsCons _ ha _ hb := ha.2.2.seq hb
  beginNilL := ⟨fun hh => absurd rfl hh, nofun, .plain _ rfl⟩
  beginOne _ ih := ⟨fun _ => ih.1, ih.2⟩
  beginCons a _ ha _ hb := ⟨fun _ => by simp [hb.1 (by simp)], hb.2.1,
    (ha.2.2.append (p := if a.isEmpty then [] else [.pop]) (by split <;> rfl)).seq hb.2.2⟩
  armsNil := ⟨KeepFns.refl _, fun _ _ _ hd => by simpa [asmCond] using hd⟩
  armsCons _ hr _ hp _ hb := ⟨(hr.1.trans hp.2.2.keep).trans hb.2.2.keep, fun dflt lo hlo hd =>
    Bal.idsIn_asmCond_cons hp.2.2.ids hb.2.2.ids (hr.2 dflt lo hlo hd) (Nat.le_trans hlo hr.1.loopsLen) hp.2.2.keep.loopsLen
      hb.2.2.keep.loopsLen⟩
  scNil := ⟨KeepFns.refl _, fun _ hx => (nomatch hx), fun _ => Bal.idsIn_of_plain _ _ rfl⟩
  scOne _ h := ⟨h.2.2.keep, fun x hx => by rw [List.mem_singleton.mp hx]; exact h.1, fun _ => by simpa [asmSC] using h.2.2.ids⟩
  scCons _ hr _ ha := ⟨hr.1.trans ha.2.2.keep,
    fun x hx => (List.mem_cons.mp hx).elim (fun e => e ▸ ha.1) (hr.2.1 x),
    fun isOr => Bal.idsIn_asmSC_cons isOr _ _ _ _ _ hr.1.loopsLen ha.2.2.keep.loopsLen ha.2.2.ids (hr.2.2 isOr)⟩
  bindsNil := ⟨id, .plain _ rfl⟩
  bindsCons seq x _ ha _ hb := ⟨fun h => ha.2.1 (hb.1 h),
    (ha.2.2.append (p := if seq then [.popStackPutEnv x] else []) (by split <;> rfl)).seq hb.2⟩
  nsNil := ⟨fun hh => absurd rfl hh, nofun, .plain _ rfl⟩
  nsOne _ ih := ⟨fun _ => ih.1, ih.2⟩
  nsCons _ ha _ hb := ⟨fun _ => by simp, hb.2.1, (ha.2.2.append rfl).seq hb.2.2⟩

theorem compile_facts : ∀ (e : Expr) isFn c gs r, (compile isFn c e).run gs = .ok r → r.1.1 ≠ [] ∧ GenRes gs r.2 r.1.1 :=
  fun e isFn _ _ r h =>
    have w := (factsWalk isFn).of_compile e (a := r.1.1) (t := r.1.2) (g' := r.2) h
    ⟨w.1, w.2.2.res⟩

theorem compileAll_facts : ∀ (es : List Expr) isFn c gs r, (compileAll isFn c es).run gs = .ok r → GenRes gs r.2 r.1.1 :=
  fun es isFn _ _ r h => ((factsWalk isFn).of_compileAll es (a := r.1.1) (t := r.1.2) (g' := r.2) h).2.res

theorem compileCallArgs_facts : ∀ (es : List Expr) isFn c f i gs r, (compileCallArgs isFn c f i es).run gs = .ok r →
    GenRes gs r.2 r.1 :=
  fun es isFn _ _ _ _ r h => ((factsWalk isFn).of_compileCallArgs es (a := r.1) (g' := r.2) h).res

theorem compileBegin_facts : ∀ (es : List Expr) isFn c gs r, (compileBegin isFn c es).run gs = .ok r →
    (es ≠ [] → r.1.1 ≠ []) ∧ GenRes gs r.2 r.1.1 :=
  fun es isFn _ _ r h =>
    have w := (factsWalk isFn).of_compileBegin es (a := r.1.1) (t := r.1.2) (g' := r.2) h
    ⟨w.1, w.2.2.res⟩

theorem compileNewScope_facts : ∀ (es : List Expr) isFn c ot gs r, (compileNewScope isFn c ot es).run gs = .ok r →
    (es ≠ [] → r.1.1 ≠ []) ∧ GenRes gs r.2 r.1.1 :=
  fun es isFn _ _ _ r h =>
    have w := (factsWalk isFn).of_compileNewScope es (a := r.1.1) (t := r.1.2) (g' := r.2) h
    ⟨w.1, w.2.2.res⟩

theorem compileBinds_facts : ∀ (bs : List (String × Expr)) isFn c seq gs r, (compileBinds isFn c seq bs).run gs = .ok r →
    GenRes gs r.2 r.1.1 :=
  fun bs isFn _ _ _ r h => ((factsWalk isFn).of_compileBinds bs (a := r.1.1) (t := r.1.2) (g' := r.2) h).2.res

theorem compileArms_facts : ∀ (arms : List (Expr × Expr)) isFn c gs r, (compileArms isFn c arms).run gs = .ok r →
    KeepFns gs r.2 ∧ ∀ p ∈ r.1, LsIn p.1 gs.loops.length r.2.loops.length ∧ LsIn p.2 gs.loops.length r.2.loops.length :=
  fun arms isFn _ gs r h =>
    have w := (factsWalk isFn).of_compileArms arms (as := r.1) (g' := r.2) h
    have ls := LsIn.of_ids (w.2 [] gs.loops.length (Nat.le_refl _) (Bal.idsIn_nil _ _))
    ⟨w.1, fun _ hp => ⟨fun l hl => ls l (mem_asmCond_arm [] hp (.inl hl)), fun l hl => ls l (mem_asmCond_arm [] hp (.inr hl))⟩⟩

theorem compileSC_facts : ∀ (es : List Expr) isFn c gs r, (compileSC isFn c es).run gs = .ok r →
    KeepFns gs r.2 ∧ ∀ x ∈ r.1, x ≠ [] ∧ LsIn x gs.loops.length r.2.loops.length :=
  fun es isFn _ _ r h =>
    have w := (factsWalk isFn).of_compileSC es (cs := r.1) (g' := r.2) h
    ⟨w.1, fun x hx => ⟨w.2.1 x hx, fun l hl => LsIn.of_ids (w.2.2 false) l (mem_asmSC false hl hx)⟩⟩

theorem compileSC_length {isFn c} : ∀ {es gs r}, (compileSC isFn c es).run gs = .ok r → r.1.length = es.length
  | [], gs, r, h => by
    rw [compileSC] at h
    simp only [g_pure_ok] at h
    subst h; rfl
  | [e], gs, r, h => by
    rw [compileSC] at h
    simp only [g_bind_ok, g_pure_ok] at h
    obtain ⟨a, gs1, _, rfl⟩ := h; rfl
  | e :: e' :: es, gs, r, h => by
    obtain ⟨rest, gs1, h1, a, gs2, _, rfl⟩ := compileSC_cons_ok.mp h
    have := compileSC_length h1
    simp only [List.length_cons] at this ⊢
    omega

/-- `GenerateNewScope` pops after every non-final statement, `GenerateBegin` after those that produced code: all do -/
theorem compileNewScope_as_begin {isFn : Nat → Bool} {c : Ctx} {ot : Bool} : ∀ {es : List Expr} {gs r}, es ≠ [] →
    (compileNewScope isFn c ot es).run gs = .ok r → (compileBegin isFn { c with tail := ot } es).run gs = .ok r
  | [], _, _, hne, _ => absurd rfl hne
  | [e], gs, r, _, h => by rw [compileNewScope_one] at h; rw [compileBegin_one]; exact h
  | e :: e' :: es, gs, r, _, h => by
    obtain ⟨ra, g1, ha, rb, g2, hb, rfl⟩ := compileNewScope_cons_ok.mp h
    refine compileBegin_cons_ok.mpr ⟨ra, g1, ha, rb, g2, compileNewScope_as_begin (by simp) hb, ?_⟩
    rw [if_neg (by simpa using (compile_facts e _ _ _ _ ha).1)]

/-- the initialisers of a parallel `let` are compiled like the elements of an array literal -/
theorem compileBinds_par_as_all {isFn : Nat → Bool} : ∀ {bs : List (String × Expr)} {c gs r},
    (compileBinds isFn c false bs).run gs = .ok r → (compileAll isFn c (bs.map (·.2))).run gs = .ok r
  | [], c, gs, r, h => by rw [compileBinds_nil_run] at h; rw [List.map_nil, compileAll_nil_run]; exact h
  | (x, e) :: bs, c, gs, r, h => by
    obtain ⟨ra, g1, ha, rb, g2, hb, rfl⟩ := compileBinds_cons_ok.mp h
    exact compileAll_cons_ok.mpr ⟨ra, g1, ha, rb, g2, compileBinds_par_as_all hb, by simp⟩

end ZygoVerif.Sim
