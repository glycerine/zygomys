/-
Cache persistence for the record → Go walk: once a record id is in the dedup cache, no later
conversion removes or changes that entry. Used by `Props/C10.lean` (`togo_shares_twice`).
-/
import ZygoVerif.Proofs.ToGoWalk
namespace ZygoVerif.ToGoCache
open ZygoVerif.ToGo

/-- every cache entry of `st` is still there, unchanged, in `st'` (a preorder on states) -/
def Le (st st' : St) : Prop := ∀ id e, st.lookup id = some e → st'.lookup id = some e

theorem Le.refl (st : St) : Le st st := fun _ _ h => h
theorem Le.trans {a b c : St} (h1 : Le a b) (h2 : Le b c) : Le a c := fun id e h => h2 id e (h1 id e h)

def Keeps (rec : Rec) : Prop := ∀ st x T cur v st', rec st x T cur = .ok (v, st') → Le st st'

theorem convList_keeps (rec : Rec) (hrec : Keeps rec) (e : Ty) (z : GV) :
    ∀ xs st vs st', convList rec e z st xs = .ok (vs, st') → Le st st' := by
  intro xs
  induction xs with
  | nil => intro st vs st' h; cases h; exact Le.refl _
  | cons x xs ih =>
    intro st vs st' h
    obtain ⟨_, _, _, _, h1, h2, ho⟩ := convList_cons_ok h
    cases ho
    exact (hrec _ _ _ _ _ _ h1).trans (ih _ _ _ h2)

theorem fillFields_keeps (rec : Rec) (hrec : Keeps rec) (tbl : List Entry) :
    ∀ kvs st sv sv' st', fillFields rec tbl st sv kvs = .ok (sv', st') → Le st st' := by
  intro kvs
  induction kvs with
  | nil => intro st sv sv' st' h; cases h; exact Le.refl _
  | cons kv rest ih =>
    intro st sv sv' st' h
    obtain ⟨_, _, _, _, _, _, _, _, _, h1, _, h2⟩ := (fillFields_cons_ok ..).mp h
    exact (hrec _ _ _ _ _ _ h1).trans (ih _ _ _ _ h2)

theorem mapEntry_keeps (rec : Rec) (hrec : Keeps rec) (kt vt : Ty) (w : World) (st : St) (k : Key) (x : Sx)
    (kg v : GV) (st1 : St) (h : mapEntry rec kt vt w st k x = .ok (kg, v, st1)) : Le st st1 := by
  obtain ⟨_, rfl | hr⟩ := mapEntry_ok h
  · exact Le.refl _
  · exact hrec _ _ _ _ _ _ hr

theorem fillMap_keeps (rec : Rec) (hrec : Keeps rec) (kt vt : Ty) (w : World) :
    ∀ kvs st es es' st', fillMap rec kt vt w st es kvs = .ok (es', st') → Le st st' := by
  intro kvs
  induction kvs with
  | nil => intro st es es' st' h; cases h; exact Le.refl _
  | cons kv rest ih =>
    intro st es es' st' h
    obtain ⟨_, _, _, h1, h2⟩ := fillMap_cons_ok h
    exact (mapEntry_keeps rec hrec _ _ _ _ _ _ _ _ _ h1).trans (ih _ _ _ _ h2)

theorem lookup_remember_ne (st : St) (id id' : Nat) (v : GV) (t : Ty) (hne : id' ≠ id) :
    (st.remember id v t).lookup id' = st.lookup id' := by
  simp only [St.remember, St.lookup]
  have hb : (id == id') = false := by simpa using (fun h : id = id' => hne h.symm)
  simp only [List.find?_cons, hb, List.find?_filter]
  congr 1
  have hfun : (fun a : Nat × GV × Ty => decide ((a.1 != id) = true ∧ (a.1 == id') = true))
      = (fun a => a.1 == id') := by
    funext a
    by_cases h : a.1 = id'
    · simp [h, hne]
    · simp [h]
  rw [hfun]

theorem Le.remember {st st' : St} (h : Le st st') {id : Nat} (hmiss : st.lookup id = none) (v : GV) (t : Ty) :
    Le st (st'.remember id v t) := by
  intro id' e hl
  rw [lookup_remember_ne _ _ _ _ _ (fun heq => by rw [heq, hmiss] at hl; cases hl)]
  exact h id' e hl

theorem heapSet_lookup (st : St) (o : Nat) (v : GV) (id : Nat) : (heapSet st o v).lookup id = st.lookup id := rfl

theorem convStep_keeps (w : World) (rec : Rec) (hrec : Keeps rec) : Keeps (convStep w rec) := by
  intro st x T cur v st' h
  -- the cache is read off `St.cache` alone, so allocating and `heapSet` do not show in `Le`
  cases convStep_ok h with
  | slice hl => exact convList_keeps rec hrec _ _ _ _ _ _ hl
  | bytes hl _ => exact convList_keeps rec hrec _ _ _ _ _ _ hl
  | hit _ _ => exact Le.refl _
  | map hm hf => exact (fillMap_keeps rec hrec _ _ _ _ _ _ _ _ hf).remember hm _ _
  | printed hm _ => exact (Le.refl _).remember hm _ _
  | viaPtr hm _ _ _ hf => exact Le.remember (fillFields_keeps rec hrec _ _ _ _ _ _ hf :) hm _ _
  | byValue hm _ _ hf => exact Le.remember (fillFields_keeps rec hrec _ _ _ _ _ _ hf :) hm _ _
  | atom _ => exact Le.refl _

theorem conv_keeps (w : World) : ∀ n, Keeps (conv w n) := by
  intro n
  induction n with
  | zero => intro st x T cur v st' h; cases h
  | succ n ih => exact convStep_keeps w (conv w n) ih

end ZygoVerif.ToGoCache
