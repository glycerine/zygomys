/-
**The calling contract, for every way a function of the VM's mutual block can end.**

`Out g ge ok err rs`: the result `rs` of a run is a value with `ok`, an error with `err` (given `ge`), a timeout, and
never a host panic (given `g`; a value then comes with a state without nil cells again). `Spec n` says this of each
of the thirteen functions at fuel `n`; `spec` proves it by ONE induction on the fuel, every function read through
its body equation (Proofs/VMBody.lean) once. The three contracts that are used — normal returns (`AllSpec`,
Proofs/RunCall.lean), no host panic (`SSpec`, Proofs/RunSafe.lean), errors (`ErrSpec`, Proofs/RunErr2.lean) — are
records with the same thirteen fields, each the field of `Spec n` read for one outcome; `Spec.allSpec`, `Spec.sSpec`,
`Spec.errSpec` are those readings at one fuel, `allSpec`, `sSpec`, `errSpec` the same for every fuel. `spec` and
`allSpec` assume that the pure builtins and `quote` return storable values (`PrimOK`, `QuoteOK`); `spec'`, `allSpec'`,
`sSpec`, `errSpec` (Proofs/RunPrim.lean) are closed.

The contract is closed, unlike `VM.Respects` (Proofs/VMShape.lean) nothing in it is a parameter: the invariant is
`WF`, `vok`, `Running`, the posts are `StepOut`, `KeptV`, `Pushed`, `Back`, `ErrOut`, `FaultOK`. A further reading is a
projection of `Spec`, as the three above are. A property of the thirteen functions that these posts do not imply
(a second predicate on values beside `vok`, a fact about the heap beyond `heapOK`) is a new conjunct in `WF` or in a
field of `Spec`, and `loop_spec … force_spec` below are gone through again.
-/
import ZygoVerif.Proofs.RunErr2
namespace ZygoVerif.RunInv
open ZygoVerif.Core ZygoVerif.VM ZygoVerif.Bal ZygoVerif.Refine ZygoVerif.Sim ZygoVerif.Contain

/-- What a run may end in: a value with `ok`, an error with `err`, never a host panic. The part
about values holds as it is; `g` (no nil cell on the stacks of the state the run starts in, mostly)
excludes the panic and hands itself on to the state a value is returned in; `ge` is what the
part about errors needs. -/
def Out {α} (g ge : Prop) (ok : α → St → Prop) (err : St → Prop) : Except Fault α × St → Prop
  | (.ok a, s') => ok a s' ∧ (g → NoNil s')
  | (.error .err, s') => ge → err s'
  | (.error .panic, _) => ¬ g
  | (.error .timeout, _) => True

namespace Out
variable {α β : Type} {g ge : Prop} {ok : α → St → Prop} {err : St → Prop}

theorem val {rs : Except Fault α × St} (h : Out g ge ok err rs) {a : α} {s' : St} (e : rs = (.ok a, s')) : ok a s' := by
  subst e; exact h.1

theorem fault {rs : Except Fault α × St} (h : Out g ge ok err rs) (hg : ge) {s' : St} (e : rs = (.error .err, s')) : err s' := by
  subst e; exact h hg

theorem noNil {rs : Except Fault α × St} (h : Out g ge ok err rs) {a : α} {s' : St} (e : rs = (.ok a, s')) (hg : g) : NoNil s' := by
  subst e; exact h.2 hg

theorem noPanic {rs : Except Fault α × St} (h : Out g ge ok err rs) {s' : St} (e : rs = (.error .panic, s')) : ¬ g := by
  subst e; exact h

theorem safe {m : M α} {s : St} (h : Out g ge ok err (m.run s)) (hg : g) : Safe m s := by
  intro r s' e
  rw [e] at h
  rcases r with (_ | _ | _) | a
  · exact res_err
  · exact absurd hg h
  · exact res_timeout
  · exact res_ok a (h.2 hg)

theorem imp {g1 ge1 : Prop} {ok1 : α → St → Prop} {err1 : St → Prop} {rs : Except Fault α × St} (h : Out g1 ge1 ok1 err1 rs)
    (hg : g → g1) (hge : ge → ge1) (hok : ∀ a s', ok1 a s' → ok a s') (herr : ∀ s', err1 s' → err s') : Out g ge ok err rs := by
  rcases rs with ⟨(_ | _ | _) | a, s'⟩
  · exact fun x => herr s' (h (hge x))
  · exact fun x => h (hg x)
  · trivial
  · exact ⟨hok a s' h.1, fun x => h.2 (hg x)⟩

theorem pure {a : α} {s : St} (h : ok a s) (hn : g → NoNil s) : Out g ge ok err ((pure a : M α).run s) := ⟨h, hn⟩

/-- after `m` the rest runs from a state without nil cells again; what it ends in is what the whole ends in -/
theorem bind {m : M α} {k : α → M β} {s : St} {okm : α → St → Prop} {ok : β → St → Prop}
    (hm : Out g ge okm err (m.run s))
    (hk : ∀ a s1, m.run s = (.ok a, s1) → okm a s1 → (g → NoNil s1) → Out g ge ok err ((k a).run s1)) :
    Out g ge ok err ((m >>= k).run s) := by
  rw [run_bind]
  rcases e : m.run s with ⟨(_ | _ | _) | a, s1⟩ <;> rw [e] at hm
  · exact hm
  · exact hm
  · trivial
  · exact hk a s1 e hm.1 hm.2

/-- an evaluator around its nested `CallFunction; Run` (`handOn`): the error exit restores the control state,
and so does the normal return of `nested` -/
theorem handBack {st : CtlState} {rs : Except Fault α × St} {ok1 : α → St → Prop} {err1 : St → Prop} (h : Out g ge ok1 err1 rs)
    (hok : ∀ a s2, ok1 a s2 → (g → NoNil s2) → ok a (restoreSt st s2) ∧ (g → NoNil (restoreSt st s2)))
    (herr : ∀ s2, err1 s2 → err (restoreSt st s2)) : Out g ge ok err (handOn st true rs) := by
  rcases rs with ⟨(_ | _ | _) | a, s2⟩
  · exact fun x => herr s2 (h x)
  · exact h
  · trivial
  · exact hok a s2 h.1 h.2

theorem handOn {st : CtlState} {rs : Except Fault α × St} {err1 : St → Prop} (h : Out g ge ok err1 rs)
    (herr : ∀ s2, err1 s2 → err (restoreSt st s2)) : Out g ge ok err (handOn st false rs) := by
  rcases rs with ⟨(_ | _ | _) | a, s2⟩
  · exact fun x => herr s2 (h x)
  · exact h
  · trivial
  · exact h

/-- under the guard of `CallResolved` an error cuts the data stack back -/
theorem guardTail {start : Nat} {rs : Except Fault Unit × St} {ok : Unit → St → Prop} {err1 : St → Prop}
    (h : Out g ge ok err1 rs) (herr : ∀ s1, err1 s1 → err { s1 with data := truncate s1.data start }) :
    Out g ge ok err (guardTail start rs) := by
  rcases rs with ⟨(_ | _ | _) | u, s1⟩
  · exact fun x => herr s1 (h x)
  · exact h
  · trivial
  · exact h

end Out

/-- the usual case: from a state without nil cells -/
abbrev OutN {α} (s : St) (ok : α → St → Prop) (err : St → Prop) := Out (α := α) (NoNil s) (NoNil s) ok err

/-- what `nested`, `evalCallExpr`, `builtin` … `forceLazy` leave when they return a value -/
def KeptV (s : St) (v : Val) (s' : St) : Prop := Kept s s' ∧ vok s'.fns.length v = true

/-- what an instruction of a `Running` loop, or `CallResolved` inside one, leaves when it succeeds -/
def StepOut (b : Base) (s : St) (top : Act) (rest : List Act) (s' : St) : Prop :=
  WF s' ∧ TExt s s' ∧ Next b s' top rest ∧ s'.suspended = s.suspended

/-- tables grown, the data cells `D`, the pc `p`, everything else as in `s` -/
def Pushed (s : St) (D : List Cell) (p : Int) (s' : St) : Prop :=
  WF s' ∧ TExt s s' ∧ s'.data.map cellOf = D ∧ s'.linear = s.linear ∧ s'.addr = s.addr ∧ s'.curfunc = s.curfunc ∧ s'.pc = p ∧
    s'.suspended = s.suspended

/-- the state a nested `CallFunction; Run` comes back in: the value `v` taken off, the data `D`, scope stack `lin`, set-aside
stacks `susp` underneath as they were -/
def Back (s : St) (D : List Cell) (lin : List (Option Nat)) (susp : List (List (Option Nat))) (v : Val) (s' : St) : Prop :=
  WF s' ∧ TExt s s' ∧ vok s'.fns.length v = true ∧ s'.data.map cellOf = D ∧ s'.linear = lin ∧
    s'.addr = s.addr ∧ s'.curfunc = s.curfunc ∧ s'.suspended = susp

/-- an error of a nested run: well-formed tables, grown, the scope stack `lin` and the set-aside stacks `susp` -/
def ErrAt (s : St) (lin : List (Option Nat)) (susp : List (List (Option Nat))) (s' : St) : Prop :=
  WFd s' ∧ TExt s s' ∧ s'.suspended = susp ∧ s'.linear = lin ∧ LzOK s'

theorem ErrOut.at {s s' : St} (h : ErrOut s s') : ErrAt s s.linear s.suspended s' := ⟨h.tab, h.ext, h.susp, h.lin, h.lz⟩
theorem ErrAt.out {s s' : St} (h : ErrAt s s.linear s.suspended s') : ErrOut s s' := ⟨h.1, h.2.1, h.2.2.1, h.2.2.2.1, h.2.2.2.2⟩

/-- an error that leaves through `restoreControlState`: the scope stack and the set-aside stacks of the state `c` captured
come back, whether the nested run ran on top of them (`lin` above `c.linear`) or, forcing a lazy argument, with them set aside -/
theorem ErrAt.restore {s c s2 : St} {lin : List (Option Nat)} {susp : List (List (Option Nat))} (h : ErrAt s lin susp s2)
    (hc : (c.linear <:+ lin ∧ susp = c.suspended) ∨ susp = c.linear :: c.suspended) :
    ErrAt s c.linear c.suspended (restoreSt (captureOf c) s2) := by
  obtain ⟨q1, q2, q3, q4, q5⟩ := h
  have r : (restoreSt (captureOf c) s2).linear = c.linear ∧ (restoreSt (captureOf c) s2).suspended = c.suspended := by
    rcases hc with ⟨hl, hs⟩ | hs
    · exact restore_lin c s2 (q4 ▸ hl) (q3.trans hs)
    · exact restore_lin_force c s2 (q3.trans hs)
  exact ⟨q1.restore _, q2.trans (TExt.same rfl rfl), r.2, r.1, q5.same rfl⟩

/-- **The calling contract**, one statement per function of the block for every way it can end. This is the statement
the induction (`spec`) proves; `AllSpec`, `SSpec`, `ErrSpec` follow from it and do not prove one another. -/
structure Spec (n : Nat) : Prop where
  exec : ∀ (b : Base) (s : St) (top : Act) (rest : List Act) (i : Instr), WF s → Running b s top rest →
    (fnOf s s.curfunc).code[s.pc.toNat]? = some i →
    Out (NoNil s ∧ b.linear ≠ []) (NoNil s) (fun _ => StepOut b s top rest) (FaultOK b s) ((exec n i).run s)
  resolved : ∀ (b : Base) (s : St) (top : Act) (rest : List Act) (f : Val) (c0 : Expr) (args : List Expr), WF s → okLs args = true →
    OutN s (fun _ s' => vok s.fns.length f = true → Running b s top rest →
      (fnOf s s.curfunc).code[s.pc.toNat]? = some (.callExpr c0 args) → StepOut b s top rest s') (ErrOut s)
      ((callResolved n f args).run s)
  loop : ∀ (b : Base) (st : CtlState) (s : St), WF s → Live b s → b.pc = -2 → b.main = false →
    Out (NoNil s ∧ b.linear ≠ []) (NoNil s ∧ b.linear ≠ []) (fun _ s' => WF s' ∧ TExt s s' ∧ Finished b s' ∧ s'.suspended = s.suspended)
      (fun s' => ∃ s₀ s₁, TExt s s₀ ∧ s₀.suspended = s.suspended ∧ FaultOK b s₀ s₁ ∧ s' = park (restoreSt st s₁))
      ((runLoop n st).run s)
  run : ∀ (b : Base) (s : St) (top : Act), WF s → Running b s top [] → b.pc = -2 → b.main = false →
    Out (NoNil s ∧ b.linear ≠ []) (NoNil s ∧ b.linear = s.linear) (fun v s' => WF s' ∧ TExt s s' ∧ vok s'.fns.length v = true ∧
      s'.data.map cellOf = b.data.map cellOf ∧ s'.linear = b.linear ∧ s'.addr = b.addr ∧ s'.curfunc = b.cur ∧ s'.pc = -1 ∧
      s'.suspended = s.suspended) (ErrOut s) ((run n).run s)
  nested : ∀ (f : Nat) (st : CtlState) (s : St), WF s → 2 ≤ f → f < s.fns.length → s.pc = -2 →
    ∃ rs, (nested n f st).run s = handOn st true rs ∧
      OutN s (Back s (s.data.map cellOf) s.linear s.suspended) (ErrAt s s.linear s.suspended) rs
  eval : ∀ (e : Expr) (s : St), WF s → okL e = true → OutN s (KeptV s) (ErrOut s) ((evalCallExpr n e).run s)
  prep : ∀ (f : Option FnObj) (i : Nat) (args : List Expr) (s : St), WF s → okLs args = true →
    OutN s (fun _ => Pushed s (List.replicate args.length .val ++ s.data.map cellOf) s.pc) (ErrOut s) ((prepareArgs n f i args).run s)
  user : ∀ (name : String) (k : Nat) (s : St) (tail : List Cell), WF s → s.data.map cellOf = List.replicate k .val ++ tail →
    OutN s (fun _ => Pushed s (.val :: tail) (s.pc + 1)) (ErrOut s) ((callUser n name k).run s)
  builtin : ∀ (name : String) (args : List Val) (s : St), WF s → s.pc = -1 → (∀ a ∈ args, vok s.fns.length a = true) →
    OutN s (KeptV s) (ErrOut s) ((builtin n name args).run s)
  apply : ∀ (f : Val) (args : List Val) (s : St), WF s → s.pc = -1 → vok s.fns.length f = true →
    (∀ a ∈ args, vok s.fns.length a = true) → OutN s (KeptV s) (ErrOut s) ((applyFn n f args).run s)
  mapArr : ∀ (f : Val) (r i k : Nat) (s : St), WF s → s.pc = -1 → vok s.fns.length f = true →
    OutN s (fun vs s' => Kept s s' ∧ ∀ v ∈ vs, vok s'.fns.length v = true) (ErrOut s) ((mapArr n f r i k).run s)
  mapList : ∀ (f l : Val) (s : St), WF s → s.pc = -1 → vok s.fns.length f = true → vok s.fns.length l = true →
    OutN s (KeptV s) (ErrOut s) ((mapList n f l).run s)
  force : ∀ (id : Nat) (s : St), WF s → OutN s (KeptV s) (ErrOut s) ((forceLazy n id).run s)

theorem heap_getD_vok {s : St} (hw : WF s) (r i : Nat) : ∀ a ∈ [(s.heap.get r).getD i Val.nil], vok s.fns.length a = true := by
  intro a ha
  cases List.mem_singleton.mp ha
  rw [List.getD_eq_getElem?_getD]
  cases hg : (s.heap.get r)[i]? with
  | none => rfl
  | some x => exact heap_get_vok hw r x (List.mem_of_getElem? hg)

theorem forceFinish_out {g ge : Prop} {err : St → Prop} (id : Nat) (lz : LazyObj) (w : Val) (t0 : St) (hw0 : WF t0)
    (hlz : okL lz.e = true) (hvw : vok t0.fns.length w = true) (hg0 : g → NoNil t0 ∧ VMSafe.allSome lz.stack) :
    Out g ge (KeptV t0) err ((C16.forceFinish id lz w).run t0) := by
  obtain ⟨hk, _⟩ := forceFinish_succ (v := w) hw0 hlz hvw rfl
  exact ⟨⟨hk, kept_vok_mono hk hvw⟩, fun hg => (forceFinish_safe id lz w t0 (hg0 hg).1 (hg0 hg).2 _ _ rfl).2 w rfl⟩

/-- a value that leaves through `restoreControlState` after the nested run came back (`Back`): the sizes are those captured, so
nothing is cut or padded, and the evaluator has kept everything — whether the run was over the scope stack captured or, forcing
a lazy argument, with it set aside -/
theorem Back.restore {s1 s2 : St} {v : Val} {lin : List (Option Nat)} {susp : List (List (Option Nat))}
    (h : Back s1 (s1.data.map cellOf) lin susp v s2)
    (hb : (lin = s1.linear ∧ susp = s1.suspended) ∨ susp = s1.linear :: s1.suspended) :
    KeptV s1 v (restoreSt (captureOf s1) s2) ∧ (NoNil s1 → NoNil s2 → NoNil (restoreSt (captureOf s1) s2)) := by
  obtain ⟨hw2, he2, hv2, d2, l2, a2, c2, su2⟩ := h
  have hd : s2.data.length = s1.data.length := by simpa using congrArg List.length d2
  rcases hb with ⟨rfl, rfl⟩ | rfl
  · rw [restoreSt_same _ _ hd (by rw [l2]; rfl) (by rw [a2]; rfl) (by rw [su2]; rfl)]
    exact ⟨⟨⟨hw2.same hw2.data, he2.trans (TExt.same rfl rfl), ⟨d2, l2, a2, rfl, rfl, su2⟩⟩, hv2⟩,
      fun _ hg2 => hg2.same rfl rfl rfl rfl rfl⟩
  · rw [restoreSt_force s1 s2 hd a2 su2]
    exact ⟨⟨⟨hw2.same hw2.data, he2.trans (TExt.same rfl rfl), ⟨d2, rfl, a2, rfl, rfl, rfl⟩⟩, hv2⟩,
      fun hg1 hg2 => ⟨⟨hg2.good.data, hg1.good.linear, hg2.good.addr, hg1.good.susp, hg2.good.lazies⟩, hg1.lin, hg2.lz⟩⟩

/-- `Run`'s last step pops the value the bottom activation left (`nil` if it left none). The top cell being a value for the
checker (`hv`, from the annotation), what is popped is storable; a nil cell there would be the host panic -/
theorem runTail_out {g ge : Prop} {err : St → Prop} {s : St} (hw : WF s) (hg : g → NoNil s)
    (hv : ∀ c rest, s.data = c :: rest → cellOf c = .val) :
    Out g ge (fun v s' => vok s.fns.length v = true ∧ WF s' ∧ s' = { s with data := s.data.tail }) err (runTail.run s) := by
  have hw' : WF { s with data := s.data.tail } := hw.setData _ s.pc fun c hc => hw.data c (List.mem_of_mem_tail hc)
  have hg' : g → NoNil { s with data := s.data.tail } := fun h =>
    (hg h).setData _ fun c hc => (hg h).good.data c (List.mem_of_mem_tail hc)
  unfold runTail
  rw [run_bind, run_get]
  dsimp only
  rcases hdd : s.data with _ | ⟨_ | w, rest⟩ <;> rw [hdd] at hw' hg'
  · simp only [List.isEmpty_nil, if_true, run_bind, run_pushData, run_popData, hdd]
    exact ⟨⟨rfl, hw', rfl⟩, hg'⟩
  · simp only [List.isEmpty_cons, Bool.false_eq_true, if_false, run_popData, hdd]
    exact fun h => (hg h).good.data none (hdd ▸ List.mem_cons_self) rfl
  · simp only [List.isEmpty_cons, Bool.false_eq_true, if_false, run_popData, hdd]
    exact ⟨⟨vok_of_cell (hw.data_head hdd) (hv _ _ hdd), hw', rfl⟩, hg'⟩

variable {n : Nat} (ih : Spec n)
include ih

theorem loop_spec (b : Base) (st : CtlState) (s : St) (hw : WF s) (hl : Live b s) (hb : b.pc = -2) (hm : b.main = false) :
    Out (NoNil s ∧ b.linear ≠ []) (NoNil s ∧ b.linear ≠ []) (fun _ s' => WF s' ∧ TExt s s' ∧ Finished b s' ∧ s'.suspended = s.suspended)
      (fun s' => ∃ s₀ s₁, TExt s s₀ ∧ s₀.suspended = s.suspended ∧ FaultOK b s₀ s₁ ∧ s' = park (restoreSt st s₁))
      ((runLoop (n + 1) st).run s) := by
  rcases hl with ⟨top, rest, hr⟩ | hf
  · obtain ⟨hns, i, hi⟩ := hr.fetch (hr.A_pos hm)
    rw [runLoop_fetch n st s hns hi]
    have hx := ih.exec b s top rest i hw hr hi
    rcases e : (exec n i).run s with ⟨(_ | _ | _) | u, s1⟩ <;> rw [e] at hx
    · rw [loopTail_err]
      exact fun hg => ⟨s, s1, TExt.refl _, rfl, hx hg.1, rfl⟩
    · exact hx
    · trivial
    · obtain ⟨⟨hw1, he1, hl1, hs1⟩, hg1⟩ := hx
      exact (ih.loop b st s1 hw1 hl1.live hb hm).imp (fun hg => ⟨hg1 hg, hg.2⟩) (fun hg => ⟨hg1 hg, hg.2⟩)
        (fun _ _ ⟨q1, q2, q3, q4⟩ => ⟨q1, he1.trans q2, q3, q4.trans hs1⟩)
        (fun _ ⟨s₀, s₁, q1, q2, q3, q4⟩ => ⟨s₀, s₁, he1.trans q1, q2.trans hs1, q3, q4⟩)
  · rw [runLoop_halt s n st (.inl (by rw [hf.pc, hb]; rfl))]
    exact ⟨⟨hw, TExt.refl s, hf, rfl⟩, fun hg => hg.1⟩

theorem run_spec (b : Base) (s : St) (top : Act) (hw : WF s) (hr : Running b s top []) (hb : b.pc = -2) (hm : b.main = false) :
    Out (NoNil s ∧ b.linear ≠ []) (NoNil s ∧ b.linear = s.linear) (fun v s' => WF s' ∧ TExt s s' ∧ vok s'.fns.length v = true ∧
      s'.data.map cellOf = b.data.map cellOf ∧ s'.linear = b.linear ∧ s'.addr = b.addr ∧ s'.curfunc = b.cur ∧ s'.pc = -1 ∧
      s'.suspended = s.suspended) (ErrOut s) ((run (n + 1)).run s) := by
  rw [run_succ_eq, run_bind, run_capture]
  dsimp only
  rw [run_bind]
  have hl := ih.loop b (captureOf s) s hw (Or.inl ⟨top, [], hr⟩) hb hm
  rcases e : (runLoop n (captureOf s)).run s with ⟨(_ | _ | _) | u, s2⟩ <;> rw [e] at hl
  · intro hg
    obtain ⟨s₀, s₁, q1, q2, q3, rfl⟩ := hl ⟨hg.1, hg.2 ▸ hg.1.lin⟩
    obtain ⟨r1, r2, r3, r4, r5⟩ := ErrAt.restore (c := s) ⟨q3.tab, q1.trans q3.ext, q3.susp.trans q2, rfl, q3.lz⟩ (.inl ⟨hg.2 ▸ q3.lin, rfl⟩)
    exact ⟨r1.same rfl rfl rfl rfl rfl rfl, r2.trans (TExt.same rfl rfl), r3, r4, r5.same rfl⟩
  · exact hl
  · trivial
  · obtain ⟨⟨hw2, he2, hf2, hs2⟩, hg2⟩ := hl
    dsimp only
    refine (runTail_out hw2 hg2 fun c rest hdd => ?_).imp id id ?_ fun _ h => h
    · have := hf2.data
      rw [hdd] at this
      exact (List.cons.inj this).1
    · rintro v _ ⟨hv, hw3, rfl⟩
      exact ⟨hw3, he2.trans (TExt.same rfl rfl), hv, by show s2.data.tail.map cellOf = _; rw [List.map_tail, hf2.data]; rfl,
        hf2.linear, hf2.addr, hf2.cur, by show s2.pc = -1; rw [hf2.pc, hb]; rfl, hs2⟩

/-- `CallFunction; Run` of a verified function over the evaluator's stacks -/
theorem callRun_spec {s : St} {fid k : Nat} (d : List (Option Val)) (hw : WF s) (h2 : 2 ≤ fid)
    (hlt : fid < s.fns.length) (hd : s.data.map cellOf = List.replicate k .val ++ d.map cellOf) (hpc : s.pc = -2) :
    OutN s (fun v s' => Back s (d.map cellOf) s.linear s.suspended v s' ∧ s'.pc = -1) (ErrOut s)
      ((do callFunction fid k; run n : M Val).run s) := by
  rw [run_bind]
  rcases hc : (callFunction fid k).run s with ⟨(_ | _ | _) | u, s1⟩
  · exact fun hg => callFunction_err fid k s s1 hw hg.lzok hc
  · exact fun hg => (callFunction_safe' fid k s hg _ s1 hc).1 rfl
  · trivial
  · obtain ⟨hw1, he1, su1, l1, top, hrun⟩ := entered (b := baseOf d s) (acts := []) hw h2 hlt hd hc
      ⟨rfl, rfl, by rw [hpc]; exact (if_neg Bool.false_ne_true).mpr rfl⟩ (List.suffix_refl _)
    have hg1 : NoNil s → NoNil s1 := fun hg => (callFunction_safe' fid k s hg _ s1 hc).2 u rfl
    refine (ih.run _ s1 top hw1 hrun rfl rfl).imp (fun hg => ⟨hg1 hg, hg.lin⟩) (fun hg => ⟨hg1 hg, l1.symm⟩) ?_
      fun _ h => h.pre he1 su1 l1
    exact fun v s' ⟨hw2, he2, hv2, d2, l2, a2, cu2, p2, su2⟩ => ⟨⟨hw2, he1.trans he2, hv2, d2, l2, a2, cu2, su2.trans su1⟩, p2⟩

theorem nested_spec (f : Nat) (st : CtlState) (s : St) (hw : WF s) (h2 : 2 ≤ f) (hlt : f < s.fns.length) (hpc : s.pc = -2) :
    ∃ rs, (nested (n + 1) f st).run s = handOn st true rs ∧
      OutN s (Back s (s.data.map cellOf) s.linear s.suspended) (ErrAt s s.linear s.suspended) rs :=
  ⟨_, run_nested n f st s, (callRun_spec ih s.data hw h2 hlt rfl hpc).imp id id (fun _ _ h => h.1) fun _ h => h.at⟩

/-- the nested evaluation of freshly compiled code in a helper function appended to the function table, seen from the
evaluator's state `s1` at the capture: it runs over `s1`'s scope stack, or (a lazy force) over `lin` with that stack set aside -/
theorem thunk_out (name : String) {s1 : St} (code : List Instr) (cl : List (Option Nat)) (par : Option Nat) (hw1 : WF s1)
    (hc : AllOK (szS s1) code)
    (hv : ∃ ann, verify { kind := .fn, nformals := 0, varargs := false, nfixed := 0, code := B s1.loops (code ++ [Instr.ret]) } ann = true)
    (lin : List (Option Nat)) (susp : List (List (Option Nat)))
    (hb : (lin = s1.linear ∧ susp = s1.suspended) ∨ susp = s1.linear :: s1.suspended) :
    Out (NoNil s1 ∧ NoNil (thunkSt s1 (thunkObj name code cl par) lin susp)) (NoNil (thunkSt s1 (thunkObj name code cl par) lin susp))
      (KeptV s1) (ErrOut s1)
      ((nested n s1.fns.length (captureOf s1)).run (thunkSt s1 (thunkObj name code cl par) lin susp)) := by
  obtain ⟨hw3, he3, hlt⟩ := thunk_entry name code cl par hw1 hc hv lin susp
  obtain ⟨rs, e, ho⟩ := ih.nested s1.fns.length (captureOf s1) _ hw3 hw1.two hlt rfl
  rw [e]
  refine (ho.imp (·.2) id (fun _ _ h => h) fun _ h => h).handBack (fun v s2 ⟨q1, q2, q3, q4, q5, q6, q7, q8⟩ hg2 => ?_)
    fun s2 ⟨q1, q2, q3, q4, q5⟩ => ?_
  · obtain ⟨hk, hn⟩ := Back.restore (s1 := s1) (lin := lin) (susp := susp) ⟨q1, he3.trans q2, q3, q4, q5, q6, q7, q8⟩ hb
    exact ⟨hk, fun hg => hn hg.1 (hg2 hg)⟩
  · exact (ErrAt.restore (c := s1) (lin := lin) (susp := susp) ⟨q1, he3.trans q2, q3, q4, q5⟩
      (hb.imp (fun ⟨h1, h2⟩ => ⟨h1 ▸ List.suffix_refl lin, h2⟩) id)).out

theorem eval_spec (e : Expr) (s : St) (hw : WF s) (hok : okL e = true) :
    OutN s (KeptV s) (ErrOut s) ((evalCallExpr (n + 1) e).run s) := by
  by_cases he : ∃ x, e = .sym x
  · obtain ⟨x, rfl⟩ := he
    rw [run_evalCallExpr_sym]
    split
    · rename_i hl
      exact ⟨⟨Kept.refl hw, hw.stored (lexLookup_stored hl)⟩, id⟩
    · exact fun hg => ErrOut.refl hw hg.lzok
  rw [run_evalCallExpr n e s (fun x hx => he ⟨x, hx⟩)]
  rcases hgn : (runGen (compile (isFnScope s) {} e)).run s with ⟨er | ⟨code, t⟩, s1⟩
  · obtain ⟨rfl, rfl⟩ := runGen_fail hgn
    exact fun hg => ErrOut.refl hw hg.lzok
  obtain ⟨hw1, he1, g1, g2, g3, g4, g5, g6, g7, g8, g9, hcode, hver⟩ := wf_runGen (isFnScope s) e code t hw hok hgn
  have hk1 : Kept s s1 := ⟨hw1, he1, ⟨by rw [g1], g2, g3, g4, g5, g6⟩⟩
  have hg1 : NoNil s → NoNil s1 := fun hg => hg.same g1 g2 g3 g6 g9
  dsimp only
  split
  · exact ⟨⟨hk1, rfl⟩, hg1⟩
  · have hgt : NoNil s → NoNil (thunkSt s1 (thunkObj "callExprEval" code (closingNow s1) (some s1.curfunc)) s1.linear s1.suspended) :=
      fun hg => (hg1 hg).same rfl rfl rfl rfl rfl
    exact (thunk_out ih "callExprEval" code (closingNow s1) (some s1.curfunc) hw1 hcode hver s1.linear s1.suspended (.inl ⟨rfl, rfl⟩)).imp
      (fun hg => ⟨hg1 hg, hgt hg⟩) hgt (fun _ _ ⟨hk, hv⟩ => ⟨hk1.trans hk, hv⟩) fun _ h => h.pre he1 g6 g2

theorem prep_spec (f : Option FnObj) (i : Nat) (args : List Expr) (s : St) (hw : WF s) (hok : okLs args = true) :
    OutN s (fun _ => Pushed s (List.replicate args.length .val ++ s.data.map cellOf) s.pc) (ErrOut s)
      ((prepareArgs (n + 1) f i args).run s) := by
  cases args with
  | nil =>
    simp only [VM.prepareArgs]
    exact Out.pure ⟨hw, TExt.refl s, rfl, rfl, rfl, rfl, rfl, rfl⟩ id
  | cons e es =>
    simp only [okLs, Bool.and_eq_true] at hok
    rw [run_prepareArgs_cons]
    have rest : ∀ s1, WF s1 → TExt s s1 → s1.data.map cellOf = .val :: s.data.map cellOf → s1.linear = s.linear →
        s1.addr = s.addr → s1.curfunc = s.curfunc → s1.pc = s.pc → s1.suspended = s.suspended → (NoNil s → NoNil s1) →
        OutN s (fun _ => Pushed s (List.replicate (e :: es).length .val ++ s.data.map cellOf) s.pc) (ErrOut s)
          ((prepareArgs n f (i + 1) es).run s1) := by
      intro s1 hw1 he1 d1 l1 a1 c1 p1 su1 hg1
      refine (ih.prep f (i + 1) es s1 hw1 hok.2).imp hg1 hg1 ?_ fun _ h => h.pre he1 su1 l1
      intro _ s' ⟨hw2, he2, d2, l2, a2, c2, p2, su2⟩
      refine ⟨hw2, he1.trans he2, ?_, l2.trans l1, a2.trans a1, c2.trans c1, p2.trans p1, su2.trans su1⟩
      rw [d2, d1, List.length_cons, List.replicate_succ']
      simp
    split
    · exact rest _ (wf_allocThunk hw hok.1) (TExt.same rfl rfl) rfl rfl rfl rfl rfl rfl fun hg => hg.allocThunk e
    · have hev := ih.eval e s hw hok.1
      rcases ev : (evalCallExpr n e).run s with ⟨(_ | _ | _) | v, s0⟩ <;> rw [ev] at hev
      · exact hev
      · exact hev
      · trivial
      · obtain ⟨⟨hk, hv⟩, hg0⟩ := hev
        obtain ⟨hw1, d1⟩ := wf_pushVal hk hv
        exact rest _ hw1 (hk.ext.trans (TExt.same rfl rfl)) d1 hk.same.linear hk.same.addr hk.same.cur hk.same.pc hk.same.susp
          fun hg => (hg0 hg).push v

theorem user_spec (name : String) (k : Nat) (s : St) (tail : List Cell) (hw : WF s)
    (hd : s.data.map cellOf = List.replicate k .val ++ tail) :
    OutN s (fun _ => Pushed s (.val :: tail) (s.pc + 1)) (ErrOut s) ((callUser (n + 1) name k).run s) := by
  refine callUser_cases (P := OutN s (fun _ => Pushed s (.val :: tail) (s.pc + 1)) (ErrOut s)) n name k s
    (fun _ hg => ErrOut.refl hw hg.lzok) (fun hm hg => ?_) fun vs hm => ?_
  · obtain ⟨vs, hvs⟩ := VMSafe.mapM_id_some _ (VMSafe.allSome_take hg.good.data k)
    rw [hvs] at hm; cases hm
  · obtain ⟨hw2, hvs, hdrop⟩ := user_args hw hd hm
    have hb := ih.builtin name vs.reverse (inBuiltin s (s.data.drop k)) hw2 rfl hvs
    rcases eb : (builtin n name vs.reverse).run (inBuiltin s (s.data.drop k)) with ⟨(_ | _ | _) | v, s3⟩ <;> rw [eb] at hb
    · -- the restore of `CallUserFunction` after an error of the builtin
      intro hg
      exact ((hb (hg.inBuiltin k)).at.restore (c := { s with data := s.data.drop k }) (.inl ⟨List.suffix_refl _, rfl⟩)).out.pre
        (TExt.same rfl rfl) rfl rfl
    · -- a panic of the builtin would be recovered into an error at an unknown state: there is none
      exact fun hg => absurd (hg.inBuiltin k) hb
    · trivial
    · obtain ⟨⟨hk, hv⟩, hg3⟩ := hb
      rw [userTail_ok _ _ _ _ hk.same.addr]
      refine ⟨⟨hk.wf.same (cells_cons (cellOK_of_vok hv) hk.wf.data),
        ((TExt.same rfl rfl : TExt s (inBuiltin s (s.data.drop k))).trans hk.ext).trans (TExt.same rfl rfl), ?_, hk.same.linear, rfl, rfl, rfl,
        hk.same.susp⟩, fun hg => ?_⟩
      · show cellOf (some v) :: s3.data.map cellOf = _
        rw [cellOf_plain (vok_plain hv), hk.same.data]
        exact congrArg _ hdrop
      · have h3 := hg3 (hg.inBuiltin k)
        exact ⟨⟨VMSafe.allSome_cons h3.good.data, h3.good.linear, hg.good.addr, h3.good.susp, h3.good.lazies⟩, h3.lin, h3.lz⟩

theorem resolved_spec (b : Base) (s : St) (top : Act) (rest : List Act) (f : Val) (c0 : Expr) (args : List Expr) (hw : WF s)
    (hoa : okLs args = true) :
    OutN s (fun _ s' => vok s.fns.length f = true → Running b s top rest →
      (fnOf s s.curfunc).code[s.pc.toNat]? = some (.callExpr c0 args) → StepOut b s top rest s') (ErrOut s)
      ((callResolved (n + 1) f args).run s) := by
  rw [run_callResolved]
  have heff : eff (toB s.loops (.callExpr c0 args)) = .simple 0 1 := rfl
  split
  · -- a compiled function
    rename_i fid
    refine Out.guardTail ?_ fun s1 h => ErrOut.setData h _
    refine (ih.prep (some (fnOf s fid)) 0 args s hw hoa).bind fun _ s1 _ ⟨hw1, he1, hd1, hl1, ha1, hc1, hp1, hs1⟩ hg1 => ?_
    rcases hcf : (callFunction fid args.length).run s1 with ⟨(_ | _ | _) | u, s'⟩
    · exact fun hg => (callFunction_err fid _ s1 s' hw1 (hg1 hg).lzok hcf).pre he1 hs1 hl1
    · exact fun hg => (callFunction_safe' fid _ s1 (hg1 hg) _ s' hcf).1 rfl
    · trivial
    refine ⟨fun hvf hr hf => ?_, fun hg => (callFunction_safe' fid _ s1 (hg1 hg) _ s' hcf).2 u rfl⟩
    simp only [vok, decide_eq_true_eq] at hvf
    -- the caller, suspended: it will find one value on the data it had when it called
    have hsusp : Chain b s1 (top :: rest) (s.data.map cellOf) s1.linear.length (some (s1.curfunc, s1.pc + 1) :: s1.addr) := by
      rw [hl1, hc1, hp1, ha1]
      refine ⟨s.pc + 1, s.addr, by rw [hr.cur], by have := hr.pc; omega, ?_, hr.topA, hr.ok.ext he1, ?_,
        Chain.ext he1 _ _ _ _ hr.chain⟩
      · have hstep := CStep.simple (f := fnB s top.f) (absC s) _ 0 1 [] (s.data.map cellOf) (hr.fetchB hf) heff rfl rfl
        have := inv_step_s _ _ hr.ok.step _ _ _ _ _ hr.inv hstep
        have hpc : (s.pc + 1).toNat = s.pc.toNat + 1 := by have := hr.pc; omega
        simpa [absC, hr.topA, hpc] using this
      · obtain ⟨_, own, _, hdd, _, _, _⟩ := hr.inv
        rw [show s.data.map cellOf = own ++ top.D from hdd]; simp
    obtain ⟨hw2, he2, su2, _, c, hrun⟩ :=
      entered hw1 hvf.1 (Nat.lt_of_lt_of_le hvf.2 he1.fns_len) hd1 hcf hsusp (hl1 ▸ hr.lin)
    exact ⟨hw2, he1.trans he2, Or.inr (Or.inl ⟨c, hrun⟩), su2.trans hs1⟩
  · -- a Go builtin
    rename_i name
    refine Out.guardTail ?_ fun s1 h => ErrOut.setData h _
    refine (ih.prep none 0 args s hw hoa).bind fun _ s1 _ ⟨hw1, he1, hd1, hl1, ha1, hc1, hp1, hs1⟩ hg1 => ?_
    refine (ih.user name args.length s1 (s.data.map cellOf) hw1 hd1).imp hg1 hg1 ?_ fun _ h => h.pre he1 hs1 hl1
    exact fun _ s' ⟨hw2, he2, hd2, hl2, ha2, hc2, hp2, hs2⟩ _ hr hf =>
      call_step hr hf heff (p := 0) (tail := s.data.map cellOf) rfl hw2 (he1.trans he2) hd2 (hl2.trans hl1) (ha2.trans ha1)
        (hc2.trans hc1) (by rw [hp2, hp1]) (hs2.trans hs1)
  · -- a type constructor: not in the core language
    refine Out.guardTail ?_ fun s1 h => ErrOut.setData h _
    refine (ih.prep none 0 args s hw hoa).bind fun _ s1 _ ⟨hw1, he1, _, hl1, _, _, _, hs1⟩ hg1 => ?_
    exact fun hg => ⟨hw1.wfd, he1, hs1, hl1, (hg1 hg).lzok⟩
  · -- any other value: only without operands
    split
    · refine ⟨fun hvf hr hf => ?_, fun hg => (hg.push f).same rfl rfl rfl rfl rfl⟩
      refine call_step hr hf heff (p := 0) (tail := s.data.map cellOf) rfl (hw.setData _ _ (cells_cons (cellOK_of_vok hvf) hw.data))
        (TExt.same rfl rfl) ?_ rfl rfl rfl rfl rfl
      show cellOf (some f) :: s.data.map cellOf = _
      rw [cellOf_plain (vok_plain hvf)]
    · exact fun hg => ErrOut.refl hw hg.lzok

theorem exec_spec (b : Base) (s : St) (top : Act) (rest : List Act) (i : Instr) (hw : WF s) (hr : Running b s top rest)
    (hf : (fnOf s s.curfunc).code[s.pc.toNat]? = some i) :
    Out (NoNil s ∧ b.linear ≠ []) (NoNil s) (fun _ => StepOut b s top rest) (FaultOK b s) ((exec (n + 1) i).run s) := by
  by_cases hs : simple i = true
  · have hsafe := fun hg : NoNil s ∧ b.linear ≠ [] => exec_simple_safe hg.1 hr hg.2 hf hs n
    rcases e : (exec (n + 1) i).run s with ⟨(_ | _ | _) | u, s'⟩ <;> rw [e] at hsafe
    · exact fun hg => faultOK_simple hw hr hf hs n .err e hg.lzok
    · exact fun hg => (hsafe hg).1 rfl
    · trivial
    · refine ⟨?_, fun hg => (hsafe hg).2⟩
      by_cases hc : isCall i = false
      · have r := exec_simple_ok n b s s' top rest i hw hr hf hc e
        exact ⟨r.wf, r.ext, Or.inl r.run, r.susp⟩
      · cases i <;> first | exact absurd rfl hc | cases hs | skip
        exact exec_ret_ok n b s s' top rest hw hr hf e
  refine Out.imp (g1 := NoNil s) (ge1 := NoNil s) ?_ (·.1) id (fun _ _ h => h) fun _ h => h
  cases i with
  | callArr k =>
    simp only [exec]
    obtain ⟨tail, ht⟩ := hr.top_vals hf (p := k) (m := 1) rfl
    exact (ih.user "array" k s tail hw ht).imp id id
      (fun _ _ ⟨hw', he, hd, hl, ha, hc, hp, hsu⟩ => call_step hr hf rfl ht hw' he hd hl ha hc hp hsu) fun _ h => h.faultOK hr
  | callExpr c args =>
    have hio := hr.instrOK hf
    simp only [instrOK, Bool.and_eq_true] at hio
    simp only [exec]
    refine ((ih.eval c s hw hio.1).imp id id (fun _ _ h => h) fun _ h => h.faultOK hr).bind fun f s1 _ ⟨hk, hv⟩ hg1 => ?_
    have hf1 : (fnOf s1 s1.curfunc).code[s1.pc.toNat]? = some (.callExpr c args) := by
      rw [hk.same.cur, hk.same.pc, hr.cur, hk.ext.fnOf top.f hr.ok.idx, ← hr.cur]
      exact hf
    refine (ih.resolved b s1 top rest f c args hk.wf hio.2).imp hg1 hg1 ?_
      fun _ h => (h.pre hk.ext hk.same.susp hk.same.linear).faultOK hr
    intro _ s' h
    obtain ⟨h1, h2, h3, h4⟩ := h hv (hr.kept hk) hf1
    exact ⟨h1, hk.ext.trans h2, h3, h4.trans hk.same.susp⟩
  | _ => exact absurd rfl hs

theorem builtin_spec (hP : PrimOK) (hQ : QuoteOK) (name : String) (args : List Val) (s : St) (hw : WF s) (hpc : s.pc = -1)
    (ha : ∀ a ∈ args, vok s.fns.length a = true) : OutN s (KeptV s) (ErrOut s) ((builtin (n + 1) name args).run s) := by
  have same : ∀ {s' : St}, s'.data = s.data → s'.linear = s.linear → s'.addr = s.addr → s'.suspended = s.suspended →
      s'.lazies = s.lazies → NoNil s → NoNil s' := fun h1 h2 h3 h4 h5 hg => hg.same h1 h2 h3 h4 h5
  have fail : NoNil s → ErrOut s s := fun hg => ErrOut.refl hw hg.lzok
  refine builtin_succ_cases (P := fun m => OutN s (KeptV s) (ErrOut s) (m.run s)) n name args
    ?trace ?probe ?force ?ret ?err ?subst ?applyArr ?applyList ?mapArr ?mapList ?prim
  case trace => exact ⟨⟨hw.setTrace _, headD_vok args ha⟩, same rfl rfl rfl rfl rfl⟩
  case probe => exact ⟨⟨hw.setTrace _, rfl⟩, same rfl rfl rfl rfl rfl⟩
  case force => exact fun id _ => ih.force id s hw
  case ret => exact fun w hargs => Out.pure ⟨Kept.refl hw, ha _ (by simp [hargs])⟩ id
  case err => exact fail
  case subst =>
    intro id _
    rw [run_substituteLazy]
    split
    · exact fail
    · rename_i lz hlz
      split
      · refine ⟨⟨Kept.refl hw, ?_⟩, fun hg => hg⟩
        cases hv : lz.value with
        | none => rfl
        | some w => exact (hw.lazies lz (List.mem_of_getElem? hlz)).2 w hv
      · obtain ⟨h1, h2⟩ := hQ s.fns.length lz.e s.heap _ _ hw.heap rfl
        exact ⟨⟨kept_setHeap hw _ h2, h1⟩, same rfl rfl rfl rfl rfl⟩
  case applyArr => exact fun f r hargs _ => ih.apply f _ s hw hpc (ha f (by simp [hargs])) (heap_get_vok hw r)
  case applyList =>
    exact fun f a b xs hargs _ hxs =>
      ih.apply f xs s hw hpc (ha f (by simp [hargs])) (listToArray_vok _ xs hxs (ha _ (by simp [hargs])))
  case mapArr =>
    intro f r hargs _
    refine Out.bind (m := mapArr n f r 0 (s.heap.get r).length) (ih.mapArr f r 0 _ s hw hpc (ha f (by simp [hargs])))
      fun vs s1 _ ⟨hk, hvs⟩ hg1 => ?_
    exact ⟨⟨hk.trans (kept_setHeap hk.wf _ (heapOK_alloc hk.wf.heap vs hvs)), rfl⟩, fun hg => (hg1 hg).same rfl rfl rfl rfl rfl⟩
  case mapList => exact fun f a b hargs _ => ih.mapList f _ s hw hpc (ha f (by simp [hargs])) (ha _ (by simp [hargs]))
  case prim =>
    rw [run_primCall]
    split
    · rename_i w h' hp
      obtain ⟨h1, h2⟩ := hP s.fns.length name args s.heap h' w ha hw.heap hp
      exact ⟨⟨kept_setHeap hw h' h2, h1⟩, same rfl rfl rfl rfl rfl⟩
    · exact fail

theorem apply_spec (f : Val) (args : List Val) (s : St) (hw : WF s) (hpc : s.pc = -1) (hvf : vok s.fns.length f = true)
    (ha : ∀ a ∈ args, vok s.fns.length a = true) :
    OutN s (KeptV s) (ErrOut s) ((applyFn (n + 1) f args).run s) := by
  cases f with
  | builtin name => rw [VM.applyFn]; exact ih.builtin name args s hw hpc ha
  | fn fid =>
    simp only [vok, decide_eq_true_eq] at hvf
    rw [run_applyFn_fn]
    obtain ⟨hw2, d2, e2, f2, li2, a2, c2, p2, su2⟩ := wf_applyWrap (fnOf s fid) args { s with pc := -2 } 0 (hw.setPc _) ha
    have hg2 : NoNil s → NoNil _ := fun hg => noNil_applyWrap (fnOf s fid) args { s with pc := -2 } 0 (hg.same rfl rfl rfl rfl rfl)
    refine ((callRun_spec ih s.data hw2 hvf.1 (by rw [e2]; exact hvf.2) d2 p2).imp hg2 hg2 ?_ fun _ h => h).handOn fun s4 hout => ?_
    · exact fun v s4 ⟨⟨hw4, he4, hv4, d4, l4, a4, cu4, su4⟩, p4⟩ =>
        ⟨⟨hw4, (TExt.same e2 f2 : TExt s _).trans he4, ⟨d4, l4.trans li2, a4.trans a2, cu4.trans c2, by rw [p4, hpc], su4.trans su2⟩⟩, hv4⟩
    · exact ((hout.pre (s := s) (TExt.same e2 f2) su2 li2).at.restore (.inl ⟨List.suffix_refl _, rfl⟩)).out
  | _ => simp only [VM.applyFn]; exact fun hg => ErrOut.refl hw hg.lzok

theorem mapArr_spec (f : Val) (r i k : Nat) (s : St) (hw : WF s) (hpc : s.pc = -1) (hvf : vok s.fns.length f = true) :
    OutN s (fun vs s' => Kept s s' ∧ ∀ v ∈ vs, vok s'.fns.length v = true) (ErrOut s) ((mapArr (n + 1) f r i k).run s) := by
  unfold VM.mapArr
  split
  · exact Out.pure ⟨Kept.refl hw, fun v hv => nomatch hv⟩ id
  · rw [run_bind, run_get]
    refine (ih.apply f _ s hw hpc hvf (heap_getD_vok hw r i)).bind fun v s1 _ ⟨hk1, hv1⟩ hg1 => ?_
    refine ((ih.mapArr f r (i + 1) k s1 hk1.wf (hk1.same.pc.trans hpc) (kept_vok_mono hk1 hvf)).imp hg1 hg1
      (fun _ _ h => h) fun _ => ErrOut.ofKept hk1).bind fun ws s2 _ ⟨hk2, hv2⟩ hg2 => ?_
    refine Out.pure ⟨hk1.trans hk2, fun x hx => ?_⟩ hg2
    rcases List.mem_cons.mp hx with rfl | hx
    · exact kept_vok_mono hk2 hv1
    · exact hv2 x hx

theorem mapList_spec (f l : Val) (s : St) (hw : WF s) (hpc : s.pc = -1) (hvf : vok s.fns.length f = true)
    (hvl : vok s.fns.length l = true) : OutN s (KeptV s) (ErrOut s) ((mapList (n + 1) f l).run s) := by
  unfold VM.mapList
  split
  · exact Out.pure ⟨Kept.refl hw, rfl⟩ id
  · rename_i a b
    simp only [vok, Bool.and_eq_true] at hvl
    refine (ih.apply f [a] s hw hpc hvf fun x hx => by cases List.mem_singleton.mp hx; exact hvl.1).bind
      fun w s1 _ ⟨hk1, hv1⟩ hg1 => ?_
    refine ((ih.mapList f b s1 hk1.wf (hk1.same.pc.trans hpc) (kept_vok_mono hk1 hvf) (kept_vok_mono hk1 hvl.2)).imp hg1 hg1
      (fun _ _ h => h) fun _ => ErrOut.ofKept hk1).bind fun t s2 _ ⟨hk2, hv2⟩ hg2 => ?_
    exact Out.pure ⟨hk1.trans hk2, by simp only [vok, Bool.and_eq_true]; exact ⟨kept_vok_mono hk2 hv1, hv2⟩⟩ hg2
  · exact fun hg => ErrOut.refl hw hg.lzok

theorem force_spec (id : Nat) (s : St) (hw : WF s) : OutN s (KeptV s) (ErrOut s) ((forceLazy (n + 1) id).run s) := by
  rw [run_forceLazy]
  split
  · exact fun hg => ErrOut.refl hw hg.lzok
  rename_i lz hlz
  have hmem : lz ∈ s.lazies := List.mem_of_getElem? hlz
  have hlzm := hw.lazies lz hmem
  split
  · rename_i w hval
    exact ⟨⟨Kept.refl hw, hlzm.2 w hval⟩, fun hg => hg⟩
  rename_i hval
  rcases hgn : (runGen (compile (isFnScope s) {} lz.e)).run s with ⟨er | ⟨code, t⟩, s1⟩
  · obtain ⟨rfl, rfl⟩ := runGen_fail hgn
    exact fun hg => ErrOut.refl hw hg.lzok
  obtain ⟨hw1, he1, g1, g2, g3, g4, g5, g6, g7, g8, g9, hcode, hver⟩ := wf_runGen (isFnScope s) lz.e code t hw hlzm.1 hgn
  have hk1 : Kept s s1 := ⟨hw1, he1, ⟨by rw [g1], g2, g3, g4, g5, g6⟩⟩
  have hg1 : NoNil s → NoNil s1 := fun hg => hg.same g1 g2 g3 g6 g9
  have hst : NoNil s → VMSafe.allSome lz.stack := fun hg => hg.good.lazies lz hmem
  have fin : ∀ (w : Val) (t0 : St), Kept s1 t0 → vok t0.fns.length w = true → (NoNil s → NoNil t0) →
      OutN s (KeptV s) (ErrOut s) ((C16.forceFinish id lz w).run t0) := fun w t0 hk hv hg0 =>
    (forceFinish_out id lz w t0 hk.wf hlzm.1 hv fun hg => ⟨hg0 hg, hst hg⟩).imp (fun hg => hg) (fun hg => hg)
      (fun _ _ ⟨q1, q2⟩ => ⟨(hk1.trans hk).trans q1, q2⟩) fun _ h => h
  dsimp only
  split
  · exact fin .nil s1 (Kept.refl hw1) rfl hg1
  · have hgt : NoNil s → NoNil (thunkSt s1 (thunkObj "lazyArgForce" code lz.stack (some lz.curfunc)) lz.stack (s1.linear :: s1.suspended)) :=
      fun hg => (hg1 hg).forceSt (hst hg) (hg.lz lz hmem hval)
    refine Out.bind (okm := fun w s4 => KeptV s1 w s4) ?_ fun w s4 _ ⟨hk, hv⟩ hg4 => fin w s4 hk hv hg4
    exact (thunk_out ih "lazyArgForce" code lz.stack (some lz.curfunc) hw1 hcode hver lz.stack (s1.linear :: s1.suspended) (.inr rfl)).imp
      (fun hg => ⟨hg1 hg, hgt hg⟩) hgt (fun _ _ h => h) fun _ h => h.pre he1 g6 g2

omit ih

theorem spec_zero : Spec 0 where
  exec := fun _ _ _ _ _ _ _ _ => by rw [VM.exec]; trivial
  resolved := fun _ _ _ _ _ _ _ _ _ => by rw [VM.callResolved]; trivial
  loop := fun _ _ _ _ _ _ _ => by rw [runLoop_zero]; trivial
  run := fun _ _ _ _ _ _ _ => by rw [VM.run]; trivial
  nested := fun _ st s _ _ _ _ => ⟨(.error .timeout, s), by rw [VM.nested]; rfl, trivial⟩
  eval := fun _ _ _ _ => by rw [VM.evalCallExpr]; trivial
  prep := fun _ _ args _ _ _ => by cases args <;> (rw [VM.prepareArgs]; trivial)
  user := fun _ _ _ _ _ _ => by rw [VM.callUser]; trivial
  builtin := fun _ _ _ _ _ _ => by rw [VM.builtin]; trivial
  apply := fun _ _ _ _ _ _ _ => by rw [VM.applyFn]; trivial
  mapArr := fun _ _ _ _ _ _ _ _ => by rw [VM.mapArr]; trivial
  mapList := fun _ _ _ _ _ _ _ => by rw [VM.mapList]; trivial
  force := fun _ _ _ => by rw [VM.forceLazy]; trivial

/-- **The calling contract**, all thirteen functions of the VM's mutual block, every fuel, every outcome. -/
theorem spec (hP : PrimOK) (hQ : QuoteOK) : ∀ n, Spec n
  | 0 => spec_zero
  | n + 1 =>
    have ih := spec hP hQ n
    { exec := exec_spec ih
      resolved := resolved_spec ih
      loop := loop_spec ih
      run := run_spec ih
      nested := nested_spec ih
      eval := eval_spec ih
      prep := prep_spec ih
      user := user_spec ih
      builtin := builtin_spec ih hP hQ
      apply := apply_spec ih
      mapArr := mapArr_spec ih
      mapList := mapList_spec ih
      force := force_spec ih }

theorem handOn_val {α} {st : CtlState} {rs : Except Fault α × St} {v : α} {s' : St} (h : handOn st true rs = (.ok v, s')) :
    ∃ s2, rs = (.ok v, s2) ∧ s' = restoreSt st s2 := by
  rcases rs with ⟨(_ | _ | _) | a, s2⟩ <;> cases h
  exact ⟨s2, rfl, rfl⟩

theorem handOn_err {α} {st : CtlState} {back : Bool} {rs : Except Fault α × St} {s' : St} (h : handOn st back rs = (.error .err, s')) :
    ∃ s2, rs = (.error .err, s2) ∧ s' = restoreSt st s2 := by
  rcases rs with ⟨(_ | _ | _) | a, s2⟩ <;> cases h
  exact ⟨s2, rfl, rfl⟩

variable {n : Nat}

theorem Spec.allSpec (h : Spec n) : AllSpec n where
  exec := fun b s s' top rest i hw hr hf hex => (h.exec b s top rest i hw hr hf).val hex
  resolved := fun b s s' top rest f c0 args hw hr hf hvf hoa hex => (h.resolved b s top rest f c0 args hw hoa).val hex hvf hr hf
  loop := fun b st s s' hw hl hb hm hex => (h.loop b st s hw hl hb hm).val hex
  run := fun b s s' top v hw hr hb hm hex => (h.run b s top hw hr hb hm).val hex
  nested := fun f st s s' v hw h2 hlt _ hpc hex => by
    obtain ⟨rs, e, ho⟩ := h.nested f st s hw h2 hlt hpc
    obtain ⟨s2, rfl, rfl⟩ := handOn_val (e ▸ hex)
    exact ⟨s2, rfl, ho.1⟩
  eval := fun e s s' v hw hok hex => (h.eval e s hw hok).val hex
  prep := fun f i args s s' hw hok hex => (h.prep f i args s hw hok).val hex
  user := fun name k s s' tail hw hd hex => (h.user name k s tail hw hd).val hex
  builtin := fun name args s s' v hw hpc ha hex => (h.builtin name args s hw hpc ha).val hex
  apply := fun f args s s' v hw hpc hvf ha hex => (h.apply f args s hw hpc hvf ha).val hex
  mapArr := fun f r i k s s' vs hw hpc hvf hex => (h.mapArr f r i k s hw hpc hvf).val hex
  mapList := fun f l s s' v hw hpc hvf hvl hex => (h.mapList f l s hw hpc hvf hvl).val hex
  force := fun id s s' v hw hex => (h.force id s hw).val hex

theorem Spec.sSpec (h : Spec n) : SSpec n where
  exec := fun b s top rest i hg hw hr hbl hf => (h.exec b s top rest i hw hr hf).safe ⟨hg, hbl⟩
  resolved := fun s f args hg hw _ hoa => (h.resolved ⟨[], [], [], 0, 0, false⟩ s ⟨0, [], [], 0, 0⟩ [] f .nilLit args hw hoa).safe hg
  loop := fun b st s hg hw hl hbl hb hm => (h.loop b st s hw hl hb hm).safe ⟨hg, hbl⟩
  run := fun b s top hg hw hr hbl hb hm => (h.run b s top hw hr hb hm).safe ⟨hg, hbl⟩
  nested := fun f st s hg hw h2 hlt _ hpc r s' hex => by
    obtain ⟨rs, e, ho⟩ := h.nested f st s hw h2 hlt hpc
    rw [e] at hex
    rcases rs with ⟨(_ | _ | _) | a, s2⟩ <;> cases hex
    · exact ⟨nofun, nofun⟩
    · exact absurd hg ho
    · exact ⟨nofun, nofun⟩
    · refine ⟨nofun, fun v hv => ?_⟩
      cases hv
      obtain ⟨⟨_, he2, _, d2, l2, a2, _, su2⟩, hn⟩ := ho
      exact ⟨s2, rfl, hn hg, by simpa using congrArg List.length d2, l2, a2, su2, he2⟩
  eval := fun e s hg hw hok => (h.eval e s hw hok).safe hg
  prep := fun f i args s hg hw hok => (h.prep f i args s hw hok).safe hg
  user := fun name k s tail hg hw hd => (h.user name k s tail hw hd).safe hg
  builtin := fun name args s hg hw hpc ha => (h.builtin name args s hw hpc ha).safe hg
  apply := fun f args s hg hw hpc hvf ha => (h.apply f args s hw hpc hvf ha).safe hg
  mapArr := fun f r i k s hg hw hpc hvf => (h.mapArr f r i k s hw hpc hvf).safe hg
  mapList := fun f l s hg hw hpc hvf hvl => (h.mapList f l s hw hpc hvf hvl).safe hg
  force := fun id s hg hw => (h.force id s hw).safe hg

theorem Spec.errSpec (h : Spec n) : ErrSpec n where
  exec := fun b s s' top rest i hg hw hr hf hex => (h.exec b s top rest i hw hr hf).fault hg hex
  resolved := fun s s' f args hg hw hoa hex =>
    (h.resolved ⟨[], [], [], 0, 0, false⟩ s ⟨0, [], [], 0, 0⟩ [] f .nilLit args hw hoa).fault hg hex
  loop := fun b st s s' hg hw hl hbl hb hm hex => (h.loop b st s hw hl hb hm).fault ⟨hg, hbl⟩ hex
  run := fun b s s' top hg hw hr hb hm hlin hex => (h.run b s top hw hr hb hm).fault ⟨hg, hlin⟩ hex
  nested := fun f st s s' hg hw h2 hlt _ hpc hex => by
    obtain ⟨rs, e, ho⟩ := h.nested f st s hw h2 hlt hpc
    obtain ⟨s2, rfl, rfl⟩ := handOn_err (e ▸ hex)
    exact ⟨s2, rfl, (ho hg).out⟩
  eval := fun e s s' hg hw hok hex => (h.eval e s hw hok).fault hg hex
  prep := fun f i args s s' hg hw hok hex => (h.prep f i args s hw hok).fault hg hex
  user := fun name k s s' tail hg hw hd hex => (h.user name k s tail hw hd).fault hg hex
  builtin := fun name args s s' hg hw hpc ha hex => (h.builtin name args s hw hpc ha).fault hg hex
  apply := fun f args s s' hg hw hpc hvf ha hex => (h.apply f args s hw hpc hvf ha).fault hg hex
  mapArr := fun f r i k s s' hg hw hpc hvf hex => (h.mapArr f r i k s hw hpc hvf).fault hg hex
  mapList := fun f l s s' hg hw hpc hvf hvl hex => (h.mapList f l s hw hpc hvf hvl).fault hg hex
  force := fun id s s' hg hw hex => (h.force id s hw).fault hg hex

/-- the contract on normal returns, given that the pure builtins and `quote` keep values storable (Proofs/RunPrim.lean) -/
theorem allSpec (hP : PrimOK) (hQ : QuoteOK) : ∀ n, AllSpec n := fun n => (spec hP hQ n).allSpec

end ZygoVerif.RunInv
