/-
The simulation statement between the VM's scope machinery and the reference evaluator's
environments (`Spec/RefEval.lean`): `Sim` relates a VM state to a reference state and
environment, `SimX` is `Sim` up to the order of the bindings inside a frame; `lookup_sound_x` says the two
lookups then agree.
-/
import ZygoVerif.Proofs.ScopeInv
import ZygoVerif.Spec.RefEval
namespace ZygoVerif.Scope
open ZygoVerif.Core ZygoVerif.VM

/-- The frames `Ref.lookup` walks from `env`, in order (same recursion and fuel as
`Ref.lookupIn`). -/
def refChain (frames : List Ref.Frame) : Nat → Nat → List Nat
  | 0, _ => []
  | fuel+1, env =>
    match frames[env]? with
    | none => []
    | some fr => env :: (match fr.parent with | some p => refChain frames fuel p | none => [])

theorem lookupIn_eq (frames : List Ref.Frame) (fuel env : Nat) (x : String) :
    Ref.lookupIn frames fuel env x = firstOf (fun e => (frames.getD e {}).vars.lookup x) (refChain frames fuel env) := by
  induction fuel generalizing env with
  | zero => rfl
  | succ n ih =>
    simp only [Ref.lookupIn, refChain]
    cases hf : frames[env]? with
    | none => rfl
    | some fr =>
      have hg : frames.getD env {} = fr := by simp [List.getD_eq_getElem?_getD, hf]
      simp only [firstOf_cons, hg]
      cases hv : fr.vars.lookup x with
      | some v => rfl
      | none =>
        cases hp : fr.parent with
        | none => rfl
        | some p => exact ih p

def dedupFirst : List Nat → List Nat
  | [] => []
  | a :: l => a :: (dedupFirst l).filter (· != a)

theorem mem_dedupFirst {x : Nat} : ∀ {l : List Nat}, x ∈ dedupFirst l ↔ x ∈ l
  | [] => Iff.rfl
  | a :: l => by
    have ih := @mem_dedupFirst x l
    by_cases hx : x = a
    · simp [dedupFirst, hx]
    · simp [dedupFirst, List.mem_filter, ih, hx]

theorem firstOf_filter_unbound {look : Nat → Option Val} (a : Nat) (ha : look a = none) (l : List Nat) :
    firstOf look (l.filter (· != a)) = firstOf look l := by
  induction l with
  | nil => rfl
  | cons b rest ih =>
    by_cases hb : b = a
    · subst hb
      have hf : (b != b) = false := by simp
      simp only [List.filter, hf, firstOf_cons, ha, ih]
    · have : (b != a) = true := by simpa using hb
      simp only [List.filter, this, firstOf_cons, ih]

/-- a search finds nothing new at an id it has passed -/
theorem firstOf_dedupFirst (look : Nat → Option Val) (l : List Nat) :
    firstOf look (dedupFirst l) = firstOf look l := by
  induction l with
  | nil => rfl
  | cons a rest ih =>
    simp only [dedupFirst, firstOf_cons]
    cases ha : look a with
    | some v => rfl
    | none => rw [firstOf_filter_unbound a ha, ih]

/-- Stages 1 and 2 of the lookup: the live scopes of the current activation, then the
captured scopes of the running closure and of its creators. -/
def lexCore (s : St) : List Nat := aboveBoundary s s.linear ++ capturedChain s

theorem firstBinding_append_sub (s : St) (x : String) (a b : List Nat) (h : ∀ id ∈ b, id ∈ a) :
    firstBinding s x (a ++ b) = firstBinding s x a := by
  rw [firstBinding_append]
  cases ha : firstBinding s x a with
  | some r => rfl
  | none => exact firstBinding_eq_none.mpr fun j hj => firstBinding_eq_none.mp ha j (h j hj)

theorem lookup_map_val (φ : Val → Val) (x : String) (l : List (String × Val)) :
    (l.map (fun p => (p.1, φ p.2))).lookup x = (l.lookup x).map φ := by
  induction l with
  | nil => rfl
  | cons p rest ih =>
    obtain ⟨k, w⟩ := p
    simp only [List.map_cons, List.lookup]
    cases (x == k) <;> simp [ih]

/-- The relation: along the part of the VM's search list that matters, scope by scope, the
reference environment has the corresponding frames (`ρ` maps scope ids to frame ids) with
the corresponding variables (`φ` translates values: closure and array ids differ between
the two evaluators); the template's captured scopes add nothing new. -/
structure Sim (ρ : Nat → Nat) (φ : Val → Val) (s : St) (rs : Ref.St) (env : Nat) : Prop where
  chain : refChain rs.frames (rs.frames.length + 1) env = dedupFirst ((lexCore s).map ρ)
  vars : ∀ id ∈ lexCore s, (rs.frames.getD (ρ id) {}).vars = (scopeOf s id).vars.map (fun p => (p.1, φ p.2))
  template : ∀ id ∈ templateCaptured s s.linear, id ∈ lexCore s

/-- `Sim` with the variables of corresponding scope and frame compared by lookup (the two evaluators bind
parameters and the names of a parallel `let` in opposite orders). -/
structure SimX (ρ : Nat → Nat) (φ : Val → Val) (s : St) (rs : Ref.St) (env : Nat) : Prop where
  chain : refChain rs.frames (rs.frames.length + 1) env = dedupFirst ((lexCore s).map ρ)
  vars : ∀ id ∈ lexCore s, ∀ x, (rs.frames.getD (ρ id) {}).vars.lookup x = ((scopeOf s id).vars.lookup x).map φ
  template : ∀ id ∈ templateCaptured s s.linear, id ∈ lexCore s

/-- `Sim` is the special case where the bindings also come in the same order. -/
theorem Sim.toX {ρ : Nat → Nat} {φ : Val → Val} {s : St} {rs : Ref.St} {env : Nat} (h : Sim ρ φ s rs env) :
    SimX ρ φ s rs env :=
  ⟨h.chain, fun id hid x => by rw [h.vars id hid, lookup_map_val], h.template⟩

/-- **Lookup soundness**: in related states, `LexicalLookupSymbol` finds the scope that corresponds to the frame the
reference lookup finds, holding the corresponding value — and fails exactly when the reference lookup fails. It needs
no more than `SimX`. -/
theorem lookup_sound_x {ρ : Nat → Nat} {φ : Val → Val} {s : St} {rs : Ref.St} {env : Nat}
    (h : SimX ρ φ s rs env) (x : String) :
    (lexLookup s x).map (fun p => (ρ p.1, φ p.2)) = Ref.lookup rs env x := by
  have h1 : lexLookup s x = firstBinding s x (lexCore s) := by
    rw [lexLookup_eq]
    have : lexChain s = lexCore s ++ (aboveBoundary s s.linear ++ templateCaptured s s.linear) := by
      simp [lexChain, lexCore]
    rw [this]
    apply firstBinding_append_sub
    intro id hid
    rcases List.mem_append.mp hid with hid | hid
    · exact List.mem_append.mpr (Or.inl hid)
    · exact h.template id hid
  rw [h1, Ref.lookup, lookupIn_eq, h.chain, firstOf_dedupFirst, firstBinding_eq,
    firstOf_map ρ φ (lexCore s) fun id hid => h.vars id hid x]

theorem lookup_sound {ρ : Nat → Nat} {φ : Val → Val} {s : St} {rs : Ref.St} {env : Nat}
    (h : Sim ρ φ s rs env) (x : String) :
    (lexLookup s x).map (fun p => (ρ p.1, φ p.2)) = Ref.lookup rs env x :=
  lookup_sound_x h.toX x

theorem templateCaptured_congr_on {s s' : St} (l : List (Option Nat))
    (h : ∀ id ∈ idsOf l, isFnScope s' id = isFnScope s id ∧ (scopeOf s' id).myFunction = (scopeOf s id).myFunction)
    (hf : ∀ i, (fnOf s' i).closing = (fnOf s i).closing) : templateCaptured s' l = templateCaptured s l := by
  induction l with
  | nil => rfl
  | cons o rest ih =>
    cases o with
    | none => exact ih (fun id hid => h id (by simpa [idsOf] using hid))
    | some j =>
      have hj := h j (by simp [idsOf])
      have := ih (fun id hid => h id (by simp [idsOf, hid]))
      simp only [templateCaptured, hj.1, hj.2, hf, this]

theorem chainIds_congr {s s' : St} (hf : ∀ i, fnOf s' i = fnOf s i)
    (hb : ∀ i, ∀ id ∈ idsOf (fnOf s i).closing, isFnScope s' id = isFnScope s id) (fuel cur : Nat) :
    chainIds s' fuel cur = chainIds s fuel cur := by
  induction fuel generalizing cur with
  | zero => rfl
  | succ n ih =>
    simp only [chainIds, hf]
    cases (fnOf s cur).parent with
    | none => rfl
    | some par => simp only [aboveBoundary_congr_on _ (hb cur), ih]

theorem refChain_append (frames extra : List Ref.Frame)
    (hp : ∀ (i : Nat) (fr : Ref.Frame), frames[i]? = some fr → ∀ p, fr.parent = some p → p < i)
    (fuel env : Nat) (he : env < frames.length) :
    refChain (frames ++ extra) fuel env = refChain frames fuel env := by
  induction fuel generalizing env with
  | zero => rfl
  | succ n ih =>
    simp only [refChain, List.getElem?_append_left he]
    cases hf : frames[env]? with
    | none => rfl
    | some fr =>
      cases hpar : fr.parent with
      | none => simp only [hpar]
      | some p =>
        have hlt := hp env fr hf p hpar
        simp only [hpar, ih p (by omega)]

theorem fnClosing_bounded (s : St) (w : WF s) (i : Nat) : ∀ id ∈ idsOf (fnOf s i).closing, id < s.scopes.length := by
  intro id hid
  rcases getD_mem_or_default s.fns i {} with hm | hd
  · exact w.closing _ hm id hid
  · simp only [fnOf, hd] at hid
    simp [idsOf] at hid

theorem chainIds_bounded (s : St) (w : WF s) (fuel cur : Nat) : ∀ id ∈ chainIds s fuel cur, id < s.scopes.length := by
  induction fuel generalizing cur with
  | zero => simp [chainIds]
  | succ n ih =>
    intro id hid
    simp only [chainIds] at hid
    split at hid
    · simp at hid
    · rcases List.mem_append.mp hid with h | h
      · exact fnClosing_bounded s w cur id (aboveBoundary_sub s _ id h)
      · exact ih _ id h

theorem lexCore_bounded (s : St) (w : WF s) : ∀ id ∈ lexCore s, id < s.scopes.length := by
  intro id hid
  simp only [lexCore, List.mem_append] at hid
  rcases hid with h | h
  · exact w.linear id (aboveBoundary_sub s _ id h)
  · simp only [capturedChain] at h
    split at h
    · exact chainIds_bounded s w _ _ id h
    · exact fnClosing_bounded s w _ id (aboveBoundary_sub s _ id h)

/-- Entering `let` / `letseq` / `newScope` / `for`: the VM pushes a fresh scope, the
reference evaluator allocates a fresh frame whose parent is the current environment; the
relation is kept, with the new scope mapped to the new frame. -/
theorem sim_addScope {ρ : Nat → Nat} {φ : Val → Val} {s : St} {rs : Ref.St} {env : Nat}
    (h : Sim ρ φ s rs env) (w : WF s)
    (hrange : ∀ id ∈ lexCore s, ρ id < rs.frames.length)
    (hparents : ∀ (i : Nat) (fr : Ref.Frame), rs.frames[i]? = some fr → ∀ p, fr.parent = some p → p < i)
    (henv : env < rs.frames.length) :
    Sim (fun id => if id = s.scopes.length then rs.frames.length else ρ id) φ
      s.pushScope (Ref.newFrame rs env).2 (Ref.newFrame rs env).1 := by
  have hold : ∀ id, id < s.scopes.length → scopeOf s.pushScope id = scopeOf s id :=
    fun id hid => getD_append_lt s.scopes _ id {} hid
  have hflag : ∀ id, id < s.scopes.length → isFnScope s.pushScope id = isFnScope s id := by
    intro id hid; simp only [isFnScope, hold id hid]
  have hnew : isFnScope s.pushScope s.scopes.length = false := by
    simp [isFnScope, scopeOf, St.pushScope]
  have hfn : ∀ i, fnOf s.pushScope i = fnOf s i := fun _ => rfl
  have hab : aboveBoundary s.pushScope s.linear = aboveBoundary s s.linear :=
    aboveBoundary_congr_on _ (fun id hid => hflag id (w.linear id hid))
  have hcc : capturedChain s.pushScope = capturedChain s := by
    have hb : ∀ i, ∀ id ∈ idsOf (fnOf s i).closing, isFnScope s.pushScope id = isFnScope s id :=
      fun i id hid => hflag id (fnClosing_bounded s w i id hid)
    show (if (fnOf s s.curfunc).parent.isSome then chainIds s.pushScope (s.fns.length + 1) s.curfunc
          else aboveBoundary s.pushScope (fnOf s s.curfunc).closing) = _
    rw [chainIds_congr hfn hb, aboveBoundary_congr_on _ (hb _)]
    rfl
  have hcore : lexCore s.pushScope = s.scopes.length :: lexCore s := by
    simp only [lexCore, hcc]
    show aboveBoundary s.pushScope (some s.scopes.length :: s.linear) ++ capturedChain s = _
    simp only [aboveBoundary, hnew, Bool.false_eq_true, if_false, hab, List.cons_append]
  have hnotin : s.scopes.length ∉ lexCore s := fun hm => Nat.lt_irrefl _ (lexCore_bounded s w _ hm)
  have hmap : (lexCore s).map (fun id => if id = s.scopes.length then rs.frames.length else ρ id) = (lexCore s).map ρ := by
    apply List.map_congr_left
    intro id hid
    have : id ≠ s.scopes.length := fun e => hnotin (e ▸ hid)
    simp [this]
  refine ⟨?_, ?_, ?_⟩
  · simp only [Ref.newFrame, hcore, List.map_cons, if_true, hmap, dedupFirst]
    have hlen : (rs.frames ++ [({ parent := some env } : Ref.Frame)]).length = rs.frames.length + 1 := by simp
    rw [hlen]
    show refChain _ (rs.frames.length + 1 + 1) rs.frames.length = _
    rw [refChain]
    simp only [List.getElem?_append_right (Nat.le_refl _), Nat.sub_self, List.getElem?_cons_zero]
    rw [refChain_append rs.frames _ hparents _ _ henv, h.chain]
    congr 1
    symm
    refine List.filter_eq_self.mpr fun a ha => ?_
    obtain ⟨id, hid, rfl⟩ := List.mem_map.mp (mem_dedupFirst.mp ha)
    have := hrange id hid
    simp only [bne_iff_ne, ne_eq]; omega
  · intro id hid
    rw [hcore] at hid
    rcases List.mem_cons.mp hid with rfl | hid
    · simp [Ref.newFrame, scopeOf, St.pushScope, List.getD_eq_getElem?_getD]
    · have hne : id ≠ s.scopes.length := fun e => hnotin (e ▸ hid)
      have hlt := lexCore_bounded s w id hid
      have hr := hrange id hid
      simp only [hne, if_false, Ref.newFrame, hold id hlt]
      rw [← h.vars id hid]
      rw [getD_append_lt rs.frames _ (ρ id) {} hr]
  · intro id hid
    have ht : templateCaptured s.pushScope s.pushScope.linear = templateCaptured s s.linear := by
      show templateCaptured s.pushScope (some s.scopes.length :: s.linear) = _
      simp only [templateCaptured, hnew, Bool.false_eq_true, if_false]
      exact templateCaptured_congr_on _ (fun j hj => ⟨hflag j (w.linear j hj), by rw [hold j (w.linear j hj)]⟩)
        (fun _ => rfl)
    rw [ht] at hid
    rw [hcore]
    exact List.mem_cons_of_mem _ (h.template id hid)

end ZygoVerif.Scope
