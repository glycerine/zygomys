/-
Why the STATIC scope count of break / continue is right for re-entrant code (C04; the seeded
change C04-m3 replaced it by a depth recorded in the shared loop record).

Compiled code is shared by all activations of a function. The stack-effect machine
(`Model/StackEffect.lean`) and the VM model (`Model/VM.lean`) have no state in the code: a
state is (pc, data stack, scope depth, address depth), the code is a parameter. This file
proves, for any function the verifier accepts: inside one activation the scope depth is the
activation's own entry depth plus a compile-time constant of the pc; a break/continue pops exactly
the count written in the instruction and lands at that depth, so nothing recorded at loop entry is
needed — and nothing shared between activations could be right for two nested ones
(`nested_activation_depths`); a call is one step that leaves the scope depth alone, which is what
a verified callee does (`call_contract_of_verified_callee`). That, on the VM model, break/continue
write neither the loop table nor the function table is `VM.exitLoop_ok` (Proofs/VMStep.lean).
-/
import ZygoVerif.Proofs.Balanced
namespace ZygoVerif.Bal

/-- Inside one activation (entered with `S` scopes) the scope depth is `S + k(pc)`. -/
theorem scope_depth_of_pc (f : Fn) (ann : Ann) (hv : verify f ann = true)
    (D : List Cell) (S A : Nat) (c0 c : CState)
    (hpc : c0.pc = 0) (hdata : c0.data = List.replicate f.entryCount .val ++ D)
    (hsc : c0.sc = S) (haddr : c0.addr = A) (hreach : Reach f c0 c) :
    ∃ a, annAt ann c.pc = some a ∧ c.sc = S + a.k := by
  have hV := verified_of_verify f ann hv
  have h0 := inv_entry f ann hV D S A c0 hpc hdata hsc haddr
  obtain ⟨a, _, ha, _, _, hk, _⟩ := inv_reach f ann hV D S A c0 c hreach h0
  exact ⟨a, ha, hk⟩

/-- Two visits of the same pc by the same activation see the same scope depth. -/
theorem same_pc_same_depth (f : Fn) (ann : Ann) (hv : verify f ann = true)
    (D : List Cell) (S A : Nat) (c0 c c' : CState)
    (hpc : c0.pc = 0) (hdata : c0.data = List.replicate f.entryCount .val ++ D)
    (hsc : c0.sc = S) (haddr : c0.addr = A) (hr : Reach f c0 c) (hr' : Reach f c0 c')
    (hsame : c.pc = c'.pc) : c.sc = c'.sc := by
  obtain ⟨a, ha, hk⟩ := scope_depth_of_pc f ann hv D S A c0 c hpc hdata hsc haddr hr
  obtain ⟨a', ha', hk'⟩ := scope_depth_of_pc f ann hv D S A c0 c' hpc hdata hsc haddr hr'
  rw [hsame, ha'] at ha
  cases ha
  omega

/-- The instruction at `c.pc` is a break or continue of loop `l` with static count `p`. -/
def AtExit (f : Fn) (c : CState) (l : Nat) (off : Int) (p : Nat) : Prop :=
  f.code[c.pc]? = some (.brk l off p) ∨ f.code[c.pc]? = some (.cont l off p)

theorem eff_of_atExit {f : Fn} {c : CState} {l : Nat} {off : Int} {p : Nat} {i : BInstr}
    (h : AtExit f c l off p) (hi : f.code[c.pc]? = some i) : eff i = .exitLoop l off p := by
  rcases h with h | h <;> (rw [h] at hi; cases hi; rfl)

/-- A break/continue step pops exactly the static count written in the instruction and lands at
the loop's offset. -/
theorem exit_pops_static (f : Fn) (c c' : CState) (l : Nat) (off : Int) (p : Nat)
    (hat : AtExit f c l off p) (hstep : CStep f c c') :
    p ≤ c.sc ∧ c'.sc = c.sc - p ∧ c'.data = c.data ∧ c'.addr = c.addr := by
  cases hstep with
  | exitLoop i l' off' p' pos hi he hl hnn hp =>
    rw [eff_of_atExit hat hi] at he
    cases he
    exact ⟨hp, rfl, rfl, rfl⟩
  | simple i p' m popped rest hi he => rw [eff_of_atExit hat hi] at he; cases he
  | dup i x rest hi he => rw [eff_of_atExit hat hi] at he; cases he
  | popCell i x rest hi he => rw [eff_of_atExit hat hi] at he; cases he
  | popEmpty i hi he => rw [eff_of_atExit hat hi] at he; cases he
  | jump i off' t hi he => rw [eff_of_atExit hat hi] at he; cases he
  | goto i loc t hi he => rw [eff_of_atExit hat hi] at he; cases he
  | branchTaken i off' x rest t hi he => rw [eff_of_atExit hat hi] at he; cases he
  | branchFall i off' x rest hi he => rw [eff_of_atExit hat hi] at he; cases he
  | guardTaken i off' t hi he => rw [eff_of_atExit hat hi] at he; cases he
  | guardFall i off' hi he => rw [eff_of_atExit hat hi] at he; cases he
  | scopeUp i hi he => rw [eff_of_atExit hat hi] at he; cases he
  | scopeDown i n hi he => rw [eff_of_atExit hat hi] at he; cases he
  | pushMarker i hi he => rw [eff_of_atExit hat hi] at he; cases he
  | closeMarker i above below hi he => rw [eff_of_atExit hat hi] at he; cases he
  | explode i x rest n hi he => rw [eff_of_atExit hat hi] at he; cases he
  | pushMark i s hi he => rw [eff_of_atExit hat hi] at he; cases he
  | popUntil i s above below hi he => rw [eff_of_atExit hat hi] at he; cases he
  | clearMark i s above below hi he => rw [eff_of_atExit hat hi] at he; cases he
  | xfer i n hi he => rw [eff_of_atExit hat hi] at he; cases he
  | prepareVar i n popped rest hi he => rw [eff_of_atExit hat hi] at he; cases he
  | prepareFix i n hi he => rw [eff_of_atExit hat hi] at he; cases he

/-- After a break/continue the scope depth is that of THIS activation at the landing point:
`S + k(landing pc)`, `S` being the depth at which this activation was entered. Nothing recorded
when the loop was entered is consulted; the count `p` in the instruction is exactly
`k(exit pc) − k(landing pc)`. -/
theorem exit_lands_at_activation_depth (f : Fn) (ann : Ann) (hv : verify f ann = true)
    (D : List Cell) (S A : Nat) (c0 c c' : CState)
    (hpc : c0.pc = 0) (hdata : c0.data = List.replicate f.entryCount .val ++ D)
    (hsc : c0.sc = S) (haddr : c0.addr = A) (hreach : Reach f c0 c)
    (l : Nat) (off : Int) (p : Nat) (hat : AtExit f c l off p) (hstep : CStep f c c') :
    ∃ a a', annAt ann c.pc = some a ∧ annAt ann c'.pc = some a' ∧
      c.sc = S + a.k ∧ c'.sc = S + a'.k ∧ a.k = a'.k + p := by
  obtain ⟨a, ha, hk⟩ := scope_depth_of_pc f ann hv D S A c0 c hpc hdata hsc haddr hreach
  obtain ⟨a', ha', hk'⟩ := scope_depth_of_pc f ann hv D S A c0 c' hpc hdata hsc haddr
    (Reach.step _ _ _ hreach hstep)
  obtain ⟨hp, hpop, _⟩ := exit_pops_static f c c' l off p hat hstep
  exact ⟨a, a', ha, ha', hk, hk', by omega⟩

/-- The calling contract is what a verified callee does: the single step the machine takes for
a call instruction — the arguments popped, ONE value pushed, scope depth and address depth as
before — is exactly what a run of a verified callee `g` to its `ret` does, started from the
caller's state at ANY scope depth `sc` and on top of ANY rest of the data stack. With `g := f`
this is the function calling itself from inside its own loop body and nested scopes. -/
theorem call_contract_of_verified_callee (g : Fn) (ann : Ann) (hv : verify g ann = true)
    (rest : List Cell) (sc addr : Nat) (e : CState)
    (hreach : Reach g ⟨0, List.replicate g.entryCount .val ++ rest, sc, addr + 1⟩ e) (hret : AtRet g e) :
    e.data = List.replicate 1 .val ++ rest ∧ e.sc = sc ∧ (afterRet e).addr = addr := by
  have hV := verified_of_verify g ann hv
  have h0 := inv_entry g ann hV rest sc (addr + 1) ⟨0, List.replicate g.entryCount .val ++ rest, sc, addr + 1⟩ rfl rfl rfl rfl
  have hinv := inv_reach g ann hV rest sc (addr + 1) _ e hreach h0
  obtain ⟨h1, h2, h3⟩ := inv_at_ret g ann hV rest sc (addr + 1) e hinv hret
  exact ⟨by simp [h1, List.replicate], h2, by simp [afterRet, h3]⟩

/-- Two activations of the same code, one inside the other. The outer activation of `f`
(entered at depth `S`) is at `c` when `f` is called again (`c` is any reachable state: in the
body of a loop, inside nested scopes); the inner activation starts at depth `c.sc`. Take an exit
step of the inner activation (`x → x'`) and one of the outer activation (`y → y'`, before or after
the inner call) that land at the same pc. Then the two landing depths differ by exactly
`c.sc − S`, the depth of the call site inside the outer activation — which is at least 1 when the
call site is behind `AddFuncScopeInstr`. So ONE depth recorded per loop (in the shared loop
record, by whichever activation entered the loop last) is right for at most one of them; the
static count is right for both (`exit_lands_at_activation_depth`). -/
theorem nested_activation_depths (f : Fn) (ann : Ann) (hv : verify f ann = true)
    (D : List Cell) (S A : Nat) (c0 c : CState)
    (hpc : c0.pc = 0) (hdata : c0.data = List.replicate f.entryCount .val ++ D)
    (hsc : c0.sc = S) (haddr : c0.addr = A) (hc : Reach f c0 c)
    (rest : List Cell) (hcd : c.data = List.replicate f.entryCount .val ++ rest)
    (x' y' : CState)
    (hx : Reach f ⟨0, c.data, c.sc, c.addr + 1⟩ x') (hy : Reach f c0 y') (hsame : x'.pc = y'.pc) :
    S ≤ c.sc ∧ x'.sc = y'.sc + (c.sc - S) := by
  obtain ⟨a, ha, hk⟩ := scope_depth_of_pc f ann hv D S A c0 c hpc hdata hsc haddr hc
  obtain ⟨ax, hax, hkx⟩ := scope_depth_of_pc f ann hv rest c.sc (c.addr + 1) ⟨0, c.data, c.sc, c.addr + 1⟩ x'
    rfl hcd rfl rfl hx
  obtain ⟨ay, hay, hky⟩ := scope_depth_of_pc f ann hv D S A c0 y' hpc hdata hsc haddr hy
  rw [hsame, hay] at hax
  cases hax
  exact ⟨by omega, by omega⟩

end ZygoVerif.Bal
