/-
C02, execution half — F3: lazy parameters. `force` on a lazy argument object against `Ref.force`
on the thunk: the expression is compiled at force time, runs as a helper function on the captured
stack (the live stack set aside on `suspended`), the control state is restored and the value is
memoised — on both sides in the same table slot.
-/
import ZygoVerif.Proofs.SimF2
namespace ZygoVerif.Sim
open ZygoVerif.Core ZygoVerif.VM

/-- the helper function `Force` makes for the expression of a lazy argument -/
def forceFn (lz : LazyObj) (code : List Instr) : FnObj :=
  { name := "lazyArgForce", code := code ++ [.ret], closing := lz.stack, parent := some lz.curfunc }

/-- the state in which the expression of a lazy argument starts: helper registered, the live stack set
aside, the captured stack current, `CallFunction` done -/
def inForce (s : St) (lz : LazyObj) (code : List Instr) : St :=
  { s with fns := s.fns ++ [forceFn lz code], suspended := s.linear :: s.suspended, linear := lz.stack,
           addr := some (s.curfunc, -1) :: s.addr, curfunc := s.fns.length, pc := 0 }

def memoSet (s : St) (id : Nat) (lz : LazyObj) (v : Val) : St :=
  { s with lazies := s.lazies.set id ({ lz with value := some v } : LazyObj) }

theorem fnOf_inForce_self (s : St) (lz : LazyObj) (code : List Instr) :
    fnOf (inForce s lz code) (inForce s lz code).curfunc = forceFn lz code :=
  fnOf_append_self (s := s) rfl

theorem fnOf_inForce_old (s : St) (lz : LazyObj) (code : List Instr) (id : Nat) (hid : id < s.fns.length) :
    fnOf (inForce s lz code) id = fnOf s id :=
  fnOf_append_old (o := forceFn lz code) rfl hid

theorem seg_inForce (s : St) (lz : LazyObj) (code : List Instr) : Seg (inForce s lz code) [] code [.ret] :=
  ⟨by rw [fnOf_inForce_self]; rfl, by rw [fnOf_inForce_self]; rfl, rfl⟩

/-- `Force` of a lazy argument that has no memo: compile, register the helper, set the live stack aside,
run on the captured stack, restore, memoise -/
theorem forceLazy_run (fuel id : Nat) (s0 s : St) (lz : LazyObj) (code : List Instr) (t : Bool)
    (hl : s0.lazies[id]? = some lz) (hv : lz.value = none)
    (hgen : (runGen (compile (isFnScope s0) {} lz.e)).run s0 = (.ok (code, t), s)) (hne : code ≠ []) :
    (forceLazy (fuel + 2) id).run s0 =
      match (run fuel).run (inForce s lz code) with
      | (.ok v, s') => (.ok v, memoSet ((restore (capOf s)).run s').2 id lz v)
      | (.error .err, s') => (.error .err, ((restore (capOf s)).run s').2)
      | (.error flt, s') => (.error flt, s') := by
  rw [run_forceLazy, hl]
  dsimp only
  rw [hv]
  dsimp only
  rw [hgen]
  dsimp only
  rw [if_neg (by simpa using hne), run_bind, run_nested_thunk fuel s (thunkObj _ _ _ _) _ _ _ rfl rfl (inForce s lz code) rfl]
  rcases (run fuel).run (inForce s lz code) with ⟨(_ | _ | _) | v, s'⟩ <;>
    simp only [handOn, Contain.run_restore, if_true] <;> rfl

/-- `restoreControlState` after a force: the live stack comes back from `suspended` -/
theorem run_restore_force (c : CtlState) (s : St) (lin : List (Option Nat)) (susp : List (List (Option Nat)))
    (hs : s.suspended = lin :: susp) (hsl : susp.length = c.susp)
    (ha : s.addr.length = c.addrSize) (hl : lin.length = c.linearSize) (hd : s.data.length = c.dataSize) :
    (restore c).run s = (.ok (), { s with linear := lin, suspended := susp, curfunc := c.curfunc, pc := c.pc }) := by
  rw [Contain.run_restore, Contain.restoreSt_sized c s lin susp (hs ▸ List.suffix_cons _ _) hsl hd ha hl]

theorem run_builtin_force (fuel : Nat) (args : List Val) (s : St) :
    (builtin (fuel + 1) "force" args).run s =
      match args with
      | [.lazy id] => (forceLazy fuel id).run s
      | [v] => (.ok v, s)
      | _ => (.error .err, s) := by
  rw [builtin.eq_def]
  simp only []
  rw [if_neg (show ¬ "force" = "trace" by decide), if_neg (show ¬ "force" = "probe" by decide), if_pos True.intro]
  rcases args with _ | ⟨a, _ | ⟨b, r⟩⟩
  · rfl
  · cases a <;> rfl
  · cases a <;> rfl

/-- the top segment of a chained stack names scopes not above where it starts -/
theorem chain_ttb_le {isFn : Nat → Bool} {frames : List Ref.Frame} :
    ∀ {k env lin}, ChainF isFn frames k env lin → ∀ i, some i ∈ Scope.takeToBoundary isFn lin → i ≤ env := by
  intro k env lin h
  induction h with
  | root fr hf hp hfl0 =>
    intro i hi
    have e : Scope.isFnElem isFn (some 0) = false := hfl0
    simp only [Scope.takeToBoundary, e, Bool.false_eq_true, if_false, List.mem_cons, Option.some.injEq, List.not_mem_nil,
      or_false] at hi
    omega
  | cons k env p fr rest hf hp hlt hfl0 _ ih =>
    intro i hi
    have e : Scope.isFnElem isFn (some env) = false := hfl0
    simp only [Scope.takeToBoundary, e, Bool.false_eq_true, if_false, List.mem_cons, Option.some.injEq] at hi
    rcases hi with hi | hi
    · omega
    · have := ih i hi; omega
  | fn env p fr below hf hp hlt hfl0 =>
    intro i hi
    have e : Scope.isFnElem isFn (some env) = true := hfl0
    simp only [Scope.takeToBoundary, e, if_true, List.mem_cons, Option.some.injEq, List.not_mem_nil, or_false] at hi
    omega

/-- **Inside a force** the relation holds in the frame where the thunk was made: the captured stack is
the static chain of that frame, and the helper's closing stack is that very stack -/
theorem relF_inForce {m : Nat → Nat} {s : St} {rs : Ref.St} {env : Nat} (h : RelF m s rs env)
    {lz : LazyObj} {th : Ref.Thunk} (hlz : LzOk m s rs lz th) (hval : lz.value = none) (code : List Instr) :
    RelF m (inForce s lz code) rs th.env := by
  obtain ⟨k0, hc0, hfc0⟩ := h.ctx
  obtain ⟨_, _, hel, hb, k, hc, hfc⟩ := hlz.todo hval
  have E : ExtF m s rs m (inForce s lz code) rs :=
    ⟨FnsKeep.of_eq (by show s.fns.length ≤ (s.fns ++ [_]).length; simp) (fun id hid => fnOf_inForce_old s lz code id hid)
      (by have := fns_ne_nil_of_lt hfc0.lt; cases hs : s.fns with | nil => exact absurd hs this | cons _ _ => simp [mainFn]),
     Nat.le_refl _, fun _ _ => rfl, RExt.refl rs, MExt.refl s m⟩
  have hold : FnChainF (inForce s lz code) rs.frames lz.stack k lz.curfunc :=
    hfc.transfer (s := s) (s' := inForce s lz code) (frames' := rs.frames) rs.frames.length (fun _ _ => rfl)
      (fun i fr hf => ⟨fr, hf, rfl⟩) E.fns (Nat.le_of_eq h.len) (Nat.le_refl _)
      (fun e he => Nat.lt_trans (hc.k_lt e he) hc.lt) rfl
  refine h.move E h.len (entries_kept m rfl rfl) h.par hb ⟨k, hc, ?_⟩ h.heap (h.hok.grow E) h.trace (h.lz.grow E)
  refine FnChainF.sfx lz.stack k _ lz.curfunc (by show s.fns.length < (s.fns ++ [_]).length; simp) ?_ hfc.lt ?_ ?_ hold
  · rw [fnOf_inForce_self]; rfl
  · rw [fnOf_inForce_self]
    intro i hi
    exact Nat.lt_of_le_of_lt (chain_ttb_le hc i hi) hel
  · rw [fnOf_inForce_self]
    exact ⟨[], rfl⟩

def memoSetR (rs : Ref.St) (id : Nat) (th : Ref.Thunk) (v : Val) : Ref.St :=
  { rs with thunks := rs.thunks.set id { th with value := some v } }

/-- **Memoising**: the value goes into the same slot of both tables -/
theorem RelF.memo {m s rs env} (h : RelF m s rs env) {id : Nat} {lz : LazyObj} {th : Ref.Thunk} {v : Val}
    (hv : VOk m s rs v) :
    RelF m (memoSet s id lz v) (memoSetR rs id th (trf m v)) env := by
  have E : ExtF m s rs m (memoSet s id lz v) (memoSetR rs id th (trf m v)) :=
    ExtF.of_eq rfl (Nat.le_refl _) (fun _ _ => rfl) ⟨fun i fr hf => ⟨fr, hf, rfl⟩, fun _ _ hc' => hc'⟩
  refine h.move E h.len (entries_kept m rfl rfl) h.par h.bottom (h.ctx_grow E) h.heap (h.hok.grow E) h.trace ⟨?_, ?_⟩
  · show (s.lazies.set id _).length = (rs.thunks.set id _).length
    simp [h.lz.1]
  · intro j lz' hl
    have hl' : (s.lazies.set id ({ lz with value := some v } : LazyObj))[j]? = some lz' := hl
    by_cases hj : id = j
    · subst hj
      have hlt : id < s.lazies.length := by
        have := lt_of_getElem?_some hl'; simpa using this
      rw [List.getElem?_set_self hlt] at hl'
      injection hl' with hl'
      subst hl'
      refine ⟨{ th with value := some (trf m v) }, ?_, ⟨rfl, ?_, fun hn => by cases hn⟩⟩
      · show (rs.thunks.set id _)[id]? = _
        rw [List.getElem?_set_self (by rw [← h.lz.1]; exact hlt)]
      · intro w hw
        injection hw with hw
        subst hw
        exact hv.grow E
    · rw [List.getElem?_set_ne hj] at hl'
      obtain ⟨th', h1, h2⟩ := h.lz.2 j lz' hl'
      refine ⟨th', ?_, h2.grow E⟩
      show (rs.thunks.set id _)[j]? = some th'
      rw [List.getElem?_set_ne hj]; exact h1

theorem ref_applyFn_force (k : Nat) (vs : List Val) (rs : Ref.St) :
    Ref.applyFn (k + 1) (.builtin "force") vs rs =
      match vs with
      | [.lazy id] => Ref.force k id rs
      | [v] => .ok v rs
      | _ => .err rs := by
  rw [Ref.applyFn.eq_def]
  simp only []
  rw [if_neg (show ¬ "force" = "trace" by decide), if_neg (show ¬ "force" = "probe" by decide), if_pos True.intro]
  rcases vs with _ | ⟨a, _ | ⟨b, r⟩⟩
  · rfl
  · cases a <;> rfl
  · cases a <;> rfl

/-- the state `Force` leaves inside the builtin frame, before the memo is set -/
def afterForce (s s4 : St) (D : List (Option Val)) : St :=
  { s4 with addr := some (s.curfunc, s.pc + 1) :: s.addr, curfunc := builtinFn, pc := -1, data := D,
            linear := s.linear, suspended := s.suspended }

theorem force_sim {k : Nat} (hlow : ∀ j, j < k → FClaimE j) {m : Nat → Nat} {s : St} {rs : Ref.St} {env : Nat}
    (hrel : RelF m s rs env) (id : Nat) (D : List (Option Val)) :
    BOk m s rs env D (fun fuel => (forceLazy fuel id).run (inBuiltin s D)) (Ref.force k id rs) := by
  cases k with
  | zero => rw [Ref.force]; trivial
  | succ j =>
  rw [Ref.force]
  cases ht : rs.thunks[id]? with
  | none =>
    have hl : (inBuiltin s D).lazies[id]? = none := by
      show s.lazies[id]? = none
      rw [List.getElem?_eq_none_iff] at ht ⊢
      rw [hrel.lz.1]; exact ht
    exact Ev.shift 1 (Ev.of_forall fun f => forceLazy_none f id _ hl) fun _ e => ⟨_, e, hrel.trace⟩
  | some th =>
    have hidlt : id < s.lazies.length := by rw [hrel.lz.1]; exact lt_of_getElem?_some ht
    obtain ⟨lz, hlzs⟩ : ∃ lz, s.lazies[id]? = some lz := ⟨s.lazies[id], List.getElem?_eq_getElem hidlt⟩
    obtain ⟨th', ht', hlz⟩ := hrel.lz.2 id lz hlzs
    rw [ht] at ht'
    injection ht' with ht'
    subst ht'
    have hlB : (inBuiltin s D).lazies[id]? = some lz := hlzs
    simp only
    cases hval : lz.value with
    | some v =>
      have htv : th.value = some (trf m v) := by rw [hlz.val, hval]; rfl
      rw [htv]
      obtain ⟨M, hM⟩ : Ev fun fuel => (forceLazy fuel id).run (inBuiltin s D) = (.ok v, inBuiltin s D) :=
        Ev.shift 1 (Ev.of_forall fun f => forceLazy_memo f id _ lz v hlB hval) fun _ e => e
      exact ⟨M, s, m, v, hM, rfl, rfl, hrel, MExt.refl s m, RExt.refl rs, FrameF.refl s, hlz.vok v hval⟩
    | none =>
      have htv : th.value = none := by rw [hlz.val, hval]; rfl
      obtain ⟨hthe, hexpr, _⟩ := hlz.todo hval
      rw [htv]
      simp only
      have hev : Ref.eval j th.e th.env rs = Ref.eval j lz.e th.env rs := by rw [hthe]
      rw [hev]
      -- compiled at force time
      obtain ⟨code, t, gs', hc, hne, hk⟩ := compile_total_Ff false "" lz.e hexpr (isFnScope (inBuiltin s D)) {}
        s.gs (Or.inl rfl)
      have hfns : gs'.fns = s.fns := hk.2 rfl
      have hgen : (runGen (compile (isFnScope (inBuiltin s D)) {} lz.e)).run (inBuiltin s D)
          = (.ok (code, t), withLoops (inBuiltin s D) gs') :=
        run_runGen_any _ (inBuiltin s D) _ gs' hc hfns
      -- `sL`: the caller's state with the loop records the generator may have added
      have hleL : LoopsExt s (withLoops s gs') := ⟨hk.1.loopsLen, hk.1.loopsGet⟩
      have hkL : FnsKeep s (withLoops s gs') := FnsKeep.of_fns_eq rfl hleL
      have relL : RelF m (withLoops s gs') rs env :=
        hrel.of_same rfl rfl rfl rfl rfl rfl hrel.heap hrel.trace hrel.hok hleL
      have hlzL : LzOk m (withLoops s gs') rs lz th :=
        hlz.mono hkL (Nat.le_refl _) (fun _ _ => rfl) (RExt.refl rs) (fun _ _ => rfl)
      have relIn : RelF m (inForce (withLoops (inBuiltin s D) gs') lz code) rs th.env :=
        (relF_inForce relL hlzL hval code).of_same rfl rfl rfl rfl rfl rfl (relF_inForce relL hlzL hval code).heap
          (relF_inForce relL hlzL hval code).trace (relF_inForce relL hlzL hval code).hok
      have hseg := seg_inForce (withLoops (inBuiltin s D) gs') lz code
      have hsim := hlow j (Nat.lt_succ_self j) false "" lz.e hexpr (isFnScope (inBuiltin s D)) {} _ ((code, t), _) hc
        (Or.inl rfl) m (inForce (withLoops (inBuiltin s D) gs') lz code) rs th.env [] [.ret] relIn (fun h => by cases h) hseg
      have hunf := fun fuel => forceLazy_run fuel id (inBuiltin s D) (withLoops (inBuiltin s D) gs') lz code t hlB hval hgen hne
      cases hres : Ref.eval j lz.e th.env rs with
      | ok v' rs' =>
        rw [hres] at hsim
        obtain ⟨s4, m4, v, r, l, hv, rel4, hm4, ext4, fr4, hcl4⟩ := hsim
        have ha4 : s4.addr = some (builtinFn, -1) :: some (s.curfunc, s.pc + 1) :: s.addr := fr4.addr
        obtain ⟨M, hM⟩ := run_helper_ok hseg r l ha4
        have hres5 := run_restore_force (capOf (withLoops (inBuiltin s D) gs'))
          { s4 with addr := some (s.curfunc, s.pc + 1) :: s.addr, curfunc := builtinFn, pc := -1,
                    data := (inForce (withLoops (inBuiltin s D) gs') lz code).data }
          s.linear s.suspended (by show s4.suspended = _; rw [fr4.susp]; rfl) rfl rfl rfl rfl
        have hfl : s.fns.length ≤ s4.fns.length :=
          Nat.le_trans (by show s.fns.length ≤ (s.fns ++ [_]).length; simp) fr4.fnsLen
        have hfo : ∀ id, id < s.fns.length → fnOf s4 id = fnOf s id := fun id hid =>
          (fr4.fns id (by show id < (s.fns ++ [_]).length; simp; omega)).trans
            (fnOf_inForce_old (withLoops (inBuiltin s D) gs') lz code id hid)
        have hle4 : LoopsExt (withLoops s gs') s4 := ⟨fr4.loopsLen, fr4.loops⟩
        let s5 : St := { s4 with addr := s.addr, curfunc := s.curfunc, pc := s.pc, data := D, linear := s.linear,
                                 suspended := s.suspended }
        have rel5 : RelF m4 s5 rs' env :=
          relL.back rel4 rfl rfl rfl rfl rfl rfl fr4.flags hfl hfo ext4.1 hle4
        have hframe5 : FrameF s s5 :=
          ⟨⟨rfl, rfl, rfl, rfl, hfl, hfo, Nat.le_trans hleL.1 hle4.1,
            fun i hi => (hle4.2 i (Nat.lt_of_lt_of_le hi hleL.1)).trans (hleL.2 i hi)⟩, fr4.scLen, fr4.flags⟩
        have hm5 : MExt s m m4 := fun id hid => hm4 id (by show id < (s.fns ++ [_]).length; simp; omega)
        have hcl5 : VOk m4 s5 rs' v :=
          hcl4.grow (ExtF.of_eq rfl (Nat.le_refl _) (fun _ _ => rfl) (RExt.refl _))
        have relF := rel5.memo (id := id) (lz := lz) (th := th) hcl5
        have hrF : RExt rs' (memoSetR rs' id th (trf m4 v)) := ⟨fun i fr hf => ⟨fr, hf, rfl⟩, fun _ _ hc' => hc'⟩
        simp only
        subst hv
        obtain ⟨M', hM'⟩ : Ev fun fuel => (forceLazy fuel id).run (inBuiltin s D) = (.ok v, inBuiltin (memoSet s5 id lz v) D) :=
          Ev.shift 2 ⟨M, hM⟩ fun f e => by
            rw [hunf f, e]
            simp only [hres5]
            rfl
        exact ⟨M', memoSet s5 id lz v, m4, v, hM', rfl, rfl, relF, hm5, ext4.trans hrF,
          ⟨⟨hframe5.linear, hframe5.curfunc, hframe5.addr, hframe5.susp, hframe5.fnsLen, hframe5.fns, hframe5.loopsLen,
            hframe5.loops⟩, hframe5.scLen, hframe5.flags⟩, hcl5.grow (ExtF.of_eq rfl (Nat.le_refl _) (fun _ _ => rfl) hrF)⟩
      | err rs' =>
        rw [hres] at hsim
        exact Ev.shift 2 (run_of_failsE hsim) fun f ⟨sf, hrun, htr⟩ =>
          ⟨_, by show (forceLazy (f + 2) id).run (inBuiltin s D) = _; rw [hunf f, hrun], by rw [restore_trace]; exact htr⟩
      | timeout => trivial
      | brk l rs' => rw [hres] at hsim; exact hsim.elim
      | cont l rs' => rw [hres] at hsim; exact hsim.elim

theorem bclaim_force {k : Nat} (hlow : ∀ j, j < k → FClaimE j) : BClaim (k + 1) "force" := by
  intro m s rs env vs D hrel hvs
  rw [ref_applyFn_force]
  have herr : ∀ (hne : ∀ a, vs ≠ [a]), BOk m s rs env D (fun fuel => (builtin fuel "force" vs).run (inBuiltin s D)) (.err rs) := by
    intro hne
    refine Ev.shift 1 (Ev.of_forall fun _ => trivial) fun f _ => ⟨inBuiltin s D, ?_, hrel.trace⟩
    show (builtin (f + 1) "force" vs).run (inBuiltin s D) = _
    rw [run_builtin_force]
    rcases vs with _ | ⟨a, _ | ⟨b, r⟩⟩
    · rfl
    · exact absurd rfl (hne a)
    · cases a <;> rfl
  have hval : ∀ a, vs = [a] → (∀ id, a ≠ .lazy id) →
      BOk m s rs env D (fun fuel => (builtin fuel "force" vs).run (inBuiltin s D)) (.ok (trf m a) rs) := by
    intro a ha hnl
    obtain ⟨M, hM⟩ : Ev fun fuel => (builtin fuel "force" vs).run (inBuiltin s D) = (.ok a, inBuiltin s D) :=
      Ev.shift 1 (Ev.of_forall fun _ => trivial) fun f _ => by
        rw [run_builtin_force, ha]
        cases a <;> first | rfl | exact absurd rfl (hnl _)
    exact ⟨M, s, m, a, hM, rfl, rfl, hrel, MExt.refl _ _, RExt.refl _, FrameF.refl _,
      hvs a (by rw [ha]; exact List.mem_singleton_self a)⟩
  rcases vs with _ | ⟨a, _ | ⟨b, r⟩⟩
  · exact herr (fun a ha => by cases ha)
  · cases a with
    | lazy id =>
      show BOk m s rs env D _ (Ref.force k id rs)
      exact (force_sim hlow hrel id D).shift fun f => by rw [run_builtin_force]
    | _ => exact hval _ rfl (fun _ hh => by cases hh)
  · have := herr (fun a ha => by cases ha)
    cases a <;> exact this

/-- **A call whose callee symbol denotes `force`**, from the segment lemma at lower fuel (the thunk's
expression is evaluated with less fuel than the call) and the operand claim at the call's fuel -/
theorem fclaimG {k : Nat} (hlow : ∀ j, j < k → FClaimE j) (hA : FClaimA (k + 1)) : FClaimG k :=
  fclaimH_of_bclaim hA (bclaim_force hlow)

end ZygoVerif.Sim
