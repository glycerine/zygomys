/-
`WordText`: the texts the lexer reads as ONE atom — a run of plain runes that `DecodeAtom` accepts, such a run behind a
sign and a digit, the float shape — and `reads_word`: a word is read as one pending atom. Every consumer lexes an atom
through these two: printed data (Proofs/ReadPrintLex), the tokens of an infix block (Proofs/LexSpacing), the literal
notations (Proofs/LiteralRead).
-/
import ZygoVerif.Proofs.LexFloat
namespace ZygoVerif.Lexer
open ZygoVerif.PrintData

/-- The texts read as ONE atom: a run of plain runes that `DecodeAtom` accepts (names, dotted
paths, unsigned numerals, `1.5`, `1e5`), such a run behind a sign and a digit (`-12`, `-1.5`), and
the float shape with a signed exponent (`1e-5`, `-2.5e+10`). -/
inductive WordText : List Char → Prop
  | plain (w : List Char) (hne : w ≠ []) (hp : ∀ c ∈ w, isSpecial c = false) (hd : ∃ t, decodeAtom w = .ok t) : WordText w
  | neg (d : Char) (r : List Char) (hd : isDig d = true) (hp : ∀ c ∈ r, isSpecial c = false)
      (ht : ∃ t, decodeAtom ('-' :: d :: r) = .ok t) : WordText ('-' :: d :: r)
  | float (p : FloatParts) (hv : p.Valid) : WordText p.render

def negStart (w : List Char) : Bool := w.head? == some '-'

theorem WordText.ne_nil {w : List Char} (h : WordText w) : w ≠ [] := by
  cases h with
  | plain w hne _ _ => exact hne
  | neg d r _ _ _ => simp
  | float p hv =>
    obtain ⟨c, hc, _⟩ := p.last_digit hv
    intro h; rw [h] at hc; cases hc

theorem WordText.flushable {w : List Char} (h : WordText w) : Flushable w := by
  cases h with
  | plain w _ _ hd => exact Or.inr hd
  | neg d r _ _ ht => exact Or.inr ht
  | float p hv => exact Or.inr ⟨_, decodeAtom_floatParts p hv⟩

theorem WordText.flush {w : List Char} {t : Token} (h : WordText w) (hd : decodeAtom w = .ok t) : flush w = [t] := by
  simp [Lexer.flush, List.isEmpty_eq_false_iff.2 h.ne_nil, hd]

/-- a decimal numeral, signed or not, is a word and a DECIMAL token -/
theorem wordText_signed_digits (neg : Bool) (ds : List Char) (hds : digitsOK ds) :
    WordText ((if neg then ['-'] else []) ++ ds) ∧
    decodeAtom ((if neg then ['-'] else []) ++ ds) = .ok ⟨.decimal, (if neg then ['-'] else []) ++ ds⟩ := by
  obtain ⟨hne, hd⟩ := hds
  have hdec := decodeAtom_of_decimalRe _ (decimalRe_signed_digits neg ds hne hd)
  refine ⟨?_, hdec⟩
  cases neg with
  | false => exact .plain ds hne (digits_plain ds hd) ⟨_, hdec⟩
  | true =>
    cases ds with
    | nil => exact absurd rfl hne
    | cons d r => exact .neg d r (hd d (by simp)) (fun c hc => digits_plain (d :: r) hd c (by simp [hc])) ⟨_, hdec⟩

theorem floatParts_negStart (p : FloatParts) (hv : p.Valid) : negStart p.render = p.neg := by
  obtain ⟨hipne, hipd⟩ := hv.ip
  cases hip : p.ip with
  | nil => exact absurd hip hipne
  | cons d r =>
    have hdd : isDig d = true := hipd d (by rw [hip]; simp)
    have hdm : d ≠ '-' := (isDig_facts d hdd).2.2.2.2.2.2.1
    cases hneg : p.neg <;> simp [negStart, FloatParts.render, FloatParts.mant, hneg, hip, hdm]

/-- a word is read as one pending atom — when it starts with a sign, the rune before it must
be one after which a signed number may start -/
theorem reads_word {w : List Char} (hw : WordText w) (l : Char)
    (hl : negStart w = true → canStartSignedNumberAfter l = true) : Reads (Norm []) l w [] (Norm w) := by
  cases hw with
  | plain w hne hp hd => simpa using reads_plain_run w hp [] l
  | neg d r hd hp ht =>
    exact Reads.trans (reads_minus_digit l d (hl (by simp [negStart])) hd) (reads_plain_run r hp ['-', d] d)
  | float p hv => exact reads_floatParts p hv l fun hn => hl (by rw [floatParts_negStart p hv]; exact hn)

end ZygoVerif.Lexer
