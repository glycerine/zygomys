/-
After feeding any text the last rune of the look-back ring is the last rune of the text (`feed_ring`): `LexNextRune`
pushes the rune at its entry (`pushRing`) and leaves the ring alone afterwards (`ringOf_stepMode`, Proofs/LexTokens).
-/
import ZygoVerif.Proofs.LexShape
namespace ZygoVerif.Lexer

/-- the last rune after feeding `t` when it was `l` before -/
def lastOf (l : Char) (t : List Char) : Char := (l :: t).getLast (by simp)

@[simp] theorem lastOf_nil (l : Char) : lastOf l [] = l := rfl
@[simp] theorem lastOf_cons (l c : Char) (t : List Char) : lastOf l (c :: t) = lastOf c t := by
  simp [lastOf, List.getLast_cons]
theorem lastOf_append (l : Char) (a b : List Char) : lastOf l (a ++ b) = lastOf (lastOf l a) b := by
  induction a generalizing l with
  | nil => rfl
  | cons c a ih => simp [ih]
@[simp] theorem lastOf_append_singleton (l c : Char) (a : List Char) : lastOf l (a ++ [c]) = c := by
  rw [lastOf_append]; simp

theorem step_ring (s s' : LexCore) (r : Char) (h : step s r = .ok s') (hr : RingOK s) :
    RingOK s' ∧ lastRune s' = r := by
  have := ringOf_stepMode (pushRing s r) r
  rw [← step_def, h] at this
  have hok := ringOK_pushRing s r hr
  have hl := lastRune_pushRing s r hr
  refine ⟨⟨by rw [this.1]; exact hok.len, by rw [this.2]; exact hok.lt⟩, ?_⟩
  simp only [lastRune] at hl ⊢
  rw [this.1, this.2, hl]

theorem feed_ring (s s' : LexCore) (t : List Char) (h : feed (.ok s) t = .ok s') (hr : RingOK s) :
    RingOK s' ∧ lastRune s' = lastOf (lastRune s) t := by
  induction t generalizing s with
  | nil =>
    have : s = s' := by simpa [feed_nil] using h
    subst this; exact ⟨hr, rfl⟩
  | cons r t ih =>
    rw [feed_ok_cons] at h
    cases hs : step s r with
    | ok s1 =>
      rw [hs] at h
      obtain ⟨h1, h2⟩ := step_ring s s1 r hs hr
      obtain ⟨h3, h4⟩ := ih s1 h h1
      exact ⟨h3, by rw [h4, h2]; simp⟩
    | err e s1 => rw [hs, feed_err] at h; cases h

end ZygoVerif.Lexer
