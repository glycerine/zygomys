/-
Lemmas for Props/C18.lean: the path walkers of `Model/Pkg.lean` against
`Spec/Visibility.lean`. A hop that is not the last is the same for a get and a set (`hop`,
`walk_hop`: one case per arm of the two Go loops, the hand-overs being where the walker stands
next) and the specification takes it in the same way (`hop_spec`); what is left for the induction
on the path is the last name, where get and set differ.
-/
import ZygoVerif.Model.Pkg
import ZygoVerif.Spec.Visibility
namespace ZygoVerif.Pkg
open ZygoVerif.Visibility

/-- The container a walker stands in, as the value the specification talks about. -/
def curVal : Cur → Val
  | .stack pn sc => .pkg pn sc
  | .hash id _ => .hash id

def curVia : Cur → Bool
  | .stack _ _ => true
  | .hash _ via => via

theorem errIfPrivate_ok_iff (nm : Name) (a : Unit) : errIfPrivate nm = .ok a ↔ capitalised nm = true := by
  cases nm with
  | nil => simp [errIfPrivate, capitalised]
  | cons c cs =>
    simp only [errIfPrivate, capitalised]
    split <;> simp_all

theorem errIfPrivate_err (nm : Name) (e : Err) : errIfPrivate nm = .error e → capitalised nm = false := by
  cases nm with
  | nil => simp [errIfPrivate, capitalised]
  | cons c cs =>
    simp only [errIfPrivate, capitalised]
    split <;> simp_all

/-- The test at the head of the hash walker's loop (`if viaPkg != nil { errIfPrivate }`). -/
theorem viaCheck_ok_iff (via : Bool) (nm : Name) (a : Unit) :
    (if via then errIfPrivate nm else .ok ()) = .ok a ↔ (!via || capitalised nm) = true := by
  cases via with
  | false => simp
  | true => simp [errIfPrivate_ok_iff]

theorem viaCheck_err (via : Bool) (nm : Name) (e : Err) :
    (if via then errIfPrivate nm else .ok ()) = .error e → (!via || capitalised nm) = false := by
  cases via with
  | false => simp
  | true => simpa using errIfPrivate_err nm e

theorem readable_nil (h : Heap) (c : Val) (via : Bool) : readable h c via [] = some c := by
  cases c <;> simp [readable, resolve]

theorem readable_pkg_cons (h : Heap) (pn : Name) (sc : List Nat) (via : Bool) (nm : Name) (rest : List Name) :
    readable h (.pkg pn sc) via (nm :: rest) =
      match lookupStack h nm sc with
      | none => none
      | some (v, _) =>
        if hopVisible { inPkg := true, via := true, name := nm, target := v } then readable h v true rest else none := by
  simp only [readable, resolve]
  cases lookupStack h nm sc with
  | none => rfl
  | some p =>
    obtain ⟨v, sid⟩ := p
    simp only []
    cases resolve h v true rest with
    | none => simp
    | some r =>
      obtain ⟨hs, r1, r2⟩ := r
      simp only [List.all_cons]
      by_cases hv : hopVisible { inPkg := true, via := true, name := nm, target := v } = true <;> simp [hv]

theorem readable_pkg_via (h : Heap) (pn : Name) (sc : List Nat) (via : Bool) (p : List Name) :
    readable h (.pkg pn sc) via p = readable h (.pkg pn sc) true p := by
  cases p with
  | nil => simp [readable_nil]
  | cons nm rest => simp [readable_pkg_cons]

theorem readable_hash_cons (h : Heap) (id : Nat) (via : Bool) (nm : Name) (rest : List Name) :
    readable h (.hash id) via (nm :: rest) =
      match assocGet nm (h.hashObj id) with
      | none => none
      | some v =>
        if hopVisible { inPkg := false, via := via, name := nm, target := v } then readable h v via rest else none := by
  simp only [readable, resolve]
  cases assocGet nm (h.hashObj id) with
  | none => rfl
  | some v =>
    simp only []
    cases resolve h v via rest with
    | none => simp
    | some r =>
      obtain ⟨hs, r1, r2⟩ := r
      simp only [List.all_cons]
      by_cases hv : hopVisible { inPkg := false, via := via, name := nm, target := v } = true <;> simp [hv]

theorem readable_other_cons (h : Heap) (c : Val) (via : Bool) (nm : Name) (rest : List Name)
    (h1 : ∀ pn sc, c ≠ .pkg pn sc) (h2 : ∀ id, c ≠ .hash id) :
    readable h c via (nm :: rest) = none := by
  cases c <;> simp_all [readable, resolve]

theorem assignable_last (h : Heap) (c : Val) (via : Bool) (last : Name) :
    assignable h c via [last] =
      match c with
      | .pkg _ sc => (lookupStack h last sc).isSome && capitalised last
      | .hash _ => !via || capitalised last
      | _ => false := by
  cases c <;> simp [assignable, resolve]

theorem assignable_pkg_cons (h : Heap) (pn : Name) (sc : List Nat) (via : Bool) (nm nxt : Name) (more : List Name) :
    assignable h (.pkg pn sc) via (nm :: nxt :: more) =
      match lookupStack h nm sc with
      | none => false
      | some (v, _) =>
        if hopVisible { inPkg := true, via := true, name := nm, target := v } then assignable h v true (nxt :: more)
        else false := by
  simp only [assignable, List.getLast?_cons_cons, List.dropLast_cons_cons, resolve]
  cases (nxt :: more).getLast? with
  | none => cases lookupStack h nm sc <;> simp
  | some last =>
    cases lookupStack h nm sc with
    | none => rfl
    | some p =>
      obtain ⟨v, sid⟩ := p
      simp only []
      cases resolve h v true (nxt :: more).dropLast with
      | none => simp
      | some r =>
        obtain ⟨hs, r1, r2⟩ := r
        simp only [List.all_cons, Bool.and_assoc]
        cases hopVisible { inPkg := true, via := true, name := nm, target := v } <;> rfl

theorem assignable_hash_cons (h : Heap) (id : Nat) (via : Bool) (nm nxt : Name) (more : List Name) :
    assignable h (.hash id) via (nm :: nxt :: more) =
      match assocGet nm (h.hashObj id) with
      | none => false
      | some v =>
        if hopVisible { inPkg := false, via := via, name := nm, target := v } then assignable h v via (nxt :: more)
        else false := by
  simp only [assignable, List.getLast?_cons_cons, List.dropLast_cons_cons, resolve]
  cases (nxt :: more).getLast? with
  | none => cases assocGet nm (h.hashObj id) <;> simp
  | some last =>
    cases assocGet nm (h.hashObj id) with
    | none => rfl
    | some v =>
      simp only []
      cases resolve h v via (nxt :: more).dropLast with
      | none => simp
      | some r =>
        obtain ⟨hs, r1, r2⟩ := r
        simp only [List.all_cons, Bool.and_assoc]
        cases hopVisible { inPkg := false, via := via, name := nm, target := v } <;> rfl

theorem assignable_nil (h : Heap) (c : Val) (via : Bool) : assignable h c via [] = false := by
  simp [assignable]

theorem assignable_pkg_via (h : Heap) (pn : Name) (sc : List Nat) (via : Bool) (p : List Name) :
    assignable h (.pkg pn sc) via p = assignable h (.pkg pn sc) true p := by
  match p with
  | [] => simp [assignable_nil]
  | [last] => simp [assignable_last]
  | nm :: nxt :: more => simp [assignable_pkg_cons]

theorem assignable_pkg_notfound (h : Heap) (pn : Name) (sc : List Nat) (via : Bool) (nm : Name) (rest : List Name)
    (hl : lookupStack h nm sc = none) : assignable h (.pkg pn sc) via (nm :: rest) = false := by
  cases rest with
  | nil => simp [assignable_last, hl]
  | cons nxt more => simp [assignable_pkg_cons, hl]

theorem assignable_hash_private (h : Heap) (id : Nat) (nm : Name) (rest : List Name)
    (hc : capitalised nm = false) : assignable h (.hash id) true (nm :: rest) = false := by
  cases rest with
  | nil => simp [assignable_last, hc]
  | cons nxt more =>
    simp only [assignable_hash_cons]
    cases assocGet nm (h.hashObj id) <;> simp [hopVisible, hc]

theorem assignable_other (h : Heap) (c : Val) (via : Bool) (nm : Name) (rest : List Name)
    (h1 : ∀ pn sc, c ≠ .pkg pn sc) (h2 : ∀ id, c ≠ .hash id) :
    assignable h c via (nm :: rest) = false := by
  cases rest with
  | nil => cases c <;> simp_all [assignable_last]
  | cons nxt more =>
    cases c <;> simp_all [assignable, resolve]
    all_goals (cases (nxt :: more).getLast? <;> rfl)

/-! ### one hop of the walkers, and the same hop in the specification -/

/-- One hop that is not the last, as both walkers take it whether they get or set: the member
`nm` of the container the walker stands in, refused where the walker refuses it, and where the
walker stands next. -/
def hop (h : Heap) : Cur → Name → Except Err Cur
  | .stack _ scopes, nm =>
    match lookupStack h nm scopes with
    | none => .error .notfound
    | some (v, _) =>
      match v with
      | .hash hid =>
        match errIfPrivate nm with
        | .error e => .error e
        | .ok _ => .ok (.hash hid true)
      | .pkg pn sc => .ok (.stack pn sc)
      | _ => .error .notrecord
  | .hash hid via, nm =>
    match (if via then errIfPrivate nm else .ok ()) with
    | .error e => .error e
    | .ok _ =>
      match assocGet nm (h.hashObj hid) with
      | none => .error .notfound
      | some v =>
        match v with
        | .hash hid' => .ok (.hash hid' via)
        | .pkg pn sc => .ok (.stack pn sc)
        | _ => .error .notrecord

theorem walk_hop (h : Heap) (sv : Option Val) (cur : Cur) (nm nxt : Name) (more : List Name) :
    walk h sv cur (nm :: nxt :: more) =
      match hop h cur nm with
      | .error e => .error e
      | .ok cur' => walk h sv cur' (nxt :: more) := by
  cases cur with
  | stack pn scopes =>
    rw [walk, hop]
    cases lookupStack h nm scopes with
    | none => rfl
    | some r =>
      obtain ⟨v, sid⟩ := r
      cases v <;> try rfl
      all_goals (simp only []; cases errIfPrivate nm <;> rfl)
  | hash hid via =>
    rw [walk, hop]
    cases (if via then errIfPrivate nm else .ok ()) with
    | error e => rfl
    | ok _ =>
      simp only []
      cases assocGet nm (h.hashObj hid) with
      | none => rfl
      | some v => cases v <;> rfl

/-- The specification takes the same hop. `X` is `readable h` or `assignable h`: whatever is read off
`resolve` hop by hop, refusing (`bot`) where a hop is missing or not visible, is `bot` where the
walkers stop with an error and otherwise speaks of the rest of the path below the container the
walkers stand in next. -/
theorem hop_spec {α} (h : Heap) (X : Val → Bool → List Name → α) (bot : α)
    (hpkg : ∀ pn sc via nm nxt more, X (.pkg pn sc) via (nm :: nxt :: more) =
      match lookupStack h nm sc with
      | none => bot
      | some (v, _) =>
        if hopVisible { inPkg := true, via := true, name := nm, target := v } then X v true (nxt :: more) else bot)
    (hhash : ∀ id via nm nxt more, X (.hash id) via (nm :: nxt :: more) =
      match assocGet nm (h.hashObj id) with
      | none => bot
      | some v =>
        if hopVisible { inPkg := false, via := via, name := nm, target := v } then X v via (nxt :: more) else bot)
    (hvia : ∀ pn sc via p, X (.pkg pn sc) via p = X (.pkg pn sc) true p)
    (hother : ∀ c via nm rest, (∀ pn sc, c ≠ .pkg pn sc) → (∀ id, c ≠ .hash id) → X c via (nm :: rest) = bot)
    (cur : Cur) (nm nxt : Name) (more : List Name) :
    X (curVal cur) (curVia cur) (nm :: nxt :: more) =
      match hop h cur nm with
      | .error _ => bot
      | .ok cur' => X (curVal cur') (curVia cur') (nxt :: more) := by
  cases cur with
  | stack pn scopes =>
    rw [curVal, hpkg, hop]
    cases lookupStack h nm scopes with
    | none => rfl
    | some r =>
      obtain ⟨v, sid⟩ := r
      cases v with
      | hash hid =>
        cases hp : errIfPrivate nm with
        | error e => simp [hopVisible, isPkg, errIfPrivate_err nm e hp]
        | ok a => simp [hopVisible, curVal, curVia, (errIfPrivate_ok_iff nm a).mp hp]
      | pkg pn' sc => simp [hopVisible, isPkg, curVal, curVia]
      | _ => simp [hother]
  | hash hid via =>
    rw [curVal, curVia, hhash, hop]
    cases hp : (if via then errIfPrivate nm else .ok ()) with
    | error e => cases assocGet nm (h.hashObj hid) <;> simp [hopVisible, viaCheck_err via nm e hp]
    | ok a =>
      have hv : ∀ v, hopVisible { inPkg := false, via := via, name := nm, target := v } = true :=
        fun v => by simp [hopVisible, (viaCheck_ok_iff via nm a).mp hp]
      cases assocGet nm (h.hashObj hid) with
      | none => rfl
      | some v =>
        cases v with
        | hash hid' => simp [hv, curVal, curVia]
        | pkg pn sc => simp [hv, curVal, curVia, hvia pn sc via]
        | _ => simp [hother]

theorem readable_hop (h : Heap) (cur : Cur) (nm nxt : Name) (more : List Name) :
    readable h (curVal cur) (curVia cur) (nm :: nxt :: more) =
      match hop h cur nm with
      | .error _ => none
      | .ok cur' => readable h (curVal cur') (curVia cur') (nxt :: more) :=
  hop_spec h (readable h) none (fun _ _ _ _ _ _ => readable_pkg_cons ..) (fun _ _ _ _ _ => readable_hash_cons ..)
    (readable_pkg_via h) (readable_other_cons h) cur nm nxt more

theorem assignable_hop (h : Heap) (cur : Cur) (nm nxt : Name) (more : List Name) :
    assignable h (curVal cur) (curVia cur) (nm :: nxt :: more) =
      match hop h cur nm with
      | .error _ => false
      | .ok cur' => assignable h (curVal cur') (curVia cur') (nxt :: more) :=
  hop_spec h (assignable h) false (fun _ _ _ _ _ _ => assignable_pkg_cons ..) (fun _ _ _ _ _ => assignable_hash_cons ..)
    (assignable_pkg_via h) (assignable_other h) cur nm nxt more

theorem walk_get_last (h : Heap) (cur : Cur) (nm : Name) (v : Val) (h' : Heap) :
    walk h none cur [nm] = .ok (v, h') ↔
      (h' = h ∧ readable h (curVal cur) (curVia cur) [nm] = some v) := by
  cases cur with
  | stack pn scopes =>
    rw [curVal, readable_pkg_cons, walk]
    cases lookupStack h nm scopes with
    | none => simp
    | some r =>
      obtain ⟨w, sid⟩ := r
      cases w with
      | pkg pn' sc => simp [hopVisible, isPkg, readable_nil, eq_comm, and_comm]
      | _ =>
        cases hp : errIfPrivate nm with
        | error e => simp [hopVisible, isPkg, errIfPrivate_err nm e hp]
        | ok a => simp [hopVisible, readable_nil, (errIfPrivate_ok_iff nm a).mp hp, eq_comm, and_comm]
  | hash hid via =>
    rw [curVal, curVia, readable_hash_cons, walk]
    cases hp : (if via then errIfPrivate nm else .ok ()) with
    | error e => cases assocGet nm (h.hashObj hid) <;> simp [hopVisible, viaCheck_err via nm e hp]
    | ok a =>
      have hv : ∀ v, hopVisible { inPkg := false, via := via, name := nm, target := v } = true :=
        fun v => by simp [hopVisible, (viaCheck_ok_iff via nm a).mp hp]
      cases assocGet nm (h.hashObj hid) with
      | none => simp
      | some w => simp [hv, readable_nil, eq_comm, and_comm]

theorem walk_get_iff (h : Heap) (cur : Cur) (path : List Name) (v : Val) (h' : Heap) (hne : path ≠ []) :
      walk h none cur path = .ok (v, h') ↔
        (h' = h ∧ readable h (curVal cur) (curVia cur) path = some v) := by
  induction path generalizing cur with
  | nil => exact absurd rfl hne
  | cons nm rest ih =>
    cases rest with
    | nil => exact walk_get_last h cur nm v h'
    | cons nxt more =>
      rw [walk_hop, readable_hop]
      cases hop h cur nm with
      | error e => simp
      | ok cur' => exact ih cur' (List.cons_ne_nil _ _)

theorem walk_set_last (h : Heap) (x : Val) (cur : Cur) (nm : Name) :
    (assignable h (curVal cur) (curVia cur) [nm] = true ∧ ∃ h', walk h (some x) cur [nm] = .ok (x, h')) ∨
    (assignable h (curVal cur) (curVia cur) [nm] = false ∧ ∃ e, walk h (some x) cur [nm] = .error e) := by
  cases cur with
  | stack pn scopes =>
    rw [walk]
    simp only [curVal, assignable_last]
    cases lookupStack h nm scopes with
    | none => exact Or.inr ⟨rfl, _, rfl⟩
    | some r =>
      cases hp : errIfPrivate nm with
      | error e => exact Or.inr ⟨by simp [errIfPrivate_err nm e hp], e, rfl⟩
      | ok a => exact Or.inl ⟨by simp [(errIfPrivate_ok_iff nm a).mp hp], _, rfl⟩
  | hash hid via =>
    rw [walk]
    simp only [curVal, curVia, assignable_last]
    cases hp : (if via then errIfPrivate nm else .ok ()) with
    | error e => exact Or.inr ⟨viaCheck_err via nm e hp, e, rfl⟩
    | ok a => exact Or.inl ⟨(viaCheck_ok_iff via nm a).mp hp, _, rfl⟩

/-- An assignment through a non-empty path: permitted and carried out with the value given, or not
permitted and refused. -/
theorem walk_set (h : Heap) (x : Val) (cur : Cur) (path : List Name) (hne : path ≠ []) :
    (assignable h (curVal cur) (curVia cur) path = true ∧ ∃ h', walk h (some x) cur path = .ok (x, h')) ∨
    (assignable h (curVal cur) (curVia cur) path = false ∧ ∃ e, walk h (some x) cur path = .error e) := by
  induction path generalizing cur with
  | nil => exact absurd rfl hne
  | cons nm rest ih =>
    cases rest with
    | nil => exact walk_set_last h x cur nm
    | cons nxt more =>
      rw [walk_hop, assignable_hop]
      cases hop h cur nm with
      | error e => exact Or.inr ⟨rfl, e, rfl⟩
      | ok cur' => exact ih cur' (List.cons_ne_nil _ _)

theorem walk_set_iff (h : Heap) (x : Val) (cur : Cur) (path : List Name) (hne : path ≠ []) :
      (∃ y h', walk h (some x) cur path = .ok (y, h')) ↔
        assignable h (curVal cur) (curVia cur) path = true := by
  rcases walk_set h x cur path hne with ⟨ha, h', hw⟩ | ⟨ha, e, hw⟩
  · exact ⟨fun _ => ha, fun _ => ⟨x, h', hw⟩⟩
  · simp [ha, hw]

theorem walk_set_value (h : Heap) (x : Val) (cur : Cur) (path : List Name) (y : Val) (h' : Heap) :
      walk h (some x) cur path = .ok (y, h') → y = x := by
  intro hw
  cases path with
  | nil => cases cur <;> cases hw
  | cons nm rest =>
    rcases walk_set h x cur (nm :: rest) (List.cons_ne_nil _ _) with ⟨_, h'', hw'⟩ | ⟨_, e, hw'⟩
    · rw [hw'] at hw; cases hw; rfl
    · rw [hw'] at hw; cases hw
end ZygoVerif.Pkg
