/-
C02, execution half — F2c: self tail calls.

A call of the function being compiled, in tail position, is compiled as `tailGuard` (is the name still
the running function object?), the operands inline, `prepareCall`, `removeScope`s down to below the
function scope, `goto 0` — and behind the jump the ordinary call the guard skips to. Guard passes:
the re-entered activation is the ordinary application of the same closure (`FClaimU`), and the whole
activation returns its value (`RetOut`: the code of the call does not land at its own end). Guard
fails: the ordinary call. `RetOut` is the one exit of the system `tSys`, whose statement is `SimT`; the fragment
`tFg` (tail positions `Fz`, statements before them `Fs`) carries the activation the code runs in (`TInv`).
`SimT.scoped` states a step of `tSys` in this vocabulary; the claims use `Sys.scoped` itself.
-/
import ZygoVerif.Proofs.SimF2Brk
import ZygoVerif.Proofs.TailVM
namespace ZygoVerif.Sim
open ZygoVerif.Core ZygoVerif.VM

theorem gsOk_nil {gs : GS} (h : gs.loopstack = []) : GsOk [] gs := ⟨by simp [h], fun _ h => by cases h⟩

theorem compile_total_Fz : ∀ (ex : Bool) (self : String) (e : Expr), Fz ex self e = true → ∀ isFn c gs, FnameOk self c →
    (ex = true → gs.loopstack = []) →
    ∃ code t gs', (compile isFn c e).run gs = .ok ((code, t), gs') ∧ code ≠ [] ∧ TotX gs gs' code := by
  intro ex self e he isFn c gs _ _
  obtain ⟨r, h, -⟩ := compile_ok_Cp (isFn := isFn) e (cp_of_fz ex self e he) c (.nil gs)
  exact total_of_run h

theorem total_stmt : ∀ (ex : Bool) (self : String) (e : Expr), Fs ex self e = true → ∀ isFn c gs, FnameOk self c →
    (ex = true → gs.loopstack = []) →
    ∃ code t gs', (compile isFn c e).run gs = .ok ((code, t), gs') ∧ code ≠ [] ∧ TotX gs gs' code := by
  intro ex self e he isFn c gs _ _
  obtain ⟨r, h, -⟩ := compile_ok_Cp (isFn := isFn) e (cp_of_fs ex self e he) c (.nil gs)
  exact total_of_run h

theorem compileBegin_total_Fz : ∀ (ex : Bool) (self : String) (es : List Expr), es ≠ [] → FzList ex self es = true →
    ∀ isFn c gs, FnameOk self c → (ex = true → gs.loopstack = []) →
    ∃ code t gs', (compileBegin isFn c es).run gs = .ok ((code, t), gs') ∧ code ≠ [] ∧ TotX gs gs' code := by
  intro ex self es hne he isFn c gs _ _
  obtain ⟨r, h, -⟩ := compileBegin_ok_Cp (isFn := isFn) es (cpList_of_fz ex self es he) c (.nil gs)
  exact total_of_runs hne h

theorem compileNewScope_total_Fz : ∀ (ex : Bool) (self : String) (es : List Expr), es ≠ [] → FzList ex self es = true →
    ∀ isFn c oldtail gs, FnameOk self c → (ex = true → gs.loopstack = []) →
    ∃ code t gs', (compileNewScope isFn c oldtail es).run gs = .ok ((code, t), gs') ∧ code ≠ [] ∧ TotX gs gs' code := by
  intro ex self es hne he isFn c oldtail gs _ _
  obtain ⟨r, h, -⟩ := compileNewScope_ok_Cp (isFn := isFn) es (cpList_of_fz ex self es he) c oldtail (.nil gs)
  exact ⟨_, _, _, h, (compileNewScope_facts _ _ _ _ _ _ h).1 hne, compileNewScope_tot h⟩

theorem compileArms_total_Fz : ∀ (ex : Bool) (self : String) (arms : List (Expr × Expr)), FzArms ex self arms = true →
    ∀ isFn c gs, FnameOk self c → (ex = true → gs.loopstack = []) →
    ∃ as gs', (compileArms isFn c arms).run gs = .ok (as, gs') ∧ KeepFns gs gs' ∧ gs.loops.length ≤ gs'.loops.length
      ∧ ∀ p ∈ as, LsIn p.1 gs.loops.length gs'.loops.length ∧ LsIn p.2 gs.loops.length gs'.loops.length := by
  intro ex self arms he isFn c gs _ _
  obtain ⟨r, h, -⟩ := compileArms_ok_Cp (isFn := isFn) arms (cpArms_of_fz ex self arms he) c (.nil gs)
  exact ⟨_, _, h, compileArms_tot h⟩

def dropped (s : St) (k : Nat) (lin : List (Option Nat)) : St := { s with pc := s.pc + (k : Int), linear := lin }

/-- the cursor of the simulation, read as a position in compiled code -/
theorem Cur.tailAt {σ : St} {full tl : List Instr} {k : Nat} (h : Cur σ full k tl) : TailVM.At σ k tl :=
  ⟨h.pc, h.user, full.take k, [], by rw [h.code, List.append_nil, ← h.tl, List.take_append_drop], h.take_length⟩

/-- a state with the return address on top of the address stack is the state `CallFunction` leaves -/
theorem entered_of (s : St) (f : Nat) (pc : Int) (a : List (Option (Nat × Int))) (vid : Nat) (h1 : s.curfunc = vid)
    (h2 : s.pc = 0) (h3 : s.addr = some (f, pc + 1) :: a) :
    entered { s with curfunc := f, pc := pc, addr := a } vid = s := by
  unfold entered
  cases s
  simp only at h1 h2 h3
  subst h1; subst h2; subst h3
  rfl

theorem enteredA_of (s : St) (f : Nat) (pc : Int) (a : List (Option (Nat × Int))) (vid : Nat) (rest : Option String) (nfix : Nat)
    (vs : List Val) (D dd : List (Option Val)) (h1 : s.curfunc = vid)
    (h2 : s.pc = 0) (h3 : s.addr = some (f, pc + 1) :: a) (h4 : s.data = argsData rest nfix vs D) :
    enteredA { s with curfunc := f, pc := pc, addr := a, data := dd } vid rest nfix vs D = s := by
  unfold enteredA entered
  cases s
  simp only at h1 h2 h3 h4
  subst h1; subst h2; subst h3; subst h4
  rfl

theorem arOk_congr {r₁ r₂ : Option String} {n₁ n₂ n : Nat} (h1 : r₁.isSome = r₂.isSome) (h2 : n₁ = n₂) :
    arOk r₁ n₁ n ↔ arOk r₂ n₂ n := by
  subst h2
  cases r₁ <;> cases r₂ <;> simp [arOk] at h1 ⊢

/-- `PrepareCall` on the tail path: the variadic tail of the running function is packed -/
theorem exec_prepareCall_clo (f : Nat) (x : String) (rest : Option String) (nfix : Nat) (vs : List Val) (D : List (Option Val))
    (s : St) (hd : s.data = vs.reverse.map some ++ D) (hu : (fnOf s s.curfunc).user = false)
    (hv : (fnOf s s.curfunc).varargs = rest.isSome) (hn : (fnOf s s.curfunc).nargs = nfix) (har : arOk rest nfix vs.length) :
    (exec (f + 1) (.prepareCall x vs.length)).run s = (.ok (), s.jmp (s.pc + 1) (argsData rest nfix vs D)) := by
  cases rest with
  | none =>
    rw [TailVM.exec_prepareCall_fixed f s x _ hv]
    unfold argsData bvals
    rw [← hd]; rfl
  | some r =>
    have hv' : (fnOf s s.curfunc).varargs = true := hv
    rw [exec_simple_eq f _ s rfl, step, hu, hv', if_pos (by decide), hn, hd, wrangleRes_vals nfix vs D har]
    unfold argsData bvals
    simp

/-- what `FClaimU` says of a whole call of the activation entered from `s₁`, seen from a state inside it -/
def RetOut (s₁ : St) (env : Nat) (D : List (Option Val)) (f₀ : Nat) (m : Nat → Nat) (s : St) (rs : Ref.St) (v' : Val) (rs' : Ref.St) :
    Prop :=
  ∃ (s' : St) (m' : Nat → Nat) (v : Val), ReachX s s' ∧ s'.pc = s₁.pc + 1 ∧ s'.data = some v :: D ∧ v' = trf m' v
    ∧ RelF m' (s'.withCur f₀) rs' env ∧ MExt s m m' ∧ RExt rs rs' ∧ FrameF s₁ s' ∧ VOk m' s' rs' v

theorem RetOut.of_reach {s₁ : St} {env : Nat} {D : List (Option Val)} {f₀ : Nat} {m m₂ : Nat → Nat} {s s₂ : St} {rs rs₂ rs' : Ref.St}
    {v' : Val} (hr : ReachX s s₂) (hm : MExt s m m₂) (hfl : s.fns.length ≤ s₂.fns.length) (hext : RExt rs rs₂)
    (h : RetOut s₁ env D f₀ m₂ s₂ rs₂ v' rs') : RetOut s₁ env D f₀ m s rs v' rs' := by
  obtain ⟨s', m', v, r, hpc, hd, hv, rel, hm', ext, fr, hcl⟩ := h
  exact ⟨s', m', v, hr.trans r, hpc, hd, hv, rel, hm.trans hm' hfl, hext.trans ext, fr, hcl⟩

/-- as `SimF`; a value may also be delivered by the return of the whole activation -/
def SimT (code : List Instr) (s₁ : St) (env : Nat) (D : List (Option Val)) (f₀ : Nat) (m : Nat → Nat) (s : St) (rs : Ref.St)
    (cenv : Nat) (res : Ref.R Val) : Prop :=
  match res with
  | .ok v' rs' => (∃ s' m' v, ReachX s s' ∧ Lands code.length v s s' ∧ v' = trf m' v ∧ RelF m' s' rs' cenv
      ∧ MExt s m m' ∧ RExt rs rs' ∧ FrameF s s' ∧ VOk m' s' rs' v) ∨ RetOut s₁ env D f₀ m s rs v' rs'
  | .err rs' => FailsX s rs'.trace
  | .timeout => True
  | .brk _ _ => False
  | .cont _ _ => False

theorem SimF.toT {code : List Instr} {s₁ : St} {env : Nat} {D : List (Option Val)} {f₀ : Nat} {m : Nat → Nat} {s : St} {rs : Ref.St}
    {cenv : Nat} {res : Ref.R Val} (h : SimF code m s rs cenv res) : SimT code s₁ env D f₀ m s rs cenv res := by
  cases res with
  | ok v rs' => exact Or.inl h
  | err rs' => exact h
  | timeout => trivial
  | brk l rs' => exact h
  | cont l rs' => exact h

/-- the state `s` is inside the activation of closure object `vid` entered from `s₁` (arguments popped,
`D` below them): what is needed to re-enter the function from a tail position, `sc` block scopes open -/
structure InAct (m₁ : Nat → Nat) (s₁ : St) (rs₁ : Ref.St) (env vid : Nat) (D : List (Option Val)) (f₀ : Nat) (sc : Nat)
    (m : Nat → Nat) (s : St) (rs : Ref.St) : Prop where
  rel₁ : RelF m₁ (s₁.withCur f₀) rs₁ env
  good : GoodFn m₁ s₁ rs₁ vid
  cur : s.curfunc = vid
  addr : s.addr = some (s₁.curfunc, s₁.pc + 1) :: s₁.addr
  susp : s.suspended = s₁.suspended
  data : s.data = D
  lin : ∃ extra, s.linear = extra ++ some s₁.scopes.length :: s₁.linear ∧ extra.length = sc
  fnsLen : s₁.fns.length ≤ s.fns.length
  fns : ∀ id, id < s₁.fns.length → fnOf s id = fnOf s₁ id
  loopsLen : s₁.loops.length ≤ s.loops.length
  loops : ∀ id, id < s₁.loops.length → s.loops.getD id {} = s₁.loops.getD id {}
  scLen : s₁.scopes.length ≤ s.scopes.length
  flags : ∀ i, i < s₁.scopes.length → isFnScope s i = isFnScope s₁ i
  mext : MExt s₁ m₁ m
  rext : RExt rs₁ rs

theorem InAct.after {m₁ : Nat → Nat} {s₁ : St} {rs₁ : Ref.St} {env vid : Nat} {D : List (Option Val)} {f₀ : Nat} {sc : Nat}
    {m m' : Nat → Nat} {s s' : St} {rs rs' : Ref.St} (h : InAct m₁ s₁ rs₁ env vid D f₀ sc m s rs) (fr : FrameF s s')
    (hd : s'.data = s.data) (hm : MExt s m m') (ext : RExt rs rs') : InAct m₁ s₁ rs₁ env vid D f₀ sc m' s' rs' :=
  ⟨h.rel₁, h.good, by rw [fr.curfunc]; exact h.cur, by rw [fr.addr]; exact h.addr, by rw [fr.susp]; exact h.susp,
    by rw [hd]; exact h.data, by rw [fr.linear]; exact h.lin, Nat.le_trans h.fnsLen fr.fnsLen,
    fun id hid => (fr.fns id (Nat.lt_of_lt_of_le hid h.fnsLen)).trans (h.fns id hid),
    Nat.le_trans h.loopsLen fr.loopsLen,
    fun id hid => (fr.loops id (Nat.lt_of_lt_of_le hid h.loopsLen)).trans (h.loops id hid),
    Nat.le_trans h.scLen fr.scLen,
    fun i hi => (fr.flags i (Nat.lt_of_lt_of_le hi h.scLen)).trans (h.flags i hi),
    h.mext.trans hm h.fnsLen, h.rext.trans ext⟩

theorem InAct.pushScope {m₁ : Nat → Nat} {s₁ : St} {rs₁ : Ref.St} {env vid : Nat} {D : List (Option Val)} {f₀ : Nat} {sc : Nat}
    {m : Nat → Nat} {s : St} {rs : Ref.St} (h : InAct m₁ s₁ rs₁ env vid D f₀ sc m s rs) (cenv : Nat) :
    InAct m₁ s₁ rs₁ env vid D f₀ (sc + 1) m s.pushScope (Ref.newFrame rs cenv).2 := by
  obtain ⟨extra, hl, hlen⟩ := h.lin
  exact ⟨h.rel₁, h.good, h.cur, h.addr, h.susp, h.data,
    ⟨some s.scopes.length :: extra, by show some s.scopes.length :: s.linear = _; rw [hl]; rfl, by simp [hlen]⟩,
    h.fnsLen, h.fns, h.loopsLen, h.loops,
    Nat.le_trans h.scLen (by show s.scopes.length ≤ (s.scopes ++ [_]).length; simp),
    fun i hi => by rw [isFnScope_pushScope, if_pos (Nat.lt_of_lt_of_le hi h.scLen)]; exact h.flags i hi,
    h.mext, h.rext.trans ⟨FramesExt.newFrame rs cenv, fun _ _ hc => hc⟩⟩

theorem KnownOk.keep {c c' : Ctx} {gs gs' : GS} {ps : List String} {rest : Option String} (h : KnownOk c gs ps rest)
    (hk : KeepFns gs gs') (hf : c'.funcname = c.funcname) (hkn : c'.known = c.known) : KnownOk c' gs' ps rest := by
  intro hne
  rw [hf] at hne ⊢
  rcases h hne with h1 | ⟨t, h1, h2, h3, h4, h5⟩
  · exact Or.inl h1
  · refine Or.inr ⟨t, by rw [hkn]; exact h1, Nat.lt_of_lt_of_le h2 hk.len, ?_, ?_, ?_⟩ <;> rw [hk.fns t h2] <;> assumption

/-- the exit of code in tail position of the activation entered from `s₁`: the return of the whole activation -/
def ExT (s₁ : St) (env : Nat) (D : List (Option Val)) (f₀ : Nat) (m : Nat → Nat) (s : St) (rs : Ref.St) : Ref.R Val → Prop
  | .ok v' rs' => RetOut s₁ env D f₀ m s rs v' rs'
  | _ => False

/-- F2 in tail position of an activation -/
@[reducible] def tSys (s₁ : St) (env : Nat) (D : List (Option Val)) (f₀ : Nat) : Sys :=
  { fSys with
    Ex := ExT s₁ env D f₀
    Sm := fun code => SimT code s₁ env D f₀
    sm_ok := ⟨fun h => h.imp (fun ⟨s', m', v, a, b, c, d, e, f, g, h⟩ => ⟨s', m', v, a, b, c, d, ⟨e, f, g⟩, h⟩) id,
      fun h => h.imp (fun ⟨s', m', v, a, b, c, d, ⟨e, f, g⟩, h⟩ => ⟨s', m', v, a, b, c, d, e, f, g, h⟩) id⟩
    sm_err := Iff.rfl
    sm_timeout := trivial
    sm_brk := Iff.rfl
    sm_cont := Iff.rfl
    ex_moved := fun {_ _ _ _ _ _ _ _ res} hr _ hx h => by
      cases res with
      | ok v' rs' => exact RetOut.of_reach hr hx.1 hx.2.2.fnsLen hx.2.1 h
      | _ => exact h
    ex_push := fun {m s rs env' res} hr h => by
      cases res with
      | ok v' rs' => exact RetOut.of_reach hr.toX (MExt.refl _ _) (Nat.le_refl _) ⟨FramesExt.newFrame rs env', fun _ _ hc => hc⟩ h
      | _ => exact h }

theorem tBinds (s₁ : St) (env : Nat) (D : List (Option Val)) (f₀ : Nat) : (tSys s₁ env D f₀).Binds :=
  { fBinds with }

theorem SimT.scoped {inner pre post : List Instr} {s₁ : St} {env : Nat} {D : List (Option Val)} {f₀ : Nat} {m : Nat → Nat} {s : St}
    {rs : Ref.St} {cenv : Nat} {res : Ref.R Val} (h : Seg s pre ([.addScope] ++ inner ++ [.removeScope]) post)
    (hrel : RelF m s rs cenv)
    (hin : SimT inner s₁ env D f₀ m s.pushScope (Ref.newFrame rs cenv).2 rs.frames.length res) :
    SimT ([.addScope] ++ inner ++ [.removeScope]) s₁ env D f₀ m s rs cenv res :=
  (tSys s₁ env D f₀).scoped (tBinds s₁ env D f₀) h hrel hin

/-- the invariant of code in tail position of the body of a function: the machine is inside the activation (`InAct`) of
a closure object whose formals the generator knows (`KnownOk`) -/
structure TInv (ex : Bool) (ps : List String) (rest : Option String) (m₁ : Nat → Nat) (s₁ : St) (rs₁ : Ref.St) (env vid : Nat)
    (D : List (Option Val)) (f₀ : Nat) (c : Ctx) (gs gs' : GS) (pre : List Instr) (m : Nat → Nat) (s : St) (rs : Ref.St) : Prop where
  hex : ex = true → gs.loopstack = []
  kn : KnownOk c gs ps rest
  hps : ∀ p ∈ ps ++ rest.toList, okParam p = true
  act : InAct m₁ s₁ rs₁ env vid D f₀ c.scopes m s rs
  na : (fnOf s₁ vid).nargs = ps.length
  va : (fnOf s₁ vid).varargs = rest.isSome ∧ (fnOf s₁ vid).params = ps ++ rest.toList
  gen : GenOk gs gs' s
  lo : LsOut pre gs.loops.length gs'.loops.length

/-- the forms in tail position of a function body (`Fz`); a statement before the last one is in `Fs`, the test of a
`cond` arm plain F2 -/
@[reducible] def tFg (ex : Bool) (self : String) (ps : List String) (rest : Option String) (m₁ : Nat → Nat) (s₁ : St) (rs₁ : Ref.St)
    (env vid : Nat) (D : List (Option Val)) (f₀ : Nat) : Fg (tSys s₁ env D f₀) where
  F := Fz ex self
  FStmt := Fs ex self
  FPred := Ff true self
  FList := FzList ex self
  FArms := FzArms ex self
  FBinds := FfBinds true self
  Cok := FnameOk self
  Inv := TInv ex ps rest m₁ s₁ rs₁ env vid D f₀
  cok h _ _ := h
  inv_tail h _ := ⟨h.hex, h.kn.keep (KeepFns.refl _) rfl rfl, h.hps, h.act, h.na, h.va, h.gen, h.lo⟩
  inv_range h k₁ _ k₃ := ⟨fun e => by rw [k₁.loopstack]; exact h.hex e, h.kn.keep k₁ rfl rfl, h.hps, h.act, h.na, h.va,
    (h.gen.rest k₁).first k₃, h.lo.mono k₁.loopsLen k₃.loopsLen⟩
  inv_pre h hm := ⟨h.hex, h.kn, h.hps, h.act, h.na, h.va, h.gen, h.lo.app hm⟩
  inv_adv h mv x := ⟨h.hex, h.kn, h.hps, h.act.after x.2.2 mv.data x.1 x.2.1, h.na, h.va, h.gen.frame x.2.2.toFrame, h.lo⟩
  inv_push h env' _ := ⟨h.hex, h.kn.keep (KeepFns.refl _) rfl rfl, h.hps, h.act.pushScope env', h.na, h.va,
    h.gen.mono (FnsKeep.of_fns_eq rfl), h.lo.app (lsOut_one .addScope _ _)⟩
  flist_one h := by rw [FzList] at h; exact h
  flist_cons h := by rw [FzList] at h; simpa using h
  farms_cons h := by rw [FzArms] at h; simpa [and_assoc] using h
  f_begin h := by rw [Fz] at h; exact h
  f_cond h := by rw [Fz] at h; simpa using h
  f_newScope h := by rw [Fz] at h; simpa using h
  f_let h := by rw [Fz] at h; simpa [and_assoc] using h

/-- the positions the generator delays for this callee -/
def isLazyGen (f : Option FnObj) (j : Nat) : Bool :=
  match f with
  | some fo => fo.isLazyCallArg j
  | none => false

theorem exec_pushLazy (f : Nat) (e : Expr) (s : St) :
    (exec (f + 1) (.pushLazy e)).run s = (.ok (), (C16.allocThunk e s).jmp (s.pc + 1) (C16.allocThunk e s).data) := by
  rw [exec]; rfl

/-- operands compiled inline: a delayed one is one instruction that makes the lazy argument object -/
def TClaimV (n : Nat) : Prop :=
  ∀ self args, FfList false self args = true → FaList args = true →
    ∀ isFn c f i gs r, (compileCallArgs isFn c f i args).run gs = .ok r →
    FnameOk self c → ∀ lazyAt : Nat → Bool, (∀ j, isLazyGen f j = lazyAt j) →
    ∀ m s rs env pre post, RelF m s rs env → Seg s pre r.1 post →
      SimFL r.1 m s rs env (Ref.evalArgs n args i lazyAt env rs)

theorem tclaimV_succ {n : Nat} (hE : FClaimE n) (hV : TClaimV n) : TClaimV (n + 1) := by
  intro self args hargs hfa isFn c f i gs r hc hfn lazyAt hlz m s rs env pre post hrel hseg
  match args with
  | [] =>
    rw [compileCallArgs.eq_def] at hc; simp only [g_pure_ok] at hc; subst hc
    rw [Ref.evalArgs]
    · exact ⟨s, m, [], ReachX.refl s, rfl, by simp, by simp, rfl, hrel, MExt.refl s m, RExt.refl rs, FrameF.refl s,
        fun v hv => by cases hv⟩
    · omega
  | e :: es' =>
    rw [FfList] at hargs
    rw [FaList] at hfa
    simp only [Bool.and_eq_true] at hargs hfa
    rw [Ref.evalArgs]
    by_cases hl : lazyAt i = true
    ·
      simp only [hl, if_true]
      obtain ⟨fo, rfl, hfo⟩ : ∃ fo, f = some fo ∧ fo.isLazyCallArg i = true := by
        have := hlz i; rw [hl] at this
        cases f with
        | none => cases this
        | some fo => exact ⟨fo, rfl, this⟩
      rw [compileCallArgs_cons_lazy hfo] at hc
      obtain ⟨rb, hb, hcode⟩ := hc
      rw [hcode] at hseg ⊢
      have hid : s.lazies.length = rs.thunks.length := hrel.lz.1
      have a0 : At s pre (.pushLazy e) (rb ++ post) := (hseg.refocus (c' := [.pushLazy e]) (post' := rb ++ post) (by simp)).head
      have r1 : ReachX s ((C16.allocThunk e s).jmp (s.pc + 1) (C16.allocThunk e s).data) :=
        (Reach.step a0 (fun f => exec_pushLazy f e s)).toX
      have l1 : Lands [Instr.pushLazy e].length (.lazy s.lazies.length) s ((C16.allocThunk e s).jmp (s.pc + 1) (C16.allocThunk e s).data) :=
        ⟨rfl, by simp, rfl⟩
      have hrelA := (hrel.allocLazy e hfa.1).jmp (s.pc + 1) (C16.allocThunk e s).data
      have hfrA : FrameF s ((C16.allocThunk e s).jmp (s.pc + 1) (C16.allocThunk e s).data) :=
        ⟨⟨rfl, rfl, rfl, rfl, Nat.le_refl _, fun _ _ => rfl, Nat.le_refl _, fun _ _ => rfl⟩, Nat.le_refl _, fun _ _ => rfl⟩
      have hextA : RExt rs (allocThunkR rs e env) := RExt.refl _
      have ih2 := hV self es' hargs.2 hfa.2 isFn _ (some fo) (i + 1) gs (rb, r.2) hb hfn lazyAt hlz m _ (allocThunkR rs e env) env
        (pre ++ [.pushLazy e]) post hrelA (hseg.move l1.fn (by simp) (by rw [l1.pc, hseg.pc]; simp))
      rw [← hid]
      exact SimFL.cons (w1 := .lazy s.lazies.length) rfl r1 l1 (MExt.refl _ _) hextA hfrA (valIn_of_const (fun _ _ _ => rfl)) ih2
    have hl' : lazyAt i = false := by simpa using hl
    simp only [hl', Bool.false_eq_true, if_false]
    rw [compileCallArgs_cons_run (fun fo hfo => by have := hlz i; rw [hl', hfo] at this; exact this)] at hc
    obtain ⟨ra, g1, rb, ha, hb, hcode⟩ := hc
    rw [hcode] at hseg ⊢
    have ih := hE false self e hargs.1 isFn _ gs (ra, g1) ha hfn m s rs env pre (rb ++ post) hrel
      (fun h => by cases h) (hseg.refocus (by simp))
    cases h1 : Ref.eval n e env rs with
    | ok v1 rs1 =>
      rw [h1] at ih
      obtain ⟨s1, m1, w1, r1, l1, hv1, rel1, hm1, ext1, fr1, hcl1⟩ := ih
      simp only
      have ih2 := hV self es' hargs.2 hfa.2 isFn _ f (i + 1) g1 (rb, r.2) hb hfn lazyAt hlz m1 s1 rs1 env (pre ++ ra.1) post rel1
        (hseg.move l1.fn (by simp) (by rw [l1.pc, hseg.pc]; simp))
      rw [hv1]
      exact SimFL.cons rfl r1 l1 hm1 ext1 fr1 hcl1 ih2
    | err rs1 => rw [h1] at ih; exact ih
    | timeout => trivial
    | brk l rs1 => rw [h1] at ih; exact ih.elim
    | cont l rs1 => rw [h1] at ih; exact ih.elim

theorem okSym_of_okHead {h : String} (hh : okHead h = true) : okSym h = true := by
  unfold okHead at hh; simp only [Bool.and_eq_true] at hh; exact hh.1

theorem not_anon_of_okHead {h : String} (hh : okHead h = true) (t : Nat) : h ≠ s!"__anon{t}" := by
  unfold okHead at hh; simp only [Bool.and_eq_true, Bool.not_eq_true'] at hh
  simpa using ne_anon t h hh.2

theorem isLazyCallArg_congr {f g : FnObj} (hp : f.params = g.params) (hn : f.nargs = g.nargs) (hv : f.varargs = g.varargs)
    (j : Nat) : f.isLazyCallArg j = g.isLazyCallArg j := by
  unfold FnObj.isLazyCallArg; rw [hp, hn, hv]

/-- A call in tail position of the running function's body. Compiled as an ordinary call: as
`simF_call`. Compiled as a self tail call: if the guard passes, the operands are evaluated inline,
the scopes of the activation dropped, the function re-entered at instruction 0 — the rest of the
activation is the application of the same closure (`FClaimU`), whose return is the return of this
activation; if the guard fails, the ordinary call behind the jump runs. -/
theorem simT_selfcall {k : Nat} (hV : TClaimV (k + 1)) (hA : FClaimA (k + 1)) (hU : FClaimU (k + 1)) (hG : ∀ name, hoB name → FClaimH k name)
    {self h : String} {args : List Expr} (hh : (h != "") = true) (hhead : okHead h = true) (hfa : FaList args = true)
    (hself : (h != self) = true ∨ FfList false self args = true)
    (isFn : Nat → Bool) (c : Ctx) (gs : GS) (r : (List Instr × Bool) × GS)
    (hc : (compile isFn c (.call (.sym h) args)).run gs = .ok r) (hfn : FnameOk self c)
    {ps : List String} {rest : Option String} (hkn : KnownOk c gs ps rest) (hps : ∀ p ∈ ps ++ rest.toList, okParam p = true)
    {m₁ : Nat → Nat} {s₁ : St} {rs₁ : Ref.St} {env vid : Nat} {D : List (Option Val)} {f₀ : Nat} {m : Nat → Nat} {s : St} {rs : Ref.St}
    {cenv : Nat} {pre post : List Instr}
    (hact : InAct m₁ s₁ rs₁ env vid D f₀ c.scopes m s rs) (hnargs : (fnOf s₁ vid).nargs = ps.length)
    (hva : (fnOf s₁ vid).varargs = rest.isSome) (hpa : (fnOf s₁ vid).params = ps ++ rest.toList)
    (hrel : RelF m s rs cenv) (hseg : Seg s pre r.1.1 post) :
    SimT r.1.1 s₁ env D f₀ m s rs cenv (Ref.eval (k + 2) (.call (.sym h) args) cenv rs) := by
  have hok : okSym h = true := okSym_of_okHead hhead
  rw [compile_call_eq] at hc
  by_cases hcond' : ¬ ((c.tail && h == c.funcname) = true ∧ arityOk (knownFn c gs h) args.length = true)
  · rw [if_neg hcond'] at hc
    injection hc with hc; subst hc
    exact (simF_call hA hU hG hok hfa hrel hseg).toT
  have hcond := Classical.not_not.mp hcond'
  rw [if_pos hcond] at hc
  have hhc : h = c.funcname := by have := hcond.1; simp only [Bool.and_eq_true, beq_iff_eq] at this; exact this.2
  have hne0 : c.funcname ≠ "" := by rw [← hhc]; simpa using hh
  have hcs : c.funcname = self := by
    rcases hfn with h1 | h1 | ⟨t, h1⟩
    · exact h1
    · exact absurd h1 hne0
    · exact absurd (hhc.trans h1) (not_anon_of_okHead hhead t)
  have hargs : FfList false self args = true := by
    rcases hself with hne | ha
    · rw [hhc, hcs] at hne; simp at hne
    · exact ha
  rcases hkn hne0 with ⟨t', hanon⟩ | ⟨t, hlook, htlt, hvar, hna, hpar⟩
  · exact absurd (hhc.trans hanon) (not_anon_of_okHead hhead t')
  have hkf : knownFn c gs h = some (gs.fns.getD t {}) := by
    unfold knownFn; rw [hhc, hlook]
    simp [List.getD_eq_getElem?_getD, List.getElem?_eq_getElem htlt]
  have harity : arOk rest ps.length args.length := by
    have := hcond.2
    rw [hkf] at this
    cases rest with
    | none =>
      simp only [arityOk, hvar, Option.isSome_none, Bool.false_eq_true, if_false, beq_iff_eq] at this
      show args.length = ps.length
      rw [this, hna]
    | some r =>
      simp only [arityOk, hvar, Option.isSome_some, if_true, decide_eq_true_eq] at this
      show ps.length ≤ args.length
      rw [← hna]; exact this
  rw [hkf] at hc
  have hfn' : FnameOk self { c with tail := false } := hfn
  cases hcc : (compileCallArgs isFn { c with tail := false } (some (gs.fns.getD t {})) 0 args).run gs with
  | error e => rw [hcc] at hc; cases hc
  | ok v =>
  obtain ⟨code, g1⟩ := v
  rw [hcc] at hc
  simp only at hc
  injection hc with hc; subst hc
  simp only at hseg ⊢
  have hmain1 : mainFn < s₁.fns.length := Nat.lt_trans hact.good.nm hact.good.lt
  have hgs : GoodFn m s rs vid :=
    hact.good.mono (FnsKeep.of_eq hact.fnsLen hact.fns hmain1 ⟨hact.loopsLen, hact.loops⟩) hact.scLen hact.flags hact.rext
      (hact.mext vid hact.good.lt)
  obtain ⟨c0, hc1, hrest, hnd, hokp, hbody, hparams, hnargs0, hvar0, huser0, _⟩ := hgs.clo
  have hfo_s : fnOf s vid = fnOf s₁ vid := hact.fns vid hact.good.lt
  have hn0 : c0.ps.length = ps.length := by rw [← hnargs0, hfo_s, hnargs]
  have hv0 : c0.rest.isSome = rest.isSome := by rw [← hvar0, hfo_s, hva]
  have hlz : ∀ j, isLazyGen (some (gs.fns.getD t {})) j = lazyAtC c0 j := fun j => by
    show (gs.fns.getD t {}).isLazyCallArg j = _
    rw [← isLazyVM_clo huser0 hparams hnargs0 hvar0 j, isLazyVM_eq huser0 j]
    exact isLazyCallArg_congr (by rw [hpar, hfo_s, hpa]) (by rw [hna, hfo_s, hnargs]) (by rw [hvar, hfo_s, hva]) j
  have hlen : (tailCode h c.scopes args code).length = code.length + c.scopes + 5 := by
    simp [tailCode]; omega
  have h0 : Cur s (pre ++ tailCode h c.scopes args code ++ post) pre.length (.tailGuard h (code.length + c.scopes + 4) :: (code ++
      (.prepareCall h args.length :: (List.replicate (c.scopes + 1) Instr.removeScope ++ (.goto 0 :: .callExpr (.sym h) args :: post))))) :=
    hseg.cur.goto rfl hseg.pc (by simp) (by rw [List.append_assoc, List.drop_left]; simp [tailCode])
  by_cases hg : ∃ sid, lexLookup s h = some (sid, .fn s.curfunc)
  ·
    obtain ⟨sid, hl⟩ := hg
    have r0 : ReachX s (s.jmp (s.pc + 1) s.data) :=
      (Reach.step h0.at (fun f => by rw [TailVM.exec_tailGuard_self f s h _ sid hl]; rfl)).toX
    -- the reference side: the callee is the closure of the running function
    rw [ref_eval_call_sym]
    have hlook' := hrel.lexLookup h
    rw [hl] at hlook'
    rw [← hlook']
    simp only [Option.map_some, trp2]
    show SimT _ s₁ env D f₀ m s rs cenv (refCall k (.fn (m s.curfunc)) args cenv rs)
    rw [hact.cur, refCall_fn k (m vid) args cenv rs c0 hc1]
    have h1 : Cur (s.jmp (s.pc + 1) s.data) _ _ _ := h0.next rfl rfl
    have ihV := hV self args hargs hfa isFn _ _ 0 gs (code, g1) hcc hfn' (lazyAtC c0) hlz m _ rs cenv _ _ (hrel.jmp _ _) h1.seg
    cases he1 : Ref.evalArgs (k + 1) args 0 (lazyAtC c0) cenv rs with
    | ok vs' rs2 =>
      rw [he1] at ihV
      obtain ⟨s2, m2, vs, r2, hfn2, hpc2, hd2, hvs2, rel2, hm2, ext2, fr2, hcl2⟩ := ihV
      simp only
      have hfr02 : FrameF s s2 := (FrameF.jmp _ _ _).trans fr2
      have h2 := h1.skip hfn2 hpc2
      have hcur2 : s2.curfunc = vid := by rw [hfr02.curfunc]; exact hact.cur
      have hfo2 : ∀ id, id < s₁.fns.length → fnOf s2 id = fnOf s₁ id := fun id hid =>
        (hfr02.fns id (Nat.lt_of_lt_of_le hid hact.fnsLen)).trans (hact.fns id hid)
      have hfl2 : s₁.fns.length ≤ s2.fns.length := Nat.le_trans hact.fnsLen hfr02.fnsLen
      have hlen12 : vs.length = args.length := by
        have h3 := ref_evalArgs_length' _ _ _ _ _ _ _ _ he1
        rw [hvs2, List.length_map] at h3
        exact h3
      have har0 : arOk c0.rest c0.ps.length vs.length := by
        rw [hlen12]; exact (arOk_congr hv0 hn0).mpr harity
      have hd2' : s2.data = vs.reverse.map some ++ D := by rw [hd2, St.jmp_data, hact.data]
      have hfo2v : fnOf s2 s2.curfunc = fnOf s vid := by
        rw [hcur2]; exact hfr02.fns vid (Nat.lt_of_lt_of_le hact.good.lt hact.fnsLen)
      generalize hAD : argsData c0.rest c0.ps.length vs D = AD
      have r3 : ReachX s2 (s2.jmp (s2.pc + 1) AD) :=
        (Reach.step h2.at (fun f => by
          rw [← hlen12, exec_prepareCall_clo f h c0.rest c0.ps.length vs D s2 hd2' (by rw [hfo2v]; exact huser0)
            (by rw [hfo2v]; exact hvar0) (by rw [hfo2v]; exact hnargs0) har0, hAD])).toX
      obtain ⟨extra, hlin, hel⟩ := hact.lin
      have hlin2 : (s2.jmp (s2.pc + 1) AD).linear = (extra ++ [some s₁.scopes.length]) ++ s₁.linear := by
        show s2.linear = _; rw [hfr02.linear, hlin]; simp
      have hxl : (extra ++ [some s₁.scopes.length]).length = c.scopes + 1 := by simp [hel]
      have h3 : Cur (s2.jmp (s2.pc + 1) AD) _ _ (List.replicate (c.scopes + 1) Instr.removeScope ++ _) :=
        h2.next (σ' := s2.jmp (s2.pc + 1) AD) rfl rfl
      have r4' : ReachX _ (dropped (s2.jmp (s2.pc + 1) AD) (c.scopes + 1) s₁.linear) :=
        (TailVM.steps_removeScopes (c.scopes + 1) _ _ _ _ s₁.linear h3.tailAt hlin2 hxl).1.reach.toX
      have h4 := h3.skip (σ' := dropped (s2.jmp (s2.pc + 1) AD) (c.scopes + 1) s₁.linear) rfl
        (by rw [List.length_replicate]; rfl)
      rw [List.length_replicate] at h4
      generalize hs4 : dropped (s2.jmp (s2.pc + 1) AD) (c.scopes + 1) s₁.linear = s4 at r4' h4
      have r5 := (reach_goto h4.at (Nat.zero_le _)).toX
      generalize hs5 : s4.jmp ((0 : Nat) : Int) s4.data = s5 at r5
      -- the state as `CallFunction` would leave it
      have hcur5 : s5.curfunc = vid := by subst hs5; subst hs4; exact hcur2
      have hpc5 : s5.pc = 0 := by subst hs5; rfl
      have haddr5 : s5.addr = some (s₁.curfunc, s₁.pc + 1) :: s₁.addr := by
        subst hs5; subst hs4; show s2.addr = _; rw [hfr02.addr]; exact hact.addr
      have hsc5 : s5.scopes = s2.scopes := by subst hs5; subst hs4; rfl
      have hfns5 : s5.fns = s2.fns := by subst hs5; subst hs4; rfl
      have hheap5 : s5.heap = s2.heap := by subst hs5; subst hs4; rfl
      have htr5 : s5.trace = s2.trace := by subst hs5; subst hs4; rfl
      have hlin5 : s5.linear = s₁.linear := by subst hs5; subst hs4; rfl
      have hd5 : s5.data = argsData c0.rest c0.ps.length vs D := by
        subst hs5; subst hs4; exact hAD.symm
      have hent := enteredA_of s5 s₁.curfunc s₁.pc s₁.addr vid c0.rest c0.ps.length vs D (vs.reverse.map some ++ D)
        hcur5 hpc5 haddr5 hd5
      have hsusp5 : s5.suspended = s₁.suspended := by subst hs5; subst hs4; show s2.suspended = _; rw [hfr02.susp]; exact hact.susp
      have hloops5 : s5.loops = s2.loops := by subst hs5; subst hs4; rfl
      have hflags2 : ∀ i, i < s₁.scopes.length → isFnScope s2 i = isFnScope s₁ i := fun i hi =>
        (hfr02.flags i (Nat.lt_of_lt_of_le hi hact.scLen)).trans (hact.flags i hi)
      have hscl2 : s₁.scopes.length ≤ s2.scopes.length := Nat.le_trans hact.scLen hfr02.scLen
      have hext12 : RExt rs₁ rs2 := hact.rext.trans ext2
      have hle12 : LoopsExt s₁ s2 := ⟨Nat.le_trans hact.loopsLen hfr02.loopsLen, fun id hid =>
        (hfr02.loops id (Nat.lt_of_lt_of_le hid hact.loopsLen)).trans (hact.loops id hid)⟩
      have hm12 : m2 vid = m₁ vid := (hm2 vid (by show vid < s.fns.length; exact Nat.lt_of_lt_of_le hact.good.lt hact.fnsLen)).trans
        (hact.mext vid hact.good.lt)
      generalize hs1' : ({ s5 with curfunc := s₁.curfunc, pc := s₁.pc, addr := s₁.addr, data := vs.reverse.map some ++ D } : St)
        = s₁' at hent
      have hfo1' : ∀ id, fnOf s₁' id = fnOf s2 id := fun id => by subst hs1'; unfold fnOf; rw [hfns5]
      have hflags1' : ∀ i, isFnScope s₁' i = isFnScope s2 i := fun i => by
        subst hs1'; unfold isFnScope scopeOf; rw [hsc5]
      have rel1' : RelF m2 (s₁'.withCur f₀) rs2 env :=
        hact.rel₁.back (s₅ := s₁'.withCur f₀) rel2 (by subst hs1'; exact hsc5) (by subst hs1'; exact hfns5) (by subst hs1'; exact hheap5)
          (by subst hs1'; exact htr5) (by subst hs1'; exact hlin5) (by subst hs1'; rfl) hflags2 hfl2 hfo2 hext12.1 hle12
          (by subst hs1'; exact hloops5) (by subst hs1'; subst hs5; subst hs4; rfl)
      have hk1' : FnsKeep s₁ s₁' := FnsKeep.of_eq (by subst hs1'; rw [hfns5]; exact hfl2)
        (fun id hid => (hfo1' id).trans (hfo2 id hid)) hmain1 (by subst hs1'; unfold LoopsExt; rw [hloops5]; exact hle12)
      have good1' : GoodFn m2 s₁' rs2 vid :=
        hact.good.mono hk1' (by subst hs1'; rw [hsc5]; exact hscl2) (fun i hi => (hflags1' i).trans (hflags2 i hi)) hext12 hm12
      have hvok : ∀ v ∈ vs, VOk m2 s₁' rs2 v := fun v hv =>
        ValIn.mono (hcl2 v hv) (fun id hgd => hgd.mono (FnsKeep.of_fns_eq (by subst hs1'; exact hfns5)
            (LoopsExt.of_eq (by subst hs1'; exact hloops5)))
          (by subst hs1'; rw [hsc5]; exact Nat.le_refl _) (fun i _ => hflags1' i) (RExt.refl _) rfl)
      have hres := hU m2 s₁' rs2 env vid c0 vs D f₀ rel1' good1'
        (by rw [hm12, ← hact.mext vid hact.good.lt]; exact ext2.2 _ _ hc1) (by subst hs1'; rfl) hvok har0
      rw [hent, hm12, ← hact.mext vid hact.good.lt, ← hvs2] at hres
      have hreach5 : ReachX s s5 := (((r0.trans r2).trans r3).trans r4').trans r5
      have hfr11' : FrameF s₁ s₁' :=
        ⟨⟨by subst hs1'; exact hlin5, by subst hs1'; rfl, by subst hs1'; rfl, by subst hs1'; exact hsusp5,
          hk1'.len, fun id hid => (hfo1' id).trans (hfo2 id hid),
          by subst hs1'; rw [hloops5]; exact Nat.le_trans hact.loopsLen hfr02.loopsLen,
          fun id hid => by
            subst hs1'; show s5.loops.getD id {} = _; rw [hloops5]
            exact (hfr02.loops id (Nat.lt_of_lt_of_le hid hact.loopsLen)).trans (hact.loops id hid)⟩,
          by subst hs1'; rw [hsc5]; exact hscl2, fun i hi => (hflags1' i).trans (hflags2 i hi)⟩
      have hmm : MExt s m m2 := fun id hid => hm2 id hid
      have hfl1' : s.fns.length ≤ s₁'.fns.length := by subst hs1'; rw [hfns5]; exact hfr02.fnsLen
      cases h2 : Ref.applyFn (k + 1) (.fn (m vid)) vs' rs2 with
      | ok v' rs3 =>
        rw [h2] at hres
        obtain ⟨s', m', v, r, hpc, hdata, hv, rel, hm', ext, fr, hcl⟩ := hres
        exact Or.inr ⟨s', m', v, hreach5.trans r, by rw [hpc]; subst hs1'; rfl, hdata, hv, rel, hmm.trans hm' hfl1',
          ext2.trans ext, hfr11'.trans fr, hcl⟩
      | err rs3 => rw [h2] at hres; exact FailsX.of_reach hreach5 hres
      | timeout => trivial
      | brk l rs3 => rw [h2] at hres; exact hres.elim
      | cont l rs3 => rw [h2] at hres; exact hres.elim
    | err rs2 => rw [he1] at ihV; exact FailsX.of_reach r0 ihV
    | timeout => trivial
    | brk l rs2 => rw [he1] at ihV; exact ihV.elim
    | cont l rs2 => rw [he1] at ihV; exact ihV.elim
  · -- the guard fails: the ordinary call behind the jump
    have hl' : ∀ sid, lexLookup s h ≠ some (sid, .fn s.curfunc) := fun sid e => hg ⟨sid, e⟩
    have r0 : ReachX s (s.jmp (s.pc + ((code.length + c.scopes + 4 : Nat) : Int)) s.data) :=
      (Reach.step h0.at (fun f => by rw [TailVM.exec_tailGuard_other f s h _ hl']; rfl)).toX
    have mv : Moved (code.length + c.scopes + 4) s (s.jmp (s.pc + ((code.length + c.scopes + 4 : Nat) : Int)) s.data) :=
      ⟨rfl, rfl, rfl⟩
    have h0' : Cur s _ pre.length (([.tailGuard h (code.length + c.scopes + 4)] ++ code ++ [.prepareCall h args.length]
        ++ List.replicate (c.scopes + 1) Instr.removeScope ++ [.goto 0]) ++ ([.callExpr (.sym h) args] ++ post)) :=
      hseg.cur.goto rfl hseg.pc (by simp) (by rw [List.append_assoc, List.drop_left]; simp [tailCode])
    have hc' := h0'.skip (σ' := s.jmp (s.pc + ((code.length + c.scopes + 4 : Nat) : Int)) s.data) rfl
      (by rw [St.jmp_pc]; simp only [List.length_append, List.length_cons, List.length_nil, List.length_replicate]; push_cast; omega)
    have hcall := simF_call hA hU hG hok hfa (hrel.jmp _ _) hc'.seg
    exact (SimF.seq r0 mv (MExt.refl _ _) (RExt.refl _) (FrameF.jmp _ _ _) hcall (by rw [hlen]; simp)).toT

theorem simF_of_simX_nil {code : List Instr} {m : Nat → Nat} {s : St} {rs : Ref.St} {env : Nat} {res : Ref.R Val}
    (h : SimX code [] m s rs env res) : SimF code m s rs env res := by
  cases res with
  | ok v rs' => exact h
  | err rs' => exact h
  | timeout => trivial
  | brk l rs' => obtain ⟨γ, hγ, _⟩ := h; cases l <;> simp [findCtx] at hγ
  | cont l rs' => obtain ⟨γ, hγ, _⟩ := h; cases l <;> simp [findCtx] at hγ

/-- a `defn` whose body is in `FzList` (at top level, or nested in a function body) -/
theorem simF_defnZ {n : Nat} {ex : Bool} {name : String} {ps : List String} {rest : Option String} {body : List Expr}
    (hrest : okRest rest = true) (hname : okName name = true) (hne : name ≠ "") (hnd : (ps ++ rest.toList).Nodup)
    (hps : ∀ p ∈ ps, okParam p = true) (hbody : body ≠ []) (hfz : FzList ex name body = true)
    (isFn : Nat → Bool) (c : Ctx) (gs : GS) (hex : ex = true → gs.loopstack = [])
    (r : (List Instr × Bool) × GS) (hc : (compile isFn c (.defn name ps rest body)).run gs = .ok r)
    (m : Nat → Nat) (s : St) (rs : Ref.St) (env : Nat) (pre post : List Instr)
    (hrel : RelF m s rs env) (hgen : GenOk gs r.2 s) (hseg : Seg s pre r.1.1 post) :
    SimF r.1.1 m s rs env (Ref.eval n (.defn name ps rest body) env rs) := by
  cases n with
  | zero => rw [Ref.eval]; trivial
  | succ k =>
    obtain ⟨b, tl, g2, hb, _, hk2⟩ := compileBegin_total_Fz ex name body hbody hfz isFn (Bal.bodyCtx c gs name (!rebindsOwnName name ps rest body))
      (Bal.allocGs isFn gs name ps rest) (bodyCtx_funcname c gs name _) hex
    exact simF_defn_core name ps rest body hrest hname hne hnd hps hbody hfz hex isFn c g2 b tl hb hk2.1 r hc hrel hgen hseg

/-- an anonymous function whose body is in `FzList` (loops with exits in its body) -/
theorem simF_fnZ {n : Nat} {ex : Bool} {ps : List String} {rest : Option String} {body : List Expr}
    (hrest : okRest rest = true) (hnd : (ps ++ rest.toList).Nodup)
    (hps : ∀ p ∈ ps, okParam p = true) (hbody : body ≠ []) (hfz : FzList ex "" body = true)
    (isFn : Nat → Bool) (c : Ctx) (gs : GS) (hex : ex = true → gs.loopstack = [])
    (r : (List Instr × Bool) × GS) (hc : (compile isFn c (.fn ps rest body)).run gs = .ok r)
    (m : Nat → Nat) (s : St) (rs : Ref.St) (env : Nat) (pre post : List Instr)
    (hrel : RelF m s rs env) (hgen : GenOk gs r.2 s) (hseg : Seg s pre r.1.1 post) :
    SimF r.1.1 m s rs env (Ref.eval n (.fn ps rest body) env rs) := by
  cases n with
  | zero => rw [Ref.eval]; trivial
  | succ k =>
    obtain ⟨b, tl, g2, hb, _, hk2⟩ := compileBegin_total_Fz ex "" body hbody hfz isFn (Bal.bodyCtx c gs "" true)
      (Bal.allocGs isFn gs "" ps rest) (bodyCtx_funcname c gs "" true) hex
    exact simF_fn_core ps rest body hrest hnd hps hbody hfz hex isFn c g2 b tl hb hk2.1 r hc hrel hgen hseg

/-- a statement that is not in tail position: a form of F2, or (`ex`) one whose loops `break`/`continue`, or a nested
`defn` with self tail calls / loops with exits in its body -/
theorem simF_stmt {n : Nat} (hFE : FClaimE n) (hXE : XClaimE n) {ex : Bool} {self : String} {e : Expr}
    (he : Fs ex self e = true) (isFn : Nat → Bool) (c : Ctx) (gs : GS)
    (r : (List Instr × Bool) × GS) (hc : (compile isFn c e).run gs = .ok r) (hfn : FnameOk self c)
    (hex : ex = true → gs.loopstack = []) (m : Nat → Nat) (s : St) (rs : Ref.St) (env : Nat) (pre post : List Instr)
    (hrel : RelF m s rs env) (hgen : GenOk gs r.2 s) (hlo : LsOut pre gs.loops.length r.2.loops.length)
    (hseg : Seg s pre r.1.1 post) : SimF r.1.1 m s rs env (Ref.eval n e env rs) := by
  rcases fs_cases he with he | ⟨name, ps, rest, body, rfl, hrest, hname, hne, hnd, hps, hbody, hfz⟩
    | ⟨ps, rest, body, rfl, hrest, hnd, hps, hbody, hfz⟩
  rotate_left
  · exact simF_defnZ hrest hname hne hnd hps hbody hfz isFn c gs hex r hc m s rs env pre post hrel hgen hseg
  · exact simF_fnZ hrest hnd hps hbody hfz isFn c gs hex r hc m s rs env pre post hrel hgen hseg
  cases ex with
  | false => exact hFE true self e (by simpa using he) isFn c gs r hc hfn m s rs env pre post hrel (fun _ => hgen) hseg
  | true =>
    exact simF_of_simX_nil (hXE [] self [] rfl e (by simpa using he) isFn c gs r hc hfn m s rs env pre post
      hrel ⟨gsOk_nil (hex rfl), hgen, (fun _ h => nomatch h), hlo⟩ hseg)

def TClaimE (n : Nat) : Prop := ∀ ex self ps rest m₁ s₁ rs₁ env vid D f₀,
  HClaimE (tSys s₁ env D f₀) (tFg ex self ps rest m₁ s₁ rs₁ env vid D f₀) (Fz ex self) n

def TClaimB (n : Nat) : Prop := ∀ ex self ps rest m₁ s₁ rs₁ env vid D f₀,
  HClaimB (tSys s₁ env D f₀) (tFg ex self ps rest m₁ s₁ rs₁ env vid D f₀) n

def TClaimC (n : Nat) : Prop := ∀ ex self ps rest m₁ s₁ rs₁ env vid D f₀,
  HClaimC (tSys s₁ env D f₀) (tFg ex self ps rest m₁ s₁ rs₁ env vid D f₀) n

/-- a statement that is not the last of a body is simulated as in F2: it delivers its value by landing -/
theorem stmt_claim {n : Nat} (hFE : FClaimE n) (hXE : XClaimE n) (ex : Bool) (self : String) (ps : List String)
    (rest : Option String) (m₁ : Nat → Nat) (s₁ : St) (rs₁ : Ref.St) (env vid : Nat) (D : List (Option Val)) (f₀ : Nat) :
    HClaimN (tSys s₁ env D f₀) (tFg ex self ps rest m₁ s₁ rs₁ env vid D f₀) (Fs ex self) n :=
  fun _ he isFn c gs r hc hfn m s rs cenv pre post hrel hi hseg =>
    have ih := simF_stmt hFE hXE he isFn c gs r hc hfn hi.hex m s rs cenv pre post hrel hi.gen hi.lo hseg
    ⟨ih.toT, fun _ _ h1 => (fSys.sm_ok.mp (h1 ▸ ih)).resolve_right id⟩

/-- so is the test of a `cond` arm -/
theorem FClaimE.toT {n : Nat} (h : FClaimE n) (ex : Bool) (self : String) (ps : List String)
    (rest : Option String) (m₁ : Nat → Nat) (s₁ : St) (rs₁ : Ref.St) (env vid : Nat) (D : List (Option Val)) (f₀ : Nat) :
    HClaimN (tSys s₁ env D f₀) (tFg ex self ps rest m₁ s₁ rs₁ env vid D f₀) (Ff true self) n :=
  fun e he isFn c gs r hc hfn m s rs cenv pre post hrel hi hseg =>
    have ih := h true self e he isFn c gs r hc hfn m s rs cenv pre post hrel (fun _ => hi.gen) hseg
    ⟨ih.toT, fun _ _ h1 => (fSys.sm_ok.mp (h1 ▸ ih)).resolve_right id⟩

theorem tclaimB_succ {n : Nat} (hFE : FClaimE n) (hXE : XClaimE n) (hE : TClaimE n) (hB : TClaimB n) : TClaimB (n + 1) :=
  fun ex self ps rest m₁ s₁ rs₁ env vid D f₀ =>
    hclaimB_succ (stmt_claim hFE hXE ex self ps rest m₁ s₁ rs₁ env vid D f₀) (hE ex self ps rest m₁ s₁ rs₁ env vid D f₀)
      (hB ex self ps rest m₁ s₁ rs₁ env vid D f₀)

theorem tclaimC_succ {n : Nat} (hFE : FClaimE n) (hE : TClaimE n) (hC : TClaimC n) : TClaimC (n + 1) :=
  fun ex self ps rest m₁ s₁ rs₁ env vid D f₀ =>
    hclaimC_succ (hFE.toT ex self ps rest m₁ s₁ rs₁ env vid D f₀) (hE ex self ps rest m₁ s₁ rs₁ env vid D f₀)
      (hC ex self ps rest m₁ s₁ rs₁ env vid D f₀)

theorem tclaimE_succ {n : Nat} (hFE1 : FClaimE (n + 1)) (hXE1 : XClaimE (n + 1)) (hV : TClaimV n) (hA : FClaimA n)
    (hU : FClaimU n) (hG : ∀ k, n = k + 1 → ∀ name, hoB name → FClaimH k name) (hL : FClaimL n) (hFV : FClaimV n) (hB : TClaimB n) (hC : TClaimC n) :
    TClaimE (n + 1) := by
  intro ex self ps rest m₁ s₁ rs₁ env vid D f₀ e he isFn c gs r hc hfn m s rs cenv pre post hrel hi hseg
  have hff : Ff true self e = true → SimT r.1.1 s₁ env D f₀ m s rs cenv (Ref.eval (n + 1) e cenv rs) := fun h =>
    (hFE1 true self e h isFn c gs r hc hfn m s rs cenv pre post hrel (fun _ => hi.gen) hseg).toT
  -- the bindings of `let`/`letseq` are plain F2
  have hst := fun hf => hclaimE_struct (tBinds s₁ env D f₀) (hB ex self ps rest m₁ s₁ rs₁ env vid D f₀) (hC ex self ps rest m₁ s₁ rs₁ env vid D f₀)
    (fun seq bs hseq hbs isFn c gs r ha hfn m s rs env pre post hrel hi hseg =>
      hclaimBs fBinds (hL true self) (hFV true self) seq bs hseq hbs isFn c gs r ha hfn m s rs env pre post hrel (fun _ => hi.gen) hseg)
    e hf he isFn c gs r hc hfn m s rs cenv pre post hrel hi hseg
  cases e with
  | call f args =>
    cases f with
    | sym h =>
      rw [Fz] at he
      simp only [Bool.and_eq_true, Bool.or_eq_true] at he
      cases n with
      | zero => rw [Ref.eval, Ref.eval]; trivial
      | succ k =>
        exact simT_selfcall hV hA hU (hG k rfl) he.1.1.1 he.1.1.2 he.1.2 he.2 isFn c gs r hc hfn hi.kn hi.hps hi.act hi.na hi.va.1
          hi.va.2 hrel hseg
    | _ =>
      rw [fz_call_nonsym (fun _ hh => by cases hh)] at he
      exact hff he
  | begin_ es =>
    cases es with
    | nil => exact hff (by simp [Ff, FfList])
    | cons e0 es0 => exact hst rfl
  | cond arms d => exact hst rfl
  | newScope es => exact hst rfl
  | let_ seq bs body => exact hst rfl
  | for_ l i t st b =>
    rw [Fz] at he
    exact (simF_stmt hFE1 hXE1 (fs_of_stmt he) isFn c gs r hc hfn hi.hex m s rs cenv pre post hrel hi.gen hi.lo hseg).toT
  | fn ps' rest' body =>
    rw [Fz] at he
    simp only [Bool.or_eq_true] at he
    rcases he with he | he
    · exact hff he
    · simp only [Bool.and_eq_true, decide_eq_true_eq, Bool.not_eq_true', List.isEmpty_eq_false_iff, List.all_eq_true] at he
      exact (simF_fnZ he.1.1.1.1 he.1.1.1.2 he.1.1.2 he.1.2 he.2 isFn c gs hi.hex r hc m s rs cenv
        pre post hrel hi.gen hseg).toT
  | defn name ps' rest' body =>
    rw [Fz] at he
    simp only [Bool.or_eq_true] at he
    rcases he with he | he
    · exact hff he
    · simp only [Bool.and_eq_true, bne_iff_ne, ne_eq, decide_eq_true_eq, Bool.not_eq_true', List.isEmpty_eq_false_iff,
        List.all_eq_true] at he
      exact (simF_defnZ he.1.1.1.1.1.1 he.1.1.1.1.1.2 he.1.1.1.1.2 he.1.1.1.2 he.1.1.2 he.1.2 he.2 isFn c gs hi.hex r hc m s rs cenv
        pre post hrel hi.gen hseg).toT
  | assign _ _ => simp [Fz] at he
  | bad _ => simp [Fz] at he
  | break_ _ => simp [Fz] at he
  | continue_ _ => simp [Fz] at he
  | _ => rw [Fz] at he; exact hff he

theorem tclaims_zero : TClaimV 0 ∧ TClaimE 0 ∧ TClaimB 0 ∧ TClaimC 0 := by
  refine ⟨?_, fun _ _ _ _ _ _ _ _ _ _ _ => hclaimE_zero _ _, fun _ _ _ _ _ _ _ _ _ _ _ => hclaimB_zero _,
    fun _ _ _ _ _ _ _ _ _ _ _ => hclaimC_zero _⟩
  intro self args hargs hfa isFn c f i gs r hc hfn lazyAt hlz m s rs env pre post hrel hseg
  rw [Ref.evalArgs]; trivial

theorem vOk_mkList {m : Nat → Nat} {s : St} {rs : Ref.St} : ∀ (xs : List Val), (∀ w ∈ xs, VOk m s rs w) → VOk m s rs (mkList xs)
  | [], _ => vOk_lit .nil (fun _ _ _ => rfl)
  | x :: xs, h => valIn_pair (h x (List.mem_cons_self ..)) (vOk_mkList xs (fun w hw => h w (List.mem_cons_of_mem _ hw)))

/-- Applying a closure object: the prologue binds the formals, the body runs in tail position of the activation
(`TClaimB`: it lands behind itself, or the whole activation has returned through a self tail call), the epilogue
returns. -/
theorem fclaimU_succ {n : Nat} (hB : TClaimB n) : FClaimU (n + 1) := by
  intro m s₁ rs₁ env vid c' vs₀ D f₀ hrel hg hcc hd₀ hvs₀ har
  obtain ⟨c, hc1, hrest, hnd, hokp, hbody, hparams, hnargs, hvar, huser, hel, _,
    t, b, tl, isFn, cb, gs0, gs1, self, hcode, htlt, htclo, hcomp, hsc0, hfname, ⟨ex, hff, hexg⟩, hgen, hkn⟩ := hg.clo
  have hcc' : c' = c := by rw [hcc] at hc1; injection hc1
  subst hcc'
  have hokF := okParam_all hokp hrest
  rw [Ref.applyFn]
  simp only [hc1, ref_bindParams_eq c'.ps c'.rest (vs₀.map (trf m)) (by rw [List.length_map]; exact har), bvals_map]
  have hvl0 : (bvals c'.rest c'.ps.length vs₀).length = (c'.ps ++ c'.rest.toList).length := by
    rw [bvals_length har, List.length_append]
  have hvsb : ∀ v ∈ bvals c'.rest c'.ps.length vs₀, VOk m s₁ rs₁ v := by
    intro v hv
    cases hr : c'.rest with
    | none => rw [hr] at hv; exact hvs₀ v hv
    | some r =>
      rw [hr] at hv
      simp only [bvals, List.mem_append, List.mem_singleton] at hv
      rcases hv with hv | hv
      · exact hvs₀ v (List.mem_of_mem_take hv)
      · subst hv
        exact vOk_mkList _ (fun w hw => hvs₀ w (List.mem_of_mem_drop hw))
  have hdE : (enteredA s₁ vid c'.rest c'.ps.length vs₀ D).data = (bvals c'.rest c'.ps.length vs₀).reverse.map some ++ D := rfl
  generalize hbv : bvals c'.rest c'.ps.length vs₀ = vs at hvl0 hvsb hdE
  generalize hFe : c'.ps ++ c'.rest.toList = F at hvl0 hnd hparams hcode hokF
  have hvl : vs.length = F.length := hvl0
  have hvs := hvsb
  have hnf : (Ref.newFrame rs₁ c'.env) = (rs₁.frames.length, { rs₁ with frames := rs₁.frames ++ [{ parent := some c'.env }] }) := rfl
  have hfold := foldl_setVar rs₁.frames.length (F.zip (vs.map (trf m)))
    { rs₁ with frames := rs₁.frames ++ [{ parent := some c'.env }] } { parent := some c'.env }
    (by show (rs₁.frames ++ [_])[rs₁.frames.length]? = _; simp)
  generalize hrsB : (F.zip (vs.map (trf m))).foldl (fun s (p : String × Val) => Ref.setVar s rs₁.frames.length p.1 p.2)
    { rs₁ with frames := rs₁.frames ++ [{ parent := some c'.env }] } = rsB at hfold
  have hfrB : rsB.frames = rs₁.frames ++ [({ vars := bindsVars [] (F.zip (vs.map (trf m))), parent := some c'.env } : Ref.Frame)] := by
    rw [hfold]; show (rs₁.frames ++ [_]).set rs₁.frames.length _ = _
    simp
  have hclB : rsB.clos = rs₁.clos := by rw [hfold]
  have hhpB : rsB.heap = rs₁.heap := by rw [hfold]
  have htrB : rsB.trace = rs₁.trace := by rw [hfold]
  show (match (match Ref.evalBegin n c'.body rs₁.frames.length
        ((F.zip (vs.map (trf m))).foldl (fun s (p : String × Val) => Ref.setVar s rs₁.frames.length p.1 p.2)
          { rs₁ with frames := rs₁.frames ++ [{ parent := some c'.env }] }) with
      | .ok v s => Ref.R.ok v s | .brk _ s => .err s | .cont _ s => .err s | r => r) with
    | .ok v' rs' => _ | .err rs' => _ | .timeout => _ | .brk _ _ => _ | .cont _ _ => _)
  rw [hrsB]
  have hcur1 := hrel.ctx
  obtain ⟨b0, hch, hfc⟩ := hcur1
  have a2 : At ((enteredA s₁ vid c'.rest c'.ps.length vs₀ D)) [] (.addFuncScope t)
      ((F.map Instr.popStackPutEnv).reverse ++ b ++ [.removeScope, .ret]) :=
    ⟨huser, by show (fnOf s₁ vid).code = _; rw [hcode]; simp [fnCode], rfl⟩
  have r2 : ReachX ((enteredA s₁ vid c'.rest c'.ps.length vs₀ D)) (((enteredA s₁ vid c'.rest c'.ps.length vs₀ D)).pushFnScope t) :=
    (Reach.step a2 (fun f => exec_addFuncScope f t _)).toX
  generalize hs3 : ((enteredA s₁ vid c'.rest c'.ps.length vs₀ D)).pushFnScope t = s₃ at r2
  have hzl : (F.zip vs).map (·.1) = F := List.map_fst_zip (by omega)
  have hzr : (F.zip vs).map (·.2) = vs := List.map_snd_zip (by omega)
  have hpairs1 : ((F.zip vs).reverse).map (fun p => Instr.popStackPutEnv p.1) = (F.map Instr.popStackPutEnv).reverse := by
    have := congrArg (List.map Instr.popStackPutEnv) hzl
    rw [List.map_map] at this
    rw [List.map_reverse]; exact congrArg List.reverse this
  have hpairs2 : ((F.zip vs).reverse).map (fun p => some p.2) = vs.reverse.map some := by
    have := congrArg (List.map (some : Val → Option Val)) hzr
    rw [List.map_map] at this
    rw [List.map_reverse, List.map_reverse]; exact congrArg List.reverse this
  have hsc3 : s₃.scopes = s₁.scopes ++ [({ isFunction := true, myFunction := some t } : Scope)] := by subst hs3; rfl
  have hscope3 : scopeOf s₃ s₁.scopes.length = { isFunction := true, myFunction := some t } := by
    unfold scopeOf; rw [hsc3]; simp [List.getD_eq_getElem?_getD]
  have r4 := reach_params (F.zip vs).reverse s₃ [.addFuncScope t] (b ++ [.removeScope, .ret]) D s₁.scopes.length s₁.linear
    (by subst hs3; exact huser)
    (by subst hs3; show (fnOf s₁ vid).code = _; rw [hcode, hpairs1]; simp [fnCode])
    (by subst hs3; rfl) (by subst hs3; rw [hpairs2]; exact hdE) (by subst hs3; rfl)
    (by rw [hsc3]; simp) (fun x _ => by rw [hscope3]; rfl)
    (by rw [List.map_reverse, hzl]; exact nodup_reverse' hnd)
  generalize hs4 : afterParams s₃ s₁.scopes.length (F.zip vs).reverse D = s₄ at r4
  have hsc4 : s₄.scopes = s₁.scopes ++ [({ vars := bindsVars [] (F.zip vs).reverse, isFunction := true, myFunction := some t } : Scope)] := by
    subst hs4; unfold afterParams
    show s₃.scopes.set s₁.scopes.length _ = _
    rw [hscope3, hsc3]; simp
  have hlin4 : s₄.linear = some s₁.scopes.length :: s₁.linear := by subst hs4; subst hs3; rfl
  have hfns4 : s₄.fns = s₁.fns := by subst hs4; subst hs3; rfl
  have hcur4 : s₄.curfunc = vid := by subst hs4; subst hs3; rfl
  have hpc4 : s₄.pc = ((1 + F.length : Nat) : Int) := by
    subst hs4; subst hs3; show (0 : Int) + 1 + ((F.zip vs).reverse.length : Nat) = _
    simp [hvl] <;> omega
  have hd4 : s₄.data = D := by subst hs4; rfl
  have haddr4 : s₄.addr = some (s₁.curfunc, s₁.pc + 1) :: s₁.addr := by subst hs4; subst hs3; rfl
  have hsusp4 : s₄.suspended = s₁.suspended := by subst hs4; subst hs3; rfl
  have hloops4 : s₄.loops = s₁.loops := by subst hs4; subst hs3; rfl
  have hndz : ((F.zip vs).map (·.1)).Nodup := by rw [hzl]; exact hnd
  have hndz' : ((F.zip (vs.map (trf m))).map (·.1)).Nodup := by
    rw [List.map_fst_zip (by simp; omega)]; exact hnd
  have hgW : GoodFn m (s₁.withCur f₀) rs₁ vid :=
    hg.grow (ExtF.of_eq rfl (Nat.le_refl _) (fun _ _ => rfl) (RExt.refl _))
  have hvsW : ∀ w ∈ vs, VOk m (s₁.withCur f₀) rs₁ w := fun w hw =>
    (hvs w hw).grow (ExtF.of_eq rfl (Nat.le_refl _) (fun _ _ => rfl) (RExt.refl _))
  have relB : RelF m s₄ rsB rs₁.frames.length := by
    refine hrel.enter hgW (fun c' hc' => by rw [hc1] at hc'; injection hc' with hc'; rw [hc']) s₄ rsB t _ _ hsc4 hlin4 hfns4 hcur4 (by subst hs4; subst hs3; rfl) (by subst hs4; subst hs3; rfl)
      hfrB hclB hhpB htrB htclo (fun y => ?_) (fun y v hv => ?_) (fun h hh => ?_) hloops4
      (by subst hs4; subst hs3; rfl) (by rw [hfold])
    · rw [lookup_bindsVars, lookup_bindsVars, List.reverse_reverse, lookup_reverse_of_nodup _ hndz', lookup_zip_map]
      cases (F.zip vs).lookup y <;> rfl
    · rw [lookup_bindsVars, List.reverse_reverse] at hv
      cases hz : (F.zip vs).lookup y with
      | none => rw [hz] at hv; cases hv
      | some w => rw [hz] at hv; injection hv with hv; subst hv; exact hvsW w (lookup_zip_mem hz).2
    · rw [lookup_bindsVars, lookup_reverse_of_nodup _ hndz', lookup_zip_none]
      · rfl
      · intro hm
        have := okName_binder (okParam_name (hokF h hm))
        unfold okBinder at this
        simp only [Bool.not_eq_true', List.contains_eq_mem, decide_eq_false_iff_not] at this
        exact this hh
  have hseg4 : Seg s₄ ([.addFuncScope t] ++ (F.map Instr.popStackPutEnv).reverse) b [.removeScope, .ret] :=
    ⟨by rw [hcur4]; unfold fnOf; rw [hfns4]; exact huser, by rw [hcur4]; show (fnOf s₄ vid).code = _; unfold fnOf; rw [hfns4]; exact hcode.trans (by simp [fnCode]),
      by rw [hpc4]; simp; omega⟩
  have hfl14 : ∀ i, i < s₁.scopes.length → isFnScope s₄ i = isFnScope s₁ i := fun i hi => by
    unfold isFnScope scopeOf; rw [hsc4]; simp only [List.getD_eq_getElem?_getD, List.getElem?_append_left hi]
  have hscl14 : s₁.scopes.length ≤ s₄.scopes.length := by rw [hsc4]; simp
  have hext1B : FramesExt rs₁ rsB := fun i fr hf =>
    ⟨fr, by rw [hfrB, List.getElem?_append_left (lt_of_getElem?_some hf)]; exact hf, rfl⟩
  have hact : InAct m s₁ rs₁ env vid D f₀ cb.scopes m s₄ rsB :=
    ⟨hrel, hg, hcur4, haddr4, hsusp4, hd4, ⟨[], by rw [hlin4]; rfl, by rw [hsc0]; rfl⟩, by rw [hfns4]; exact Nat.le_refl _,
      fun id _ => by unfold fnOf; rw [hfns4], by rw [hloops4]; exact Nat.le_refl _, fun id _ => by rw [hloops4], hscl14, hfl14,
      MExt.refl _ _, ⟨hext1B, fun i c' hc' => by rw [hclB]; exact hc'⟩⟩
  have hlo4 : LsOut ([.addFuncScope t] ++ (F.map Instr.popStackPutEnv).reverse) gs0.loops.length gs1.loops.length :=
    fun l hl => by simp at hl
  have hsim := hB ex self c'.ps c'.rest m s₁ rs₁ env vid D f₀ c'.body hbody hff isFn cb gs0 ((b, tl), gs1) hcomp hfname m s₄ rsB
    rs₁.frames.length _ _ relB ⟨hexg, hkn, hFe ▸ hokF, hact, hnargs, ⟨hvar, by rw [hFe]; exact hparams⟩,
      hgen.mono (FnsKeep.of_fns_eq hfns4 (LoopsExt.of_eq hloops4)), hlo4⟩ hseg4
  have hreach4 : ReachX ((enteredA s₁ vid c'.rest c'.ps.length vs₀ D)) s₄ := r2.trans r4
  cases hres : Ref.evalBegin n c'.body rs₁.frames.length rsB with
  | ok v' rs' =>
    rw [hres] at hsim
    simp only
    rcases hsim with hsim | hret
    rotate_left
    · obtain ⟨s', m', v, r, hpc, hdata, hv, rel, hm', ext, fr, hcl⟩ := hret
      exact ⟨s', m', v, hreach4.trans r, hpc, hdata, hv, rel, fun id hid => hm' id (by rw [hfns4]; exact hid),
        hact.rext.trans ext, fr, hcl⟩
    obtain ⟨s₅, m₅, v, r5, l5, hv5, rel5, hm5, ext5, fr5, hcl5⟩ := hsim
    have hcode5 : (fnOf s₅ s₅.curfunc).code = fnCode t F b := by rw [l5.fn, hcur4]; unfold fnOf; rw [hfns4]; exact hcode
    have huser5 : (fnOf s₅ s₅.curfunc).user = false := by rw [l5.fn, hcur4]; unfold fnOf; rw [hfns4]; exact huser
    have a5 : At s₅ ([.addFuncScope t] ++ (F.map Instr.popStackPutEnv).reverse ++ b) .removeScope [.ret] :=
      ⟨huser5, by rw [hcode5]; simp [fnCode], by rw [l5.pc, hpc4]; simp; omega⟩
    have hlin5 : s₅.linear = some s₁.scopes.length :: s₁.linear := by rw [fr5.linear, hlin4]
    have r6 : ReachX s₅ { s₅ with pc := s₅.pc + 1, linear := s₁.linear } :=
      (Reach.step a5 (fun f => by rw [exec_removeScope, hlin5])).toX
    have a6 : At ({ s₅ with pc := s₅.pc + 1, linear := s₁.linear } : St)
        ([.addFuncScope t] ++ (F.map Instr.popStackPutEnv).reverse ++ b ++ [.removeScope]) .ret [] :=
      ⟨huser5, by show (fnOf s₅ s₅.curfunc).code = _; rw [hcode5]; simp [fnCode],
        by show s₅.pc + 1 = _; rw [l5.pc, hpc4]; simp; omega⟩
    have haddr5 : s₅.addr = some (s₁.curfunc, s₁.pc + 1) :: s₁.addr := by rw [fr5.addr, haddr4]
    have r7 : ReachX ({ s₅ with pc := s₅.pc + 1, linear := s₁.linear } : St)
        { s₅ with pc := s₁.pc + 1, linear := s₁.linear, addr := s₁.addr, curfunc := s₁.curfunc } :=
      (Reach.step a6 (fun f => by rw [exec_ret]; show (match s₅.addr with | [] => _ | none :: _ => _ | some (fn, pc) :: rest => _) = _; rw [haddr5])).toX
    have hflags : ∀ i, i < s₁.scopes.length → isFnScope s₅ i = isFnScope s₁ i := fun i hi =>
      (fr5.flags i (Nat.lt_of_lt_of_le hi hscl14)).trans (hfl14 i hi)
    have hfl : s₁.fns.length ≤ s₅.fns.length := by rw [← hfns4]; exact fr5.fnsLen
    have hfo : ∀ id, id < s₁.fns.length → fnOf s₅ id = fnOf s₁ id := fun id hid =>
      (fr5.fns id (by rw [hfns4]; exact hid)).trans (by unfold fnOf; rw [hfns4])
    have hrext : RExt rs₁ rs' := hact.rext.trans ext5
    refine ⟨{ s₅ with pc := s₁.pc + 1, linear := s₁.linear, addr := s₁.addr, curfunc := s₁.curfunc }, m₅, v,
      ((hreach4.trans r5).trans r6).trans r7, rfl, by show s₅.data = _; rw [l5.data, hd4], hv5, ?_,
      fun id hid => hm5 id (by rw [hfns4]; exact hid), hrext, ?_, ?_⟩
    · exact hrel.back rel5 rfl rfl rfl rfl rfl rfl hflags hfl hfo hrext.1
        ⟨by show s₁.loops.length ≤ s₅.loops.length; rw [← hloops4]; exact fr5.loopsLen,
          fun id hid => by show s₅.loops.getD id {} = s₁.loops.getD id {}; rw [← hloops4]; exact fr5.loops id (by rw [hloops4]; exact hid)⟩
    · exact ⟨⟨rfl, rfl, rfl, by show s₅.suspended = _; rw [fr5.susp, hsusp4], hfl, hfo,
        by show s₁.loops.length ≤ s₅.loops.length; rw [← hloops4]; exact fr5.loopsLen,
        fun id hid => by show s₅.loops.getD id {} = _; rw [← hloops4]; exact fr5.loops id (by rw [hloops4]; exact hid)⟩,
        Nat.le_trans hscl14 fr5.scLen, hflags⟩
    · exact hcl5.grow (ExtF.of_eq rfl (Nat.le_refl _) (fun _ _ => rfl) (RExt.refl _))
  | err rs' =>
    rw [hres] at hsim
    simp only
    exact FailsX.of_reach hreach4 hsim
  | timeout => trivial
  | brk l rs' => rw [hres] at hsim; exact hsim.elim
  | cont l rs' => rw [hres] at hsim; exact hsim.elim


end ZygoVerif.Sim
