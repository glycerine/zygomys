/-
The calling contract, what is said at its leaves on a normal return: the restore after a nested run
that came back to the sizes recorded, the helper function of freshly compiled code, operands popped and
pushed, the arms of `builtin` that work on the heap, the operands of `Apply`, the value of a forced
lazy argument.
-/
import ZygoVerif.Proofs.RunCall
import ZygoVerif.Proofs.RunGenRT
import ZygoVerif.Proofs.ContainSize
namespace ZygoVerif.RunInv
open ZygoVerif.Core ZygoVerif.VM ZygoVerif.Bal ZygoVerif.Refine ZygoVerif.Sim ZygoVerif.Contain

theorem truncate_self {α} (l : List (Option α)) : truncate l l.length = l :=
  truncate_of_suffix l l (List.suffix_refl l)

theorem restoreSt_same (st : CtlState) (s2 : St) (hd : s2.data.length = st.dataSize) (hl : s2.linear.length = st.linearSize)
    (ha : s2.addr.length = st.addrSize) (hs : s2.suspended.length = st.susp) :
    restoreSt st s2 = { s2 with curfunc := st.curfunc, pc := st.pc } :=
  restoreSt_sized st s2 _ _ (List.suffix_refl _) hs hd ha hl

theorem WF.restore {s : St} (h : WF s) (st : CtlState) : WF (restoreSt st s) := by
  refine h.same ?_
  intro c hc
  rcases mem_truncate hc with hm | rfl
  · exact h.data c hm
  · trivial

theorem run_mkFunction (name : String) (code : List Instr) (cl : List (Option Nat)) (par : Option Nat) (s : St) :
    (mkFunction name code cl par).run s =
      (.ok s.fns.length, { s with fns := s.fns ++ [({ name, code, closing := cl, parent := par } : FnObj)] }) :=
  Sim.run_mkFunction name code cl par s

/-- a helper function made of freshly compiled code, appended to the function table: the state
its nested evaluation starts in -/
theorem thunk_entry (name : String) {s1 : St} (code : List Instr) (cl : List (Option Nat)) (par : Option Nat) (hw1 : WF s1)
    (hc : AllOK (szS s1) code)
    (hv : ∃ ann, verify { kind := .fn, nformals := 0, varargs := false, nfixed := 0, code := B s1.loops (code ++ [Instr.ret]) } ann = true)
    (lin : List (Option Nat)) (susp : List (List (Option Nat))) :
    WF (thunkSt s1 (thunkObj name code cl par) lin susp) ∧ TExt s1 (thunkSt s1 (thunkObj name code cl par) lin susp) ∧
      s1.fns.length < (thunkSt s1 (thunkObj name code cl par) lin susp).fns.length :=
  have hw2 := wf_mkThunk name code cl par hw1 hc hv
  ⟨hw2.same hw2.data, ⟨⟨_, rfl⟩, ⟨[], by simp [thunkSt]⟩⟩, by simp [thunkSt]⟩

theorem wf_pushVal {s s0 : St} {v : Val} (hk : Kept s s0) (hv : vok s0.fns.length v = true) :
    WF { s0 with data := some v :: s0.data } ∧
      ({ s0 with data := some v :: s0.data } : St).data.map cellOf = .val :: s.data.map cellOf := by
  refine ⟨hk.wf.setData _ _ (cells_cons (cellOK_of_vok hv) hk.wf.data), ?_⟩
  show cellOf (some v) :: s0.data.map cellOf = _
  rw [cellOf_plain (vok_plain hv), hk.same.data]

/-- the operands of a call of a Go builtin, popped, are storable; the builtin runs on well-formed tables -/
theorem user_args {s : St} {k : Nat} {tail : List Cell} {vs : List Val} (hw : WF s)
    (hd : s.data.map cellOf = List.replicate k .val ++ tail) (hm : (s.data.take k).mapM id = some vs) :
    WF (inBuiltin s (s.data.drop k)) ∧ (∀ a ∈ vs.reverse, vok (inBuiltin s (s.data.drop k)).fns.length a = true) ∧ (s.data.drop k).map cellOf = tail := by
  refine ⟨hw.same
    (fun c hcm => hw.data c (List.mem_of_mem_drop hcm)), fun a ha => ?_, by rw [List.map_drop, hd, List.drop_left' (by simp)]⟩
  refine vals_vok _ vs hm (fun c hcm => hw.data c (List.mem_of_mem_take hcm)) (fun c hcm => ?_) a (List.mem_reverse.mp ha)
  rw [List.map_take, hd, List.take_left' (by simp)] at hcm
  exact List.eq_of_mem_replicate hcm

def heapOK (n : Nat) (h : DataHeap) : Prop := ∀ a ∈ h.arrs, ∀ v ∈ a, vok n v = true

/-- the pure builtins make storable values of storable values (Proofs/RunPrim.lean) -/
def PrimOK : Prop := ∀ (n : Nat) (name : String) (args : List Val) (h h' : DataHeap) (v : Val),
  (∀ a ∈ args, vok n a = true) → heapOK n h → prim name args h = some (v, h') → vok n v = true ∧ heapOK n h'

/-- the source of a lazy argument, handed out as data, is storable -/
def QuoteOK : Prop := ∀ (n : Nat) (e : Expr) (h h' : DataHeap) (v : Val),
  heapOK n h → quoteE e h = (v, h') → vok n v = true ∧ heapOK n h'

theorem WF.setHeap {s : St} (hw : WF s) (h' : DataHeap) (hh : heapOK s.fns.length h') : WF { s with heap := h' } :=
  hw.mk' (TExt.same rfl rfl) (fun _ h1 h2 => absurd h2 (Nat.not_lt.mpr h1)) hw.loopstack hw.scopes hh hw.lazies hw.data

theorem kept_setHeap {s : St} (hw : WF s) (h' : DataHeap) (hh : heapOK s.fns.length h') : Kept s { s with heap := h' } :=
  ⟨hw.setHeap h' hh, TExt.same rfl rfl, ⟨rfl, rfl, rfl, rfl, rfl, rfl⟩⟩

theorem heapOK_get {n : Nat} {h : DataHeap} (hh : heapOK n h) (r : Nat) : ∀ v ∈ h.get r, vok n v = true := by
  intro v hv
  unfold DataHeap.get at hv
  rw [List.getD_eq_getElem?_getD] at hv
  cases hr : h.arrs[r]? with
  | none => rw [hr] at hv; simp at hv
  | some a => rw [hr] at hv; exact hh a (List.mem_of_getElem? hr) v hv

theorem heap_get_vok {s : St} (hw : WF s) (r : Nat) : ∀ v ∈ s.heap.get r, vok s.fns.length v = true := heapOK_get hw.heap r

theorem heapOK_alloc {n : Nat} {h : DataHeap} (hh : heapOK n h) (vs : List Val) (hv : ∀ v ∈ vs, vok n v = true) :
    heapOK n (h.alloc vs).2 := by
  intro a ha v hva
  simp only [DataHeap.alloc, List.mem_append, List.mem_cons, List.mem_nil_iff, or_false] at ha
  rcases ha with ha | rfl
  · exact hh a ha v hva
  · exact hv v hva

theorem listToArray_vok {n : Nat} : ∀ (l : Val) (xs : List Val), listToArray l = some xs → vok n l = true →
    ∀ x ∈ xs, vok n x = true := (vok_valPred n).listToArray

theorem kept_vok_mono {s s' : St} (hk : Kept s s') {v : Val} (hv : vok s.fns.length v = true) : vok s'.fns.length v = true :=
  vok_mono hk.ext.fns_len v hv

theorem WF.setTrace {s : St} (hw : WF s) (t : List String) : Kept s { s with trace := t } :=
  ⟨hw.same hw.data,
   TExt.same rfl rfl, ⟨rfl, rfl, rfl, rfl, rfl, rfl⟩⟩

theorem headD_vok {n : Nat} (args : List Val) (ha : ∀ a ∈ args, vok n a = true) : vok n (args.headD .nil) = true := by
  cases args with
  | nil => rfl
  | cons a r => exact ha a (by simp)

/-- the operands of `Apply`, pushed (lazy positions wrapped in value lazies) -/
theorem wf_applyWrap (fo : FnObj) : ∀ (args : List Val) (s : St) (i : Nat), WF s → (∀ a ∈ args, vok s.fns.length a = true) →
    WF (applyWrap fo args s i) ∧
      (applyWrap fo args s i).data.map cellOf = List.replicate args.length .val ++ s.data.map cellOf ∧
      (applyWrap fo args s i).fns = s.fns ∧ (applyWrap fo args s i).loops = s.loops ∧
      (applyWrap fo args s i).linear = s.linear ∧ (applyWrap fo args s i).addr = s.addr ∧
      (applyWrap fo args s i).curfunc = s.curfunc ∧ (applyWrap fo args s i).pc = s.pc ∧
      (applyWrap fo args s i).suspended = s.suspended
  | [], s, i, hw, _ => ⟨hw, rfl, rfl, rfl, rfl, rfl, rfl, rfl, rfl⟩
  | v :: rest, s, i, hw, ha => by
    have hv := ha v (by simp)
    have step : ∀ s1 : St, WF s1 → s1.data.map cellOf = .val :: s.data.map cellOf → s1.fns = s.fns → s1.loops = s.loops →
        s1.linear = s.linear → s1.addr = s.addr → s1.curfunc = s.curfunc → s1.pc = s.pc → s1.suspended = s.suspended →
        WF (applyWrap fo rest s1 (i + 1)) ∧
          (applyWrap fo rest s1 (i + 1)).data.map cellOf = List.replicate (v :: rest).length .val ++ s.data.map cellOf ∧
          (applyWrap fo rest s1 (i + 1)).fns = s.fns ∧ (applyWrap fo rest s1 (i + 1)).loops = s.loops ∧
          (applyWrap fo rest s1 (i + 1)).linear = s.linear ∧ (applyWrap fo rest s1 (i + 1)).addr = s.addr ∧
          (applyWrap fo rest s1 (i + 1)).curfunc = s.curfunc ∧ (applyWrap fo rest s1 (i + 1)).pc = s.pc ∧
          (applyWrap fo rest s1 (i + 1)).suspended = s.suspended := by
      intro s1 hw1 hd1 hf1 hl1 g1 g2 g3 g4 g5
      obtain ⟨h1, h2, h3, h4, h5, h6, h7, h8, h9⟩ :=
        wf_applyWrap fo rest s1 (i + 1) hw1 (fun a h => by rw [hf1]; exact ha a (by simp [h]))
      refine ⟨h1, ?_, h3.trans hf1, h4.trans hl1, h5.trans g1, h6.trans g2, h7.trans g3, h8.trans g4, h9.trans g5⟩
      rw [h2, hd1, List.length_cons, List.replicate_succ']
      simp
    rw [applyWrap]
    split
    · refine step (pushLazyVal s v) ?_ rfl rfl rfl rfl rfl rfl rfl rfl
      refine hw.grow (TExt.same rfl rfl) (fun j h1 h2 => absurd h2 (Nat.not_lt.mpr h1)) rfl rfl rfl ?_ ?_
      · intro lz hlz
        rcases List.mem_append.mp hlz with hm | hm
        · left; exact hm
        · right
          simp at hm; subst hm
          exact ⟨rfl, fun w hw' => by cases hw'; exact hv⟩
      · intro c hcm
        rcases List.mem_cons.mp hcm with rfl | hcm
        · right; trivial
        · left; exact hcm
    · refine step (pushVal s v) ?_ (by simp [cellOf_plain (vok_plain hv), pushVal]) rfl rfl rfl rfl rfl rfl rfl
      exact hw.setData _ _ (cells_cons (cellOK_of_vok hv) hw.data)

/-- `wf_applyWrap`, said of the fold as it stands in the body of `applyFn` -/
theorem applyWrap_spec (fo : FnObj) : ∀ (args : List Val) (s : St) (i : Nat), WF s → (∀ a ∈ args, vok s.fns.length a = true) →
    let s2 := (args.foldl (fun (p : St × Nat) v =>
      if fo.isLazyCallArg p.2 then
        ({ p.1 with lazies := p.1.lazies ++ [({ e := .nilLit, stack := [], curfunc := 0, value := some v, isValue := true } : LazyObj)],
                    data := some (.lazy p.1.lazies.length) :: p.1.data }, p.2 + 1)
      else ({ p.1 with data := some v :: p.1.data }, p.2 + 1)) (s, i)).1
    WF s2 ∧ s2.data.map cellOf = List.replicate args.length .val ++ s.data.map cellOf ∧ s2.fns = s.fns ∧ s2.loops = s.loops ∧
      s2.linear = s.linear ∧ s2.addr = s.addr ∧ s2.curfunc = s.curfunc ∧ s2.pc = s.pc ∧ s2.suspended = s.suspended :=
  fun args s i hw ha => by rw [applyWrap_eq]; exact wf_applyWrap fo args s i hw ha

/-- `restore` after the nested run of a forced lazy: the scope stack set aside comes back -/
theorem restoreSt_force (s1 s3 : St) (hd : s3.data.length = s1.data.length) (ha : s3.addr = s1.addr)
    (hs : s3.suspended = s1.linear :: s1.suspended) :
    restoreSt (captureOf s1) s3 = { s3 with linear := s1.linear, suspended := s1.suspended, curfunc := s1.curfunc, pc := s1.pc } :=
  restoreSt_sized (captureOf s1) s3 _ _ (hs ▸ List.suffix_cons _ _) rfl hd (congrArg List.length ha) rfl

theorem forceFinish_succ {id : Nat} {lz : LazyObj} {w v : Val} {t0 t1 : St} (hw0 : WF t0) (hlz : okL lz.e = true)
    (hvw : vok t0.fns.length w = true) (h : (C16.forceFinish id lz w).run t0 = (.ok v, t1)) : Kept t0 t1 ∧ w = v := by
  cases h
  refine ⟨⟨?_, TExt.same rfl rfl, ⟨rfl, rfl, rfl, rfl, rfl, rfl⟩⟩, rfl⟩
  refine hw0.grow (TExt.same rfl rfl) (fun j h1 h2 => absurd h2 (Nat.not_lt.mpr h1)) rfl rfl rfl ?_ (fun c h => Or.inl h)
  intro l hl
  rcases List.mem_or_eq_of_mem_set hl with hm | rfl
  · left; exact hm
  · right
    exact ⟨hlz, fun x hx => by cases hx; exact hvw⟩

end ZygoVerif.RunInv
