/-
C06, Pratt loop = stratified grammar: facts about the model of pratt.go that do not mention the grammar.

The fragment: `fragList (okNudB T)` — every token, at every depth of selectors (they are parsed recursively), starts an
expression as an atom or as a prefix operator: no `if`, `for`, `break`, `continue`. The statements about fuel carry the
hypothesis `hc : okNudB T (.sym ":") = true`: `splitColonTailSelectorSymbols` turns a label `x:` inside a selector into
the two tokens `x` and `:`, so the manufactured `.sym ":"` must itself be a token of the fragment (`fragList_split`).

A round of `Expression` and of its loop is one step (`nudStep`, `ledStep`) followed by the loop (`expr_cons`,
`loop_cons`); what follows is proved about the steps and carried through these two equations: the stop property
(`expr_loop_basic`, by induction on the fuel), the fuel theorem (`fuel_step`, by induction on the weight of the token
list: `Settles.step` on a round, then `Settles.bind` of the step and the loop), and in the same way the fuel-free
equations of `PE`/`PL` (`step_loop`: a step, then `PL`; `PL_step` with `PLed`, from which the equation of each kind of
operator is read off) up to `PL_decomp`.
-/
import ZygoVerif.Proofs.SelBody
namespace ZygoVerif.Pratt

def okNudB (T : Table) (t : Sx) : Bool :=
  match nudOf T t with
  | .atom => true
  | .pre _ _ => true
  | _ => false

mutual
def fragTok (p : Sx → Bool) : Sx → Bool
  | .arr xs => p (.arr xs) && fragList p xs
  | .sym n => p (.sym n)
  | .dot n => p (.dot n)
  | .lab n => p (.lab n)
  | .lit s => p (.lit s)
  | .other u s => p (.other u s)
  | .list xs => p (.list xs)
  | .comma => p .comma
  | .semi => p .semi
  | .hash => p .hash
  | .null => p .null
def fragList (p : Sx → Bool) : List Sx → Bool
  | [] => true
  | t :: ts => fragTok p t && fragList p ts
end

theorem fragTok_top (p : Sx → Bool) (t : Sx) (h : fragTok p t = true) : p t = true := by
  cases t <;> simp_all [fragTok]

theorem fragList_mem (p : Sx → Bool) (ts : List Sx) (h : fragList p ts = true) : ∀ t ∈ ts, fragTok p t = true := by
  induction ts with
  | nil => intro t ht; cases ht
  | cons a r ih =>
    simp only [fragList, Bool.and_eq_true] at h
    intro t ht
    rw [List.mem_cons] at ht
    rcases ht with rfl | ht
    · exact h.1
    · exact ih h.2 t ht

theorem fragList_of_mem (p : Sx → Bool) (ts : List Sx) (h : ∀ t ∈ ts, fragTok p t = true) : fragList p ts = true := by
  induction ts with
  | nil => rfl
  | cons a r ih =>
    simp only [fragList, Bool.and_eq_true]
    exact ⟨h a (by simp), ih (fun t ht => h t (by simp [ht]))⟩

theorem fragList_sublist (p : Sx → Bool) (ts ts' : List Sx) (h : fragList p ts = true) (hs : ∀ t ∈ ts', t ∈ ts) :
    fragList p ts' = true :=
  fragList_of_mem p ts' (fun t ht => fragList_mem p ts h t (hs t ht))

mutual
theorem fragTok_mono {p q : Sx → Bool} (hpq : ∀ t, p t = true → q t = true) : ∀ t, fragTok p t = true → fragTok q t = true
  | .arr xs, h => by
    simp only [fragTok, Bool.and_eq_true] at h ⊢
    exact ⟨hpq _ h.1, fragList_mono hpq xs h.2⟩
  | .sym _, h | .dot _, h | .lab _, h | .lit _, h | .other _ _, h | .list _, h | .comma, h | .semi, h | .hash, h | .null, h => by
    simp only [fragTok] at h ⊢; exact hpq _ h
theorem fragList_mono {p q : Sx → Bool} (hpq : ∀ t, p t = true → q t = true) : ∀ ts, fragList p ts = true → fragList q ts = true
  | [], _ => rfl
  | t :: ts, h => by
    simp only [fragList, Bool.and_eq_true] at h ⊢
    exact ⟨fragTok_mono hpq t h.1, fragList_mono hpq ts h.2⟩
end

theorem nudOf_lab (T : Table) (n : String) : nudOf T (.lab n) = nudOf T (.sym n) := rfl

/-- `splitColonTailSelectorSymbols` leaves every token but a label as it is -/
theorem splitColonTail_cons {t : Sx} (h : ∀ n, t ≠ .lab n) (ts : List Sx) : splitColonTail (t :: ts) = t :: splitColonTail ts := by
  cases t with
  | lab n => exact absurd rfl (h n)
  | _ => rfl

theorem fragList_split {p : Sx → Bool} (hc : p (.sym ":") = true) (hlab : ∀ n, p (.lab n) = true → p (.sym n) = true)
    (xs : List Sx) (h : fragList p xs = true) : fragList p (splitColonTail xs) = true := by
  induction xs with
  | nil => rfl
  | cons a r ih =>
    simp only [fragList, Bool.and_eq_true] at h
    have hr := ih h.2
    by_cases hl : ∃ n, a = .lab n
    · obtain ⟨n, rfl⟩ := hl; simp [splitColonTail, fragList, fragTok, hlab n (fragTok_top _ _ h.1), hc, hr]
    · rw [splitColonTail_cons (fun n hn => hl ⟨n, hn⟩)]
      simp only [fragList, Bool.and_eq_true]; exact ⟨h.1, hr⟩

theorem fragTok_arr (p : Sx → Bool) (xs : List Sx) (h : fragTok p (.arr xs) = true) : fragList p xs = true := by
  simp only [fragTok, Bool.and_eq_true] at h; exact h.2

theorem frag_tail {p : Sx → Bool} {t : Sx} {ts : List Sx} (h : fragList p (t :: ts) = true) : fragList p ts = true := by
  simp only [fragList, Bool.and_eq_true] at h; exact h.2

theorem frag_head {p : Sx → Bool} {t : Sx} {ts : List Sx} (h : fragList p (t :: ts) = true) : fragTok p t = true := by
  simp only [fragList, Bool.and_eq_true] at h; exact h.1

theorem frag_suffix {p : Sx → Bool} {ts ts' : List Sx} (h : fragList p ts = true) (hs : ts' <:+ ts) :
    fragList p ts' = true :=
  fragList_sublist _ ts ts' h (fun _ ha => hs.subset ha)

mutual
/-- A round of the loop consumes a token; a selector `[…]` recurses into its parts, which weigh less than the token;
`splitColonTailSelectorSymbols` makes a label two tokens, so a label weighs 2. -/
def pw : Sx → Nat
  | .arr xs => pwList xs + 2
  | .lab _ => 2
  | .sym _ => 1
  | .dot _ => 1
  | .lit _ => 1
  | .other _ _ => 1
  | .list _ => 1
  | .comma => 1
  | .semi => 1
  | .hash => 1
  | .null => 1
def pwList : List Sx → Nat
  | [] => 0
  | t :: ts => pw t + pwList ts
end

theorem pw_pos (t : Sx) : 1 ≤ pw t := by cases t <;> simp [pw]

theorem pwList_split (xs : List Sx) : pwList (splitColonTail xs) = pwList xs := by
  induction xs with
  | nil => rfl
  | cons a r ih =>
    by_cases hl : ∃ n, a = .lab n
    · obtain ⟨n, rfl⟩ := hl; simp only [splitColonTail, pwList, pw, ih]; omega
    · rw [splitColonTail_cons (fun n hn => hl ⟨n, hn⟩)]; simp only [pwList, ih]

theorem pwList_append (a b : List Sx) : pwList (a ++ b) = pwList a + pwList b := by
  induction a with
  | nil => simp [pwList]
  | cons x r ih => simp [pwList, ih]; omega

theorem pwList_suffix {a b : List Sx} (h : a <:+ b) : pwList a ≤ pwList b := by
  obtain ⟨p, rfl⟩ := h
  rw [pwList_append]; omega

theorem pwList_cons_lt (t : Sx) (ts : List Sx) : pwList ts < pwList (t :: ts) := by
  have := pw_pos t; simp only [pwList]; omega

theorem normSelector_succ (T : Table) (f : Nat) (xs : List Sx) :
    normSelector T (f + 1) (.arr xs) =
      selBody (prattOne T f) (fun toks => (expr T f 0 (staleOf toks) toks).map fun r => (r.1, r.2.2)) (splitColonTail xs) := by
  rw [normSelector.eq_2]
  unfold selBody optOne selBefore selAfter
  dsimp only
  cases (if (List.takeWhile (fun t => !t.isNamed ":") (splitColonTail xs)).isEmpty = true then some []
      else Option.map (fun x => [x]) (prattOne T f (List.takeWhile (fun t => !t.isNamed ":") (splitColonTail xs)))) <;>
  cases (if (List.dropWhile (fun t => !t.isNamed ":") (splitColonTail xs)).tail.isEmpty = true then some []
      else Option.map (fun x => [x]) (prattOne T f (List.dropWhile (fun t => !t.isNamed ":") (splitColonTail xs)).tail)) <;>
  cases expr T f 0 (staleOf (splitColonTail xs)) (splitColonTail xs) with
  | none => rfl
  | some p => obtain ⟨x, st1, ts1⟩ := p; cases ts1 <;> rfl

theorem prattOne_succ (T : Table) (f : Nat) (ts : List Sx) :
    prattOne T (f + 1) ts = (expr T f 0 (staleOf ts) ts).bind fun p => match p with
      | (x, _, []) => some x
      | _ => none := by
  rw [prattOne.eq_2]
  cases expr T f 0 (staleOf ts) ts with
  | none => rfl
  | some p => obtain ⟨x, st1, ts1⟩ := p; cases ts1 <;> rfl

/-- `MunchRight` of the first token of an expression: the left tree, the stale token, the rest -/
def nudStep (T : Table) (f : Nat) (t st : Sx) (ts : List Sx) : Res :=
  match nudOf T t with
  | .atom => some (t, st, ts)
  | .pre name r => (expr T f r st ts).map fun p => (.list [.sym name, p.1], p.2)
  | _ => none

/-- `MunchLeft` of the operator `t` met by the loop -/
def ledStep (T : Table) (f : Nat) (t left st : Sx) (ts : List Sx) : Res :=
  match ledOf T t with
  | .bin name r => (expr T f r st ts).map fun p => (.list [.sym name, left, p.1], p.2)
  | .post name => some (.list [.sym name, left], st, ts)
  | .field => some (.list [.sym "hashidx", left, t], st, ts)
  | .index => (normSelector T f t).map fun sel => (.list [.sym "arrayidx", left, sel], st, ts)
  | .drop => some (t, st, ts)

theorem expr_cons {T : Table} {f rbp : Nat} {st t : Sx} {ts : List Sx} (h : okNudB T t = true) :
    expr T (f + 1) rbp st (t :: ts) = (nudStep T f t st ts).bind fun p => loop T f rbp p.1 p.2.1 p.2.2 := by
  rw [expr.eq_3]
  unfold nudStep
  revert h
  unfold okNudB
  cases nudOf T t with
  | atom => intro _; rfl
  | pre n r => intro _; dsimp only; cases expr T f r st ts <;> rfl
  | _ => exact fun h => Bool.noConfusion h

theorem loop_cons {T : Table} {f rbp l : Nat} {left st t : Sx} {ts : List Sx} (hl : lbp T t = some l) :
    loop T (f + 1) rbp left st (t :: ts) =
      if rbp ≥ l then some (left, st, t :: ts) else (ledStep T f t left st ts).bind fun p => loop T f rbp p.1 p.2.1 p.2.2 := by
  rw [loop.eq_3, hl]
  unfold ledStep
  dsimp only
  split
  · rfl
  · cases ledOf T t with
    | bin name r => dsimp only; cases expr T f r st ts <;> rfl
    | index => dsimp only; cases normSelector T f t <;> rfl
    | _ => rfl

theorem loop_cons_none {T : Table} {f rbp : Nat} {left st t : Sx} {ts : List Sx} (hl : lbp T t = none) :
    loop T (f + 1) rbp left st (t :: ts) = none := by
  rw [loop.eq_3, hl]

theorem nudStep_res {T : Table} {f : Nat} {t st : Sx} {ts : List Sx} {p : Sx × Sx × List Sx}
    (hE : ∀ r res, expr T f r st ts = some res → res.2.1 = st ∧ res.2.2 <:+ ts)
    (h : nudStep T f t st ts = some p) : p.2.1 = st ∧ p.2.2 <:+ ts := by
  unfold nudStep at h
  split at h
  · cases h; exact ⟨rfl, List.suffix_refl _⟩
  · obtain ⟨q, hq, rfl⟩ := Option.map_eq_some_iff.1 h; exact hE _ q hq
  · cases h

theorem ledStep_res {T : Table} {f : Nat} {t left st : Sx} {ts : List Sx} {p : Sx × Sx × List Sx}
    (hE : ∀ r res, expr T f r st ts = some res → res.2.1 = st ∧ res.2.2 <:+ ts)
    (h : ledStep T f t left st ts = some p) : p.2.1 = st ∧ p.2.2 <:+ ts := by
  unfold ledStep at h
  split at h
  · obtain ⟨q, hq, rfl⟩ := Option.map_eq_some_iff.1 h; exact hE _ q hq
  · cases h; exact ⟨rfl, List.suffix_refl _⟩
  · cases h; exact ⟨rfl, List.suffix_refl _⟩
  · obtain ⟨q, _, rfl⟩ := Option.map_eq_some_iff.1 h; exact ⟨rfl, List.suffix_refl _⟩
  · cases h; exact ⟨rfl, List.suffix_refl _⟩

/-- the head token of `ts`, if there is one, binds no tighter than `c` -/
def HeadLe (T : Table) (ts : List Sx) (c : Nat) : Prop := ∀ t r, ts = t :: r → ∃ l, lbp T t = some l ∧ l ≤ c

def Basic (T : Table) (rbp : Nat) (st : Sx) (ts : List Sx) (res : Sx × Sx × List Sx) : Prop :=
  res.2.1 = st ∧ res.2.2 <:+ ts ∧ HeadLe T res.2.2 rbp

theorem expr_loop_basic (T : Table) : ∀ f,
    (∀ rbp st ts res, fragList (okNudB T) ts = true → expr T f rbp st ts = some res → Basic T rbp st ts res) ∧
    (∀ rbp left st ts res, fragList (okNudB T) ts = true → loop T f rbp left st ts = some res → Basic T rbp st ts res) := by
  intro f
  induction f with
  | zero => exact ⟨fun _ _ _ _ _ h => by simp [expr] at h, fun _ _ _ _ _ _ h => by simp [loop] at h⟩
  | succ f ih =>
    obtain ⟨ihE, ihL⟩ := ih
    have atEnd : ∀ rbp st (x : Sx), Basic T rbp st [] (x, st, []) :=
      fun _ _ _ => ⟨rfl, List.suffix_refl _, fun t r hr => by cases hr⟩
    -- a step, then the loop on what the step left
    have after : ∀ {rbp : Nat} {st t : Sx} {ts : List Sx} {p res : Sx × Sx × List Sx}, fragList (okNudB T) ts = true →
        p.2.1 = st ∧ p.2.2 <:+ ts → loop T f rbp p.1 p.2.1 p.2.2 = some res → Basic T rbp st (t :: ts) res := by
      intro rbp st t ts p res hok ⟨h1, h2⟩ hl
      obtain ⟨g1, g2, g3⟩ := ihL _ _ _ _ _ (frag_suffix hok h2) hl
      exact ⟨g1.trans h1, (g2.trans h2).trans (List.suffix_cons t ts), g3⟩
    have hE : ∀ {st : Sx} {ts : List Sx}, fragList (okNudB T) ts = true → ∀ r res, expr T f r st ts = some res → res.2.1 = st ∧ res.2.2 <:+ ts :=
      fun hok r res h => ⟨(ihE r _ _ res hok h).1, (ihE r _ _ res hok h).2.1⟩
    constructor
    · intro rbp st ts res hok h
      cases ts with
      | nil => rw [expr.eq_2] at h; cases h; exact atEnd _ _ _
      | cons t ts =>
        rw [expr_cons (fragTok_top _ _ (frag_head hok))] at h
        obtain ⟨p, hp, hl⟩ := Option.bind_eq_some_iff.1 h
        exact after (frag_tail hok) (nudStep_res (hE (frag_tail hok)) hp) hl
    · intro rbp left st ts res hok h
      cases ts with
      | nil => rw [loop.eq_2] at h; cases h; exact atEnd _ _ _
      | cons t ts =>
        cases hl : lbp T t with
        | none => rw [loop_cons_none hl] at h; cases h
        | some l =>
          rw [loop_cons hl] at h
          split at h
          · rename_i hge
            cases h
            exact ⟨rfl, List.suffix_refl _, fun t' r hr => by cases hr; exact ⟨l, hl, hge⟩⟩
          · obtain ⟨p, hp, hl'⟩ := Option.bind_eq_some_iff.1 h
            exact after (frag_tail hok) (ledStep_res (hE (frag_tail hok)) hp) hl'

section Frag
variable {T : Table} {st : Sx}

theorem expr_res {f rbp : Nat} {ts : List Sx} {x st1 : Sx} {ts1 : List Sx} (hfr : fragList (okNudB T) ts = true)
    (h : expr T f rbp st ts = some (x, st1, ts1)) :
    st1 = st ∧ ts1 <:+ ts ∧ HeadLe T ts1 rbp :=
  (expr_loop_basic T f).1 _ _ _ _ hfr h

theorem loop_res {f rbp : Nat} {left : Sx} {ts : List Sx} {x st1 : Sx} {ts1 : List Sx} (hfr : fragList (okNudB T) ts = true)
    (h : loop T f rbp left st ts = some (x, st1, ts1)) :
    st1 = st ∧ ts1 <:+ ts ∧ HeadLe T ts1 rbp :=
  (expr_loop_basic T f).2 _ _ _ _ _ hfr h

theorem expr_stale_suffix {f : Nat} {ts : List Sx} (hfr : fragList (okNudB T) ts = true) (r : Nat) (res : Sx × Sx × List Sx)
    (h : expr T f r st ts = some res) : res.2.1 = st ∧ res.2.2 <:+ ts :=
  ⟨(expr_res hfr h).1, (expr_res hfr h).2.1⟩

theorem expr_consumes {f rbp : Nat} {t : Sx} {ts : List Sx} {res : Sx × Sx × List Sx} (hfr : fragList (okNudB T) (t :: ts) = true)
    (h : expr T f rbp st (t :: ts) = some res) : res.2.2 <:+ ts := by
  cases f with
  | zero => simp [expr] at h
  | succ f =>
    rw [expr_cons (fragTok_top _ _ (frag_head hfr))] at h
    obtain ⟨p, hp, hl⟩ := Option.bind_eq_some_iff.1 h
    obtain ⟨h1, h2⟩ := nudStep_res (expr_stale_suffix (frag_tail hfr)) hp
    exact (loop_res (frag_suffix (frag_tail hfr) h2) hl).2.1.trans h2

end Frag

section Settles
variable {T : Table} {k : Nat}

theorem nudStep_settles {t st : Sx} {ts : List Sx} (hE : ∀ r, Settles (fun f => expr T f r st ts) k) :
    Settles (fun f => nudStep T f t st ts) k := by
  unfold nudStep
  cases nudOf T t with
  | pre name r => exact (hE r).map _
  | _ => exact Settles.const _ _

theorem ledStep_settles {t left st : Sx} {ts : List Sx} (hE : ∀ r, Settles (fun f => expr T f r st ts) k)
    (hS : Settles (fun f => normSelector T f t) k) : Settles (fun f => ledStep T f t left st ts) k := by
  unfold ledStep
  cases ledOf T t with
  | bin name r => exact (hE r).map _
  | index => exact hS.map _
  | _ => exact Settles.const _ _

theorem prattOne_settles_of {ts : List Sx} (h : Settles (fun f => expr T f 0 (staleOf ts) ts) k) :
    Settles (fun f => prattOne T f ts) (k + 1) :=
  Settles.step rfl (fun f => prattOne_succ T f ts) (h.bind fun _ _ => Settles.const _ _)

variable (hc : okNudB T (.sym ":") = true)
include hc

/-- a selector settles at its weight when `Expression` settles on every list lighter than the selector: both parts of a
slice, or the whole, are lighter than the selector, and in a slice the colon pays for `prattOne` -/
theorem normSelector_settles_of {t : Sx} (hft : fragTok (okNudB T) t = true)
    (hE : ∀ ts, pwList ts + 2 ≤ pw t → fragList (okNudB T) ts = true → ∀ st, Settles (fun f => expr T f 0 st ts) (pwList ts + 1)) :
    Settles (fun f => normSelector T f t) (pw t) := by
  cases t with
  | arr xs =>
    have htoks := fragList_split hc (fun _ h => h) xs (fragTok_arr _ xs hft)
    have hw := pwList_split xs
    exact Settles.step rfl (fun f => normSelector_succ T f xs) <| selBody_settles pwList_append pwList_cons_lt
      (fun _ l hsub hl => (prattOne_settles_of (hE l (by simp only [pw]; omega) (fragList_sublist _ _ _ htoks hsub) _)).of_le
        (by omega))
      (fun _ => ((hE _ (by simp only [pw]; omega) htoks _).map _).of_le (by omega))
  | _ => exact (Settles.step rfl (fun _ => rfl) (Settles.const _ 0)).of_le (pw_pos _)

/-- One more unit of fuel changes nothing — neither a result nor a `none` — once the run has returned a result, or the
fuel exceeds the weight of the token list. By induction on the weight: every recursive call is on a token list of
strictly smaller weight `pwList`, and a round is `Settles.step` followed by the shape of its body, as for `Returns`. -/
theorem fuel_step : ∀ ts : List Sx, fragList (okNudB T) ts = true →
    (∀ rbp st, Settles (fun f => expr T f rbp st ts) (pwList ts + 1)) ∧
    (∀ rbp left st, Settles (fun f => loop T f rbp left st ts) (pwList ts + 1)) := by
  intro ts
  induction hn : pwList ts using Nat.strongRecOn generalizing ts with
  | _ n ih =>
    intro hfr
    subst hn
    cases ts with
    | nil =>
      exact ⟨fun _ _ => Settles.step rfl (fun _ => expr.eq_2 ..) (Settles.const _ _),
        fun _ _ _ => Settles.step rfl (fun _ => loop.eq_2 ..) (Settles.const _ _)⟩
    | cons t ts =>
      have hfr' := frag_tail hfr
      have hlt := pwList_cons_lt t ts
      have hE : ∀ {st : Sx} (r : Nat), Settles (fun f => expr T f r st ts) (pwList (t :: ts)) :=
        fun r => ((ih _ hlt ts rfl hfr').1 r _).of_le hlt
      -- the loop on what a step has left
      have after : ∀ {s : Nat → Res} {rbp : Nat} {st : Sx}, (∀ f p, s f = some p → p.2.1 = st ∧ p.2.2 <:+ ts) →
          ∀ p, Returns s p → Settles (fun f => loop T f rbp p.1 p.2.1 p.2.2) (pwList (t :: ts)) := by
        intro s rbp st hres p ⟨f, hp⟩
        have hs := (hres f p hp).2
        have := pwList_suffix hs
        exact ((ih _ (by omega) p.2.2 rfl (frag_suffix hfr' hs)).2 rbp p.1 p.2.1).of_le (by omega)
      refine ⟨fun rbp st => ?_, fun rbp left st => ?_⟩
      · exact Settles.step rfl (fun f => expr_cons (fragTok_top _ _ (frag_head hfr))) <|
          (nudStep_settles hE).bind (after fun _ _ => nudStep_res (expr_stale_suffix hfr'))
      · cases hl : lbp T t with
        | none => exact Settles.step rfl (fun _ => loop_cons_none hl) (Settles.const _ _)
        | some l =>
          by_cases hge : rbp ≥ l
          · exact Settles.step rfl (fun _ => (loop_cons hl).trans (if_pos hge)) (Settles.const _ _)
          · have hS := normSelector_settles_of hc (frag_head hfr) fun ts' hw hf st =>
              (ih _ (by simp only [pwList]; omega) ts' rfl hf).1 0 st
            exact Settles.step rfl (fun _ => (loop_cons hl).trans (if_neg hge)) <|
              (ledStep_settles hE (hS.of_le (by simp only [pwList]; omega))).bind
                (after fun _ _ => ledStep_res (expr_stale_suffix hfr'))

theorem expr_settles {rbp : Nat} {st : Sx} {ts : List Sx} (hfr : fragList (okNudB T) ts = true) :
    Settles (fun f => expr T f rbp st ts) (pwList ts + 1) := (fuel_step hc ts hfr).1 rbp st

theorem loop_settles {rbp : Nat} {left st : Sx} {ts : List Sx} (hfr : fragList (okNudB T) ts = true) :
    Settles (fun f => loop T f rbp left st ts) (pwList ts + 1) := (fuel_step hc ts hfr).2 rbp left st

theorem prattOne_settles {ts : List Sx} (hfr : fragList (okNudB T) ts = true) :
    Settles (fun f => prattOne T f ts) (pwList ts + 2) := prattOne_settles_of (expr_settles hc hfr)

theorem normSelector_settles {t : Sx} (hft : fragTok (okNudB T) t = true) :
    Settles (fun f => normSelector T f t) (pw t) := normSelector_settles_of hc hft fun _ _ hf _ => expr_settles hc hf

end Settles

/-- `Pratt.Expression(rbp)` on the tokens `ts` returns the tree `r.1` and leaves `r.2` -/
def PE (T : Table) (st : Sx) (rbp : Nat) (ts : List Sx) (r : Sx × List Sx) : Prop :=
  Returns (fun f => expr T f rbp st ts) (r.1, st, r.2)

/-- the loop of `Expression(rbp)` with `left` parsed so far -/
def PL (T : Table) (st : Sx) (rbp : Nat) (left : Sx) (ts : List Sx) (r : Sx × List Sx) : Prop :=
  Returns (fun f => loop T f rbp left st ts) (r.1, st, r.2)

def PLed (T : Table) (st t left : Sx) (ts : List Sx) (p : Sx × List Sx) : Prop :=
  Returns (fun f => ledStep T f t left st ts) (p.1, st, p.2)

def PSel (T : Table) (t : Sx) (s : Sx) : Prop := Returns (fun f => normSelector T f t) s

def POne (T : Table) (ts : List Sx) (x : Sx) : Prop := Returns (fun f => prattOne T f ts) x

section Eqns
variable {T : Table} (hc : okNudB T (.sym ":") = true) {st : Sx}

theorem PE.suffix {rbp : Nat} {ts : List Sx} {r : Sx × List Sx} (hfr : fragList (okNudB T) ts = true) (h : PE T st rbp ts r) :
    r.2 <:+ ts := by
  obtain ⟨f, h⟩ := h; exact (expr_res hfr h).2.1

theorem PL.suffix {rbp : Nat} {left : Sx} {ts : List Sx} {r : Sx × List Sx} (hfr : fragList (okNudB T) ts = true)
    (h : PL T st rbp left ts r) : r.2 <:+ ts := by
  obtain ⟨f, h⟩ := h; exact (loop_res hfr h).2.1

/-- the stop property of `Expression` -/
theorem PE.stop {rbp : Nat} {ts : List Sx} {r : Sx × List Sx} (hfr : fragList (okNudB T) ts = true)
    (h : PE T st rbp ts r) : HeadLe T r.2 rbp := by
  obtain ⟨f, h⟩ := h; exact (expr_res hfr h).2.2

theorem PL.stop {rbp : Nat} {left : Sx} {ts : List Sx} {r : Sx × List Sx} (hfr : fragList (okNudB T) ts = true)
    (h : PL T st rbp left ts r) : HeadLe T r.2 rbp := by
  obtain ⟨f, h⟩ := h; exact (loop_res hfr h).2.2

/-- `Expression` with the stale token dropped from its result, as `expression` and the selector run it -/
theorem PE_map {rbp : Nat} {ts : List Sx} {r : Sx × List Sx} (hfr : fragList (okNudB T) ts = true) :
    Returns (fun f => (expr T f rbp st ts).map fun p => (p.1, p.2.2)) r ↔ PE T st rbp ts r := by
  refine Returns.map.trans ⟨?_, fun h => ⟨_, h, rfl⟩⟩
  rintro ⟨⟨x, st1, ts1⟩, ⟨f, h⟩, rfl⟩
  obtain ⟨rfl, _, _⟩ := expr_res hfr h
  exact ⟨f, h⟩

theorem stale_eq {r : Sx × List Sx} {x : Sx} {ts : List Sx} : (r.1, st, r.2) = (x, st, ts) ↔ r = (x, ts) :=
  ⟨fun h => Prod.ext (congrArg (·.1) h) (congrArg (·.2.2) h), fun h => h ▸ rfl⟩

theorem PE_nil (rbp : Nat) (r : Sx × List Sx) : PE T st rbp [] r ↔ r = (st, []) :=
  (Returns.step rfl fun _ => expr.eq_2 ..).trans (Returns.pure.trans stale_eq)

theorem PL_nil (rbp : Nat) (left : Sx) (r : Sx × List Sx) : PL T st rbp left [] r ↔ r = (left, []) :=
  (Returns.step rfl fun _ => loop.eq_2 ..).trans (Returns.pure.trans stale_eq)

theorem PL_stop {rbp l : Nat} {left t : Sx} {ts : List Sx} {r : Sx × List Sx} (hl : lbp T t = some l) (hge : rbp ≥ l) :
    PL T st rbp left (t :: ts) r ↔ r = (left, t :: ts) :=
  (Returns.step rfl fun _ => (loop_cons hl).trans (if_pos hge)).trans (Returns.pure.trans stale_eq)

theorem PL_none {rbp : Nat} {left t : Sx} {ts : List Sx} {r : Sx × List Sx} (hl : lbp T t = none) :
    ¬ PL T st rbp left (t :: ts) r :=
  fun h => nomatch (Returns.step rfl fun _ => loop_cons_none hl).1 h

include hc in
theorem ledStep_keeps {t left : Sx} {ts : List Sx} (hfr : fragList (okNudB T) (t :: ts) = true) :
    Keeps fun f => ledStep T f t left st ts :=
  (ledStep_settles (fun _ => (expr_settles hc (frag_tail hfr)).of_le (Nat.le_max_left _ (pw t)))
    ((normSelector_settles hc (frag_head hfr)).of_le (Nat.le_max_right _ _))).keeps

include hc in
/-- a step that keeps the stale token and leaves a suffix of `ts`, followed by the loop on what it left -/
theorem step_loop {s : Nat → Res} {rbp : Nat} {ts : List Sx} {r : Sx × List Sx} (hfr : fragList (okNudB T) ts = true)
    (hs : Keeps s) (hres : ∀ f p, s f = some p → p.2.1 = st ∧ p.2.2 <:+ ts) :
    Returns (fun f => (s f).bind fun p => loop T f rbp p.1 p.2.1 p.2.2) (r.1, st, r.2) ↔
      ∃ x ts1, Returns s (x, st, ts1) ∧ PL T st rbp x ts1 r := by
  refine (Returns.bind hs fun p ⟨f, hp⟩ => (loop_settles hc (frag_suffix hfr (hres f p hp).2)).keeps).trans ?_
  constructor
  · rintro ⟨⟨x, st1, ts1⟩, ⟨f, h1⟩, h2⟩
    obtain rfl : st1 = st := (hres f _ h1).1
    exact ⟨x, ts1, ⟨f, h1⟩, h2⟩
  · rintro ⟨x, ts1, h1, h2⟩; exact ⟨_, h1, h2⟩

include hc in
theorem PL_step {rbp l : Nat} {left t : Sx} {ts : List Sx} {r : Sx × List Sx}
    (hfr : fragList (okNudB T) (t :: ts) = true) (hl : lbp T t = some l) (hlt : ¬ rbp ≥ l) :
    PL T st rbp left (t :: ts) r ↔ ∃ x ts1, PLed T st t left ts (x, ts1) ∧ PL T st rbp x ts1 r :=
  (Returns.step rfl fun _ => (loop_cons hl).trans (if_neg hlt)).trans <|
    step_loop hc (frag_tail hfr) (ledStep_keeps hc hfr) fun _ _ => ledStep_res (expr_stale_suffix (frag_tail hfr))

/-- a step that is a sub-expression with its tree wrapped -/
theorem sub_step {c : Sx → Sx} {Q : Sx → List Sx → Prop} {r0 : Nat} {ts : List Sx} :
    (∃ x ts1, Returns (fun f => (expr T f r0 st ts).map fun p => (c p.1, p.2)) (x, st, ts1) ∧ Q x ts1) ↔
      ∃ x ts1, PE T st r0 ts (x, ts1) ∧ Q (c x) ts1 := by
  constructor
  · rintro ⟨_, _, h, h2⟩
    obtain ⟨⟨x, st1, ts1⟩, h1, he⟩ := Returns.map.1 h
    cases he
    exact ⟨_, _, h1, h2⟩
  · rintro ⟨x, ts1, h1, h2⟩; exact ⟨_, ts1, Returns.map.2 ⟨_, h1, rfl⟩, h2⟩

theorem PE_atom {rbp : Nat} {t : Sx} {ts : List Sx} {r : Sx × List Sx} (hn : nudOf T t = .atom) :
    PE T st rbp (t :: ts) r ↔ PL T st rbp t ts r :=
  Returns.step rfl fun _ => by rw [expr.eq_3, hn]

include hc in
theorem PE_pre {rbp : Nat} {t : Sx} {ts : List Sx} {r : Sx × List Sx} {n : String} {r0 : Nat}
    (hfr : fragList (okNudB T) (t :: ts) = true) (hn : nudOf T t = .pre n r0) :
    PE T st rbp (t :: ts) r ↔ ∃ x ts1, PE T st r0 ts (x, ts1) ∧ PL T st rbp (.list [.sym n, x]) ts1 r := by
  have hfr' := frag_tail hfr
  refine (Returns.step rfl fun _ => expr_cons (fragTok_top _ _ (frag_head hfr))).trans ?_
  simp only [nudStep, hn]
  exact (step_loop hc hfr' ((expr_settles hc hfr').map _).keeps fun f p h => by
    obtain ⟨q, hq, rfl⟩ := Option.map_eq_some_iff.1 h; exact expr_stale_suffix hfr' _ q hq).trans
    (sub_step (c := fun x => .list [.sym n, x]))

include hc in
theorem PL_bin {rbp l : Nat} {left t : Sx} {ts : List Sx} {r : Sx × List Sx} {name : String} {r0 : Nat}
    (hfr : fragList (okNudB T) (t :: ts) = true) (hl : lbp T t = some l) (hlt : ¬ rbp ≥ l) (hled : ledOf T t = .bin name r0) :
    PL T st rbp left (t :: ts) r ↔ ∃ x ts1, PE T st r0 ts (x, ts1) ∧ PL T st rbp (.list [.sym name, left, x]) ts1 r := by
  rw [PL_step hc hfr hl hlt]
  simp only [PLed, ledStep, hled]
  exact sub_step (c := fun x => .list [.sym name, left, x])

include hc in
/-- the three operators without a right operand: the loop goes on with a new left tree -/
theorem PL_noarg {rbp l : Nat} {left t : Sx} {ts : List Sx} {r : Sx × List Sx}
    (hfr : fragList (okNudB T) (t :: ts) = true) (hl : lbp T t = some l) (hlt : ¬ rbp ≥ l) :
    (∀ name, ledOf T t = .post name → (PL T st rbp left (t :: ts) r ↔ PL T st rbp (.list [.sym name, left]) ts r)) ∧
    (ledOf T t = .field → (PL T st rbp left (t :: ts) r ↔ PL T st rbp (.list [.sym "hashidx", left, t]) ts r)) ∧
    (ledOf T t = .drop → (PL T st rbp left (t :: ts) r ↔ PL T st rbp t ts r)) := by
  have key : ∀ y : Sx, (∀ f, ledStep T f t left st ts = some (y, st, ts)) →
      (PL T st rbp left (t :: ts) r ↔ PL T st rbp y ts r) := by
    intro y hy
    rw [PL_step hc hfr hl hlt]
    simp only [PLed, hy, Returns.pure, Prod.mk.injEq]
    exact ⟨fun ⟨_, _, ⟨rfl, _, rfl⟩, h⟩ => h, fun h => ⟨_, _, ⟨rfl, trivial, rfl⟩, h⟩⟩
  exact ⟨fun name hled => key _ (fun f => by simp only [ledStep, hled]), fun hled => key _ (fun f => by simp only [ledStep, hled]),
    fun hled => key _ (fun f => by simp only [ledStep, hled])⟩

include hc in
theorem PL_index {rbp l : Nat} {left t : Sx} {ts : List Sx} {r : Sx × List Sx}
    (hfr : fragList (okNudB T) (t :: ts) = true) (hl : lbp T t = some l) (hlt : ¬ rbp ≥ l) (hled : ledOf T t = .index) :
    PL T st rbp left (t :: ts) r ↔ ∃ sel, PSel T t sel ∧ PL T st rbp (.list [.sym "arrayidx", left, sel]) ts r := by
  rw [PL_step hc hfr hl hlt]
  simp only [PLed, ledStep, hled, Returns.map, Prod.mk.injEq]
  constructor
  · rintro ⟨_, _, ⟨sel, h1, rfl, _, rfl⟩, h2⟩; exact ⟨sel, h1, h2⟩
  · rintro ⟨sel, h1, h2⟩; exact ⟨_, _, ⟨sel, h1, rfl, trivial, rfl⟩, h2⟩

theorem POne_iff {ts : List Sx} {x : Sx} (hfr : fragList (okNudB T) ts = true) :
    POne T ts x ↔ PE T (staleOf ts) 0 ts (x, []) := by
  refine (Returns.step rfl fun _ => prattOne_succ ..).trans (Returns.bind_const.trans ?_)
  constructor
  · rintro ⟨⟨x', st1, ts1⟩, ⟨f, h⟩, he⟩
    obtain ⟨rfl, _, _⟩ := expr_res hfr h
    cases ts1 with
    | nil => cases he; exact ⟨f, h⟩
    | cons a b => cases he
  · intro h; exact ⟨_, h, rfl⟩

theorem PLed.suffix {t left : Sx} {ts : List Sx} {p : Sx × List Sx} (hfr : fragList (okNudB T) ts = true)
    (h : PLed T st t left ts p) : p.2 <:+ ts := by
  obtain ⟨f, h⟩ := h; exact (ledStep_res (expr_stale_suffix hfr) h).2

include hc in
/-- `loop rbp` = `loop c` (which stops at the first operator binding no tighter than `c`) followed by
`loop rbp` again: each step of the loop depends on the operator met, not on `rbp`. -/
theorem PL_decomp {rbp c : Nat} (hle : rbp ≤ c) {ts : List Sx} (hfr : fragList (okNudB T) ts = true) (left : Sx) (r : Sx × List Sx) :
    PL T st rbp left ts r ↔ ∃ y ts1, PL T st c left ts (y, ts1) ∧ PL T st rbp y ts1 r := by
  -- where the loop `c` stops at once the statement is trivial; a round that goes on is a `PL_step` of either loop,
  -- and what the step leaves is shorter
  have stops : ∀ {ts : List Sx} {left : Sx}, (∀ p, PL T st c left ts p ↔ p = (left, ts)) →
      (PL T st rbp left ts r ↔ ∃ y ts1, PL T st c left ts (y, ts1) ∧ PL T st rbp y ts1 r) := fun hs =>
    ⟨fun h => ⟨_, _, (hs _).2 rfl, h⟩, fun ⟨_, _, h1, h2⟩ => by cases (hs _).1 h1; exact h2⟩
  induction hn : ts.length using Nat.strongRecOn generalizing ts left with
  | _ n ih =>
    cases ts with
    | nil => exact stops (PL_nil c left)
    | cons t ts =>
      cases hl : lbp T t with
      | none => exact ⟨fun h => absurd h (PL_none hl), fun ⟨_, _, h, _⟩ => absurd h (PL_none hl)⟩
      | some l =>
        by_cases hc1 : c ≥ l
        · exact stops fun _ => PL_stop hl hc1
        · have ih' : ∀ {x : Sx} {ts1 : List Sx}, PLed T st t left ts (x, ts1) →
              (PL T st rbp x ts1 r ↔ ∃ y ts2, PL T st c x ts1 (y, ts2) ∧ PL T st rbp y ts2 r) := fun h1 =>
            have hs := PLed.suffix (frag_tail hfr) h1
            ih _ (by have := hs.length_le; simp only [List.length_cons] at hn; omega) (frag_suffix (frag_tail hfr) hs) _ rfl
          simp only [PL_step hc hfr hl hc1, PL_step hc hfr hl (show ¬ rbp ≥ l by omega)]
          constructor
          · rintro ⟨x, ts1, h1, h2⟩
            obtain ⟨y, ts2, g1, g2⟩ := (ih' h1).1 h2
            exact ⟨y, ts2, ⟨x, ts1, h1, g1⟩, g2⟩
          · rintro ⟨y, ts2, ⟨x, ts1, h1, g1⟩, g2⟩
            exact ⟨x, ts1, h1, (ih' h1).2 ⟨y, ts2, g1, g2⟩⟩

end Eqns

end ZygoVerif.Pratt
