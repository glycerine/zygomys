/-
C05 on the executable VM model: the frame condition.

`Eff kd kl ka s s'` — `s'` came from `s` by working on the TOP of the three stacks: at most
`kd` data cells, `kl` scopes and `ka` return addresses of `s` are gone, anything may have been
pushed, and the scope stacks set aside by lazy forces are untouched.

`exec_simple_eff` — for every instruction of the model that does not re-enter the VM (all but
`callExpr` and `callArr`: 25 of its 27 kinds), for every state and whatever the outcome (ok, error,
host panic): `Eff (needD i s) (needL i) (needA i)`, with the numbers read off `Execute`:
the stack-effect table of vm.go, proved about the executable model instead of assumed.

`Eff.frame` — hence the frame condition instruction by instruction: cells that lie deeper than
the instruction's need are not touched.
-/
import ZygoVerif.Proofs.ContainSize
import ZygoVerif.Proofs.VMStep
namespace ZygoVerif.Contain
open ZygoVerif.Core ZygoVerif.VM ZygoVerif.Sim

def Top {α} (k : Nat) (l l' : List α) : Prop := ∃ j new, j ≤ k ∧ l' = new ++ l.drop j

theorem Top.refl {α} (l : List α) : Top 0 l l := ⟨0, [], Nat.le_refl _, rfl⟩
theorem Top.of_eq {α} {l l' : List α} (h : l' = l) : Top 0 l l' := h ▸ Top.refl l
theorem Top.mono {α} {k k' : Nat} {l l' : List α} (h : Top k l l') (hk : k ≤ k') : Top k' l l' := by
  obtain ⟨j, new, hj, e⟩ := h
  exact ⟨j, new, Nat.le_trans hj hk, e⟩
theorem Top.push {α} (x : α) (l : List α) : Top 0 l (x :: l) := ⟨0, [x], Nat.le_refl _, rfl⟩
theorem Top.drop {α} (k : Nat) (l : List α) : Top k l (l.drop k) := ⟨k, [], Nat.le_refl _, rfl⟩
theorem Top.tail {α} (x : α) (l : List α) : Top 1 (x :: l) l := ⟨1, [], Nat.le_refl _, rfl⟩

theorem Top.trans {α} {a b : Nat} {l l' l'' : List α} (h1 : Top a l l') (h2 : Top b l' l'') : Top (a + b) l l'' := by
  obtain ⟨j1, n1, hj1, rfl⟩ := h1
  obtain ⟨j2, n2, hj2, rfl⟩ := h2
  by_cases h : j2 ≤ n1.length
  · refine ⟨j1, n2 ++ n1.drop j2, by omega, ?_⟩
    rw [List.drop_append_of_le_length h, List.append_assoc]
  · refine ⟨j1 + (j2 - n1.length), n2, by omega, ?_⟩
    rw [List.drop_append, List.drop_eq_nil_of_le (by omega : n1.length ≤ j2), List.nil_append, List.drop_drop]

/-- **frame, one stack**: cells deeper than what was removed are still there, underneath. -/
theorem Top.frame {α} {k : Nat} {l l' base : List α} (h : Top k l l') (hb : base <:+ l)
    (hroom : base.length + k ≤ l.length) : base <:+ l' := by
  obtain ⟨j, new, hj, rfl⟩ := h
  exact (suffix_drop hb (by omega)).trans (List.suffix_append _ _)

structure Eff (kd kl ka : Nat) (s s' : St) : Prop where
  data : Top kd s.data s'.data
  linear : Top kl s.linear s'.linear
  addr : Top ka s.addr s'.addr
  susp : s'.suspended = s.suspended
  loopstack : s'.loopstack = s.loopstack

theorem Eff.mono {a b c a' b' c' : Nat} {s s' : St} (h : Eff a b c s s') (ha : a ≤ a') (hb : b ≤ b') (hc : c ≤ c') :
    Eff a' b' c' s s' := ⟨h.data.mono ha, h.linear.mono hb, h.addr.mono hc, h.susp, h.loopstack⟩

theorem Eff.trans {a b c a' b' c' : Nat} {s s' s'' : St} (h1 : Eff a b c s s') (h2 : Eff a' b' c' s' s'') :
    Eff (a + a') (b + b') (c + c') s s'' :=
  ⟨h1.data.trans h2.data, h1.linear.trans h2.linear, h1.addr.trans h2.addr, h2.susp.trans h1.susp, h2.loopstack.trans h1.loopstack⟩

structure Above (bd : List (Option Val)) (bl : List (Option Nat)) (ba : List (Option (Nat × Int))) (s : St) : Prop where
  data : bd <:+ s.data
  linear : bl <:+ s.linear
  addr : ba <:+ s.addr

/-- **frame**: an effect that stays within the room above the bases leaves them in place. -/
theorem Eff.frame {kd kl ka : Nat} {s s' : St} (h : Eff kd kl ka s s') {bd bl ba} (hb : Above bd bl ba s)
    (hd : bd.length + kd ≤ s.data.length) (hl : bl.length + kl ≤ s.linear.length) (ha : ba.length + ka ≤ s.addr.length) :
    Above bd bl ba s' :=
  ⟨h.data.frame hb.data hd, h.linear.frame hb.linear hl, h.addr.frame hb.addr ha⟩

theorem Eff.sameAny {a b c : Nat} {s s' : St} (hd : s'.data = s.data := by rfl) (hl : s'.linear = s.linear := by rfl)
    (ha : s'.addr = s.addr := by rfl) (hs : s'.suspended = s.suspended := by rfl)
    (hls : s'.loopstack = s.loopstack := by rfl) : Eff a b c s s' :=
  ⟨(Top.of_eq hd).mono (Nat.zero_le _), (Top.of_eq hl).mono (Nat.zero_le _), (Top.of_eq ha).mono (Nat.zero_le _), hs, hls⟩

/-- how many cells `PopUntilStackmark`/`ClearStackmark` take off: down to and including the
first mark of the loop — every cell when there is none — stopping short at a nil cell. -/
def markNeed (l : Nat) : List (Option Val) → Nat
  | [] => 0
  | none :: _ => 0
  | some (.mark l') :: rest => if l' = l then 1 else 1 + markNeed l rest
  | some _ :: rest => 1 + markNeed l rest

/-- data cells an instruction may take off the stack it finds (`Execute` in vm.go) -/
def needD (i : Instr) (s : St) : Nat :=
  match i with
  | .pop => min 1 s.data.length               -- `PopInstr` on an empty stack is ignored
  | .popStackPutEnv _ => 1
  | .update _ => 1
  | .branch _ _ => 1
  | .assign => 2
  | .popUntilMark l => markNeed l s.data
  | .clearMark l => markNeed l s.data
  | .prepareCall _ nargs =>                    -- the surplus arguments of a variadic running function
    if !(fnOf s s.curfunc).user && (fnOf s s.curfunc).varargs then nargs - (fnOf s s.curfunc).nargs else 0
  | _ => 0

/-- scopes an instruction may pop -/
def needL : Instr → Nat
  | .removeScope => 1
  | .brk _ n => n
  | .cont _ n => n
  | _ => 0

/-- return addresses an instruction may pop -/
def needA : Instr → Nat
  | .ret => 1
  | _ => 0

theorem Eff.jmp {s : St} {k : Nat} {d : List (Option Val)} (p : Int) (h : Top k s.data d) : Eff k 0 0 s (s.jmp p d) :=
  ⟨h, Top.refl _, Top.refl _, rfl, rfl⟩

theorem Top.cons_tail {α} {k : Nat} {x : α} {l l' : List α} (h : Top k l l') : Top (k + 1) (x :: l) l' := by
  obtain ⟨j, new, hj, rfl⟩ := h
  exact ⟨j + 1, new, Nat.succ_le_succ hj, rfl⟩

theorem eff_popThen {s : St} {k : Val → List (Option Val) → Res Unit} {a b c : Nat} (p : Int)
    (h : ∀ v rest, Eff a b c (s.jmp p rest) (k v rest).2) :
    Eff (a + 1) b c s (popThen s k).2 := by
  unfold popThen
  split
  · exact Eff.sameAny
  · exact Eff.sameAny
  · rename_i v rest hd
    have := h v rest
    exact ⟨by rw [hd]; exact this.data.cons_tail, this.linear, this.addr, this.susp, this.loopstack⟩

theorem top_cutMark (l : Nat) (keep : Bool) : ∀ d : List (Option Val), Top (markNeed l d) d (cutMark l keep d).2
  | [] => Top.refl _
  | none :: rest => Top.refl _
  | some v :: rest => by
    have ih := (top_cutMark l keep rest).cons_tail (x := some v)
    cases v <;> simp only [cutMark, markNeed] <;> try exact Nat.add_comm _ 1 ▸ ih
    split
    · cases keep
      · exact Top.tail _ _
      · exact (Top.refl _).mono (Nat.zero_le _)
    · exact Nat.add_comm _ 1 ▸ ih

theorem top_wrangleRes (a b : Nat) (d : List (Option Val)) : Top (b - a) d (wrangleRes a b d).2 := by
  unfold wrangleRes
  split
  · exact (Top.refl _).mono (Nat.zero_le _)
  · split
    · exact (Top.refl _).mono (Nat.zero_le _)
    · exact ⟨_, [_], Nat.le_refl _, rfl⟩

theorem eff_bindTopRes (x : String) (v : Val) (s : St) : Eff 0 0 0 s (bindTopRes x v s).2 := by
  unfold bindTopRes
  split
  · split <;> exact Eff.sameAny
  · exact Eff.sameAny

theorem eff_exitLoop (l k : Nat) (off : LoopRec → Int) (s : St) : Eff 0 k 0 s (exitLoop l k off s).2 := by
  unfold exitLoop
  split
  · exact Eff.sameAny
  · split
    · exact ⟨Top.refl _, Top.drop _ _, Top.refl _, rfl, rfl⟩
    · rename_i h
      exact ⟨Top.refl _, ⟨s.linear.length, [], by omega, by simp⟩, Top.refl _, rfl, rfl⟩

/-- **The stack effect of every non-re-entrant instruction of the real instruction set**, for
every state and every outcome. -/
theorem exec_simple_eff (f : Nat) (i : Instr) (s : St) (hs : simple i = true) :
    Eff (needD i s) (needL i) (needA i) s ((exec (f + 1) i).run s).2 := by
  rw [exec_simple_eq f i s hs]
  cases i with
  | callArr n => cases hs
  | callExpr c a => cases hs
  | push v => exact Eff.jmp _ (Top.push _ _)
  | pop =>
    show Eff (min 1 s.data.length) 0 0 s (step .pop s).2
    rw [step]
    split
    · rename_i hd; exact Eff.sameAny hd.symm
    · exact Eff.sameAny
    · rename_i hd; exact (Eff.jmp _ (hd ▸ Top.tail _ _)).mono (by simp [hd]) (Nat.le_refl _) (Nat.le_refl _)
  | dup =>
    rw [step, popThen]
    split
    · exact Eff.sameAny
    · exact Eff.sameAny
    · exact Eff.jmp _ (Top.push _ _)
  | envToStack x => rw [step]; split <;> first | exact Eff.jmp _ (Top.push _ _) | exact Eff.sameAny
  | popStackPutEnv x => exact eff_popThen (s.pc + 1) fun v rest => eff_bindTopRes x v _
  | update x =>
    refine eff_popThen (a := 0) (s.pc + 1) fun v rest => ?_
    split
    · exact Eff.sameAny
    · exact eff_bindTopRes x v _
  | jump o => rw [step]; split <;> exact Eff.sameAny
  | goto l => rw [step]; split <;> exact Eff.sameAny
  | branch d o =>
    rw [step]
    refine eff_popThen (a := 0) (b := 0) (c := 0) (s.pc + 1) fun v rest => ?_
    split
    · split <;> exact Eff.sameAny
    · exact Eff.sameAny
  | ret =>
    show Eff 0 0 1 s (step .ret s).2
    rw [step]
    split
    · exact Eff.sameAny
    · exact Eff.sameAny
    · rename_i ha; exact ⟨Top.refl _, Top.refl _, ha ▸ Top.tail _ _, rfl, rfl⟩
  | addScope => exact ⟨Top.refl _, Top.push _ _, Top.refl _, rfl, rfl⟩
  | addFuncScope t => exact ⟨Top.refl _, Top.push _ _, Top.refl _, rfl, rfl⟩
  | removeScope =>
    show Eff 0 1 0 s (step .removeScope s).2
    rw [step]
    split
    · exact Eff.sameAny
    · rename_i hl; exact ⟨Top.refl _, hl ▸ Top.tail _ _, Top.refl _, rfl, rfl⟩
  | createClosure t => exact ⟨Top.push _ _, Top.refl _, Top.refl _, rfl, rfl⟩
  | prepareCall x nargs =>
    have := top_wrangleRes (fnOf s s.curfunc).nargs nargs s.data
    rw [step, needD]
    split
    · split <;> rename_i hw <;> rw [hw] at this <;> exact Eff.jmp _ this
    · exact Eff.sameAny
  | tailGuard x skip => rw [step]; split <;> exact Eff.sameAny
  | pushLazy e => exact ⟨Top.push _ _, Top.refl _, Top.refl _, rfl, rfl⟩
  | loopStart l => exact Eff.sameAny
  | label => exact Eff.sameAny
  | pushMark l => exact Eff.jmp _ (Top.push _ _)
  | popUntilMark l => exact Eff.jmp _ (top_cutMark l true s.data)
  | clearMark l =>
    have := top_cutMark l false s.data
    rw [step]
    split <;> rename_i hw <;> rw [hw] at this <;> exact Eff.jmp _ this
  | brk l n => exact eff_exitLoop l n _ s
  | cont l n => exact eff_exitLoop l n _ s
  | assign =>
    show Eff 2 0 0 s _
    rw [step]
    refine (Eff.sameAny : Eff 0 0 0 s (s.jmp (s.pc + 1) s.data)).trans
      (eff_popThen (a := 1) (b := 0) (c := 0) (s.pc + 1) fun rhs rest1 => eff_popThen (a := 0) (s.pc + 1) fun lhs rest => ?_)
    rw [St.jmp_jmp, St.jmp_jmp]
    split
    · split
      · exact Eff.jmp _ (Top.push _ _)
      · exact Eff.sameAny
    · exact Eff.sameAny

end ZygoVerif.Contain
