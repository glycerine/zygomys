/-
What the modelled generator (Model/Gen.lean) does to the
interpreter state it threads (`GS`): loop records and function templates are only appended
(`Ext`: every run's `KeepFns`, said with the appended lists — `Ext.of_keep`), the compile-time loop stack is
restored, the loop ids of a checker listing are those of the model listing (`lids_B`); what a `for` and a
finished template leave in the tables.
-/
import ZygoVerif.Proofs.GenBalancedLoop
namespace ZygoVerif.Bal
open ZygoVerif.VM ZygoVerif.Core
open ZygoVerif.Sim (forGs forDone forCode)

/-! ## The generator state only grows -/

/-- `Sim.KeepFns` without the live stack, said with the appended lists (`Ext.of_keep`): the balance proofs read tables by
`[i]?` and `++` -/
structure Ext (gs gs' : GS) : Prop where
  stack : gs'.loopstack = gs.loopstack
  loops : ∃ ext, gs'.loops = gs.loops ++ ext
  fns : ∃ ext, gs'.fns = gs.fns ++ ext

theorem Ext.refl (gs : GS) : Ext gs gs := ⟨rfl, ⟨[], by simp⟩, ⟨[], by simp⟩⟩

theorem Ext.trans {a b c : GS} (h₁ : Ext a b) (h₂ : Ext b c) : Ext a c := by
  obtain ⟨s1, ⟨l1, hl1⟩, ⟨f1, hf1⟩⟩ := h₁
  obtain ⟨s2, ⟨l2, hl2⟩, ⟨f2, hf2⟩⟩ := h₂
  exact ⟨s2.trans s1, ⟨l1 ++ l2, by rw [hl2, hl1, List.append_assoc]⟩, ⟨f1 ++ f2, by rw [hf2, hf1, List.append_assoc]⟩⟩

theorem Ext.loops_len {a b : GS} (h : Ext a b) : a.loops.length ≤ b.loops.length := by
  obtain ⟨_, ⟨l, hl⟩, _⟩ := h
  rw [hl]; simp

theorem Ext.fns_len {a b : GS} (h : Ext a b) : a.fns.length ≤ b.fns.length := by
  obtain ⟨_, _, ⟨l, hl⟩⟩ := h
  rw [hl]; simp

theorem Ext.loops_getD {a b : GS} (h : Ext a b) (l : Nat) (hl : l < a.loops.length) :
    b.loops.getD l {} = a.loops.getD l {} := by
  obtain ⟨_, ⟨e, he⟩, _⟩ := h
  rw [he, List.getD_eq_getElem?_getD, List.getD_eq_getElem?_getD, List.getElem?_append_left hl]

theorem Ext.fns_get {a b : GS} (h : Ext a b) (i : Nat) (hi : i < a.fns.length) : b.fns[i]? = a.fns[i]? := by
  obtain ⟨_, _, ⟨e, he⟩⟩ := h
  rw [he, List.getElem?_append_left hi]

theorem eq_append_of_getD {α} (d : α) (l₁ l₂ : List α) (h : l₁.length ≤ l₂.length)
    (hg : ∀ i, i < l₁.length → l₂.getD i d = l₁.getD i d) : ∃ ext, l₂ = l₁ ++ ext :=
  (List.prefix_iff_getElem.mpr ⟨h, fun i hi => by
    simpa [List.getD_eq_getElem?_getD, hi, Nat.lt_of_lt_of_le hi h] using (hg i hi).symm⟩).imp fun _ => Eq.symm

/-- `KeepFns` says it index by index, `Ext` by the appended lists -/
theorem Ext.of_keep {a b : GS} (h : Sim.KeepFns a b) : Ext a b :=
  ⟨h.loopstack, eq_append_of_getD {} _ _ h.loopsLen h.loopsGet, eq_append_of_getD {} _ _ h.len h.fns⟩

section
variable {isFn : Nat → Bool} {c : Ctx} {gs g' : GS} {a : List Instr} {t : Bool}

theorem ext_compile {e} (h : (compile isFn c e).run gs = .ok ((a, t), g')) : Ext gs g' :=
  .of_keep (Sim.compile_facts e isFn c gs _ h).2.1
theorem ext_compileAll {es} (h : (compileAll isFn c es).run gs = .ok ((a, t), g')) : Ext gs g' :=
  .of_keep (Sim.compileAll_facts es isFn c gs _ h).1
theorem ext_compileCallArgs {es f i} (h : (compileCallArgs isFn c f i es).run gs = .ok (a, g')) : Ext gs g' :=
  .of_keep (Sim.compileCallArgs_facts es isFn c f i gs _ h).1
theorem ext_compileBegin {es} (h : (compileBegin isFn c es).run gs = .ok ((a, t), g')) : Ext gs g' :=
  .of_keep (Sim.compileBegin_facts es isFn c gs _ h).2.1
theorem ext_compileArms {arms as} (h : (compileArms isFn c arms).run gs = .ok (as, g')) : Ext gs g' :=
  .of_keep (Sim.compileArms_facts arms isFn c gs _ h).1
theorem ext_compileSC {es cs} (h : (compileSC isFn c es).run gs = .ok (cs, g')) : Ext gs g' :=
  .of_keep (Sim.compileSC_facts es isFn c gs _ h).1
theorem ext_compileBinds {bs seq} (h : (compileBinds isFn c seq bs).run gs = .ok ((a, t), g')) : Ext gs g' :=
  .of_keep (Sim.compileBinds_facts bs isFn c seq gs _ h).1
theorem ext_compileNewScope {es ot} (h : (compileNewScope isFn c ot es).run gs = .ok ((a, t), g')) : Ext gs g' :=
  .of_keep (Sim.compileNewScope_facts es isFn c ot gs _ h).2.1

end

/-- ids on the compile-time loop stack are ids of existing loop records -/
def GSok (gs : GS) : Prop := ∀ id ∈ gs.loopstack, id < gs.loops.length

theorem GSok.ext {a b : GS} (h : GSok a) (he : Ext a b) : GSok b := by
  intro id hid
  rw [he.stack] at hid
  exact Nat.lt_of_lt_of_le (h id hid) he.loops_len

/-- the final loop table `T` agrees with the records allocated between `gs` and `gs'` -/
def TOk (gs gs' : GS) (T : List LoopRec) : Prop :=
  ∀ l, gs.loops.length ≤ l → l < gs'.loops.length → T.getD l {} = gs'.loops.getD l {}

theorem TOk.left {a b c : GS} {T : List LoopRec} (h : TOk a c T) (_h1 : Ext a b) (h2 : Ext b c) : TOk a b T := by
  intro l hlo hhi
  rw [h l hlo (Nat.lt_of_lt_of_le hhi h2.loops_len), h2.loops_getD l hhi]

theorem TOk.right {a b c : GS} {T : List LoopRec} (h : TOk a c T) (h1 : Ext a b) (_h2 : Ext b c) : TOk b c T := by
  intro l hlo hhi
  exact h l (Nat.le_trans h1.loops_len hlo) hhi

def FnVerified (T : List LoopRec) (f : FnObj) : Prop :=
  ∃ ann, verify { kind := .fn, nformals := f.params.length, varargs := f.varargs, nfixed := f.nargs,
                  code := B T f.code } ann = true

def FnsOK (gs gs' : GS) (T : List LoopRec) : Prop :=
  ∀ i f, gs.fns.length ≤ i → gs'.fns[i]? = some f → FnVerified T f

theorem FnsOK.refl (gs : GS) (T : List LoopRec) : FnsOK gs gs T := by
  intro i f hi hf
  have := (List.getElem?_eq_some_iff.mp hf).1
  omega

theorem FnsOK.trans {a b c : GS} {T : List LoopRec} (h1 : FnsOK a b T) (h2 : FnsOK b c T) (e2 : Ext b c) :
    FnsOK a c T := by
  intro i f hi hf
  rcases Nat.lt_or_ge i b.fns.length with h | h
  · rw [e2.fns_get i h] at hf
    exact h1 i f hi hf
  · exact h2 i f h hf

theorem lid?_toB (T : List LoopRec) (i : Instr) : lid? (toB T i) = ilid? i := by
  cases i <;> rfl

theorem lids_B (T : List LoopRec) (code : List Instr) : lids (B T code) = ilids code := by
  simp only [lids, B, ilids, List.filterMap_map]
  congr 1
  funext i
  exact lid?_toB T i

theorem nodup_of_idsIn {code : List Instr} {lo hi : Nat} (h : idsIn code lo hi) : (ilids code).Nodup :=
  List.nodup_iff_count.mpr (fun l => (h l).1)

/-- a listing whose loop ids are those of code compiled from `N` loop records on: each labels one `loopStart`, none is older -/
theorem loops_of_idsIn {C : List BInstr} {code : List Instr} {N M : Nat} (hl : lids C = ilids code) (hids : idsIn code N M) :
    LoopsUnique C ∧ ∀ l, l < N → loopPos C l = none :=
  ⟨loopsUnique_of_nodup C (hl ▸ nodup_of_idsIn hids), fun l hlN => loopPos_none C l (fun hm => by
    rw [hl] at hm
    have := (mem_range_of_idsIn hids l hm).1
    omega)⟩

theorem Ext.for_ {gs g5 : GS} {c : Ctx} {label : Option String} {brk cont : Int} (h : Ext (forGs gs c label) g5) :
    Ext gs (forDone g5 gs.loops.length brk cont) := by
  obtain ⟨hs, ⟨el, hl⟩, ⟨ef, hf⟩⟩ := h
  refine ⟨?_, ⟨[({ (g5.loops.getD gs.loops.length {}) with breakOff := brk, contOff := cont } : LoopRec)] ++ el, ?_⟩, ⟨ef, hf⟩⟩
  · show g5.loopstack.drop 1 = gs.loopstack
    rw [hs]; rfl
  · show g5.loops.set gs.loops.length _ = _
    rw [hl]
    simp only [forGs, List.append_assoc, List.cons_append, List.nil_append]
    rw [List.set_append_right _ _ (Nat.le_refl _)]
    simp

theorem forDone_getD_self {gs g5 : GS} {c : Ctx} {label : Option String} {brk cont : Int} (h : Ext (forGs gs c label) g5) :
    ((forDone g5 gs.loops.length brk cont).loops.getD gs.loops.length {}).breakOff = brk ∧
    ((forDone g5 gs.loops.length brk cont).loops.getD gs.loops.length {}).contOff = cont := by
  have hlen : gs.loops.length < g5.loops.length := by
    have := h.loops_len
    simp only [forGs, List.length_append, List.length_cons, List.length_nil] at this
    omega
  simp only [forDone, List.getD_eq_getElem?_getD, List.getElem?_set_self hlen, Option.getD_some, and_self]

theorem forDone_getD_ne {g5 : GS} {loop l : Nat} {brk cont : Int} (h : loop ≠ l) :
    (forDone g5 loop brk cont).loops.getD l {} = g5.loops.getD l {} := by
  simp only [forDone, List.getD_eq_getElem?_getD, List.getElem?_set_ne h]

theorem forGs_getD {gs : GS} {c : Ctx} {label : Option String} (l : Nat) (hl : l < gs.loops.length) :
    (forGs gs c label).loops.getD l {} = gs.loops.getD l {} := by
  simp only [forGs, List.getD_eq_getElem?_getD, List.getElem?_append_left hl]

theorem forGs_getD_self {gs : GS} {c : Ctx} {label : Option String} :
    (forGs gs c label).loops.getD gs.loops.length {} = ({ label, scopeDepth := c.scopes } : LoopRec) := by
  simp [forGs, List.getD_eq_getElem?_getD]

theorem Ext.alloc (isFn : Nat → Bool) (gs : GS) (name : String) (ps : List String) (rest : Option String) :
    Ext gs (allocGs isFn gs name ps rest) :=
  ⟨rfl, ⟨[], by simp [allocGs]⟩, ⟨[_], rfl⟩⟩

/-- a whole `fn`/`defn`: the template is appended, the body only appends, the template is completed -/
theorem Ext.finish {isFn : Nat → Bool} {gs g2 : GS} {name : String} {ps : List String} {rest : Option String} {b : List Instr}
    (h : Ext (allocGs isFn gs name ps rest) g2) : Ext gs (finishGs gs.fns.length b g2) := by
  obtain ⟨hs, ⟨el, hl⟩, ⟨ef, hf⟩⟩ := h
  refine ⟨hs, ⟨el, by simpa [allocGs, finishGs] using hl⟩,
    ⟨[({ (g2.fns.getD gs.fns.length {}) with code := fnCode gs.fns.length (g2.fns.getD gs.fns.length {}).params b } : FnObj)] ++ ef, ?_⟩⟩
  show g2.fns.set gs.fns.length _ = _
  rw [hf]
  simp only [allocGs, List.append_assoc, List.cons_append, List.nil_append]
  rw [List.set_append_right _ _ (Nat.le_refl _)]
  simp

theorem finishGs_get_self {isFn : Nat → Bool} {gs g2 : GS} {name : String} {ps : List String} {rest : Option String} {b : List Instr}
    (h : Ext (allocGs isFn gs name ps rest) g2) :
    (finishGs gs.fns.length b g2).fns[gs.fns.length]? =
      some { tmplOf isFn gs name ps rest with code := fnCode gs.fns.length (ps ++ rest.toList) b } := by
  have hget : g2.fns[gs.fns.length]? = some (tmplOf isFn gs name ps rest) := by
    rw [h.fns_get gs.fns.length (by simp [allocGs])]
    simp [allocGs]
  have hlen : gs.fns.length < g2.fns.length := by
    have := h.fns_len
    simp only [allocGs, List.length_append, List.length_cons, List.length_nil] at this
    omega
  simp only [finishGs, List.getElem?_set_self hlen, List.getD_eq_getElem?_getD, hget, Option.getD_some]
  rfl

theorem finishGs_get_ne {t i : Nat} {b : List Instr} {g2 : GS} (h : t ≠ i) : (finishGs t b g2).fns[i]? = g2.fns[i]? := by
  simp only [finishGs, List.getElem?_set_ne h]

theorem finishGs_loops (t : Nat) (b : List Instr) (g2 : GS) : (finishGs t b g2).loops = g2.loops := rfl

end ZygoVerif.Bal
