/-
The specification's `mathValue` (Spec/DataValue) cut into its branches, so that "this spelling is an
integer / uint64 literal of value v" can be inverted: which notation it is written in and how `v` is
made of its digits. `mathValue_eq` ties the pieces to the specification by unfolding alone.
-/
import ZygoVerif.Spec.DataValue
namespace ZygoVerif.Literal
open ZygoVerif ZygoVerif.Spec.DataValue

def signOf (s : List Char) : Option Char × List Char :=
  match s with
  | '-' :: r => (some '-', r)
  | '+' :: r => (some '+', r)
  | _ => (none, s)

def uintBase (d : List Char) : Nat × List Char :=
  match d with
  | '0' :: 'x' :: r => (16, r)
  | '0' :: 'o' :: r => (8, r)
  | _ => (10, d)

def uintPart (sign : Option Char) (d : List Char) : Option (NumVal × Bool) :=
  if sign.isSome then none else
  (digitsOf (uintBase d).1 (uintBase d).2).map fun l => (.uint (posValue (uintBase d).1 l), true)

def basedOf (body : List Char) : Option (Nat × List Char) :=
  match body with
  | '0' :: 'x' :: r => some (16, r)
  | '0' :: 'o' :: r => some (8, r)
  | '0' :: 'b' :: r => some (2, r)
  | _ => none

def basedPart (sign : Option Char) (base : Nat) (ds : List Char) : Option (NumVal × Bool) :=
  (digitsOf base ds).map fun l =>
    let v : Int := posValue base l
    (.int (if sign == some '-' then -v else v), sign.isNone)

def decPart (sign : Option Char) (body : List Char) : Option (NumVal × Bool) :=
  (digitsOf 10 (dropUnderscores body)).map fun l =>
    let v : Int := posValue 10 l
    (.int (if sign == some '-' then -v else v), !(sign == some '+') && underscoresBetweenDigits body)

def fracLast (neg plus : Bool) (body ip fpd : List Char) (ex : Option (List Char)) (expo : Option (Option Int))
    (dg : Option (List Nat)) : Option (NumVal × Bool) :=
  match expo, dg with
  | some e, some _ =>
    let iv := match digitsOf 10 (dropUnderscores ip) with | some l => posValue 10 l | none => 0
    let fl := (dropUnderscores fpd).length
    let fv := match digitsOf 10 (dropUnderscores fpd) with | some l => posValue 10 l | none => 0
    let mant := iv * 10 ^ fl + fv
    let e10 : Int := e.getD 0 - fl
    let supported := !plus && noUnderscore body && (!ip.isEmpty || ex.isNone)
    some (.dec neg mant e10, supported)
  | _, _ => none

def expoOf (ex : Option (List Char)) : Option (Option Int) :=
  match ex with
  | none => some none
  | some e =>
    let (eneg, ed) : Bool × List Char := match e with
      | '-' :: r => (true, r)
      | '+' :: r => (false, r)
      | _ => (false, e)
    if digitsUnderscores ed then
      (digitsOf 10 (dropUnderscores ed)).map fun l =>
        let v : Int := posValue 10 l
        some (if eneg then -v else v)
    else none

def fracFinal (neg plus : Bool) (body ip : List Char) (fp ex : Option (List Char)) : Option (NumVal × Bool) :=
  if fp.isNone && ex.isNone then none else
  let fpd := fp.getD []
  let okInt := if ip.isEmpty then fp.isSome && digitsUnderscores fpd else digitsUnderscores ip
  let okFrac := ip.isEmpty || fpd.all (fun c => isDigit c || c == '_')
  if !(okInt && okFrac) then none else
  fracLast neg plus body ip fpd ex (expoOf ex) (digitsOf 10 (dropUnderscores ip ++ dropUnderscores fpd))

def fracPart (neg plus : Bool) (body : List Char) : Option (NumVal × Bool) :=
  let (mant, ex) : List Char × Option (List Char) := match splitAt? (fun c => c == 'e' || c == 'E') body with
    | some (m, e) => (m, some e)
    | none => (body, none)
  let (ip, fp) : List Char × Option (List Char) := match splitAt? (· == '.') mant with
    | some (i, f) => (i, some f)
    | none => (mant, none)
  fracFinal neg plus body ip fp ex

def mathBody (sign : Option Char) (body : List Char) : Option (NumVal × Bool) :=
  if body == "Inf".toList then some (.inf (sign == some '-'), true)
  else if body == "inf".toList then some (.inf (sign == some '-'), false)
  else if sign.isNone && body == "NaN".toList then some (.nan, true)
  else if sign.isNone && body == "nan".toList then some (.nan, false)
  else
  match stripSuffix? "ULL".toList body with
  | some d => uintPart sign d
  | none =>
  match basedOf body with
  | some (base, ds) => basedPart sign base ds
  | none =>
  if digitsUnderscores body then decPart sign body
  else fracPart (sign == some '-') (sign == some '+') body

theorem mathValue_eq (s : List Char) : mathValue s = mathBody (signOf s).1 (signOf s).2 := by
  rfl

theorem signOf_cases (s : List Char) :
    (∃ r, s = '-' :: r ∧ signOf s = (some '-', r)) ∨ (∃ r, s = '+' :: r ∧ signOf s = (some '+', r)) ∨
    (signOf s = (none, s) ∧ (∀ r, s ≠ '-' :: r) ∧ (∀ r, s ≠ '+' :: r)) := by
  unfold signOf
  split
  · exact Or.inl ⟨_, rfl, rfl⟩
  · exact Or.inr (Or.inl ⟨_, rfl, rfl⟩)
  · rename_i h1 h2
    exact Or.inr (Or.inr ⟨rfl, fun r hr => h1 r hr, fun r hr => h2 r hr⟩)

theorem basedOf_some (body : List Char) (base : Nat) (ds : List Char) (h : basedOf body = some (base, ds)) :
    (body = '0' :: 'x' :: ds ∧ base = 16) ∨ (body = '0' :: 'o' :: ds ∧ base = 8) ∨ (body = '0' :: 'b' :: ds ∧ base = 2) := by
  unfold basedOf at h
  split at h
  · simp only [Option.some.injEq, Prod.mk.injEq] at h; obtain ⟨rfl, rfl⟩ := h; exact Or.inl ⟨rfl, rfl⟩
  · simp only [Option.some.injEq, Prod.mk.injEq] at h; obtain ⟨rfl, rfl⟩ := h; exact Or.inr (Or.inl ⟨rfl, rfl⟩)
  · simp only [Option.some.injEq, Prod.mk.injEq] at h; obtain ⟨rfl, rfl⟩ := h; exact Or.inr (Or.inr ⟨rfl, rfl⟩)
  · cases h

def isDecVal : NumVal → Bool
  | .dec _ _ _ => true
  | _ => false

theorem fracLast_dec (neg plus : Bool) (body ip fpd : List Char) (ex : Option (List Char)) (expo : Option (Option Int))
    (dg : Option (List Nat)) (r : NumVal × Bool) (h : fracLast neg plus body ip fpd ex expo dg = some r) :
    isDecVal r.1 = true := by
  unfold fracLast at h
  split at h
  · simp only [Option.some.injEq] at h; rw [← h]; rfl
  · cases h

theorem fracFinal_dec (neg plus : Bool) (body ip : List Char) (fp ex : Option (List Char)) (r : NumVal × Bool)
    (h : fracFinal neg plus body ip fp ex = some r) : isDecVal r.1 = true := by
  unfold fracFinal at h
  have h1 := (Option.ite_none_left_eq_some.1 h).2
  dsimp only at h1
  have h2 := (Option.ite_none_left_eq_some.1 h1).2
  exact fracLast_dec _ _ _ _ _ _ _ _ r h2

theorem fracPart_dec (neg plus : Bool) (body : List Char) (r : NumVal × Bool)
    (h : fracPart neg plus body = some r) : isDecVal r.1 = true := by
  unfold fracPart at h
  exact fracFinal_dec _ _ _ _ _ _ r h

/-- Every verdict of the specification, by the branch of `mathBody` it comes from: the four words, the
`ULL` suffix, a based literal, a decimal integer, or (last) a fraction/exponent spelling. -/
theorem mathBody_cases (sign : Option Char) (body : List Char) (r : NumVal × Bool) (h : mathBody sign body = some r) :
    (body = "Inf".toList ∧ r = (.inf (sign == some '-'), true)) ∨
    r = (.inf (sign == some '-'), false) ∨
    (sign = none ∧ body = "NaN".toList ∧ r = (.nan, true)) ∨
    r = (.nan, false) ∨
    (sign = none ∧ ∃ d l, stripSuffix? "ULL".toList body = some d ∧ digitsOf (uintBase d).1 (uintBase d).2 = some l ∧
      r = (.uint (posValue (uintBase d).1 l), true)) ∨
    (∃ base ds l, basedOf body = some (base, ds) ∧ digitsOf base ds = some l ∧
      r = (.int (if sign == some '-' then -(posValue base l : Int) else (posValue base l : Int)), sign.isNone)) ∨
    (digitsUnderscores body = true ∧ ∃ l, digitsOf 10 (dropUnderscores body) = some l ∧
      r = (.int (if sign == some '-' then -(posValue 10 l : Int) else (posValue 10 l : Int)),
        !(sign == some '+') && underscoresBetweenDigits body)) ∨
    isDecVal r.1 = true := by
  unfold mathBody at h
  split at h
  · rename_i hc; cases h; exact .inl ⟨eq_of_beq hc, rfl⟩
  split at h
  · cases h; exact .inr (.inl rfl)
  split at h
  · rename_i hc
    simp only [Bool.and_eq_true] at hc
    cases h
    exact .inr (.inr (.inl ⟨by cases sign <;> simp_all, eq_of_beq hc.2, rfl⟩))
  split at h
  · cases h; exact .inr (.inr (.inr (.inl rfl)))
  split at h
  · rename_i d hd
    unfold uintPart at h
    have hsn : sign = none := by
      cases sign with
      | none => rfl
      | some c => simp at h
    obtain ⟨l, hl, hf⟩ := Option.map_eq_some_iff.mp (Option.ite_none_left_eq_some.1 h).2
    exact .inr (.inr (.inr (.inr (.inl ⟨hsn, d, l, hd, hl, hf.symm⟩))))
  · split at h
    · rename_i base ds hb
      obtain ⟨l, hl, hf⟩ := Option.map_eq_some_iff.mp h
      exact .inr (.inr (.inr (.inr (.inr (.inl ⟨base, ds, l, hb, hl, hf.symm⟩)))))
    · split at h
      · rename_i hdu
        obtain ⟨l, hl, hf⟩ := Option.map_eq_some_iff.mp h
        exact .inr (.inr (.inr (.inr (.inr (.inr (.inl ⟨hdu, l, hl, hf.symm⟩))))))
      · exact .inr (.inr (.inr (.inr (.inr (.inr (.inr (fracPart_dec _ _ _ _ h)))))))

/-- an integer verdict of the specification comes from a based literal or from a decimal one -/
theorem mathBody_int (sign : Option Char) (body : List Char) (v : Int) (sup : Bool)
    (h : mathBody sign body = some (.int v, sup)) :
    (∃ base ds l, basedOf body = some (base, ds) ∧ digitsOf base ds = some l ∧
        v = (if sign == some '-' then -(posValue base l : Int) else (posValue base l : Int)) ∧ sup = sign.isNone) ∨
    (digitsUnderscores body = true ∧ ∃ l, digitsOf 10 (dropUnderscores body) = some l ∧
        v = (if sign == some '-' then -(posValue 10 l : Int) else (posValue 10 l : Int)) ∧
        sup = (!(sign == some '+') && underscoresBetweenDigits body)) := by
  rcases mathBody_cases _ _ _ h with ⟨_, h⟩ | h | ⟨_, _, h⟩ | h | ⟨_, _, _, _, _, h⟩ | ⟨base, ds, l, hb, hd, h⟩ |
    ⟨hdu, l, hd, h⟩ | h
  all_goals first | cases h | skip
  · exact .inl ⟨base, ds, l, hb, hd, rfl, rfl⟩
  · exact .inr ⟨hdu, l, hd, rfl, rfl⟩

theorem uintBase_cases (d : List Char) :
    (∃ r, d = '0' :: 'x' :: r ∧ uintBase d = (16, r)) ∨ (∃ r, d = '0' :: 'o' :: r ∧ uintBase d = (8, r)) ∨
    (uintBase d = (10, d) ∧ (∀ r, d ≠ '0' :: 'x' :: r) ∧ (∀ r, d ≠ '0' :: 'o' :: r)) := by
  unfold uintBase
  split
  · exact Or.inl ⟨_, rfl, rfl⟩
  · exact Or.inr (Or.inl ⟨_, rfl, rfl⟩)
  · rename_i h1 h2
    exact Or.inr (Or.inr ⟨rfl, fun r hr => h1 r hr, fun r hr => h2 r hr⟩)

/-- a uint64 verdict comes from the `ULL` suffix on an unsigned spelling: the digits behind the prefix, in the
base it names -/
theorem mathBody_uint (sign : Option Char) (body : List Char) (n : Nat) (sup : Bool)
    (h : mathBody sign body = some (.uint n, sup)) :
    sign = none ∧ sup = true ∧ ∃ d l, stripSuffix? "ULL".toList body = some d ∧
      digitsOf (uintBase d).1 (uintBase d).2 = some l ∧ n = posValue (uintBase d).1 l := by
  rcases mathBody_cases _ _ _ h with ⟨_, h⟩ | h | ⟨_, _, h⟩ | h | ⟨hsn, d, l, hd, hl, h⟩ | ⟨_, _, _, _, _, h⟩ |
    ⟨_, _, _, h⟩ | h
  all_goals first | cases h | skip
  exact ⟨hsn, rfl, d, l, hd, hl, rfl⟩

/-- a supported `Inf`/`NaN` verdict comes from the words `Inf` (any sign) and `NaN` (no sign) -/
theorem mathBody_special (sign : Option Char) (body : List Char) (nv : NumVal)
    (h : mathBody sign body = some (nv, true)) (hk : nv = .nan ∨ ∃ neg, nv = .inf neg) :
    body = "Inf".toList ∨ (sign = none ∧ body = "NaN".toList) := by
  rcases mathBody_cases _ _ _ h with ⟨hb, _⟩ | h | ⟨hs, hb, _⟩ | h | ⟨_, _, _, _, _, h⟩ | ⟨_, _, _, _, _, h⟩ |
    ⟨_, _, _, h⟩ | h
  · exact .inl hb
  · cases h
  · exact .inr ⟨hs, hb⟩
  · cases h
  all_goals rcases hk with rfl | ⟨neg, rfl⟩ <;> cases h

theorem stripSuffix?_some (suf s d : List Char) (h : stripSuffix? suf s = some d) : s = d ++ suf := by
  unfold stripSuffix? at h
  split at h
  · rename_i hc
    simp only [Option.some.injEq] at h
    have := List.take_append_drop (s.length - suf.length) s
    rw [hc.2] at this
    rw [← h]; exact this.symm
  · cases h

end ZygoVerif.Literal
