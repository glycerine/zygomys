/-
C06, Pratt loop = stratified grammar: the correspondence `Corr` holds between the
operator table REGENERATED from the current tree (`Table.generated`) and the documented levels
(`Stratified.documented`), with the binding power of each documented level read off the table
(`bpsOf`: no number is written here, a consistent renumbering of the table passes).

Tokens are infinitely many (any name, any literal text, any selector); the functions involved
only compare a name with the finitely many names of the table and the grammar (`names`) and never
look inside a literal or a selector. So: names of `names` are checked one by one (`decide`), every
other name behaves like an unknown one, payloads are irrelevant.
-/
import ZygoVerif.Proofs.PrattStrat
namespace ZygoVerif.Pratt
open ZygoVerif.Stratified

/-- the binding power the table gives to a level of the grammar (through any of its operators) -/
def bpOfLevel (T : Table) (lv : Level) : Nat :=
  (lv.members.findSome? (fun m => match m with
    | .op n _ => (T.find? n).map (·.bp)
    | .post n => (T.find? n).map (·.bp)
    | .drop n => (T.find? n).map (·.bp)
    | .commaTok _ => some T.lbpComma
    | .index => some T.lbpArr
    | .field => some T.lbpDot
    | .pre _ _ => none)).getD 0

def bpsOf (T : Table) (G : Grammar) : List Nat := G.map (bpOfLevel T)

/-- the name a member compares a token's name with -/
def anyName? : Member → Option String
  | .op n _ => some n
  | .post n => some n
  | .drop n => some n
  | .pre n _ => some n
  | _ => none

def memberNames (G : Grammar) : List String := G.flatMap (fun lv => lv.members.filterMap anyName?)

/-- every name the table or the grammar compares a token's name with -/
def names (T : Table) (G : Grammar) : List String := (T.entries.map (·.name) ++ memberNames G ++ [":", "if"]).eraseDups

theorem find?_none (T : Table) (n : String) (h : ∀ e ∈ T.entries, e.name ≠ n) : T.find? n = none := by
  unfold Table.find?
  rw [List.find?_eq_none]
  intro e he
  have := h e (List.mem_reverse.1 he)
  simpa using this

/-- a token whose name (if any) is none of the grammar's names, and that is no comma, selector or dot-symbol -/
def Plain (G : Grammar) (t : Sx) : Prop :=
  (∀ n, t.symName? = some n → n ∉ memberNames G) ∧ t.isComma = false ∧ t.isArr = false ∧ (∀ n, t ≠ .dot n)

theorem mem_memberNames {G : Grammar} {lv : Level} {m : Member} (hlv : lv ∈ G) (hm : m ∈ lv.members) {n : String}
    (hn : anyName? m = some n) : n ∈ memberNames G := by
  unfold memberNames
  rw [List.mem_flatMap]
  exact ⟨lv, hlv, List.mem_filterMap.2 ⟨m, hm, hn⟩⟩

theorem isNamed_false {G : Grammar} {t : Sx} (h : ∀ n, t.symName? = some n → n ∉ memberNames G) {nm : String}
    (hnm : nm ∈ memberNames G) : t.isNamed nm = false := by
  unfold Sx.isNamed
  cases hs : t.symName? with
  | none => rfl
  | some n =>
    have := h n hs
    rw [beq_eq_false_iff_ne]
    intro he
    simp only [Option.some.injEq] at he
    subst he; exact this hnm

theorem matchMember_plain {G : Grammar} {t : Sx} (h : Plain G t) {lv : Level} (hlv : lv ∈ G) {m : Member} (hm : m ∈ lv.members) :
    matchMember G t m = none := by
  obtain ⟨h1, h2, h3, h4⟩ := h
  cases m with
  | op n out => simp [matchMember, isNamed_false h1 (mem_memberNames hlv hm (n := n) rfl)]
  | commaTok out => simp [matchMember, h2]
  | post n => simp [matchMember, isNamed_false h1 (mem_memberNames hlv hm (n := n) rfl)]
  | drop n => simp [matchMember, isNamed_false h1 (mem_memberNames hlv hm (n := n) rfl)]
  | index =>
    cases t with
    | arr xs => cases h3
    | _ => rfl
  | field =>
    cases t with
    | dot n => exact absurd rfl (h4 n)
    | _ => rfl
  | pre n out => rfl

theorem actOf_plain {G : Grammar} {t : Sx} (h : Plain G t) {lv : Level} (hlv : lv ∈ G) : actOf G lv t = none := by
  unfold actOf
  rw [List.findSome?_eq_none_iff]
  intro m hm
  exact matchMember_plain h hlv hm

theorem levelOf_none (G : Grammar) (t : Sx) : ∀ (lvls : Grammar) (i : Nat), (∀ lv ∈ lvls, actOf G lv t = none) →
    levelOf G t lvls i = none
  | [], _, _ => rfl
  | lv :: rest, i, h => by
    rw [levelOf, h lv (by simp)]
    exact levelOf_none G t rest (i + 1) (fun lv' hl => h lv' (by simp [hl]))

theorem actAt_congr {G : Grammar} {t : Sx} {f : Level → Option Act} (h : ∀ lv ∈ G, actOf G lv t = f lv) (m : Nat) :
    actAt G m t = (G[m]?).bind f := by
  unfold actAt
  cases hg : G[m]? with
  | none => rfl
  | some lv => exact h lv (List.mem_of_getElem? hg)

theorem prefixOf_none (t : Sx) : ∀ (lvls : Grammar),
    (∀ lv ∈ lvls, ∀ m ∈ lv.members, ∀ nm out, m = Member.pre nm out → t.isNamed nm = false) → prefixOf t lvls = none
  | [], _ => rfl
  | lv :: rest, h => by
    rw [prefixOf]
    split
    · rename_i out heq
      exfalso
      obtain ⟨m, hm, hf⟩ := List.exists_of_findSome?_eq_some heq
      cases m with
      | pre n out' => simp [h lv (by simp) _ hm n out' rfl] at hf
      | _ => simp at hf
    · exact prefixOf_none t rest (fun lv' hl => h lv' (by simp [hl]))

theorem prefixOf_plain {G : Grammar} {t : Sx} (h : ∀ n, t.symName? = some n → n ∉ memberNames G) : prefixOf t G = none := by
  apply prefixOf_none
  intro lv hlv m hm nm out he
  subst he
  exact isNamed_false h (mem_memberNames hlv hm (n := nm) rfl)

theorem ledCorr_plain {T : Table} {G : Grammar} {bps : List Nat} {t : Sx} (h : Plain G t) (hl : lbp T t = some 0) :
    ledCorr T G bps t = true := by
  have hall : ∀ lv ∈ G, actOf G lv t = none := fun lv hlv => actOf_plain h hlv
  unfold ledCorr
  rw [levelOf_none G t G 0 hall, hl]
  simp only [beq_self_eq_true, Bool.true_and, List.all_eq_true, List.mem_range]
  intro m _
  rw [actAt_congr (f := fun _ => none) hall m]; cases G[m]? <;> rfl

theorem nudCorr_plain {T : Table} {G : Grammar} {bps : List Nat} {t : Sx}
    (h : ∀ n, t.symName? = some n → n ∉ memberNames G) (hn : nudOf T t = .atom) : nudCorr T G bps t = true := by
  unfold nudCorr
  rw [prefixOf_plain h, hn]
  rfl

theorem known_false {G : Grammar} {n : String} (h : n ∉ memberNames G) : known G n = false := by
  unfold known
  rw [Bool.eq_false_iff]
  intro hk
  rw [List.any_eq_true] at hk
  obtain ⟨lv, hlv, hm⟩ := hk
  rw [List.any_eq_true] at hm
  obtain ⟨m, hm, he⟩ := hm
  have he' : m.opName? = some n := by simpa using he
  apply h
  cases m with
  | op nm out => simp only [Member.opName?, Option.some.injEq] at he'; subst he'; exact mem_memberNames hlv hm rfl
  | post nm => simp only [Member.opName?, Option.some.injEq] at he'; subst he'; exact mem_memberNames hlv hm rfl
  | drop nm => simp only [Member.opName?, Option.some.injEq] at he'; subst he'; exact mem_memberNames hlv hm rfl
  | _ => simp [Member.opName?] at he'

/-- what a level does with a dot-symbol of unknown name -/
def fieldAct (lv : Level) : Option Act := if lv.members.any (fun m => m == .field) then some .field else none

theorem actOf_dot {G : Grammar} {n : String} (h : n ∉ memberNames G) {lv : Level} (hlv : lv ∈ G) :
    actOf G lv (.dot n) = fieldAct lv := by
  have h1 : ∀ nm, (Sx.dot n).symName? = some nm → nm ∉ memberNames G := by
    intro nm hs; simp only [Sx.symName?, Option.some.injEq] at hs; subst hs; exact h
  unfold actOf fieldAct
  have key : ∀ ms : List Member, (∀ m ∈ ms, m ∈ lv.members) →
      ms.findSome? (matchMember G (.dot n)) = if ms.any (fun m => m == .field) then some .field else none := by
    intro ms
    induction ms with
    | nil => intro _; rfl
    | cons m r ih =>
      intro hsub
      have hm : m ∈ lv.members := hsub m (by simp)
      have hr := ih (fun x hx => hsub x (by simp [hx]))
      cases m with
      | op nm out => simp [List.findSome?, matchMember, isNamed_false h1 (mem_memberNames hlv hm (n := nm) rfl), hr]
      | commaTok out => simp [List.findSome?, matchMember, Sx.isComma, hr]
      | post nm => simp [List.findSome?, matchMember, isNamed_false h1 (mem_memberNames hlv hm (n := nm) rfl), hr]
      | drop nm => simp [List.findSome?, matchMember, isNamed_false h1 (mem_memberNames hlv hm (n := nm) rfl), hr]
      | index => simp [List.findSome?, matchMember, hr]
      | field => simp [List.findSome?, matchMember, known_false h]
      | pre nm out => simp [List.findSome?, matchMember, hr]
  exact key lv.members (fun _ hm => hm)

/-- `levelOf` with the action of each level given by `f` -/
def levelOfF (f : Level → Option Act) : Grammar → Nat → Option (Nat × Act)
  | [], _ => none
  | lv :: rest, k => match f lv with
    | some a => some (k, a)
    | none => levelOfF f rest (k + 1)

theorem levelOf_congr (G : Grammar) (t : Sx) (f : Level → Option Act) : ∀ (lvls : Grammar) (i : Nat),
    (∀ lv ∈ lvls, actOf G lv t = f lv) → levelOf G t lvls i = levelOfF f lvls i
  | [], _, _ => rfl
  | lv :: rest, i, h => by
    rw [levelOf, levelOfF, h lv (by simp)]
    cases f lv with
    | some a => rfl
    | none => exact levelOf_congr G t f rest (i + 1) (fun lv' hl => h lv' (by simp [hl]))

/-- `ledCorr` with the grammar's side given by `f` -/
def ledCorrF (G : Grammar) (bps : List Nat) (f : Level → Option Act) (l : Option Nat) (led : Led) (isArr : Bool) : Bool :=
  match levelOfF f G 0 with
  | none => l == some 0 && (List.range G.length).all (fun m => (G[m]?).bind f == none)
  | some (k, act) =>
    decide (k < G.length) && l == some (bps.getD k 0) && (G[k]?).bind f == some act &&
    (List.range G.length).all (fun m => m == k || (G[m]?).bind f == none) &&
    (match act with
     | .bin out => led == .bin out (if rightAt G k then bps.getD k 0 - 1 else bps.getD k 0)
     | .post name => led == .post name
     | .field => led == .field && k + 1 == G.length
     | .index => led == .index && k + 1 == G.length && isArr
     | .drop => led == .drop)

theorem ledCorr_eq_F {T : Table} {G : Grammar} {bps : List Nat} {t : Sx} {f : Level → Option Act}
    (h : ∀ lv ∈ G, actOf G lv t = f lv) : ledCorr T G bps t = ledCorrF G bps f (lbp T t) (ledOf T t) t.isArr := by
  unfold ledCorr ledCorrF
  rw [levelOf_congr G t f G 0 h]
  simp only [actAt_congr h] <;> rfl

abbrev TG := Table.generated
abbrev DG := documented
abbrev bpsG := bpsOf TG DG

theorem mem_names {T : Table} {G : Grammar} {n : String} :
    n ∈ names T G ↔ (∃ e ∈ T.entries, e.name = n) ∨ n ∈ memberNames G ∨ n = ":" ∨ n = "if" := by
  simp [names, List.mem_eraseDups]

theorem names_cover : (TG.entries.all fun e => (names TG DG).contains e.name) = true ∧
    ((memberNames DG).all fun n => (names TG DG).contains n) = true :=
  ⟨List.all_eq_true.2 fun e he => List.contains_iff_mem.2 (mem_names.2 (.inl ⟨e, he, rfl⟩)),
   List.all_eq_true.2 fun _ hn => List.contains_iff_mem.2 (mem_names.2 (.inr (.inl hn)))⟩

theorem unknown_find {T : Table} {G : Grammar} {n : String} (h : n ∉ names T G) : T.find? n = none :=
  find?_none T n fun e he heq => h (mem_names.2 (.inl ⟨e, he, heq⟩))

theorem unknown_member {T : Table} {G : Grammar} {n : String} (h : n ∉ names T G) : n ∉ memberNames G :=
  fun hm => h (mem_names.2 (.inr (.inl hm)))

def tokOK (t : Sx) : Bool := !okTok TG t || (ledCorr TG DG bpsG t && nudCorr TG DG bpsG t)

/-- All that is established by evaluation on the two concrete tables, in one pass (so that `names TG DG`, `bpsG`
and the table lookups are computed once). The first three conjuncts give `Corr.led` and `Corr.nud` through
`tokOK_all`: the known names one by one, as symbol and as dot-symbol (`tokOK_sym`, `tokOK_dot`); the tokens
without name or payload, one per kind; a dot-symbol of unknown name is a field access of the tightest level
(`tokOK_dot`). The fourth and fifth are `Corr.pos` and `Corr.incr` (the binding powers of the levels are
positive and increase); the last is `Corr.colon`. -/
theorem generated_checks :
    ((names TG DG).all fun n => tokOK (.sym n) && tokOK (.dot n)) = true ∧
    ([Sx.comma, Sx.semi, Sx.hash, Sx.null, Sx.arr [], Sx.lit "", Sx.list [], Sx.other true "", Sx.other false ""].all tokOK) = true ∧
    ledCorrF DG bpsG fieldAct (some TG.lbpDot) (match TG.find? "." with | some e => ledOfEntry e | none => .drop) false = true ∧
    (List.range DG.length).all (fun j => decide (0 < bpsG.getD j 0)) = true ∧
    (List.range DG.length).all (fun j => (List.range j).all (fun i => decide (bpsG.getD i 0 < bpsG.getD j 0))) = true ∧
    okTok TG (.sym ":") = true := by
  decide +kernel

theorem prefixOf_congr {t t' : Sx} (h : ∀ nm, t.isNamed nm = t'.isNamed nm) : ∀ G : Grammar, prefixOf t G = prefixOf t' G
  | [] => rfl
  | lv :: rest => by simp only [prefixOf, h, prefixOf_congr h rest]

/-- the functions involved see of a token its name (if any) and its kind only: two tokens they cannot tell apart
stand in the correspondence together (a label and the symbol of its name; any two selectors, literals, lists) -/
theorem tokOK_congr {t t' : Sx} (hm : ∀ m, matchMember DG t m = matchMember DG t' m)
    (hn : ∀ nm, t.isNamed nm = t'.isNamed nm) (hnud : nudOf TG t = nudOf TG t') (hl : lbp TG t = lbp TG t')
    (hled : ledOf TG t = ledOf TG t') (ha : t.isArr = t'.isArr) (hp : plainField TG t = plainField TG t') :
    tokOK t = tokOK t' := by
  have hact : ∀ lv ∈ DG, actOf DG lv t = actOf DG lv t' := fun lv _ => by
    unfold actOf; congr 1; funext m; exact hm m
  have h1 : ledCorr TG DG bpsG t = ledCorr TG DG bpsG t' := by
    rw [ledCorr_eq_F (f := fun lv => actOf DG lv t') hact, ledCorr_eq_F (f := fun lv => actOf DG lv t') (fun _ _ => rfl), hl, hled, ha]
  simp only [tokOK, okTok, okNudB, nudCorr, h1, hnud, hl, hp, prefixOf_congr hn]

theorem tokOK_unknown {t : Sx} {n : String} (hs : t.symName? = some n) (hn : n ∉ names TG DG) (hl : lbp TG t = some 0)
    (hc : t.isComma = false) (ha : t.isArr = false) (hd : ∀ m, t ≠ .dot m) : tokOK t = true := by
  have hmem : ∀ nm, t.symName? = some nm → nm ∉ memberNames DG := fun nm h => by
    rw [hs] at h; cases h; exact unknown_member hn
  have hnud : nudOf TG t = .atom := by simp only [nudOf, hs, unknown_find hn]
  simp only [tokOK, ledCorr_plain ⟨hmem, hc, ha, hd⟩ hl, nudCorr_plain hmem hnud, Bool.and_self, Bool.or_true]

theorem tokOK_sym (n : String) : tokOK (.sym n) = true := by
  by_cases hn : n ∈ names TG DG
  · have := List.all_eq_true.1 generated_checks.1 n hn
    rw [Bool.and_eq_true] at this; exact this.1
  · refine tokOK_unknown rfl hn ?_ rfl rfl (fun m hm => by cases hm)
    simp only [lbp, unknown_find hn]; split <;> rfl

theorem tokOK_dot (n : String) : tokOK (.dot n) = true := by
  by_cases hn : n ∈ names TG DG
  · have := List.all_eq_true.1 generated_checks.1 n hn
    rw [Bool.and_eq_true] at this; exact this.2
  · have hne : (n == "if") = false := by
      rw [beq_eq_false_iff_ne]; intro he; subst he; exact hn (mem_names.2 (.inr (.inr (.inr rfl))))
    have hl : lbp TG (.dot n) = some TG.lbpDot := by simp only [lbp, hne, unknown_find hn]; rfl
    have hled : ledOf TG (.dot n) = (match TG.find? "." with | some e => ledOfEntry e | none => .drop) := by
      simp only [ledOf, unknown_find hn]; rfl
    have h1 : ledCorr TG DG bpsG (.dot n) = true := by
      rw [ledCorr_eq_F (f := fieldAct) (fun lv hlv => actOf_dot (unknown_member hn) hlv), hl, hled]
      exact generated_checks.2.2.1
    have h2 : nudCorr TG DG bpsG (.dot n) = true :=
      nudCorr_plain (fun nm hs => by cases hs; exact unknown_member hn) (by simp only [nudOf, Sx.symName?, unknown_find hn])
    simp only [tokOK, h1, h2, Bool.and_self, Bool.or_true]

/-- every token: by its name if it has one, else through the representative of its kind -/
theorem tokOK_all (t : Sx) : tokOK t = true := by
  have hf := generated_checks.2.1
  simp only [List.all_cons, List.all_nil, Bool.and_true, Bool.and_eq_true] at hf
  obtain ⟨hcomma, hsemi, hhash, hnull, harr, hlit, hlist, hu, hc⟩ := hf
  cases t with
  | sym n => exact tokOK_sym n
  | lab n => rw [tokOK_congr (t := .lab n) (t' := .sym n) (fun m => by cases m <;> rfl) (fun _ => rfl) rfl rfl rfl rfl rfl]; exact tokOK_sym n
  | dot n => exact tokOK_dot n
  | arr xs => rw [tokOK_congr (t := .arr xs) (t' := .arr []) (fun m => by cases m <;> rfl) (fun _ => rfl) rfl rfl rfl rfl rfl]; exact harr
  | lit s => rw [tokOK_congr (t := .lit s) (t' := .lit "") (fun m => by cases m <;> rfl) (fun _ => rfl) rfl rfl rfl rfl rfl]; exact hlit
  | list xs => rw [tokOK_congr (t := .list xs) (t' := .list []) (fun m => by cases m <;> rfl) (fun _ => rfl) rfl rfl rfl rfl rfl]; exact hlist
  | other u s =>
    rw [tokOK_congr (t := .other u s) (t' := .other u "") (fun m => by cases m <;> rfl) (fun _ => rfl) rfl rfl rfl rfl rfl]
    cases u
    · exact hc
    · exact hu
  | comma => exact hcomma
  | semi => exact hsemi
  | hash => exact hhash
  | null => exact hnull

theorem tokOK_elim {t : Sx} (ht : okTok TG t = true) : ledCorr TG DG bpsG t = true ∧ nudCorr TG DG bpsG t = true := by
  simpa [tokOK, ht] using tokOK_all t

theorem corr_generated : Corr TG DG bpsG where
  pos j hj := by simpa using List.all_eq_true.1 generated_checks.2.2.2.1 j (List.mem_range.2 hj)
  incr i j hij hj := by
    have h1 := List.all_eq_true.1 generated_checks.2.2.2.2.1 j (List.mem_range.2 hj)
    simpa using List.all_eq_true.1 h1 i (List.mem_range.2 hij)
  colon := generated_checks.2.2.2.2.2
  lab _ h := h
  led _ ht := (tokOK_elim ht).1
  nud _ ht := (tokOK_elim ht).2

end ZygoVerif.Pratt
