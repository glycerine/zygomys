/-
C06 front end, parser half: the parser model, run on the complete token queue of a block
(`Spacing.Src` trees: tokens, `[ … ]`, `( … )`, nested `{ … }`), returns the expression tree of
the block — by structural induction over the source tree, nested to any depth, with the fuel
the model's loops need made explicit (`cost…`, as in Proofs/ReadPrintParse).

One parser look-ahead matters: after a symbol `-` or `+` `ParseExpression` peeks at the next
token and joins the sign to a following `Inf`/`inf` float token. No token of a `Src` tree is
that token (`elemHead`), and inside brackets a token always follows, so the peek never fires.
-/
import ZygoVerif.Proofs.ParseTokens
import ZygoVerif.Proofs.ReadPrintParse
import ZygoVerif.Proofs.LexSpacingSpec
namespace ZygoVerif.InfixRead
open ZygoVerif ZygoVerif.Lexer ZygoVerif.Parser
open ZygoVerif.Spacing (Tok Src)

def isInfTok (t : Token) : Bool := t.typ == .float && (t.str == "Inf".toList || t.str == "inf".toList)

/-- the expression `ParseExpression` builds from a single non-bracket token -/
def tokSexp (tk : Token) : Sexp :=
  if tk.typ == .symbol then .sym tk.str false false else
  match atomOfTok tk with
  | some (some e) => e
  | _ => .null

def isCommaSrc : Src → Bool
  | .tok (.punct c) => c == ','
  | _ => false

mutual
def toSexp : Src → Sexp
  | .tok t => tokSexp (expTok t)
  | .arr xs => .array (arrElems xs) false
  | .call xs => callList xs
  | .block [] => .emptyHash
  | .block (x :: xs) => .pair (Parser.sym "infix") (.pair (.array (elems (x :: xs)) true) .null)
def elems : List Src → List Sexp
  | [] => []
  | x :: r => toSexp x :: elems r
/-- `ParseArray` skips comma tokens -/
def arrElems : List Src → List Sexp
  | [] => []
  | x :: r => if isCommaSrc x then arrElems r else toSexp x :: arrElems r
def callList : List Src → Sexp
  | [] => .null
  | x :: r => .pair (toSexp x) (callList r)
end

def toks (x : Src) : List Token := x.flat.map expTok
def toksL (xs : List Src) : List Token := (Spacing.flatL xs).map expTok

theorem toksL_nil : toksL [] = [] := rfl
theorem toksL_cons (x : Src) (r : List Src) : toksL (x :: r) = toks x ++ toksL r := by
  simp [toksL, toks, Spacing.flatL]

def tLC : Token := ⟨.lcurly, []⟩
def tRC : Token := ⟨.rcurly, []⟩
open ZygoVerif.ReadPrint (tLP tRP tLS tRS)

theorem toks_arr (xs : List Src) : toks (.arr xs) = tLS :: (toksL xs ++ [tRS]) := by
  simp [toks, toksL, Src.flat, expTok, braceTok, tLS, tRS]
theorem toks_call (xs : List Src) : toks (.call xs) = tLP :: (toksL xs ++ [tRP]) := by
  simp [toks, toksL, Src.flat, expTok, braceTok, tLP, tRP]
theorem toks_block (xs : List Src) : toks (.block xs) = tLC :: (toksL xs ++ [tRC]) := by
  simp [toks, toksL, Src.flat, expTok, braceTok, tLC, tRC]
theorem toks_tok (t : Tok) : toks (.tok t) = [expTok t] := rfl

/-- well-formed source trees: well-formed tokens whose atom the parser can convert (numerals in
range), brackets only as tree structure -/
def atomOK (t : Tok) : Bool :=
  t.wf && !t.isBracket &&
  ((expTok t).typ == .symbol || (match atomOfTok (expTok t) with | some (some _) => true | _ => false))

mutual
def okSrc : Src → Bool
  | .tok t => atomOK t
  | .arr xs => okL xs
  | .call xs => okL xs
  | .block xs => okL xs
def okL : List Src → Bool
  | [] => true
  | x :: r => okSrc x && okL r
end

/-! ## conditional consumption: the rest of the queue does not start with an `Inf` token -/

def NoInfHead (rest : List Token) : Prop := ∃ t r, rest = t :: r ∧ isInfTok t = false

def ConsumesN {α : Type} (p : Prog α) (pre : List Token) (a : α) : Prop :=
  ∀ (c : LexCore) (rest : List Token) (ex : List Sexp), NoInfHead rest → c.tokens = pre ++ rest →
    runA p (tv c ex) = (.ret a, tv (setToks c rest) ex)

theorem Consumes.toN {α : Type} {p : Prog α} {pre : List Token} {a : α} (h : Consumes p pre a) : ConsumesN p pre a :=
  fun c rest ex _ hc => h c rest ex hc

theorem runA_signPeek {α : Type} (k : Token → Prog α) (c : LexCore) (ex : List Sexp) (t : Token) (ts : List Token)
    (h : c.tokens = t :: ts) : runA (.signPeek k) (tv c ex) = runA (k t) (tv c ex) := by
  simp only [runA, tv, peekWaitA, headIf_zero_cons c t ts h]

theorem atom_typ (t : Tok) (h : atomOK t = true) :
    (expTok t).typ = .symbol ∨ (expTok t).typ = .dotSymbol ∨ (expTok t).typ = .decimal ∨ (expTok t).typ = .float ∨
    (expTok t).typ = .freshAssign ∨ (expTok t).typ = .comma ∨ (expTok t).typ = .semicolon := by
  simp only [atomOK, Bool.and_eq_true, Bool.not_eq_true'] at h
  obtain ⟨⟨hwf, hnb⟩, _⟩ := h
  cases t with
  | name lead segs => simp only [expTok]; split <;> simp
  | num neg ip fp ex => simp only [expTok]; split <;> simp
  | op o => simp only [expTok]; split <;> (try split) <;> (try split) <;> simp
  | punct c =>
    simp only [Tok.isBracket, Bool.not_eq_false', Bool.or_eq_true, beq_iff_eq] at hnb
    rcases hnb with rfl | rfl <;> simp [expTok]

theorem parseExprTok_atomlike (f : Nat) (tk : Token) (e : Sexp)
    (h : tk.typ = .dotSymbol ∨ tk.typ = .decimal ∨ tk.typ = .float ∨ tk.typ = .freshAssign ∨ tk.typ = .comma ∨ tk.typ = .semicolon)
    (he : atomOfTok tk = some (some e)) : parseExprTok (f + 1) tk = Prog.pure e := by
  unfold parseExprTok
  rcases h with h | h | h | h | h | h <;> simp only [h, he] <;> rfl

theorem parseExprTok_symbol (f : Nat) (tk : Token) (h : tk.typ = .symbol) (h1 : tk.str ≠ ['-']) (h2 : tk.str ≠ ['+']) :
    parseExprTok (f + 1) tk = Prog.pure (.sym tk.str false false) := by
  unfold parseExprTok
  have e1 : (tk.str == ['-']) = false := by simpa using h1
  have e2 : (tk.str == ['+']) = false := by simpa using h2
  simp only [h, e1, e2, Bool.or_self, Bool.false_eq_true, ↓reduceIte]
  rfl

theorem parseExprTok_sign (f : Nat) (tk : Token) (h : tk.typ = .symbol) (hs : tk.str = ['-'] ∨ tk.str = ['+']) :
    parseExprTok (f + 1) tk = signPeek.bind fun tok2 =>
      if (tok2.typ == .float && (tok2.str == "Inf".toList || tok2.str == "inf".toList)) = true then
        popTok.bind fun _ =>
          match NumLit.parseFloat (tk.str ++ "Inf".toList) with
          | some b => Prog.pure (.float b false)
          | none => Parser.fail
      else Prog.pure (.sym tk.str false false) := by
  unfold parseExprTok
  have e : (tk.str == ['-'] || tk.str == ['+']) = true := by
    rcases hs with hs | hs <;> simp [hs]
  simp only [h, e, ↓reduceIte, bind, pure]
  rfl

/-- a single token is consumed alone, provided the queue does not go on with an `Inf` token -/
theorem parse_tok (t : Tok) (h : atomOK t = true) (f : Nat) :
    ConsumesN (parseExprTok (f + 1) (expTok t)) [] (tokSexp (expTok t)) := by
  have htyp := atom_typ t h
  simp only [atomOK, Bool.and_eq_true, Bool.or_eq_true, beq_iff_eq] at h
  obtain ⟨_, hconv⟩ := h
  by_cases hsym : (expTok t).typ = .symbol
  · have hts : tokSexp (expTok t) = .sym (expTok t).str false false := by simp [tokSexp, hsym]
    rw [hts]
    by_cases hs : (expTok t).str = ['-'] ∨ (expTok t).str = ['+']
    · rw [parseExprTok_sign f _ hsym hs]
      intro c rest ex hn hc
      obtain ⟨t2, r2, hr, hinf⟩ := hn
      have hq : c.tokens = t2 :: r2 := by simpa [hr] using hc
      show runA (Prog.signPeek fun x => (Prog.pure x).bind _) (tv c ex) = _
      rw [runA_signPeek _ c ex t2 r2 hq]
      have hinf' : (t2.typ == TokType.float && (t2.str == "Inf".toList || t2.str == "inf".toList)) = false := hinf
      have hset : setToks c rest = c := by
        rw [hr, ← hq]; cases c; rfl
      simp only [Prog.bind, hinf', Bool.false_eq_true, ↓reduceIte, runA, hset]
    · have h1 : (expTok t).str ≠ ['-'] := fun he => hs (Or.inl he)
      have h2 : (expTok t).str ≠ ['+'] := fun he => hs (Or.inr he)
      rw [parseExprTok_symbol f _ hsym h1 h2]
      exact Consumes.toN (Consumes.pure _)
  · have hty : (expTok t).typ = .dotSymbol ∨ (expTok t).typ = .decimal ∨ (expTok t).typ = .float ∨
        (expTok t).typ = .freshAssign ∨ (expTok t).typ = .comma ∨ (expTok t).typ = .semicolon := by
      rcases htyp with h | h
      · exact absurd h hsym
      · exact h
    rcases hconv with hc | hc
    · exact absurd hc hsym
    · cases ha : atomOfTok (expTok t) with
      | none => rw [ha] at hc; cases hc
      | some o =>
        cases o with
        | none => rw [ha] at hc; cases hc
        | some e =>
          have hts : tokSexp (expTok t) = e := by
            have : ((expTok t).typ == TokType.symbol) = false := by simpa using hsym
            simp [tokSexp, this, ha]
          rw [hts, parseExprTok_atomlike f _ e hty ha]
          exact Consumes.toN (Consumes.pure _)

mutual
def costTok : Src → Nat
  | .tok _ => 1
  | .arr xs => 1 + costSeq xs
  | .call xs => 1 + costSeq xs
  | .block xs => 2 + costSeq xs
/-- fuel for a bracket loop (`parseArray`, `parseList`, `parseInfix`) on the elements `xs` and the
closing bracket -/
def costSeq : List Src → Nat
  | [] => 1
  | x :: r => 1 + max (1 + costTok x) (costSeq r)
end

/-- a token that can start an element inside any bracket -/
def elemHead (t : Token) : Prop :=
  t.typ ≠ .rparen ∧ t.typ ≠ .backslash ∧ t.typ ≠ .rsquare ∧ t.typ ≠ .rcurly ∧ isInfTok t = false ∧
  t.typ ≠ .symbolColon ∧ t.typ ≠ .string ∧ t.typ ≠ .beginBacktickString ∧ t.typ ≠ .beginBlockComment ∧ t.typ ≠ .comment

theorem elemHead_of_typ (t : Token)
    (h : t.typ = .symbol ∨ t.typ = .dotSymbol ∨ t.typ = .decimal ∨ t.typ = .freshAssign ∨ t.typ = .comma ∨ t.typ = .semicolon ∨
      t.typ = .lparen ∨ t.typ = .lsquare ∨ t.typ = .lcurly) : elemHead t := by
  rcases h with h | h | h | h | h | h | h | h | h <;> simp [elemHead, isInfTok, h]

theorem num_not_inf (neg : Bool) (ip : List Char) (fp : Option (List Char)) (ex : Option (Char × List Char))
    (h : Tok.wf (.num neg ip fp ex) = true) : isInfTok (expTok (.num neg ip fp ex)) = false := by
  have hd := num_last_digit neg ip fp ex h
  have hne := tok_text_ne_nil _ h
  have hlast : ∀ s : List Char, s = "Inf".toList ∨ s = "inf".toList → Tok.text (.num neg ip fp ex) ≠ s := by
    intro s hs he
    have : Tok.last (.num neg ip fp ex) = 'f' := by
      simp only [Tok.last, he]
      rcases hs with rfl | rfl <;> decide
    rw [this] at hd; revert hd; decide
  simp only [isInfTok, expTok]
  split
  · simp
  · have h1 := hlast "Inf".toList (Or.inl rfl)
    have h2 := hlast "inf".toList (Or.inr rfl)
    simp only [beq_eq_false_iff_ne.2 h1, beq_eq_false_iff_ne.2 h2, Bool.or_self, Bool.and_false]

theorem elemHead_atom (t : Tok) (h : atomOK t = true) : elemHead (expTok t) := by
  rcases atom_typ t h with h1 | h1 | h1 | hf | h1 | h1 | h1
  case inr.inr.inr.inl =>
    -- a FLOAT token: only numerals are, and theirs is not `Inf`
    simp only [atomOK, Bool.and_eq_true, Bool.not_eq_true'] at h
    cases t with
    | num neg ip fp ex => simp [elemHead, hf, num_not_inf neg ip fp ex h.1.1]
    | name lead segs => simp only [expTok] at hf; split at hf <;> cases hf
    | op o => simp only [expTok] at hf; (repeat' split at hf) <;> cases hf
    | punct c =>
      have hb := h.1.2
      simp only [Tok.isBracket, Bool.not_eq_false', Bool.or_eq_true, beq_iff_eq] at hb
      rcases hb with rfl | rfl <;> simp [expTok] at hf
  all_goals exact elemHead_of_typ _ (by simp [h1])

theorem toks_head (x : Src) (h : okSrc x = true) : ∃ t ts, toks x = t :: ts ∧ elemHead t := by
  cases x with
  | tok t => exact ⟨expTok t, [], rfl, elemHead_atom t (by simpa [okSrc] using h)⟩
  | arr xs => exact ⟨tLS, _, toks_arr xs, elemHead_of_typ _ (by simp [tLS])⟩
  | call xs => exact ⟨tLP, _, toks_call xs, elemHead_of_typ _ (by simp [tLP])⟩
  | block xs => exact ⟨tLC, _, toks_block xs, elemHead_of_typ _ (by simp [tLC])⟩

theorem noInf_of_head (t : Token) (ts : List Token) (h : elemHead t) : NoInfHead (t :: ts) :=
  ⟨t, ts, rfl, h.2.2.2.2.1⟩

theorem costSeq_pos (xs : List Src) : 1 ≤ costSeq xs := by
  cases xs <;> simp only [costSeq] <;> omega

/-- what follows an element inside a bracket: the first token of the next element, or the closing bracket -/
theorem seq_head (r : List Src) (close : Token) (hr : okL r = true) (hb : close.typ ≠ .backslash)
    (hc : isInfTok close = false) :
    ∃ tr tsr, toksL r ++ [close] = tr :: tsr ∧ tr.typ ≠ .backslash ∧ isInfTok tr = false := by
  cases r with
  | nil => exact ⟨close, [], rfl, hb, hc⟩
  | cons y r' =>
    simp only [okL, Bool.and_eq_true] at hr
    obtain ⟨t, ts, hts, hh⟩ := toks_head y hr.1
    exact ⟨t, ts ++ (toksL r' ++ [close]), by rw [toksL_cons, hts]; simp, hh.2.1, hh.2.2.2.2.1⟩

theorem isCommaSrc_eq {x : Src} (h : isCommaSrc x = true) : x = .tok (.punct ',') := by
  cases x with
  | tok t =>
    cases t with
    | punct c => simp only [isCommaSrc, beq_iff_eq] at h; rw [h]
    | _ => simp [isCommaSrc] at h
  | _ => simp [isCommaSrc] at h

/-- of the first tokens of well-formed trees only that of the tree `,` is a comma token -/
theorem head_not_comma {x : Src} (hx : okSrc x = true) (hc : isCommaSrc x = false) {th : Token} {tsh : List Token}
    (hth : toks x = th :: tsh) : th.typ ≠ .comma := by
  intro hty
  cases x with
  | tok t =>
    obtain rfl : expTok t = th := by
      rw [toks_tok] at hth; simp only [List.cons.injEq] at hth; exact hth.1
    cases t with
    | punct c =>
      have hwf : atomOK (.punct c) = true := by simpa [okSrc] using hx
      simp only [atomOK, Bool.and_eq_true, Tok.isBracket, Bool.not_eq_true', Bool.not_eq_false', Bool.or_eq_true, beq_iff_eq] at hwf
      rcases hwf.1.2 with rfl | rfl
      · cases hc
      · simp [expTok] at hty
    | name lead segs => simp only [expTok] at hty; split at hty <;> cases hty
    | num neg ip fp ex => simp only [expTok] at hty; split at hty <;> cases hty
    | op o => simp only [expTok] at hty; (repeat' split at hty) <;> cases hty
  | arr ys => rw [toks_arr] at hth; simp only [List.cons.injEq] at hth; rw [← hth.1] at hty; cases hty
  | call ys => rw [toks_call] at hth; simp only [List.cons.injEq] at hth; rw [← hth.1] at hty; cases hty
  | block ys => rw [toks_block] at hth; simp only [List.cons.injEq] at hth; rw [← hth.1] at hty; cases hty

/-- an element inside a bracket, taken by `ParseExpression(depth > 0)`, then what `k` does on the rest `rst` of the
bracket, which does not start with an `Inf` token: the one composition all three bracket loops make -/
theorem consumes_elem {β : Type} {f : Nat} {th : Token} {tsh rst : List Token} {e : Sexp} {b : β} (k : Sexp → Prog β)
    (he : ConsumesN (parseExprTok f th) tsh e) (hn : NoInfHead rst) (hk : Consumes (k e) rst b) :
    Consumes ((parseExprNested (f + 1)).bind k) (th :: (tsh ++ rst)) b := by
  intro c rest ex hc
  obtain ⟨t, r, hr, ht⟩ := hn
  rw [runA_bind, runA_parseExprNested f c ex th (tsh ++ (rst ++ rest)) (by simpa using hc),
    he _ (rst ++ rest) ex ⟨t, r ++ rest, by rw [hr]; rfl, ht⟩ rfl]
  simpa [setToks] using hk (setToks c (rst ++ rest)) rest ex rfl

theorem parseInfix_succ (f : Nat) (acc : List Sexp) :
    parseInfix (f + 1) acc = ((waitPeek 0).bind fun tok =>
      if (tok.typ == TokType.rcurly) = true then
        popTok.bind fun _ =>
          if acc.isEmpty = true then Prog.pure (Sexp.pair (Parser.sym "infix") Sexp.null)
          else Prog.pure (Sexp.pair (Parser.sym "infix") (Sexp.pair (Sexp.array acc.reverse true) Sexp.null))
      else (parseExprNested f).bind fun e => parseInfix f (e :: acc)) := by
  rw [parseInfix]
  simp only [bind, pure]

theorem consumes_infix_end (f : Nat) (acc : List Sexp) (hne : acc ≠ []) :
    Consumes (parseInfix (f + 1) acc) [tRC] (.pair (Parser.sym "infix") (.pair (.array acc.reverse true) .null)) := by
  rw [parseInfix_succ]
  apply consumes_peek0
  have h1 : (tRC.typ == TokType.rcurly) = true := by decide
  have h2 : acc.isEmpty = false := by cases acc <;> simp_all
  simp only [h1, h2, Bool.false_eq_true, ↓reduceIte]
  exact consumes_pop _ tRC [] _ (Consumes.pure _)

/-- one turn of the infix loop on the first token of an element -/
theorem consumes_infix_elem (f : Nat) (acc : List Sexp) (th : Token) (ts : List Token) (r : Sexp) (h1 : th.typ ≠ .rcurly)
    (h : Consumes ((parseExprNested f).bind fun e => parseInfix f (e :: acc)) (th :: ts) r) :
    Consumes (parseInfix (f + 1) acc) (th :: ts) r := by
  rw [parseInfix_succ]
  apply consumes_peek0
  rw [if_neg (by simpa using h1)]
  exact h

theorem consumes_array_comma (f : Nat) (acc : List Sexp) (rst : List Token) (r : Sexp)
    (hr : Consumes (parseArray f acc) rst r) :
    Consumes (parseArray (f + 1) acc) (⟨.comma, [',']⟩ :: rst) r := by
  rw [parseArray_succ]
  apply consumes_peek0
  have h1 : ((⟨.comma, [',']⟩ : Token).typ == TokType.comma) = true := by decide
  simp only [h1, ↓reduceIte]
  exact consumes_pop _ _ rst r hr

theorem skipComments_plain (f : Nat) (tok2 : Token) (extra : Nat) (h1 : tok2.typ ≠ .beginBlockComment) (h2 : tok2.typ ≠ .comment) :
    skipComments (f + 1) tok2 extra = Prog.pure (tok2, extra) := by
  unfold skipComments
  have e1 : (tok2.typ == TokType.beginBlockComment) = false := by simpa using h1
  have e2 : (tok2.typ == TokType.comment) = false := by simpa using h2
  simp only [e1, e2, Bool.or_self, Bool.false_eq_true, ↓reduceIte, pure]

/-- one turn of `ParseExpression` on `{` followed by a token that starts an element: the infix loop -/
theorem consumes_lcurly (f : Nat) (t2 : Token) (ts : List Token) (r : Sexp) (hh : elemHead t2)
    (h : Consumes (parseInfix (f + 1) []) (t2 :: ts) r) : Consumes (parseExprTok (f + 2) tLC) (t2 :: ts) r := by
  intro c rest ex hc
  refine Eq.trans ?_ (h c rest ex hc)
  obtain ⟨_, _, _, h4, _, h6, h7, h8, h9, h10⟩ := hh
  unfold parseExprTok
  simp only [tLC, bind, Prog.bind, waitPeek]
  rw [runA_waitPeek0 _ c ex t2 (ts ++ rest) (by simpa using hc)]
  -- the default arm of `match tok2.typ`: its side conditions are the hypotheses h4 h6 h7 h8
  simp only [Prog.bind, skipComments_plain f t2 1 h9 h10, pure]
  all_goals (cases hty : t2.typ <;> simp_all)

theorem consumes_empty_block (f : Nat) : Consumes (parseExprTok (f + 2) tLC) [tRC] .emptyHash := by
  intro c rest ex hc
  have hq : c.tokens = tRC :: rest := by simpa using hc
  unfold parseExprTok
  simp only [tLC, bind, Prog.bind, waitPeek]
  rw [runA_waitPeek0 _ c ex tRC rest hq]
  have h1 : tRC.typ ≠ .beginBlockComment := by decide
  have h2 : tRC.typ ≠ .comment := by decide
  simp only [Prog.bind, skipComments_plain f tRC 1 h1 h2, pure]
  have : tRC.typ = .rcurly := rfl
  simp only [this, popTok, Prog.bind]
  rw [runA_getTok _ c ex tRC rest hq]
  rfl

/-- a non-empty block is its `{` followed by the infix loop on its elements, which gets the fuel left over -/
theorem consumes_block (x : Src) (xs : List Src) (hok : okL (x :: xs) = true) (f : Nat) (r : Sexp)
    (hf : costTok (.block (x :: xs)) ≤ f)
    (hinf : ∀ f', costSeq (x :: xs) ≤ f' + 1 → Consumes (parseInfix (f' + 1) []) (toksL (x :: xs) ++ [tRC]) r) :
    Consumes (parseExprTok f tLC) (toksL (x :: xs) ++ [tRC]) r := by
  simp only [costTok] at hf
  have hpos : 2 ≤ costSeq (x :: xs) := by simp [costSeq]; omega
  obtain ⟨f', rfl⟩ : ∃ f', f = f' + 3 := ⟨f - 3, by omega⟩
  simp only [okL, Bool.and_eq_true] at hok
  obtain ⟨t2, ts2, hts2, hh2⟩ := toks_head x hok.1
  have h := hinf (f' + 1) (by omega)
  rw [toksL_cons, hts2] at h ⊢
  exact consumes_lcurly (f' + 1) t2 _ r hh2 h

theorem arrElems_comma (c : Char) (h : c = ',') (r : List Src) : arrElems (.tok (.punct c) :: r) = arrElems r := by
  subst h; simp [arrElems, isCommaSrc]

/-- induction over source trees and lists of them together -/
theorem src_induction {P : Src → Prop} {Q : List Src → Prop} (tok : ∀ t, P (.tok t)) (arr : ∀ xs, Q xs → P (.arr xs))
    (call : ∀ xs, Q xs → P (.call xs)) (block : ∀ xs, Q xs → P (.block xs)) (nil : Q [])
    (cons : ∀ x r, P x → Q r → Q (x :: r)) : (∀ x, P x) ∧ (∀ xs, Q xs) :=
  ⟨fun x => Src.rec (motive_1 := P) (motive_2 := Q) tok arr call block nil cons x,
   fun xs => Src.rec_1 (motive_1 := P) (motive_2 := Q) tok arr call block nil cons xs⟩

/-- The parser on the tokens of a source tree, by induction over the tree: `ParseExpression`, with the first token in
hand, reads the rest of a tree and returns its expression; each of the three bracket loops reads a list of trees and
the closing bracket. A turn of a loop on an element is `consumes_elem` on the tree and the rest of the list. -/
theorem parse_all :
    (∀ x, okSrc x = true → ∀ f, costTok x ≤ f →
      ∃ t ts, toks x = t :: ts ∧ elemHead t ∧ ConsumesN (parseExprTok f t) ts (toSexp x)) ∧
    (∀ xs, okL xs = true → ∀ f, costSeq xs ≤ f + 1 →
      (∀ acc, Consumes (parseArray (f + 1) acc) (toksL xs ++ [tRS]) (.array (acc.reverse ++ arrElems xs) false)) ∧
      Consumes (parseList (f + 1) .rparen) (toksL xs ++ [tRP]) (callList xs) ∧
      (∀ acc, acc ≠ [] ∨ xs ≠ [] → Consumes (parseInfix (f + 1) acc) (toksL xs ++ [tRC])
        (.pair (Parser.sym "infix") (.pair (.array (acc.reverse ++ elems xs) true) .null)))) := by
  refine src_induction ?_ ?_ ?_ ?_ ?_ ?_
  · intro t hx f hf
    have ha : atomOK t = true := by simpa [okSrc] using hx
    obtain ⟨f', rfl⟩ : ∃ f', f = f' + 1 := ⟨f - 1, by simp only [costTok] at hf; omega⟩
    exact ⟨expTok t, [], rfl, elemHead_atom t ha, by simpa [toSexp] using parse_tok t ha f'⟩
  · intro xs ih hx f hf
    have hpos := costSeq_pos xs
    obtain ⟨f', rfl⟩ : ∃ f', f = f' + 2 := ⟨f - 2, by simp only [costTok] at hf; omega⟩
    refine ⟨tLS, toksL xs ++ [tRS], toks_arr xs, elemHead_of_typ _ (by simp [tLS]), Consumes.toN ?_⟩
    rw [show f' + 2 = (f' + 1) + 1 from rfl, ReadPrint.parseExprTok_lsquare]
    simpa [toSexp] using (ih (by simpa [okSrc] using hx) f' (by simp only [costTok] at hf; omega)).1 []
  · intro xs ih hx f hf
    have hpos := costSeq_pos xs
    obtain ⟨f', rfl⟩ : ∃ f', f = f' + 2 := ⟨f - 2, by simp only [costTok] at hf; omega⟩
    refine ⟨tLP, toksL xs ++ [tRP], toks_call xs, elemHead_of_typ _ (by simp [tLP]), Consumes.toN ?_⟩
    rw [show f' + 2 = (f' + 1) + 1 from rfl, ReadPrint.parseExprTok_lparen]
    simpa [toSexp] using (ih (by simpa [okSrc] using hx) f' (by simp only [costTok] at hf; omega)).2.1
  · intro xs ih hx f hf
    have hxs : okL xs = true := by simpa [okSrc] using hx
    refine ⟨tLC, toksL xs ++ [tRC], toks_block xs, elemHead_of_typ _ (by simp [tLC]), Consumes.toN ?_⟩
    cases xs with
    | nil =>
      obtain ⟨f', rfl⟩ : ∃ f', f = f' + 2 := ⟨f - 2, by simp only [costTok, costSeq] at hf; omega⟩
      simpa [toSexp, toksL_nil] using consumes_empty_block f'
    | cons x xs =>
      exact consumes_block x xs hxs f _ hf fun f' h => by
        simpa [toSexp] using (ih hxs f' h).2.2 [] (Or.inr (by simp))
  · intro _ f _
    refine ⟨fun acc => ?_, ?_, fun acc hne => ?_⟩
    · simpa [toksL_nil, arrElems] using consumes_array_end f acc tRS rfl
    · simpa [toksL_nil, callList] using consumes_list_end f .rparen tRP rfl
    · simpa [toksL_nil, elems] using consumes_infix_end f acc (hne.resolve_right fun h => h rfl)
  · intro x r ihx ihr hxs f hf
    simp only [okL, Bool.and_eq_true] at hxs
    simp only [costSeq] at hf
    obtain ⟨f', rfl⟩ : ∃ f', f = f' + 1 := ⟨f - 1, by omega⟩
    obtain ⟨th, tsh, hth, hok, hx⟩ := ihx hxs.1 f' (by omega)
    obtain ⟨ihA, ihC, ihI⟩ := ihr hxs.2 f' (by omega)
    refine ⟨fun acc => ?_, ?_, fun acc _ => ?_⟩
    · by_cases hc : isCommaSrc x = true
      · obtain rfl := isCommaSrc_eq hc
        simpa [toksL_cons, toks_tok, expTok, arrElems_comma] using consumes_array_comma (f' + 1) acc _ _ (ihA acc)
      · have hne : isCommaSrc x = false := by simpa using hc
        obtain ⟨tr, tsr, hrst, _, hni⟩ := seq_head r tRS hxs.2 (by decide) (by decide)
        have := consumes_array_elem (f' + 1) acc th _ _ (head_not_comma hxs.1 hne hth) hok.2.2.1
          (consumes_elem _ hx ⟨tr, tsr, hrst, hni⟩ (ihA (toSexp x :: acc)))
        simpa [toksL_cons, hth, arrElems, hne, List.append_assoc] using this
    · obtain ⟨tr, tsr, hrst, hnb, hni⟩ := seq_head r tRP hxs.2 (by decide) (by decide)
      have := consumes_list_elem (f' + 1) th _ _ hok.1
        (consumes_elem _ hx ⟨tr, tsr, hrst, hni⟩
          (hrst ▸ consumes_list_tail (f' + 1) (toSexp x) (callList r) tr tsr hnb (hrst ▸ ihC)))
      simpa [toksL_cons, hth, callList, List.append_assoc] using this
    · obtain ⟨tr, tsr, hrst, _, hni⟩ := seq_head r tRC hxs.2 (by decide) (by decide)
      have := consumes_infix_elem (f' + 1) acc th _ _ hok.2.2.2.1
        (consumes_elem _ hx ⟨tr, tsr, hrst, hni⟩ (ihI (toSexp x :: acc) (Or.inl (by simp))))
      simpa [toksL_cons, hth, elems, List.append_assoc] using this

theorem parse_src : (x : Src) → okSrc x = true → ∀ f, costTok x ≤ f →
    ∃ t ts, toks x = t :: ts ∧ elemHead t ∧ ConsumesN (parseExprTok f t) ts (toSexp x) :=
  parse_all.1

theorem parse_arr : (xs : List Src) → okL xs = true → ∀ (acc : List Sexp) (f : Nat), costSeq xs ≤ f + 1 →
    Consumes (parseArray (f + 1) acc) (toksL xs ++ [tRS]) (.array (acc.reverse ++ arrElems xs) false) :=
  fun xs hxs acc f hf => (parse_all.2 xs hxs f hf).1 acc

theorem parse_call : (xs : List Src) → okL xs = true → ∀ (f : Nat), costSeq xs ≤ f + 1 →
    Consumes (parseList (f + 1) .rparen) (toksL xs ++ [tRP]) (callList xs) :=
  fun xs hxs f hf => (parse_all.2 xs hxs f hf).2.1

theorem parse_infix : (xs : List Src) → okL xs = true → ∀ (acc : List Sexp) (f : Nat), costSeq xs ≤ f + 1 →
    (acc ≠ [] ∨ xs ≠ []) →
    Consumes (parseInfix (f + 1) acc) (toksL xs ++ [tRC])
      (.pair (Parser.sym "infix") (.pair (.array (acc.reverse ++ elems xs) true) .null)) :=
  fun xs hxs acc f hf => (parse_all.2 xs hxs f hf).2.2 acc

/-- a non-empty block, whatever follows it in the queue -/
theorem parse_block (x : Src) (xs : List Src) (hok : okL (x :: xs) = true) (f : Nat) (hf : costTok (.block (x :: xs)) ≤ f) :
    Consumes (parseExprTok f tLC) (toksL (x :: xs) ++ [tRC]) (toSexp (.block (x :: xs))) :=
  consumes_block x xs hok f _ hf fun f' h => by
    simpa [toSexp] using parse_infix (x :: xs) hok [] f' h (Or.inr (by simp))

end ZygoVerif.InfixRead
