/-
C02, execution half — operands of calls: `EvalCallExpression` compiles an operand at run time and runs it in a nested
`Run`. The machine side (the helper function, the nested run, what `Run` returns), and the simulation of one operand and
of a list of operands over the interface of Proofs/SimStep.lean.
-/
import ZygoVerif.Proofs.SimStep
import ZygoVerif.Proofs.SimCallVM
import ZygoVerif.Proofs.SimText
namespace ZygoVerif.Sim
open ZygoVerif.Core ZygoVerif.VM

/-- `Run` from a state from which the loop reaches `pc = -1` with a value on top -/
theorem run_reach_halt {s₃ s₄ : St} {v : Val} {D' : List (Option Val)} (hr : ReachX s₃ s₄) (hpc : s₄.pc = -1)
    (hd : s₄.data = some v :: D') :
    ∃ M, ∀ fuel, M ≤ fuel → (run fuel).run s₃ = (.ok v, { s₄ with data := D' }) := by
  obtain ⟨K, m, k, hk, H⟩ := hr
  have h4 : Ev fun f => (runLoop f (capOf s₃)).run s₄ = (.ok (), s₄) :=
    Ev.shift 1 (Ev.of_forall fun _ => trivial) fun F _ => runLoop_halt _ F _ (Or.inl hpc)
  refine Ev.shift 1 (Ev.shift k (Ev.and ⟨m, H⟩ h4) (Q := fun x => (runLoop x (capOf s₃)).run s₃ = (.ok (), s₄))
    fun _ ⟨e1, e2⟩ => by rw [e1, e2]) fun x hloop => ?_
  rw [run]
  simp only [run_bind, run_capture, hloop, run_get, hd, List.isEmpty_cons, Bool.false_eq_true, if_false, run_popData]

/-- `Run` inside a helper function whose code is `code ++ [ret]`: the code lands with `v`, `ret`
returns to `pc = -1` of the caller, the loop stops there, `Run` pops `v`. -/
theorem run_helper_ok {s₃ s₄ : St} {code : List Instr} {v : Val} {cf : Nat} {A : List (Option (Nat × Int))}
    (hseg : Seg s₃ [] code [.ret]) (hr : ReachX s₃ s₄) (hl : Lands code.length v s₃ s₄)
    (ha : s₄.addr = some (cf, -1) :: A) :
    ∃ M, ∀ fuel, M ≤ fuel →
      (run fuel).run s₃ = (.ok v, { s₄ with addr := A, curfunc := cf, pc := -1, data := s₃.data }) :=
  run_reach_halt (s₄ := { s₄ with addr := A, curfunc := cf, pc := -1 })
    (hr.trans (ReachX.step (show At s₄ code .ret [] from hseg.landed hl (c₁ := code) (by simp) rfl) 0
      fun f _ => by rw [exec_ret, ha])) rfl hl.data

/-- `Run` over code that ends in a script error -/
theorem run_of_failsE {s : St} {tr : List String} (h : FailsX s tr) :
    ∃ M, ∀ fuel, M ≤ fuel → ∃ sf, (run fuel).run s = (.error .err, sf) ∧ sf.trace = tr := by
  obtain ⟨K, k, hk, m, H⟩ := h
  refine Ev.shift 1 (Ev.shift k ⟨m, H⟩ (Q := fun x => ∀ st, ∃ sf, (runLoop x st).run s = (.error .err, sf) ∧ sf.trace = tr)
    fun _ h => h) fun x hx => ?_
  obtain ⟨sf, hrun, htr⟩ := hx (capOf s)
  exact ⟨sf, by rw [run]; simp only [run_bind, run_capture, hrun], htr⟩

/-- the helper function `EvalCallExpression` makes for an operand -/
def helperFn (s : St) (code : List Instr) : FnObj :=
  { name := "callExprEval", code := code ++ [.ret], closing := closingNow s, parent := some s.curfunc }

/-- the state in which the helper starts: function registered, `pc := -2`, then `CallFunction` -/
def inHelper (s : St) (code : List Instr) : St :=
  { s with fns := s.fns ++ [helperFn s code], addr := some (s.curfunc, -1) :: s.addr,
           curfunc := s.fns.length, pc := 0 }

theorem fnOf_inHelper_self (s : St) (code : List Instr) :
    fnOf (inHelper s code) (inHelper s code).curfunc = helperFn s code :=
  fnOf_append_self (s := s) rfl

theorem fnOf_inHelper_old (s : St) (code : List Instr) (id : Nat) (hid : id < s.fns.length) :
    fnOf (inHelper s code) id = fnOf s id :=
  fnOf_append_old (o := helperFn s code) rfl hid

theorem seg_inHelper (s : St) (code : List Instr) : Seg (inHelper s code) [] code [.ret] :=
  ⟨by rw [fnOf_inHelper_self]; rfl, by rw [fnOf_inHelper_self]; rfl, rfl⟩

/-- back from the helper function, in the control state of the caller -/
theorem Frame.of_inHelper {s s₄ : St} {code : List Instr} (h : Frame (inHelper s code) s₄) :
    Frame s { s₄ with addr := s.addr, curfunc := s.curfunc, pc := s.pc, data := s.data } :=
  ⟨h.linear, rfl, rfl, h.susp, Nat.le_trans (by show s.fns.length ≤ (s.fns ++ [_]).length; simp) h.fnsLen,
    fun id hid => (h.fns id (by show id < (s.fns ++ [_]).length; simp; omega)).trans (fnOf_inHelper_old s code id hid),
    h.loopsLen, h.loops⟩

/-- `EvalCallExpression` on an operand that is not a symbol: compile, register the helper, run it
in a nested `Run`, restore the control state. -/
theorem evalCallExpr_nonsym (fuel : Nat) (e : Expr) (hns : ∀ x, e ≠ .sym x) (s0 s : St) (code : List Instr) (t : Bool)
    (hgen : (runGen (compile (isFnScope s0) {} e)).run s0 = (.ok (code, t), s)) (hne : code ≠ []) :
    (evalCallExpr (fuel + 2) e).run s0 =
      match (run fuel).run (inHelper s code) with
      | (.ok v, s') => (.ok v, ((restore (capOf s)).run s').2)
      | (.error .err, s') => (.error .err, ((restore (capOf s)).run s').2)
      | (.error flt, s') => (.error flt, s') := by
  rw [run_evalCallExpr (fuel + 1) e s0 hns, hgen]
  dsimp only
  rw [if_neg (by simpa using hne), run_nested_thunk fuel s (thunkObj _ _ _ _) _ _ _ rfl rfl (inHelper s code) rfl]
  rcases (run fuel).run (inHelper s code) with ⟨(_ | _ | _) | v, s'⟩ <;>
    simp only [handOn, Contain.run_restore, if_true] <;> rfl

/-- the VM state with the loop table and compile-time loop stack the generator left -/
def withLoops (s : St) (gs' : GS) : St := { s with loops := gs'.loops, loopstack := gs'.loopstack }

/-- the generator succeeded without touching the function table: `runGen` returns its result and
stores the loop records -/
theorem run_runGen_any {α} (g : G α) (s : St) (a : α) (gs' : GS)
    (h : g.run { fns := s.fns, loops := s.loops, loopstack := s.loopstack, live := s.linear } = .ok (a, gs'))
    (hf : gs'.fns = s.fns) : (runGen g).run s = (.ok a, withLoops s gs') := by
  rw [run_runGen_gen g s a gs' h, withGen, hf]; rfl

/-- a system whose runs may be nested: its reach and failure notions are those of `Run` at any depth, there are no
exits (`noex` as in `FgP`), a run leaves the control stacks alone, and the relation survives the generator's loop records, the entry into the helper function of an
operand and the return from it -/
structure Sys.Nest (Y : Sys) : Prop where
  rchx : ∀ {K a b}, Y.Rch K a b → ReachX a b
  flx : ∀ {K a t}, Y.Fl K a t → FailsX a t
  noex : ∀ w s rs res, ¬ Y.Ex w s rs res
  frame : ∀ {w s rs w' s' rs'}, Y.X w s rs w' s' rs' → Frame s s'
  rgen : ∀ {w s rs env}, Y.R w s rs env → ∀ gs' : GS, gs'.fns = s.fns → s.loops.length ≤ gs'.loops.length →
    (∀ id, id < s.loops.length → gs'.loops.getD id {} = s.loops.getD id {}) →
    Y.R w (withLoops s gs') rs env ∧ Y.X w s rs w (withLoops s gs') rs
  rhelper : ∀ {w s rs env}, Y.R w s rs env → ∀ code, Y.R w (inHelper s code) rs env
  rreturn : ∀ {w s rs env code w₄ s₄ rs₄}, Y.R w s rs env → Y.R w₄ s₄ rs₄ env → Y.X w (inHelper s code) rs w₄ s₄ rs₄ →
    Y.R w₄ { s₄ with addr := s.addr, curfunc := s.curfunc, pc := s.pc, data := s.data } rs₄ env
      ∧ Y.X w s rs w₄ { s₄ with addr := s.addr, curfunc := s.curfunc, pc := s.pc, data := s.data } rs₄
      ∧ ∀ v, Y.Cl w₄ s₄ rs₄ v → Y.Cl w₄ { s₄ with addr := s.addr, curfunc := s.curfunc, pc := s.pc, data := s.data } rs₄ v

variable {Y : Sys}

variable (Y) in
/-- `EvalCallExpression` against `Ref.eval`: the value, control state as before, related states -/
def HEval (e : Expr) (w : Y.W) (s : St) (rs : Ref.St) (env : Nat) (res : Ref.R Val) : Prop :=
  match res with
  | .ok v' rs' => ∃ (M : Nat) (s' : St) (w' : Y.W) (v : Val), (∀ fuel, M ≤ fuel → (evalCallExpr fuel e).run s = (.ok v, s'))
      ∧ s'.data = s.data ∧ s'.pc = s.pc ∧ v' = Y.tv w' v ∧ Y.R w' s' rs' env ∧ Y.X w s rs w' s' rs' ∧ Y.Cl w' s' rs' v
  | .err rs' => ∃ M, ∀ fuel, M ≤ fuel → ∃ se, (evalCallExpr fuel e).run s = (.error .err, se) ∧ se.trace = rs'.trace
  | .timeout => True
  | .brk _ _ => False
  | .cont _ _ => False

theorem heval_sym (hbd : Y.Binds) (x : String) (n : Nat) (hx : Y.OkS x) {w : Y.W} {s : St} {rs : Ref.St} {env : Nat} (hrel : Y.R w s rs env) :
    HEval Y (.sym x) w s rs env (Ref.eval n (.sym x) env rs) := by
  cases n with
  | zero => rw [Ref.eval]; trivial
  | succ n =>
    rw [Ref.eval, ← hbd.lex hrel x]
    have hrun : ∀ fuel, (evalCallExpr (fuel + 1) (.sym x)).run s = match lexLookup s x with
        | some (_, v) => (.ok v, s) | none => (.error .err, s) := by
      intro fuel
      rw [evalCallExpr]
      simp only [run_bind, run_get]
      cases lexLookup s x with
      | none => simp only [run_err]
      | some r => obtain ⟨i, v⟩ := r; simp only [run_pure]
    cases hv : lexLookup s x with
    | none => exact Ev.shift 1 (Ev.of_forall hrun) fun f h => ⟨s, by rw [h, hv], hbd.trace hrel⟩
    | some r =>
      obtain ⟨i, v⟩ := r
      obtain ⟨M, hM⟩ : Ev fun fuel => (evalCallExpr fuel (.sym x)).run s = (.ok v, s) :=
        Ev.shift 1 (Ev.of_forall hrun) fun f h => by rw [h, hv]
      exact ⟨M, s, w, v, hM, rfl, rfl, rfl, hrel, Y.xrefl _ _ _, hbd.cl_lookup hrel hx hv⟩

/-- an operand that is not a symbol, given the segment lemma for it at the same reference fuel: compiled now, run in a
nested `Run` inside a helper function, the control state restored -/
theorem heval_nonsym (hN : Y.Nest) {Fr : Fg Y} {P : Expr → Bool} {n : Nat} (hE : HClaimE Y Fr P n) (e : Expr) (he : P e = true)
    (hns : ∀ x, e ≠ .sym x) (hcok : Fr.Cok {}) (hinv : ∀ gs gs' pre w s rs, Fr.Inv {} gs gs' pre w s rs)
    {w : Y.W} {s0 : St} {rs : Ref.St} {env : Nat} (hrel0 : Y.R w s0 rs env)
    (htot : ∃ code t gs', (compile (isFnScope s0) {} e).run
        { fns := s0.fns, loops := s0.loops, loopstack := s0.loopstack, live := s0.linear } = .ok ((code, t), gs') ∧ code ≠ []
      ∧ gs'.fns = s0.fns ∧ s0.loops.length ≤ gs'.loops.length ∧ ∀ id, id < s0.loops.length → gs'.loops.getD id {} = s0.loops.getD id {}) :
    HEval Y e w s0 rs env (Ref.eval n e env rs) := by
  obtain ⟨code, t, gs', hc, hne, hfns, hll, hlg⟩ := htot
  -- the generator may have registered loop records (a `for` inside the operand): `s` is `s0` with them
  have hgen : (runGen (compile (isFnScope s0) {} e)).run s0 = (.ok (code, t), withLoops s0 gs') :=
    run_runGen_any _ s0 _ gs' hc hfns
  obtain ⟨hrel, x0⟩ := hN.rgen hrel0 gs' hfns hll hlg
  generalize hs : withLoops s0 gs' = s at hgen hrel x0
  have hs0 : s.data = s0.data ∧ s.pc = s0.pc := by subst hs; exact ⟨rfl, rfl⟩
  have hseg := seg_inHelper s code
  have hsim := hE e he (isFnScope s0) {} _ ((code, t), _) hc hcok w (inHelper s code) rs env [] [.ret]
    (hN.rhelper hrel code) (hinv _ _ _ _ _ _) hseg
  have hunf := fun fuel => evalCallExpr_nonsym fuel e hns s0 s code t hgen hne
  rcases Y.cases_plain hN.noex hsim with ⟨v', rs', hres, s4, w4, v, r, l, hv, rel4, x4, hcl4⟩ | ⟨rs', hres, hf⟩ | hres
  · rw [hres]
    have fr4 := hN.frame x4
    obtain ⟨M, hM⟩ := run_helper_ok hseg (hN.rchx r) l (fr4.addr : s4.addr = some (s.curfunc, -1) :: s.addr)
    have hbal := run_restore_balanced (capOf s)
      { s4 with addr := s.addr, curfunc := s.curfunc, pc := -1, data := (inHelper s code).data }
      (by show s4.suspended.length = s.suspended.length; rw [fr4.susp]; rfl) rfl
      (by show s4.linear.length = s.linear.length; rw [fr4.linear]; rfl) rfl
    obtain ⟨rel5, x5, cl5⟩ := hN.rreturn hrel rel4 x4
    obtain ⟨M', hM'⟩ : Ev fun fuel => (evalCallExpr fuel e).run s0
        = (.ok v, { s4 with addr := s.addr, curfunc := s.curfunc, pc := s.pc, data := s.data }) :=
      Ev.shift 2 ⟨M, hM⟩ fun f h => by rw [hunf f, h]; simp only [hbal]; rfl
    exact ⟨M', _, w4, v, hM', hs0.1, hs0.2, hv, rel5, Y.xtrans x0 x5, cl5 v hcl4⟩
  · rw [hres]
    exact Ev.shift 2 (run_of_failsE (hN.flx hf)) fun f ⟨sf, hrun, htr⟩ =>
      ⟨_, by rw [hunf f, hrun], by rw [restore_trace]; exact htr⟩
  · rw [hres]; trivial

variable (Y) in
/-- `PrepareCallExprArgs` against `evalArgs`: the values pushed, first deepest; control state as before -/
def HArgs (fo : Option FnObj) (i : Nat) (args : List Expr) (w : Y.W) (s : St) (rs : Ref.St) (env : Nat)
    (res : Ref.R (List Val)) : Prop :=
  match res with
  | .ok vs' rs' => ∃ (M : Nat) (s' : St) (w' : Y.W) (vs : List Val),
      (∀ fuel, M ≤ fuel → (prepareArgs fuel fo i args).run s = (.ok (), s'))
      ∧ s'.data = vs.reverse.map some ++ s.data ∧ s'.pc = s.pc ∧ vs' = vs.map (Y.tv w') ∧ Y.R w' s' rs' env
      ∧ Y.X w s rs w' s' rs' ∧ ∀ v ∈ vs, Y.Cl w' s' rs' v
  | .err rs' => ∃ M, ∀ fuel, M ≤ fuel → ∃ se, (prepareArgs fuel fo i args).run s = (.error .err, se) ∧ se.trace = rs'.trace
  | .timeout => True
  | .brk _ _ => False
  | .cont _ _ => False

theorem hargs_nil {fo : Option FnObj} {i : Nat} {w : Y.W} {s : St} {rs : Ref.St} {env : Nat} (hrel : Y.R w s rs env) :
    HArgs Y fo i [] w s rs env (.ok [] rs) := by
  obtain ⟨M, hM⟩ : Ev fun fuel => (prepareArgs fuel fo i []).run s = (.ok (), s) :=
    Ev.shift 1 (Ev.of_forall fun _ => trivial) fun f _ => by
      rw [prepareArgs]
      · rfl
      · omega
  exact ⟨M, s, w, [], hM, by simp, rfl, rfl, hrel, Y.xrefl _ _ _, fun v hv => by cases hv⟩

/-- one more operand evaluated in front of the others; any other outcome of either is the outcome -/
theorem hargs_cons {fo : Option FnObj} {i : Nat} {e : Expr} {es : List Expr} {w : Y.W} {s : St} {rs : Ref.St} {env : Nat}
    {res₁ : Ref.R Val} {rest : Ref.St → Ref.R (List Val)}
    (hunf : ∀ fuel, (prepareArgs (fuel + 1) fo i (e :: es)).run s
        = match (evalCallExpr fuel e).run s with
          | (.ok v, s1) => (prepareArgs fuel fo (i + 1) es).run (s1.jmp s1.pc (some v :: s1.data))
          | (.error flt, s1) => (.error flt, s1))
    (he : HEval Y e w s rs env res₁)
    (ih : ∀ w₁ s₁ rs₁, Y.R w₁ s₁ rs₁ env → HArgs Y fo (i + 1) es w₁ s₁ rs₁ env (rest rs₁)) :
    HArgs Y fo i (e :: es) w s rs env
      (match (generalizing := false) res₁ with
       | .ok v s => (match (generalizing := false) rest s with
         | .ok vs s => .ok (v :: vs) s
         | r => r)
       | .err s => .err s | .brk l s => .brk l s | .cont l s => .cont l s | .timeout => .timeout) := by
  cases res₁ with
  | ok v' rs1 =>
    obtain ⟨M1, s1, w1, v, hM1, hd1, hp1, hv1, rel1, x1, hcl1⟩ := he
    have ih' := ih w1 (s1.jmp s1.pc (some v :: s1.data)) rs1 (Y.rjmp rel1 _ _)
    simp only
    cases h2 : rest rs1 with
    | ok vs' rs2 =>
      rw [h2] at ih'
      obtain ⟨M2, s2, w2, vs, hM2, hd2, hp2, hvs2, rel2, x2, hcl2⟩ := ih'
      have x12 := Y.xtrans (Y.xjmp w1 s1 rs1 s1.pc (some v :: s1.data)) x2
      obtain ⟨M, hM⟩ : Ev fun fuel => (prepareArgs fuel fo i (e :: es)).run s = (.ok (), s2) :=
        Ev.shift 1 (Ev.and ⟨M1, hM1⟩ ⟨M2, hM2⟩) fun f ⟨e1, e2⟩ => by rw [hunf f, e1]; exact e2
      refine ⟨M, s2, w2, v :: vs, hM, ?_, by rw [hp2]; exact hp1, ?_, rel2, Y.xtrans x1 x12, fun u hu => ?_⟩
      · rw [hd2]; show _ ++ (some v :: s1.data) = _; rw [hd1]; simp
      · rw [List.map_cons, Y.tv_ext hcl1 x12, hv1, hvs2]
      · rcases List.mem_cons.mp hu with rfl | hu
        · exact Y.cl_ext hcl1 x12
        · exact hcl2 u hu
    | err rs2 =>
      rw [h2] at ih'
      exact Ev.shift 1 (Ev.and ⟨M1, hM1⟩ ih') fun f ⟨e1, se, hse, htr⟩ => ⟨se, by rw [hunf f, e1]; exact hse, htr⟩
    | timeout => trivial
    | brk l rs2 => rw [h2] at ih'; exact ih'
    | cont l rs2 => rw [h2] at ih'; exact ih'
  | err rs1 =>
    exact Ev.shift 1 he fun f ⟨se, hse, htr⟩ => ⟨se, by rw [hunf f, hse], htr⟩
  | timeout => trivial
  | brk l rs1 => exact he
  | cont l rs1 => exact he

end ZygoVerif.Sim
