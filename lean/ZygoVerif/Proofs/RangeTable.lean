/-
Tables of closed ranges `(lo, hi)` of natural numbers (Go's `unicode` and `strconv` tables, as the
extractor prints them): a fact that lets a proof by evaluation walk the long table once for many
members instead of once per member. Core Lean only.
-/
namespace ZygoVerif.RangeTable

/-- Below `n` only the ranges that start below `n` matter (no order of the table is needed). Use: rewrite
each membership test with it at ONE bound `n`; the kernel then cuts the table once and walks the short
list per member. It does not help a single test, nor a term in which the test sits under other
definitions that would have to be unfolded first. -/
theorem any_below {c n : Nat} (h : c < n) (l : List (Nat × Nat)) :
    l.any (fun r => r.1 ≤ c && c ≤ r.2) = (l.filter (·.1 < n)).any (fun r => r.1 ≤ c && c ≤ r.2) := by
  induction l with
  | nil => rfl
  | cons r rs ih =>
    by_cases hr : r.1 < n
    · simp only [List.any_cons, List.filter_cons, hr, decide_true, if_true, ih]
    · have : ¬ r.1 ≤ c := by omega
      simp [hr, this, ih]

end ZygoVerif.RangeTable
