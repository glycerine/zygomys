/-
`FuelIsEnough → StepwiseIsRun` (C13): if the fuel of the delivery model is never the cause of an
error, the call-by-call protocol computes `parseChunks` for EVERY text, errors included.

The protocol gives every `ParsingIter` new fuel. Seen from the delivery model, the protocol after
its i-th `done` is the delivery model started with MORE fuel: every stage of the protocol is a stage
of `run (topLoop G) t0` for some `G ≥ F`, uniformly in a further shift `d` of all fuel indices
(`Shift`, `StageInv`; `stage`: one call; `stages`: the induction over the pieces). `FuelIsEnough` says all these runs are the run with `fuelFor cs`; for a parse that does
not end in an error `run_fuel_mono` says so, and without a `done` before the last call `G = F`.
-/
import ZygoVerif.Proofs.StepwiseTrace
namespace ZygoVerif.Parser
open ZygoVerif.Lexer

/-- a program that comes to rest does so without meeting a cut: the larger program rests at the
same place, in the corresponding (larger) program; and one that returns without resting returns
the same way -/
theorem suspendA_le {α : Type} {p p' : SProg α} (h : SProg.le p p') : ∀ (v : View),
    (∀ e κ v', suspendA p v = some (e, κ, v') → ∃ κ', suspendA p' v = some (e, κ', v') ∧ SProg.le κ κ') ∧
    (suspendA p v = none → ∀ a v1, runA p.erase v = (.ret a, v1) →
      suspendA p' v = none ∧ runA p'.erase v = (.ret a, v1)) := by
  induction p using SProg.wt_induction generalizing p' with
  | pure a => cases h; exact fun v => ⟨(fun e κ v' h => nomatch h), fun _ _ _ h => ⟨rfl, h⟩⟩
  | fail => exact fun v => ⟨(fun e κ v' h => nomatch h), (fun _ a v1 h => nomatch h)⟩
  | wait p w hw ih _ =>
    intro v
    obtain ⟨w', hw', e1, e2, _, e4, hnext, _, _⟩ := h.wt hw
    rw [suspendA_wt hw, suspendA_wt hw', runA_erase_wt hw, runA_erase_wt hw', e1, e2, e4]
    cases hp : peekWaitA w.orEnd w.extra v.exprs v.fin v.runes v.core with
    | tok t v1 =>
      dsimp only
      cases hn : w.next t v1.core.tokens with
      | none => exact ⟨(fun e κ v' h => nomatch h), (fun _ a v1' h => nomatch h)⟩
      | some x =>
        obtain ⟨x', hx', hts, hle⟩ := hnext _ _ _ hn
        simp only [hx', hts]
        exact ih t _ x.1 x.2 hn hle (v1.setToks x.2)
    | stop st v1 =>
      cases st with
      | more => exact ⟨(fun e κ v' h => by cases h; exact ⟨_, rfl, ‹SProg.le p p'›⟩), (fun h => nomatch h)⟩
      | done => exact ⟨(fun e κ v' h => nomatch h), (fun _ a v1' h => nomatch h)⟩
      | err => exact ⟨(fun e κ v' h => nomatch h), (fun _ a v1' h => nomatch h)⟩
  | pushTok t k ih => cases h with | pushTok _ _ k' hk => exact fun v => ih hk _
  | pushExpr e k ih => cases h with | pushExpr _ _ k' hk => exact fun v => ih hk _

inductive Shift (d : Nat) : SProg Unit → SProg Unit → Prop
  | top (f : Nat) : Shift d (S.topLoop f) (S.topLoop (f + d))
  | inner (f : Nat) (P P' : SProg Sexp) (hle : SProg.le P P') (hP : P.noTop) (hP' : P'.noTop) :
      Shift d (P.bind (afterExpr f)) (P'.bind (afterExpr (f + d)))

theorem Shift.le {d : Nat} {Q Q' : SProg Unit} (h : Shift d Q Q') : SProg.le Q Q' := by
  cases h with
  | top f => exact S_topLoop_le f (f + d) (Nat.le_add_right _ _)
  | inner f P P' hle hP hP' =>
    exact SProg.le_bind hle fun a => .pushExpr a _ _ (S_topLoop_le f (f + d) (Nat.le_add_right _ _))

/-- `Q'`, which is `Q` with all fuel indices shifted by `d`, rests where `Q` rests, in the shifted program; after a
`done` both are a `topLoop`, at exactly the shifted fuel -/
def ShiftOK (d : Nat) (Q Q' : SProg Unit) : Prop := ∀ (v : View) (e : Bool) (κ : SProg Unit) (v' : View),
  suspendA Q v = some (e, κ, v') →
    ∃ κ', suspendA Q' v = some (e, κ', v') ∧ Shift d κ κ' ∧
      (e = true → ∃ f, κ = S.topLoop (f + 1) ∧ κ' = S.topLoop (f + 1 + d))

theorem shiftOK_inner (d f : Nat) (ihtop : ShiftOK d (S.topLoop f) (S.topLoop (f + d)))
    (P P' : SProg Sexp) (hle : SProg.le P P') (hP : P.noTop) (hP' : P'.noTop) :
    ShiftOK d (P.bind (afterExpr f)) (P'.bind (afterExpr (f + d))) := by
  intro v e κ v' h
  obtain ⟨l1, l2⟩ := suspendA_le hle v
  rw [suspendA_bind] at h ⊢
  cases hs : suspendA P v with
  | some x =>
    obtain ⟨e0, κ0, v0⟩ := x
    obtain ⟨κ0', m1, m2⟩ := l1 e0 κ0 v0 hs
    obtain ⟨rfl, hκ⟩ := noTop_suspendA hP v e0 κ0 v0 hs
    obtain ⟨_, hκ'⟩ := noTop_suspendA hP' v false κ0' v0 m1
    simp only [hs, Option.some.injEq, Prod.mk.injEq] at h
    obtain ⟨rfl, rfl, rfl⟩ := h
    simp only [m1]
    exact ⟨_, rfl, .inner f κ0 κ0' m2 hκ hκ', fun h => by simp at h⟩
  | none =>
    simp only [hs] at h
    cases hr : runA P.erase v with
    | mk r v1 =>
      cases r with
      | ret a =>
        obtain ⟨hnone, hr'⟩ := l2 hs a v1 hr
        simp only [hr] at h
        simp only [hnone, hr']
        simp only [afterExpr, suspendA] at h ⊢
        exact ihtop _ e κ v' h
      | stop st => simp [hr] at h

theorem shiftOK_top (d : Nat) : ∀ f, ShiftOK d (S.topLoop f) (S.topLoop (f + d)) := by
  intro f
  induction f with
  | zero =>
    intro v e κ v' h
    rw [S.topLoop] at h
    simp [S.fail, suspendA] at h
  | succ f ih =>
    intro v e κ v' h
    have h' := suspendA_topLoop_succ (f + d) v
    rw [show f + d + 1 = f + 1 + d by omega] at h'
    rw [suspendA_topLoop_succ] at h
    rw [h']
    revert h
    cases topGetA v.exprs v.fin v.runes v.core with
    | tok t v1 =>
      exact shiftOK_inner d f ih _ _ (S_parseExprTok_le f d t) ((parAll f).1 t).noTop ((parAll (f + d)).1 t).noTop
        v1 e κ v'
    | finished st v1 =>
      cases st with
      | done => intro h; cases h; exact ⟨_, rfl, .top (f + 1), fun _ => ⟨f, rfl, rfl⟩⟩
      | more => intro h; cases h; exact ⟨_, rfl, .top (f + 1), fun h => (nomatch h)⟩
      | err => intro h; cases h

theorem shiftOK (d : Nat) (Q Q' : SProg Unit) (h : Shift d Q Q') : ShiftOK d Q Q' := by
  cases h with
  | top f => exact shiftOK_top d f
  | inner f P P' hle hP hP' => exact shiftOK_inner d f (shiftOK_top d f) P P' hle hP hP'

/-- A call comes to rest (`hbase`: what it has done by then); the run of the delivery model goes on after the delivery
with the program the call rests in (`run_split`). So does the run of every shifted version of the program, from the
same state, with the shifted version of that program: below a run that is not an error nothing is cut off (`run_le`). -/
theorem shifted_rest (c : List Char) (fut' : List (List Char)) (t : PState) (hi : Inv t) (hfin : t.lex.finished = false)
    (hfut : t.fut = c :: fut') (Q : SProg Unit) (e : Bool) (κ : SProg Unit) (v' : View)
    (hs : suspendA Q (view t.base) = some (e, κ, v')) (s1 : PState)
    (hbase : run Q.erase t.base = ((if e then Fin.ret () else Fin.stop .more), s1))
    (d : Nat) (Q' : SProg Unit) (hsh : Shift d Q Q') :
    ∃ κ', Shift d κ κ' ∧ (e = true → ∃ f, κ = S.topLoop (f + 1) ∧ κ' = S.topLoop (f + 1 + d)) ∧
      run Q'.erase t = run κ'.erase ((t.restore s1).deliver c fut' (if e then .done else .more)) := by
  obtain ⟨κ', k1, k2, k3⟩ := shiftOK d _ _ hsh (view t.base) e κ v' hs
  have hsplit' := run_split c fut' Q' t hi hfin hfut
  rw [k1] at hsplit'
  obtain ⟨s1', _, j5, j6, j7⟩ := hsplit'
  have hle := run_le hsh.le t.base (by rw [hbase]; cases e <;> simp)
  have hs1 : s1' = s1 := by
    cases e with
    | false =>
      have := j5 rfl
      rw [hle, hbase] at this
      simp only [Bool.false_eq_true, ↓reduceIte, Prod.mk.injEq, true_and] at this
      exact this.symm
    | true =>
      obtain ⟨f, _, hκ'⟩ := k3 rfl
      have hfd : f + 1 + d = (f + d) + 1 := by omega
      rw [hfd] at hκ'
      have hrun := j6 _ rfl (hκ'.trans (topLoop_succ_eq (f + d)))
      simp only [SProg.erase, run] at hrun
      rw [hle, hbase] at hrun
      simp only [↓reduceIte, Prod.mk.injEq, true_and] at hrun
      exact hrun.symm
  rw [hs1] at j7
  exact ⟨κ', k2, k3, j7⟩

/-- `,` is a token on which `S.parseExprTok (f + 1)` is `pure` at every fuel, while `S.parseExprTok 0` is
`fail`: the continuations of `S.topLoop` at two fuels, applied to it, differ exactly when the fuels do -/
def commaTok : Token := ⟨.comma, [',']⟩

theorem S_parseExprTok_comma (f : Nat) : S.parseExprTok (f + 1) commaTok = .pure .comma := by
  rw [S.parseExprTok]
  simp [commaTok, atomOfTok, pure]

/-- the fuel of an `S.topLoop`, read off the program: the `topGet`s met along the input `, , , …` -/
def fuelOf : SProg Unit → Nat
  | .topGet k => fuelOf (k (some commaTok)) + 1
  | .pushExpr _ k => fuelOf k
  | _ => 0

theorem fuelOf_topLoop : ∀ f, fuelOf (S.topLoop f) = f
  | 0 => by rw [S.topLoop]; rfl
  | 1 => by rw [topLoop_succ_eq, fuelOf]; dsimp only; rw [S.parseExprTok]; rfl
  | f + 2 => by
    rw [topLoop_succ_eq, fuelOf]; dsimp only; rw [S_parseExprTok_comma]
    exact congrArg (· + 1) (fuelOf_topLoop (f + 1))

theorem S_topLoop_inj (f g : Nat) (h : S.topLoop f = S.topLoop g) : f = g := by
  rw [← fuelOf_topLoop f, h, fuelOf_topLoop]

/-- "the protocol at this stage is a stage of the delivery model started with fuel `G`", uniformly
in a further shift `d` (`W G` = the run of the delivery model started with fuel `G`) -/
def StageInv (W : Nat → Fin Unit × PState) (G : Nat) (t : PState) (Q : SProg Unit) : Prop :=
  W G = run Q.erase t ∧ ∀ d, ∃ Q', Shift d Q Q' ∧ W (G + d) = run Q'.erase t

theorem final_call (F : Nat) (t2 : PState) (co' : Option Co) (hco : co' ≠ some .finalYield) (hi : Inv t2)
    (hfut : t2.fut = []) :
    (PSt.parseTokens F ⟨t2.lex, t2.exprs, co'⟩).1 = statusOf (run (progOf F co').erase t2).1 ∧
    (PSt.parseTokens F ⟨t2.lex, t2.exprs, co'⟩).2.1 = (run (progOf F co').erase t2).2.exprs := by
  have hpt := parseTokens_eq F t2 co' hco
  have hv : view t2.base = view t2 := by simp [view, PState.base, PState.runes, PState.willFinish, hfut]
  obtain ⟨b1, b2⟩ := run_view (progOf F co').erase t2.base hi
  obtain ⟨c1, c2⟩ := run_view (progOf F co').erase t2 hi
  rw [hv] at b1 b2
  have h1 : (run (progOf F co').erase t2.base).1 = (run (progOf F co').erase t2).1 := b1.trans c1.symm
  have h2 : (run (progOf F co').erase t2.base).2.exprs = (run (progOf F co').erase t2).2.exprs :=
    congrArg View.exprs (b2.trans c2.symm)
  rw [← h1, ← h2, hpt]
  cases run (progOf F co').erase t2.base with
  | mk fin s =>
    cases fin with
    | ret a => exact ⟨rfl, rfl⟩
    | stop st => cases st <;> exact ⟨rfl, rfl⟩

/-- **One call of the protocol against the delivery model** `W`, which passes through this stage with fuel `G` and has
the piece `c` to deliver next. Either the call answers an error and so does `W G`; or it answers `st`, rests with nothing
left to read, and `W G'` passes through the next stage, the one after the delivery of `c` — `G'` is `G` unless the call
answered `done` (a new iterator, new fuel). -/
theorem stage (F : Nat) (W : Nat → Fin Unit × PState) (t : PState) (co : Option Co) (c : List Char)
    (fut' : List (List Char)) (G : Nat) (hco : co ≠ some .finalYield) (hTL : TL F (progOf F co)) (hi : Inv t)
    (hfin : t.lex.finished = false) (hfut : t.fut = c :: fut') (hinv : StageInv W G t (progOf F co)) :
    ((PSt.parseTokens F ⟨t.lex, t.exprs, co⟩).1 = .err ∧ (W G).1 = .stop .err ∧
        (PSt.parseTokens F ⟨t.lex, t.exprs, co⟩).2.1 = (W G).2.exprs ∧ (W G).2.trace = t.trace) ∨
    ∃ (st : Status) (co' : Option Co) (s1 : PState) (G' : Nat), st ≠ .err ∧
        PSt.parseTokens F ⟨t.lex, t.exprs, co⟩ = (st, s1.exprs, ⟨s1.lex, s1.exprs, co'⟩) ∧
        co' ≠ some .finalYield ∧ TL F (progOf F co') ∧ s1.lex.pending = [] ∧ G ≤ G' ∧ (G' = G ∨ st = .done) ∧
        StageInv W G' ((t.restore s1).deliver c fut' st) (progOf F co') := by
  obtain ⟨hW, hWd⟩ := hinv
  obtain ⟨sl1, sl2, sl3⟩ := SL_of_TL F _ hTL (view t.base)
  have hpt := parseTokens_eq F t co hco
  have hsplit := run_split c fut' (progOf F co) t hi hfin hfut
  cases hs : suspendA (progOf F co) (view t.base) with
  | none =>
    -- the call ends by itself, and a program of `TL` does not return without resting: an error, which the run with
    -- the pieces meets in the same way
    have herr : (run (progOf F co).erase t.base).1 = .stop .err := by rw [(run_view _ t.base hi).1]; exact sl3 hs
    rw [hs] at hsplit
    rw [hW, hsplit, hpt]
    cases hrun : run (progOf F co).erase t.base with
    | mk fin s1 =>
      rw [hrun] at herr
      cases herr
      exact .inl ⟨rfl, rfl, rfl, rfl⟩
  | some x =>
    obtain ⟨e, κ, v'⟩ := x
    rw [hs] at hsplit
    obtain ⟨s1, g4, g5, g6, g7⟩ := hsplit
    have hvfin : (view t.base).fin = false := by simp [view, PState.base, PState.willFinish, hfin]
    have hpend : s1.lex.pending = [] := by
      have : (view s1).runes = [] := by rw [g4]; exact (resume_is_rest_of_run _ _ hvfin e κ v' hs).1
      exact (List.append_eq_nil_iff.mp this).1
    right
    cases e with
    | false =>
      -- the coroutine the protocol keeps is the program the call rests in
      have hbase := g5 rfl
      rw [hbase, (residual_of_suspendA _ t.base hi κ v' hs).1] at hpt
      refine ⟨.more, some (.waiting κ), s1, G, by simp, hpt, by simp, sl2 κ v' hs, hpend, Nat.le_refl _, .inl rfl,
        hW.trans g7, fun d => ?_⟩
      obtain ⟨Q', sh, w⟩ := hWd d
      obtain ⟨κ', a1, _, a3⟩ := shifted_rest c fut' t hi hfin hfut _ false κ v' hs s1 hbase d Q' sh
      exact ⟨κ', a1, w.trans a3⟩
    | true =>
      -- a new iterator with fuel `F`, where the delivery model has `f + 1` left: it is the delivery model started with
      -- `F - (f + 1)` more
      obtain ⟨f, hf, rfl⟩ := sl1 κ v' hs
      have hbase : run (progOf F co).erase t.base = (.ret (), s1) := by
        simpa [SProg.erase, run] using g6 _ rfl (topLoop_succ_eq f)
      rw [hbase] at hpt
      have key : ∀ d, W (G + (F - (f + 1)) + d) =
          run (S.topLoop (F + d)).erase ((t.restore s1).deliver c fut' .done) := by
        intro d
        obtain ⟨Q', sh, w⟩ := hWd (F - (f + 1) + d)
        obtain ⟨κ', _, a2, a3⟩ := shifted_rest c fut' t hi hfin hfut _ true _ v' hs s1 hbase _ Q' sh
        obtain ⟨f', e1, e2⟩ := a2 rfl
        rw [← S_topLoop_inj _ _ e1] at e2
        have hidx : f + 1 + (F - (f + 1) + d) = F + d := by omega
        rw [Nat.add_assoc, w, a3, e2, hidx]
        rfl
      exact ⟨.done, none, s1, G + (F - (f + 1)), by simp, hpt, by simp, .top F (Nat.le_refl _), hpend, by omega, .inr rfl,
        key 0, fun d => ⟨_, .top F, key d⟩⟩

/-- `G0`: the fuel with which the delivery model `W` passes through this stage. The delivery ends as the delivery
model started with some `G ≥ G0` ends; `G` is `G0` unless some call answered `done` (a new iterator, new fuel). -/
theorem stages (F : Nat) (W : Nat → Fin Unit × PState) :
    ∀ (rest : List (List Char)) (t : PState) (co : Option Co) (tr : List Status) (G0 : Nat),
    co ≠ some .finalYield → TL F (progOf F co) → Inv t → t.lex.finished = false → t.eof = true →
    t.fut = rest ++ [eofPiece] → t.trace = tr.reverse → StageInv W G0 t (progOf F co) →
    ∃ G, G0 ≤ G ∧ (callThen F ⟨t.lex, t.exprs, co⟩ tr rest).1.status = statusOf (W G).1 ∧
      (callThen F ⟨t.lex, t.exprs, co⟩ tr rest).1.exprs = (W G).2.exprs ∧
      (callThen F ⟨t.lex, t.exprs, co⟩ tr rest).1.trace = (W G).2.trace ∧
      (G = G0 ∨ Status.done ∈ (callThen F ⟨t.lex, t.exprs, co⟩ tr rest).1.trace) := by
  intro rest
  induction rest with
  | nil =>
    intro t co tr G0 hco hTL hi hfin heof hfut htr hinv
    rcases stage F W t co eofPiece [] G0 hco hTL hi hfin hfut hinv with
      ⟨c1, c2, c3, c4⟩ | ⟨st, co', s1, G', d1, d2, d3, _, d5, dG, dst, hW, _⟩
    · rw [callThen_err F _ tr [] c1]
      exact ⟨G0, Nat.le_refl _, by rw [c2]; rfl, c3, (c4.trans htr).symm, .inl rfl⟩
    · -- the last call: on the lexer after `EndInput`, which is the state after the last delivery
      have hlex := deliver_endInput (t.restore s1) st heof
      have hi2 : Inv ((t.restore s1).deliver eofPiece [] st) := by
        rw [Inv, hlex]; exact (addNextStream_drained s1.lex eofPiece d5).2.2.1
      obtain ⟨f1, f2⟩ := final_call F _ co' d3 hi2 rfl
      have g := run_ghost (progOf F co').erase ((t.restore s1).deliver eofPiece [] st) rfl
      rw [hlex] at f1 f2
      rw [callThen_ok F _ tr [] d2 d1]
      refine ⟨G', dG, ?_⟩
      rw [hW]
      refine ⟨f1, f2, ?_, dst.imp id fun h => ?_⟩
      · rw [g.2.2.1]
        simp [PSt.deliverRest, PState.deliver, PState.restore, htr]
      · subst h; simp [PSt.deliverRest]
  | cons c rest ih =>
    intro t co tr G0 hco hTL hi hfin heof hfut htr hinv
    rcases stage F W t co c (rest ++ [eofPiece]) G0 hco hTL hi hfin hfut hinv with
      ⟨c1, c2, c3, c4⟩ | ⟨st, co', s1, G', d1, d2, d3, d4, d5, dG, dst, d6⟩
    · rw [callThen_err F _ tr _ c1]
      exact ⟨G0, Nat.le_refl _, by rw [c2]; rfl, c3, (c4.trans htr).symm, .inl rfl⟩
    · -- the next call: on the lexer after `NewInput c`, which is the state after the delivery of `c`
      have hlex := deliver_newInput (t.restore s1) c (rest ++ [eofPiece]) st (by cases rest <;> rfl)
      obtain ⟨_, _, a3, _⟩ := addNextStream_drained s1.lex c d5
      have htr2 : ((t.restore s1).deliver c (rest ++ [eofPiece]) st).trace = (st :: tr).reverse := by
        simp [PState.deliver, PState.restore, htr]
      obtain ⟨G, hG, x⟩ := ih ((t.restore s1).deliver c (rest ++ [eofPiece]) st) co' (st :: tr) G' d3 d4
        (by rw [Inv, hlex]; exact a3) (by rw [hlex]; exact addNextStream_finished _ _) heof rfl htr2 d6
      rw [hlex] at x
      rw [callThen_ok F _ tr _ d2 d1, deliverRest_cons_eq]
      obtain ⟨x1, x2, x3, x4⟩ := x
      refine ⟨G, Nat.le_trans dG hG, x1, x2, x3, ?_⟩
      rcases x4 with h | h
      · exact dst.imp h.trans fun h' => by subst h'; exact trace_mem_callThen F _ _ _ _ (List.mem_cons_self ..)
      · exact .inr h

/-- `stages` from the start of a text: the protocol with per-iterator fuel `F`, from any parser state,
ends as the delivery model started with some fuel `G ≥ F` ends, `G = F` unless a call answered `done`. -/
theorem stages_init (cs : List (List Char)) (F : Nat) (p : PSt) :
    ∃ G, F ≤ G ∧
      (p.parseBy F .resetAdd cs).1.status = statusOf (run (topLoop G) (initState LexState.init cs)).1 ∧
      (p.parseBy F .resetAdd cs).1.exprs = (run (topLoop G) (initState LexState.init cs)).2.exprs ∧
      (p.parseBy F .resetAdd cs).1.trace = (run (topLoop G) (initState LexState.init cs)).2.trace ∧
      (G = F ∨ Status.done ∈ (p.parseBy F .resetAdd cs).1.trace) := by
  -- no piece at all is delivered like one empty piece
  suffices h : ∀ c rest, ∃ G, F ≤ G ∧
      (p.parseBy F .resetAdd (c :: rest)).1.status = statusOf (run (topLoop G) (initState LexState.init (c :: rest))).1 ∧
      (p.parseBy F .resetAdd (c :: rest)).1.exprs = (run (topLoop G) (initState LexState.init (c :: rest))).2.exprs ∧
      (p.parseBy F .resetAdd (c :: rest)).1.trace = (run (topLoop G) (initState LexState.init (c :: rest))).2.trace ∧
      (G = F ∨ Status.done ∈ (p.parseBy F .resetAdd (c :: rest)).1.trace) by
    cases cs with
    | nil => rw [parseBy_nil, initState_nil]; exact h [] []
    | cons c rest => exact h c rest
  intro c rest
  obtain ⟨_, _, a3, a4⟩ := resetAddNewInput_view LexState.init c
  have hp : p.start .resetAdd c =
      ⟨(initState LexState.init (c :: rest)).lex, (initState LexState.init (c :: rest)).exprs, none⟩ := rfl
  rw [parseBy_cons_callThen, hp]
  exact stages F (fun G => run (topLoop G) (initState LexState.init (c :: rest))) rest _ none [] F (by simp)
    (.top F (Nat.le_refl _)) a3 a4 rfl rfl rfl
    ⟨by simp [progOf, erase_topLoop], fun d => ⟨S.topLoop (F + d), .top F, by simp [erase_topLoop]⟩⟩

/-- **Up to the first `done`** (and including an error): as long as no `ParseTokens` call answers
`done`, the call-by-call protocol computes the abstract parse of the whole text, whatever its
outcome — `more`, `done` at the very end, or an error (a syntax error or the fuel of the model). -/
theorem parseBy_nodone (F : Nat) (p : PSt) (cs : List (List Char)) (R : Fin Unit × View)
    (hR : runA (topLoop F) ⟨LexCore.init, cs.flatten ++ eofPiece, [], true⟩ = R)
    (hnd : Status.done ∉ (p.parseBy F .resetAdd cs).1.trace) :
    (p.parseBy F .resetAdd cs).1.status = statusOf R.1 ∧ (p.parseBy F .resetAdd cs).1.exprs = R.2.exprs := by
  obtain ⟨G, _, x1, x2, _, rfl | h⟩ := stages_init cs F p
  · obtain ⟨hv, hi⟩ := initState_view LexState.init cs
    obtain ⟨h1, h2⟩ := run_view (topLoop G) (initState LexState.init cs) hi
    rw [hv, hR] at h1 h2
    rw [x1, x2, h1, ← h2]
    exact ⟨rfl, rfl⟩
  · exact absurd h hnd

end ZygoVerif.Parser
