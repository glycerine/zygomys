/-
Lemmas for Props/C01 §5: the primitive stack operations of the VM model and every instruction
that does not call (`exec_step_safe`) keep the stacks free of nil cells, and on such stacks the
only host panic left is `bindTop` on an empty scope stack (`SafeAt`).
-/
import ZygoVerif.Proofs.SimMachine
namespace ZygoVerif.VMSafe
open ZygoVerif.VM ZygoVerif.Core
open ZygoVerif.Sim (run_throw run_err run_get run_set run_modify run_bind)

def allSome {α} (l : List (Option α)) : Prop := ∀ x ∈ l, x ≠ none

theorem allSome_nil {α} : allSome ([] : List (Option α)) := by intro x hx; cases hx

theorem allSome_cons {α} {a : α} {l : List (Option α)} (h : allSome l) : allSome (some a :: l) := by
  intro x hx
  cases hx with
  | head => simp
  | tail _ h' => exact h x h'

theorem allSome_tail {α} {a : Option α} {l : List (Option α)} (h : allSome (a :: l)) : allSome l :=
  fun x hx => h x (List.mem_cons_of_mem _ hx)

/-- A stack without nil cells is empty or has a value on top: the three-way matches of the typed pops
(`[]`, `none :: _`, `some v :: rest`) lose their middle arm. -/
theorem allSome_cases {α} {l : List (Option α)} (h : allSome l) :
    l = [] ∨ ∃ v rest, l = some v :: rest ∧ allSome rest :=
  match l, h with
  | [], _ => .inl rfl
  | none :: _, h => absurd rfl (h none List.mem_cons_self)
  | some v :: rest, h => .inr ⟨v, rest, rfl, allSome_tail h⟩

theorem allSome_drop {α} {l : List (Option α)} (h : allSome l) (n : Nat) : allSome (l.drop n) :=
  fun x hx => h x (List.mem_of_mem_drop hx)

/-- `TruncateToSize` keeps a stack free of nil cells when it really truncates (`n` not above
the length); above the length it PADS the stack with nil cells (`truncate_pads`). -/
theorem allSome_truncate {α} {l : List (Option α)} (h : allSome l) (n : Nat) (hn : n ≤ l.length) :
    allSome (truncate l n) := by
  unfold truncate
  rw [if_pos hn]
  exact allSome_drop h _

theorem truncate_pads {α} (l : List (Option α)) (n : Nat) (hn : l.length < n) : none ∈ truncate l n := by
  unfold truncate
  rw [if_neg (by omega)]
  apply List.mem_append_left
  rw [List.mem_replicate]
  exact ⟨by omega, rfl⟩

structure Good (s : St) : Prop where
  data : allSome s.data
  linear : allSome s.linear
  addr : allSome s.addr
  susp : ∀ l ∈ s.suspended, allSome l
  lazies : ∀ z ∈ s.lazies, allSome z.stack

theorem good_init : Good VM.initSt := by
  refine ⟨allSome_nil, ?_, allSome_nil, ?_, ?_⟩
  · intro x hx; simp [VM.initSt] at hx; simp [hx]
  · intro l hl; simp [VM.initSt] at hl
  · intro z hz; simp [VM.initSt] at hz

/-- Running `m` from `s`: the final state is good again, and if the outcome is a host panic
then the scope stack is empty in the final state — the panic is the `empty stack!!` of
`Stack.BindSymbol`, the only one that nil-free stacks leave possible. -/
def SafeAt {α} (s : St) (m : M α) : Prop :=
  Good (m.run s).2 ∧ ((m.run s).1 = .error .panic → (m.run s).2.linear = [])

theorem run_pure {α} (a : α) (s : St) : (pure a : M α).run s = (.ok a, s) := Sim.run_pure a s

theorem run_hostPanic {α} (s : St) : (VM.hostPanic : M α).run s = (.error .panic, s) := Sim.run_hostPanic s

/-- an operation that returns normally is safe when the state it leaves is good -/
theorem SafeAt_ok {α} {m : M α} {s s' : St} {a : α} (h : m.run s = (.ok a, s')) (hg : Good s') : SafeAt s m := by
  unfold SafeAt
  rw [h]
  exact ⟨hg, fun h => by cases h⟩

theorem SafeAt_pure {α} (a : α) (s : St) (hg : Good s) : SafeAt s (pure a : M α) := SafeAt_ok (run_pure a s) hg

theorem SafeAt_throw {α} {e : Fault} (he : e ≠ .panic) (s : St) (hg : Good s) : SafeAt s (throw e : M α) :=
  ⟨hg, fun h => by cases h; exact absurd rfl he⟩

theorem SafeAt_err {α} (s : St) (hg : Good s) : SafeAt s (VM.err : M α) := SafeAt_throw (by decide) s hg

theorem SafeAt_timeout {α} (s : St) (hg : Good s) : SafeAt s (throw Fault.timeout : M α) :=
  SafeAt_throw (by decide) s hg

/-- All that the continuation learns of the state `m` leaves is that it is good: every `*_safe` below has
the form `∀ s, Good s → SafeAt s _` and can be passed for `hf` as it stands. -/
theorem SafeAt_bind {α β} {m : M α} {f : α → M β} {s : St} (hm : SafeAt s m)
    (hf : ∀ a s', Good s' → SafeAt s' (f a)) : SafeAt s (m >>= f) := by
  unfold SafeAt at *
  rw [run_bind]
  cases h : m.run s with
  | mk r s' =>
    rw [h] at hm
    cases r with
    | ok a => exact hf a s' hm.1
    | error e => simpa using hm

theorem SafeAt_get {α} {f : St → M α} {s : St} (h : SafeAt s (f s)) : SafeAt s (get >>= f) := by
  unfold SafeAt at *
  rw [run_bind, run_get]
  exact h

theorem SafeAt_set (s' s : St) (hg : Good s') : SafeAt s (set s' : M PUnit) := SafeAt_ok (run_set s' s) hg

theorem SafeAt_modify (f : St → St) (s : St) (hg : Good (f s)) : SafeAt s (modify f : M PUnit) :=
  SafeAt_ok (run_modify f s) hg

theorem SafeAt_hostPanic_of_empty {α} (s : St) (hg : Good s) (h : s.linear = []) : SafeAt s (VM.hostPanic : M α) := by
  constructor
  · exact hg
  · intro _; exact h

theorem good_data {s : St} (hg : Good s) {d : List (Option Val)} (hd : allSome d) : Good { s with data := d } :=
  ⟨hd, hg.linear, hg.addr, hg.susp, hg.lazies⟩

theorem popData_safe (s : St) (hg : Good s) : SafeAt s popData := by
  unfold popData
  refine SafeAt_get ?_
  obtain hd | ⟨v, rest, hd, hrest⟩ := allSome_cases hg.data <;> rw [hd]
  · exact SafeAt_err s hg
  · exact SafeAt_bind (SafeAt_set _ s (good_data hg hrest)) fun _ => SafeAt_pure v

theorem pushData_safe (v : Val) (s : St) (hg : Good s) : SafeAt s (pushData v) := by
  unfold pushData
  exact SafeAt_modify _ s (good_data hg (allSome_cons hg.data))

theorem run_pushData (v : Val) (s : St) : (pushData v).run s = (.ok PUnit.unit, { s with data := some v :: s.data }) := Sim.run_pushData v s

theorem mapM_id_some {α} : ∀ (l : List (Option α)), allSome l → ∃ vs, l.mapM id = some vs
  | [], _ => ⟨[], rfl⟩
  | none :: _, h => absurd rfl (h none List.mem_cons_self)
  | some a :: rest, h => by
    obtain ⟨vs, hvs⟩ := mapM_id_some rest (allSome_tail h)
    exact ⟨a :: vs, by simp [List.mapM_cons, hvs]⟩

theorem allSome_take {α} {l : List (Option α)} (h : allSome l) (n : Nat) : allSome (l.take n) :=
  fun x hx => h x (List.mem_of_mem_take hx)

theorem popN_safe (n : Nat) (s : St) (hg : Good s) : SafeAt s (popN n) := by
  unfold popN
  refine SafeAt_get ?_
  split
  · exact SafeAt_err s hg
  · obtain ⟨vs, hvs⟩ := mapM_id_some (s.data.take n) (allSome_take hg.data n)
    simp only [hvs]
    exact SafeAt_bind (SafeAt_set _ s (good_data hg (allSome_drop hg.data n))) fun _ => SafeAt_pure _

/-- the sizes recorded in `c` are not above the present sizes of the stacks they are applied
to: `restoreControlState` only truncates. For generated code this is the stack balance that
C04 establishes; it is a hypothesis here. -/
def Fits (c : CtlState) (s : St) : Prop :=
  c.dataSize ≤ s.data.length ∧ c.addrSize ≤ s.addr.length ∧
  (if s.suspended.length > c.susp
   then c.linearSize ≤ (s.suspended.getD (s.suspended.length - c.susp - 1) []).length
   else c.linearSize ≤ s.linear.length)

theorem restore_good (c : CtlState) (s : St) (hg : Good s) (hf : Fits c s) : Good ((restore c).run s).2 := by
  show Good _
  unfold restore
  rw [run_modify]
  obtain ⟨hd, ha, hl⟩ := hf
  simp only
  split
  · rename_i hlt
    rw [if_pos hlt] at hl
    refine ⟨allSome_truncate hg.data _ hd, allSome_truncate ?_ _ hl, allSome_truncate hg.addr _ ha, ?_, hg.lazies⟩
    · intro x hx
      have hmem : s.suspended.getD (s.suspended.length - c.susp - 1) [] ∈ s.suspended := by
        rw [List.getD_eq_getElem?_getD, List.getElem?_eq_getElem (by omega)]
        exact List.getElem_mem _
      exact hg.susp _ hmem x hx
    · intro l hl'
      exact hg.susp l (List.mem_of_mem_drop hl')
  · rename_i hlt
    rw [if_neg hlt] at hl
    exact ⟨allSome_truncate hg.data _ hd, allSome_truncate hg.linear _ hl, allSome_truncate hg.addr _ ha, hg.susp, hg.lazies⟩

theorem restore_safe (c : CtlState) (s : St) (hg : Good s) (hf : Fits c s) : SafeAt s (restore c) :=
  SafeAt_ok rfl (restore_good c s hg hf)

theorem run_restore_ok (c : CtlState) (s : St) : ((restore c).run s).1 = .ok PUnit.unit := rfl

theorem popScope_safe (s : St) (hg : Good s) : SafeAt s popScope := by
  unfold popScope
  refine SafeAt_get ?_
  obtain hl | ⟨_, rest, hl, hrest⟩ := allSome_cases hg.linear <;> rw [hl]
  · exact SafeAt_err s hg
  · exact SafeAt_set _ s ⟨hg.data, hrest, hg.addr, hg.susp, hg.lazies⟩

theorem popScopes_safe : ∀ (n : Nat) (s : St), Good s → SafeAt s (popScopes n)
  | 0, s, hg => SafeAt_pure _ s hg
  | n + 1, s, hg => by
    unfold popScopes
    exact SafeAt_bind (popScope_safe s hg) fun _ => popScopes_safe n

theorem popToMark_safe (l : Nat) (k : Bool) : ∀ (fuel : Nat) (s : St), Good s → SafeAt s (popToMark l k fuel)
  | 0, s, hg => SafeAt_err s hg
  | fuel + 1, s, hg => by
    unfold popToMark
    refine SafeAt_bind (popData_safe s hg) (fun v s' hg' => ?_)
    split
    · split
      · split
        · exact pushData_safe _ s' hg'
        · exact SafeAt_pure _ s' hg'
      · exact popToMark_safe l k fuel s' hg'
    · exact popToMark_safe l k fuel s' hg'

theorem setInScope_safe (id : Nat) (x : String) (v : Val) (s : St) (hg : Good s) : SafeAt s (setInScope id x v) := by
  unfold setInScope
  exact SafeAt_modify _ s ⟨hg.data, hg.linear, hg.addr, hg.susp, hg.lazies⟩

theorem bindTop_safe (x : String) (v : Val) (s : St) (hg : Good s) : SafeAt s (bindTop x v) := by
  unfold bindTop
  refine SafeAt_get ?_
  obtain hl | ⟨id, _, hl, _⟩ := allSome_cases hg.linear <;> rw [hl]
  · exact SafeAt_hostPanic_of_empty s hg hl
  · simp only
    split
    · split
      · exact setInScope_safe _ _ _ s hg
      · exact SafeAt_err s hg
    · exact setInScope_safe _ _ _ s hg

theorem wrangleOptargs_safe (a b : Nat) (s : St) (hg : Good s) : SafeAt s (wrangleOptargs a b) := by
  unfold wrangleOptargs
  split
  · exact SafeAt_err s hg
  · split
    · exact SafeAt_bind (popN_safe _ s hg) fun _ => pushData_safe _
    · exact pushData_safe _ s hg

theorem SafeAt_throw_bind {α β} {e : Fault} (he : e ≠ .panic) (f : α → M β) (s : St) (hg : Good s) :
    SafeAt s ((throw e : M α) >>= f) := by
  unfold SafeAt
  rw [run_bind, run_throw]
  exact SafeAt_throw he s hg

theorem SafeAt_timeout_bind {α β} (f : α → M β) (s : St) (hg : Good s) :
    SafeAt s ((throw Fault.timeout : M α) >>= f) :=
  SafeAt_throw_bind (by decide) f s hg

theorem any_isNone_false {α} {l : List (Option α)} (h : allSome l) : l.any Option.isNone = false := by
  rw [List.any_eq_false]
  intro x hx
  have := h x hx
  cases x with
  | none => exact absurd rfl this
  | some _ => simp

/-- an early exit with an error in front of `k` -/
theorem SafeAt_guard {β} {c : Prop} [Decidable c] {k : Unit → M β} {s : St} (hg : Good s) (hk : SafeAt s (k ())) :
    SafeAt s (if c then (VM.err : M Unit) >>= k else k ()) := by
  split
  · exact SafeAt_throw_bind (by decide) k s hg
  · exact hk

theorem callFunction_safe (f n : Nat) (s : St) (hg : Good s) : SafeAt s (callFunction f n) := by
  have hany : ¬ (List.take n s.data).any Option.isNone = true := by
    rw [any_isNone_false (allSome_take hg.data n)]; exact Bool.false_ne_true
  have hfin : ∀ s', Good s' → SafeAt s' (modify fun s => { s with addr := some (s.curfunc, s.pc + 1) :: s.addr, curfunc := f, pc := 0 } : M PUnit) :=
    fun s' hg' => SafeAt_modify _ s' ⟨hg'.data, hg'.linear, allSome_cons hg'.addr, hg'.susp, hg'.lazies⟩
  refine SafeAt_get (SafeAt_guard hg ?_)
  show SafeAt s (if _ then _ else _)
  rw [if_neg hany]
  show SafeAt s (if _ then _ else _)
  split
  · exact SafeAt_bind (wrangleOptargs_safe _ _ s hg) fun _ => hfin
  · exact SafeAt_guard hg (hfin s hg)

theorem good_pc {s : St} (hg : Good s) (pc : Int) : Good { s with pc := pc } :=
  ⟨hg.data, hg.linear, hg.addr, hg.susp, hg.lazies⟩

theorem incPc_safe (s : St) (hg : Good s) : SafeAt s incPc := by
  unfold incPc
  exact SafeAt_modify _ s (good_pc hg _)

theorem run_incPc (s : St) : incPc.run s = (.ok PUnit.unit, { s with pc := s.pc + 1 }) := Sim.run_incPc s

theorem jumpTo_safe (p : Int) (s : St) (hg : Good s) : SafeAt s (jumpTo p) := by
  unfold jumpTo
  refine SafeAt_get ?_
  split
  · exact SafeAt_err s hg
  · exact SafeAt_set _ s (good_pc hg _)

def isCall : Instr → Bool
  | .callArr _ => true
  | .callExpr _ _ => true
  | _ => false

/-- Every instruction that does not call (25 of the 27 instruction kinds of the model):
one step from a state without nil cells does not panic — except the bind on an empty scope
stack — and leaves a state without nil cells. -/
theorem exec_step_safe (fuel : Nat) (i : Instr) (hi : isCall i = false) (s : St) (hg : Good s) :
    SafeAt s (exec (fuel + 1) i) := by
  cases i with
  | callArr n => simp [isCall] at hi
  | callExpr c a => simp [isCall] at hi
  | push v =>
    unfold exec
    exact SafeAt_bind (pushData_safe v s hg) fun _ => incPc_safe
  | pop =>
    unfold exec
    refine SafeAt_get ?_
    obtain hd | ⟨_, rest, hd, hrest⟩ := allSome_cases hg.data <;> rw [hd]
    · exact incPc_safe s hg
    · exact SafeAt_set _ s ⟨hrest, hg.linear, hg.addr, hg.susp, hg.lazies⟩
  | dup =>
    unfold exec
    refine SafeAt_get ?_
    obtain hd | ⟨v, _, hd, _⟩ := allSome_cases hg.data <;> rw [hd]
    · exact SafeAt_err s hg
    · exact SafeAt_bind (pushData_safe v s hg) fun _ => incPc_safe
  | envToStack x =>
    unfold exec
    refine SafeAt_get ?_
    split
    · exact SafeAt_bind (pushData_safe _ s hg) fun _ => incPc_safe
    · exact SafeAt_err s hg
  | popStackPutEnv x =>
    unfold exec
    exact SafeAt_bind (popData_safe s hg) fun v s' hg' => SafeAt_bind (incPc_safe s' hg') fun _ => bindTop_safe x v
  | update x =>
    unfold exec
    refine SafeAt_bind (popData_safe s hg) fun v s' hg' => SafeAt_bind (incPc_safe s' hg') fun _ s'' hg'' => ?_
    refine SafeAt_get ?_
    split
    · exact setInScope_safe _ _ _ s'' hg''
    · exact bindTop_safe x v s'' hg''
  | jump off =>
    unfold exec
    exact SafeAt_get (jumpTo_safe _ s hg)
  | goto loc =>
    unfold exec
    exact jumpTo_safe _ s hg
  | branch dir off =>
    unfold exec
    refine SafeAt_bind (popData_safe s hg) (fun v s' hg' => SafeAt_get ?_)
    split
    · exact jumpTo_safe _ s' hg'
    · exact incPc_safe s' hg'
  | ret =>
    unfold exec
    refine SafeAt_get ?_
    obtain ha | ⟨_, rest, ha, hrest⟩ := allSome_cases hg.addr <;> rw [ha]
    · exact SafeAt_err s hg
    · exact SafeAt_set _ s ⟨hg.data, hg.linear, hrest, hg.susp, hg.lazies⟩
  | addScope =>
    unfold exec
    exact SafeAt_modify _ s ⟨hg.data, allSome_cons hg.linear, hg.addr, hg.susp, hg.lazies⟩
  | addFuncScope t =>
    unfold exec
    exact SafeAt_modify _ s ⟨hg.data, allSome_cons hg.linear, hg.addr, hg.susp, hg.lazies⟩
  | removeScope =>
    unfold exec
    exact SafeAt_bind (incPc_safe s hg) fun _ => popScope_safe
  | createClosure t =>
    unfold exec
    refine SafeAt_bind (incPc_safe s hg) fun _ s' hg' => SafeAt_get ?_
    exact SafeAt_bind (SafeAt_set _ s' ⟨hg'.data, hg'.linear, hg'.addr, hg'.susp, hg'.lazies⟩) fun _ => pushData_safe _
  | prepareCall x nargs =>
    unfold exec
    refine SafeAt_get ?_
    dsimp only
    split
    · exact SafeAt_bind (wrangleOptargs_safe _ _ s hg) fun _ => incPc_safe
    · exact incPc_safe s hg
  | tailGuard x skip =>
    unfold exec
    refine SafeAt_get ?_
    have hset : SafeAt s (set { s with pc := s.pc + skip } : M PUnit) :=
      SafeAt_set _ s ⟨hg.data, hg.linear, hg.addr, hg.susp, hg.lazies⟩
    split
    · split
      · exact incPc_safe s hg
      · exact hset
    · exact hset
  | pushLazy e =>
    unfold exec
    refine SafeAt_get ?_
    have hg1 : Good { s with lazies := s.lazies ++ [({ e, stack := s.linear, curfunc := s.curfunc, value := none } : LazyObj)] } :=
      ⟨hg.data, hg.linear, hg.addr, hg.susp, by
        intro z hz
        rcases List.mem_append.mp hz with h | h
        · exact hg.lazies z h
        · simp at h; subst h; exact hg.linear⟩
    exact SafeAt_bind (SafeAt_set _ s hg1) fun _ s' hg' => SafeAt_bind (pushData_safe _ s' hg') fun _ => incPc_safe
  | loopStart l => unfold exec; exact incPc_safe s hg
  | label => unfold exec; exact incPc_safe s hg
  | pushMark l =>
    unfold exec
    exact SafeAt_bind (pushData_safe _ s hg) fun _ => incPc_safe
  | popUntilMark l =>
    unfold exec
    exact SafeAt_bind (incPc_safe s hg) fun _ s' hg' => SafeAt_get (popToMark_safe l true _ s' hg')
  | clearMark l =>
    unfold exec
    refine SafeAt_get ?_
    exact SafeAt_bind (popToMark_safe l false _ s hg) fun _ => incPc_safe
  | brk l n =>
    unfold exec
    refine SafeAt_get ?_
    split
    · exact SafeAt_err s hg
    · exact SafeAt_bind (popScopes_safe n s hg) fun _ s' hg' => SafeAt_modify _ s' (good_pc hg' _)
  | cont l n =>
    unfold exec
    refine SafeAt_get ?_
    split
    · exact SafeAt_err s hg
    · exact SafeAt_bind (popScopes_safe n s hg) fun _ s' hg' => SafeAt_modify _ s' (good_pc hg' _)
  | assign =>
    unfold exec
    refine SafeAt_bind (incPc_safe s hg) fun _ s1 hg1 => ?_
    refine SafeAt_bind (popData_safe s1 hg1) fun rhs s2 hg2 => ?_
    refine SafeAt_bind (popData_safe s2 hg2) fun lhs s3 hg3 => SafeAt_get ?_
    split
    · split
      · exact pushData_safe _ s3 hg3
      · exact SafeAt_err s3 hg3
    · exact SafeAt_err s3 hg3

end ZygoVerif.VMSafe
