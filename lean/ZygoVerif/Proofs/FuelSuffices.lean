/-
C06, Pratt loop = stratified grammar: the fuel of the executable models always suffices.

`Model/Pratt.lean` and `Spec/Stratified.lean` are fuel-indexed so that they are total; the
outcome `none` therefore stands both for an error return of pratt.go and for "fuel exhausted".
With the fuel the driver uses (`Pratt.fuelFor`, `Stratified.fuelFor`, `ts.length + 1` for the statement loop
of the specification) the second meaning never occurs: `fuelFor` exceeds the measure of `Pratt.fuel_step`
resp. `Stratified.fuel_step`. Hence `Pratt.Expression(0)` and the stratified parse, each run with its own concrete
fuel, are EQUAL for every table and grammar in correspondence (`expression_eq_parse_of_corr`, from
`pratt_iff_strat`), and so are the statements of a block (`expandBlock_eq_parseBlock_of_corr`).
-/
import ZygoVerif.Proofs.PrattStratBlock
namespace ZygoVerif.Pratt

mutual
theorem pw_le_size : ∀ t : Sx, pw t ≤ 2 * t.size
  | .arr xs => by have := pwList_le_size xs; simp only [pw, Sx.size]; omega
  | .lab _ => by simp [pw, Sx.size]
  | .sym _ => by simp [pw, Sx.size]
  | .dot _ => by simp [pw, Sx.size]
  | .lit _ => by simp [pw, Sx.size]
  | .other _ _ => by simp [pw, Sx.size]
  | .list _ => by simp only [pw, Sx.size]; omega
  | .comma => by simp [pw, Sx.size]
  | .semi => by simp [pw, Sx.size]
  | .hash => by simp [pw, Sx.size]
  | .null => by simp [pw, Sx.size]
theorem pwList_le_size : ∀ ts : List Sx, pwList ts ≤ 2 * sizeList ts
  | [] => by simp [pwList]
  | t :: ts => by have := pw_le_size t; have := pwList_le_size ts; simp only [pwList, sizeList]; omega
end

theorem stable (T : Table) (hc : okNudB T (.sym ":") = true) {f f' : Nat} (hle : f ≤ f') :
    (∀ rbp st ts, fragList (okNudB T) ts = true → pwList ts + 1 ≤ f → expr T f' rbp st ts = expr T f rbp st ts) ∧
    (∀ rbp left st ts, fragList (okNudB T) ts = true → pwList ts + 1 ≤ f →
      loop T f' rbp left st ts = loop T f rbp left st ts) ∧
    (∀ ts, fragList (okNudB T) ts = true → pwList ts + 2 ≤ f → prattOne T f' ts = prattOne T f ts) ∧
    (∀ t, fragTok (okNudB T) t = true → pw t ≤ f → normSelector T f' t = normSelector T f t) :=
  ⟨fun _ _ _ hf hw => ((expr_settles hc hf).of_le hw).stable hle, fun _ _ _ _ hf hw => ((loop_settles hc hf).of_le hw).stable hle,
   fun _ hf hw => ((prattOne_settles hc hf).of_le hw).stable hle, fun _ hf hw => ((normSelector_settles hc hf).of_le hw).stable hle⟩

theorem fuelFor_ge (ts : List Sx) : pwList ts + 2 ≤ fuelFor ts := by
  have := pwList_le_size ts
  unfold fuelFor; omega

section ExprFuel
variable (T : Table) (hc : okNudB T (.sym ":") = true) (ts : List Sx) (hfr : fragList (okNudB T) ts = true) (rbp : Nat) (st : Sx)
include hc hfr

theorem expr_settles_fuelFor : Settles (fun f => expr T f rbp st ts) (fuelFor ts) :=
  (expr_settles hc hfr).of_le (by have := fuelFor_ge ts; omega)

/-- whatever fuel `f ≥ fuelFor ts` the model is run with, it returns what it returns with `fuelFor ts` — the same
tree and rest, or the same error -/
theorem expr_fuelFor (f : Nat) (hf : fuelFor ts ≤ f) : expr T f rbp st ts = expr T (fuelFor ts) rbp st ts :=
  (expr_settles_fuelFor T hc ts hfr rbp st).stable hf

theorem expr_fuelFor_some (f : Nat) (r : Sx × Sx × List Sx) (h : expr T f rbp st ts = some r) :
    expr T (fuelFor ts) rbp st ts = some r :=
  (expr_settles_fuelFor T hc ts hfr rbp st).some_at h

/-- a `none` with `fuelFor ts` is an error return of `Expression`, never a fuel shortage -/
theorem expr_fuelFor_none (h : expr T (fuelFor ts) rbp st ts = none) (f : Nat) : expr T f rbp st ts = none :=
  (expr_settles_fuelFor T hc ts hfr rbp st).none_at h f

end ExprFuel

section BlockFuel
variable (T : Table) (hc : okNudB T (.sym ":") = true) (ts : List Sx) (hfr : fragList (okNudB T) ts = true)
  (hnf : noFor ts) (st : Sx) (acc : List Sx)
include hc hfr hnf

theorem expandArray_settles_fuelFor : Settles (fun f => expandArray T f st ts acc) (fuelFor ts) :=
  (expandArray_settles hc hfr hnf).of_le (fuelFor_ge ts)

theorem expandArray_fuelFor (f : Nat) (hf : fuelFor ts ≤ f) : expandArray T f st ts acc = expandArray T (fuelFor ts) st ts acc :=
  (expandArray_settles_fuelFor T hc ts hfr hnf st acc).stable hf

end BlockFuel

end ZygoVerif.Pratt

namespace ZygoVerif.Stratified
open ZygoVerif.Pratt (Sx sizeList countNamed staleOf selBefore selAfter)

theorem strat_consumes (G : Grammar) : ∀ (f : Nat) (E : Sx) (lvls : Grammar) (t : Sx) (ts : List Sx) (r : Sx × List Sx),
    strat G E f lvls (t :: ts) = some r → r.2 <:+ ts := by
  intro f
  induction f with
  | zero => intro _ _ _ _ _ h; simp [strat] at h
  | succ f ih =>
    intro E lvls t ts r h
    cases lvls with
    | nil =>
      rw [strat.eq_2] at h
      cases f with
      | zero => simp [operand] at h
      | succ f =>
        cases hp : prefixOf t G with
        | none => rw [operand.eq_3, hp] at h; cases h; exact List.suffix_refl _
        | some p =>
          rw [operand_pre hp] at h
          obtain ⟨q, hx, rfl⟩ := Option.map_eq_some_iff.1 h
          exact (res_suffix G f).1 _ _ _ q hx
    | cons lv rest =>
      rw [strat_cons] at h
      obtain ⟨p, hx, h'⟩ := Option.bind_eq_some_iff.1 h
      exact ((res_suffix G f).2.1 _ _ _ _ _ _ h').trans (ih _ _ _ _ _ hx)

theorem fuelFor_ge (G : Grammar) (ts : List Sx) : sizeList ts * (G.length + 3) + G.length + 2 ≤ fuelFor G ts := by
  unfold fuelFor
  rw [Nat.add_mul]; omega

theorem strat_settles_fuelFor (G : Grammar) (E : Sx) (ts : List Sx) : Settles (fun f => strat G E f G ts) (fuelFor G ts) :=
  (strat_settles G E ts).of_le (fuelFor_ge G ts)

/-- no fragment condition for the specification -/
theorem strat_fuelFor (G : Grammar) (E : Sx) (ts : List Sx) (f : Nat) (hf : fuelFor G ts ≤ f) :
    strat G E f G ts = strat G E (fuelFor G ts) G ts :=
  (strat_settles_fuelFor G E ts).stable hf

theorem strat_fuelFor_some (G : Grammar) (E : Sx) (ts : List Sx) (f : Nat) (r : Sx × List Sx)
    (h : strat G E f G ts = some r) : strat G E (fuelFor G ts) G ts = some r :=
  (strat_settles_fuelFor G E ts).some_at h

theorem strat_fuelFor_none (G : Grammar) (E : Sx) (ts : List Sx) (h : strat G E (fuelFor G ts) G ts = none) (f : Nat) :
    strat G E f G ts = none :=
  (strat_settles_fuelFor G E ts).none_at h f

open ZygoVerif.Pratt (Stmts dropSemi dropSemi_suffix statements_succ) in
/-- the statement loop of the specification never runs out of fuel: each statement consumes a token -/
theorem statements_complete (G : Grammar) (E : Sx) (ts out : List Sx) (h : Stmts G E ts out) :
    ∀ f, ts.length + 1 ≤ f → statements G E f ts = some out := by
  induction h with
  | nil =>
    intro f hf
    cases f with
    | zero => omega
    | succ f => rw [statements.eq_2]
  | cons t ts x rest xs hss _ ih =>
    intro f hf
    cases f with
    | zero => omega
    | succ f =>
      obtain ⟨f0, h0⟩ := hss
      have hs : rest <:+ ts := strat_consumes G f0 E G t ts (x, rest) h0
      rw [statements_succ, strat_fuelFor_some G E (t :: ts) f0 (x, rest) h0]
      simp only
      have hl := ((dropSemi_suffix rest).trans hs).length_le
      simp only [List.length_cons] at hf
      rw [ih f (by omega)]
      rfl

open ZygoVerif.Pratt (Stmts statements_sound) in
theorem statements_returns (G : Grammar) (E : Sx) (ts out : List Sx) :
    Returns (fun f => statements G E f ts) out ↔ Stmts G E ts out :=
  ⟨fun ⟨_, h⟩ => statements_sound _ _ _ _ _ h, fun h => ⟨_, statements_complete G E ts out h _ (Nat.le_refl _)⟩⟩

end ZygoVerif.Stratified

namespace ZygoVerif.Pratt
open ZygoVerif.Stratified

/-- `Pratt.Expression(0)` as the driver runs it equals the stratified parse as the driver runs it; both are a
result, or both are `none` (and then no fuel gives either a result) -/
theorem expression_eq_parse_of_corr {T : Table} {G : Grammar} {bps : List Nat} (hC : Corr T G bps) (ts : List Sx)
    (hfr : Frag T G ts) : expression T 0 ts = Stratified.parse G ts :=
  eq_of_returns_iff
    (fun _ => ((expr_settles_fuelFor T (Corr.colonNud hC) ts hfr.nudFrag 0 (staleOf ts)).map _).returns_iff)
    (fun _ => (strat_settles_fuelFor G (staleOf ts) ts).returns_iff)
    fun r => (PE_map hfr.nudFrag).trans (pratt_iff_strat hC ts hfr (staleOf ts) r)

theorem expandBlock_eq_parseBlock_of_corr {T : Table} {G : Grammar} {bps : List Nat} (hC : Corr T G bps) (ts : List Sx)
    (hne : ts ≠ []) (hfr : Frag T G ts) (hnf : noFor ts) : expandBlock T ts = parseBlock G ts :=
  eq_of_returns_iff
    (fun _ => (expandArray_settles_fuelFor T (Corr.colonNud hC) ts hfr.nudFrag hnf (staleOf ts) []).returns_iff)
    (fun _ => (statements_returns G (staleOf ts) ts _).trans
      ⟨fun h => statements_complete G _ ts _ h _ (Nat.le_refl _), statements_sound _ _ _ _ _⟩)
    fun out => (expandArray_iff hC (staleOf ts) ts hne hfr hnf [] out).trans <|
      Iff.trans ⟨fun ⟨_, h, e⟩ => e ▸ h, fun h => ⟨out, h, rfl⟩⟩ (statements_returns G (staleOf ts) ts out).symm

theorem expandBlock_eq_parseBlock_frag (ts : List Sx) (hne : ts ≠ []) (hfr : Frag TG DG ts) (hnf : noFor ts) :
    expandBlock TG ts = parseBlock DG ts :=
  expandBlock_eq_parseBlock_of_corr corr_generated ts hne hfr hnf

end ZygoVerif.Pratt
