/-
C02, execution half — F2: entering a closure and leaving it. `CallFunction` on the arguments (`entered`,
`run_callFunction_fixed/_var`), the prologue that binds the parameters in a fresh function scope (`reach_params`),
and the relation across these moves: `RelF.enter` (the callee's context: its function scope on top of the caller's
stack, its closing stack chained), `GoodFn.create` (a closure made now corresponds to the reference closure),
`RelF.pushScope` / `RelF.popped` (a `let`/loop scope opened and closed). All are instances of `RelF.move`.
-/
import ZygoVerif.Proofs.SimF2Env
namespace ZygoVerif.Sim
open ZygoVerif.Core ZygoVerif.VM

/-- the state `CallFunction` leaves: return address pushed, control in the callee -/
def entered (s : St) (vid : Nat) : St :=
  { s with addr := some (s.curfunc, s.pc + 1) :: s.addr, curfunc := vid, pc := 0 }

/-- `CallFunction` of a fixed-arity function, the arguments on the data stack -/
theorem run_callFunction_fixed (vid : Nat) (vs : List Val) (D : List (Option Val)) (s : St)
    (hd : s.data = vs.reverse.map some ++ D) (hv : (fnOf s vid).varargs = false) :
    (callFunction vid vs.length).run s =
      if vs.length = (fnOf s vid).nargs then (.ok (), entered s vid) else (.error .err, s) := by
  rw [run_callFunction, callRes_vals vid vs D s hd, hv, if_neg Bool.false_ne_true]
  rfl

/-- `CallFunction` of a variadic function: the arguments beyond the fixed ones are packed into a list -/
theorem run_callFunction_var (vid : Nat) (vs : List Val) (D : List (Option Val)) (s : St)
    (hd : s.data = vs.reverse.map some ++ D) (hv : (fnOf s vid).varargs = true) (hn : (fnOf s vid).nargs ≤ vs.length) :
    (callFunction vid vs.length).run s = (.ok (), entered
      { s with data := some (mkList (vs.drop (fnOf s vid).nargs)) :: (vs.take (fnOf s vid).nargs).reverse.map some ++ D } vid) := by
  rw [run_callFunction, callRes_vals vid vs D s hd, if_pos hv, if_pos hn]
  rfl

/-- the state after `AddFuncScopeInstr` -/
def _root_.ZygoVerif.VM.St.pushFnScope (s : St) (t : Nat) : St :=
  { s with scopes := s.scopes ++ [({ isFunction := true, myFunction := some t } : Scope)],
           linear := some s.scopes.length :: s.linear, pc := s.pc + 1 }

theorem exec_addFuncScope (f t : Nat) (s : St) : (exec (f + 1) (.addFuncScope t)).run s = (.ok (), s.pushFnScope t) := by
  rw [exec]; rfl

def bindsVars (l : List (String × Val)) (pairs : List (String × Val)) : List (String × Val) :=
  pairs.foldl (fun l p => VM.assocSet l p.1 p.2) l

theorem lookup_bindsVars (y : String) : ∀ (pairs l : List (String × Val)),
    (bindsVars l pairs).lookup y = match pairs.reverse.lookup y with | some v => some v | none => l.lookup y
  | [], l => rfl
  | (x, v) :: pairs, l => by
    show (bindsVars (VM.assocSet l x v) pairs).lookup y = _
    rw [lookup_bindsVars y pairs, List.reverse_cons, List.lookup_append, lookup_assocSet]
    cases pairs.reverse.lookup y with
    | some w => rfl
    | none =>
      simp only [List.lookup_cons, List.lookup_nil, Option.none_or]
      by_cases hy : (y == x) = true
      · simp [hy]
      · simp [hy]

def afterParams (s : St) (F : Nat) (pairs : List (String × Val)) (D : List (Option Val)) : St :=
  { s with scopes := s.scopes.set F { scopeOf s F with vars := bindsVars (scopeOf s F).vars pairs },
           pc := s.pc + pairs.length, data := D }

/-- **The prologue**: `popStackPutEnv` for each parameter (in the order of `pairs`), the values on
the data stack, the names not yet bound in the top scope and distinct -/
theorem reach_params : ∀ (pairs : List (String × Val)) (s : St) (P Q : List Instr) (D : List (Option Val))
    (F : Nat) (rest : List (Option Nat)),
    (fnOf s s.curfunc).user = false → (fnOf s s.curfunc).code = P ++ pairs.map (fun p => Instr.popStackPutEnv p.1) ++ Q →
    s.pc = (P.length : Int) → s.data = pairs.map (fun p => some p.2) ++ D → s.linear = some F :: rest →
    F < s.scopes.length → (∀ x ∈ pairs.map (·.1), (scopeOf s F).vars.lookup x = none) → (pairs.map (·.1)).Nodup →
    ReachX s (afterParams s F pairs D)
  | [], s, P, Q, D, F, rest, hu, hc, hp, hd, hl, hF, hfree, hnd => by
    have : afterParams s F [] D = s := by
      unfold afterParams bindsVars
      simp only [List.foldl_nil, List.length_nil, Int.natCast_zero, Int.add_zero]
      have h1 : s.scopes.set F (scopeOf s F) = s.scopes := by
        unfold scopeOf; rw [List.getD_eq_getElem?_getD, List.getElem?_eq_getElem hF, Option.getD_some]
        exact List.set_getElem_self hF
      have h2 : D = s.data := by simpa using hd.symm
      rw [h2]
      show { s with scopes := s.scopes.set F { scopeOf s F with vars := (scopeOf s F).vars } } = s
      rw [show ({ scopeOf s F with vars := (scopeOf s F).vars } : Scope) = scopeOf s F from rfl, h1]
    rw [this]; exact ReachX.refl s
  | (x, v) :: pairs, s, P, Q, D, F, rest, hu, hc, hp, hd, hl, hF, hfree, hnd => by
    have a : At s P (.popStackPutEnv x) (pairs.map (fun p => Instr.popStackPutEnv p.1) ++ Q) :=
      ⟨hu, by rw [hc]; simp, hp⟩
    have hd' : s.data = some v :: (pairs.map (fun p => some p.2) ++ D) := by rw [hd]; rfl
    have hfx : (scopeOf s F).vars.lookup x = none := hfree x (by simp)
    have hstep : ∀ f, (exec (f + 1) (.popStackPutEnv x)).run s
        = (.ok (), (s.jmp (s.pc + 1) (pairs.map (fun p => some p.2) ++ D)).bind F x v) := fun f => by
      rw [exec_popStackPutEnv f x s v _ hd', run_bindTop]
      rw [show (s.jmp (s.pc + 1) (pairs.map (fun p => some p.2) ++ D)).linear = some F :: rest from hl]
      simp only
      rw [show scopeOf (s.jmp (s.pc + 1) (pairs.map (fun p => some p.2) ++ D)) F = scopeOf s F from rfl, hfx]
    have r1 : ReachX s ((s.jmp (s.pc + 1) (pairs.map (fun p => some p.2) ++ D)).bind F x v) :=
      (Reach.step a hstep).toX
    generalize hs1 : (s.jmp (s.pc + 1) (pairs.map (fun p => some p.2) ++ D)).bind F x v = s1 at r1
    have hsc1 : scopeOf s1 F = { scopeOf s F with vars := VM.assocSet (scopeOf s F).vars x v } := by
      subst hs1; rw [scopeOf_bind]
      have hF' : F < (s.jmp (s.pc + 1) (pairs.map (fun p => some p.2) ++ D)).scopes.length := hF
      rw [if_pos ⟨rfl, hF'⟩]; rfl
    have hnd' : (pairs.map (·.1)).Nodup := (List.nodup_cons.mp hnd).2
    have hnotin : x ∉ pairs.map (·.1) := (List.nodup_cons.mp hnd).1
    have ih := reach_params pairs s1 (P ++ [.popStackPutEnv x]) Q D F rest (by subst hs1; exact hu)
      (by subst hs1; show (fnOf s s.curfunc).code = _; rw [hc]; simp)
      (by subst hs1; show s.pc + 1 = _; rw [hp]; simp) (by subst hs1; rfl) (by subst hs1; exact hl)
      (by subst hs1; show F < (s.scopes.set F _).length; simpa using hF)
      (fun y hy => by
        rw [hsc1]; simp only [lookup_assocSet]
        have hne : (y == x) = false := by
          have : y ≠ x := fun e => hnotin (e ▸ hy)
          simpa using this
        rw [hne]; exact hfree y (by simp [hy])) hnd'
    have hfin : afterParams s1 F pairs D = afterParams s F ((x, v) :: pairs) D := by
      subst hs1
      unfold afterParams
      rw [hsc1]
      show ({ s with scopes := (s.scopes.set F _).set F _, pc := s.pc + 1 + pairs.length, data := D } : St) = _
      simp only [List.set_set, List.length_cons]
      congr 1
      push_cast; omega
    rw [hfin] at ih
    exact r1.trans ih

theorem ParOk.push {frames : List Ref.Frame} (h : ParOk frames) (vars : List (String × Val)) (e : Nat)
    (he : e < frames.length) : ParOk (frames ++ [({ vars := vars, parent := some e } : Ref.Frame)]) := by
  intro i fr hf p hp
  rcases Nat.lt_trichotomy i frames.length with hi | hi | hi
  · rw [List.getElem?_append_left hi] at hf; exact h i fr hf p hp
  · subst hi
    simp only [List.getElem?_append_right (Nat.le_refl _), Nat.sub_self, List.getElem?_cons_zero, Option.some.injEq] at hf
    subst hf
    simp only [Option.some.injEq] at hp
    omega
  · rw [List.getElem?_eq_none (by simp; omega)] at hf; cases hf

/-- the relation at the start of a callee's body: a function scope with the parameters on top of
the caller's live stack, against a fresh frame under the closure's environment with the parameters -/
theorem RelF.enter {m : Nat → Nat} {s₁ : St} {rs₁ : Ref.St} {env vid e : Nat} (h : RelF m s₁ rs₁ env)
    (hg : GoodFn m s₁ rs₁ vid) (hce : ∀ c, rs₁.clos[m vid]? = some c → c.env = e) (sB : St) (rsB : Ref.St) (t : Nat)
    (Lvm Lref : List (String × Val))
    (hsc : sB.scopes = s₁.scopes ++ [({ vars := Lvm, isFunction := true, myFunction := some t } : Scope)])
    (hlin : sB.linear = some s₁.scopes.length :: s₁.linear) (hfns : sB.fns = s₁.fns) (hcur : sB.curfunc = vid)
    (hheap : sB.heap = s₁.heap) (htr : sB.trace = s₁.trace)
    (hfr : rsB.frames = rs₁.frames ++ [({ vars := Lref, parent := some e } : Ref.Frame)])
    (hclos : rsB.clos = rs₁.clos) (hrheap : rsB.heap = rs₁.heap) (hrtr : rsB.trace = rs₁.trace)
    (ht : (fnOf s₁ t).closing = [some 0])
    (hL : ∀ y, Lref.lookup y = (Lvm.lookup y).map (trf m))
    (hLok : ∀ y v, Lvm.lookup y = some v → VOk m s₁ rs₁ v)
    (hLfo : ∀ h ∈ foBuiltins, Lref.lookup h = none) (hloops : sB.loops = s₁.loops := by rfl)
    (hlz : sB.lazies = s₁.lazies := by rfl) (hth : rsB.thunks = rs₁.thunks := by rfl) :
    RelF m sB rsB rs₁.frames.length := by
  have hlen := h.len
  obtain ⟨k, hc, hfc⟩ := h.ctx
  obtain ⟨fr0, hf0, -, -⟩ := h.root0
  have hpos : 0 < rs₁.frames.length := lt_of_getElem?_some hf0
  have hso : ∀ i, scopeOf sB i = if i < s₁.scopes.length then scopeOf s₁ i
      else if i = s₁.scopes.length then { vars := Lvm, isFunction := true, myFunction := some t } else {} := fun i => by
    unfold scopeOf; rw [hsc]; simp only [List.getD_eq_getElem?_getD]
    by_cases hi : i < s₁.scopes.length
    · rw [List.getElem?_append_left hi, if_pos hi]
    · rw [if_neg hi]
      by_cases hi' : i = s₁.scopes.length
      · subst hi'; simp
      · rw [List.getElem?_eq_none (by simp; omega), if_neg hi']; rfl
  have hfrg : ∀ i, rsB.frames.getD i {} = if i < rs₁.frames.length then rs₁.frames.getD i {}
      else if i = rs₁.frames.length then { vars := Lref, parent := some e } else {} := fun i => by
    rw [hfr]; simp only [List.getD_eq_getElem?_getD]
    by_cases hi : i < rs₁.frames.length
    · rw [List.getElem?_append_left hi, if_pos hi]
    · rw [if_neg hi]
      by_cases hi' : i = rs₁.frames.length
      · subst hi'; simp
      · rw [List.getElem?_eq_none (by simp; omega), if_neg hi']; rfl
  have hfl_old : ∀ i, i < s₁.scopes.length → isFnScope sB i = isFnScope s₁ i := fun i hi => by
    unfold isFnScope; rw [hso, if_pos hi]
  have E : ExtF m s₁ rs₁ m sB rsB := ExtF.of_eq hfns (by rw [hsc]; simp) hfl_old
    ⟨fun i fr hf => ⟨fr, by rw [hfr, List.getElem?_append_left (lt_of_getElem?_some hf)]; exact hf, rfl⟩,
      fun i c hc' => by rw [hclos]; exact hc'⟩ (LoopsExt.of_eq hloops)
  -- the closure object, seen from the new state
  have hgB := hg.grow E
  obtain ⟨c, hc1, _, _, _, _, _, _, _, _, hel, ⟨k', p, hp1, hp2, hch, hfcc⟩, _⟩ := hgB.clo
  have hce' : c.env = e := hce c (by rw [← hclos]; exact hc1)
  have helt : e < rs₁.frames.length := by
    obtain ⟨c0, hc0, _, _, _, _, _, _, _, _, hel0, _⟩ := hg.clo
    rw [← hce c0 hc0, ← hlen]; exact hel0
  obtain ⟨lrest, hlrest⟩ := hc.head
  have hnew : scopeOf sB s₁.scopes.length = { vars := Lvm, isFunction := true, myFunction := some t } := by
    rw [hso, if_neg (Nat.lt_irrefl _), if_pos rfl]
  refine h.move E (by rw [hsc, hfr]; simp [hlen]) (fun i => ?_) (by rw [hfr]; exact h.par.push Lref e helt)
    (by rw [hlin, getLast?_cons_ne _ (by rw [hlrest]; simp)]; exact h.bottom) ⟨some e, ?_, ?_⟩
    (by rw [hrheap, hheap]; exact h.heap) (by rw [hheap]; exact h.hok.grow E) (by rw [htr, hrtr]; exact h.trace)
    (h.lz.grow E hlz hth)
  · rw [EntryOk, hso, hfrg, ← hlen]
    by_cases hi : i < s₁.scopes.length
    · exact Or.inl ⟨by rw [if_pos hi], by rw [if_pos hi]⟩
    · by_cases hi' : i = s₁.scopes.length
      · subst hi'
        simp only [Nat.lt_irrefl, if_false, if_true]
        refine Or.inr ⟨hL, fun x v hv => ((hLok x v hv).named x).grow E, fun name hn => ?_, fun _ => ⟨t, rfl, ?_⟩⟩
        · rw [hLfo name hn, if_neg (by omega)]
        · unfold fnOf; rw [hfns]; exact ht
      · refine Or.inl ⟨?_, ?_⟩ <;> simp only [hi, hi', if_false]
        · unfold scopeOf; rw [List.getD_eq_getElem?_getD, List.getElem?_eq_none (by omega)]; rfl
        · rw [List.getD_eq_getElem?_getD, List.getElem?_eq_none (by omega)]; rfl
  · -- the chain: the function scope on top of the caller's stack
    rw [hlin, hlen]
    refine ChainF.fn _ e { vars := Lref, parent := some e } s₁.linear (by rw [hfr]; simp) rfl helt ?_
    show (scopeOf sB rs₁.frames.length).isFunction = true
    rw [← hlen, hnew]
  · rw [hcur]
    exact FnChainF.clos sB.linear e vid p k' hgB.lt hp1 hp2 (by rw [← hce']; exact hch) hfcc

/-- `CreateClosureInstr`: a copy of the template with the current closing stack and parent -/
def closureObj (s : St) (t : Nat) : FnObj := { fnOf s t with closing := closingNow s, parent := some s.curfunc }

def afterClosure (s : St) (t : Nat) : St :=
  { s with pc := s.pc + 1, fns := s.fns ++ [closureObj s t], data := some (.fn s.fns.length) :: s.data }

theorem exec_createClosure (f t : Nat) (s : St) :
    (exec (f + 1) (.createClosure t)).run s = (.ok (), afterClosure s t) :=
  exec_simple_eq f _ s rfl


theorem ChainF.trim {isFn : Nat → Bool} {frames : List Ref.Frame} :
    ∀ {k env lin}, ChainF isFn frames k env lin → ChainF isFn frames k env (Scope.takeToBoundary isFn lin) := by
  intro k env lin h
  induction h with
  | root fr hf hp hfl0 =>
    have e : Scope.isFnElem isFn (some 0) = false := hfl0
    simp only [Scope.takeToBoundary, e, Bool.false_eq_true, if_false]
    exact ChainF.root fr hf hp hfl0
  | cons k env p fr rest hf hp hlt hfl0 _ ih =>
    have e : Scope.isFnElem isFn (some env) = false := hfl0
    simp only [Scope.takeToBoundary, e, Bool.false_eq_true, if_false]
    exact ChainF.cons k env p fr _ hf hp hlt hfl0 ih
  | fn env p fr below hf hp hlt hfl0 =>
    have e : Scope.isFnElem isFn (some env) = true := hfl0
    simp only [Scope.takeToBoundary, e, if_true]
    exact ChainF.fn env p fr [] hf hp hlt hfl0

/-- the walk depends on the segment searched before only through its top segment -/
theorem FnChainF.seg_congr {s : St} {frames : List Ref.Frame} {seg seg' : List (Option Nat)}
    (h : Scope.takeToBoundary (isFnScope s) seg' = Scope.takeToBoundary (isFnScope s) seg) :
    ∀ {k f}, FnChainF s frames seg k f → FnChainF s frames seg' k f := by
  intro k f hc
  induction hc with
  | root seg f hlt hp hs => exact FnChainF.root seg' f hlt hp (by rw [h]; exact hs)
  | step seg k f p hlt hp hpf hs _ ih => exact FnChainF.step seg' k f p hlt hp hpf (by rw [h]; exact hs) (ih h)
  | clos seg e f p k' hlt hp hpf hch hrest _ => exact FnChainF.clos seg' e f p k' hlt hp hpf hch hrest
  | sfx seg k f p hlt hp hpf hbd hs _ ih => exact FnChainF.sfx seg' k f p hlt hp hpf hbd (by rw [h]; exact hs) (ih h)

/-- the id map extended by a new closure object -/
def mapWith (m : Nat → Nat) (vid cid : Nat) : Nat → Nat := fun id => if id = vid then cid else m id

/-- **`createClosure t` makes a good closure object**: template `t` was compiled from the body of
the reference closure `c` just appended, whose environment is the current one -/
theorem GoodFn.create {m : Nat → Nat} {s : St} {rs : Ref.St} {env : Nat} (h : RelF m s rs env) (t : Nat) (c : Ref.Clos)
    (hmain : mainFn < s.fns.length) (hcenv : c.env = env) (hrest : okRest c.rest = true) (hnd : (c.ps ++ c.rest.toList).Nodup)
    (hps : ∀ p ∈ c.ps, okParam p = true) (hbody : c.body ≠ [])
    (hparams : (fnOf s t).params = c.ps ++ c.rest.toList) (hnargs : (fnOf s t).nargs = c.ps.length)
    (hvar : (fnOf s t).varargs = c.rest.isSome)
    (huser : (fnOf s t).user = false) (htlt : t < s.fns.length) (htclo : (fnOf s t).closing = [some 0])
    (hcode : ∃ b tl isFn cb gs0 gs1 self, (fnOf s t).code = fnCode t (c.ps ++ c.rest.toList) b
      ∧ (compileBegin isFn cb c.body).run gs0 = .ok ((b, tl), gs1) ∧ cb.scopes = 0
      ∧ FnameOk self cb ∧ (∃ ex, FzList ex self c.body = true ∧ (ex = true → gs0.loopstack = [])) ∧ GenOk gs0 gs1 s
      ∧ KnownOk cb gs0 c.ps c.rest)
    (s₁ : St) (rs₁ : Ref.St) (hs1 : s₁ = afterClosure s t) (hrs1 : rs₁ = { rs with clos := rs.clos ++ [c] }) :
    GoodFn (mapWith m s.fns.length rs.clos.length) s₁ rs₁ s.fns.length := by
  subst hs1; subst hrs1
  obtain ⟨k, hc, hfc⟩ := h.ctx
  have hfns1 : (afterClosure s t).fns = s.fns ++ [closureObj s t] := rfl
  have hfo1 : ∀ id, id < s.fns.length → fnOf (afterClosure s t) id = fnOf s id := fun id hid => by
    unfold fnOf; rw [hfns1]; simp only [List.getD_eq_getElem?_getD, List.getElem?_append_left hid]
  have hnew1 : fnOf (afterClosure s t) s.fns.length = closureObj s t := by
    unfold fnOf; rw [hfns1]; simp [List.getD_eq_getElem?_getD]
  have hk : FnsKeep s (afterClosure s t) := FnsKeep.of_eq (by rw [hfns1]; simp) hfo1 hmain
  have hmv : mapWith m s.fns.length rs.clos.length s.fns.length = rs.clos.length := by unfold mapWith; rw [if_pos rfl]
  have hcl : (closureObj s t).closing = Scope.takeToBoundary (isFnScope s) s.linear := closingNow_topSeg hc h.bottom
  obtain ⟨b, tl, isFn, cb, gs0, gs1, self, hcd, hcomp, hsc0, hfname, hff, hgen, hkn⟩ := hcode
  refine ⟨by rw [hfns1]; simp, hmain, c, ?_, hrest, hnd, hps, hbody, ?_, ?_, ?_, ?_, ?_,
    ⟨k, s.curfunc, ?_, hfc.lt, ?_, ?_⟩, t, b, tl, isFn, cb, gs0, gs1, self, ?_, Nat.lt_of_lt_of_le htlt hk.len, ?_, hcomp,
    hsc0, hfname, hff, hgen.mono hk, hkn⟩
  · rw [hmv]; show (rs.clos ++ [c])[rs.clos.length]? = _; simp
  · rw [hnew1]; exact hparams
  · rw [hnew1]; exact hnargs
  · rw [hnew1]; exact hvar
  · rw [hnew1]; exact huser
  · rw [hcenv]; show env < s.scopes.length; rw [h.len]; exact hc.lt
  · rw [hnew1]; rfl
  · rw [hnew1, hcl, hcenv]; exact hc.trim
  · rw [hnew1, hcl]
    have h2 : FnChainF (afterClosure s t) rs.frames s.linear k s.curfunc :=
      hfc.transfer (s := s) (s' := afterClosure s t) (frames' := rs.frames) rs.frames.length (fun _ _ => rfl)
        (fun i fr hf => ⟨fr, hf, rfl⟩) hk (Nat.le_of_eq h.len) (Nat.le_refl _) (fun e he => Nat.lt_trans (hc.k_lt e he) hc.lt) rfl
    exact h2.seg_congr (takeToBoundary_idem _ _)
  · rw [hnew1]; exact hcd
  · rw [hfo1 t htlt]; exact htclo

theorem isFnScope_pushScope (s : St) (i : Nat) : isFnScope s.pushScope i = if i < s.scopes.length then isFnScope s i else false := by
  unfold isFnScope
  rw [scopeOf_pushScope]
  split <;> rfl

/-- a scope that is no function scope pushed on the segment searched before: the suffixes stay suffixes -/
theorem FnChainF.push {s : St} {frames : List Ref.Frame} {seg : List (Option Nat)} (x : Option Nat)
    (hx : Scope.isFnElem (isFnScope s) x = false) : ∀ {k f}, FnChainF s frames seg k f → FnChainF s frames (x :: seg) k f := by
  have htt : Scope.takeToBoundary (isFnScope s) (x :: seg) = x :: Scope.takeToBoundary (isFnScope s) seg := by
    simp only [Scope.takeToBoundary, hx, Bool.false_eq_true, if_false]
  intro k f hc
  induction hc with
  | root seg f hlt hp hs =>
    obtain ⟨t, ht⟩ := hs
    exact FnChainF.root _ f hlt hp ⟨x :: t, by rw [htt, ht]; rfl⟩
  | step seg k f p hlt hp hpf hs _ ih =>
    obtain ⟨t, ht⟩ := hs
    have htt' : Scope.takeToBoundary (isFnScope s) (x :: seg) = x :: Scope.takeToBoundary (isFnScope s) seg := by
      simp only [Scope.takeToBoundary, hx, Bool.false_eq_true, if_false]
    exact FnChainF.step _ k f p hlt hp hpf ⟨x :: t, by rw [htt', ht]; rfl⟩ (ih htt')
  | clos seg e f p k' hlt hp hpf hch hrest _ => exact FnChainF.clos _ e f p k' hlt hp hpf hch hrest
  | sfx seg k f p hlt hp hpf hbd hs _ ih =>
    obtain ⟨t, ht⟩ := hs
    have htt' : Scope.takeToBoundary (isFnScope s) (x :: seg) = x :: Scope.takeToBoundary (isFnScope s) seg := by
      simp only [Scope.takeToBoundary, hx, Bool.false_eq_true, if_false]
    exact FnChainF.sfx _ k f p hlt hp hpf hbd ⟨x :: t, by rw [htt', ht]; rfl⟩ (ih htt')

theorem ExtF.pushScope (m : Nat → Nat) (s : St) (rs : Ref.St) (env : Nat) :
    ExtF m s rs m s.pushScope (Ref.newFrame rs env).2 :=
  ExtF.of_eq rfl (by show _ ≤ (s.scopes ++ [_]).length; simp) (fun i hi => by rw [isFnScope_pushScope, if_pos hi])
    ⟨FramesExt.newFrame rs env, fun _ _ hc => hc⟩

/-- `addScope` against `newFrame`: a fresh scope on top, a fresh frame under the current one -/
theorem RelF.pushScope {m : Nat → Nat} {s : St} {rs : Ref.St} {env : Nat} (h : RelF m s rs env) :
    RelF m s.pushScope (Ref.newFrame rs env).2 rs.frames.length := by
  have E := ExtF.pushScope m s rs env
  obtain ⟨k, hc, hfc⟩ := h.ctx_grow E
  obtain ⟨k0, hc0, -⟩ := h.ctx
  have hlt : env < rs.frames.length := hc0.lt
  obtain ⟨lrest, hlrest⟩ := hc.head
  have hlen := h.len
  have hfln : isFnScope s.pushScope s.scopes.length = false := by
    rw [isFnScope_pushScope, if_neg (Nat.lt_irrefl _)]
  have hget : (rs.frames ++ [({ parent := some env } : Ref.Frame)]).getD s.scopes.length {} = { parent := some env } := by
    simp [hlen]
  refine h.move E (by show (s.scopes ++ [_]).length = (rs.frames ++ [_]).length; simp [hlen]) (fun i => ?_)
    (h.par.push [] env hlt)
    (by show (some s.scopes.length :: s.linear).getLast? = _; rw [getLast?_cons_ne _ (by rw [hlrest]; simp)]; exact h.bottom)
    ⟨k, hlen ▸ ChainF.cons k s.scopes.length env { parent := some env } s.linear
        (by show (rs.frames ++ [_])[s.scopes.length]? = _; simp [hlen]) rfl (by rw [hlen]; exact hlt) hfln hc,
      hfc.push (some s.scopes.length) hfln⟩
    h.heap (h.hok.grow E) h.trace (h.lz.grow E)
  rw [EntryOk, scopeOf_pushScope]
  show (_ ∧ (rs.frames ++ [({ parent := some env } : Ref.Frame)]).getD i {} = _) ∨ _
  by_cases hi : i = s.scopes.length
  · subst hi
    refine Or.inr ⟨fun y => ?_, fun y w hw => ?_, fun name _ => ?_, fun hi => ?_⟩
    · show ((rs.frames ++ [_]).getD _ {}).vars.lookup y = _
      rw [hget, if_neg (Nat.lt_irrefl _)]; rfl
    · rw [if_neg (Nat.lt_irrefl _)] at hw; cases hw
    · show ((rs.frames ++ [_]).getD _ {}).vars.lookup name = _
      rw [hget, if_neg (by omega)]; rfl
    · rw [hfln] at hi; cases hi
  · refine Or.inl ⟨?_, ?_⟩
    · split
      · rfl
      · unfold scopeOf; rw [List.getD_eq_getElem?_getD, List.getElem?_eq_none (by omega)]; rfl
    · simp only [List.getD_eq_getElem?_getD]
      by_cases hlt : i < rs.frames.length
      · rw [List.getElem?_append_left hlt]
      · rw [List.getElem?_eq_none (by simp; omega), List.getElem?_eq_none (by omega)]


/-- what a run may do to a configuration of F2: the id map, the frames and closures, the function and scope tables
only grow; the control stacks are as before -/
def AdvF (m : Nat → Nat) (s : St) (rs : Ref.St) (m' : Nat → Nat) (s' : St) (rs' : Ref.St) : Prop :=
  MExt s m m' ∧ RExt rs rs' ∧ FrameF s s'

theorem AdvF.trans {m₁ m₂ m₃ : Nat → Nat} {s₁ s₂ s₃ : St} {rs₁ rs₂ rs₃ : Ref.St} (h₁ : AdvF m₁ s₁ rs₁ m₂ s₂ rs₂)
    (h₂ : AdvF m₂ s₂ rs₂ m₃ s₃ rs₃) : AdvF m₁ s₁ rs₁ m₃ s₃ rs₃ :=
  ⟨h₁.1.trans h₂.1 h₁.2.2.fnsLen, h₁.2.1.trans h₂.2.1, h₁.2.2.trans h₂.2.2⟩

/-- leaving a scope opened by `addScope`: the relation in the outer environment again -/
theorem RelF.popped {m m₃ : Nat → Nat} {s s₃ : St} {rs rs₃ : Ref.St} {env : Nat} (hrel : RelF m s rs env)
    (rel3 : RelF m₃ s₃ rs₃ rs.frames.length) (x3 : AdvF m s.pushScope (Ref.newFrame rs env).2 m₃ s₃ rs₃) :
    RelF m₃ s₃.popScope rs₃ env ∧ AdvF m s rs m₃ s₃.popScope rs₃ ∧ ∀ v, VOk m₃ s₃ rs₃ v → VOk m₃ s₃.popScope rs₃ v := by
  obtain ⟨hm3, ext3, fr3⟩ := x3
  have hlin3 : s₃.linear = some s.scopes.length :: s.linear := fr3.linear
  have hflags : ∀ i, i < s.scopes.length → isFnScope s₃ i = isFnScope s i := fun i hi => by
    rw [fr3.flags i (by show i < (s.scopes ++ [_]).length; simp; omega), isFnScope_pushScope, if_pos hi]
  have hext : FramesExt rs rs₃ := (FramesExt.newFrame rs env).trans ext3.1
  exact ⟨hrel.back rel3 rfl rfl rfl rfl (by show s₃.linear.tail = _; rw [hlin3]; rfl) fr3.curfunc hflags fr3.fnsLen fr3.fns hext
      ⟨fr3.loopsLen, fr3.loops⟩,
    ⟨hm3, ⟨hext, ext3.2⟩, ⟨by show s₃.linear.tail = _; rw [hlin3]; rfl, fr3.curfunc, fr3.addr, fr3.susp, fr3.fnsLen, fr3.fns,
      fr3.loopsLen, fr3.loops⟩, Nat.le_trans (by show s.scopes.length ≤ (s.scopes ++ [_]).length; simp) fr3.scLen, hflags⟩,
    fun v hcl => hcl.grow (ExtF.of_eq rfl (Nat.le_refl _) (fun _ _ => rfl) (RExt.refl _))⟩

end ZygoVerif.Sim
