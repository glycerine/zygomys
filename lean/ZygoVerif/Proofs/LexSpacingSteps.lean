/-
C06 `lex_spacing`: the rune-level facts about the lexer model that decide where a blank
is needed between two tokens of an infix block.

After a token has been read the lexer is in one of three *pending* situations (`Pend`):
  * `norm b`    — LexerNormal with the atom `b` still in the buffer (`b = []` after a bracket,
                  comma, semicolon or two-rune operator, which are emitted at once);
  * `op1 o p`   — LexerBuiltinOperator: the operator rune `o` has been read, the rune before it
                  was `p` (`preBuiltinRune`); whether `o` is an operator on its own, the first half
                  of a two-rune operator or the sign of a number is decided by the NEXT rune;
  * `slash b`   — LexerFirstFwdSlash: a `/` has been read, the atom `b` is still in the buffer.
The pieces are stated with `Reads` between `Pend.Holds` predicates (`(Pend.norm b).Holds` is `Norm b`).

*Settling* (`Reads.settle`): when the next runes do not interact with a pending operator, the lexer behaves exactly
as if the operator had already been emitted. The side conditions of the three instances (`opMerges`, `signGlues`,
`dotGlues`, Proofs/LexNumbers) are the adjacencies that need a blank.
-/
import ZygoVerif.Proofs.LexWord
import ZygoVerif.Proofs.LexChar
namespace ZygoVerif.Lexer

inductive Pend where
  | norm (b : List Char)
  | op1 (o p : Char)
  | slash (b : List Char)
  deriving Repr, DecidableEq

def Pend.Holds (q : Pend) (s : LexCore) : Prop :=
  match q with
  | .norm b => s.state = .normal ∧ s.buffer = b
  | .op1 o p => s.state = .builtinOperator ∧ s.buffer = [] ∧ s.prevrune = o ∧ s.preBuiltinRune = p
  | .slash b => s.state = .firstFwdSlash ∧ s.buffer = b

def Pend.owes : Pend → List Token
  | .norm b => flush b
  | .op1 o _ => [⟨.symbol, [o]⟩]
  | .slash b => flush b ++ [⟨.symbol, ['/']⟩]

/- `InPend` and `LexP` state the same as `Reads` between `Pend.Holds` predicates with the queue and the last rune as
indices. Nothing rests on them: every statement of the development is made in `Reads` form and, where `Lex` is asked
for, read off by `Reads.lex`. -/
structure InPend (s : LexCore) (q : Pend) (T : List Token) (l : Char) : Prop where
  ring : RingOK s
  last : lastRune s = l
  tokens : s.tokens = T
  holds : q.Holds s

def LexP (q : Pend) (T : List Token) (l : Char) (text : List Char) (q' : Pend) (T' : List Token) (l' : Char) : Prop :=
  ∀ s, InPend s q T l → ∃ s', feed (.ok s) text = .ok s' ∧ InPend s' q' T' l'

theorem LexP.cast {q q' : Pend} {T T' T'' : List Token} {l l' l'' : Char} {t : List Char}
    (h : LexP q T l t q' T' l') (hT : T' = T'') (hl : l' = l'') : LexP q T l t q' T'' l'' := by
  subst hT; subst hl; exact h

theorem settleBuf_pushRing (s : LexCore) (c : Char) : settleBuf (pushRing s c) = pushRing (settleBuf s) c := by
  have e : (pushRing s c).buffer = s.buffer := rfl
  unfold settleBuf
  rw [e]
  by_cases hb : s.buffer.isEmpty = true
  · rw [if_pos hb, if_pos hb]
  · rw [if_neg hb, if_neg hb]
    cases decodeAtom s.buffer <;> rfl

/-- `/` opens LexerFirstFwdSlash; the pending atom stays in the buffer -/
theorem reads_slash (b : List Char) (l : Char) : Reads (Norm b) l ['/'] [] (Pend.slash b).Holds := by
  apply Reads.step
  intro s hsp _
  have hst : (pushRing s '/').state = .normal := hsp.1
  refine ⟨{ pushRing s '/' with state := .firstFwdSlash }, ?_, ⟨rfl, hsp.2⟩, (List.append_nil _).symm⟩
  rw [stepMode_normal _ _ hst]
  simp [stepNormal]

theorem reads_blanks (g : List Char) (hg : ∀ c ∈ g, isBlank c = true) (l : Char) : Reads (Norm []) l g [] (Norm []) := by
  induction g generalizing l with
  | nil => exact Reads.nil _ _
  | cons c g ih =>
    obtain ⟨h1, h2⟩ := closer_blank c (hg c (by simp))
    have := Reads.cons (reads_closer [] l c h1 (Or.inl rfl)) (ih (fun x hx => hg x (by simp [hx])) c)
    rwa [h2] at this

theorem reads_op2 (o p l c : Char) (hm : opMerges o c = true) (hd : isDig c = false) (hdot : c ≠ '.') :
    Reads (Pend.op1 o p).Holds l [c] [op2Tok o c] (Norm []) := by
  refine Reads.step fun s h _ => ?_
  have h1 : signGlues o p c = false := by simp [signGlues, hd]
  have h3 : dotGlues o p c = false := by simp [dotGlues, hdot]
  exact ⟨_, (step_ahead s o p c h).trans ((if_neg (ne_true_of_eq_false h1)).trans
    ((if_neg (ne_true_of_eq_false h3)).trans (if_pos hm))), ⟨rfl, h.2.1⟩, rfl⟩

/-- `s0` is `s` settled: in the normal mode with an empty buffer, the tokens `owed` queued, the same look-back ring -/
def Settled (s s0 : LexCore) (owed : List Token) : Prop :=
  Norm [] s0 ∧ s0.tokens = s.tokens ++ owed ∧ s0.priorRune = s.priorRune ∧ s0.priori = s.priori

/-- **Settling.** From a pending situation with which the next runes `u` do not interact, the lexer goes on exactly as
from the normal mode with an empty buffer and what the situation owes already queued. -/
theorem Reads.settle {P Q : LexCore → Prop} {l : Char} {u rest : List Char} {owed ts : List Token}
    (hs : ∀ s, P s → ∃ s0, Settled s s0 owed ∧ feed (.ok s) u = feed (.ok s0) u)
    (h : Reads (Norm []) l (u ++ rest) ts Q) : Reads P l (u ++ rest) (owed ++ ts) Q := by
  intro s hp hr hl
  obtain ⟨s0, ⟨h0, ht0, hr1, hr2⟩, he⟩ := hs s hp
  obtain ⟨s', hf, hq, ht⟩ := h s0 h0 ⟨by rw [hr1]; exact hr.len, by rw [hr2]; exact hr.lt⟩
    (by simp only [lastRune] at hl ⊢; rw [hr1, hr2, hl])
  exact ⟨s', by rw [feed_append, he, ← feed_append]; exact hf, hq, by rw [ht, ht0, List.append_assoc]⟩

theorem feed_one (s s0 : LexCore) (c : Char) (h : step s c = step s0 c) : feed (.ok s) [c] = feed (.ok s0) [c] := by
  rw [feed_ok_cons, h, ← feed_ok_cons]

/-- settling a one-rune operator: a rune that neither completes a two-rune operator nor makes
the `-` a sign is read exactly as if the operator had been emitted before it -/
theorem settle_op1 (s : LexCore) (o p c : Char) (hsp : (Pend.op1 o p).Holds s)
    (hm : opMerges o c = false) (hg : signGlues o p c = false) (hd : dotGlues o p c = false) :
    ∃ s0, Settled s s0 [⟨.symbol, [o]⟩] ∧ feed (.ok s) [c] = feed (.ok s0) [c] := by
  refine ⟨appendToken { s with state := .normal } ⟨.symbol, [o]⟩, ⟨⟨rfl, hsp.2.1⟩, rfl, rfl, rfl⟩, feed_one _ _ _ ?_⟩
  rw [step_def, step_ahead s o p c hsp, hg, hd, hm, if_neg Bool.false_ne_true, if_neg Bool.false_ne_true,
    if_neg Bool.false_ne_true, step_def, stepMode_normal _ _ (by rfl)]
  rfl

theorem stepMode_minusDot (s : LexCore) (r : Char) (h : s.state = .minusDot) : stepMode s r = stepMinusDot s r := by
  simp only [stepMode, h]

/-- settling `-.` (LexerMinusDot): after `-` where a signed number may start, a `.` followed by a
rune that is no digit is read exactly as if the `-` had been emitted before the dot -/
theorem settle_minusDot (s : LexCore) (p x : Char) (hsp : (Pend.op1 '-' p).Holds s)
    (hp : canStartSignedNumberAfter p = true) (hx : isDig x = false) :
    ∃ s0, Settled s s0 [⟨.symbol, ['-']⟩] ∧ feed (.ok s) ['.', x] = feed (.ok s0) ['.', x] := by
  obtain ⟨hst, hbuf, hprev, hpre⟩ := hsp
  refine ⟨appendToken { s with state := .normal } ⟨.symbol, ['-']⟩, ⟨⟨rfl, hbuf⟩, rfl, rfl, rfl⟩, ?_⟩
  -- left: `-` pending, then `.`, then x
  have h1 : signGlues '-' p '.' = false := by simp [signGlues, isDig]
  have h2 : dotGlues '-' p '.' = true := by simp [dotGlues, hp]
  have e1 : step s '.' = .ok { pushRing s '.' with state := .minusDot } := by
    rw [step_def, step_ahead s '-' p '.' ⟨hst, hbuf, hprev, hpre⟩, h1, if_neg Bool.false_ne_true, if_pos h2]
  have hxd : ('0' ≤ x && x ≤ '9') = false := hx
  have e2 : step { pushRing s '.' with state := .minusDot } x =
      stepNormal { appendToken { pushRing (pushRing s '.') x with state := .normal } ⟨.symbol, ['-']⟩ with
        buffer := (pushRing (pushRing s '.') x).buffer ++ ['.'] } x := by
    rw [step_def, stepMode_minusDot _ _ (by rfl)]
    simp only [stepMinusDot, hxd, Bool.false_eq_true, ↓reduceIte]
    rfl
  -- right: the `-` already emitted, then `.` (a plain rune), then x
  have f1 : step (appendToken { s with state := .normal } ⟨.symbol, ['-']⟩) '.' =
      .ok { pushRing (appendToken { s with state := .normal } ⟨.symbol, ['-']⟩) '.' with
        buffer := (pushRing (appendToken { s with state := .normal } ⟨.symbol, ['-']⟩) '.').buffer ++ ['.'] } := by
    rw [step_def, stepMode_normal _ _ (by rfl), stepNormal_plain _ _ (by decide)]
    rfl
  rw [feed_ok_cons, e1, feed_ok_cons, e2, feed_ok_cons, f1, feed_ok_cons, step_def, stepMode_normal _ _ (by rfl)]
  rfl

/-- settling `/`: a rune that starts neither a comment nor `/=` is read as if the atom before
the `/` and the `/` itself had been emitted -/
theorem settle_slash (s : LexCore) (b : List Char) (c : Char) (hsp : (Pend.slash b).Holds s)
    (hf : Flushable b) (h1 : c ≠ '/') (h2 : c ≠ '*') (hm : opMerges '/' c = false) :
    ∃ s0, Settled s s0 (flush b ++ [⟨.symbol, ['/']⟩]) ∧ feed (.ok s) [c] = feed (.ok s0) [c] := by
  obtain ⟨hst, hbuf⟩ := hsp
  have hfl : Flushable ({ s with state := .builtinOperator, prevrune := '/' } : LexCore).buffer := by
    show Flushable s.buffer; rw [hbuf]; exact hf
  obtain ⟨f1, f2, f3, f4, f5, f6, f7⟩ := settleBuf_facts { s with state := .builtinOperator, prevrune := '/' } hfl
  refine ⟨appendToken { settleBuf { s with state := .builtinOperator, prevrune := '/' } with state := .normal } ⟨.symbol, ['/']⟩,
    ⟨⟨rfl, f1⟩, ?_, f4, f5⟩, feed_one _ _ _ ?_⟩
  · show (settleBuf _).tokens ++ _ = _
    rw [f2, List.append_assoc]; show s.tokens ++ (flush s.buffer ++ _) = _; rw [hbuf]
  · have hst' : (pushRing s c).state = .firstFwdSlash := hst
    have hc1 : (c == '/') = false := by simpa using h1
    have hc2 : (c == '*') = false := by simpa using h2
    have hfl' : Flushable ({ pushRing s c with state := .builtinOperator, prevrune := '/' } : LexCore).buffer := hfl
    have e1 : step s c = stepBuiltin (settleBuf { pushRing s c with state := .builtinOperator, prevrune := '/' }) c := by
      rw [step_def]
      simp only [stepMode, hst', stepFirstFwdSlash, hc1, hc2, Bool.false_eq_true, ↓reduceIte]
      exact thenDump_settle _ _ hfl'
    have e2 : ({ pushRing s c with state := .builtinOperator, prevrune := '/' } : LexCore) =
        pushRing { s with state := .builtinOperator, prevrune := '/' } c := rfl
    rw [e1, e2, settleBuf_pushRing, stepBuiltin_eq]
    have g1 : (pushRing (settleBuf { s with state := .builtinOperator, prevrune := '/' }) c).prevrune = '/' := f6
    have g2 : signGlues (pushRing (settleBuf { s with state := .builtinOperator, prevrune := '/' }) c).prevrune
        (pushRing (settleBuf { s with state := .builtinOperator, prevrune := '/' }) c).preBuiltinRune c = false := by
      rw [g1]; simp [signGlues]
    have g3 : opMerges (pushRing (settleBuf { s with state := .builtinOperator, prevrune := '/' }) c).prevrune c = false := by
      rw [g1]; exact hm
    have g5 : dotGlues (pushRing (settleBuf { s with state := .builtinOperator, prevrune := '/' }) c).prevrune
        (pushRing (settleBuf { s with state := .builtinOperator, prevrune := '/' }) c).preBuiltinRune c = false := by
      rw [g1]; simp [dotGlues]
    simp only [g2, g3, g5, Bool.false_eq_true, ↓reduceIte]
    have g4 : (⟨.symbol, [(pushRing (settleBuf { s with state := .builtinOperator, prevrune := '/' }) c).prevrune]⟩ : Token) =
        ⟨.symbol, ['/']⟩ := by rw [g1]
    rw [g4, step_def, stepMode_normal _ _ (by rfl)]
    rfl

/-- `:=` after a (possibly empty) atom: the atom is flushed when the `=` arrives -/
theorem reads_freshAssign (b : List Char) (l : Char) (hf : Flushable b) :
    Reads (Norm b) l [':', '='] (flush b ++ [⟨.freshAssign, ":=".toList⟩]) (Norm []) := by
  refine Reads.cons (ts := []) (Q := fun s => s.state = .freshAssignOrColon ∧ s.buffer = b) (Reads.step ?_) (Reads.step ?_)
  · intro s hsp _
    have hst : (pushRing s ':').state = .normal := hsp.1
    exact ⟨{ pushRing s ':' with state := .freshAssignOrColon }, by rw [stepMode_normal _ _ hst]; simp [stepNormal],
      ⟨rfl, hsp.2⟩, (List.append_nil _).symm⟩
  · intro s hsp _
    have hst : (pushRing s '=').state = .freshAssignOrColon := hsp.1
    have hfl : Flushable ({ pushRing s '=' with state := .normal } : LexCore).buffer := by
      show Flushable s.buffer; rw [hsp.2]; exact hf
    obtain ⟨f1, f2, f3, -⟩ := settleBuf_facts { pushRing s '=' with state := .normal } hfl
    refine ⟨appendToken (settleBuf { pushRing s '=' with state := .normal }) ⟨.freshAssign, ":=".toList⟩, ?_, ⟨f3, f1⟩, ?_⟩
    · simp only [stepMode, hst, stepFresh, beq_self_eq_true, ↓reduceIte]
      exact thenDump_settle _ _ hfl
    · show (settleBuf _).tokens ++ _ = _
      rw [f2, List.append_assoc]; show s.tokens ++ (flush s.buffer ++ _) = _; rw [hsp.2]; rfl

end ZygoVerif.Lexer
