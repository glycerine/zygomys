/-
The invariant that ties the generator's context (`Ctx.scopes`,
`Ctx.tail`, the compile-time loop stack and loop table of `GS`) to the abstract state of the
balance checker at the point where the form's code starts, and its preservation lemmas.
-/
import ZygoVerif.Proofs.GenBalancedState
namespace ZygoVerif.Bal
open ZygoVerif.VM ZygoVerif.Core
open ZygoVerif.Sim (forGs forDone forCode)

/-! ## Names no call can have as its head -/

/-- the empty name and the generated names `__anon<n>` of anonymous functions -/
def anonLike (h : String) : Bool := h.isEmpty || (h.toList.take 6 == ['_', '_', 'a', 'n', 'o', 'n'])

theorem anonPrefix_toList : (toString "__anon").toList = ['_', '_', 'a', 'n', 'o', 'n'] := by decide

theorem anonLike_gen (n : Nat) : anonLike (s!"__anon{n}") = true := by
  simp [anonLike, String.toList_append, anonPrefix_toList]

theorem anonLike_empty : anonLike "" = true := by decide

/-- What the self tail call needs to know: the name the body is compiled under resolves (in the
generator's `knownFunctions`) to a registered template with the signature of the function being
checked, and the annotation of instruction 0 is the entry state. Names that no call of the
covered grammar can have as its head never reach the tail-call arm. -/
def SelfOK (c : Ctx) (gs : GS) (Γ : Env) : Prop :=
  anonLike c.funcname = true ∨
  ∃ (t : Nat) (fo : FnObj), c.known.lookup c.funcname = some t ∧ gs.fns[t]? = some fo ∧
    ∀ F A, Γ.side F A →
      annAt A 0 = some ⟨0, [], fo.nargs + (if fo.varargs then 1 else 0)⟩ ∧ F.varargs = fo.varargs ∧ F.nfixed = fo.nargs

/-- loop `id` of the compile-time loop stack is a loop of the function being checked: the
context has its record, its stack-mark is open in `σ`, and the generator's scope count says how
many scopes a `break` must pop -/
def LoopLocal (d : Nat) (scopes : Nat) (gs : GS) (Γ : Env) (T : List LoopRec) (σ : AState) (id : Nat) : Prop :=
  ∃ info ∈ Γ.loops, info.id = id ∧ info.brkOff = (T.getD id {}).breakOff ∧ info.contOff = (T.getD id {}).contOff ∧
    (∃ pre fr, cutTo id σ.frames = some (pre, fr, info.below)) ∧ σ.base = info.base ∧
    info.k = (gs.loops.getD id {}).scopeDepth + 1 + d ∧ (gs.loops.getD id {}).scopeDepth + 1 ≤ scopes

/-- The invariant relating the generator context to the abstract state.
`d` = 1 inside a function body (its own scope), 0 in a top-level text or helper. -/
structure GInv (d : Nat) (c : Ctx) (gs : GS) (Γ : Env) (T : List LoopRec) (σ : AState) : Prop where
  wf : σ.wf = true
  /-- `gen.scopes` counts the scopes opened since the function's own -/
  k : σ.k = c.scopes + d
  uniq : ∀ F A, Γ.side F A → LoopsUnique F.code
  /-- open stack-marks belong to loops that exist -/
  marks : ∀ m ∈ openMarks σ.frames, m < gs.loops.length
  /-- every loop a `break`/`continue` can name is a loop of this function (then the context
  knows it) or of an enclosing one (then it does not occur in this function) -/
  loops : ∀ id ∈ gs.loopstack, LoopLocal d c.scopes gs Γ T σ id ∨ (∀ F A, Γ.side F A → loopPos F.code id = none)
  /-- in tail position the function's own area is empty -/
  tail : c.tail = true → σ.frames = [] ∧ σ.base = 0 ∧ d = 1 ∧ SelfOK c gs Γ

theorem GInv.off {d : Nat} {c : Ctx} {gs : GS} {Γ : Env} {T : List LoopRec} {σ : AState} (h : GInv d c gs Γ T σ) :
    GInv d { c with tail := false } gs Γ T σ :=
  ⟨h.wf, h.k, h.uniq, h.marks, h.loops, fun ht => by cases ht⟩

theorem GInv.flag {d : Nat} {c : Ctx} {gs : GS} {Γ : Env} {T : List LoopRec} {σ : AState} (h : GInv d c gs Γ T σ)
    (t : Bool) (ht : t = false) : GInv d { c with tail := t } gs Γ T σ := by
  subst ht; exact h.off

theorem LoopLocal.imp {d sc sc' : Nat} {gs gs' : GS} {Γ Γ' : Env} {T : List LoopRec} {σ σ' : AState} {id : Nat}
    (h : LoopLocal d sc gs Γ T σ id) (hΓ : ∀ info ∈ Γ.loops, info ∈ Γ'.loops)
    (hσ : ∀ below, (∃ pre fr, cutTo id σ.frames = some (pre, fr, below)) →
      (∃ pre fr, cutTo id σ'.frames = some (pre, fr, below)) ∧ σ'.base = σ.base)
    (hg : gs'.loops.getD id {} = gs.loops.getD id {}) (hs : sc ≤ sc') : LoopLocal d sc' gs' Γ' T σ' id := by
  obtain ⟨info, hm, h1, h2, h3, h4, h5, h6, h7⟩ := h
  obtain ⟨hc, hb⟩ := hσ _ h4
  exact ⟨info, hΓ _ hm, h1, h2, h3, hc, hb ▸ h5, hg ▸ h6, hg ▸ Nat.le_trans h7 hs⟩

theorem cutTo_bump (id : Nat) (σ : AState) (n : Nat) (below : List Frame)
    (h : ∃ pre fr, cutTo id σ.frames = some (pre, fr, below)) :
    (∃ pre fr, cutTo id (bump σ n).frames = some (pre, fr, below)) ∧ (bump σ n).base = σ.base := by
  obtain ⟨k, frames, base⟩ := σ
  cases frames with
  | nil => obtain ⟨pre, fr, h⟩ := h; simp [cutTo] at h
  | cons f rest =>
    obtain ⟨pre, fr, h⟩ := h
    refine ⟨?_, by simp [bump]⟩
    simp only [bump, cutTo] at h ⊢
    by_cases hk : f.kind = .mark id
    · simp only [hk, if_true] at h ⊢
      cases h
      exact ⟨_, _, rfl⟩
    · simp only [hk, if_false] at h ⊢
      cases hc : cutTo id rest with
      | none => rw [hc] at h; cases h
      | some v =>
        obtain ⟨p', f', r'⟩ := v
        rw [hc] at h
        cases h
        exact ⟨_, _, rfl⟩

theorem GInv.bump {d : Nat} {c : Ctx} {gs : GS} {Γ : Env} {T : List LoopRec} {σ : AState} (h : GInv d c gs Γ T σ)
    (ht : c.tail = false) (n : Nat) : GInv d c gs Γ T (bump σ n) := by
  refine ⟨by rw [wf_bump]; exact h.wf, by rw [bump_k]; exact h.k, h.uniq, by rw [openMarks_bump]; exact h.marks, ?_,
    fun ht' => by rw [ht] at ht'; cases ht'⟩
  exact fun id hid => (h.loops id hid).imp_left
    (·.imp (fun _ hm => hm) (cutTo_bump id σ n) rfl (Nat.le_refl _))

theorem SelfOK.ext {c : Ctx} {gs gs' : GS} {Γ : Env} (h : SelfOK c gs Γ) (he : Ext gs gs') : SelfOK c gs' Γ := by
  rcases h with h | ⟨t, fo, h1, h2, h3⟩
  · exact Or.inl h
  · refine Or.inr ⟨t, fo, h1, ?_, h3⟩
    have ht : t < gs.fns.length := (List.getElem?_eq_some_iff.mp h2).1
    rw [he.fns_get t ht]; exact h2

theorem GInv.ext {d : Nat} {c : Ctx} {gs gs' : GS} {Γ : Env} {T : List LoopRec} {σ : AState} (h : GInv d c gs Γ T σ)
    (he : Ext gs gs') (hg : GSok gs) : GInv d c gs' Γ T σ := by
  refine ⟨h.wf, h.k, h.uniq, fun m hm => Nat.lt_of_lt_of_le (h.marks m hm) he.loops_len, ?_, ?_⟩
  · intro id hid
    rw [he.stack] at hid
    exact (h.loops id hid).imp_left
      (·.imp (fun _ hm => hm) (fun _ hc => ⟨hc, rfl⟩) (he.loops_getD id (hg id hid)) (Nat.le_refl _))
  · intro ht
    obtain ⟨a, b, c', s⟩ := h.tail ht
    exact ⟨a, b, c', s.ext he⟩

theorem GInv.deeper {d : Nat} {c : Ctx} {gs : GS} {Γ : Env} {T : List LoopRec} {σ : AState} (h : GInv d c gs Γ T σ) :
    GInv d { c with scopes := c.scopes + 1 } gs Γ T (deeper σ 1) := by
  refine ⟨by rw [wf_deeper]; exact h.wf, ?_, h.uniq, h.marks, ?_, ?_⟩
  · show σ.k + 1 = c.scopes + 1 + d
    have := h.k; omega
  · exact fun id hid => (h.loops id hid).imp_left
      (·.imp (fun _ hm => hm) (fun _ hc => ⟨hc, rfl⟩) rfl (Nat.le_succ _))
  · intro ht
    exact h.tail ht

theorem cutTo_inLoop_self (loop : Nat) (σ : AState) (c : Cnt) :
    cutTo loop (inLoop loop σ c).frames = some ([], ⟨.mark loop, c⟩, σ.frames) := by
  simp [inLoop, cutTo]

theorem cutTo_inLoop_ne (loop id : Nat) (σ : AState) (c : Cnt) (hne : id ≠ loop) (below : List Frame)
    (h : ∃ pre fr, cutTo id σ.frames = some (pre, fr, below)) :
    ∃ pre fr, cutTo id (inLoop loop σ c).frames = some (pre, fr, below) := by
  obtain ⟨pre, fr, h⟩ := h
  have : ¬ (FK.mark loop = FK.mark id) := by
    intro he; cases he; exact hne rfl
  simp only [inLoop, cutTo, this, if_false, h]
  exact ⟨_, _, rfl⟩

/-- entering a `for`: the loop is pushed on the compile-time loop stack, its record appended;
the state has one more scope and the loop's stack-mark on top -/
theorem GInv.enter {d : Nat} {c : Ctx} {gs : GS} {Γ : Env} {T : List LoopRec} {σ : AState} (h : GInv d c gs Γ T σ)
    (hg : GSok gs) (label : Option String) (cnt : Cnt) :
    GInv d { c with tail := false, scopes := c.scopes + 1 } (forGs gs c label)
      (Γ.enter (loopInfo gs.loops.length σ (T.getD gs.loops.length {}).breakOff (T.getD gs.loops.length {}).contOff)) T
      (inLoop gs.loops.length σ cnt) := by
  have hfresh : gs.loops.length ∉ openMarks σ.frames := fun hm => Nat.lt_irrefl _ (h.marks _ hm)
  refine ⟨inLoop_wf _ σ cnt h.wf hfresh, ?_, h.uniq, ?_, ?_, fun ht => by cases ht⟩
  · show σ.k + 1 = c.scopes + 1 + d
    have := h.k; omega
  · intro m hm
    simp only [inLoop, openMarks, List.mem_cons] at hm
    simp only [forGs, List.length_append, List.length_cons, List.length_nil]
    rcases hm with rfl | hm
    · omega
    · have := h.marks m hm; omega
  · intro id hid
    simp only [forGs, List.mem_cons] at hid
    rcases hid with rfl | hid
    · left
      refine ⟨_, List.mem_cons_self, rfl, rfl, rfl, ⟨_, _, cutTo_inLoop_self _ σ cnt⟩, rfl, ?_, ?_⟩
      · rw [forGs_getD_self]
        show σ.k + 1 = c.scopes + 1 + d
        have := h.k; omega
      · rw [forGs_getD_self]
        exact Nat.le_refl _
    · have hlt := hg id hid
      exact (h.loops id hid).imp_left
        (·.imp (fun _ => List.mem_cons_of_mem _)
          (fun below hc => ⟨cutTo_inLoop_ne _ id σ cnt (by omega) below hc, rfl⟩) (forGs_getD id hlt) (Nat.le_succ _))

end ZygoVerif.Bal
