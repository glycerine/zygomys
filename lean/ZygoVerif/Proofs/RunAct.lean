/-
One activation, followed through a run (for C09).

`VmStep` is one successful instruction of `runLoop`; `ReachAbove a` follows steps through states
whose address stack never gets shorter than `a`: as long as that holds, the activation that was
entered with address depth `a` has not returned. From the calling contract: such a run keeps the
table invariant and the stack of activations above (and including) that activation; whenever
it is back at address depth `a` it is IN that activation, and whenever it is moreover back at
instruction 0 (a self tail call) the data and scope stacks have the depths of the first entry.
-/
import ZygoVerif.Proofs.RunPrim
import ZygoVerif.Proofs.TailSite
import ZygoVerif.Proofs.TailVM
namespace ZygoVerif.RunInv
open ZygoVerif.Core ZygoVerif.VM ZygoVerif.Bal ZygoVerif.Refine

def VmStep (s s' : St) : Prop :=
  ∃ fuel i, ¬ (s.pc = -1 ∨ s.pc ≥ curSize s) ∧ (fnOf s s.curfunc).code[s.pc.toNat]? = some i ∧
    (exec (fuel + 1) i).run s = (.ok (), s')

inductive ReachAbove (a : Nat) : St → St → Prop
  | refl {s : St} : a ≤ s.addr.length → ReachAbove a s s
  | step {s s' s'' : St} : a ≤ s.addr.length → VmStep s s' → ReachAbove a s' s'' → ReachAbove a s s''

theorem ReachAbove.trans {a : Nat} {s s' s'' : St} (h1 : ReachAbove a s s') (h2 : ReachAbove a s' s'') : ReachAbove a s s'' := by
  induction h1 with
  | refl _ => exact h2
  | step hs hv _ ih => exact ReachAbove.step hs hv (ih h2)

theorem ReachAbove.last {a : Nat} {s s' : St} (h : ReachAbove a s s') : a ≤ s'.addr.length := by
  induction h with
  | refl h => exact h
  | step _ _ _ ih => exact ih

theorem Chain.A_lt {b : Base} {s : St} : ∀ (acts : List Act) (D : List Cell) (S : Nat) (addr : List (Option (Nat × Int))),
    Chain b s acts D S addr → (∀ x ∈ acts, x.A < addr.length) ∧
      (b.main = false → (∀ x ∈ acts, b.addr.length < x.A) ∧ b.addr.length < addr.length)
  | [], _, _, _, h => ⟨fun x hx => (by cases hx), fun hm => ⟨fun x hx => (by cases hx), by
      have h3 := h.2.2
      rw [hm] at h3
      simp only [Bool.false_eq_true, if_false] at h3
      rw [h3]; simp⟩⟩
  | a :: r, D, S, addr, h => by
    obtain ⟨r', tail, h1, _, _, h4, _, _, h6⟩ := h
    obtain ⟨ih1, ih2⟩ := Chain.A_lt r _ _ _ h6
    rw [h1]
    simp only [List.length_cons]
    refine ⟨fun x hx => ?_, fun hm => ⟨fun x hx => ?_, by have := (ih2 hm).2; omega⟩⟩
    · rcases List.mem_cons.mp hx with rfl | hx
      · omega
      · have := ih1 x hx; omega
    · rcases List.mem_cons.mp hx with rfl | hx
      · have := (ih2 hm).2; omega
      · exact (ih2 hm).1 x hx

/-- the activation `a0` (on the activations `rest0`) is on the stack of activations of `s` -/
def Holds (b : Base) (a0 : Act) (rest0 : List Act) (s : St) : Prop :=
  WF s ∧ ∃ upper top rest, Running b s top rest ∧ top :: rest = upper ++ a0 :: rest0

theorem holds_step_ext {b : Base} {a0 : Act} {rest0 : List Act} {s s' : St} (h : Holds b a0 rest0 s) (hv : VmStep s s')
    (ha : a0.A ≤ s'.addr.length) : Holds b a0 rest0 s' ∧ TExt s s' ∧ s'.suspended = s.suspended := by
  obtain ⟨hw, upper, top, rest, hr, hst⟩ := h
  obtain ⟨fuel, i, _, hf, hex⟩ := hv
  obtain ⟨hw', he, hn, hsu⟩ := (allSpec' (fuel + 1)).exec b s s' top rest i hw hr hf hex
  refine ⟨?_, he, hsu⟩
  have hlt := Chain.A_lt _ _ _ _ hr.chain
  have hmem : a0 = top ∨ a0 ∈ rest := by
    have : a0 ∈ top :: rest := by rw [hst]; simp
    simpa using this
  rcases hn with h1 | ⟨c, h1⟩ | ⟨a, r, hrest, h1⟩ | hfin
  · exact ⟨hw', upper, top, rest, h1, hst⟩
  · exact ⟨hw', c :: upper, c, top :: rest, h1, by rw [hst]; rfl⟩
  · cases upper with
    | nil =>
      exfalso
      simp only [List.nil_append, List.cons.injEq] at hst
      obtain ⟨rfl, hr0⟩ := hst
      have h1a := h1.topA
      have htop := hr.topA
      -- the caller's depth is one less than the callee's
      obtain ⟨r', tail, e1, _, _, e4, _, _⟩ := (by rw [hrest] at hr; exact hr.chain : Chain b s (a :: r) top.D top.S s.addr)
      have : s.addr.length = a.A + 1 := by rw [e1, e4]; simp
      omega
    | cons u us =>
      simp only [List.cons_append, List.cons.injEq] at hst
      exact ⟨hw', us, a, r, h1, by rw [← hrest]; exact hst.2⟩
  · exfalso
    have hfa := hfin.addr
    rw [hfa] at ha
    obtain ⟨hl1, hl2⟩ := hlt.2 hfin.notMain
    rcases hmem with rfl | hm
    · have := hr.topA
      omega
    · have h2 := hl1 a0 hm
      omega

theorem holds_step {b : Base} {a0 : Act} {rest0 : List Act} {s s' : St} (h : Holds b a0 rest0 s) (hv : VmStep s s')
    (ha : a0.A ≤ s'.addr.length) : Holds b a0 rest0 s' := (holds_step_ext h hv ha).1

theorem holds_reach {b : Base} {a0 : Act} {rest0 : List Act} {s s' : St} (hr : ReachAbove a0.A s s') (h : Holds b a0 rest0 s) :
    Holds b a0 rest0 s' := by
  induction hr with
  | refl _ => exact h
  | step _ hv hrest ih =>
    exact ih (holds_step h hv (by
      cases hrest with
      | refl h' => exact h'
      | step h' _ _ => exact h'))

theorem holds_top {b : Base} {a0 : Act} {rest0 : List Act} {s : St} (h : Holds b a0 rest0 s) (ha : s.addr.length = a0.A) :
    WF s ∧ Running b s a0 rest0 := by
  obtain ⟨hw, upper, top, rest, hr, hst⟩ := h
  cases upper with
  | nil =>
    simp only [List.nil_append, List.cons.injEq] at hst
    obtain ⟨rfl, rfl⟩ := hst
    exact ⟨hw, hr⟩
  | cons u us =>
    exfalso
    simp only [List.cons_append, List.cons.injEq] at hst
    have hm : a0 ∈ rest := by rw [hst.2]; simp
    have := (Chain.A_lt _ _ _ _ hr.chain).1 a0 hm
    have := hr.topA
    omega

/-- at instruction 0 of an activation: exactly the formals' worth of operands on the data the
activation was entered with, the scope depth it was entered with -/
theorem Running.at_pc0 {b : Base} {s : St} {top : Act} {rest : List Act} (h : Running b s top rest) (hpc : s.pc = 0)
    (hA : top.A ≠ 0) :
    s.data.map cellOf = List.replicate (fnB s top.f).entryCount .val ++ top.D ∧ s.linear.length = top.S := by
  obtain ⟨a, own, hann, hd, hconc, hsc, _⟩ := h.inv
  obtain ⟨t, ht, hle⟩ := h.ok.entry hA
  have h0 : (absC s).pc = 0 := by show s.pc.toNat = 0; rw [hpc]; rfl
  rw [h0, ht] at hann
  cases hann
  obtain ⟨hk, hb, hf⟩ := le_elim _ _ hle
  have hfr : a.frames = [] := by
    have := framesLe_length _ _ hf
    simp only [Fn.entry, List.length_nil] at this
    exact List.length_eq_zero_iff.mp this.symm
  rw [hfr] at hconc
  cases hconc
  refine ⟨?_, ?_⟩
  · rw [show s.data.map cellOf = (absC s).data from rfl, hd, ← hb]; rfl
  · rw [show s.linear.length = (absC s).sc from rfl, hsc, ← hk]; rfl

/-- **Every re-entry of an activation at instruction 0 has the depths of its first entry.**
`E` is the entry of the top activation of a `Running` loop; the run goes on — through nested
calls, callees, tail jumps, any number of iterations — without the address stack ever getting
shorter than at `E` (the activation has not returned); whenever it is back at that address depth
and at instruction 0, it is in the same function with data and scope stacks of the depths of `E`. -/
theorem reentry_depths (b : Base) (E E' : St) (top : Act) (rest : List Act) (hw : WF E) (hr : Running b E top rest)
    (hpc : E.pc = 0) (hA0 : E.addr ≠ []) (hreach : ReachAbove E.addr.length E E') (ha : E'.addr.length = E.addr.length) (hpc' : E'.pc = 0) :
    WF E' ∧ Running b E' top rest ∧ E'.curfunc = E.curfunc ∧ E'.data.length = E.data.length ∧
      E'.linear.length = E.linear.length := by
  have hA := hr.topA
  have hh : Holds b top rest E := ⟨hw, [], top, rest, hr, rfl⟩
  obtain ⟨hw', hr'⟩ := holds_top (holds_reach (by rw [hA]; exact hreach) hh) (by rw [ha, hA])
  have hA0' : top.A ≠ 0 := by rw [hA]; exact fun h => hA0 (List.length_eq_zero_iff.mp h)
  obtain ⟨d1, l1⟩ := hr.at_pc0 hpc hA0'
  obtain ⟨d2, l2⟩ := hr'.at_pc0 hpc' hA0'
  have hfb : (fnB E' top.f).entryCount = (fnB E top.f).entryCount := by
    -- both describe `replicate entryCount val ++ top.D` against the same entry annotation
    obtain ⟨t1, ht1, hle1⟩ := hr.ok.entry hA0'
    obtain ⟨t2, ht2, hle2⟩ := hr'.ok.entry hA0'
    rw [ht1] at ht2
    cases ht2
    have b1 := (le_elim _ _ hle1).2.1
    have b2 := (le_elim _ _ hle2).2.1
    simp only [Fn.entry] at b1 b2
    omega
  refine ⟨hw', hr', hr'.cur.trans hr.cur.symm, ?_, by rw [l2, l1]⟩
  have := congrArg List.length d1
  have := congrArg List.length d2
  simp only [List.length_map, List.length_append, List.length_replicate] at *
  omega

open ZygoVerif.TailVM

/-- a stretch of instructions that leave the address stack alone stays in the activation it starts in -/
theorem _root_.ZygoVerif.TailVM.Steps.reachAbove {k : Nat} {s s' : St} (h : Steps k s s') : ReachAbove s.addr.length s s' := by
  induction h with
  | refl _ => exact .refl (Nat.le_refl _)
  | step hat hx ha _ ih => exact .step (Nat.le_refl _) ⟨0, _, hat.fetch.1, hat.fetch.2, hx 0⟩ (ha ▸ ih)

/-- the `k+3` steps of the tail sequence never go below the address depth they start at -/
theorem tailSeq_reachAbove (s : St) (p : Nat) (x : String) (nargs k : Nat)
    (rest : List Instr) (ext L : List (Option Nat)) (data' : List (Option Val))
    (hat : At s p (tailSeq x nargs k ++ rest))
    (hprep : ∀ n, (exec (n + 1) (.prepareCall x nargs)).run s = (.ok (), { s with pc := s.pc + 1, data := data' }))
    (hlin : s.linear = ext ++ L) (he : ext.length = k + 1) :
    ReachAbove s.addr.length s { s with pc := 0, linear := L, data := data' } :=
  (steps_tailSeq s p x nargs k rest ext L data' hat hprep hlin he).reachAbove

end ZygoVerif.RunInv
