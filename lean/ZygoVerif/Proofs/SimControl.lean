/-
C02, execution half — machine level: where the machine stands inside the code of a compiled function.

A segment `Seg` says it for a piece of code between `pre` and `post`; a cursor `Cur` says it for proofs that walk
through code. The simulation of every fragment is stated and proved over these two (SimGlue, SimLoop, SimStep).

`Pushes code v`: embedded at any offset of any compiled function (`pre ++ code ++ post`),
started with `pc` on its first instruction, `code` runs to its own end (`pc` on the first
instruction of `post`) within `code.length` instructions, leaves exactly one more value `v`
on the data stack and changes nothing else. It is the form of the statement for the effect-free fragment
(`segment_F0c`); SimGlue composes it along the shapes laid out by `asmBegin`, `asmCond` and `asmSC` (Model/Gen.lean).
-/
import ZygoVerif.Proofs.SimMachine
namespace ZygoVerif.Sim
open ZygoVerif.Core ZygoVerif.VM

/-- The VM stands on the first instruction of `code`, which is embedded in the current
(compiled) function between `pre` and `post`. -/
structure Seg (s : St) (pre code post : List Instr) : Prop where
  user : (fnOf s s.curfunc).user = false
  code : (fnOf s s.curfunc).code = pre ++ code ++ post
  pc : s.pc = (pre.length : Int)

theorem Seg.head {s pre i c post} (h : Seg s pre (i :: c) post) : At s pre i (c ++ post) :=
  ⟨h.user, by rw [h.code]; simp, h.pc⟩

theorem Seg.refocus {s pre c post} (h : Seg s pre c post) {c' post'}
    (hc : c ++ post = c' ++ post') : Seg s pre c' post' :=
  ⟨h.user, by rw [h.code, List.append_assoc, hc, List.append_assoc], h.pc⟩

theorem Seg.total {s pre c post} (h : Seg s pre c post) :
    curSize s = ((pre.length + c.length + post.length : Nat) : Int) := by
  unfold VM.curSize
  simp only [h.user, h.code, Bool.false_eq_true, if_false, List.length_append]

/-- **A cursor.** The machine runs the compiled function `full` and stands at position `k`; `tl` is the code from
there on. A proof walks through code by moving the cursor (`next`, `skip`, `after`, `goto`): positions are computed from the
previous one and the code behind the cursor is never written down. `Cur.at`/`Cur.seg` give the `At`/`Seg` the
instruction and segment lemmas ask for. -/
structure Cur (σ : St) (full : List Instr) (k : Nat) (tl : List Instr) : Prop where
  user : (fnOf σ σ.curfunc).user = false
  code : (fnOf σ σ.curfunc).code = full
  pc : σ.pc = (k : Int)
  le : k ≤ full.length
  tl : full.drop k = tl

theorem Seg.cur {σ : St} {pre c post : List Instr} (h : Seg σ pre c post) :
    Cur σ (pre ++ c ++ post) pre.length (c ++ post) :=
  ⟨h.user, h.code, h.pc, by simp, by rw [List.append_assoc, List.drop_left]⟩

namespace Cur
variable {σ σ' : St} {full tl Q c : List Instr} {k : Nat} {i : Instr}

theorem split (h : Cur σ full k tl) : full = full.take k ++ tl := by rw [← h.tl, List.take_append_drop]

theorem length (h : Cur σ full k tl) : k + tl.length = full.length := by
  rw [← h.tl, List.length_drop]; have := h.le; omega

theorem take_length (h : Cur σ full k tl) : (full.take k).length = k := by
  rw [List.length_take, Nat.min_eq_left h.le]

theorem «at» (h : Cur σ full k (i :: Q)) : At σ (full.take k) i Q :=
  ⟨h.user, by rw [h.code]; exact h.split, by rw [h.pc, h.take_length]⟩

/-- what the bounds of a jump from `h.at` are measured against -/
theorem size (h : Cur σ full k (i :: Q)) : (full.take k).length + 1 + Q.length = full.length := by
  rw [h.take_length, ← h.length, List.length_cons]; omega

theorem seg (h : Cur σ full k (c ++ Q)) : Seg σ (full.take k) c Q :=
  ⟨h.user, by rw [h.code, List.append_assoc]; exact h.split, by rw [h.pc, h.take_length]⟩

theorem tl_add (h : Cur σ full k tl) (n : Nat) : full.drop (k + n) = tl.drop n := by
  rw [← h.tl, List.drop_drop]

/-- a state of the same function, wherever its `pc` points: the target of a jump, given the code from there on -/
theorem goto (h : Cur σ full k tl) {k' : Nat} {tl' : List Instr} (hf : fnOf σ' σ'.curfunc = fnOf σ σ.curfunc)
    (hp : σ'.pc = (k' : Int)) (hk : k' ≤ full.length) (ht : full.drop k' = tl') : Cur σ' full k' tl' :=
  ⟨by rw [hf]; exact h.user, by rw [hf]; exact h.code, hp, hk, ht⟩

theorem skip (h : Cur σ full k (c ++ Q)) (hf : fnOf σ' σ'.curfunc = fnOf σ σ.curfunc)
    (hp : σ'.pc = σ.pc + (c.length : Int)) : Cur σ' full (k + c.length) Q :=
  h.goto hf (by rw [hp, h.pc]; push_cast; rfl) (by have := h.length; rw [List.length_append] at this; omega)
    (by rw [h.tl_add, List.drop_left])

theorem next (h : Cur σ full k (i :: Q)) (hf : fnOf σ' σ'.curfunc = fnOf σ σ.curfunc) (hp : σ'.pc = σ.pc + 1) :
    Cur σ' full (k + 1) Q :=
  h.skip (c := [i]) hf hp

end Cur

def Pushes (code : List Instr) (v : Val) : Prop :=
  ∀ s pre post, Seg s pre code post →
    Reach code.length 1 s (s.jmp (s.pc + code.length) (some v :: s.data))

theorem pushes_push (v : Val) : Pushes [.push v] v := by
  intro s pre post h
  exact (reach_push h.head).cast (St.jmp_congr _ (by simp) rfl)

end ZygoVerif.Sim
