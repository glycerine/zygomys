/-
What the balance checker says about a self tail-call site (`tail_site_depths`): C09's `BodyBalanced`, on the
stack-effect machine, derived from the annotation alone (no hypothesis about the generator).
-/
import ZygoVerif.Proofs.Balanced
namespace ZygoVerif.Bal

theorem framesLe_length : ∀ (a b : List Frame), framesLe a b = true → a.length = b.length
  | [], [], _ => rfl
  | [], _ :: _, h => by simp [framesLe] at h
  | _ :: _, [], h => by simp [framesLe] at h
  | x :: a, y :: b, h => by
    simp only [framesLe, Bool.and_eq_true] at h
    simp [framesLe_length a b h.2]

/-- `popPush` touches only the operand count of the innermost region -/
theorem popPush_shape {a a' : AState} {p m : Nat} (h : popPush a p m = some a') :
    a'.k = a.k ∧ a'.frames.length = a.frames.length := by
  unfold popPush at h
  split at h <;> split at h <;> cases h
  · exact ⟨rfl, rfl⟩
  · rename_i hfr _; exact ⟨rfl, by rw [hfr]; rfl⟩

def CodeAtB (code : List BInstr) (p : Nat) (seq : List BInstr) : Prop :=
  ∀ i, i < seq.length → code[p + i]? = seq[i]?

theorem removeScopes_ann (F : Fn) (ann : Ann) (hV : Verified F ann) :
    ∀ (m q : Nat) (t : AState), annAt ann q = some t → (∀ i, i < m → F.code[q + i]? = some .removeScope) →
      ∃ t', annAt ann (q + m) = some t' ∧ t'.k + m = t.k ∧ t'.base = t.base ∧ t'.frames.length = t.frames.length
  | 0, q, t, ht, _ => ⟨t, ht, rfl, rfl, rfl⟩
  | m + 1, q, t, ht, hc => by
    obtain ⟨_, succs, hs, hall⟩ := hV.step q t .removeScope ht (by simpa using hc 0 (by omega))
    simp only [astep, eff] at hs
    split at hs
    · rename_i hk
      cases hs
      obtain ⟨t1, ht1, hle⟩ := hall (q + 1, { t with k := t.k - 1 }) (by simp)
      obtain ⟨h1, h2, h3⟩ := le_elim _ _ hle
      obtain ⟨t', ht', hk', hb', hf'⟩ := removeScopes_ann F ann hV m (q + 1) t1 ht1
        (fun i hi => by have := hc (i + 1) (by omega); rwa [show q + (i + 1) = q + 1 + i by omega] at this)
      refine ⟨t', by rwa [show q + (m + 1) = q + 1 + m by omega], ?_, ?_, ?_⟩
      · simp only at h1; omega
      · simp only at h2; rw [hb', ← h2]
      · rw [hf', ← framesLe_length _ _ h3]
    · cases hs

/-- The tail site: `f` verified, an execution from its entry (arguments on top of the
caller's data `D`, `S` scopes, `A` return addresses) to a state `c` that stands at a tail
sequence. Then `c` has `k+1` scopes above the caller's `S`, the address depth of the entry, the
caller's data underneath; and the state behind `prepareCall` holds exactly the function's
`entryCount` operands on top of `D` — what the re-entry at instruction 0 binds. -/
theorem tail_site_depths (F : Fn) (ann : Ann) (hv : verify F ann = true)
    (D : List Cell) (S A : Nat) (c0 c : CState)
    (hpc : c0.pc = 0) (hdata : c0.data = List.replicate F.entryCount .val ++ D)
    (hsc : c0.sc = S) (haddr : c0.addr = A) (hreach : Reach F c0 c) (n k : Nat)
    (hcode : CodeAtB F.code c.pc ([.prepareCall n] ++ List.replicate (k + 1) .removeScope ++ [.goto 0])) :
    c.sc = S + (k + 1) ∧ c.addr = A ∧ (∃ own, c.data = own ++ D) ∧
    ∀ c', CStep F c c' →
      c'.pc = c.pc + 1 ∧ c'.data = List.replicate F.entryCount .val ++ D ∧ c'.sc = S + (k + 1) ∧ c'.addr = A := by
  have hV := verified_of_verify F ann hv
  have h0 := inv_entry F ann hV D S A c0 hpc hdata hsc haddr
  have hinv := inv_reach F ann hV D S A c0 c hreach h0
  obtain ⟨a, own, hann, hd, hconc, hs, ha⟩ := hinv
  have hc0 : F.code[c.pc]? = some (.prepareCall n) := by simpa using hcode 0 (by simp)
  have hcr : ∀ i, i < k + 1 → F.code[c.pc + 1 + i]? = some .removeScope := by
    intro i hi
    have := hcode (i + 1) (by simp; omega)
    rw [show c.pc + (i + 1) = c.pc + 1 + i by omega] at this
    rw [this]
    simp only [List.cons_append, List.nil_append, List.getElem?_cons_succ]
    rw [List.getElem?_append_left (by simp; omega), List.getElem?_replicate]
    simp [hi]
  have hcg : F.code[c.pc + 1 + (k + 1)]? = some (.goto 0) := by
    have := hcode (k + 1 + 1) (by simp)
    rw [show c.pc + (k + 1 + 1) = c.pc + 1 + (k + 1) by omega] at this
    rw [this]
    simp only [List.cons_append, List.nil_append, List.getElem?_cons_succ]
    rw [List.getElem?_append_right (by simp)]
    simp
  obtain ⟨hwf, succs, hsu, hall⟩ := hV.step c.pc a (.prepareCall n) hann hc0
  have h1 : ∃ a1, succs = [(c.pc + 1, a1)] ∧ a1.k = a.k ∧ a1.frames.length = a.frames.length := by
    simp only [astep, eff] at hsu
    split at hsu
    · split at hsu
      · split at hsu
        · rename_i a' hp
          cases hsu
          exact ⟨a', rfl, popPush_shape hp⟩
        · cases hsu
      · cases hsu
    · cases hsu
      exact ⟨a, rfl, rfl, rfl⟩
  obtain ⟨a1, rfl, hk1, hf1⟩ := h1
  obtain ⟨t1, ht1, hle1⟩ := hall _ (.head _)
  obtain ⟨e1, e2, e3⟩ := le_elim _ _ hle1
  obtain ⟨t', ht', hk', hb', hf'⟩ := removeScopes_ann F ann hV (k + 1) (c.pc + 1) t1 ht1 hcr
  obtain ⟨_, succs', hsu', hall'⟩ := hV.step _ t' (.goto 0) ht' hcg
  have habs : absTarget 0 F.code.length = some 0 := by simp [absTarget]
  simp only [astep, eff, habs] at hsu'
  cases hsu'
  obtain ⟨e0, he0, hle0⟩ := hall' (0, t') (by simp)
  obtain ⟨g1, g2, g3⟩ := le_elim _ _ hle0
  simp only at g1 g2 g3
  obtain ⟨e0', he0', hlee⟩ := hV.entry
  simp only at he0
  rw [he0] at he0'
  cases he0'
  obtain ⟨f1, f2, f3⟩ := le_elim _ _ hlee
  have hfl := framesLe_length _ _ f3
  have hgl := framesLe_length _ _ g3
  simp only [Fn.entry, List.length_nil] at f1 f2 hfl
  have ht1k : t1.k = k + 1 := by omega
  have ht1b : t1.base = F.entryCount := by rw [← hb', g2, ← f2]
  have ht1f : t1.frames = [] := List.length_eq_zero_iff.mp (by omega)
  refine ⟨by rw [hs, ← hk1, e1, ht1k], ha, ⟨own, hd⟩, ?_⟩
  intro c' hstep
  -- the one successor of `prepareCall` describes `c'`, and so does its annotation `t1`
  obtain ⟨a', hmem, hd'⟩ := astep_sound hc0 hwf hsu ⟨⟨own, hd, hconc⟩, hs, ha⟩ hstep
  obtain ⟨hpc', rfl⟩ := Prod.mk.inj (List.mem_singleton.mp hmem)
  obtain ⟨hown', hs', ha'⟩ := hd'.mono hle1
  rw [ht1f, ht1b] at hown'
  exact ⟨hpc', hown'.nil_inv, by rw [hs', ht1k], ha'⟩

end ZygoVerif.Bal
