/-
C02, execution half — the call machinery of the VM model as state transformers: `builtin` and `CallUserFunction` on
a first-order builtin, `callExpr` on a symbol and `CallResolved` by the kind of value found, `restoreControlState`
after a balanced nested run, `NewClosing` without function scopes.

Three statements stand here that the simulation does not go through: `run_callFunction0` (the helper of an operand
is entered by `VM.run_nested_thunk`, Proofs/VMBody.lean), and `exec_popUntilMark`/`exec_clearMark` (`PopUntilStackmark` over at most
one value above the mark, `ClearStackmark` with the mark on top: the loops use the forms over `GoodAbove`,
`exec_popUntilMark_good`/`exec_clearMark_good`, Proofs/SimLoop.lean).
-/
import ZygoVerif.Proofs.SimCallEnv
import ZygoVerif.Proofs.VMBody
import ZygoVerif.Proofs.ContainSize
namespace ZygoVerif.Sim
open ZygoVerif.Core ZygoVerif.VM

/-- what a first-order builtin does to the VM state and what it returns -/
def foResult (name : String) (args : List Val) (s : St) : Except Fault Val × St :=
  if name = "trace" then
    (.ok (args.headD .nil), { s with trace := s.trace ++ [pr s.heap (args.headD .nil)] })
  else match prim name args s.heap with
    | some (v, h) => (.ok v, { s with heap := h })
    | none => (.error .err, s)

theorem run_builtin_fo (f : Nat) (name : String) (hn : name ∈ foBuiltins) (args : List Val) (s : St) :
    (builtin (f + 1) name args).run s = foResult name args s := by
  obtain ⟨h1, h2, h3⟩ := foBuiltins_not_ho name hn
  have h4 := foBuiltins_not_substitute name hn
  have h5 := foBuiltins_not_probe name hn
  rw [builtin.eq_def]
  unfold foResult
  by_cases ht : name = "trace"
  · simp only [ht, if_true, run_bind, run_modify, run_pure]
  · simp only [ht, h1, h2, h3, h4, h5, if_false, run_bind, run_get]
    cases prim name args s.heap with
    | none => simp only [run_err]
    | some r => obtain ⟨v, h⟩ := r; simp only [run_bind, run_set, run_pure]

theorem ref_applyFn_fo (n : Nat) (name : String) (hn : name ∈ foBuiltins) (args : List Val) (rs : Ref.St) :
    Ref.applyFn (n + 1) (.builtin name) args rs =
      if name = "trace" then
        .ok (args.headD .nil) { rs with trace := rs.trace ++ [pr rs.heap (args.headD .nil)] }
      else match prim name args rs.heap with
        | some (v, h) => .ok v { rs with heap := h }
        | none => .err rs := by
  obtain ⟨h1, h2, h3⟩ := foBuiltins_not_ho name hn
  have h4 := foBuiltins_not_substitute name hn
  have h5 := foBuiltins_not_probe name hn
  rw [Ref.applyFn.eq_def]
  by_cases ht : name = "trace"
  · simp only [ht, if_true]
  · simp only [ht, h1, h2, h3, h4, h5, if_false]
    cases prim name args rs.heap with
    | none => rfl
    | some r => rfl

theorem foResult_err {name args s e s3} (h : foResult name args s = (.error e, s3)) : e = .err := by
  unfold foResult at h
  split at h
  · cases h
  · split at h
    · cases h
    · injection h with h1 _; injection h1 with h1; exact h1.symm

/-- a first-order builtin touches heap and trace only -/
theorem foResult_frame {name args s r s3} (h : foResult name args s = (r, s3)) : s3.addr = s.addr ∧ s3.data = s.data := by
  unfold foResult at h
  split at h
  · cases h; exact ⟨rfl, rfl⟩
  · split at h <;> cases h <;> exact ⟨rfl, rfl⟩

theorem foResult_addr {name args s r s3} (h : foResult name args s = (r, s3)) : s3.addr = s.addr :=
  (foResult_frame h).1
theorem foResult_data {name args s r s3} (h : foResult name args s = (r, s3)) : s3.data = s.data :=
  (foResult_frame h).2

theorem run_popN (args : List Val) (D : List (Option Val)) (s : St) (hd : s.data = args.reverse.map some ++ D) :
    (popN args.length).run s = (.ok args, { s with data := D }) := by
  obtain ⟨hm, hdrop⟩ := take_vals args D
  rw [VM.run_popN, hd, if_neg (by simp), hm, hdrop]
  dsimp only
  rw [List.reverse_reverse]

/-- `CallUserFunction` on a first-order builtin, arguments on the data stack (last on top) -/
theorem run_callUser_fo (f : Nat) (name : String) (hn : name ∈ foBuiltins) (args : List Val)
    (D : List (Option Val)) (s : St) (hd : s.data = args.reverse.map some ++ D) :
    (callUser (f + 2) name args.length).run s =
      match foResult name args (inBuiltin s D) with
      | (.ok v, s3) => (.ok (), { s3 with data := some v :: D, addr := s.addr, curfunc := s.curfunc, pc := s.pc + 1 })
      | (.error _, s3) =>
        (.error .err, ((restore (Contain.captureOf { s with data := D })).run s3).2) := by
  have hdrop : s.data.drop args.length = D := by rw [hd]; exact (take_vals args D).2
  rw [run_callUser_vals (f + 1) name args D s hd, run_builtin_fo f name hn]
  rcases hres : foResult name args (inBuiltin s D) with ⟨e | v, s3⟩
  · cases foResult_err hres
    simp only [userTail, hdrop, Contain.run_restore]
  · rw [userTail_ok s _ v s3 (foResult_addr hres), foResult_data hres]; rfl

/-- `CallFunction(f, 0)` of a function object with no parameters -/
theorem run_callFunction0 (f : Nat) (s : St) (hv : (fnOf s f).varargs = false) (hn : (fnOf s f).nargs = 0) :
    (callFunction f 0).run s =
      (.ok (), { s with addr := some (s.curfunc, s.pc + 1) :: s.addr, curfunc := f, pc := 0 }) := by
  rw [run_callFunction]
  simp [callRes, hv, hn, St.enter]

theorem exec_callExpr_sym (F : Nat) (h : String) (args : List Expr) (s : St) (i : Nat) (fv : Val)
    (hl : lexLookup s h = some (i, fv)) :
    (exec (F + 3) (.callExpr (.sym h) args)).run s = (callResolved (F + 2) fv args).run s := by
  rw [exec]
  have he : (evalCallExpr (F + 2) (.sym h)).run s = (.ok fv, s) := by
    rw [evalCallExpr]
    simp only [run_bind, run_get, hl, run_pure]
  simp only [run_bind, he]

theorem exec_callExpr_sym_none (F : Nat) (h : String) (args : List Expr) (s : St) (hl : lexLookup s h = none) :
    (exec (F + 2) (.callExpr (.sym h) args)).run s = (.error .err, s) := by
  rw [exec]
  have he : (evalCallExpr (F + 1) (.sym h)).run s = (.error .err, s) := by
    rw [evalCallExpr]
    simp only [run_bind, run_get, hl, run_err]
  simp only [run_bind, he]

theorem run_callResolved_fn (F vid : Nat) (args : List Expr) (s : St) :
    (callResolved (F + 1) (.fn vid) args).run s =
      guardTail s.data.length
        ((prepareArgs F (some (fnOf s vid)) 0 args >>= fun _ => callFunction vid args.length : M Unit).run s) :=
  run_callResolved F (.fn vid) args s

theorem run_callResolved_builtin (F : Nat) (name : String) (args : List Expr) (s : St) :
    (callResolved (F + 1) (.builtin name) args).run s =
      guardTail s.data.length
        ((prepareArgs F none 0 args >>= fun _ => callUser F name args.length : M Unit).run s) :=
  run_callResolved F (.builtin name) args s

theorem run_callResolved_arr (F r : Nat) (args : List Expr) (s : St) :
    (callResolved (F + 1) (.arr r) args).run s =
      guardTail s.data.length ((prepareArgs F none 0 args >>= fun _ => (err : M Unit) : M Unit).run s) :=
  run_callResolved F (.arr r) args s

theorem run_callResolved_other (F : Nat) (fv : Val) (args : List Expr) (s : St) (h1 : ∀ id, fv ≠ .fn id)
    (h2 : ∀ n, fv ≠ .builtin n) (h3 : ∀ r, fv ≠ .arr r) :
    (callResolved (F + 1) fv args).run s =
      if args.isEmpty then (.ok (), s.jmp (s.pc + 1) (some fv :: s.data)) else (.error .err, s) := by
  rw [callResolved]
  cases fv with
  | fn id => exact absurd rfl (h1 id)
  | builtin n => exact absurd rfl (h2 n)
  | arr r => exact absurd rfl (h3 r)
  | _ =>
    simp only [run_bind, run_get]
    split
    · simp only [run_bind, run_pushData, run_incPc]; rfl
    · simp only [run_err]


theorem truncate_self {α} (l : List (Option α)) : truncate l l.length = l :=
  Contain.truncate_of_suffix l l (List.suffix_refl l)

/-- `restoreControlState` when the three stacks have the recorded sizes and nothing was suspended:
only `curfunc` and `pc` are reset -/
theorem run_restore_balanced (c : CtlState) (s : St) (hs : s.suspended.length = c.susp)
    (ha : s.addr.length = c.addrSize) (hl : s.linear.length = c.linearSize) (hd : s.data.length = c.dataSize) :
    (restore c).run s = (.ok (), { s with curfunc := c.curfunc, pc := c.pc }) := by
  rw [Contain.run_restore, Contain.restoreSt_sized c s _ _ (List.suffix_refl _) hs hd ha hl]

/-- with no function scope on the stack, `NewClosing` is the whole stack -/
theorem newClosing_go_nofn (isFn : Nat → Bool) (hno : ∀ i, isFn i = false) :
    ∀ (l acc : List (Option Nat)), newClosing.go isFn l acc = none
  | [], _ => rfl
  | none :: rest, acc => by
    simp only [newClosing.go]
    exact newClosing_go_nofn isFn hno rest _
  | some id :: rest, acc => by
    simp only [newClosing.go, hno id, Bool.false_eq_true, if_false]
    exact newClosing_go_nofn isFn hno rest _

theorem closingNow_nofn (s : St) (hno : ∀ i, (scopeOf s i).isFunction = false) : closingNow s = s.linear := by
  unfold closingNow newClosing
  rw [newClosing_go_nofn (isFnScope s) (fun i => hno i)]
  rfl

/-- popping down to the mark of `l`: the mark is on top -/
theorem run_popToMark_hit (l : Nat) (keep : Bool) (f : Nat) (s : St) (D : List (Option Val))
    (hd : s.data = some (.mark l) :: D) :
    (popToMark l keep (f + 1)).run s = (.ok (), { s with data := if keep then some (.mark l) :: D else D }) := by
  rw [popToMark]
  simp only [run_bind, run_popData, hd, if_true]
  cases keep
  · simp only [Bool.false_eq_true, if_false, run_pure]
  · simp only [if_true, run_pushData]

/-- … a value that is not that mark is on top: it is dropped -/
theorem run_popToMark_skip (l : Nat) (keep : Bool) (f : Nat) (s : St) (v : Val) (rest : List (Option Val))
    (hd : s.data = some v :: rest) (hv : v ≠ .mark l) :
    (popToMark l keep (f + 1)).run s = (popToMark l keep f).run { s with data := rest } := by
  rw [popToMark]
  simp only [run_bind, run_popData, hd]
  cases v with
  | mark l' =>
    have : l' ≠ l := fun e => hv (by rw [e])
    simp only [this, if_false]
  | _ => rfl

/-- `PopUntilStackmark` over at most one value above the mark -/
theorem exec_popUntilMark (f : Nat) (l : Nat) (s : St) (G : List (Option Val)) (D : List (Option Val))
    (hd : s.data = G ++ some (.mark l) :: D) (hG : G = [] ∨ ∃ v, G = [some v] ∧ v ≠ .mark l) :
    (exec (f + 1) (.popUntilMark l)).run s = (.ok (), s.jmp (s.pc + 1) (some (.mark l) :: D)) := by
  have hG' : ∀ x ∈ G, ∃ v, x = some v ∧ v ≠ .mark l := by
    rcases hG with rfl | ⟨v, rfl, hv⟩
    · nofun
    · exact fun x hx => ⟨v, List.mem_singleton.mp hx, hv⟩
  rw [exec_simple_eq f _ s rfl, step, hd, cutMark_of l true D G hG']
  rfl

/-- `ClearStackmark` with the mark on top -/
theorem exec_clearMark (f : Nat) (l : Nat) (s : St) (D : List (Option Val)) (hd : s.data = some (.mark l) :: D) :
    (exec (f + 1) (.clearMark l)).run s = (.ok (), s.jmp (s.pc + 1) D) := by
  rw [exec_simple_eq f _ s rfl, step, hd, cutMark, if_pos rfl]
  rfl

end ZygoVerif.Sim
