/-
A class of expressions on which the generator succeeds. The model's `compile` throws at a `.bad` node and at a
`break`/`continue` whose label is not on the compile-time loop stack; `Cp lp fnOk ls e` says that `e` has neither (`ls`:
labels of enclosing loops, innermost first) — in the operands of every call too, compiled or not, so that the self tail
call needs no case —, that it has no `for` outside function bodies unless `lp`, and no `fn`/`defn` unless `fnOk` (the two
flags serve `Foot`, not success). `compile_ok_Cp`: such an expression compiles, from every context (the converse is not
proved, and `Cp` asks more than success needs), and the run
leaves the function table (`fnOk = false`) resp. the whole state (`lp = fnOk = false`) as it was (`Foot`).
The fragments of C02 are sub-classes of `Cp` (`cp_of_fv`, `cp_of_fc`, `cp_of_fb`, `cp_of_ff`, `cp_of_fx`,
`cp_of_fz`, next to each fragment's generator facts); what they add concerns the values, not the generator.
-/
import ZygoVerif.Proofs.GenFacts
namespace ZygoVerif.Sim
open ZygoVerif.Core ZygoVerif.VM

/-- a `break`/`continue` label operand names one of the enclosing loops (`ls`: their labels, innermost first) -/
def lblOk (ls : List (Option String)) : Option String → Bool
  | none => !ls.isEmpty
  | some x => ls.contains (some x)

mutual
def Cp (lp fnOk : Bool) (ls : List (Option String)) : Expr → Bool
  | .int _ | .bool _ | .str _ | .nilLit | .sym _ => true
  | .arr es => CpList lp fnOk ls es
  | .call _ args => CpList lp fnOk ls args          -- the operands of a self tail call are compiled inline
  | .begin_ es => CpList lp fnOk ls es
  | .def_ _ e => Cp lp fnOk ls e
  | .set_ _ e => Cp lp fnOk ls e
  | .cond arms d => CpArms lp fnOk ls arms && Cp lp fnOk ls d
  | .and_ es => CpList lp fnOk ls es
  | .or_ es => CpList lp fnOk ls es
  | .let_ _ bs body => CpBinds lp fnOk ls bs && CpList lp fnOk ls body
  | .newScope es => CpList lp fnOk ls es
  | .for_ l i t s b => lp && Cp lp fnOk (l :: ls) i && Cp lp fnOk (l :: ls) t && Cp lp fnOk (l :: ls) s && CpList lp fnOk (l :: ls) b
  | .break_ l => lblOk ls l
  | .continue_ l => lblOk ls l
  | .fn _ _ body => fnOk && CpList true true ls body     -- `env.loopstack` is not reset for a function body
  | .defn _ _ _ body => fnOk && CpList true true ls body
  | .assign l r => Cp lp fnOk ls l && Cp lp fnOk ls r
  | .bad _ => false
def CpList (lp fnOk : Bool) (ls : List (Option String)) : List Expr → Bool
  | [] => true
  | e :: es => Cp lp fnOk ls e && CpList lp fnOk ls es
def CpArms (lp fnOk : Bool) (ls : List (Option String)) : List (Expr × Expr) → Bool
  | [] => true
  | (p, b) :: r => Cp lp fnOk ls p && Cp lp fnOk ls b && CpArms lp fnOk ls r
def CpBinds (lp fnOk : Bool) (ls : List (Option String)) : List (String × Expr) → Bool
  | [] => true
  | (_, e) :: r => Cp lp fnOk ls e && CpBinds lp fnOk ls r
end

/-- each label of `ls` is the label of a loop record that exists and is on the compile-time loop stack -/
def LsOk (ls : List (Option String)) (gs : GS) : Prop :=
  ∀ l ∈ ls, ∃ id ∈ gs.loopstack, id < gs.loops.length ∧ (gs.loops.getD id {}).label = l

theorem LsOk.nil (gs : GS) : LsOk [] gs := fun _ h => nomatch h

theorem LsOk.keep {ls : List (Option String)} {gs gs' : GS} (h : LsOk ls gs) (hk : KeepFns gs gs') : LsOk ls gs' := fun l hl => by
  obtain ⟨id, hid, hlt, hlab⟩ := h l hl
  exact ⟨id, hk.loopstack ▸ hid, Nat.lt_of_lt_of_le hlt hk.loopsLen, by rw [hk.loopsGet id hlt]; exact hlab⟩

theorem LsOk.for_ {ls : List (Option String)} {gs : GS} (h : LsOk ls gs) (c : Ctx) (label : Option String) :
    LsOk (label :: ls) (forGs gs c label) := fun l hl => by
  rcases List.mem_cons.mp hl with rfl | hl
  · exact ⟨gs.loops.length, List.mem_cons_self .., by simp [forGs], by simp [forGs]⟩
  · obtain ⟨id, hid, hlt, hlab⟩ := h l hl
    refine ⟨id, List.mem_cons_of_mem _ hid, by simp [forGs]; omega, ?_⟩
    simpa [forGs, List.getD_eq_getElem?_getD, List.getElem?_append_left hlt] using hlab

theorem LsOk.alloc {ls : List (Option String)} {gs : GS} (h : LsOk ls gs) (isFn : Nat → Bool) (name : String) (ps : List String)
    (rest : Option String) : LsOk ls (Bal.allocGs isFn gs name ps rest) := h

theorem LsOk.findLoop {ls : List (Option String)} {gs : GS} (h : LsOk ls gs) {l : Option String} (hl : lblOk ls l = true) :
    ∃ id, findLoop gs l = some id := by
  cases l with
  | none =>
    cases ls with
    | nil => cases hl
    | cons a r =>
      obtain ⟨id, hid, -⟩ := h a (List.mem_cons_self ..)
      cases hs : gs.loopstack with
      | nil => rw [hs] at hid; cases hid
      | cons id' r' => exact ⟨id', by simp [VM.findLoop, hs]⟩
  | some x =>
    obtain ⟨id0, hid0, -, hl0⟩ := h (some x) (List.contains_iff_mem.mp hl)
    cases hf : gs.loopstack.find? (fun id => (gs.loops.getD id {}).label == some x) with
    | none => exact absurd (by simp only [hl0, beq_self_eq_true]) (List.find?_eq_none.mp hf id0 hid0)
    | some id => exact ⟨id, hf⟩

/-- what a run on `Cp lp fnOk` leaves of the state exactly as it was (every run extends it: `KeepFns`) -/
def Foot (lp fnOk : Bool) (gs gs' : GS) : Prop := (fnOk = false → gs'.fns = gs.fns) ∧ (lp = false → fnOk = false → gs' = gs)

theorem Foot.refl (lp fnOk : Bool) (gs : GS) : Foot lp fnOk gs gs := ⟨fun _ => rfl, fun _ _ => rfl⟩

theorem Foot.trans {lp fnOk : Bool} {a b c : GS} (h₁ : Foot lp fnOk a b) (h₂ : Foot lp fnOk b c) : Foot lp fnOk a c :=
  ⟨fun h => (h₂.1 h).trans (h₁.1 h), fun h h' => (h₂.2 h h').trans (h₁.2 h h')⟩

theorem Foot.of_fnOk {lp fnOk : Bool} (h : fnOk = true) (a b : GS) : Foot lp fnOk a b :=
  ⟨fun h' => (by rw [h] at h'; cases h'), fun _ h' => (by rw [h] at h'; cases h')⟩

theorem Foot.for_ {fnOk : Bool} {gs g5 : GS} {c : Ctx} {label : Option String} {x y : Int} (h : Foot true fnOk (forGs gs c label) g5) :
    Foot true fnOk gs (forDone g5 gs.loops.length x y) := ⟨h.1, fun h => nomatch h⟩

section
variable {isFn : Nat → Bool}

theorem keep_run {c : Ctx} {e : Expr} {gs r} (h : (compile isFn c e).run gs = .ok r) : KeepFns gs r.2 := (compile_facts e isFn c gs r h).2.1

mutual
theorem compile_ok_Cp : ∀ (e : Expr) {lp fnOk ls}, Cp lp fnOk ls e = true → ∀ (c : Ctx) {gs}, LsOk ls gs →
    ∃ r, (compile isFn c e).run gs = .ok r ∧ Foot lp fnOk gs r.2
  | .int v, _, _, _, _, c, gs, _ => ⟨_, compile_int_run v, .refl ..⟩
  | .bool v, _, _, _, _, c, gs, _ => ⟨_, compile_bool_run v, .refl ..⟩
  | .str v, _, _, _, _, c, gs, _ => ⟨_, compile_str_run v, .refl ..⟩
  | .nilLit, _, _, _, _, c, gs, _ => ⟨_, compile_nil_run, .refl ..⟩
  | .sym x, _, _, _, _, c, gs, _ => ⟨_, compile_sym_run x, .refl ..⟩
  | .arr es, _, _, _, he, c, gs, hg => by
    unfold Cp at he
    obtain ⟨r, h1, hf⟩ := compileAll_ok_Cp es he { c with tail := false } hg
    exact ⟨_, compile_arr_ok.mpr ⟨_, _, h1, rfl⟩, hf⟩
  | .call f args, lp, fnOk, _, he, c, gs, hg => by
    unfold Cp at he
    cases f with
    | sym h =>
      rw [compile_call_eq]
      split
      · obtain ⟨⟨a, g1⟩, h1, hf⟩ := compileCallArgs_ok_Cp args he { c with tail := false } (knownFn c gs h) 0 hg
        rw [h1]
        exact ⟨_, rfl, hf⟩
      · exact ⟨_, rfl, .refl ..⟩
    | _ => exact ⟨_, compile_call_nonsym isFn c args gs (fun _ hh => by cases hh), .refl ..⟩
  | .begin_ [], _, _, _, _, c, gs, _ => ⟨_, compile_begin_nil_run, .refl ..⟩
  | .begin_ (e :: es), _, _, _, he, c, gs, hg => by
    unfold Cp at he; rw [compile_begin_cons]
    exact compileBegin_ok_Cp (e :: es) he c hg
  | .def_ x e, _, _, _, he, c, gs, hg => by
    unfold Cp at he
    obtain ⟨r, h1, hf⟩ := compile_ok_Cp e he { c with tail := false } hg
    exact ⟨_, compile_def_ok.mpr ⟨_, _, h1, rfl⟩, hf⟩
  | .set_ x e, _, _, _, he, c, gs, hg => by
    unfold Cp at he
    obtain ⟨r, h1, hf⟩ := compile_ok_Cp e he { c with tail := false } hg
    exact ⟨_, compile_set_ok.mpr ⟨_, _, h1, rfl⟩, hf⟩
  | .cond arms d, _, _, _, he, c, gs, hg => by
    unfold Cp at he; simp only [Bool.and_eq_true] at he
    obtain ⟨rd, hd, hf1⟩ := compile_ok_Cp d he.2 c hg
    obtain ⟨ra, ha, hf2⟩ := compileArms_ok_Cp arms he.1 c (hg.keep (keep_run hd))
    exact ⟨_, compile_cond_ok.mpr ⟨_, _, hd, _, _, ha, rfl⟩, hf1.trans hf2⟩
  | .and_ es, _, _, _, he, c, gs, hg => by
    unfold Cp at he
    obtain ⟨r, h1, hf⟩ := compileSC_ok_Cp es he c hg
    exact ⟨_, compile_and_ok.mpr ⟨_, _, h1, rfl⟩, hf⟩
  | .or_ es, _, _, _, he, c, gs, hg => by
    unfold Cp at he
    obtain ⟨r, h1, hf⟩ := compileSC_ok_Cp es he c hg
    exact ⟨_, compile_or_ok.mpr ⟨_, _, h1, rfl⟩, hf⟩
  | .let_ seq bs body, _, _, _, he, c, gs, hg => by
    unfold Cp at he; simp only [Bool.and_eq_true] at he
    obtain ⟨rr, h1, hf1⟩ := compileBinds_ok_Cp bs he.1 { c with scopes := c.scopes + 1, tail := false } seq hg
    obtain ⟨rb, h2, hf2⟩ := compileBegin_ok_Cp body he.2 { c with scopes := c.scopes + 1 }
      (hg.keep (compileBinds_facts _ _ _ _ _ _ h1).1)
    exact ⟨_, compile_let_ok.mpr ⟨_, _, h1, _, _, h2, rfl⟩, hf1.trans hf2⟩
  | .newScope [], _, _, _, _, c, gs, _ => ⟨_, compile_newScope_nil_run, .refl ..⟩
  | .newScope (e :: es), _, _, _, he, c, gs, hg => by
    unfold Cp at he
    obtain ⟨r, h1, hf⟩ := compileNewScope_ok_Cp (e :: es) he { c with scopes := c.scopes + 1 } c.tail hg
    exact ⟨_, compile_newScope_cons_ok.mpr ⟨_, _, h1, rfl⟩, hf⟩
  | .for_ label init test incr body, lp, _, _, he, c, gs, hg => by
    unfold Cp at he; simp only [Bool.and_eq_true] at he
    obtain ⟨⟨⟨⟨rfl, hi⟩, ht⟩, hs⟩, hb⟩ := he
    obtain ⟨rb, h2, hf2⟩ := compileBegin_ok_Cp body hb { c with tail := false, scopes := c.scopes + 1 } (hg.for_ c label)
    have g2 := (hg.for_ c label).keep (compileBegin_facts _ _ _ _ _ h2).2.1
    obtain ⟨ri, h3, hf3⟩ := compile_ok_Cp init hi { c with tail := false, scopes := c.scopes + 1 } g2
    have g3 := g2.keep (keep_run h3)
    obtain ⟨rt, h4, hf4⟩ := compile_ok_Cp test ht { c with tail := false, scopes := c.scopes + 1 } g3
    obtain ⟨rs, h5, hf5⟩ := compile_ok_Cp incr hs { c with tail := false, scopes := c.scopes + 1 } (g3.keep (keep_run h4))
    exact ⟨_, compile_for_ok.mpr ⟨_, _, h2, _, _, h3, _, _, h4, _, _, h5, rfl⟩, (((hf2.trans hf3).trans hf4).trans hf5).for_⟩
  | .break_ l, _, _, _, he, c, gs, hg => by
    unfold Cp at he
    obtain ⟨id, hid⟩ := hg.findLoop he
    exact ⟨_, compile_break_ok.mpr ⟨id, hid, rfl⟩, .refl ..⟩
  | .continue_ l, _, _, _, he, c, gs, hg => by
    unfold Cp at he
    obtain ⟨id, hid⟩ := hg.findLoop he
    exact ⟨_, compile_continue_ok.mpr ⟨id, hid, rfl⟩, .refl ..⟩
  | .fn ps rest body, _, _, _, he, c, gs, hg => by
    unfold Cp at he; simp only [Bool.and_eq_true] at he
    obtain ⟨rb, hb, _⟩ := compileBegin_ok_Cp body he.2 (Bal.bodyCtx c gs "" true) (hg.alloc isFn "" ps rest)
    exact ⟨_, Bal.compile_fn_ok.mpr ⟨_, _, hb, rfl⟩, .of_fnOk he.1 ..⟩
  | .defn name ps rest body, _, _, _, he, c, gs, hg => by
    unfold Cp at he; simp only [Bool.and_eq_true] at he
    obtain ⟨rb, hb, _⟩ := compileBegin_ok_Cp body he.2 (Bal.bodyCtx c gs name (!rebindsOwnName name ps rest body))
      (hg.alloc isFn name ps rest)
    exact ⟨_, Bal.compile_defn_ok.mpr ⟨_, _, hb, rfl⟩,
      .of_fnOk he.1 ..⟩
  | .assign l e, _, _, _, he, c, gs, hg => by
    unfold Cp at he; simp only [Bool.and_eq_true] at he
    obtain ⟨ra, ha, hf1⟩ := compile_ok_Cp l he.1 { c with tail := false } hg
    obtain ⟨rb, hb, hf2⟩ := compile_ok_Cp e he.2 { c with tail := false } (hg.keep (keep_run ha))
    exact ⟨_, compile_assign_ok.mpr ⟨_, _, ha, _, _, hb, rfl⟩, hf1.trans hf2⟩
  | .bad _, _, _, _, he, _, _, _ => by simp [Cp] at he
theorem compileAll_ok_Cp : ∀ (es : List Expr) {lp fnOk ls}, CpList lp fnOk ls es = true → ∀ (c : Ctx) {gs}, LsOk ls gs →
    ∃ r, (compileAll isFn c es).run gs = .ok r ∧ Foot lp fnOk gs r.2
  | [], _, _, _, _, c, gs, _ => ⟨_, compileAll_nil_run, .refl ..⟩
  | e :: es, _, _, _, he, c, gs, hg => by
    unfold CpList at he; simp only [Bool.and_eq_true] at he
    obtain ⟨ra, ha, hf1⟩ := compile_ok_Cp e he.1 c hg
    obtain ⟨rb, hb, hf2⟩ := compileAll_ok_Cp es he.2 { c with tail := ra.1.2 } (hg.keep (keep_run ha))
    exact ⟨_, compileAll_cons_ok.mpr ⟨_, _, ha, _, _, hb, rfl⟩, hf1.trans hf2⟩
theorem compileCallArgs_ok_Cp : ∀ (es : List Expr) {lp fnOk ls}, CpList lp fnOk ls es = true → ∀ (c : Ctx) (f : Option FnObj) (i : Nat) {gs},
    LsOk ls gs → ∃ r, (compileCallArgs isFn c f i es).run gs = .ok r ∧ Foot lp fnOk gs r.2
  | [], _, _, _, _, c, f, i, gs, _ => ⟨_, compileCallArgs_nil_run, .refl ..⟩
  | e :: es, _, _, _, he, c, f, i, gs, hg => by
    unfold CpList at he; simp only [Bool.and_eq_true] at he
    rcases lazyArg_cases f i with ⟨fo, rfl, hl⟩ | hl
    · obtain ⟨⟨rb, g1⟩, hr, hf⟩ := compileCallArgs_ok_Cp es he.2 c (some fo) (i + 1) hg
      exact ⟨(_, g1), (compileCallArgs_cons_lazy hl).mpr ⟨rb, hr, rfl⟩, hf⟩
    · obtain ⟨ra, ha, hf1⟩ := compile_ok_Cp e he.1 c hg
      obtain ⟨⟨rb, g2⟩, hr, hf2⟩ := compileCallArgs_ok_Cp es he.2 c f (i + 1) (hg.keep (keep_run ha))
      exact ⟨(_, g2), (compileCallArgs_cons_run hl).mpr ⟨ra.1, ra.2, rb, ha, hr, rfl⟩, hf1.trans hf2⟩
theorem compileBegin_ok_Cp : ∀ (es : List Expr) {lp fnOk ls}, CpList lp fnOk ls es = true → ∀ (c : Ctx) {gs}, LsOk ls gs →
    ∃ r, (compileBegin isFn c es).run gs = .ok r ∧ Foot lp fnOk gs r.2
  | [], _, _, _, _, c, gs, _ => ⟨_, compileBegin_nil_run, .refl ..⟩
  | [e], _, _, _, he, c, gs, hg => by
    unfold CpList at he; simp only [Bool.and_eq_true] at he
    rw [compileBegin_one]
    exact compile_ok_Cp e he.1 c hg
  | e :: e' :: es, _, _, _, he, c, gs, hg => by
    unfold CpList at he; simp only [Bool.and_eq_true] at he
    obtain ⟨ra, ha, hf1⟩ := compile_ok_Cp e he.1 { c with tail := false } hg
    obtain ⟨rb, hb, hf2⟩ := compileBegin_ok_Cp (e' :: es) he.2 c (hg.keep (keep_run ha))
    exact ⟨_, compileBegin_cons_ok.mpr ⟨_, _, ha, _, _, hb, rfl⟩, hf1.trans hf2⟩
theorem compileArms_ok_Cp : ∀ (arms : List (Expr × Expr)) {lp fnOk ls}, CpArms lp fnOk ls arms = true → ∀ (c : Ctx) {gs}, LsOk ls gs →
    ∃ r, (compileArms isFn c arms).run gs = .ok r ∧ Foot lp fnOk gs r.2
  | [], _, _, _, _, c, gs, _ => ⟨_, compileArms_nil_run, .refl ..⟩
  | (p, b) :: arms, _, _, _, he, c, gs, hg => by
    unfold CpArms at he; simp only [Bool.and_eq_true] at he
    obtain ⟨rr, hr, hf1⟩ := compileArms_ok_Cp arms he.2 c hg
    have g1 := hg.keep (compileArms_facts _ _ _ _ _ hr).1
    obtain ⟨rp, hp, hf2⟩ := compile_ok_Cp p he.1.1 { c with tail := false } g1
    obtain ⟨rb, hb, hf3⟩ := compile_ok_Cp b he.1.2 c (g1.keep (keep_run hp))
    exact ⟨_, compileArms_cons_ok.mpr ⟨_, _, hr, _, _, hp, _, _, hb, rfl⟩, (hf1.trans hf2).trans hf3⟩
theorem compileSC_ok_Cp : ∀ (es : List Expr) {lp fnOk ls}, CpList lp fnOk ls es = true → ∀ (c : Ctx) {gs}, LsOk ls gs →
    ∃ r, (compileSC isFn c es).run gs = .ok r ∧ Foot lp fnOk gs r.2
  | [], _, _, _, _, c, gs, _ => ⟨_, compileSC_nil_run, .refl ..⟩
  | [e], _, _, _, he, c, gs, hg => by
    unfold CpList at he; simp only [Bool.and_eq_true] at he
    obtain ⟨ra, ha, hf⟩ := compile_ok_Cp e he.1 c hg
    exact ⟨_, compileSC_one_ok.mpr ⟨_, _, ha, rfl⟩, hf⟩
  | e :: e' :: es, _, _, _, he, c, gs, hg => by
    unfold CpList at he; simp only [Bool.and_eq_true] at he
    obtain ⟨rr, hr, hf1⟩ := compileSC_ok_Cp (e' :: es) he.2 c hg
    obtain ⟨ra, ha, hf2⟩ := compile_ok_Cp e he.1 { c with tail := false } (hg.keep (compileSC_facts _ _ _ _ _ hr).1)
    exact ⟨_, compileSC_cons_ok.mpr ⟨_, _, hr, _, _, ha, rfl⟩, hf1.trans hf2⟩
theorem compileBinds_ok_Cp : ∀ (bs : List (String × Expr)) {lp fnOk ls}, CpBinds lp fnOk ls bs = true → ∀ (c : Ctx) (seq : Bool) {gs},
    LsOk ls gs → ∃ r, (compileBinds isFn c seq bs).run gs = .ok r ∧ Foot lp fnOk gs r.2
  | [], _, _, _, _, c, seq, gs, _ => ⟨_, compileBinds_nil_run, .refl ..⟩
  | (x, e) :: bs, _, _, _, he, c, seq, gs, hg => by
    unfold CpBinds at he; simp only [Bool.and_eq_true] at he
    obtain ⟨ra, ha, hf1⟩ := compile_ok_Cp e he.1 c hg
    obtain ⟨rb, hb, hf2⟩ := compileBinds_ok_Cp bs he.2 { c with tail := ra.1.2 } seq (hg.keep (keep_run ha))
    exact ⟨_, compileBinds_cons_ok.mpr ⟨_, _, ha, _, _, hb, rfl⟩, hf1.trans hf2⟩
theorem compileNewScope_ok_Cp : ∀ (es : List Expr) {lp fnOk ls}, CpList lp fnOk ls es = true → ∀ (c : Ctx) (ot : Bool) {gs}, LsOk ls gs →
    ∃ r, (compileNewScope isFn c ot es).run gs = .ok r ∧ Foot lp fnOk gs r.2
  | [], _, _, _, _, c, ot, gs, _ => ⟨_, compileNewScope_nil_run, .refl ..⟩
  | [e], _, _, _, he, c, ot, gs, hg => by
    unfold CpList at he; simp only [Bool.and_eq_true] at he
    rw [compileNewScope_one]
    exact compile_ok_Cp e he.1 _ hg
  | e :: e' :: es, _, _, _, he, c, ot, gs, hg => by
    unfold CpList at he; simp only [Bool.and_eq_true] at he
    obtain ⟨ra, ha, hf1⟩ := compile_ok_Cp e he.1 { c with tail := false } hg
    obtain ⟨rb, hb, hf2⟩ := compileNewScope_ok_Cp (e' :: es) he.2 c ot (hg.keep (keep_run ha))
    exact ⟨_, compileNewScope_cons_ok.mpr ⟨_, _, ha, _, _, hb, rfl⟩, hf1.trans hf2⟩
end

end
end ZygoVerif.Sim
