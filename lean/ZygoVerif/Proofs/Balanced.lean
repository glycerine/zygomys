/-
Soundness of the balance checker (Spec/Balanced.lean) with respect
to the stack-effect machine (Model/StackEffect.lean).

`Conc frames base own` is the concretisation: the cells `own` that the function put on the
data stack since its entry are described by the abstract frames. `Own` says the same of the whole
data stack, with the caller's part `D` underneath; the lemmas of its namespace are what the
proofs know of the abstract domain (weaken along `framesLe`, pop and push, open a region, cut to
a stack-mark). `Desc` adds the scope and address depths, and `astep_sound` is the soundness of
the transfer function for one machine step. The invariant `Inv` says that the machine state at
pc is described by the annotation at pc and that the caller's part `D` of the data stack is
still underneath, untouched. `inv_step` shows that every machine step preserves it when the
annotation verifies: `astep_sound`, then `Desc.mono` into the annotation. Core-only.
-/
import ZygoVerif.Spec.Balanced
import ZygoVerif.Model.StackEffect
namespace ZygoVerif.Bal

def delim : FK → Cell
  | .marker => .marker
  | .mark s => .mark s

/-- The cells above a frame's delimiter, given the stack-marks open at or below the frame. -/
def CntOk (opn : List Nat) (c : Cnt) (cs : List Cell) : Prop :=
  match c.shape with
  | .exact => cs = List.replicate c.n .val
  | .vals => ∃ m, c.n ≤ m ∧ cs = List.replicate m .val
  | .junk => ∃ rest, cs = List.replicate c.n .val ++ rest ∧ ∀ x ∈ rest, ∀ s ∈ opn, x ≠ .mark s

inductive Conc : List Frame → Nat → List Cell → Prop
  | base (n : Nat) : Conc [] n (List.replicate n .val)
  | frame (fr : Frame) (rest : List Frame) (n : Nat) (above below : List Cell) :
      CntOk (openMarks (fr :: rest)) fr.cnt above → Conc rest n below →
      Conc (fr :: rest) n (above ++ delim fr.kind :: below)

theorem replicate_app (m k : Nat) (v : Cell) :
    List.replicate m v ++ List.replicate k v = List.replicate (k + m) v := by
  rw [List.replicate_append_replicate, Nat.add_comm]

theorem replicate_split (p n : Nat) (h : p ≤ n) (v : Cell) :
    List.replicate n v = List.replicate p v ++ List.replicate (n - p) v := by
  rw [List.replicate_append_replicate]; congr 1; omega

/-- What a region may hold under its counted values: nothing, more values, or anything but a
stack-mark that is open. -/
def Rest (opn : List Nat) : Shape → List Cell → Prop
  | .exact, r => r = []
  | .vals, r => ∃ k, r = List.replicate k .val
  | .junk, r => ∀ x ∈ r, ∀ s ∈ opn, x ≠ .mark s

theorem cntOk_iff {opn : List Nat} {c : Cnt} {cs : List Cell} :
    CntOk opn c cs ↔ ∃ r, cs = List.replicate c.n .val ++ r ∧ Rest opn c.shape r := by
  obtain ⟨sh, n⟩ := c
  cases sh
  · exact ⟨fun h => ⟨[], h.trans (List.append_nil _).symm, rfl⟩, fun ⟨r, h, hr⟩ => h.trans (hr ▸ List.append_nil _)⟩
  · exact ⟨fun ⟨m, hm, h⟩ => ⟨_, h.trans (replicate_split n m hm .val), m - n, rfl⟩,
      fun ⟨r, h, k, hr⟩ => ⟨k + n, Nat.le_add_left .., h.trans (hr ▸ replicate_app n k .val)⟩⟩
  · exact Iff.rfl

theorem Rest.le {opn : List Nat} {s t : Shape} {r : List Cell} (hle : s.le t = true) (h : Rest opn s r) :
    Rest opn t r := by
  cases t
  · cases s
    · exact h
    · cases hle
    · cases hle
  · cases s
    · exact ⟨0, h⟩
    · exact h
    · cases hle
  · cases s
    · exact fun x hx => nomatch (h ▸ hx : x ∈ [])
    · obtain ⟨k, rfl⟩ := h
      exact fun x hx s _ he => nomatch (List.eq_of_mem_replicate hx).symm.trans he
    · exact h

theorem Rest.vals {opn : List Nat} {s : Shape} {r : List Cell} (hs : ¬ s = .exact) (k : Nat) (h : Rest opn s r) :
    Rest opn s (List.replicate k .val ++ r) := by
  cases s
  · exact absurd rfl hs
  · obtain ⟨j, rfl⟩ := h
    exact ⟨j + k, replicate_app k j .val⟩
  · intro x hx
    rcases List.mem_append.mp hx with hx | hx
    · exact fun s _ he => nomatch (List.eq_of_mem_replicate hx).symm.trans he
    · exact h x hx

theorem split_unique {x : Cell} : ∀ (a a' b b' : List Cell),
    a ++ x :: b = a' ++ x :: b' → x ∉ a → x ∉ a' → a = a' ∧ b = b'
  | [], [], b, b', h, _, _ => by simp at h; exact ⟨rfl, h⟩
  | [], y :: a', b, b', h, _, h2 => by
    simp at h; exact absurd h.1.symm (by intro e; exact h2 (by simp [e]))
  | y :: a, [], b, b', h, h1, _ => by
    simp at h; exact absurd h.1 (by intro e; exact h1 (by simp [e]))
  | y :: a, z :: a', b, b', h, h1, h2 => by
    simp at h
    obtain ⟨hyz, ht⟩ := h
    have := split_unique a a' b b' ht (fun m => h1 (by simp [m])) (fun m => h2 (by simp [m]))
    exact ⟨by rw [hyz, this.1], this.2⟩

theorem openMarks_of_le : ∀ (fs gs : List Frame), framesLe fs gs = true → openMarks fs = openMarks gs
  | [], [], _ => rfl
  | [], _ :: _, h => by simp [framesLe] at h
  | _ :: _, [], h => by simp [framesLe] at h
  | f :: fs, g :: gs, h => by
    simp only [framesLe, Bool.and_eq_true, Frame.le, beq_iff_eq] at h
    obtain ⟨⟨hk, _⟩, ht⟩ := h
    have ih := openMarks_of_le fs gs ht
    obtain ⟨fk, fc⟩ := f
    obtain ⟨gk, gc⟩ := g
    simp only at hk
    subst hk
    cases fk <;> simp [openMarks, ih]

theorem cntOk_mono (opn : List Nat) (a b : Cnt) (cs : List Cell) (h : a.le b = true)
    (hc : CntOk opn a cs) : CntOk opn b cs := by
  obtain ⟨r, rfl, hr⟩ := cntOk_iff.mp hc
  simp only [Cnt.le, Bool.and_eq_true] at h
  obtain ⟨hs, hn⟩ := h
  refine cntOk_iff.mpr ?_
  split at hn
  · rename_i hb
    exact ⟨r, by rw [beq_iff_eq.mp hn], hr.le hs⟩
  · rename_i hb
    exact ⟨List.replicate (a.n - b.n) .val ++ r,
      by rw [← List.append_assoc, ← replicate_split b.n a.n (of_decide_eq_true hn)], (hr.le hs).vals hb _⟩

theorem conc_mono : ∀ (fs gs : List Frame) (n : Nat) (cs : List Cell),
    framesLe fs gs = true → Conc fs n cs → Conc gs n cs
  | [], [], _, _, _, h => h
  | [], _ :: _, _, _, h, _ => by simp [framesLe] at h
  | _ :: _, [], _, _, h, _ => by simp [framesLe] at h
  | f :: fs, g :: gs, n, cs, h, hc => by
    have hom := openMarks_of_le (f :: fs) (g :: gs) h
    simp only [framesLe, Bool.and_eq_true, Frame.le, beq_iff_eq] at h
    obtain ⟨⟨hk, hcl⟩, ht⟩ := h
    cases hc with
    | frame _ _ _ above below hcnt hrest =>
      have := conc_mono fs gs n below ht hrest
      rw [hk]
      refine Conc.frame g gs n above below ?_ this
      rw [← hom]
      exact cntOk_mono _ _ _ _ hcl hcnt

theorem cntOk_popPush (opn : List Nat) (c : Cnt) (above : List Cell) (p m : Nat) (hp : p ≤ c.n)
    (h : CntOk opn c above) :
    ∃ tail, above = List.replicate p .val ++ tail ∧
      CntOk opn { c with n := c.n - p + m } (List.replicate m .val ++ tail) := by
  obtain ⟨r, rfl, hr⟩ := cntOk_iff.mp h
  refine ⟨List.replicate (c.n - p) .val ++ r, ?_, cntOk_iff.mpr ⟨r, ?_, hr⟩⟩
  · rw [← List.append_assoc, ← replicate_split p c.n hp]
  · rw [← List.append_assoc, replicate_app]

/-- `popPush a p m = some a'`: the top `p` cells of the function's own part are ordinary
values; replacing them by `m` values is described by `a'`. -/
theorem popPush_sound (a a' : AState) (p m : Nat) (own : List Cell)
    (h : popPush a p m = some a') (hc : Conc a.frames a.base own) :
    a'.k = a.k ∧ ∃ tail, own = List.replicate p .val ++ tail ∧
      Conc a'.frames a'.base (List.replicate m .val ++ tail) := by
  obtain ⟨k, frames, base⟩ := a
  cases frames with
  | nil =>
    simp only [popPush] at h
    split at h
    · rename_i hp
      cases h
      cases hc
      refine ⟨rfl, List.replicate (base - p) .val, replicate_split p base hp .val, ?_⟩
      simp only
      rw [replicate_app]
      exact Conc.base _
    · cases h
  | cons fr rest =>
    simp only [popPush] at h
    split at h
    · rename_i hp
      cases h
      cases hc with
      | frame _ _ _ above below hcnt hrest =>
        obtain ⟨tail, ht, hok⟩ := cntOk_popPush _ fr.cnt above p m hp hcnt
        refine ⟨rfl, tail ++ delim fr.kind :: below, ?_, ?_⟩
        · rw [ht, List.append_assoc]
        · simp only
          rw [← List.append_assoc]
          have hk : ({ fr with cnt := { fr.cnt with n := fr.cnt.n - p + m } } : Frame).kind = fr.kind := rfl
          have := Conc.frame { fr with cnt := { fr.cnt with n := fr.cnt.n - p + m } } rest base
            (List.replicate m .val ++ tail) below
          rw [hk] at this
          apply this
          · have ho : openMarks ({ fr with cnt := { fr.cnt with n := fr.cnt.n - p + m } } :: rest)
                = openMarks (fr :: rest) := by
              obtain ⟨fk, fc⟩ := fr
              cases fk <;> rfl
            rw [ho]; exact hok
          · exact hrest
    · cases h

theorem cutTo_spec : ∀ (s : Nat) (fs pre rest : List Frame) (fr : Frame),
    cutTo s fs = some (pre, fr, rest) → fs = pre ++ fr :: rest ∧ fr.kind = .mark s
  | _, [], _, _, _, h => by simp [cutTo] at h
  | s, f :: fs, pre, rest, fr, h => by
    simp only [cutTo] at h
    split at h
    · rename_i hk
      cases h
      exact ⟨rfl, hk⟩
    · split at h
      · cases h
      · rename_i pre' f' r' heq
        obtain ⟨h1, h2⟩ := cutTo_spec s fs pre' r' f' heq
        cases h
        exact ⟨by rw [h1]; rfl, h2⟩

theorem openMarks_append (pre rest : List Frame) :
    openMarks (pre ++ rest) = openMarks pre ++ openMarks rest := by
  induction pre with
  | nil => rfl
  | cons f pre ih =>
    obtain ⟨fk, fc⟩ := f
    cases fk <;> simp [openMarks, ih]

theorem openMarks_mark {fr : Frame} {s : Nat} (h : fr.kind = .mark s) (rest : List Frame) :
    openMarks (fr :: rest) = s :: openMarks rest := by
  obtain ⟨fk, fc⟩ := fr
  cases h
  rfl

theorem cntOk_avoid (opn : List Nat) (c : Cnt) (above : List Cell) (h : CntOk opn c above) :
    ∀ x ∈ above, ∀ s ∈ opn, x ≠ .mark s := by
  obtain ⟨r, rfl, hr⟩ := cntOk_iff.mp h
  exact Rest.vals (s := .junk) (fun h => nomatch h) c.n (hr.le (by cases c.shape <;> rfl))

/-- The data stack `data` is the caller's part `D` under cells that `fs` and `n` describe. -/
def Own (fs : List Frame) (n : Nat) (D data : List Cell) : Prop :=
  ∃ own, data = own ++ D ∧ Conc fs n own

namespace Own
variable {fs rest : List Frame} {fr : Frame} {n : Nat} {D data above below : List Cell}

theorem frame (hc : CntOk (openMarks (fr :: rest)) fr.cnt above) (h : Own rest n D below) :
    Own (fr :: rest) n D (above ++ delim fr.kind :: below) := by
  obtain ⟨own, rfl, h⟩ := h
  exact ⟨_, by rw [List.append_assoc]; rfl, Conc.frame fr rest n above own hc h⟩

theorem nil_inv (h : Own [] n D data) : data = List.replicate n .val ++ D := by
  obtain ⟨_, rfl, h⟩ := h
  cases h
  rfl

theorem frame_inv (h : Own (fr :: rest) n D data) :
    ∃ above below, data = above ++ delim fr.kind :: below ∧
      CntOk (openMarks (fr :: rest)) fr.cnt above ∧ Own rest n D below := by
  obtain ⟨_, rfl, h⟩ := h
  cases h with
  | frame _ _ _ above below hc h =>
    exact ⟨above, below ++ D, by rw [List.append_assoc]; rfl, hc, below, rfl, h⟩

theorem mono {gs : List Frame} (hle : framesLe fs gs = true) (h : Own fs n D data) : Own gs n D data :=
  let ⟨own, e, h⟩ := h
  ⟨own, e, conc_mono fs gs n own hle h⟩

theorem «open» (k : FK) (h : Own fs n D data) : Own (⟨k, ⟨.exact, 0⟩⟩ :: fs) n D (delim k :: data) :=
  frame (fr := ⟨k, ⟨.exact, 0⟩⟩) (above := []) rfl h

theorem popPush_ex {a a' : AState} {p m : Nat} (h : Own a.frames a.base D data)
    (hpp : popPush a p m = some a') :
    ∃ rest, data = List.replicate p .val ++ rest ∧
      Own a'.frames a'.base D (List.replicate m .val ++ rest) ∧ a'.k = a.k := by
  obtain ⟨own, rfl, h⟩ := h
  obtain ⟨hk, tail, rfl, h'⟩ := popPush_sound a a' p m own hpp h
  exact ⟨tail ++ D, List.append_assoc .., ⟨_, (List.append_assoc ..).symm, h'⟩, hk⟩

theorem popPush {a a' : AState} {p m : Nat} {popped rest : List Cell} (h : Own a.frames a.base D data)
    (hpp : popPush a p m = some a') (hd : data = popped ++ rest) (hl : popped.length = p) :
    popped = List.replicate p .val ∧
      Own a'.frames a'.base D (List.replicate m .val ++ rest) ∧ a'.k = a.k := by
  obtain ⟨tail, ht, h', hk⟩ := h.popPush_ex hpp
  obtain ⟨rfl, rfl⟩ := List.append_inj (hd.symm.trans ht) (by rw [hl, List.length_replicate])
  exact ⟨rfl, h', hk⟩

theorem marker_inv {c : Cnt} (h : Own (⟨.marker, c⟩ :: rest) n D data) (hnj : ¬ c.shape = .junk) :
    ∃ m below, c.n ≤ m ∧ data = List.replicate m .val ++ .marker :: below ∧ Own rest n D below := by
  obtain ⟨above, below, rfl, hc, hb⟩ := h.frame_inv
  obtain ⟨sh, k⟩ := c
  cases sh
  · exact ⟨k, below, Nat.le_refl _, hc ▸ rfl, hb⟩
  · obtain ⟨m, hm, rfl⟩ := hc
    exact ⟨m, below, hm, rfl, hb⟩
  · exact absurd rfl hnj

/-- The cells above the delimiter of the frame `cutTo` finds contain no stack-mark that is open
at or below that frame; in particular not the mark itself, so the VM's search for the first
`mark s` stops exactly there. -/
theorem cut {s : Nat} {pre : List Frame} (h : Own fs n D data) (hcut : cutTo s fs = some (pre, fr, rest))
    (hnd : (openMarks fs).Nodup) :
    fr.kind = .mark s ∧ ∃ X below, data = X ++ .mark s :: below ∧ Own rest n D below ∧
      ∀ x ∈ X, ∀ t ∈ s :: openMarks rest, x ≠ .mark t := by
  induction fs generalizing pre data with
  | nil => simp [cutTo] at hcut
  | cons f fs ih =>
    obtain ⟨above, below, rfl, hcnt, hb⟩ := h.frame_inv
    simp only [cutTo] at hcut
    split at hcut
    · rename_i hk
      cases hcut
      exact ⟨hk, above, below, by rw [hk]; rfl, hb, openMarks_mark hk _ ▸ cntOk_avoid _ _ _ hcnt⟩
    · rename_i hk
      split at hcut
      · cases hcut
      · rename_i pre' f' r' heq
        cases hcut
        have hnd' : (openMarks fs).Nodup := by
          obtain ⟨fk, fc⟩ := f
          cases fk
          · exact hnd
          · exact (List.nodup_cons.mp hnd).2
        obtain ⟨hkind, X, below', rfl, hcr, hav⟩ := ih hb heq hnd'
        refine ⟨hkind, above ++ delim f.kind :: X, below', by simp, hcr, ?_⟩
        -- marks open at or below the found frame are a suffix of those open below `f`
        have hsub : ∀ t ∈ s :: openMarks rest, t ∈ openMarks fs := by
          intro t ht
          rw [(cutTo_spec s fs pre' rest fr heq).1, openMarks_append, openMarks_mark hkind]
          exact List.mem_append.mpr (Or.inr ht)
        intro x hx t ht
        rcases List.mem_append.mp hx with hx | hx
        · -- cells of f's own region
          have hopen : t ∈ openMarks (f :: fs) := by
            obtain ⟨fk, fc⟩ := f
            cases fk
            · exact hsub t ht
            · exact List.mem_cons_of_mem _ (hsub t ht)
          exact cntOk_avoid _ _ _ hcnt x hx t hopen
        · rcases List.mem_cons.mp hx with hx | hx
          · -- f's delimiter
            rw [hx]
            obtain ⟨fk, fc⟩ := f
            cases fk
            · exact fun he => nomatch he
            · intro he
              cases he
              exact (List.nodup_cons.mp hnd).1 (hsub t ht)
          · exact hav x hx t ht

/-- popping down to the stack-mark `s`: the first `mark s` of the data stack is the delimiter of
the frame `cutTo` finds -/
theorem cut_at {s : Nat} {pre : List Frame} (h : Own fs n D data) (hcut : cutTo s fs = some (pre, fr, rest))
    (hnd : (openMarks fs).Nodup) (hd : data = above ++ .mark s :: below) (hnm : .mark s ∉ above) :
    fr.kind = .mark s ∧ Own rest n D below := by
  obtain ⟨hkind, X, bl, hX, hb, hav⟩ := h.cut hcut hnd
  obtain ⟨-, rfl⟩ := split_unique above X below bl (hd.symm.trans hX) hnm (fun hm => hav _ hm s (.head _) rfl)
  exact ⟨hkind, hb⟩

end Own

/-- the local condition alone: every annotated position maps into annotated positions. This is all
the preservation theorem `inv_step` needs (used for code that runs from a position other than 0:
a top-level text appended to `mainfunc`). -/
structure StepVerified (f : Fn) (ann : Ann) : Prop where
  step : ∀ pc a i, annAt ann pc = some a → f.code[pc]? = some i →
    a.wf = true ∧ ∃ succs, astep f pc i a = .ok succs ∧
      ∀ p ∈ succs, ∃ t, annAt ann p.1 = some t ∧ p.2.le t = true

structure Verified (f : Fn) (ann : Ann) : Prop where
  entry : ∃ t, annAt ann 0 = some t ∧ f.entry.le t = true
  step : ∀ pc a i, annAt ann pc = some a → f.code[pc]? = some i →
    a.wf = true ∧ ∃ succs, astep f pc i a = .ok succs ∧
      ∀ p ∈ succs, ∃ t, annAt ann p.1 = some t ∧ p.2.le t = true
  fin : endOk f ann = true

/-- the annotation admits every successor -/
def Admitted (ann : Ann) (succs : List (Nat × AState)) : Prop :=
  ∀ p ∈ succs, ∃ t, annAt ann p.1 = some t ∧ p.2.le t = true

theorem Admitted.nil {ann : Ann} : Admitted ann [] := fun _ h => nomatch h

theorem Admitted.cons {ann : Ann} {pc : Nat} {s t : AState} {succs : List (Nat × AState)} (ht : annAt ann pc = some t)
    (hle : s.le t = true) (h : Admitted ann succs) : Admitted ann ((pc, s) :: succs) :=
  List.forall_mem_cons.mpr ⟨⟨t, ht, hle⟩, h⟩

theorem succOk_iff {ann : Ann} {p : Nat × AState} : succOk ann p = true ↔ ∃ t, annAt ann p.1 = some t ∧ p.2.le t = true := by
  unfold succOk
  cases annAt ann p.1 with
  | none => exact ⟨fun h => (nomatch h), fun ⟨_, h, _⟩ => (nomatch h)⟩
  | some t => exact ⟨fun h => ⟨t, rfl, h⟩, fun ⟨_, h, hle⟩ => by cases h; exact hle⟩

theorem admitted_iff {ann : Ann} {succs : List (Nat × AState)} : succs.all (succOk ann) = true ↔ Admitted ann succs := by
  simp only [List.all_eq_true, succOk_iff]
  rfl

/-- What the verifier checks at an annotated position that holds an instruction: the state is well formed and the
transfer function yields successors the annotation admits. -/
theorem okAt_iff {f : Fn} {ann : Ann} {pc : Nat} {a : AState} {i : BInstr} (ha : annAt ann pc = some a)
    (hi : f.code[pc]? = some i) :
    okAt f ann pc = true ↔ a.wf = true ∧ ∃ succs, astep f pc i a = .ok succs ∧ Admitted ann succs := by
  unfold okAt
  rw [ha, hi]
  simp only [Bool.and_eq_true]
  refine and_congr_right fun _ => ?_
  cases astep f pc i a with
  | error e => exact ⟨fun h => (nomatch h), fun ⟨_, h, _⟩ => (nomatch h)⟩
  | ok succs => exact ⟨fun h => ⟨succs, rfl, admitted_iff.mp h⟩, fun ⟨_, h, hs⟩ => by cases h; exact admitted_iff.mpr hs⟩

theorem okAt_elim {f : Fn} {ann : Ann} {pc : Nat} {a : AState} {i : BInstr} (hok : okAt f ann pc = true)
    (ha : annAt ann pc = some a) (hi : f.code[pc]? = some i) :
    a.wf = true ∧ ∃ succs, astep f pc i a = .ok succs ∧
      ∀ p ∈ succs, ∃ t, annAt ann p.1 = some t ∧ p.2.le t = true :=
  (okAt_iff ha hi).mp hok

theorem verified_of_verify (f : Fn) (ann : Ann) (h : verify f ann = true) : Verified f ann := by
  simp only [verify, Bool.and_eq_true] at h
  obtain ⟨⟨⟨_, hentry⟩, hall⟩, hfin⟩ := h
  refine ⟨succOk_iff.mp hentry, ?_, hfin⟩
  intro pc a i ha hi
  have hlt : pc < f.code.length := by
    rcases Nat.lt_or_ge pc f.code.length with h | h
    · exact h
    · rw [List.getElem?_eq_none_iff.mpr h] at hi; cases hi
  exact okAt_elim (List.all_eq_true.mp hall pc (List.mem_range.mpr hlt)) ha hi

theorem le_elim (s t : AState) (h : s.le t = true) :
    s.k = t.k ∧ s.base = t.base ∧ framesLe s.frames t.frames = true := by
  simp only [AState.le, Bool.and_eq_true, beq_iff_eq] at h
  exact ⟨h.1.1, h.1.2, h.2⟩

/-- The machine state `c` is described by the annotation at its pc; underneath the cells the
function put on the data stack lies the caller's part `D`, untouched; `S` scopes and `A`
return addresses were there at entry. -/
def Inv (ann : Ann) (D : List Cell) (S A : Nat) (c : CState) : Prop :=
  ∃ a own, annAt ann c.pc = some a ∧ c.data = own ++ D ∧ Conc a.frames a.base own ∧
    c.sc = S + a.k ∧ c.addr = A

/-- The abstract state `a` describes the machine state `c` (its pc aside) on top of the caller's
part `D` of the data stack, `S` scopes and `A` return addresses. -/
def Desc (D : List Cell) (S A : Nat) (a : AState) (c : CState) : Prop :=
  Own a.frames a.base D c.data ∧ c.sc = S + a.k ∧ c.addr = A

theorem inv_iff {ann : Ann} {D : List Cell} {S A : Nat} {c : CState} :
    Inv ann D S A c ↔ ∃ a, annAt ann c.pc = some a ∧ Desc D S A a c :=
  ⟨fun ⟨a, own, h1, h2, h3, h4⟩ => ⟨a, h1, ⟨own, h2, h3⟩, h4⟩,
   fun ⟨a, h1, ⟨own, h2, h3⟩, h4⟩ => ⟨a, own, h1, h2, h3, h4⟩⟩

theorem Desc.mono {D : List Cell} {S A : Nat} {s t : AState} {c : CState} (hle : s.le t = true)
    (h : Desc D S A s c) : Desc D S A t c := by
  obtain ⟨hk, hb, hf⟩ := le_elim s t hle
  exact ⟨hb ▸ h.1.mono hf, hk ▸ h.2.1, h.2.2⟩

theorem inv_mk {ann : Ann} {D : List Cell} {S A : Nat} {c' : CState} {s' : AState} {own' : List Cell}
    (hs : ∃ t, annAt ann c'.pc = some t ∧ s'.le t = true)
    (hd : c'.data = own' ++ D) (hc : Conc s'.frames s'.base own')
    (hsc : c'.sc = S + s'.k) (ha : c'.addr = A) : Inv ann D S A c' :=
  let ⟨t, ht, hle⟩ := hs
  inv_iff.mpr ⟨t, ht, Desc.mono hle ⟨⟨own', hd, hc⟩, hsc, ha⟩⟩

theorem target_bound {pc : Nat} {off : Int} {len t : Nat} (h : target pc off len = some t) :
    (t : Int) = (pc : Int) + off ∧ t ≤ len := by
  unfold target at h
  simp only at h
  split at h
  · rename_i hb
    cases h
    exact ⟨by omega, by omega⟩
  · cases h

/-- The transfer function is sound: a successful machine step from a state that `a` describes
leads to a state that one of `astep`'s successors describes. -/
theorem astep_sound {f : Fn} {D : List Cell} {S A : Nat} {a : AState} {c c' : CState} {i : BInstr}
    {succs : List (Nat × AState)} (hi : f.code[c.pc]? = some i) (hwf : a.wf = true)
    (hast : astep f c.pc i a = .ok succs) (hd : Desc D S A a c) (hstep : CStep f c c') :
    ∃ a', (c'.pc, a') ∈ succs ∧ Desc D S A a' c' := by
  obtain ⟨hown, hsc, haddr⟩ := hd
  have hnd : (openMarks a.frames).Nodup := of_decide_eq_true hwf
  cases hstep with
  | simple i' p m popped rest hi' he hdat hl =>
    cases hi'.symm.trans hi
    simp only [astep, he] at hast
    split at hast
    · rename_i a' hpp
      cases hast
      obtain ⟨_, h, hk⟩ := hown.popPush hpp hdat hl
      exact ⟨a', .head _, h, hk ▸ hsc, haddr⟩
    · cases hast
  | dup i' x rest hi' he hdat =>
    cases hi'.symm.trans hi
    simp only [astep, he] at hast
    split at hast
    · rename_i a' hpp
      cases hast
      obtain ⟨hx, h, hk⟩ := hown.popPush (popped := [x]) hpp hdat rfl
      cases hx
      exact ⟨a', .head _, h, hk ▸ hsc, haddr⟩
    · cases hast
  | popCell i' x rest hi' he hdat =>
    cases hi'.symm.trans hi
    simp only [astep, he] at hast
    split at hast
    · rename_i a' hpp
      cases hast
      obtain ⟨_, h, hk⟩ := hown.popPush (popped := [x]) hpp hdat rfl
      exact ⟨a', .head _, h, hk ▸ hsc, haddr⟩
    · split at hast
      · rename_i s rest' hfr
        cases hast
        obtain ⟨above, below, hab, hc, hb⟩ := (hfr ▸ hown).frame_inv
        cases (hc : above = [])
        cases hdat.symm.trans hab
        exact ⟨_, .head _, hb, hsc, haddr⟩
      · cases hast
  | popEmpty i' hi' he hdat =>
    cases hi'.symm.trans hi
    simp only [astep, he] at hast
    split at hast
    · rename_i a' hpp
      obtain ⟨rest, h, _⟩ := hown.popPush_ex hpp
      cases hdat.symm.trans h
    · split at hast
      · rename_i s rest' hfr
        obtain ⟨above, below, hab, _⟩ := (hfr ▸ hown).frame_inv
        cases above <;> cases hdat.symm.trans hab
      · cases hast
  | jump i' off t hi' he ht =>
    cases hi'.symm.trans hi
    simp only [astep, he, ht] at hast
    cases hast
    exact ⟨a, .head _, hown, hsc, haddr⟩
  | goto i' loc t hi' he ht =>
    cases hi'.symm.trans hi
    simp only [astep, he, ht] at hast
    cases hast
    exact ⟨a, .head _, hown, hsc, haddr⟩
  | branchTaken i' off x rest t hi' he hdat ht =>
    cases hi'.symm.trans hi
    simp only [astep, he, ht] at hast
    split at hast
    · rename_i a' t' hpp htt
      cases htt
      cases hast
      obtain ⟨_, h, hk⟩ := hown.popPush (popped := [x]) hpp hdat rfl
      exact ⟨a', .tail _ (.head _), h, hk ▸ hsc, haddr⟩
    · cases hast
    · cases hast
  | branchFall i' off x rest hi' he hdat =>
    cases hi'.symm.trans hi
    simp only [astep, he] at hast
    split at hast
    · rename_i a' t' hpp htt
      cases hast
      obtain ⟨_, h, hk⟩ := hown.popPush (popped := [x]) hpp hdat rfl
      exact ⟨a', .head _, h, hk ▸ hsc, haddr⟩
    · cases hast
    · cases hast
  | guardTaken i' off t hi' he ht =>
    cases hi'.symm.trans hi
    simp only [astep, he, ht] at hast
    cases hast
    exact ⟨a, .tail _ (.head _), hown, hsc, haddr⟩
  | guardFall i' off hi' he =>
    cases hi'.symm.trans hi
    simp only [astep, he] at hast
    split at hast
    · cases hast
      exact ⟨a, .head _, hown, hsc, haddr⟩
    · cases hast
  | scopeUp i' hi' he =>
    cases hi'.symm.trans hi
    simp only [astep, he] at hast
    cases hast
    exact ⟨_, .head _, hown, congrArg (· + 1) hsc, haddr⟩
  | scopeDown i' n hi' he hn =>
    cases hi'.symm.trans hi
    simp only [astep, he] at hast
    split at hast
    · rename_i hk
      cases hast
      exact ⟨_, .head _, hown, show n = S + (a.k - 1) by omega, haddr⟩
    · cases hast
  | pushMarker i' hi' he =>
    cases hi'.symm.trans hi
    simp only [astep, he] at hast
    cases hast
    exact ⟨_, .head _, hown.open .marker, hsc, haddr⟩
  | closeMarker i' above below hi' he hdat hnm =>
    cases hi'.symm.trans hi
    simp only [astep, he] at hast
    split at hast
    · rename_i cnt rest' hfr
      split at hast
      · cases hast
      · rename_i hnj
        split at hast
        · rename_i a' hpp
          cases hast
          obtain ⟨m, bl, _, hab, hb⟩ := (hfr ▸ hown).marker_inv hnj
          obtain ⟨-, rfl⟩ := split_unique above _ below bl (hdat.symm.trans hab) hnm
            (fun hm => nomatch List.eq_of_mem_replicate hm)
          obtain ⟨_, h, hk⟩ := Own.popPush (a := { a with frames := rest' }) (popped := []) hb hpp rfl rfl
          exact ⟨a', .head _, h, hk ▸ hsc, haddr⟩
        · cases hast
    · cases hast
  | explode i' x rest n hi' he hdat =>
    cases hi'.symm.trans hi
    simp only [astep, he] at hast
    split at hast
    · rename_i cnt rest' hfr
      split at hast
      · cases hast
      · rename_i hnj
        split at hast
        · rename_i hge
          cases hast
          obtain ⟨m, bl, hm, hab, hb⟩ := (hfr ▸ hown).marker_inv hnj
          obtain ⟨m', rfl⟩ : ∃ m', m = m' + 1 := ⟨m - 1, by omega⟩
          cases hdat.symm.trans hab
          refine ⟨_, .head _, ?_, hsc, haddr⟩
          have := Own.frame (fr := ⟨.marker, ⟨.vals, cnt.n - 1⟩⟩)
            (above := List.replicate n .val ++ List.replicate m' .val)
            ⟨m' + n, show cnt.n - 1 ≤ m' + n by omega, replicate_app n m' .val⟩ hb
          rwa [List.append_assoc] at this
        · cases hast
    · cases hast
  | pushMark i' s hi' he =>
    cases hi'.symm.trans hi
    simp only [astep, he] at hast
    split at hast
    · cases hast
    · cases hast
      exact ⟨_, .head _, hown.open (.mark s), hsc, haddr⟩
  | popUntil i' s above below hi' he hdat hnm =>
    cases hi'.symm.trans hi
    simp only [astep, he] at hast
    split at hast
    · rename_i pre fr rest' hcut
      cases hast
      obtain ⟨hkind, hb⟩ := hown.cut_at hcut hnd hdat hnm
      refine ⟨_, .head _, ?_, hsc, haddr⟩
      show Own (⟨fr.kind, ⟨.exact, 0⟩⟩ :: rest') a.base D (.mark s :: below)
      rw [hkind]
      exact hb.open (.mark s)
    · cases hast
  | clearMark i' s above below hi' he hdat hnm =>
    cases hi'.symm.trans hi
    simp only [astep, he] at hast
    split at hast
    · rename_i pre fr rest' hcut
      cases hast
      exact ⟨_, .head _, (hown.cut_at hcut hnd hdat hnm).2, hsc, haddr⟩
    · cases hast
  | exitLoop i' l off p pos hi' he hpos hge hp =>
    cases hi'.symm.trans hi
    simp only [astep, he, hpos] at hast
    split at hast
    · rename_i pre fr rest' hcut
      split at hast
      · rename_i hpk
        split at hast
        · rename_i t ht
          cases hast
          obtain rfl : t = ((pos : Int) + off).toNat := by
            have := target_bound ht; omega
          obtain ⟨hkind, X, bl, hab, hb, hav⟩ := hown.cut hcut hnd
          refine ⟨_, .head _, ?_, show c.sc - p = S + (a.k - p) by omega, haddr⟩
          show Own (⟨fr.kind, ⟨.junk, 0⟩⟩ :: rest') a.base D c.data
          rw [hab, hkind]
          exact Own.frame (fr := ⟨.mark l, ⟨.junk, 0⟩⟩) ⟨X, rfl, hav⟩ hb
        · cases hast
      · cases hast
    · cases hast
  | xfer i' n hi' he hn =>
    cases hi'.symm.trans hi
    simp only [astep, he] at hast
    split at hast
    · rename_i hk
      split at hast
      · rename_i a' hpp
        cases hast
        obtain ⟨_, h, hk'⟩ := Own.popPush (a := { a with k := a.k - 1 }) (popped := []) hown hpp rfl rfl
        exact ⟨a', .head _, h, show n = S + a'.k by rw [hk']; show n = S + (a.k - 1); omega, haddr⟩
      · cases hast
    · cases hast
  | prepareVar i' n popped rest hi' he hvar hn hdat hl =>
    cases hi'.symm.trans hi
    simp only [astep, he, hvar, hn, if_true] at hast
    split at hast
    · rename_i a' hpp
      cases hast
      obtain ⟨_, h, hk⟩ := hown.popPush hpp hdat hl
      exact ⟨a', .head _, h, hk ▸ hsc, haddr⟩
    · cases hast
  | prepareFix i' n hi' he hvar =>
    cases hi'.symm.trans hi
    simp only [astep, he, hvar] at hast
    cases hast
    exact ⟨a, .head _, hown, hsc, haddr⟩

theorem CStep.instr {f : Fn} {c c' : CState} (h : CStep f c c') : ∃ i, f.code[c.pc]? = some i := by
  cases h <;> exact ⟨_, ‹_›⟩

theorem inv_step_s (f : Fn) (ann : Ann) (hv : StepVerified f ann) (D : List Cell) (S A : Nat)
    (c c' : CState) (hinv : Inv ann D S A c) (hstep : CStep f c c') : Inv ann D S A c' := by
  obtain ⟨a, hann, hd⟩ := inv_iff.mp hinv
  obtain ⟨i, hi⟩ := hstep.instr
  obtain ⟨hwf, succs, hast, hall⟩ := hv.step c.pc a i hann hi
  obtain ⟨a', hmem, hd'⟩ := astep_sound hi hwf hast hd hstep
  obtain ⟨t, ht, hle⟩ := hall _ hmem
  exact inv_iff.mpr ⟨t, ht, hd'.mono hle⟩

theorem Verified.toStep {f : Fn} {ann : Ann} (hv : Verified f ann) : StepVerified f ann := ⟨hv.step⟩

theorem inv_step (f : Fn) (ann : Ann) (hv : Verified f ann) (D : List Cell) (S A : Nat)
    (c c' : CState) (hinv : Inv ann D S A c) (hstep : CStep f c c') : Inv ann D S A c' :=
  inv_step_s f ann hv.toStep D S A c c' hinv hstep

theorem inv_entry (f : Fn) (ann : Ann) (hv : Verified f ann) (D : List Cell) (S A : Nat) (c0 : CState)
    (h0 : c0.pc = 0) (hd : c0.data = List.replicate f.entryCount .val ++ D)
    (hs : c0.sc = S) (ha : c0.addr = A) : Inv ann D S A c0 :=
  inv_mk (s' := f.entry) (own' := List.replicate f.entryCount .val)
    (by rw [h0]; exact hv.entry) hd (Conc.base _) (by simp [Fn.entry, hs]) ha

theorem inv_reach (f : Fn) (ann : Ann) (hv : Verified f ann) (D : List Cell) (S A : Nat)
    (c0 c : CState) (hr : Reach f c0 c) (h0 : Inv ann D S A c0) : Inv ann D S A c := by
  induction hr with
  | refl => exact h0
  | step c' c'' _ hstep ih => exact inv_step f ann hv D S A c' c'' ih hstep

/-- At `ret`: exactly one value on top of the caller's stack, the caller's scopes. -/
theorem inv_at_ret_s (f : Fn) (ann : Ann) (hv : StepVerified f ann) (D : List Cell) (S A : Nat) (c : CState)
    (hinv : Inv ann D S A c) (hret : AtRet f c) : c.data = .val :: D ∧ c.sc = S ∧ c.addr = A := by
  obtain ⟨a, hann, hown, hsc, haddr⟩ := inv_iff.mp hinv
  obtain ⟨_, succs, hast, _⟩ := hv.step c.pc a (.ret false) hann hret
  simp only [astep, eff] at hast
  split at hast
  · rename_i h
    obtain ⟨hk, hf, hb⟩ := h
    exact ⟨(hf ▸ hb ▸ hown).nil_inv, by omega, haddr⟩
  · cases hast

theorem inv_at_ret (f : Fn) (ann : Ann) (hv : Verified f ann) (D : List Cell) (S A : Nat) (c : CState)
    (hinv : Inv ann D S A c) (hret : AtRet f c) : c.data = .val :: D ∧ c.sc = S ∧ c.addr = A :=
  inv_at_ret_s f ann hv.toStep D S A c hinv hret

/-- At the end of the code: only a top-level text gets there, with one value — or none at all
when the text is empty. -/
theorem inv_at_end (f : Fn) (ann : Ann) (hv : Verified f ann) (D : List Cell) (S A : Nat) (c : CState)
    (hinv : Inv ann D S A c) (hend : c.pc = f.code.length) :
    f.kind = .top ∧ c.sc = S ∧ c.addr = A ∧ (c.data = .val :: D ∨ (f.code = [] ∧ c.data = D)) := by
  obtain ⟨a, hann, hown, hsc, haddr⟩ := inv_iff.mp hinv
  have hfin := hv.fin
  unfold endOk at hfin
  rw [← hend, hann] at hfin
  simp only at hfin
  split at hfin
  · rename_i hk
    simp only [Bool.and_eq_true, Bool.or_eq_true, beq_iff_eq, List.isEmpty_iff] at hfin
    obtain ⟨⟨hk0, hfr⟩, hb⟩ := hfin
    refine ⟨hk, by omega, haddr, ?_⟩
    rcases hb with hb | ⟨hcode, hb⟩
    · exact Or.inl (hfr ▸ hb ▸ hown).nil_inv
    · exact Or.inr ⟨hcode, (hfr ▸ hb ▸ hown).nil_inv⟩
  · cases hfin

/-- The caller's part of the data stack is never touched, and no scope of the caller is popped. -/
theorem inv_frame (ann : Ann) (D : List Cell) (S A : Nat) (c : CState) (hinv : Inv ann D S A c) :
    (∃ own, c.data = own ++ D) ∧ S ≤ c.sc ∧ c.addr = A := by
  obtain ⟨a, own, _, hdata, _, hsc, haddr⟩ := hinv
  exact ⟨⟨own, hdata⟩, by omega, haddr⟩

theorem check_verifies (f : Fn) (h : check f = .ok ()) : ∃ ann, verify f ann = true := by
  unfold check at h
  split at h
  · cases h
  · rename_i ann _
    split at h
    · rename_i hv; exact ⟨ann, hv⟩
    · split at h
      · cases h
      · split at h <;> cases h

/-- Whenever a verified function is (back) at its first instruction — a self tail call jumped
there — its part of the data stack holds exactly the arguments and no scope is open: every
iteration of a tail-recursive loop starts at the depths of the first one. -/
theorem inv_at_pc0 (f : Fn) (ann : Ann) (hv : Verified f ann) (D : List Cell) (S A : Nat) (c : CState)
    (hinv : Inv ann D S A c) (hpc : c.pc = 0) :
    c.data = List.replicate f.entryCount .val ++ D ∧ c.sc = S := by
  obtain ⟨a, hann, hown, hsc, _⟩ := inv_iff.mp hinv
  obtain ⟨t, ht, hle⟩ := hv.entry
  rw [hpc, ht] at hann
  cases hann
  obtain ⟨hk, hb, hf⟩ := le_elim f.entry a hle
  have hfr : a.frames = [] := by
    cases hfs : a.frames with
    | nil => rfl
    | cons x xs => rw [hfs] at hf; cases hf
  have hd := (hfr ▸ hown).nil_inv
  rw [← hb] at hd
  rw [← hk] at hsc
  exact ⟨hd, hsc⟩

/-- `checkB` is `check` as a Boolean (what `decide` can evaluate) -/
theorem check_of_checkB {f : Fn} (h : checkB f = true) : check f = .ok () := by
  unfold checkB at h
  split at h
  · rename_i u hu; cases u; exact hu
  · cases h

theorem verifies_of_checkB {f : Fn} (h : checkB f = true) : ∃ ann, verify f ann = true :=
  check_verifies f (check_of_checkB h)

end ZygoVerif.Bal
