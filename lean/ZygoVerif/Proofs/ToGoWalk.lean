/-
What a successful step of the record → Go walk did (`Model/ToGo.lean` `convStep`): the relation
`ConvOk` lists the arms in which `convStep w rec st x T cur` answers `.ok out`, each with the calls
of the levels below that succeeded and the value and state it returns; beside it, one successful
turn of each loop (`convList_cons_ok`, `fillFields_cons_ok`, `fillMap_cons_ok` with `mapEntry_ok`).
Facts about every successful conversion case on these instead of unfolding the walk.
-/
import ZygoVerif.Model.ToGo
namespace ZygoVerif.ToGo

theorem of_guard {ε α} {c : Prop} [Decidable c] {e : ε} {m : Except ε α} {r : α}
    (h : (if c then .error e else m) = .ok r) : m = .ok r := by
  split at h
  · cases h
  · exact h

/-- a write below field `i` that succeeds: the target is a struct, the write goes through in its
field `i`, and only that field is replaced -/
theorem setPath_cons_ok {sv : GV} {i : Nat} {p : List Nat} {v sv' : GV} (h : setPath sv (i :: p) v = some sv') :
    ∃ s fs f f', sv = .struct s fs ∧ fs[i]? = some f ∧ setPath f p v = some f' ∧
      sv' = .struct s (fs.set i f') := by
  cases sv with
  | struct s fs =>
    simp only [setPath] at h
    split at h
    · split at h
      · cases h; exact ⟨_, _, _, _, rfl, ‹_›, ‹_›, rfl⟩
      · cases h
    · cases h
  | _ => cases h

theorem convList_cons_ok {rec : Rec} {e : Ty} {z : GV} {st : St} {x : Sx} {xs : List Sx} {out : List GV × St}
    (h : convList rec e z st (x :: xs) = .ok out) :
    ∃ v st1 vs st2, rec st x e z = .ok (v, st1) ∧ convList rec e z st1 xs = .ok (vs, st2) ∧ out = (v :: vs, st2) := by
  simp only [convList, bind, Except.bind, pure, Except.pure] at h
  split at h
  · cases h
  · split at h <;> cases h
    exact ⟨_, _, _, _, ‹_›, ‹_›, rfl⟩

/-- One turn of the field loop that succeeds: the key names a field, the field is read, the value
converted and stored, and the rest of the loop runs on the result. -/
theorem fillFields_cons_ok (rec : Rec) (tbl : List Entry) (st : St) (sv : GV) (k : Key) (x : Sx)
    (rest : List (Key × Sx)) (out : GV × St) :
    fillFields rec tbl st sv ((k, x) :: rest) = .ok out ↔
      ∃ b e cur v st1 sv1, keyBytes k = some b ∧ resolve tbl b = some e ∧
        getPath sv e.path = some cur ∧ rec st x e.ty cur = .ok (v, st1) ∧
        setPath sv e.path v = some sv1 ∧ fillFields rec tbl st1 sv1 rest = .ok out := by
  constructor
  · intro h
    cases hk : keyBytes k with
    | none => simp [fillFields, hk] at h
    | some b =>
      cases hr : resolve tbl b with
      | none => simp [fillFields, hk, hr] at h
      | some e =>
        cases hg : getPath sv e.path with
        | none => simp [fillFields, hk, hr, hg] at h
        | some cur =>
          cases hc : rec st x e.ty cur with
          | error er => simp [fillFields, hk, hr, hg, hc, bind, Except.bind] at h
          | ok p =>
            cases hs : setPath sv e.path p.1 with
            | none => simp [fillFields, hk, hr, hg, hc, hs, bind, Except.bind] at h
            | some sv1 =>
              simp only [fillFields, hk, hr, hg, hc, hs, bind, Except.bind] at h
              exact ⟨b, e, cur, p.1, p.2, sv1, rfl, hr, hg, hc, hs, h⟩
  · rintro ⟨b, e, cur, v, st1, sv1, hk, hr, hg, hc, hs, h⟩
    simp only [fillFields, hk, hr, hg, hc, hs, bind, Except.bind]
    exact h

/-- a pair that goes into a map: the key as `keyToGo` gives it; the state is untouched (scalar
values) or what the level below returned (interface typed values) -/
theorem mapEntry_ok {rec : Rec} {kt vt : Ty} {w : World} {st : St} {k : Key} {x : Sx} {kg v : GV} {st1 : St}
    (h : mapEntry rec kt vt w st k x = .ok (kg, v, st1)) :
    kg = keyToGo k ∧ (st1 = st ∨ rec st x vt (zero w 1 vt) = .ok (v, st1)) := by
  simp only [mapEntry] at h
  replace h := of_guard h
  repeat' split at h
  all_goals cases h
  all_goals first | exact ⟨rfl, .inl rfl⟩ | exact ⟨rfl, .inr ‹_›⟩

theorem fillMap_cons_ok {rec : Rec} {kt vt : Ty} {w : World} {st : St} {es : List (GV × GV)} {k : Key} {x : Sx}
    {rest : List (Key × Sx)} {out : List (GV × GV) × St}
    (h : fillMap rec kt vt w st es ((k, x) :: rest) = .ok out) :
    ∃ kg v st1, mapEntry rec kt vt w st k x = .ok (kg, v, st1) ∧
      fillMap rec kt vt w st1 (mapSet es kg v sameKey) rest = .ok out := by
  simp only [fillMap] at h
  split at h
  · exact ⟨_, _, _, ‹_›, h⟩
  · cases h

inductive ConvOk (w : World) (rec : Rec) (st : St) (cur : GV) : Sx → Ty → GV × St → Prop
  | slice {xs e vs st1} : convList rec e (zero w 8 e) st xs = .ok (vs, st1) →
      ConvOk w rec st cur (.arr xs) (.slice e) (.slice (some vs), st1)
  | bytes {xs vs st1 b} : convList rec (.uint .u8) (.uint .u8 0) st xs = .ok (vs, st1) →
      packBytes vs = some b → ConvOk w rec st cur (.arr xs) .bytes (.bytes (some b), st1)
  | hit {id tn kvs T v vt r} : st.lookup id = some (v, vt) → assign w v vt T = .ok r →
      ConvOk w rec st cur (.hash id tn kvs) T (r, st)
  | map {id kvs kt vt es st1} : st.lookup id = none → fillMap rec kt vt w st [] kvs = .ok (es, st1) →
      ConvOk w rec st cur (.hash id "hash" kvs) (.map kt vt)
        (.map (some es), st1.remember id (.map (some es)) (.map kt vt))
  | printed {id tn kvs} : st.lookup id = none → tn ≠ "hash" →
      ConvOk w rec st cur (.hash id tn kvs) .str (.printed, st.remember id .printed .str)
  /-- a pointer or interface typed target: the factory's fresh object is filled and pointed at -/
  | viaPtr {id tn kvs T d r sv st1} : st.lookup id = none → tn ≠ "hash" → w.lookupReg tn = some d →
      (T = .ptr d.name ∧ r = .ptr (some st.heap.length) ∨
        (T = .eface ∨ ∃ i, T = .iface i ∧ w.implements i d.name = true) ∧
          r = .iface (some (.ptr (some st.heap.length)))) →
      fillFields rec (fieldTable w 8 d.fields 0 []) { st with heap := st.heap ++ [zero w 8 (.struct d.name)] }
        (zero w 8 (.struct d.name)) kvs = .ok (sv, st1) →
      ConvOk w rec st cur (.hash id tn kvs) T
        (r, (heapSet st1 st.heap.length sv).remember id (.ptr (some st.heap.length)) (.ptr d.name))
  /-- a struct held by value: the target's present content is filled -/
  | byValue {id tn kvs d sv st1} : st.lookup id = none → tn ≠ "hash" → w.lookupReg tn = some d →
      fillFields rec (fieldTable w 8 d.fields 0 []) { st with heap := st.heap ++ [zero w 8 (.struct d.name)] } cur kvs = .ok (sv, st1) →
      ConvOk w rec st cur (.hash id tn kvs) (.struct d.name) (sv, st1.remember id sv (.struct d.name))
  | atom {x T v} : convAtom w x T = .ok v → ConvOk w rec st cur x T (v, st)

theorem convStep_ok {w : World} {rec : Rec} {st : St} {x : Sx} {T : Ty} {cur : GV} {out : GV × St}
    (h : convStep w rec st x T cur = .ok out) : ConvOk w rec st cur x T out := by
  cases x with
  | arr xs =>
    cases T with
    | slice e =>
      simp only [convStep, bind, Except.bind, pure, Except.pure] at h
      split at h <;> cases h
      exact .slice ‹_›
    | bytes =>
      simp only [convStep, bind, Except.bind, pure, Except.pure] at h
      split at h
      · cases h
      · split at h <;> cases h
        exact .bytes ‹_› ‹_›
    | _ => cases h
  | hash id tn kvs =>
    simp only [convStep] at h
    cases hhit : st.lookup id with
    | some p =>
      simp only [hhit, bind, Except.bind, pure, Except.pure] at h
      split at h <;> cases h
      exact .hit hhit ‹_›
    | none =>
      simp only [hhit] at h
      by_cases hn : tn = "hash"
      · subst hn
        rw [if_pos (beq_self_eq_true _)] at h
        cases T with
        | map kt vt =>
          simp only [bind, Except.bind, pure, Except.pure] at h
          split at h <;> cases h
          exact .map hhit ‹_›
        | _ => cases h
      · rw [if_neg (by simpa using hn)] at h
        cases hd : w.lookupReg tn with
        | none =>
          simp only [hd] at h
          cases T <;> cases h
          exact .printed hhit hn
        | some d =>
          simp only [hd, bind, Except.bind, pure, Except.pure] at h
          cases T with
          | str => cases h; exact .printed hhit hn
          | ptr s =>
            simp only [Bool.not_true, Bool.false_eq_true, if_false] at h
            by_cases hs : s = d.name
            · subst hs
              simp only [beq_self_eq_true, if_true] at h
              split at h <;> cases h
              exact .viaPtr hhit hn hd (.inl ⟨rfl, rfl⟩) ‹_›
            · rw [if_neg (by simpa using hs)] at h
              cases h
          | eface =>
            simp only [Bool.not_true, Bool.false_eq_true, if_false] at h
            split at h <;> cases h
            exact .viaPtr hhit hn hd (.inr ⟨.inl rfl, rfl⟩) ‹_›
          | iface i =>
            simp only [Bool.not_true, Bool.false_eq_true, if_false] at h
            by_cases hi : w.implements i d.name = true
            · simp only [hi, if_true] at h
              split at h <;> cases h
              exact .viaPtr hhit hn hd (.inr ⟨.inr ⟨i, rfl, hi⟩, rfl⟩) ‹_›
            · rw [if_neg hi] at h
              cases h
          | struct s =>
            simp only [Bool.not_true, Bool.false_eq_true, if_false] at h
            by_cases hs : s = d.name
            · subst hs
              simp only [beq_self_eq_true, if_true] at h
              split at h <;> cases h
              exact .byValue hhit hn hd ‹_›
            · rw [if_neg (by simpa using hs)] at h
              cases h
          | _ => cases h
  | _ =>
    simp only [convStep] at h
    split at h <;> cases h
    exact .atom ‹_›

end ZygoVerif.ToGo
