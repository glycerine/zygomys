/-
The bridge between C03's simulation statement (`Scope.Sim`, `Proofs/ScopeSim.lean`) and the
relation of the C02 simulation proofs (`Sim.RelF`, `Proofs/SimF2Env.lean`).

`RelF m s rs env` implies `SimX id (trf m) s rs env` (`SimX`: `Scope.Sim` with the variables of
corresponding scope and frame compared by lookup; it is all `lookup_sound_x` needs), hence
`Sim.RelF.lexLookup`, the form in which the C02 simulation proofs use it. The work is the `chain` field: the
reference static chain of `env` is the VM's search list (live scopes down to the function
scope, then the captured stacks along the parent chain of closures) with repetitions removed
— by induction over `ChainF` (one segment) and `FnChainF` (the walk).
-/
import ZygoVerif.Proofs.ScopeSim
import ZygoVerif.Proofs.SimF2Env
namespace ZygoVerif.Scope
open ZygoVerif.Core ZygoVerif.VM ZygoVerif.Sim

theorem dedupFirst_append (a b : List Nat) :
    dedupFirst (a ++ b) = dedupFirst a ++ (dedupFirst b).filter (fun x => !a.contains x) := by
  induction a with
  | nil =>
    simp only [List.nil_append, dedupFirst, List.contains_nil, Bool.not_false]
    exact (List.filter_eq_self.mpr (fun _ _ => rfl)).symm
  | cons x a ih =>
    simp only [List.cons_append, dedupFirst, ih, List.filter_append, List.filter_filter, List.cons.injEq, true_and,
      List.append_cancel_left_eq]
    apply List.filter_congr
    intro y _
    by_cases hy : y = x <;> simp [bne, hy]

/-- ids that were searched before add nothing -/
theorem dedupFirst_skip (a b c : List Nat) (h : ∀ x ∈ b, x ∈ a) :
    dedupFirst (a ++ (b ++ c)) = dedupFirst (a ++ c) := by
  rw [dedupFirst_append, dedupFirst_append b c, dedupFirst_append a c, List.filter_append, List.filter_filter]
  have h1 : (dedupFirst b).filter (fun x => !a.contains x) = [] := by
    rw [List.filter_eq_nil_iff]
    intro y hy
    have := h y (mem_dedupFirst.mp hy)
    simp [this]
  rw [h1, List.nil_append]
  congr 1
  apply List.filter_congr
  intro y _
  by_cases hy : y ∈ a
  · simp [hy]
  · have : y ∉ b := fun hb => hy (h y hb)
    simp [hy, this]

theorem dedupFirst_nodup : ∀ {l : List Nat}, l.Nodup → dedupFirst l = l
  | [], _ => rfl
  | a :: l, h => by
    have hn := List.nodup_cons.mp h
    rw [dedupFirst, dedupFirst_nodup hn.2, List.filter_eq_self.mpr]
    intro y hy
    have : y ≠ a := fun e => hn.1 (e ▸ hy)
    simpa using this

theorem refChain_fuel {frames : List Ref.Frame} (hp : ParOk frames) : ∀ (env fuel : Nat), env + 1 ≤ fuel →
    refChain frames fuel env = refChain frames (env + 1) env := by
  intro env
  induction env using Nat.strongRecOn with
  | _ env ih =>
    intro fuel hf
    obtain ⟨f, rfl⟩ : ∃ f, fuel = f + 1 := ⟨fuel - 1, by omega⟩
    simp only [refChain]
    cases hfr : frames[env]? with
    | none => rfl
    | some fr =>
      simp only
      cases hpar : fr.parent with
      | none => rfl
      | some p =>
        have hlt := hp env fr hfr p hpar
        simp only
        rw [ih p hlt f (by omega), ih p hlt env (by omega)]

theorem refChain_unfold {frames : List Ref.Frame} (hp : ParOk frames) {env : Nat} {fr : Ref.Frame}
    (hf : frames[env]? = some fr) :
    refChain frames (env + 1) env
      = env :: (match fr.parent with | some p => refChain frames (p + 1) p | none => []) := by
  cases hpar : fr.parent with
  | none => simp [refChain, hf, hpar]
  | some p =>
    have h1 : refChain frames (env + 1) env = env :: refChain frames env p := by simp [refChain, hf, hpar]
    rw [h1, refChain_fuel hp p env (hp env fr hf p hpar)]

theorem refChain_le {frames : List Ref.Frame} (hp : ParOk frames) : ∀ (env x : Nat),
    x ∈ refChain frames (env + 1) env → x ≤ env := by
  intro env
  induction env using Nat.strongRecOn with
  | _ env ih =>
    intro x hx
    cases hfr : frames[env]? with
    | none => simp [refChain, hfr] at hx
    | some fr =>
      rw [refChain_unfold hp hfr] at hx
      rcases List.mem_cons.mp hx with rfl | hx
      · exact Nat.le_refl _
      · cases hpar : fr.parent with
        | none => rw [hpar] at hx; cases hx
        | some p =>
          rw [hpar] at hx
          have hlt := hp env fr hfr p hpar
          exact Nat.le_of_lt (Nat.lt_of_le_of_lt (ih p hlt x hx) hlt)

theorem refChain_nodup {frames : List Ref.Frame} (hp : ParOk frames) : ∀ (env : Nat),
    (refChain frames (env + 1) env).Nodup := by
  intro env
  induction env using Nat.strongRecOn with
  | _ env ih =>
    cases hfr : frames[env]? with
    | none => simp [refChain, hfr]
    | some fr =>
      rw [refChain_unfold hp hfr]
      cases hpar : fr.parent with
      | none => simp
      | some p =>
        have hlt := hp env fr hfr p hpar
        refine List.nodup_cons.mpr ⟨fun hm => ?_, ih p hlt⟩
        have := refChain_le hp p env hm
        omega

/-- where the static chain goes on after a segment -/
def chainRest (frames : List Ref.Frame) : Option Nat → List Nat
  | none => []
  | some p => refChain frames (p + 1) p

/-- **One segment.** A stack chained from `env` (`ChainF`): the static chain of `env` is what a
lookup reads of that stack (down to and including the first function scope), followed by the
static chain of the frame the segment ends at. -/
theorem chainF_refChain {s : St} {frames : List Ref.Frame} (hp : ParOk frames) :
    ∀ {k env lin}, ChainF (isFnScope s) frames k env lin →
      refChain frames (env + 1) env = aboveBoundary s lin ++ chainRest frames k := by
  intro k env lin hc
  induction hc with
  | root fr hf hpar hfl =>
    rw [refChain_unfold hp hf, hpar]
    simp [aboveBoundary, hfl, chainRest]
  | cons k env p fr rest hf hpar hlt hfl _ ih =>
    rw [refChain_unfold hp hf, hpar]
    simp only [aboveBoundary, hfl, Bool.false_eq_true, if_false, List.cons_append, ih]
  | fn env p fr below hf hpar hlt hfl =>
    rw [refChain_unfold hp hf, hpar]
    simp [aboveBoundary, hfl, chainRest]

/-- a suffix of a segment holds no scope the segment does not hold -/
theorem aboveBoundary_of_suffix (s : St) (t l c : List (Option Nat))
    (h : takeToBoundary (isFnScope s) l = t ++ c) : ∀ x ∈ aboveBoundary s c, x ∈ aboveBoundary s l := by
  rw [← idsOf_takeToBoundary, ← idsOf_takeToBoundary, h]
  exact idsOf_sub fun _ hx => List.mem_append_right _ ((takeToBoundary_prefix _ c).subset hx)

/-- **The walk.** Along the parent chain of function `f` (`FnChainF`), after a prefix `A` of the
search list that holds the segment just searched: the ids the walk adds are, repetitions removed,
the rest of the static chain. -/
theorem fnChainF_dedup {s : St} {frames : List Ref.Frame} (hp : ParOk frames) :
    ∀ {seg k f}, FnChainF s frames seg k f → ∀ (A : List Nat), (∀ x ∈ aboveBoundary s seg, x ∈ A) →
      ∀ fuel, f + 1 ≤ fuel →
      dedupFirst (A ++ chainIds s fuel f) = dedupFirst (A ++ chainRest frames k) := by
  intro seg k f hc
  induction hc with
  | root seg f hlt hpar hs =>
    intro A _ fuel hfu
    obtain ⟨j, rfl⟩ : ∃ j, fuel = j + 1 := ⟨fuel - 1, by omega⟩
    simp only [chainIds, hpar, chainRest]
  | step seg k f p hlt hpar hpf hs _ ih =>
    intro A hA fuel hfu
    obtain ⟨j, rfl⟩ : ∃ j, fuel = j + 1 := ⟨fuel - 1, by omega⟩
    obtain ⟨t, ht⟩ := hs
    simp only [chainIds, hpar]
    rw [dedupFirst_skip A _ _ (fun x hx => hA x (aboveBoundary_of_suffix s t seg _ ht x hx))]
    exact ih A hA j (by omega)
  | sfx seg k f p hlt hpar hpf _ hs _ ih =>
    intro A hA fuel hfu
    obtain ⟨j, rfl⟩ : ∃ j, fuel = j + 1 := ⟨fuel - 1, by omega⟩
    obtain ⟨t, ht⟩ := hs
    simp only [chainIds, hpar]
    rw [dedupFirst_skip A _ _ (fun x hx => hA x (aboveBoundary_of_suffix s t seg _ ht x
      (by rw [aboveBoundary_takeToBoundary]; exact hx)))]
    exact ih A hA j (by omega)
  | clos seg e f p k' hlt hpar hpf hch _ ih =>
    intro A _ fuel hfu
    obtain ⟨j, rfl⟩ : ∃ j, fuel = j + 1 := ⟨fuel - 1, by omega⟩
    simp only [chainIds, hpar, chainRest]
    rw [chainF_refChain hp hch, ← List.append_assoc, ← List.append_assoc]
    exact ih (A ++ aboveBoundary s (fnOf s f).closing) (fun x hx => List.mem_append.mpr (Or.inr hx)) j (by omega)

/-- the global scope is on the search list: in the live segment … -/
theorem chainF_zero_mem {s : St} {frames : List Ref.Frame} :
    ∀ {k env lin}, ChainF (isFnScope s) frames k env lin → k = none → 0 ∈ aboveBoundary s lin := by
  intro k env lin hc
  induction hc with
  | root fr hf hpar hfl => intro _; simp [aboveBoundary, hfl]
  | cons k env p fr rest hf hpar hlt hfl _ ih =>
    intro hk
    simp only [aboveBoundary, hfl, Bool.false_eq_true, if_false]
    exact List.mem_cons_of_mem _ (ih hk)
  | fn env p fr below hf hpar hlt hfl => intro hk; cases hk

/-- … or in a captured stack of the walk -/
theorem fnChainF_zero_mem {s : St} {frames : List Ref.Frame} :
    ∀ {seg k f}, FnChainF s frames seg k f → k ≠ none → ∀ fuel, f + 1 ≤ fuel → 0 ∈ chainIds s fuel f := by
  intro seg k f hc
  induction hc with
  | root seg f hlt hpar hs => intro hk; exact (hk rfl).elim
  | step seg k f p hlt hpar hpf hs _ ih =>
    intro hk fuel hfu
    obtain ⟨j, rfl⟩ : ∃ j, fuel = j + 1 := ⟨fuel - 1, by omega⟩
    simp only [chainIds, hpar]
    exact List.mem_append.mpr (Or.inr (ih hk j (by omega)))
  | sfx seg k f p hlt hpar hpf _ hs _ ih =>
    intro hk fuel hfu
    obtain ⟨j, rfl⟩ : ∃ j, fuel = j + 1 := ⟨fuel - 1, by omega⟩
    simp only [chainIds, hpar]
    exact List.mem_append.mpr (Or.inr (ih hk j (by omega)))
  | clos seg e f p k' hlt hpar hpf hch _ ih =>
    intro _ fuel hfu
    obtain ⟨j, rfl⟩ : ∃ j, fuel = j + 1 := ⟨fuel - 1, by omega⟩
    simp only [chainIds, hpar]
    cases k' with
    | none => exact List.mem_append.mpr (Or.inl (chainF_zero_mem hch rfl))
    | some q => exact List.mem_append.mpr (Or.inr (ih (by simp) j (by omega)))

/-- what stage 3 adds under `FScopes`: the global scope, at most -/
theorem templateCaptured_zero {s : St} (hfs : FScopes s) : ∀ (l : List (Option Nat)) (id : Nat),
    id ∈ templateCaptured s l → id = 0
  | [], _, h => by cases h
  | none :: rest, id, h => templateCaptured_zero hfs rest id (by simpa only [templateCaptured] using h)
  | some j :: rest, id, h => by
    simp only [templateCaptured] at h
    by_cases hj : isFnScope s j = true
    · rw [if_pos hj] at h
      obtain ⟨t, hmy, hclo⟩ := hfs j hj
      rw [hmy] at h
      simp only [hclo, idsOf, List.mem_singleton] at h
      exact h
    · rw [if_neg hj] at h
      exact templateCaptured_zero hfs rest id h

/-- **`RelF` implies `SimX`** — scope ids ARE frame ids (`ρ = id`), values correspond modulo the
numbering of closures (`φ = trf m`). -/
theorem simX_of_relF {m : Nat → Nat} {s : St} {rs : Ref.St} {env : Nat} (h : RelF m s rs env) :
    SimX id (trf m) s rs env := by
  obtain ⟨k, hc, hfc⟩ := h.ctx
  have hchain : refChain rs.frames (rs.frames.length + 1) env = dedupFirst (lexCore s) := by
    rw [refChain_fuel h.par env _ (by have := hc.lt; omega)]
    have hB := chainF_refChain (s := s) h.par hc
    have hnd : dedupFirst (aboveBoundary s s.linear ++ chainRest rs.frames k)
        = refChain rs.frames (env + 1) env := by
      rw [← hB]; exact dedupFirst_nodup (refChain_nodup h.par env)
    rw [← hnd]
    unfold lexCore capturedChain
    cases hpar : (fnOf s s.curfunc).parent with
    | some p =>
      simp only [Option.isSome_some, if_true]
      exact (fnChainF_dedup h.par hfc _ (fun x hx => hx) _ (by have := hfc.lt; omega)).symm
    | none =>
      simp only [Option.isSome_none, Bool.false_eq_true, if_false]
      cases hfc with
      | root seg f hlt hp' hs =>
        obtain ⟨t, ht⟩ := hs
        have := dedupFirst_skip (aboveBoundary s s.linear) (aboveBoundary s (fnOf s s.curfunc).closing) []
          (fun x hx => aboveBoundary_of_suffix s t s.linear _ ht x hx)
        simpa [chainRest] using this.symm
      | step seg k f p hlt hp' => rw [hpar] at hp'; cases hp'
      | clos seg e f p k' hlt hp' => rw [hpar] at hp'; cases hp'
      | sfx seg k f p hlt hp' => rw [hpar] at hp'; cases hp'
  refine ⟨by rw [List.map_id]; exact hchain, fun id _ x => h.vars id x, fun id hid => ?_⟩
  have h0 := templateCaptured_zero h.fscopes s.linear id hid
  subst h0
  unfold lexCore capturedChain
  cases k with
  | none => exact List.mem_append.mpr (Or.inl (chainF_zero_mem hc rfl))
  | some e =>
    have hz := fnChainF_zero_mem hfc (by simp) (s.fns.length + 1) (by have := hfc.lt; omega)
    cases hpar : (fnOf s s.curfunc).parent with
    | some p => simp only [Option.isSome_some, if_true]; exact List.mem_append.mpr (Or.inr hz)
    | none =>
      obtain ⟨j, hj⟩ : ∃ j, s.fns.length + 1 = j + 1 := ⟨_, rfl⟩
      rw [hj] at hz
      simp [chainIds, hpar] at hz

end ZygoVerif.Scope

namespace ZygoVerif.Sim
open ZygoVerif.Core ZygoVerif.VM

/-- **Lookup**: under `RelF`, the three stages of `LexicalLookupSymbol` find what the reference
lookup finds — same scope/frame index, corresponding values. -/
theorem RelF.lexLookup {m s rs env} (h : RelF m s rs env) (x : String) :
    (lexLookup s x).map (trp2 m) = Ref.lookup rs env x :=
  Scope.lookup_sound_x (Scope.simX_of_relF h) x

end ZygoVerif.Sim
