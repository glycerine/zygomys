/-
C02, execution half — F2: the expression step and the induction on the reference fuel, in two layers: the claims about
lists follow from those about expressions at lower fuel (`fclaims_lists`); the four claims about expressions and
closure application are mutually recursive (`fclaims_expr`).

Of the claims, `FClaimB/C/S/L/V/F`, `XClaimE/B/C`, `TClaimE/B/C` are the claims of the interface (`HClaimB` …) at the
instances; `FClaimE` is written out, `FClaimE.at` reads it as `HClaimE`; `FClaimA` (`fclaimA_iff`: `HArgs`), `FClaimU`,
`FClaimH`, `TClaimV`, `XClaimF` are F2's own.
-/
import ZygoVerif.Proofs.SimF2BrkFor
import ZygoVerif.Proofs.SimF2Tail
import ZygoVerif.Proofs.SimF2Lazy
import ZygoVerif.Proofs.SimF2Apply
namespace ZygoVerif.Sim
open ZygoVerif.Core ZygoVerif.VM

/-- The expression step of F2. A new form gets its case here, in front of the last arm: that arm sends every form not
named above to `hclaimE_core`, so a form that `coreForm` (SimStep) does not exclude fails there, not here. `Fx`, `Fz`, `Fs`
hand a form to `Ff true self` — then `xclaimE_succ`, `tclaimE_succ` need no case — unless a part of it is an exit or tail
position. -/
theorem fclaimE_succ {n : Nat} (hE : FClaimE n) (hB : FClaimB n) (hC : FClaimC n) (hA : FClaimA n) (hU : FClaimU n)
    (hS : FClaimS n) (hL : FClaimL n) (hV : FClaimV n) (hF : FClaimF n)
    (hG : ∀ k, n = k + 1 → ∀ name, hoB name → FClaimH k name) : FClaimE (n + 1) := by
  intro fnOk self e he isFn c gs r hc hfn m s rs env pre post hrel hgen hseg
  have hcore := fun h => hclaimE_core fBinds (Fr := fFgP fnOk self) (hE.at fnOk self) (hB fnOk self) (hC fnOk self) (hS fnOk self)
    (hL fnOk self) (hV fnOk self) e h he isFn c gs r hc hfn m s rs env pre post hrel hgen hseg
  cases e with
  | arr es =>
    rw [Ff] at he
    obtain ⟨ra, gs1, ha, rfl⟩ := compile_arr_ok.mp hc
    rw [Ref.eval]
    have ih := hV fnOk self es he isFn _ gs (ra, gs1) ha hfn m s rs env pre ([.callArr es.length] ++ post) hrel
      hgen (hseg.refocus (by simp))
    cases h1 : Ref.evalList n es env rs with
    | ok vs' rs1 =>
      rw [h1] at ih
      obtain ⟨s1, m1, vs, r1, hfn1, hpc1, hd1, hvs, rel1, ⟨hm1, ext1, fr1⟩, hclvs⟩ := ih
      have hlen : es.length = vs.length := by
        rw [← ref_evalList_length _ _ _ _ _ _ h1, hvs, List.length_map]
      simp only
      rw [hvs]
      exact simF_arr_tail hseg hlen r1 hfn1 hpc1 hd1 rel1 hm1 ext1 fr1 hclvs
    | err rs1 => rw [h1] at ih; exact ih
    | timeout => trivial
    | brk l rs1 => rw [h1] at ih; exact ih.elim
    | cont l rs1 => rw [h1] at ih; exact ih.elim
  | call f args =>
    cases f with
    | sym h =>
      rw [Ff] at he
      simp only [Bool.and_eq_true] at he
      rw [compile] at hc
      have hne := ff_call_ne hfn he.1.1.1 he.1.1.2 he.1.2
      simp only [hne, Bool.and_false, Bool.false_eq_true, if_false, g_pure_ok] at hc
      subst hc
      have hok : okSym h = true := by
        have := he.1.2; unfold okHead at this; simp only [Bool.and_eq_true] at this; exact this.1
      cases n with
      | zero =>
        rw [Ref.eval, Ref.eval]; trivial
      | succ k => exact simF_call hA hU (hG k rfl) hok he.2 hrel hseg
    | _ =>
      rw [ff_call_nonsym (fun _ hh => by cases hh)] at he
      simp only [Bool.and_eq_true] at he
      rw [compile_call_nonsym isFn c args gs (fun _ hh => by cases hh)] at hc
      injection hc with hc; subst hc
      cases n with
      | zero => rw [Ref.eval, Ref.eval]; trivial
      | succ k => exact simF_callE hE hA hU (hG k rfl) he.1 he.2 hrel hseg
  | fn ps rest body =>
    have hfo : fnOk = true := by
      rw [Ff] at he
      simp only [Bool.and_eq_true] at he
      exact he.1.1.1.1.1
    subst hfo
    exact simF_fn ps rest body he isFn c gs r hc hrel (hgen rfl) hseg
  | defn name ps rest body =>
    have hfo : fnOk = true := by
      rw [Ff] at he
      simp only [Bool.and_eq_true] at he
      exact he.1.1.1.1.1.1.1
    subst hfo
    exact simF_defn name ps rest body he isFn c gs r hc hrel (hgen rfl) hseg
  | for_ label init test incr body =>
    rw [Ff] at he
    simp only [Bool.and_eq_true] at he
    exact fclaimE_for hE hF he.1.1.1 he.1.1.2 he.1.2 he.2 isFn c gs r hc hfn m s rs env pre post hrel hgen hseg
  | break_ _ | continue_ _ | assign _ _ | bad _ => simp [Ff] at he
  | _ => exact hcore rfl

theorem fclaims_zero : FClaimE 0 ∧ FClaimB 0 ∧ FClaimC 0 ∧ FClaimA 0 ∧ FClaimU 0 ∧ FClaimS 0 ∧ FClaimL 0
    ∧ FClaimV 0 ∧ FClaimF 0 := by
  refine ⟨fun fnOk self => hclaimE_zero (fFg fnOk self) (Ff fnOk self), fun _ _ => hclaimB_zero _, fun _ _ => hclaimC_zero _, ?_, ?_,
    fun _ _ => hclaimS_zero _, fun _ _ => hclaimL_zero _, fun _ _ => hclaimV_zero _, fun _ _ => hclaimF_zero _⟩
  · intro args hargs fo lazyAt hfo i m s rs env hrel
    rw [Ref.evalArgs]; trivial
  · intro m s₁ rs₁ env vid c vs D f₀ hrel hg hc hd hvs hlen
    rw [Ref.applyFn]; trivial

/-- the claims about lists — statement lists, arms, operands, bindings, loop iterations — consume fuel along the list:
at fuel `n` they rest on the claims about expressions below `n` -/
theorem fclaims_lists {n : Nat} (h : ∀ k, k < n → FClaimE k ∧ XClaimE k ∧ TClaimE k) :
    FClaimB n ∧ FClaimC n ∧ FClaimA n ∧ FClaimS n ∧ FClaimL n ∧ FClaimV n ∧ FClaimF n ∧ TClaimV n ∧ TClaimB n ∧ TClaimC n
      ∧ XClaimB n ∧ XClaimC n ∧ XClaimF n := by
  induction n with
  | zero =>
    obtain ⟨_, hB, hC, hA, _, hS, hL, hV, hF⟩ := fclaims_zero
    obtain ⟨tV, _, tB, tC⟩ := tclaims_zero
    obtain ⟨_, xB, xC, xF⟩ := xclaims_zero
    exact ⟨hB, hC, hA, hS, hL, hV, hF, tV, tB, tC, xB, xC, xF⟩
  | succ n ih =>
    obtain ⟨hE, xE, tE⟩ := h n (Nat.lt_succ_self n)
    obtain ⟨hB, hC, hA, hS, hL, hV, hF, tV, tB, tC, xB, xC, xF⟩ := ih fun k hk => h k (Nat.lt_succ_of_lt hk)
    exact ⟨fclaimB_succ hE hB, fclaimC_succ hE hC, fclaimA_succ hE hA, fclaimS_succ hE hS, fclaimL_succ hE hL, fclaimV_succ hE hV,
      fclaimF_succ hE hB hF, tclaimV_succ hE tV, tclaimB_succ hE xE tE tB, tclaimC_succ hE tE tC, xclaimB_succ xE xB,
      xclaimC_succ hE xE xC, xclaimF_succ hE xB xF⟩

/-- the claims about expressions (plain, inside loops, in tail position) and about applying a closure, by induction on
the reference fuel: each rests on the others at lower fuel, through the claims about lists -/
theorem fclaims_expr (n : Nat) : FClaimE n ∧ FClaimU n ∧ XClaimE n ∧ TClaimE n := by
  induction n using Nat.strongRecOn with | _ n ih => ?_
  cases n with
  | zero => exact ⟨fclaims_zero.1, fclaims_zero.2.2.2.2.1, xclaims_zero.1, tclaims_zero.2.1⟩
  | succ n =>
    obtain ⟨hE, hU, xE, tE⟩ := ih n (Nat.lt_succ_self n)
    obtain ⟨hB, hC, hA, hS, hL, hV, hF, tV, tB, tC, xB, xC, xF⟩ := fclaims_lists fun k hk =>
      have h := ih k (Nat.lt_succ_of_lt hk); ⟨h.1, h.2.2⟩
    -- a call of `force`, `apply`, `map` at this fuel runs thunks and closure bodies with less fuel
    have hG : ∀ k, n = k + 1 → ∀ name, hoB name → FClaimH k name := fun k hk => by
      subst hk; exact fclaimH (fun j hj => have h := ih j (Nat.lt_succ_of_lt hj); ⟨h.1, h.2.1⟩) hA
    have hE1 := fclaimE_succ hE hB hC hA hU hS hL hV hF hG
    have xE1 := xclaimE_succ hE1 hE hL hV xE xB xC xF
    exact ⟨hE1, fclaimU_succ tB, xE1, tclaimE_succ hE1 xE1 tV hA hU hG hL hV tB tC⟩

/-- All claims at every fuel. `xclaims`, `segment_Ff_begin` and `C02.tail_call_simulates` take this tuple (and
`fclaims_lists`, `fclaims_zero` theirs) apart by position: a new conjunct goes at the end. -/
theorem fclaims : ∀ n, FClaimE n ∧ FClaimB n ∧ FClaimC n ∧ FClaimA n ∧ FClaimU n ∧ FClaimS n ∧ FClaimL n
    ∧ FClaimV n ∧ FClaimF n ∧ TClaimV n ∧ TClaimE n ∧ TClaimB n ∧ TClaimC n
    ∧ XClaimE n ∧ XClaimB n ∧ XClaimC n ∧ XClaimF n ∧ (∀ j, j < n → FClaimE j ∧ FClaimU j) := fun n => by
  obtain ⟨hE, hU, xE, tE⟩ := fclaims_expr n
  obtain ⟨hB, hC, hA, hS, hL, hV, hF, tV, tB, tC, xB, xC, xF⟩ := fclaims_lists (n := n) fun k _ =>
    ⟨(fclaims_expr k).1, (fclaims_expr k).2.2⟩
  exact ⟨hE, hB, hC, hA, hU, hS, hL, hV, hF, tV, tE, tB, tC, xE, xB, xC, xF,
    fun j _ => ⟨(fclaims_expr j).1, (fclaims_expr j).2.1⟩⟩

theorem segment_Ff (fnOk : Bool) (self : String) (e : Expr) (he : Ff fnOk self e = true) (isFn : Nat → Bool) (c : Ctx)
    (hfn : FnameOk self c) (gs : GS) (r : (List Instr × Bool) × GS)
    (hc : (compile isFn c e).run gs = .ok r) (m : Nat → Nat) (s : St) (rs : Ref.St) (env : Nat) (pre post : List Instr)
    (hrel : RelF m s rs env) (hgen : fnOk = true → GenOk gs r.2 s) (hseg : Seg s pre r.1.1 post) (n : Nat) :
    SimF r.1.1 m s rs env (Ref.eval n e env rs) :=
  (fclaims n).1 fnOk self e he isFn c gs r hc hfn m s rs env pre post hrel hgen hseg

theorem segment_Ff_begin (fnOk : Bool) (self : String) (es : List Expr) (hne : es ≠ []) (he : FfList fnOk self es = true)
    (isFn : Nat → Bool) (c : Ctx) (hfn : FnameOk self c) (gs : GS) (r : (List Instr × Bool) × GS)
    (hc : (compileBegin isFn c es).run gs = .ok r) (m : Nat → Nat) (s : St) (rs : Ref.St) (env : Nat)
    (pre post : List Instr) (hrel : RelF m s rs env) (hgen : fnOk = true → GenOk gs r.2 s) (hseg : Seg s pre r.1.1 post)
    (n : Nat) : SimF r.1.1 m s rs env (Ref.evalBegin n es env rs) :=
  (fclaims n).2.1 fnOk self es hne he isFn c gs r hc hfn m s rs env pre post hrel hgen hseg

end ZygoVerif.Sim
