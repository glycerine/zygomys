/-
Lemmas for C14: the invariant `Inv` and its preservation by HashSet / HashDelete. Each of the two
is one `mstore` (Proofs/HashGet), so both go through `Inv.store` — the invariant after ONE bucket
has been stored, with what is left to show of the new bucket, of KeyOrder (`Lists`) and of the
counters — and so would any further mutator that rewrites one bucket. What KeyOrder owes to the
map is said about any resolver (`Lists.update`, `Lists.erase`), not about buckets.
-/
import ZygoVerif.Proofs.HashGet
namespace ZygoVerif.Hash
variable {K V : Type} {o : KeyOps K}

/-- The three pieces of bookkeeping agree:
* the Go map has one entry per code; a bucket holds only keys of its code, pairwise different
  under the language's equality, and is never empty;
* KeyOrder lists exactly the keys that resolve, once each (`koPw`, `koLive`, `rep`);
* NumKeys = total bucket length = length of KeyOrder.
(That the order is first-insertion order is the refinement theorem, not part of `Inv`.) -/
structure Inv (o : KeyOps K) (h : Hash K V) : Prop where
  codesNodup : (mcodes h.map).Nodup
  bucketCode : ∀ c b, mget h.map c = some b → ∀ e ∈ b, o.code e.1 = c
  bucketPw : ∀ c b, mget h.map c = some b → b.Pairwise (fun e f => o.keq e.1 f.1 = false)
  bucketNe : ∀ c b, mget h.map c = some b → b ≠ []
  koPw : h.keyOrder.Pairwise (fun a b => o.keq a b = false)
  koLive : ∀ k ∈ h.keyOrder, (get? o h k).isSome = true
  rep : ∀ k, (get? o h k).isSome = true → ∃ k0 ∈ h.keyOrder, o.keq k0 k = true
  numKeys_eq : h.numKeys = msum h.map
  count : msum h.map = h.keyOrder.length

theorem koRemove_sublist (ko : List K) (k : K) : (koRemove o ko k).Sublist ko := by
  rw [koRemove_eq]; exact List.eraseP_sublist

theorem koRemove_keq_false (L : KeyLaws o) (ko : List K) (k : K)
    (pw : ko.Pairwise (fun a b => o.keq a b = false)) :
    ∀ k1 ∈ koRemove o ko k, o.keq k1 k = false := by
  rw [koRemove_eq]
  exact eraseP_all_false (pw.imp fun hab => keq_excl L hab k)

/-- The resolver `g` does not tell spellings of one key apart, and `ko` lists the keys it
resolves, once each: what `Inv` says of KeyOrder, with `get?` of the hash for `g`. -/
structure Lists (o : KeyOps K) (g : K → Option V) (ko : List K) : Prop where
  congr : ∀ a b, o.keq a b = true → g a = g b
  pw : ko.Pairwise (fun a b => o.keq a b = false)
  live : ∀ k ∈ ko, (g k).isSome = true
  rep : ∀ k, (g k).isSome = true → ∃ k0 ∈ ko, o.keq k0 k = true

namespace Lists
variable {g : K → Option V} {ko : List K}

/-- a key that does not resolve differs from every listed key -/
theorem keq_false (S : Lists o g ko) (k : K) (hs : (g k).isSome = false) :
    ∀ k' ∈ ko, o.keq k' k = false := by
  intro k' hk'
  cases hq : o.keq k' k
  · rfl
  · have := S.live k' hk'
    rw [S.congr _ _ hq, hs] at this
    cases this

/-- binding `k`: it is listed last if it did not resolve, and keeps its place if it did -/
theorem update (L : KeyLaws o) (S : Lists o g ko) (k : K) (v : V) :
    Lists o (fun k' => if o.keq k k' then some v else g k')
      (if (g k).isSome then ko else ko ++ [k]) where
  congr a b hab := by simp only [keq_left_congr L hab k, S.congr a b hab]
  pw := by
    cases hs : (g k).isSome
    · simp only [Bool.false_eq_true, if_false, List.pairwise_append, List.pairwise_cons,
        List.mem_singleton]
      refine ⟨S.pw, ⟨by simp, List.Pairwise.nil⟩, ?_⟩
      intro a ha b hb; rw [hb]; exact S.keq_false k hs a ha
    · simpa using S.pw
  live k' hk' := by
    cases hq : o.keq k k'
    · simp only [Bool.false_eq_true, if_false]
      cases hs : (g k).isSome
      · simp only [hs, Bool.false_eq_true, if_false, List.mem_append, List.mem_singleton] at hk'
        rcases hk' with h1 | rfl
        · exact S.live k' h1
        · rw [L.refl] at hq; cases hq
      · simp only [hs, if_true] at hk'; exact S.live k' hk'
    · simp
  rep k' hk' := by
    cases hq : o.keq k k'
    · simp only [hq, Bool.false_eq_true, if_false] at hk'
      obtain ⟨k0, h0, hq0⟩ := S.rep k' hk'
      refine ⟨k0, ?_, hq0⟩
      split
      · exact h0
      · exact List.mem_append_left _ h0
    · cases hs : (g k).isSome
      · exact ⟨k, by simp, hq⟩
      · obtain ⟨k0, h0, hq0⟩ := S.rep k hs
        exact ⟨k0, by simpa using h0, L.trans _ _ _ hq0 hq⟩

/-- unbinding `k`: its one listed spelling goes -/
theorem erase (L : KeyLaws o) (S : Lists o g ko) (k : K) :
    Lists o (fun k' => if o.keq k k' then none else g k') (koRemove o ko k) where
  congr a b hab := by simp only [keq_left_congr L hab k, S.congr a b hab]
  pw := S.pw.sublist (koRemove_sublist _ _)
  live k' hk' := by
    have h1 := koRemove_keq_false L ko k S.pw k' hk'
    rw [keq_comm L] at h1
    simp only [h1, Bool.false_eq_true, if_false]
    exact S.live k' ((koRemove_sublist _ _).subset hk')
  rep k' hk' := by
    cases hq : o.keq k k'
    · simp only [hq, Bool.false_eq_true, if_false] at hk'
      obtain ⟨k0, h0, hq0⟩ := S.rep k' hk'
      refine ⟨k0, ?_, hq0⟩
      rw [koRemove_eq, List.mem_eraseP_of_neg]
      · exact h0
      · intro h2; have := L.trans _ _ _ (L.symm _ _ h2) hq0; simp_all
    · simp [hq] at hk'

end Lists

theorem Inv.lists (L : KeyLaws o) {h : Hash K V} (I : Inv o h) : Lists o (get? o h) h.keyOrder :=
  ⟨fun _ _ => get?_congr L h, I.koPw, I.koLive, I.rep⟩

/-- The invariant after one bucket has been stored: what is left to show of the new bucket,
of the key order and of the two counters. -/
theorem Inv.store {h h2 : Hash K V} (I : Inv o h) {c : Int} {b' : Bucket K V}
    (e : h2.map = mstore h.map c b') (hcode : ∀ x ∈ b', o.code x.1 = c)
    (hpw : b'.Pairwise (fun x y => o.keq x.1 y.1 = false))
    (S : Lists o (get? o h2) h2.keyOrder)
    (hnum : h2.numKeys = h.numKeys - (bkt h.map c).length + b'.length)
    (hlen : (h2.keyOrder.length : Int) = h.keyOrder.length - (bkt h.map c).length + b'.length) :
    Inv o h2 := by
  refine ⟨?_, ?_, ?_, ?_, S.pw, S.live, S.rep, ?_, ?_⟩
  · rw [e]; exact mcodes_mstore_nodup _ _ _ I.codesNodup
  · rw [e]; exact buckets_mstore (P := fun c b => ∀ e ∈ b, o.code e.1 = c) _ _ _ I.bucketCode
      (fun _ => hcode)
  · rw [e]; exact buckets_mstore (P := fun _ b => b.Pairwise (fun e f => o.keq e.1 f.1 = false)) _ _ _
      I.bucketPw (fun _ => hpw)
  · rw [e]; exact buckets_mstore (P := fun _ b => b ≠ []) _ _ _ I.bucketNe id
  · rw [hnum, e, msum_mstore _ _ _ I.codesNodup, I.numKeys_eq]
  · rw [hlen, e, msum_mstore _ _ _ I.codesNodup, I.count]

theorem Inv.bkt_code {h : Hash K V} (I : Inv o h) (c : Int) : ∀ e ∈ bkt h.map c, o.code e.1 = c :=
  bkt_all _ _ (fun _ he => nomatch he) (I.bucketCode c)

theorem Inv.bkt_pw {h : Hash K V} (I : Inv o h) (c : Int) :
    (bkt h.map c).Pairwise (fun e f => o.keq e.1 f.1 = false) :=
  bkt_all _ _ List.Pairwise.nil (I.bucketPw c)

theorem inv_set (L : KeyLaws o) (h : Hash K V) (k : K) (v : V) (I : Inv o h) : Inv o (set o h k v) := by
  have S := (I.lists L).update L k v
  rw [← funext (fun k' => get?_set L h k k' v), ← set_keyOrder h k v] at S
  refine I.store (congrArg Hash.map (set_eq h k v)) (bset_code _ k v (I.bkt_code _))
    (bset_pairwise L _ k v (I.bkt_pw _)) S ?_ ?_
  all_goals
    rw [set_eq, bset_length, ← get?_eq]
    cases (get? o h k).isSome <;> simp only [↓reduceIte, Bool.false_eq_true, List.length_append,
      List.length_singleton, Int.natCast_add] <;> omega

theorem inv_del (L : KeyLaws o) (h : Hash K V) (k : K) (I : Inv o h) : Inv o (del o h k) := by
  cases hs : (get? o h k).isSome
  · -- nothing to delete: the state is untouched
    rw [del_missing h k (by simpa using hs)]; exact I
  · have S := (I.lists L).erase L k
    have e := (del_eq h k).trans (if_pos hs)
    rw [← funext (fun k' => get?_del L h k k' I.bucketPw),
      show koRemove o h.keyOrder k = (del o h k).keyOrder by rw [e]] at S
    have hb := erase_length (bkt h.map (o.code k)) k (by rw [← get?_eq]; exact hs)
    obtain ⟨k0, h0, hq0⟩ := I.rep k hs
    have hko := length_eraseP_succ (p := fun a => o.keq a k) h0 hq0
    refine I.store (congrArg Hash.map e) (fun x hx => I.bkt_code _ x (List.mem_of_mem_eraseP hx))
      ((I.bkt_pw _).eraseP _) S ?_ ?_
    · rw [e]; dsimp only; omega
    · rw [e, koRemove_eq]; dsimp only; omega

end ZygoVerif.Hash
