/-
C02, "constructor freshness / aliasing": an array literal is a CONSTRUCTOR.

On the VM model (`Model/VM.lean`, `Model/Gen.lean`) and on the reference evaluator
(`Spec/RefEval.lean`): the code of `[e₁ … eₙ]` ends in `CallInstr{array, n}`; executing it
allocates a heap cell whose id is the current size of the data heap. Ids below the size are the
only ones a state can mention (`StClosed` / `RefClosed`: established for the initial states,
kept by the allocation), so the new id is mentioned by no value of the state before
(`array_literal_allocates_fresh`; on the reference side `RefClosed.not_mentions`); the old cells are not
touched; no builtin shrinks the heap (`prim_heapStep`) and `alloc` is the only source of ids, so
a later allocation never returns the id again (`array_literal_twice_distinct`). The statements about the
reference evaluator, the generator and `alloc` that need no more than these lemmas are proved where they are
audited, in `Props/C02Alias.lean`.

What is NOT proved here: that every instruction of the VM keeps `StClosed` and never shrinks the
heap (the statement is `HeapMonotoneAll`, a `def … : Prop`; it is the data-heap analogue of C03's
`wf_preserved`, an induction over the 13 mutually recursive functions of the machine). The
`alias` correspondence channel (harness/gen_alias.go) holds the end-to-end statement on the Go code.
-/
import ZygoVerif.Proofs.SimCallVM
import ZygoVerif.Proofs.PrimCases
import ZygoVerif.Spec.RefEval
set_option linter.unusedVariables false
namespace ZygoVerif.Alias
open ZygoVerif.Core ZygoVerif.VM

/-- the array id `id` occurs in the value (arrays are named by id; lists are trees of pairs) -/
def Occurs (id : Nat) : Val → Prop
  | .arr r => r = id
  | .pair a b => Occurs id a ∨ Occurs id b
  | _ => False

def ValBelow (n : Nat) : Val → Prop
  | .arr r => r < n
  | .pair a b => ValBelow n a ∧ ValBelow n b
  | _ => True

theorem ValBelow.mono {n m : Nat} (h : n ≤ m) : ∀ {v : Val}, ValBelow n v → ValBelow m v
  | .arr r, hv => Nat.lt_of_lt_of_le hv h
  | .pair a b, hv => ⟨ValBelow.mono h hv.1, ValBelow.mono h hv.2⟩
  | .nil, _ | .bool _, _ | .int _, _ | .str _, _ | .fn _, _ | .builtin _, _ | .lazy _, _ | .mark _, _ | .sym _, _ => trivial

theorem ValBelow.not_occurs {n id : Nat} (h : n ≤ id) : ∀ {v : Val}, ValBelow n v → ¬ Occurs id v
  | .arr r, hv, ho => by
    have h1 : r < n := hv
    have h2 : r = id := ho
    omega
  | .pair a b, hv, ho => by
    rcases ho with ho | ho
    · exact ValBelow.not_occurs h hv.1 ho
    · exact ValBelow.not_occurs h hv.2 ho
  | .nil, _, ho | .bool _, _, ho | .int _, _, ho | .str _, _, ho | .fn _, _, ho | .builtin _, _, ho
  | .lazy _, _, ho | .mark _, _, ho | .sym _, _, ho => ho

def HeapClosed (h : DataHeap) : Prop := ∀ cell ∈ h.arrs, ∀ v ∈ cell, ValBelow h.arrs.length v

theorem alloc_id (h : DataHeap) (xs : List Val) : (h.alloc xs).1 = .arr h.arrs.length := rfl
theorem alloc_arrs (h : DataHeap) (xs : List Val) : (h.alloc xs).2.arrs = h.arrs ++ [xs] := rfl
theorem alloc_length (h : DataHeap) (xs : List Val) : (h.alloc xs).2.arrs.length = h.arrs.length + 1 := by
  simp [alloc_arrs]

theorem alloc_get_new (h : DataHeap) (xs : List Val) : (h.alloc xs).2.get h.arrs.length = xs := by
  simp [DataHeap.get, alloc_arrs]

theorem alloc_get_old (h : DataHeap) (xs : List Val) {r : Nat} (hr : r < h.arrs.length) :
    (h.alloc xs).2.get r = h.get r := by
  simp [DataHeap.get, alloc_arrs, List.getD_eq_getElem?_getD, List.getElem?_append_left hr]

/-- the id `alloc` returns names no cell of the heap before -/
theorem alloc_fresh (h : DataHeap) (xs : List Val) : h.arrs[h.arrs.length]? = none := by simp

theorem heapClosed_alloc {h : DataHeap} (hh : HeapClosed h) {xs : List Val}
    (hx : ∀ v ∈ xs, ValBelow h.arrs.length v) : HeapClosed (h.alloc xs).2 := by
  intro cell hc v hv
  rw [alloc_length]
  rw [alloc_arrs] at hc
  rcases List.mem_append.mp hc with hc | hc
  · exact ValBelow.mono (Nat.le_succ _) (hh cell hc v hv)
  · rw [List.mem_singleton] at hc
    subst hc
    exact ValBelow.mono (Nat.le_succ _) (hx v hv)

theorem set_length (h : DataHeap) (r : Nat) (xs : List Val) : (h.set r xs).arrs.length = h.arrs.length := by
  simp [DataHeap.set]

/-- Every builtin of the core language leaves the heap it found, that heap after ONE `alloc`, or that heap
after ONE `set` of a cell (`aset`): it never drops or renumbers a cell (`Core.prim_keeps`, of no property at all). -/
theorem prim_heapStep (name : String) (args : List Val) (h : DataHeap) (v : Val) (h' : DataHeap)
    (hp : prim name args h = some (v, h')) : HeapStep (fun _ => True) h h' :=
  (prim_keeps ⟨trivial, fun _ => trivial, fun _ => trivial, fun _ => trivial, fun _ => trivial,
    fun _ _ => ⟨fun _ => ⟨trivial, trivial⟩, fun _ => trivial⟩⟩ (fun _ _ => trivial) (fun _ _ _ => trivial) hp).2

/-- every array id held anywhere in the machine state — data stack, variables of every scope, cells of
the heap, memoised values of lazy arguments, constants in the code of every function — is allocated -/
structure StClosed (s : St) : Prop where
  heap : HeapClosed s.heap
  data : ∀ v, some v ∈ s.data → ValBelow s.heap.arrs.length v
  scopes : ∀ sc ∈ s.scopes, ∀ p ∈ sc.vars, ValBelow s.heap.arrs.length p.2
  lazies : ∀ lz ∈ s.lazies, ∀ v, lz.value = some v → ValBelow s.heap.arrs.length v
  code : ∀ f ∈ s.fns, ∀ v, Instr.push v ∈ f.code → ValBelow s.heap.arrs.length v

def Mentions (s : St) (id : Nat) : Prop :=
  (∃ v, some v ∈ s.data ∧ Occurs id v) ∨ (∃ sc ∈ s.scopes, ∃ p ∈ sc.vars, Occurs id p.2)
    ∨ (∃ cell ∈ s.heap.arrs, ∃ v ∈ cell, Occurs id v) ∨ (∃ lz ∈ s.lazies, ∃ v, lz.value = some v ∧ Occurs id v)
    ∨ (∃ f ∈ s.fns, ∃ v, Instr.push v ∈ f.code ∧ Occurs id v)

theorem StClosed.not_mentions {s : St} (hc : StClosed s) {id : Nat} (hid : s.heap.arrs.length ≤ id) : ¬ Mentions s id := by
  intro hm
  rcases hm with ⟨v, hv, ho⟩ | ⟨sc, hsc, p, hp, ho⟩ | ⟨cell, hcell, v, hv, ho⟩ | ⟨lz, hlz, v, hv, ho⟩ | ⟨f, hf, v, hv, ho⟩
  · exact ValBelow.not_occurs hid (hc.data v hv) ho
  · exact ValBelow.not_occurs hid (hc.scopes sc hsc p hp) ho
  · exact ValBelow.not_occurs hid (hc.heap cell hcell v hv) ho
  · exact ValBelow.not_occurs hid (hc.lazies lz hlz v hv) ho
  · exact ValBelow.not_occurs hid (hc.code f hf v hv) ho

/-- the initial machine state (no array exists, the globals are builtins and nil) is closed -/
theorem stClosed_init : StClosed initSt := by
  refine ⟨?_, ?_, ?_, ?_, ?_⟩
  · intro cell hc; cases hc
  · intro v hv; cases hv
  · intro sc hsc p hp
    simp only [initSt, List.mem_singleton] at hsc
    subst hsc
    simp only [List.mem_append, List.mem_cons, List.mem_map, List.not_mem_nil, or_false] at hp
    rcases hp with (rfl | rfl) | ⟨n, _, rfl⟩ <;> trivial
  · intro lz hlz; cases hlz
  · intro f hf v hv
    simp only [initSt, List.mem_cons, List.not_mem_nil, or_false] at hf
    rcases hf with rfl | rfl <;> simp at hv

/-- the state after the constructor call: one new cell, its id on the stack over `D`, next instruction -/
def afterLiteral (s : St) (D : List (Option Val)) (vs : List Val) : St :=
  { s with heap := (s.heap.alloc vs).2, data := some (.arr s.heap.arrs.length) :: D, pc := s.pc + 1 }

/-- Executing the last instruction of an array literal (the element values `vs` are on the data stack,
last on top): the machine allocates — for every amount of fuel ≥ 3 and every state. -/
theorem exec_callArr (f : Nat) (vs : List Val) (D : List (Option Val)) (s : St)
    (hd : s.data = vs.reverse.map some ++ D) :
    (exec (f + 3) (.callArr vs.length)).run s = (.ok (), afterLiteral s D vs) := by
  rw [exec, Sim.run_callUser_fo f "array" (by decide) vs D s hd]
  have hfo : Sim.foResult "array" vs (Sim.inBuiltin s D)
      = (.ok (s.heap.alloc vs).1, { Sim.inBuiltin s D with heap := (s.heap.alloc vs).2 }) := by
    unfold Sim.foResult
    rw [if_neg (by decide), Sim.prim_array]
    rfl
  rw [hfo]
  rfl

/-- (VM model) In a closed state, executing the constructor call of an
array literal pushes an array id that NO value of the state before mentions — not the data stack, not a
variable of any scope (live or captured), not a cell of the heap, not a memoised lazy argument, not a constant
in any compiled function —, whose cell holds exactly the element values; every old cell is unchanged; the new
state is closed again (so the next allocation is fresh too). -/
theorem array_literal_allocates_fresh (f : Nat) (vs : List Val) (D : List (Option Val)) (s : St)
    (hd : s.data = vs.reverse.map some ++ D) (hc : StClosed s) :
    ∃ s', (exec (f + 3) (.callArr vs.length)).run s = (.ok (), s')
      ∧ s'.data = some (.arr s.heap.arrs.length) :: D
      ∧ ¬ Mentions s s.heap.arrs.length
      ∧ s'.heap.get s.heap.arrs.length = vs
      ∧ (∀ r, r < s.heap.arrs.length → s'.heap.get r = s.heap.get r)
      ∧ s'.heap.arrs.length = s.heap.arrs.length + 1
      ∧ StClosed s' := by
  refine ⟨afterLiteral s D vs, exec_callArr f vs D s hd, rfl, hc.not_mentions (Nat.le_refl _),
    alloc_get_new _ _, fun r hr => alloc_get_old _ _ hr, alloc_length _ _, ?_⟩
  have hvs : ∀ v ∈ vs, ValBelow s.heap.arrs.length v := by
    intro v hv
    apply hc.data v
    rw [hd]
    exact List.mem_append_left _ (List.mem_map.mpr ⟨v, List.mem_reverse.mpr hv, rfl⟩)
  have hlen : (afterLiteral s D vs).heap.arrs.length = s.heap.arrs.length + 1 := alloc_length _ _
  refine ⟨heapClosed_alloc hc.heap hvs, ?_, ?_, ?_, ?_⟩
  · intro v hv
    rw [hlen]
    simp only [afterLiteral, List.mem_cons, Option.some.injEq] at hv
    rcases hv with rfl | hv
    · exact Nat.lt_succ_self _
    · exact ValBelow.mono (Nat.le_succ _) (hc.data v (by rw [hd]; exact List.mem_append_right _ hv))
  · intro sc hsc p hp; rw [hlen]; exact ValBelow.mono (Nat.le_succ _) (hc.scopes sc hsc p hp)
  · intro lz hlz v hv; rw [hlen]; exact ValBelow.mono (Nat.le_succ _) (hc.lazies lz hlz v hv)
  · intro g hg v hv; rw [hlen]; exact ValBelow.mono (Nat.le_succ _) (hc.code g hg v hv)

/-- Two executions of (the constructor call of) an array literal — the same code, e.g. one call site run
twice — yield different arrays whenever the heap did not shrink in between. -/
theorem array_literal_twice_distinct (f g : Nat) (vs ws : List Val) (D E : List (Option Val)) (s t : St)
    (hd : s.data = vs.reverse.map some ++ D) (he : t.data = ws.reverse.map some ++ E)
    (hmono : (afterLiteral s D vs).heap.arrs.length ≤ t.heap.arrs.length) :
    ∃ s' t', (exec (f + 3) (.callArr vs.length)).run s = (.ok (), s')
      ∧ (exec (g + 3) (.callArr ws.length)).run t = (.ok (), t')
      ∧ s'.data.head? ≠ t'.data.head? := by
  refine ⟨_, _, exec_callArr f vs D s hd, exec_callArr g ws E t he, ?_⟩
  have h1 : (afterLiteral s D vs).heap.arrs.length = s.heap.arrs.length + 1 := alloc_length _ _
  simp only [afterLiteral, List.head?_cons, ne_eq, Option.some.injEq, Val.arr.injEq]
  omega

/-- The full monotonicity statement (not proved): no function of the machine ever shrinks the heap or
leaves a closed state unclosed. With it the hypothesis `hmono` above holds between any two executions. -/
def HeapMonotoneAll : Prop :=
  ∀ (fuel : Nat) (i : Instr) (s : St), StClosed s →
    s.heap.arrs.length ≤ ((exec fuel i).run s).2.heap.arrs.length ∧ StClosed ((exec fuel i).run s).2

/-- non-vacuity: the initial state with two values pushed is closed and fits the hypotheses -/
example : ∃ s' : St, (exec 3 (.callArr 2)).run { initSt with data := [some (.int 0#64), some (.int 1#64)] } = (.ok (), s')
    ∧ s'.data = [some (.arr 0)] ∧ s'.heap.get 0 = [.int 1#64, .int 0#64] := by
  have hc : StClosed { initSt with data := [some (.int 0#64), some (.int 1#64)] } :=
    { stClosed_init with data := by intro v hv; simp at hv; rcases hv with rfl | rfl <;> trivial }
  obtain ⟨s', h1, h2, _, h4, _⟩ := array_literal_allocates_fresh 0 [.int 1#64, .int 0#64] [] _ rfl hc
  exact ⟨s', h1, h2, h4⟩

/-- every array id held in the reference state — variables of every frame, heap cells, memoised thunks — is allocated -/
structure RefClosed (s : Ref.St) : Prop where
  heap : HeapClosed s.heap
  frames : ∀ fr ∈ s.frames, ∀ p ∈ fr.vars, ValBelow s.heap.arrs.length p.2
  thunks : ∀ th ∈ s.thunks, ∀ v, th.value = some v → ValBelow s.heap.arrs.length v

def RefMentions (s : Ref.St) (id : Nat) : Prop :=
  (∃ fr ∈ s.frames, ∃ p ∈ fr.vars, Occurs id p.2) ∨ (∃ cell ∈ s.heap.arrs, ∃ v ∈ cell, Occurs id v)
    ∨ (∃ th ∈ s.thunks, ∃ v, th.value = some v ∧ Occurs id v)

theorem RefClosed.not_mentions {s : Ref.St} (hc : RefClosed s) {id : Nat} (hid : s.heap.arrs.length ≤ id) : ¬ RefMentions s id := by
  intro hm
  rcases hm with ⟨fr, hfr, p, hp, ho⟩ | ⟨cell, hcell, v, hv, ho⟩ | ⟨th, hth, v, hv, ho⟩
  · exact ValBelow.not_occurs hid (hc.frames fr hfr p hp) ho
  · exact ValBelow.not_occurs hid (hc.heap cell hcell v hv) ho
  · exact ValBelow.not_occurs hid (hc.thunks th hth v hv) ho

theorem refClosed_init : RefClosed Ref.initSt := by
  refine ⟨?_, ?_, ?_⟩
  · intro cell hc; cases hc
  · intro fr hfr p hp
    simp only [Ref.initSt, List.mem_singleton] at hfr
    subst hfr
    simp only [List.mem_append, List.mem_cons, List.mem_map, List.not_mem_nil, or_false] at hp
    rcases hp with (rfl | rfl) | ⟨n, _, rfl⟩ <;> trivial
  · intro th hth; cases hth

def constLit (es : List Expr) : Prop := ∀ e ∈ es, ∃ n, e = Expr.int n

def constVals : List Expr → List Val
  | [] => []
  | .int n :: es => intOfLit n :: constVals es
  | _ :: es => constVals es

theorem ref_evalList_consts : ∀ (es : List Expr) (fuel : Nat) (env : Nat) (s : Ref.St), constLit es → es.length < fuel →
    Ref.evalList fuel es env s = .ok (constVals es) s
  | [], fuel, env, s, _, hf => by
    obtain ⟨k, rfl⟩ : ∃ k, fuel = k + 1 := ⟨fuel - 1, by simp at hf; omega⟩
    rw [Ref.evalList]
    · rfl
    · simp
  | e :: es, fuel, env, s, hc, hf => by
    obtain ⟨k, rfl⟩ : ∃ k, fuel = k + 2 := ⟨fuel - 2, by simp at hf; omega⟩
    obtain ⟨n, rfl⟩ := hc e List.mem_cons_self
    have ih := ref_evalList_consts es (k + 1) env s (fun e he => hc e (List.mem_cons_of_mem _ he)) (by simp at hf; omega)
    rw [Ref.evalList, Ref.eval]
    simp only [ih, constVals]

/-- non-vacuity: `[0 0]` is a constant literal -/
example : constLit [.int 0, .int 0] := by
  intro e he
  simp at he
  exact ⟨0, he⟩

end ZygoVerif.Alias
