/-
Reachability in a directed graph and the certificate lemma used by C08: a set that contains
the roots and is closed under the edge relation contains every node that any path from a
root can reach. Core Lean only.

The graph arrives from the extractor as an adjacency table `(source, label, target mask)`
(bit i of the mask = node i); `EdgeIn keep adj a b` is the edge relation it denotes once the
labels rejected by `keep` are dropped. Sets of nodes are `Nat` bit masks, so the closure
check is ~one big-number operation per table row and `decide +kernel` evaluates it quickly.
-/
namespace ZygoVerif.Reach

/-- `Path E a c`: `c` can be reached from `a` by following zero or more `E`-edges. -/
inductive Path (E : Nat → Nat → Prop) : Nat → Nat → Prop
  | refl (a : Nat) : Path E a a
  | step {a b c : Nat} : E a b → Path E b c → Path E a c

theorem Path.trans {E : Nat → Nat → Prop} {a b c : Nat} (p : Path E a b) (q : Path E b c) :
    Path E a c := by
  induction p with
  | refl => exact q
  | step h _ ih => exact Path.step h (ih q)

theorem Path.single {E : Nat → Nat → Prop} {a b : Nat} (h : E a b) : Path E a b :=
  Path.step h (Path.refl b)

theorem Path.mono {E E' : Nat → Nat → Prop} (hsub : ∀ a b, E a b → E' a b) {a c : Nat}
    (p : Path E a c) : Path E' a c := by
  induction p with
  | refl => exact Path.refl _
  | step h _ ih => exact Path.step (hsub _ _ h) ih

/-- The general lemma: `R` holds of the roots and is preserved by every edge ⇒ `R` holds of
everything reachable from a root. Induction on the path; nothing about the size of the
graph or the length of the path is assumed. -/
theorem closed_contains_reach {E : Nat → Nat → Prop} {roots : List Nat} {R : Nat → Prop}
    (hroots : ∀ r ∈ roots, R r)
    (hclosed : ∀ a b, E a b → R a → R b)
    {r p : Nat} (hr : r ∈ roots) (path : Path E r p) : R p := by
  have start : R r := hroots r hr
  clear hr
  induction path with
  | refl => exact start
  | step hab _ ih => exact ih (hclosed _ _ hab start)

/-- the edge relation of an adjacency table, labels filtered by `keep` -/
def EdgeIn (keep : Nat → Bool) (adj : List (Nat × Nat × Nat)) (a b : Nat) : Prop :=
  ∃ e ∈ adj, e.1 = a ∧ keep e.2.1 = true ∧ e.2.2.testBit b = true

/-- a row that is kept and whose source is in `R` has all its targets in `R` -/
def rowClosed (R : Nat) (keep : Nat → Bool) (e : Nat × Nat × Nat) : Bool :=
  !keep e.2.1 || !R.testBit e.1 || (e.2.2 ||| R == R)

def closedB (R : Nat) (keep : Nat → Bool) (adj : List (Nat × Nat × Nat)) : Bool := adj.all (rowClosed R keep)

def containsB (R : Nat) (xs : List Nat) : Bool := xs.all fun x => R.testBit x

theorem mask_subset {m R : Nat} (h : (m ||| R == R) = true) (b : Nat) (hb : m.testBit b = true) :
    R.testBit b = true := by
  have e : m ||| R = R := by simpa using h
  have := Nat.testBit_or m R b
  rw [e, hb] at this
  simpa using this

theorem closedB_sound {R : Nat} {keep : Nat → Bool} {adj : List (Nat × Nat × Nat)}
    (h : closedB R keep adj = true) :
    ∀ a b, EdgeIn keep adj a b → R.testBit a = true → R.testBit b = true := by
  intro a b ⟨e, he, hsrc, hkeep, hbit⟩ ha
  have := List.all_eq_true.mp h e he
  simp only [rowClosed, Bool.or_eq_true, Bool.not_eq_true'] at this
  rcases this with (hk | hs) | hm
  · rw [hkeep] at hk; cases hk
  · rw [hsrc, ha] at hs; cases hs
  · exact mask_subset hm b hbit

/-- From a checked certificate: every node that a path from a root reaches is in the mask. -/
theorem reach_in_cert {R : Nat} {keep : Nat → Bool} {adj : List (Nat × Nat × Nat)} {roots : List Nat}
    (hroots : containsB R roots = true) (hclosed : closedB R keep adj = true)
    {r p : Nat} (hr : r ∈ roots) (path : Path (EdgeIn keep adj) r p) : R.testBit p = true :=
  closed_contains_reach (R := fun n => R.testBit n = true)
    (fun x hx => List.all_eq_true.mp hroots x hx) (closedB_sound hclosed) hr path

/-- … hence no path from a root to anything outside the mask. -/
theorem no_path_of_cert {R : Nat} {keep : Nat → Bool} {adj : List (Nat × Nat × Nat)} {roots : List Nat}
    (hroots : containsB R roots = true) (hclosed : closedB R keep adj = true) :
    ∀ r ∈ roots, ∀ p, R.testBit p = false → ¬ Path (EdgeIn keep adj) r p := by
  intro r hr p hp path
  rw [reach_in_cert hroots hclosed hr path] at hp
  cases hp

/-! ### Explicit paths (for counterexamples and "the analysis has teeth" witnesses) -/

def edgeB (keep : Nat → Bool) (adj : List (Nat × Nat × Nat)) (a b : Nat) : Bool :=
  adj.any fun e => e.1 == a && keep e.2.1 && e.2.2.testBit b

theorem edgeB_sound {keep : Nat → Bool} {adj : List (Nat × Nat × Nat)} {a b : Nat}
    (h : edgeB keep adj a b = true) : EdgeIn keep adj a b := by
  obtain ⟨e, he, hc⟩ := List.any_eq_true.mp h
  simp only [Bool.and_eq_true, beq_iff_eq] at hc
  exact ⟨e, he, hc.1.1, hc.1.2, hc.2⟩

def walkB (keep : Nat → Bool) (adj : List (Nat × Nat × Nat)) (a : Nat) : List Nat → Option Nat
  | [] => some a
  | b :: rest => if edgeB keep adj a b then walkB keep adj b rest else none

theorem path_of_walk {keep : Nat → Bool} {adj : List (Nat × Nat × Nat)} {l : List Nat} {a c : Nat}
    (h : walkB keep adj a l = some c) : Path (EdgeIn keep adj) a c := by
  induction l generalizing a with
  | nil => simp only [walkB, Option.some.injEq] at h; subst h; exact Path.refl _
  | cons b rest ih =>
    simp only [walkB] at h
    split at h
    · next hab => exact Path.step (edgeB_sound hab) (ih h)
    · cases h

/-- Non-vacuity / sanity on a toy graph 0→1→2, 3→4 (masks: {1}=2, {2}=4, {4}=16): the mask
{0,1,2} = 7 is a certificate, 2 is reachable from 0, 4 is not. -/
example : containsB 7 [0] = true ∧ closedB 7 (fun _ => true) [(0,0,2),(1,0,4),(3,0,16)] = true := by decide
example : Path (EdgeIn (fun _ => true) [(0,0,2),(1,0,4),(3,0,16)]) 0 2 :=
  path_of_walk (l := [1, 2]) (by decide)
example : ¬ Path (EdgeIn (fun _ => true) [(0,0,2),(1,0,4),(3,0,16)]) 0 4 :=
  no_path_of_cert (R := 7) (roots := [0]) (by decide) (by decide) 0 (by decide) 4 (by decide)

end ZygoVerif.Reach
