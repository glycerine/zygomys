/-
The calling contract on the ERROR path: what a failing function of the mutual block leaves.

What the calling contract (Proofs/RunOut.lean) says for the outcome `err`, function by function of the VM's
mutual block (`ErrSpec`): the function leaves well-formed
tables that have only grown, the set-aside stacks as they were and the scope stack as it was
(`ErrOut`) — every evaluator that starts a nested `Run` restores the control state it captured,
and that restore is exact on the scope stack and the set-aside stacks because the nested `Run`
came back to ITS captured state (`restore_lin`, `restore_lin_force`). A host panic of a Go builtin would be turned
into an error by `CallUserFunction`'s `recover`, at a state nothing is known about; there is none from a state
without nil cells, so every specification here also assumes `NoNil` (no nil cell, a scope to bind in).
-/
import ZygoVerif.Proofs.RunSafe
namespace ZygoVerif.RunInv
open ZygoVerif.Core ZygoVerif.VM ZygoVerif.Bal ZygoVerif.Refine ZygoVerif.Sim ZygoVerif.Contain

/-- the tables are well-formed (the data stack aside: an error exit may leave padding on it) -/
def WFd (s : St) : Prop := WF { s with data := [] }

theorem WF.wfd {s : St} (h : WF s) : WFd s := h.setData [] s.pc (fun c hc => by cases hc)

theorem WFd.same {s s' : St} (h : WFd s) (h1 : s'.fns = s.fns) (h2 : s'.loops = s.loops) (h3 : s'.loopstack = s.loopstack)
    (h4 : s'.scopes = s.scopes) (h5 : s'.heap = s.heap) (h6 : s'.lazies = s.lazies) : WFd s' :=
  WF.same (s' := { s' with data := [] }) h (fun c hc => by cases hc) h1 h2 h3 h4 h5 h6

theorem WFd.restore {s : St} (h : WFd s) (st : CtlState) : WFd (restoreSt st s) := h.same rfl rfl rfl rfl rfl rfl

/-- what a function of the mutual block leaves when it fails -/
structure ErrOut (s s' : St) : Prop where
  tab : WFd s'
  ext : TExt s s'
  susp : s'.suspended = s.suspended
  lin : s'.linear = s.linear
  lz : LzOK s'

theorem ErrOut.refl {s : St} (h : WF s) (hl : LzOK s) : ErrOut s s := ⟨h.wfd, TExt.refl s, rfl, rfl, hl⟩

theorem ErrOut.pre {s s1 s' : St} (h : ErrOut s1 s') (he : TExt s s1) (hs : s1.suspended = s.suspended)
    (hl : s1.linear = s.linear) : ErrOut s s' := ⟨h.tab, he.trans h.ext, h.susp.trans hs, h.lin.trans hl, h.lz⟩

theorem ErrOut.faultOK {b : Base} {s s' : St} {top : Act} {rest : List Act} (hr : Running b s top rest) (h : ErrOut s s') :
    FaultOK b s s' := ⟨h.tab, h.ext, h.susp, by rw [h.lin]; exact hr.lin, h.lz⟩

/-- the error specifications of the functions of the mutual block, at one fuel; read off `Spec n` (Proofs/RunOut.lean)
by `Spec.errSpec` -/
structure ErrSpec (n : Nat) : Prop where
  exec : ∀ (b : Base) (s s' : St) (top : Act) (rest : List Act) (i : Instr), NoNil s → WF s → Running b s top rest →
    (fnOf s s.curfunc).code[s.pc.toNat]? = some i → (exec n i).run s = (.error .err, s') → FaultOK b s s'
  resolved : ∀ (s s' : St) (f : Val) (args : List Expr), NoNil s → WF s → okLs args = true →
    (callResolved n f args).run s = (.error .err, s') → ErrOut s s'
  loop : ∀ (b : Base) (st : CtlState) (s s' : St), NoNil s → WF s → Live b s → b.linear ≠ [] → b.pc = -2 → b.main = false →
    (runLoop n st).run s = (.error .err, s') →
    ∃ s₀ s₁, TExt s s₀ ∧ s₀.suspended = s.suspended ∧ FaultOK b s₀ s₁ ∧ s' = park (restoreSt st s₁)
  run : ∀ (b : Base) (s s' : St) (top : Act), NoNil s → WF s → Running b s top [] → b.pc = -2 → b.main = false → b.linear = s.linear →
    (run n).run s = (.error .err, s') → ErrOut s s'
  nested : ∀ (f : Nat) (st : CtlState) (s s' : St), NoNil s → WF s → 2 ≤ f → f < s.fns.length →
    (fnOf s f).params.length = 0 → s.pc = -2 → (nested n f st).run s = (.error .err, s') →
    ∃ s2, s' = restoreSt st s2 ∧ ErrOut s s2
  eval : ∀ (e : Expr) (s s' : St), NoNil s → WF s → okL e = true → (evalCallExpr n e).run s = (.error .err, s') → ErrOut s s'
  prep : ∀ (f : Option FnObj) (i : Nat) (args : List Expr) (s s' : St), NoNil s → WF s → okLs args = true →
    (prepareArgs n f i args).run s = (.error .err, s') → ErrOut s s'
  user : ∀ (name : String) (k : Nat) (s s' : St) (tail : List Cell), NoNil s → WF s →
    s.data.map cellOf = List.replicate k .val ++ tail → (callUser n name k).run s = (.error .err, s') → ErrOut s s'
  builtin : ∀ (name : String) (args : List Val) (s s' : St), NoNil s → WF s → s.pc = -1 → (∀ a ∈ args, vok s.fns.length a = true) →
    (builtin n name args).run s = (.error .err, s') → ErrOut s s'
  apply : ∀ (f : Val) (args : List Val) (s s' : St), NoNil s → WF s → s.pc = -1 → vok s.fns.length f = true →
    (∀ a ∈ args, vok s.fns.length a = true) → (applyFn n f args).run s = (.error .err, s') → ErrOut s s'
  mapArr : ∀ (f : Val) (r i k : Nat) (s s' : St), NoNil s → WF s → s.pc = -1 → vok s.fns.length f = true →
    (mapArr n f r i k).run s = (.error .err, s') → ErrOut s s'
  mapList : ∀ (f l : Val) (s s' : St), NoNil s → WF s → s.pc = -1 → vok s.fns.length f = true → vok s.fns.length l = true →
    (mapList n f l).run s = (.error .err, s') → ErrOut s s'
  force : ∀ (id : Nat) (s s' : St), NoNil s → WF s → (forceLazy n id).run s = (.error .err, s') → ErrOut s s'

theorem callFunction_err (f k : Nat) (s s' : St) (hw : WF s) (hlz : LzOK s) (h : (callFunction f k).run s = (.error .err, s')) :
    ErrOut s s' := by
  obtain ⟨ht, h2, h1, h3⟩ := callFunction_tab f k s s' _ h
  exact ⟨hw.wfd.same ht.fns ht.loops h3 ht.scopes ht.heap ht.lazies, TExt.same ht.fns ht.loops, h1, h2, hlz.same ht.lazies⟩

/-- the restore of a nested evaluation that came back with the scope stack and the set-aside
stacks of the state captured -/
theorem restore_lin (s s2 : St) (hl : s.linear <:+ s2.linear) (hs : s2.suspended = s.suspended) :
    (restoreSt (captureOf s) s2).linear = s.linear ∧ (restoreSt (captureOf s) s2).suspended = s.suspended := by
  obtain ⟨h1, h2⟩ := restore_scopeStacks (captureOf s) s2 s2.linear s.suspended (hs ▸ List.suffix_refl _) rfl
  exact ⟨(congrArg (truncate · s.linear.length) h1).trans (truncate_of_suffix _ _ hl), h2⟩

/-- … and of a lazy force, whose nested evaluation ran with the live stack set aside -/
theorem restore_lin_force (s s2 : St) (hs : s2.suspended = s.linear :: s.suspended) :
    (restoreSt (captureOf s) s2).linear = s.linear ∧ (restoreSt (captureOf s) s2).suspended = s.suspended := by
  obtain ⟨h1, h2⟩ := restore_scopeStacks (captureOf s) s2 s.linear s.suspended (hs ▸ List.suffix_cons _ _) rfl
  exact ⟨(congrArg (truncate · s.linear.length) h1).trans (truncate_self _), h2⟩

theorem ErrOut.setData {s s1 : St} (h : ErrOut s s1) (d : List (Option Val)) : ErrOut s { s1 with data := d } :=
  ⟨h.tab.same rfl rfl rfl rfl rfl rfl, h.ext.trans (TExt.same rfl rfl), h.susp, h.lin, h.lz.same rfl⟩

theorem ErrOut.ofKept {s s1 s' : St} (hk : Kept s s1) (h : ErrOut s1 s') : ErrOut s s' :=
  h.pre hk.ext hk.same.susp hk.same.linear

end ZygoVerif.RunInv
