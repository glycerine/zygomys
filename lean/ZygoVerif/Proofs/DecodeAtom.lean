/-
`DecodeAtom`: the cascade of recognisers as one chain (`decodeAtom_cascade`) — every classification in the
development goes through it —, which recognisers the first or the last rune of an atom rules out (`…_head`,
`uint64Re_last`, `tail_rejects`), and the classes that need no side condition. Floats: Proofs/LexFloat; names:
Proofs/LexSpacingNames.
-/
import ZygoVerif.Model.Lexer
namespace ZygoVerif.Lexer

/-- **The cascade of `DecodeAtom`** on an atom that does not end in a colon and is neither `&` nor `\`: the
recognisers in source order, the first that says yes decides. (The test `atom == ":"` of the source cannot
succeed on such an atom.) -/
theorem decodeAtom_cascade (a : List Char) (h0 : a.getLast? ≠ some ':') (h1 : a ≠ ['&']) (h2 : a ≠ ['\\']) :
    decodeAtom a =
      if boolRe a then .ok ⟨.bool, a⟩
      else if uint64Re a then .ok ⟨.uint64, a⟩
      else if decimalRe a then .ok ⟨.decimal, a⟩
      else if hexRe a then .ok ⟨.hex, a.drop 2⟩
      else if octRe a then .ok ⟨.oct, a.drop 2⟩
      else if binaryRe a then .ok ⟨.binary, a.drop 2⟩
      else if floatRe a then .ok ⟨.float, a⟩
      else if a == "NaN".toList || a == "nan".toList then .ok ⟨.float, "NaN".toList⟩
      else if infRe a then .ok ⟨.float, a⟩
      else if dotSymbolRe a then .ok ⟨.dotSymbol, a⟩
      else if builtinOpRe a then .ok ⟨.symbol, a⟩
      else if symbolRe a then .ok ⟨.symbol, a⟩
      else if charRe a then (match decodeChar a with
        | .ok c => .ok ⟨.char, c⟩
        | .error e => .error e)
      else .error .atom := by
  unfold decodeAtom
  have hc : (a.getLast? == some ':') = false := by simpa using h0
  have e1 : (a == ['&']) = false := by simpa using h1
  have e2 : (a == ['\\']) = false := by simpa using h2
  have e3 : (a == [':']) = false := by
    rw [beq_eq_false_iff_ne]; intro h; exact h0 (by rw [h]; rfl)
  simp only [hc, e1, e2, e3, Bool.false_eq_true, ↓reduceIte]
  rfl

theorem true_toList : "true".toList = ['t', 'r', 'u', 'e'] := by decide
theorem false_toList : "false".toList = ['f', 'a', 'l', 's', 'e'] := by decide

theorem boolRe_head (c : Char) (r : List Char) (h1 : c ≠ 't') (h2 : c ≠ 'f') : boolRe (c :: r) = false := by
  simp [boolRe, true_toList, false_toList, h1, h2]

theorem digThenDigU_head (c : Char) (r : List Char) (h : isDig c = false) : digThenDigU (c :: r) = false := by
  simp [digThenDigU, h]

theorem dropMinus_cons {d : Char} (h : d ≠ '-') (r : List Char) : dropMinus (d :: r) = d :: r := by
  unfold dropMinus; split
  · rename_i heq; simp only [List.cons.injEq] at heq; exact absurd heq.1 h
  · rfl

theorem decimalRe_head (c : Char) (r : List Char) (h : isDig c = false) (hm : c ≠ '-') : decimalRe (c :: r) = false := by
  have := dropMinus_cons hm r
  simp [decimalRe, this, digThenDigU_head c r h]

theorem floatRe_head (c : Char) (r : List Char) (h : isDig c = false) (hm : c ≠ '-') (hd : c ≠ '.') :
    floatRe (c :: r) = false := by
  have := dropMinus_cons hm r
  unfold floatRe
  rw [this]
  unfold floatBody
  split
  · rename_i heq; simp only [List.cons.injEq] at heq; exact absurd heq.1 hd
  · rename_i c' r' _ heq; simp only [List.cons.injEq] at heq; obtain ⟨rfl, rfl⟩ := heq; simp [h]
  · rfl

theorem based_head (c : Char) (r : List Char) (h : c ≠ '0') :
    hexRe (c :: r) = false ∧ octRe (c :: r) = false ∧ binaryRe (c :: r) = false := by
  refine ⟨?_, ?_, ?_⟩
  · unfold hexRe; split
    · rename_i heq; simp only [List.cons.injEq] at heq; exact absurd heq.1 h
    · rfl
  · unfold octRe; split
    · rename_i heq; simp only [List.cons.injEq] at heq; exact absurd heq.1 h
    · rfl
  · unfold binaryRe; split
    · rename_i heq; simp only [List.cons.injEq] at heq; exact absurd heq.1 h
    · rfl

theorem splitDots_ne_nil (a : List Char) : splitDots a ≠ [] := by
  induction a with
  | nil => simp [splitDots]
  | cons c r ih =>
    unfold splitDots
    split
    · split <;> simp
    · simp

theorem dotSymbolRe_head (c : Char) (r : List Char) (h : dotFirst c = false) (hd : c ≠ '.') : dotSymbolRe (c :: r) = false := by
  unfold dotSymbolRe
  have h1 : ¬ ((c :: r == ['.']) = true) := by
    intro heq
    have : c :: r = ['.'] := by simpa using heq
    simp only [List.cons.injEq] at this; exact hd this.1
  rw [if_neg h1]
  have hs : ∃ seg segs, splitDots (c :: r) = (c :: seg) :: segs := by
    cases hsr : splitDots r with
    | nil => exact absurd hsr (splitDots_ne_nil r)
    | cons seg segs =>
      refine ⟨seg, segs, ?_⟩
      have hcd : (c == '.') = false := by simpa using hd
      simp [splitDots, hsr, hcd]
  obtain ⟨seg, segs, hs⟩ := hs
  rw [hs]
  simp [dotSeg, h]

theorem builtinOp_heads : ∀ s ∈ builtinOps, ∀ c, s.toList.head? = some c → c ∈ ['+', '-', '=', ':', '*', '<', '>', '/', '!', '&', '|'] := by
  decide +kernel

theorem builtinOpRe_head (c : Char) (r : List Char) (h : c ∉ ['+', '-', '=', ':', '*', '<', '>', '/', '!', '&', '|']) :
    builtinOpRe (c :: r) = false := by
  unfold builtinOpRe
  rw [Bool.eq_false_iff]
  intro hany
  rw [List.any_eq_true] at hany
  obtain ⟨s, hs, heq⟩ := hany
  have : s.toList = c :: r := by simpa using heq
  exact h (builtinOp_heads s hs c (by rw [this]; rfl))

theorem symbolRe_head (c : Char) (r : List Char) (h : symFirst c = false) (h1 : c ≠ '#') (h2 : c ≠ '?') :
    symbolRe (c :: r) = false := by
  unfold symbolRe
  dsimp only
  split
  · rfl
  · rename_i c' r' heq
    split at heq
    · rename_i heq2; simp only [List.cons.injEq] at heq2; exact absurd heq2.1 h1
    · rename_i heq2; simp only [List.cons.injEq] at heq2; exact absurd heq2.1 h2
    · simp only [List.cons.injEq] at heq; obtain ⟨rfl, rfl⟩ := heq; simp [h]

theorem uint64Re_last (a : List Char) (c : Char) (h : a.getLast? = some c) (hc : c ≠ 'L') : uint64Re a = false := by
  unfold uint64Re
  have : stripSuffix? "ULL".toList a = none := by
    unfold stripSuffix?
    split
    · rename_i hcond
      exfalso
      obtain ⟨hlen, hdrop⟩ := hcond
      have h3 : "ULL".toList.length = 3 := by decide
      rw [h3] at hlen hdrop
      have hl : (a.drop (a.length - 3)).getLast? = a.getLast? := by
        rw [List.getLast?_drop]
        have : ¬ a.length ≤ a.length - 3 := by omega
        simp [this]
      rw [hdrop, h] at hl
      have : ("ULL".toList).getLast? = some 'L' := by decide
      rw [this] at hl
      exact hc (Option.some.inj hl).symm
    · rfl
  rw [this]

/-- the two tests of the cascade that look at the END of an atom, for a text whose runes all lie in a class without
`:` and `L` -/
theorem tail_rejects {a : List Char} (hne : a ≠ []) {K : Char → Bool} (ha : ∀ c ∈ a, K c = true)
    (hK : ∀ c, K c = true → c ≠ ':' ∧ c ≠ 'L') : a.getLast? ≠ some ':' ∧ uint64Re a = false := by
  have hl := List.getLast?_eq_some_getLast hne
  obtain ⟨h1, h2⟩ := hK _ (ha _ (List.getLast_mem hne))
  exact ⟨by rw [hl]; intro h; exact h1 (Option.some.inj h), uint64Re_last a _ hl h2⟩

/-- a decimal digit is one of the ten characters `Char.ofNat (48 + d)`: a fact about digits is a table of ten rows -/
theorem isDig_cases (P : Char → Prop) (hp : ∀ d, d < 10 → P (Char.ofNat (48 + d))) (c : Char) (h : isDig c = true) : P c := by
  simp only [isDig, Bool.and_eq_true, decide_eq_true_eq] at h
  have h1 : '0'.toNat ≤ c.toNat := h.1
  have h2 : c.toNat ≤ '9'.toNat := h.2
  have e : '0'.toNat = 48 ∧ '9'.toNat = 57 := by decide
  have := hp (c.toNat - 48) (by omega)
  rwa [show 48 + (c.toNat - 48) = c.toNat by omega, Char.ofNat_toNat] at this

theorem isDig_facts : ∀ c : Char, isDig c = true → c ≠ ':' ∧ c ≠ 'L' ∧ c ≠ 't' ∧ c ≠ 'f' ∧ c ≠ '&' ∧ c ≠ '\\' ∧ c ≠ '-' ∧ c ≠ '_' :=
  isDig_cases _ (by decide)

theorem isDigU_tail (c : Char) (h : isDigU c = true) : c ≠ ':' ∧ c ≠ 'L' := by
  simp only [isDigU, Bool.or_eq_true, beq_iff_eq] at h
  rcases h with h | rfl
  · exact ⟨(isDig_facts c h).1, (isDig_facts c h).2.1⟩
  · decide

/-- what `DecimalRegex` accepts: a digit, then digits and underscores, behind an optional minus sign -/
theorem decimalRe_shape (a : List Char) (h : decimalRe a = true) :
    ∃ c r, (a = c :: r ∨ a = '-' :: c :: r) ∧ isDig c = true ∧ ∀ x ∈ r, isDigU x = true := by
  have key : ∀ b, digThenDigU b = true → ∃ c r, b = c :: r ∧ isDig c = true ∧ ∀ x ∈ r, isDigU x = true := by
    intro b hb
    cases b with
    | nil => cases hb
    | cons c r =>
      simp only [digThenDigU, Bool.and_eq_true, List.all_eq_true] at hb
      exact ⟨c, r, rfl, hb.1, hb.2⟩
  unfold decimalRe dropMinus at h
  split at h
  · obtain ⟨c, r, rfl, hc, hr⟩ := key _ h
    exact ⟨c, r, Or.inr rfl, hc, hr⟩
  · obtain ⟨c, r, rfl, hc, hr⟩ := key _ h
    exact ⟨c, r, Or.inl rfl, hc, hr⟩

theorem decimalRe_of_shape (c : Char) (r : List Char) (hc : isDig c = true) (hr : ∀ x ∈ r, isDigU x = true) :
    decimalRe (c :: r) = true ∧ decimalRe ('-' :: c :: r) = true := by
  have : digThenDigU (c :: r) = true := by simp only [digThenDigU, hc, Bool.true_and, List.all_eq_true]; exact hr
  exact ⟨by rw [decimalRe, dropMinus_cons (isDig_facts c hc).2.2.2.2.2.2.1]; exact this, this⟩

/-- **decimal numerals**: whatever `DecimalRegex` accepts is a decimal token (the two recognisers tried before it
accept no such text) -/
theorem decodeAtom_of_decimalRe (a : List Char) (h : decimalRe a = true) : decodeAtom a = .ok ⟨.decimal, a⟩ := by
  obtain ⟨c, r, ha, hc, hr⟩ := decimalRe_shape a h
  obtain ⟨_, _, g3, g4, g5, g6, _, _⟩ := isDig_facts c hc
  have hall : ∀ x ∈ c :: r, isDigU x = true := by
    intro x hx
    rcases List.mem_cons.1 hx with rfl | hx
    · simp [isDigU, hc]
    · exact hr x hx
  obtain ⟨t0, t4⟩ := tail_rejects (List.cons_ne_nil c r) hall isDigU_tail
  rcases ha with rfl | rfl
  · simp only [decodeAtom_cascade _ t0 (by simp [g5]) (by simp [g6]), boolRe_head c r g3 g4, t4, h, Bool.false_eq_true,
      ↓reduceIte]
  · have hl : ('-' :: c :: r).getLast? = (c :: r).getLast? := List.getLast?_cons_cons
    have t4' : uint64Re ('-' :: c :: r) = false :=
      uint64Re_last _ _ (hl.trans (List.getLast?_eq_some_getLast (List.cons_ne_nil c r)))
        (isDigU_tail _ (hall _ (List.getLast_mem _))).2
    simp only [decodeAtom_cascade _ (by rw [hl]; exact t0) (by simp) (by simp),
      boolRe_head '-' (c :: r) (by decide) (by decide), t4', h, Bool.false_eq_true, ↓reduceIte]

theorem stripSuffix?_some (suf a body : List Char) (h : stripSuffix? suf a = some body) : a = body ++ suf := by
  unfold stripSuffix? at h
  split at h
  · rename_i hc
    simp only [Option.some.injEq] at h
    have := List.take_append_drop (a.length - suf.length) a
    rw [hc.2, h] at this
    exact this.symm
  · cases h

/-- **`…ULL` numerals**: whatever `Uint64Regex` accepts is a uint64 token -/
theorem decodeAtom_of_uint64Re (a : List Char) (h : uint64Re a = true) : decodeAtom a = .ok ⟨.uint64, a⟩ := by
  have hlast : a.getLast? = some 'L' := by
    unfold uint64Re at h
    split at h
    · cases h
    · rename_i body hb
      rw [stripSuffix?_some _ _ _ hb, List.getLast?_append]
      rfl
  have hb : boolRe a = false := by
    simp only [boolRe, Bool.or_eq_false_iff, beq_eq_false_iff_ne]
    constructor <;> (intro he; rw [he] at hlast; revert hlast; decide)
  simp only [decodeAtom_cascade a (by rw [hlast]; decide) (by intro he; rw [he] at hlast; revert hlast; decide)
    (by intro he; rw [he] at hlast; revert hlast; decide), hb, h, Bool.false_eq_true, ↓reduceIte]

/-- **every character literal**: `'c'` is classified as the character token `c` -/
theorem decodeAtom_char (c : Char) : decodeAtom ['\'', c, '\''] = .ok ⟨.char, [c]⟩ := by
  have hlast : (['\'', c, '\''] : List Char).getLast? = some '\'' := rfl
  have h3 := boolRe_head '\'' [c, '\''] (by decide) (by decide)
  have h4 := uint64Re_last ['\'', c, '\''] '\'' hlast (by decide)
  have h5 := decimalRe_head '\'' [c, '\''] (by decide) (by decide)
  obtain ⟨h6, h7, h8⟩ := based_head '\'' [c, '\''] (by decide)
  have h9 := floatRe_head '\'' [c, '\''] (by decide) (by decide) (by decide)
  have h10 : infRe ['\'', c, '\''] = false := by simp [infRe]
  have h11 := dotSymbolRe_head '\'' [c, '\''] (by decide) (by decide)
  have h12 := builtinOpRe_head '\'' [c, '\''] (by decide)
  have h13 := symbolRe_head '\'' [c, '\''] (by decide) (by decide) (by decide)
  have e3 : ((['\'', c, '\''] : List Char) == "NaN".toList || (['\'', c, '\''] : List Char) == "nan".toList) = false := by
    have a1 : "NaN".toList = ['N', 'a', 'N'] := by decide
    have a2 : "nan".toList = ['n', 'a', 'n'] := by decide
    simp [a1, a2]
  rw [decodeAtom_cascade _ (by rw [hlast]; decide) (by simp) (by simp)]
  simp only [e3, h3, h4, h5, h6, h7, h8, h9, h10, h11, h12, h13, Bool.false_eq_true, ↓reduceIte]
  simp [charRe, decodeChar]

end ZygoVerif.Lexer
