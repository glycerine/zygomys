/-
Two things `LexNextRune` leaves alone, proved in one walk over its branches (`framed_stepMode`): it never looks at its
token queue, only appends to it — so `step` (hence `feed`) commutes with putting tokens in front of the queue
(`feed_pre`; Proofs/ReadEager: lazy = eager lexing), and the queue after a feed is the queue before it followed by the
new tokens; and it touches the look-back ring only at its entry — whatever the mode, the ring after `stepMode` is the
ring before it (`ringOf_stepMode`; Proofs/LexRing: after any text the last rune of the ring is the last rune fed).
-/
import ZygoVerif.Model.Lexer
namespace ZygoVerif.Lexer

def pre (q : List Token) (s : LexCore) : LexCore := { s with tokens := q ++ s.tokens }

def Outcome.pre (q : List Token) : Outcome LexCore → Outcome LexCore
  | .ok s => .ok (Lexer.pre q s)
  | .err e s => .err e (Lexer.pre q s)

@[simp] theorem pre_buffer (q : List Token) (s : LexCore) : (pre q s).buffer = s.buffer := rfl
@[simp] theorem pre_state (q : List Token) (s : LexCore) : (pre q s).state = s.state := rfl

theorem appendToken_pre (q : List Token) (s : LexCore) (t : Token) :
    appendToken (pre q s) t = pre q (appendToken s t) := by
  simp [appendToken, pre, List.append_assoc]

theorem twoback_pre (q : List Token) (s : LexCore) : twoback (pre q s) = twoback s := rfl

theorem dumpBuffer_pre (q : List Token) (s : LexCore) : dumpBuffer (pre q s) = (dumpBuffer s).pre q := by
  unfold dumpBuffer
  simp only [pre_buffer]
  by_cases h : s.buffer.isEmpty = true
  · simp [h, Outcome.pre]
  · simp only [h]
    cases decodeAtom s.buffer <;> simp [Outcome.pre, appendToken, pre, List.append_assoc]

theorem dumpAs_pre (q : List Token) (s : LexCore) (t : TokType) : dumpAs (pre q s) t = pre q (dumpAs s t) := by
  simp [dumpAs, appendToken, pre, List.append_assoc]

theorem thenDump_pre (q : List Token) (s : LexCore) (k k' : LexCore → Outcome LexCore)
    (hk : ∀ x, k (pre q x) = (k' x).pre q) : thenDump (pre q s) k = (thenDump s k').pre q := by
  unfold thenDump
  rw [dumpBuffer_pre]
  cases dumpBuffer s with
  | ok s' => simpa [Outcome.pre] using hk s'
  | err e s' => rfl

theorem writeRune_pre (q : List Token) (s : LexCore) (r : Char) : writeRune (pre q s) r = (writeRune s r).pre q := rfl

def RingOf (o : Outcome LexCore) (s : LexCore) : Prop :=
  match o with
  | .ok s' => s'.priorRune = s.priorRune ∧ s'.priori = s.priori
  | .err _ s' => s'.priorRune = s.priorRune ∧ s'.priori = s.priori

theorem ringOf_dumpBuffer (s : LexCore) : RingOf (dumpBuffer s) s := by
  unfold dumpBuffer
  split
  · exact ⟨rfl, rfl⟩
  · split <;> exact ⟨rfl, rfl⟩

theorem ringOf_thenDump (s : LexCore) (k : LexCore → Outcome LexCore) (hk : ∀ x, RingOf (k x) x) :
    RingOf (thenDump s k) s := by
  unfold thenDump
  have h := ringOf_dumpBuffer s
  cases hd : dumpBuffer s with
  | ok s' =>
    rw [hd] at h
    have := hk s'
    simp only [RingOf] at h ⊢
    cases hks : k s' with
    | ok s2 => rw [hks] at this; exact ⟨this.1.trans h.1, this.2.trans h.2⟩
    | err e s2 => rw [hks] at this; exact ⟨this.1.trans h.1, this.2.trans h.2⟩
  | err e s' => rw [hd] at h; exact h

theorem RingOf.of_eq {o : Outcome LexCore} {s t : LexCore} (h : RingOf o t)
    (h1 : t.priorRune = s.priorRune) (h2 : t.priori = s.priori) : RingOf o s := by
  cases o with
  | ok s' => exact ⟨h.1.trans h1, h.2.trans h2⟩
  | err e s' => exact ⟨h.1.trans h1, h.2.trans h2⟩

theorem ringOf_ok (s' s : LexCore) (h1 : s'.priorRune = s.priorRune) (h2 : s'.priori = s.priori) :
    RingOf (.ok s') s := ⟨h1, h2⟩

/-- `a` is what a piece of `LexNextRune` yields on `pre q s` and `b` what it yields on `s`: the queue in front comes
through, and the look-back ring is that of `s` -/
def Framed (q : List Token) (a b : Outcome LexCore) (s : LexCore) : Prop := a = b.pre q ∧ RingOf b s

theorem Framed.ite {q : List Token} {c : Prop} [Decidable c] {a a' b b' : Outcome LexCore} {s : LexCore}
    (h1 : Framed q a a' s) (h2 : Framed q b b' s) : Framed q (if c then a else b) (if c then a' else b') s := by
  split <;> assumption

theorem Framed.thenDump {q : List Token} {s : LexCore} {k k' : LexCore → Outcome LexCore}
    (hk : ∀ x, Framed q (k (pre q x)) (k' x) x) : Framed q (thenDump (pre q s) k) (thenDump s k') s :=
  ⟨thenDump_pre q s k k' fun x => (hk x).1, ringOf_thenDump s k' fun x => (hk x).2⟩

theorem Framed.append {q : List Token} (x s : LexCore) (t : Token) (h1 : x.priorRune = s.priorRune) (h2 : x.priori = s.priori) :
    Framed q (.ok (appendToken (pre q x) t)) (.ok (appendToken x t)) s :=
  ⟨congrArg Outcome.ok (appendToken_pre q x t), h1, h2⟩

theorem Framed.of_eq {q : List Token} {a b : Outcome LexCore} {s t : LexCore} (h : Framed q a b t)
    (h1 : t.priorRune = s.priorRune) (h2 : t.priori = s.priori) : Framed q a b s := ⟨h.1, h.2.of_eq h1 h2⟩

/- The step functions are trees of `if`s and `thenDump`s with a state at each leaf; the proofs below walk the tree: a
branch, a flush, a leaf that appends a token, or a leaf where both sides agree by `rfl`. -/

theorem framed_stepNormal (q : List Token) (s : LexCore) (r : Char) :
    Framed q (stepNormal (pre q s) r) (stepNormal s r) s := by
  unfold stepNormal
  repeat' first
    | apply Framed.ite
    | (apply Framed.thenDump; intro _)
    | exact Framed.append _ _ _ rfl rfl
    | exact ⟨rfl, rfl, rfl⟩
  · exact Framed.append { s with state := .backtickString } s _ rfl rfl
  · exact (Framed.thenDump (s := { s with linenum := s.linenum + 1 }) fun _ => ⟨rfl, ringOf_ok _ _ rfl rfl⟩).of_eq rfl rfl

theorem framed_stepBuiltin (q : List Token) (s : LexCore) (r : Char) :
    Framed q (stepBuiltin (pre q s) r) (stepBuiltin s r) s := by
  unfold stepBuiltin
  apply Framed.ite
  · exact ⟨rfl, rfl, rfl⟩
  apply Framed.ite
  · exact ⟨rfl, rfl, rfl⟩
  apply Framed.ite
  · exact Framed.append { s with state := .normal } s _ rfl rfl
  · have := (framed_stepNormal q (appendToken { s with state := .normal } ⟨.symbol, [s.prevrune]⟩) r).of_eq
      (s := s) rfl rfl
    rwa [← appendToken_pre] at this

theorem framed_stepMinusDot (q : List Token) (s : LexCore) (r : Char) :
    Framed q (stepMinusDot (pre q s) r) (stepMinusDot s r) s := by
  unfold stepMinusDot
  apply Framed.ite
  · exact ⟨rfl, rfl, rfl⟩
  · have h2 : ({ appendToken (pre q { s with state := Mode.normal }) ⟨.symbol, ['-']⟩ with
          buffer := (appendToken (pre q { s with state := Mode.normal }) ⟨.symbol, ['-']⟩).buffer ++ ['.'] } : LexCore) =
        pre q { appendToken { s with state := Mode.normal } ⟨.symbol, ['-']⟩ with
          buffer := (appendToken { s with state := Mode.normal } ⟨.symbol, ['-']⟩).buffer ++ ['.'] } := by
      rw [appendToken_pre q { s with state := .normal } ⟨.symbol, ['-']⟩]; rfl
    have := (framed_stepNormal q { appendToken { s with state := Mode.normal } ⟨.symbol, ['-']⟩ with
      buffer := (appendToken { s with state := Mode.normal } ⟨.symbol, ['-']⟩).buffer ++ ['.'] } r).of_eq (s := s) rfl rfl
    rw [← h2] at this
    exact this

theorem framed_stepFirstFwdSlash (q : List Token) (s : LexCore) (r : Char) :
    Framed q (stepFirstFwdSlash (pre q s) r) (stepFirstFwdSlash s r) s := by
  unfold stepFirstFwdSlash
  apply Framed.ite
  · exact Framed.thenDump fun _ => ⟨rfl, ringOf_ok _ _ rfl rfl⟩
  apply Framed.ite
  · exact Framed.thenDump fun x => Framed.append { x with buffer := x.buffer ++ "/*".toList, state := .commentBlock } x _ rfl rfl
  · exact (Framed.thenDump (s := { s with state := .builtinOperator, prevrune := '/' })
      fun x => framed_stepBuiltin q x r).of_eq rfl rfl

theorem framed_stepFresh (q : List Token) (s : LexCore) (r : Char) :
    Framed q (stepFresh (pre q s) r) (stepFresh s r) s := by
  unfold stepFresh
  apply Framed.ite
  · exact (Framed.thenDump (s := { s with state := .normal }) fun x => Framed.append x x _ rfl rfl).of_eq rfl rfl
  apply Framed.ite
  · refine (Framed.thenDump (s := { s with state := .normal }) fun x => ?_).of_eq rfl rfl
    have := (framed_stepNormal q (appendToken x ⟨.colonOperator, [':']⟩) r).of_eq (s := x) rfl rfl
    rwa [← appendToken_pre] at this
  · exact (Framed.thenDump (s := { s with state := .normal, buffer := s.buffer ++ [':'] })
      fun x => framed_stepNormal q x r).of_eq rfl rfl

theorem framed_hexEscapeDigit (q : List Token) (s : LexCore) (r : Char) (back : Mode) :
    Framed q (hexEscapeDigit (pre q s) r back) (hexEscapeDigit s r back) s := by
  unfold hexEscapeDigit
  cases hexDigitValue r with
  | none => exact ⟨rfl, rfl, rfl⟩
  | some d =>
    dsimp only
    repeat' first
      | apply Framed.ite
      | exact ⟨rfl, rfl, rfl⟩

theorem startHexEscape_pre (q : List Token) (s : LexCore) (r : Char) (m : Mode) :
    startHexEscape (pre q s) r m = (startHexEscape s r m).map (pre q) := by
  unfold startHexEscape
  split <;> rfl

theorem startHexEscape_ring (s s' : LexCore) (r : Char) (m : Mode) (h : startHexEscape s r m = some s') :
    s'.priorRune = s.priorRune ∧ s'.priori = s.priori := by
  unfold startHexEscape at h
  split at h
  · cases h
  · simp only [Option.some.injEq] at h; subst h; exact ⟨rfl, rfl⟩

theorem framed_stepMode (q : List Token) (s : LexCore) (r : Char) :
    Framed q (stepMode (pre q s) r) (stepMode s r) s := by
  have hesc : ∀ (m lit : Mode), Framed q
      (match startHexEscape (pre q s) r m with
        | some s' => .ok s'
        | none => match escapeChar r with
          | none => .err .escape (pre q s)
          | some c => .ok { pre q s with buffer := (pre q s).buffer ++ [c], state := lit })
      (match startHexEscape s r m with
        | some s' => .ok s'
        | none => match escapeChar r with
          | none => .err .escape s
          | some c => .ok { s with buffer := s.buffer ++ [c], state := lit }) s := by
    intro m lit
    rw [startHexEscape_pre]
    cases hh : startHexEscape s r m with
    | some s' => exact ⟨rfl, startHexEscape_ring s s' r m hh⟩
    | none => cases escapeChar r <;> exact ⟨rfl, rfl, rfl⟩
  unfold stepMode
  cases hs : s.state <;> simp only [pre_state, hs]
  case firstFwdSlash => exact framed_stepFirstFwdSlash q s r
  case freshAssignOrColon => exact framed_stepFresh q s r
  case builtinOperator => exact framed_stepBuiltin q s r
  case minusDot => exact framed_stepMinusDot q s r
  case normal => exact framed_stepNormal q s r
  case strHexEscape => exact framed_hexEscapeDigit q s r _
  case runeHexEscape => exact framed_hexEscapeDigit q s r _
  case strEscaped => exact hesc _ _
  case runeEscaped => exact hesc _ _
  case unquote =>
    apply Framed.ite
    · exact ⟨by simp [Outcome.pre, appendToken, pre, List.append_assoc], rfl, rfl⟩
    apply Framed.ite
    · have := (framed_stepNormal q { appendToken s ⟨.tilde, []⟩ with state := Mode.normal } r).of_eq (s := s) rfl rfl
      have h2 : ({ appendToken (pre q s) ⟨.tilde, []⟩ with state := Mode.normal } : LexCore) =
          pre q { appendToken s ⟨.tilde, []⟩ with state := Mode.normal } := by rw [appendToken_pre]; rfl
      rwa [← h2] at this
    · exact ⟨by simp [Outcome.pre, appendToken, pre, List.append_assoc], rfl, rfl⟩
  case runeLit =>
    apply Framed.ite
    · exact ⟨rfl, rfl, rfl⟩
    apply Framed.ite
    · have hd := dumpBuffer_pre q { s with state := Mode.runeLit, buffer := s.buffer ++ [r] }
      have hr := ringOf_dumpBuffer { s with state := Mode.runeLit, buffer := s.buffer ++ [r] }
      constructor
      · erw [hd]
        cases dumpBuffer { s with state := Mode.runeLit, buffer := s.buffer ++ [r] } <;> rfl
      · revert hr
        cases dumpBuffer { s with state := Mode.runeLit, buffer := s.buffer ++ [r] } with
        | ok s2 => intro h; exact ringOf_ok _ _ h.1 h.2
        | err e s2 => intro h; exact ringOf_ok _ _ h.1 h.2
    · exact ⟨rfl, rfl, rfl⟩
  all_goals repeat' first
    | apply Framed.ite
    | exact ⟨rfl, rfl, rfl⟩
  all_goals exact ⟨by simp [Outcome.pre, dumpAs, appendToken, pre, List.append_assoc], rfl, rfl⟩

theorem ringOf_stepMode (s : LexCore) (r : Char) : RingOf (stepMode s r) s := (framed_stepMode [] s r).2

theorem step_pre (q : List Token) (s : LexCore) (r : Char) : step (pre q s) r = (step s r).pre q := by
  unfold step
  exact (framed_stepMode q { s with priorRune := s.priorRune.set s.priori r, priori := (s.priori + 1) % 20 } r).1

def feedStep (o : Outcome LexCore) (r : Char) : Outcome LexCore :=
  match o with
  | .ok s => step s r
  | .err e s => .err e s

theorem feed_eq (o : Outcome LexCore) (rs : List Char) : feed o rs = rs.foldl feedStep o := rfl

theorem feed_nil (o : Outcome LexCore) : feed o [] = o := rfl

theorem feed_cons (o : Outcome LexCore) (r : Char) (rs : List Char) : feed o (r :: rs) = feed (feedStep o r) rs := rfl

theorem feed_ok_cons (s : LexCore) (r : Char) (rs : List Char) : feed (.ok s) (r :: rs) = feed (step s r) rs := rfl

theorem feed_append (o : Outcome LexCore) (a b : List Char) : feed o (a ++ b) = feed (feed o a) b := by
  simp [feed_eq, List.foldl_append]

theorem feed_err (e : LexErr) (s : LexCore) (rs : List Char) : feed (.err e s) rs = .err e s := by
  induction rs with
  | nil => rfl
  | cons r rs ih => rw [feed_cons]; exact ih

theorem feedStep_pre (q : List Token) (o : Outcome LexCore) (r : Char) :
    feedStep (o.pre q) r = (feedStep o r).pre q := by
  cases o with
  | ok s => exact step_pre q s r
  | err e s => rfl

theorem feed_pre (q : List Token) (o : Outcome LexCore) (rs : List Char) :
    feed (o.pre q) rs = (feed o rs).pre q := by
  induction rs generalizing o with
  | nil => rfl
  | cons r rs ih => rw [feed_cons, feed_cons, feedStep_pre, ih]

theorem step_tokens_append (s : LexCore) (r : Char) :
    ∃ new, match step s r with
      | .ok s' => s'.tokens = s.tokens ++ new
      | .err _ s' => s'.tokens = s.tokens ++ new := by
  have h := step_pre s.tokens { s with tokens := [] } r
  have hs : pre s.tokens { s with tokens := [] } = s := by simp [pre]
  rw [hs] at h
  rw [h]
  cases step { s with tokens := [] } r with
  | ok s' => exact ⟨s'.tokens, rfl⟩
  | err e s' => exact ⟨s'.tokens, rfl⟩

end ZygoVerif.Lexer
