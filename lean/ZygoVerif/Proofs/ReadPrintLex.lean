/-
Lexing printed data gives the token image `toks` (the lexer half of `read (print v) = v`), by
structural induction over lists, dotted tails and arrays nested to any depth. Every atom of the domain is a word that
`DecodeAtom` makes its token of, or a string or character literal (`reads_atom`); what follows a value is a blank or
a closing bracket (`isDelim`), which flushes the word.
-/
import ZygoVerif.Proofs.ReadPrintDefs
import ZygoVerif.Proofs.LexWord
import ZygoVerif.Proofs.LexChar
namespace ZygoVerif.ReadPrint
open ZygoVerif ZygoVerif.Lexer ZygoVerif.PrintData

/-- what follows a printed value: white space or a closing bracket -/
def isDelim (d : Char) : Bool := isBlank d || d == ')' || d == ']'

def delimTok (d : Char) : List Token := if d == ')' then [tRP] else if d == ']' then [tRS] else []

theorem flush_nil : flush [] = [] := rfl

/-- the delimiter after a value ends the pending atom and, for a bracket, queues its token -/
theorem reads_delim (b : List Char) (l d : Char) (hd : isDelim d = true) (hf : Flushable b) :
    Reads (Norm b) l [d] (flush b ++ delimTok d) (Norm []) := by
  have hc : isCloser d = true ∧ closerToks d = delimTok d := by
    simp only [isDelim, isBlank, Bool.or_eq_true, beq_iff_eq] at hd
    rcases hd with ((((rfl | rfl) | rfl) | rfl) | rfl) | rfl <;> decide
  have := reads_closer b l d hc.1 hf
  rwa [hc.2] at this

theorem reads_open (l c : Char) (hc : isBrace c = true) : Reads (Norm []) l [c] [braceTok c] (Norm []) := by
  have := reads_closer [] l c (closer_brace c hc).1 (Or.inl rfl)
  rwa [(closer_brace c hc).2] at this

theorem decodeAtom_true : decodeAtom "true".toList = .ok ⟨.bool, "true".toList⟩ := by rfl
theorem decodeAtom_false : decodeAtom "false".toList = .ok ⟨.bool, "false".toList⟩ := by rfl
theorem decodeAtom_backslash : decodeAtom ['\\'] = .ok tBS := by rfl

theorem plain_true : ∀ c ∈ "true".toList, isSpecial c = false := by decide +kernel
theorem plain_false : ∀ c ∈ "false".toList, isSpecial c = false := by decide +kernel

theorem wordText_itoa (v : Int) : WordText (itoa v) := by
  unfold itoa
  split
  · exact (wordText_signed_digits true _ ⟨natDec_ne_nil _, natDec_isDig _⟩).1
  · exact (wordText_signed_digits false _ ⟨natDec_ne_nil _, natDec_isDig _⟩).1

/-- a word that `DecodeAtom` makes the token `t` of: read as one pending atom that owes `t` -/
theorem reads_word_tok {w : List Char} {t : Token} (hw : WordText w) (hd : decodeAtom w = .ok t) (l : Char)
    (hl : canStartSignedNumberAfter l = true) :
    ∃ b ts, Flushable b ∧ ts ++ flush b = [t] ∧ Reads (Norm []) l w ts (Norm b) :=
  ⟨w, [], hw.flushable, hw.flush hd, reads_word hw l fun _ => hl⟩

/-- every atom of the domain is read as its token: queued when its last rune arrives (literals), or still in the
buffer and owed (words) -/
theorem reads_atom (ff : FloatFmt) (hlaw : FloatLaw ff) (a : Sexp) (h : okAtom a = true) (l : Char)
    (hl : canStartSignedNumberAfter l = true) :
    ∃ b ts, Flushable b ∧ ts ++ flush b = [atomTok ff a] ∧ Reads (Norm []) l (printAtom ff a) ts (Norm b) := by
  cases a with
  | uint v => exact reads_word_tok (.plain _ (by simp) (plain_ULL _ (natDec_not_special v)) ⟨_, decodeAtom_uint v⟩) (decodeAtom_uint v) l hl
  | float b sci =>
    obtain ⟨p, hv, hpr, _, _⟩ := hlaw b sci h
    show ∃ b' ts, Flushable b' ∧ ts ++ flush b' = [⟨.float, printFloat ff b sci⟩] ∧
      Reads (Norm []) l (printFloat ff b sci) ts (Norm b')
    rw [hpr]
    exact reads_word_tok (.float p hv) (decodeAtom_floatParts p hv) l hl
  | int v => exact reads_word_tok (wordText_itoa v) (decodeAtom_itoa v) l hl
  | char v => exact ⟨[], _, Or.inl rfl, rfl, reads_char v (by simpa [okAtom] using h) l⟩
  | str s raw =>
    have : raw = false := by simpa [okAtom] using h
    subst this
    exact ⟨[], _, Or.inl rfl, rfl, reads_string s l⟩
  | bool b =>
    cases b
    · exact reads_word_tok (.plain _ (by decide) plain_false ⟨_, decodeAtom_false⟩) decodeAtom_false l hl
    · exact reads_word_tok (.plain _ (by decide) plain_true ⟨_, decodeAtom_true⟩) decodeAtom_true l hl
  | sym n ct dot =>
    simp only [okAtom, Bool.and_eq_true] at h
    obtain ⟨hne, hpl, hdec⟩ := symOK_facts n h.2
    exact reads_word_tok (.plain n hne hpl ⟨_, hdec⟩) hdec l hl
  | _ => simp [okAtom] at h

theorem canStart_space : canStartSignedNumberAfter ' ' = true := canStart_lead ' ' (by simp)
theorem isDelim_space : isDelim ' ' = true := by decide
theorem isDelim_rparen : isDelim ')' = true := by decide
theorem isDelim_rsquare : isDelim ']' = true := by decide
theorem delimTok_space : delimTok ' ' = [] := rfl
theorem delimTok_rparen : delimTok ')' = [tRP] := rfl
theorem delimTok_rsquare : delimTok ']' = [tRS] := rfl

def ReadsV (ff : FloatFmt) (v : Sexp) : Prop :=
  ∀ (l d : Char), canStartSignedNumberAfter l = true → isDelim d = true →
    Reads (Norm []) l (printSexp ff v ++ [d]) (toks ff v ++ delimTok d) (Norm [])

/-- the rest of a list: its first rune `δ` is the delimiter of the element before it -/
def ReadsRest (ff : FloatFmt) (t : Sexp) : Prop :=
  ∀ (d : Char), isDelim d = true →
    ∃ δ r ts, printRest ff t = δ :: r ∧ isDelim δ = true ∧ Reads (Norm []) δ (r ++ [d]) ts (Norm []) ∧
      delimTok δ ++ ts = toksRest ff t ++ delimTok d

def ReadsElems (ff : FloatFmt) (es : List Sexp) : Prop :=
  ∀ (l : Char), canStartSignedNumberAfter l = true →
    Reads (Norm []) l (printElems ff es ++ [']']) (toksElems ff es ++ [tRS]) (Norm [])

theorem readsV_atom (ff : FloatFmt) (hlaw : FloatLaw ff) (a : Sexp) (h : okAtom a = true) : ReadsV ff a := by
  intro l d hl hd
  obtain ⟨b, ts, hf, ht, hr⟩ := reads_atom ff hlaw a h l hl
  have := Reads.trans hr (reads_delim b _ d hd hf)
  rwa [← List.append_assoc, ht, ← (okAtom_forms ff a h).1, ← (okAtom_forms ff a h).2.2.1] at this

theorem readsV_array (ff : FloatFmt) (es : List Sexp) (h : ReadsElems ff es) : ReadsV ff (.array es false) := by
  intro l d hl hd
  have := Reads.cons (reads_open l '[' (by decide))
    (Reads.trans_snoc (h '[' (canStart_lead '[' (by simp))) (reads_delim [] ']' d hd (Or.inl rfl)))
  simpa [printSexp, openBr, closeBr, toks, tLS, braceTok, flush_nil] using this

/-- the dotted end of a list: ` \ x)` -/
theorem readsRest_dotted (ff : FloatFmt) (x : Sexp) (hx : ReadsV ff x)
    (hpr : printRest ff x = " \\ ".toList ++ printSexp ff x ++ [')']) (htk : toksRest ff x = tBS :: (toks ff x ++ [tRP])) :
    ReadsRest ff x := by
  intro d hd
  have h := Reads.cons (reads_plain [] ' ' '\\' (by decide)) (Reads.cons
    (reads_delim ['\\'] '\\' ' ' isDelim_space (Or.inr ⟨tBS, decodeAtom_backslash⟩))
    (Reads.trans_snoc (hx ' ' ')' canStart_space isDelim_rparen) (reads_delim [] ')' d hd (Or.inl rfl))))
  refine ⟨' ', '\\' :: ' ' :: (printSexp ff x ++ [')']), _, by rw [hpr]; rfl, isDelim_space, h, ?_⟩
  have : flush ['\\'] = [tBS] := by decide
  simp [htk, this, delimTok_space, delimTok_rparen, flush_nil]

/-- a value and the rest of its list: the first rune of the rest is the delimiter of the value -/
theorem reads_seq (ff : FloatFmt) (h t : Sexp) (hh : ReadsV ff h) (ht : ReadsRest ff t) (l d : Char)
    (hl : canStartSignedNumberAfter l = true) (hd : isDelim d = true) :
    Reads (Norm []) l (printSexp ff h ++ printRest ff t ++ [d]) (toks ff h ++ toksRest ff t ++ delimTok d) (Norm []) := by
  obtain ⟨δ, r, ts, hpr, hδ, hrest, htok⟩ := ht d hd
  have := Reads.trans_snoc (hh l δ hl hδ) hrest
  have e1 : printSexp ff h ++ printRest ff t ++ [d] = (printSexp ff h ++ [δ]) ++ (r ++ [d]) := by rw [hpr]; simp
  rw [e1, List.append_assoc (toks ff h), ← htok, ← List.append_assoc (toks ff h)]
  exact this

theorem reads_all (ff : FloatFmt) (hlaw : FloatLaw ff) :
    (∀ v, okV v = true → ReadsV ff v) ∧ (∀ t, okTail t = true → ReadsRest ff t) ∧
    (∀ es, okList es = true → ReadsElems ff es) := by
  refine okV_induction_all ?_ (readsV_array ff) (readsV_atom ff hlaw) ?_ ?_ ?_ ?_ ?_ ?_
  · intro h t ihh iht l d hl hd
    have := Reads.cons (reads_open l '(' (by decide)) (reads_seq ff h t ihh iht '(' d (canStart_lead '(' (by simp)) hd)
    simpa [printSexp, toks, tLP, braceTok] using this
  · intro h t ihh iht d hd
    exact ⟨' ', printSexp ff h ++ printRest ff t, _, rfl, isDelim_space, reads_seq ff h t ihh iht ' ' d canStart_space hd,
      by simp [toksRest, delimTok_space]⟩
  · intro d hd
    refine ⟨')', [], _, rfl, isDelim_rparen, reads_delim [] ')' d hd (Or.inl rfl), ?_⟩
    simp [toksRest, delimTok_rparen, flush_nil]
  · exact fun es hes => readsRest_dotted ff (.array es false) (readsV_array ff es hes) rfl rfl
  · intro a ha
    obtain ⟨f1, f2, f3, f4⟩ := okAtom_forms ff a ha
    exact readsRest_dotted ff a (readsV_atom ff hlaw a ha) (by rw [f2, f1]) (by rw [f4, f3]; rfl)
  · intro l _
    have := reads_delim [] l ']' isDelim_rsquare (Or.inl rfl)
    simpa [printElems, toksElems, delimTok_rsquare, flush_nil] using this
  · intro a r iha ihr l hl
    cases r with
    | nil =>
      have := iha l ']' hl isDelim_rsquare
      simpa [printElems, toksElems, delimTok_rsquare] using this
    | cons b r =>
      have := Reads.trans_snoc (iha l ' ' hl isDelim_space) (ihr ' ' canStart_space)
      have e1 : printElems ff (a :: b :: r) ++ [']'] = (printSexp ff a ++ [' ']) ++ (printElems ff (b :: r) ++ [']']) := by
        simp [printElems]
      have e2 : toksElems ff (a :: b :: r) ++ [tRS] = toks ff a ++ delimTok ' ' ++ (toksElems ff (b :: r) ++ [tRS]) := by
        simp [toksElems, delimTok_space]
      rw [e1, e2]
      exact this

def LexV (ff : FloatFmt) (v : Sexp) : Prop :=
  ∀ (T : List Token) (l d : Char), canStartSignedNumberAfter l = true → isDelim d = true →
    Lex ⟨.normal, [], T, l⟩ (printSexp ff v ++ [d]) ⟨.normal, [], T ++ toks ff v ++ delimTok d, d⟩

def LexRest (ff : FloatFmt) (t : Sexp) : Prop :=
  ∀ (T : List Token) (d : Char), isDelim d = true →
    ∃ δ r, printRest ff t = δ :: r ∧ isDelim δ = true ∧
      Lex ⟨.normal, [], T ++ delimTok δ, δ⟩ (r ++ [d]) ⟨.normal, [], T ++ toksRest ff t ++ delimTok d, d⟩

def LexElems (ff : FloatFmt) (es : List Sexp) : Prop :=
  ∀ (T : List Token) (l : Char), canStartSignedNumberAfter l = true →
    Lex ⟨.normal, [], T, l⟩ (printElems ff es ++ [']']) ⟨.normal, [], T ++ toksElems ff es ++ [tRS], ']'⟩

theorem lexV (ff : FloatFmt) (hlaw : FloatLaw ff) : (v : Sexp) → okV v = true → LexV ff v := by
  intro v hv T l d hl hd
  have := ((reads_all ff hlaw).1 v hv l d hl hd).lex T
  rwa [lastOf_append_singleton, ← List.append_assoc] at this

theorem lexRest (ff : FloatFmt) (hlaw : FloatLaw ff) : (t : Sexp) → okTail t = true → LexRest ff t := by
  intro t ht T d hd
  obtain ⟨δ, r, ts, hpr, hδ, hrest, htok⟩ := (reads_all ff hlaw).2.1 t ht d hd
  refine ⟨δ, r, hpr, hδ, ?_⟩
  have := hrest.lex (T ++ delimTok δ)
  rwa [lastOf_append_singleton, List.append_assoc, htok, ← List.append_assoc] at this

theorem lexElems (ff : FloatFmt) (hlaw : FloatLaw ff) : (es : List Sexp) → okList es = true → LexElems ff es := by
  intro es hes T l hl
  have := ((reads_all ff hlaw).2.2 es hes l hl).lex T
  rwa [lastOf_append_singleton, ← List.append_assoc] at this

end ZygoVerif.ReadPrint
