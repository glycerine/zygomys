/-
C19 — symbols are interned consistently across interpreters sharing a table.

Model: `Model/SymTab.lean` (zygo/environment.go MakeSymbol / GenSymbol *as repaired* /
Duplicate / Clone; a family of any size shares the two tables, every member has its own
counter; reading interns through the parser's owner). Spec: `Spec/SymTab.lean`, the
property text as a decidable judge of traces. Every theorem quantifies over an arbitrary
starting family `F` whose tables are mutually inverse (`Inv`; `inv_initFamily` shows the
fresh interpreter is one) and an arbitrary list of operations `ops` on arbitrary members —
that is: all histories, all interleavings, all family sizes, all counter values (however
stale). Counters are `Nat`; 64-bit wrap-around is out of scope.
-/
import ZygoVerif.Model.SymTab
import ZygoVerif.Model.LegacySymTab
import ZygoVerif.Spec.SymTab
import ZygoVerif.Proofs.SymTab
namespace ZygoVerif.SymTab
open ZygoVerif.SymSpec (Ev Sym)

/-- **inv_step**: any operation by any member keeps `symtable` and `revsymtable` mutually
inverse. -/
theorem inv_step (F : Family) (op : Op) (hI : Inv F.tab) : Inv (step F op).1.tab :=
  step_tab makeSymbol_inv F op hI

/-- **inv_run**: … and so does every history. -/
theorem inv_run (F : Family) (ops : List Op) (hI : Inv F.tab) : Inv (run F ops).1.tab :=
  run_tab makeSymbol_inv ops F hI

theorem baseTables_sym_none (n m : Nat) (h : n < m) : alookup (baseName m) (baseTables n).sym = none := by
  induction n with
  | zero => rfl
  | succ n ih =>
    simp only [baseTables, alookup_cons]
    have : baseName m ≠ baseName (n + 1) := by
      intro e
      have := itoa_inj _ _ (List.tail_eq_of_cons_eq e)
      omega
    simp [this, ih (by omega)]

theorem baseTables_rev_none (n m : Nat) (h : n < m) : alookup m (baseTables n).rev = none := by
  induction n with
  | zero => rfl
  | succ n ih =>
    simp only [baseTables, alookup_cons]
    have : m ≠ n + 1 := by omega
    simp [this, ih (by omega)]

/-- A fresh interpreter's tables are well-formed (mutually inverse, no key twice). -/
theorem wf_initFamily (n : Nat) : Wf (initFamily n).tab := by
  show Wf (baseTables n)
  induction n with
  | zero => exact wf_empty
  | succ n ih =>
    exact wf_insert (baseTables n) (baseName (n + 1)) (n + 1) ih
      (baseTables_sym_none n (n + 1) (Nat.lt_succ_self n)) (baseTables_rev_none n (n + 1) (Nat.lt_succ_self n))

/-- The starting point of every history of the driver: a fresh interpreter with `n` base
symbols. (The *real* fresh tables are dumped by `sym base` and judged by the spec.) -/
theorem inv_initFamily (n : Nat) : Inv (initFamily n).tab := (wf_initFamily n).inv

example : ∃ F : Family, Inv F.tab ∧ F.mem ≠ [] := ⟨initFamily 3, inv_initFamily 3, by decide⟩

theorem step_mono (F : Family) (op : Op) (n : Name) (k : Nat)
    (h : alookup n F.tab.sym = some k) : alookup n (step F op).1.tab.sym = some k :=
  step_tab (P := fun t => alookup n t.sym = some k) (fun t c nm => makeSymbol_mono_sym t c nm n k) F op h

theorem run_mono (F : Family) (ops : List Op) (n : Name) (k : Nat)
    (h : alookup n F.tab.sym = some k) : alookup n (run F ops).1.tab.sym = some k :=
  run_tab (P := fun t => alookup n t.sym = some k) (fun t c nm => makeSymbol_mono_sym t c nm n k) ops F h

/-- Every symbol a history hands out is the table's binding of its name at the end. -/
theorem observed_in_final_table (F : Family) (ops : List Op) (o : Obs) (k : Nat) (name : Name)
    (ho : o ∈ (run F ops).2) (hs : o.sym? = some (k, name)) :
    alookup name (run F ops).1.tab.sym = some k := by
  induction ops generalizing F with
  | nil => simp [run_nil] at ho
  | cons op rest ih =>
    rw [run_cons] at ho ⊢
    rcases List.mem_cons.mp ho with e | hin
    · apply run_mono
      rcases step_shape F op with ⟨_, hq⟩ | ⟨c, nm, ht, hobs, _⟩
      · rw [← e, hs] at hq; cases hq
      · rw [e, hobs] at hs
        simp only [Obs.sym?, Option.some.injEq, Prod.mk.injEq] at hs
        rw [ht, ← hs.1, ← hs.2]
        exact (makeSymbol_result F.tab c nm).2
    · exact ih _ hin

/-- **same_name_same_symbol**: in any history, on any members, two symbols handed out for
the same name carry the same number. -/
theorem same_name_same_symbol (F : Family) (ops : List Op) (o₁ o₂ : Obs) (k₁ k₂ : Nat) (name : Name)
    (h₁ : o₁ ∈ (run F ops).2) (h₂ : o₂ ∈ (run F ops).2)
    (s₁ : o₁.sym? = some (k₁, name)) (s₂ : o₂.sym? = some (k₂, name)) : k₁ = k₂ := by
  have a := observed_in_final_table F ops o₁ k₁ name h₁ s₁
  have b := observed_in_final_table F ops o₂ k₂ name h₂ s₂
  rw [a] at b; exact Option.some.inj b

/-- Satisfiable, and across members: the root interns "a", a duplicate made *before* that
(stale counter) interns "a" too, and a clone reads it — one symbol. -/
example : (run (initFamily 2) [.dup 0, .mk 0 [97], .mk 1 [97], .clone 1, .read 2 [97]]).2
    = [.member 3, .sym 3 [97] false, .sym 3 [97] true, .member 3, .sym 3 [97] true] := by decide +kernel

/-- **different_names_different_symbols**: two symbols with the same number have the same
name (contrapositive: different names never yield equal symbols). -/
theorem different_names_different_symbols (F : Family) (ops : List Op) (hI : Inv F.tab)
    (o₁ o₂ : Obs) (k : Nat) (n₁ n₂ : Name)
    (h₁ : o₁ ∈ (run F ops).2) (h₂ : o₂ ∈ (run F ops).2)
    (s₁ : o₁.sym? = some (k, n₁)) (s₂ : o₂.sym? = some (k, n₂)) : n₁ = n₂ :=
  (inv_run F ops hI).sym_inj (observed_in_final_table F ops o₁ k n₁ h₁ s₁)
    (observed_in_final_table F ops o₂ k n₂ h₂ s₂)

/-- Satisfiable: a duplicate with a stale counter interning another name gets another
number (the skip loop), never the one the root just used. -/
example : (run (initFamily 2) [.dup 0, .mk 0 [97], .mk 1 [98]]).2
    = [.member 3, .sym 3 [97] false, .sym 4 [98] false] := by decide +kernel

theorem interned_has_requested_name (F : Family) (i : Nat) (name n : Name) (k : Nat) (ex : Bool)
    (h : (step F (.mk i name)).2 = .sym k n ex ∨ (step F (.read i name)).2 = .sym k n ex) : n = name := by
  rcases h with h | h
  · rcases step_shape F (.mk i name) with ⟨_, hq⟩ | ⟨c, nm, _, hobs, hkind⟩
    · rw [h] at hq; cases hq
    · rw [hobs] at h; cases h
      rcases hkind with ⟨j, e | e⟩ | ⟨j, pre, e, _⟩ <;> cases e
      rfl
  · rcases step_shape F (.read i name) with ⟨_, hq⟩ | ⟨c, nm, _, hobs, hkind⟩
    · rw [h] at hq; cases hq
    · rw [hobs] at h; cases h
      rcases hkind with ⟨j, e | e⟩ | ⟨j, pre, e, _⟩ <;> cases e
      rfl

example : (step (initFamily 2) (.mk 0 [97])).2 = .sym 3 [97] false := by decide +kernel

/-- **gensym_fresh**: whatever the tables hold and however stale the member's counter is,
the symbol returned by `GenSymbol` has a name and a number that were both absent from the
shared tables before the call. -/
theorem gensym_fresh (F : Family) (i : Nat) (pre : Name) (k : Nat) (name : Name) (ex : Bool)
    (h : (step F (.gen i pre)).2 = .sym k name ex) :
    ex = false ∧ alookup name F.tab.sym = none ∧ alookup k F.tab.rev = none := by
  rcases step_shape F (.gen i pre) with ⟨_, hq⟩ | ⟨c, nm, _, hobs, hkind⟩
  · rw [h] at hq; cases hq
  · rw [hobs] at h; cases h
    rcases hkind with ⟨j, e | e⟩ | ⟨j, p, _, hn⟩
    · cases e
    · cases e
    · exact ⟨(makeSymbol_fresh F.tab c name hn).2, hn, (makeSymbol_fresh F.tab c name hn).1⟩

example : (step (initFamily 2) (.gen 0 [103])).2 = .sym 3 [103, 51] false := by decide +kernel

/-- **gensym_distinct**: a generated symbol differs — in number and in name — from every
symbol handed out earlier in the history (by any member), hence also from every symbol
generated earlier; a later generated symbol differs from it by the same theorem applied at
the later position. -/
theorem gensym_distinct (F : Family) (hI : Inv F.tab) (before : List Op) (i : Nat) (pre : Name)
    (k : Nat) (name : Name) (ex : Bool)
    (h : (step (run F before).1 (.gen i pre)).2 = .sym k name ex)
    (o : Obs) (k' : Nat) (name' : Name) (ho : o ∈ (run F before).2) (hs : o.sym? = some (k', name')) :
    k' ≠ k ∧ name' ≠ name := by
  obtain ⟨_, hn, hk⟩ := gensym_fresh (run F before).1 i pre k name ex h
  exact (inv_run F before hI).bound_ne_absent (observed_in_final_table F before o k' name' ho hs) hn hk

/-- Satisfiable: root, duplicate and clone generate with the same prefix from the same
(stale) counter value after a script interned the first candidate name. -/
example : (run (initFamily 2) [.mk 0 [103, 52], .dup 0, .clone 0, .gen 1 [103], .gen 2 [103], .gen 0 [103]]).2
    = [.sym 3 [103, 52] false, .member 4, .member 4, .sym 5 [103, 53] false, .sym 6 [103, 54] false,
       .sym 7 [103, 55] false] := by decide +kernel

/-- The event the spec sees for an operation and what it returned. -/
def evOf : Op → Obs → Ev
  | .mk _ name, .sym k n _ => .interned name ⟨k, n⟩
  | .read _ name, .sym k n _ => .interned name ⟨k, n⟩
  | .gen _ _, .sym k n ex => .generated ⟨k, n⟩ ex
  | _, _ => .other

def evsOf (F : Family) : List Op → List Ev
  | [] => []
  | op :: rest => evOf op (step F op).2 :: evsOf (step F op).1 rest

/-- `step_shape` in the events of the spec: nothing to see and the tables as they were, or one
`makeSymbol` whose result is the event — interned under the name asked for, or generated with
name and number both new to the tables. -/
theorem evOf_shape (F : Family) (op : Op) :
    (evOf op (step F op).2 = .other ∧ (step F op).1.tab = F.tab) ∨
    ∃ c nm, (step F op).1.tab = (makeSymbol F.tab c nm).tab ∧
      (evOf op (step F op).2 = .interned nm ⟨(makeSymbol F.tab c nm).num, nm⟩ ∨
        (alookup nm F.tab.sym = none ∧ alookup (makeSymbol F.tab c nm).num F.tab.rev = none ∧
          evOf op (step F op).2 = .generated ⟨(makeSymbol F.tab c nm).num, nm⟩ false)) := by
  rcases step_shape F op with ⟨ht, hq⟩ | ⟨c, nm, ht, hobs, ⟨i, rfl | rfl⟩ | ⟨i, pre, rfl, hn⟩⟩
  · left
    refine ⟨?_, ht⟩
    cases op <;> cases h : (step F _).2 <;> simp_all [evOf, Obs.sym?]
  · exact Or.inr ⟨c, nm, ht, Or.inl (by rw [hobs]; rfl)⟩
  · exact Or.inr ⟨c, nm, ht, Or.inl (by rw [hobs]; rfl)⟩
  · obtain ⟨hk, hex⟩ := makeSymbol_fresh F.tab c nm hn
    exact Or.inr ⟨c, nm, ht, Or.inr ⟨hn, hk, by rw [hobs, hex]; rfl⟩⟩

/-- Invariant carried along a history: every symbol seen so far is bound in the table. -/
def SeenOk (t : Tables) (seen : List Sym) : Prop := ∀ s ∈ seen, alookup s.name t.sym = some s.num

theorem seenOk_makeSymbol (t : Tables) (c : Nat) (nm : Name) (seen : List Sym) (h : SeenOk t seen) :
    SeenOk (makeSymbol t c nm).tab seen :=
  fun s hs => makeSymbol_mono_sym t c nm s.name s.num (h s hs)

theorem seenOk_cons (t : Tables) (c : Nat) (nm : Name) (seen : List Sym) (h : SeenOk t seen) :
    SeenOk (makeSymbol t c nm).tab (⟨(makeSymbol t c nm).num, nm⟩ :: seen) := by
  intro s hs
  rcases List.mem_cons.mp hs with e | hin
  · rw [e]; exact (makeSymbol_result t c nm).2
  · exact seenOk_makeSymbol t c nm seen h s hin

theorem gensymFreshFrom_run (F : Family) (ops : List Op) (seen : List Sym)
    (hI : Inv F.tab) (hseen : SeenOk F.tab seen) :
    SymSpec.gensymFreshFrom seen (evsOf F ops) = true := by
  induction ops generalizing F seen with
  | nil => rfl
  | cons op rest ih =>
    simp only [evsOf]
    have hI' := inv_step F op hI
    rcases evOf_shape F op with ⟨he, ht⟩ | ⟨c, nm, ht, he | ⟨hn, hk, he⟩⟩
    · rw [he]; simp only [SymSpec.gensymFreshFrom]
      exact ih _ seen hI' (by rw [ht]; exact hseen)
    · rw [he]; simp only [SymSpec.gensymFreshFrom]
      exact ih _ _ hI' (by rw [ht]; exact seenOk_cons _ _ _ _ hseen)
    · rw [he]; simp only [SymSpec.gensymFreshFrom]
      rw [Bool.and_eq_true, Bool.and_eq_true]
      refine ⟨⟨rfl, ?_⟩, ih _ _ hI' (by rw [ht]; exact seenOk_cons _ _ _ _ hseen)⟩
      rw [List.all_eq_true]
      intro s hs
      obtain ⟨hnum, hname⟩ := hI.bound_ne_absent (hseen s hs) hn hk
      simp [Sym.same, hname, hnum]

/-- **gensym_fresh_trace**: the spec's freshness clause holds along every history. -/
theorem gensym_fresh_trace (F : Family) (ops : List Op) (hI : Inv F.tab) :
    SymSpec.gensymFresh (evsOf F ops) = true :=
  gensymFreshFrom_run F ops [] hI (fun _ h => by cases h)

theorem syms_in_final (F : Family) (ops : List Op) (s : Sym)
    (hs : s ∈ (evsOf F ops).filterMap Ev.sym?) : alookup s.name (run F ops).1.tab.sym = some s.num := by
  induction ops generalizing F with
  | nil => simp [evsOf] at hs
  | cons op rest ih =>
    rw [run_cons]
    simp only [evsOf, List.filterMap_cons] at hs
    rcases evOf_shape F op with ⟨he, _⟩ | ⟨c, nm, ht, he | ⟨_, _, he⟩⟩ <;> rw [he] at hs
    · exact ih _ hs
    all_goals
      simp only [Ev.sym?, List.mem_cons] at hs
      rcases hs with e | hin
      · apply run_mono; rw [e, ht]; exact (makeSymbol_result F.tab c nm).2
      · exact ih _ hin

theorem internedNameOk_run (F : Family) (ops : List Op) : SymSpec.internedNameOk (evsOf F ops) = true := by
  induction ops generalizing F with
  | nil => rfl
  | cons op rest ih =>
    simp only [evsOf, SymSpec.internedNameOk, List.all_cons, Bool.and_eq_true]
    refine ⟨?_, ih _⟩
    rcases evOf_shape F op with ⟨he, _⟩ | ⟨c, nm, _, he | ⟨_, _, he⟩⟩ <;> rw [he] <;> simp

/-- **model_trace_accepted**: for every history the spec's four trace clauses hold of the
model's trace — the same `SymSpec` functions that `zydrv` evaluates on the traces of the
real implementation. (The sixth clause, the table dump, is `inv_run`; the script clause is
about `==`/hash lookups, which compare numbers: `same_name_same_symbol` and
`different_names_different_symbols`.) -/
theorem model_trace_accepted (F : Family) (ops : List Op) (hI : Inv F.tab) :
    let syms := (evsOf F ops).filterMap Ev.sym?
    SymSpec.internedNameOk (evsOf F ops) = true ∧
    SymSpec.sameNameSameSymbol syms = true ∧
    SymSpec.differentNamesDifferentSymbols syms = true ∧
    SymSpec.gensymFresh (evsOf F ops) = true := by
  refine ⟨internedNameOk_run F ops, ?_, ?_, gensym_fresh_trace F ops hI⟩
  · simp only [SymSpec.sameNameSameSymbol, List.all_eq_true]
    intro a ha b hb
    have := syms_in_final F ops a ha
    have := syms_in_final F ops b hb
    by_cases e : a.name = b.name
    · simp_all [Sym.same]
    · simp [e]
  · simp only [SymSpec.differentNamesDifferentSymbols, List.all_eq_true]
    intro a ha b hb
    by_cases e : a.num = b.num
    · simp [(inv_run F ops hI).sym_inj (syms_in_final F ops a ha) (e ▸ syms_in_final F ops b hb)]
    · simp [Sym.same, e]

theorem functional_of_nodup {α β} [DecidableEq α] [BEq α] [LawfulBEq α] [BEq β] [LawfulBEq β] (l : List (α × β))
    (hnd : (l.map Prod.fst).Nodup) : SymSpec.functional l = true := by
  simp only [SymSpec.functional, List.all_eq_true]
  intro p hp q hq
  by_cases e : p.1 = q.1
  · have a := alookup_of_mem_nodup l hnd p.1 p.2 hp
    have b := alookup_of_mem_nodup l hnd q.1 q.2 hq
    rw [e, b] at a
    simp [Option.some.inj a]
  · simp [e]

/-- The spec's table clause holds of well-formed tables: each table is functional and each
is exactly the converse of the other. -/
theorem wf_tablesBijective (t : Tables) (h : Wf t) : SymSpec.tablesBijective t.sym t.rev = true := by
  simp only [SymSpec.tablesBijective, Bool.and_eq_true]
  refine ⟨⟨⟨functional_of_nodup _ h.symKeys, functional_of_nodup _ h.revKeys⟩, ?_⟩, ?_⟩
  · rw [List.all_eq_true]
    intro p hp
    have := (h.inv p.1 p.2).mp (alookup_of_mem_nodup _ h.symKeys p.1 p.2 hp)
    simpa using mem_of_alookup _ _ _ this
  · rw [List.all_eq_true]
    intro p hp
    have := (h.inv p.2 p.1).mpr (alookup_of_mem_nodup _ h.revKeys p.1 p.2 hp)
    simpa using mem_of_alookup _ _ _ this

theorem scriptEqOk_run (F : Family) (ops : List Op) : SymSpec.scriptEqOk (evsOf F ops) = true := by
  induction ops generalizing F with
  | nil => rfl
  | cons op rest ih =>
    simp only [evsOf, SymSpec.scriptEqOk, List.all_cons, Bool.and_eq_true]
    refine ⟨?_, ih _⟩
    rcases evOf_shape F op with ⟨he, _⟩ | ⟨c, nm, _, he | ⟨_, _, he⟩⟩ <;> rw [he]

/-- **judge_accepts_model**: for every history on every family that starts from well-formed
tables, the specification's judge — the function `zydrv` runs on the traces of the real
implementation — answers `ok` on the model's trace and final tables. -/
theorem judge_accepts_model (F : Family) (ops : List Op) (h : Wf F.tab) :
    SymSpec.judge (evsOf F ops) (run F ops).1.tab.sym (run F ops).1.tab.rev = .ok := by
  obtain ⟨h1, h2, h3, h4⟩ := model_trace_accepted F ops h.inv
  simp only [SymSpec.judge, h1, h2, h3, h4, scriptEqOk_run F ops,
    wf_tablesBijective _ (run_wf F ops h)]
  rfl

example : SymSpec.judge (evsOf (initFamily 2) [.mk 0 [97], .dup 0, .gen 1 [103], .gen 0 [103]])
    (run (initFamily 2) [.mk 0 [97], .dup 0, .gen 1 [103], .gen 0 [103]]).1.tab.sym
    (run (initFamily 2) [.mk 0 [97], .dup 0, .gen 1 [103], .gen 0 [103]]).1.tab.rev = .ok := by decide +kernel

/-- **eq_by_name** (`(== (str2sym a) (str2sym b))`, hash keys): the numbers of the symbols
interned for two names — by any two members, with anything in between — are equal exactly
when the names are. -/
theorem eq_by_name (F : Family) (hI : Inv F.tab) (i j : Nat) (a b : Name) (between : List Op)
    (k₁ k₂ : Nat) (n₁ n₂ : Name) (e₁ e₂ : Bool)
    (h₁ : (step F (.mk i a)).2 = .sym k₁ n₁ e₁)
    (h₂ : (step (run (step F (.mk i a)).1 between).1 (.mk j b)).2 = .sym k₂ n₂ e₂) :
    k₁ = k₂ ↔ a = b := by
  have hn₁ := interned_has_requested_name F i a n₁ k₁ e₁ (Or.inl h₁)
  have hn₂ := interned_has_requested_name _ j b n₂ k₂ e₂ (Or.inl h₂)
  subst hn₁; subst hn₂
  -- both observations belong to the history  mk i a :: between ++ [mk j b]
  let ops := Op.mk i n₁ :: (between ++ [Op.mk j n₂])
  have hobs : (run F ops).2 = (step F (.mk i n₁)).2 :: ((run (step F (.mk i n₁)).1 between).2 ++
      [(step (run (step F (.mk i n₁)).1 between).1 (.mk j n₂)).2]) := by
    simp only [ops, run_cons, run_append_single]
  have m₁ : Obs.sym k₁ n₁ e₁ ∈ (run F ops).2 := by rw [hobs, h₁]; simp
  have m₂ : Obs.sym k₂ n₂ e₂ ∈ (run F ops).2 := by rw [hobs, h₂]; simp
  constructor
  · intro e; subst e
    exact different_names_different_symbols F ops hI _ _ k₁ n₁ n₂ m₁ m₂ rfl rfl
  · intro e; subst e
    exact same_name_same_symbol F ops _ _ k₁ k₂ n₁ m₁ m₂ rfl rfl

/-- A script interns a name shaped like the next generated symbol (`(str2sym "g2")` on a
fresh table whose counter is 2 after that); the pre-fix `GenSymbol("g")` then hands the
*existing* symbol back: not fresh. -/
theorem gensym_fresh_legacy_counterexample :
    (Legacy.run (initFamily 0) [.mk 0 [103, 50], .gen 0 [103]]).2
      = [.sym 1 [103, 50] false, .sym 1 [103, 50] true] := by decide +kernel

/-- A duplicate (this is what every macro expansion runs in) generates with the counter it
copied; the original, whose counter is stale, then generates the same name, gets the same
symbol back, does not advance — and is stuck: *every* later `(gensym)` of the original
returns that one symbol. -/
theorem gensym_distinct_legacy_counterexample :
    (Legacy.run (initFamily 0) [.dup 0, .gen 1 [103], .gen 0 [103], .gen 0 [103]]).2
      = [.member 1, .sym 1 [103, 49] false, .sym 1 [103, 49] true, .sym 1 [103, 49] true] := by decide +kernel

/-- The repaired model on the same two histories. -/
example : (run (initFamily 0) [.mk 0 [103, 50], .gen 0 [103]]).2
      = [.sym 1 [103, 50] false, .sym 3 [103, 51] false] := by decide +kernel
example : (run (initFamily 0) [.dup 0, .gen 1 [103], .gen 0 [103], .gen 0 [103]]).2
      = [.member 1, .sym 1 [103, 49] false, .sym 2 [103, 50] false, .sym 3 [103, 51] false] := by decide +kernel

end ZygoVerif.SymTab
