/-
C04 — an evaluation that succeeds leaves nothing behind in the interpreter.

The property is about every control path through every compiled body. It is decided by a
typing of bytecode (`Spec/Balanced.lean`): a function is *balanced* when an annotation
(abstract state per pc) exists that the local verifier `Bal.verify` accepts. This file states

* `instr_set_covered`   — the checker's instruction type covers every Go type that implements
                          `Instruction` today (regenerated list, closed by `decide`);
* `checker_sound`       — for ANY annotation the verifier accepts (hence for `check`), every
                          execution of the function in the stack-effect machine
                          (`Model/StackEffect.lean`: each instruction pops/pushes what its
                          `Execute` does; calls obey the calling contract), of any length,
                          through any path and any number of loop iterations,
                            - never touches the caller's part of the data stack, never pops a
                              scope of the caller, leaves the address stack alone, and
                            - at `ret` has exactly ONE value on top of the caller's data stack,
                              the caller's scope depth, and (after the return) the caller's
                              address depth;
                          a top-level text that runs to its end leaves exactly one value (which
                          `Run` pops) — or nothing when it is empty (then `Run` supplies nil);
* `legacy_…_counterexample` — the code the pre-fix generator emitted for the forms of
                          DESIGN §7 "Today" is refused by the checker and really misbehaves
                          in the machine (`Model/LegacyBalance.lean`);
* the generator theorems (`gen_balanced…`) and the VM-level statements (`RunAtRest`,
  `eval_empty_nil`, `OneAtATime`) follow further down;
* `calling_contract`     — the VM model refines the stack-effect machine across nested runs;
* `run_at_rest_of_invariant`, `run_at_rest_reachable`
                        — on the VM model: from every state that satisfies the run-time invariant
                          (in particular: every state reachable from the fresh interpreter by
                          texts of the generator's grammar that returned values), a text of the
                          grammar that returns a value leaves the interpreter at rest. `RunAtRest`
                          over EVERY state at rest is not provable without that invariant and
                          stays a `def`; `OneAtATime` stays a `def` (proved of it: the depths,
                          `one_at_a_time_rest_partial`; `one_at_a_time_partial` is about the
                          layout function `asmBegin`, which `Sim.compileBegin_asm` ties to the
                          generator). Texts that end
                          in an error: Props/C04Err.lean;
* the last section is about RE-ENTRANCY: compiled code is shared by all activations and carries
  no run-time state (`code_writes_exact`, a regenerated table), and the static scope count of
  break/continue is right for every activation (`break_lands_at_activation_depth`,
  `same_pc_same_depth`, `nested_activation_depths`, `call_contract_of_verified_callee`,
  `exec_break_continue_static`).
-/
import ZygoVerif.Spec.Balanced
import ZygoVerif.Spec.AtRest
import ZygoVerif.Model.StackEffect
import ZygoVerif.Model.LegacyBalance
import ZygoVerif.Proofs.Balanced
import ZygoVerif.Proofs.GenBalanced
import ZygoVerif.Proofs.GenBalancedAll
import ZygoVerif.Proofs.VMRest
import ZygoVerif.Proofs.VMRefine
import ZygoVerif.Proofs.RunPrim
import ZygoVerif.Proofs.RunMain
import ZygoVerif.Proofs.Reentrant
import ZygoVerif.Generated.InstrSet
import ZygoVerif.Generated.CodeWrites
namespace ZygoVerif.C04
open ZygoVerif.Bal ZygoVerif.VM ZygoVerif.Core

/-! ## The checker speaks about the real instruction set -/

/-- Every Go type that implements `Instruction` today (regenerated from the source on every
run) is a constructor of the checker's instruction type. -/
theorem instr_set_covered : ∀ t ∈ Generated.InstrSet.instrTypes, t ∈ coveredGoTypes := by
  decide +kernel

/-- …and the checker has no constructor for a type that does not exist. -/
theorem instr_set_exact : ∀ t ∈ coveredGoTypes, t ∈ Generated.InstrSet.instrTypes := by
  decide +kernel

/-! ## Soundness of the checker -/

/-- **checker_sound.** `f` with an annotation the verifier accepts; an execution that starts
at pc 0 with the arguments (`f.entryCount` values) on top of the caller's data stack `D`,
`S` scopes and `A` return addresses (the callee's own return address included). Then at every
reachable state `c`:
1. `D` is still there, underneath (`c.data = own ++ D`): nothing of the caller was popped;
2. no scope of the caller was popped (`S ≤ c.sc`) and the address stack is as at entry;
3. if `c` is at a `ret`: `c.data = val :: D`, `c.sc = S`, and after `ReturnFromFunction` the
   address stack has depth `A - 1`;
4. if `c` is at the end of the code: `f` is a top-level text, `c.sc = S`, and
   `c.data = val :: D` — or `c.data = D` for the empty text. -/
theorem checker_sound (f : Fn) (ann : Ann) (hv : verify f ann = true)
    (D : List Cell) (S A : Nat) (c0 c : CState)
    (hpc : c0.pc = 0) (hdata : c0.data = List.replicate f.entryCount .val ++ D)
    (hsc : c0.sc = S) (haddr : c0.addr = A) (hreach : Reach f c0 c) :
    ((∃ own, c.data = own ++ D) ∧ S ≤ c.sc ∧ c.addr = A)
    ∧ (AtRet f c → c.data = .val :: D ∧ c.sc = S ∧ (afterRet c).addr = A - 1)
    ∧ (c.pc = f.code.length →
        f.kind = .top ∧ c.sc = S ∧ (c.data = .val :: D ∨ (f.code = [] ∧ c.data = D))) := by
  have hV := verified_of_verify f ann hv
  have h0 := inv_entry f ann hV D S A c0 hpc hdata hsc haddr
  have hinv := inv_reach f ann hV D S A c0 c hreach h0
  refine ⟨inv_frame ann D S A c hinv, ?_, ?_⟩
  · intro hret
    obtain ⟨h1, h2, h3⟩ := inv_at_ret f ann hV D S A c hinv hret
    exact ⟨h1, h2, by simp [afterRet, h3]⟩
  · intro hend
    obtain ⟨h1, h2, _, h4⟩ := inv_at_end f ann hV D S A c hinv hend
    exact ⟨h1, h2, h4⟩

/-- For C09 (tail calls run in constant space): every time a verified function is back at its
first instruction — which is where a self tail call jumps — the data stack holds exactly the
arguments on top of the caller's part and no scope of the function is open. So the n-th
iteration of a tail-recursive function starts at the stack depths of the first. -/
theorem tail_call_reenters_at_entry_depth (f : Fn) (ann : Ann) (hv : verify f ann = true)
    (D : List Cell) (S A : Nat) (c0 c : CState)
    (hpc : c0.pc = 0) (hdata : c0.data = List.replicate f.entryCount .val ++ D)
    (hsc : c0.sc = S) (haddr : c0.addr = A) (hreach : Reach f c0 c) (hc : c.pc = 0) :
    c.data = List.replicate f.entryCount .val ++ D ∧ c.sc = S ∧ c.addr = A := by
  have hV := verified_of_verify f ann hv
  have h0 := inv_entry f ann hV D S A c0 hpc hdata hsc haddr
  have hinv := inv_reach f ann hV D S A c0 c hreach h0
  obtain ⟨h1, h2⟩ := inv_at_pc0 f ann hV D S A c hinv hc
  exact ⟨h1, h2, (inv_frame ann D S A c hinv).2.2⟩

/-- The same for the executable checker `check` (inference + verification). -/
theorem check_sound (f : Fn) (h : check f = .ok ())
    (D : List Cell) (S A : Nat) (c0 c : CState)
    (hpc : c0.pc = 0) (hdata : c0.data = List.replicate f.entryCount .val ++ D)
    (hsc : c0.sc = S) (haddr : c0.addr = A) (hreach : Reach f c0 c) :
    ((∃ own, c.data = own ++ D) ∧ S ≤ c.sc ∧ c.addr = A)
    ∧ (AtRet f c → c.data = .val :: D ∧ c.sc = S ∧ (afterRet c).addr = A - 1)
    ∧ (c.pc = f.code.length →
        f.kind = .top ∧ c.sc = S ∧ (c.data = .val :: D ∨ (f.code = [] ∧ c.data = D))) := by
  obtain ⟨ann, hv⟩ := check_verifies f h
  exact checker_sound f ann hv D S A c0 c hpc hdata hsc haddr hreach

/-- `checkB` is `check` as a Boolean (what `decide` can evaluate). -/
theorem checkB_ok (f : Fn) (h : checkB f = true) : check f = .ok () := check_of_checkB h

/-! ### Non-vacuity: real listings pass, and the machine really runs them -/

/-- `(defn f [b] (+ a b))` as the real generator compiles it. -/
def exDefn : Fn :=
  { kind := .fn, nformals := 1, nfixed := 1,
    code := [.addFuncScope, .popStackPutEnv, .callExpr 2, .removeScope, .ret false] }

example : checkB exDefn = true := by decide +kernel

/-- A loop with `break`/`continue` out of a nested `let`, as the real generator compiles
`(for [(def i 0) (< i 3) (set i (+ i 1))] (let [q i] (cond (== q 1) (continue) (break))))`. -/
def exLoop : Fn :=
  { kind := .top,
    code := [.loopStart 1, .addScope, .pushMark 1, .label, .push, .dup, .popStackPutEnv,
             .popUntilMark 1, .jump 6, .label, .callExpr 2, .dup, .update, .popUntilMark 1,
             .label, .callExpr 2, .branch false 13, .label, .addScope, .envToStack,
             .popStackPutEnv, .callExpr 2, .branch false 3, .cont 1 9 1, .jump 2, .brk 1 30 1,
             .removeScope, .popUntilMark 1, .jump (-19), .label, .clearMark 1, .removeScope, .push] }

example : checkB exLoop = true := by decide +kernel

/-- The macro body of `(defmac when2 [p & body] ^(cond ~p (begin ~@body) nil))`: markers,
an `explode` inside a marker region, variadic formals. -/
def exMacro : Fn :=
  { kind := .fn, nformals := 2, varargs := true, nfixed := 1,
    code := [.addFuncScope, .popStackPutEnv, .popStackPutEnv,
             .pushMarker, .push, .envToStack, .pushMarker, .push, .envToStack, .explode, .squash,
             .push, .squash, .removeScope, .ret false] }

example : checkB exMacro = true := by decide +kernel

/-- The hypotheses of `checker_sound` are satisfiable with a non-trivial execution: `exDefn`
called with one argument on top of a caller's stack that holds a marker and a value runs
to its `ret`. -/
example : ∃ c, Reach exDefn ⟨0, [.val, .val, .marker], 3, 2⟩ c ∧ AtRet exDefn c
    ∧ c.data = [.val, .val, .marker] ∧ c.sc = 3 := by
  refine ⟨⟨4, [.val, .val, .marker], 3, 2⟩, ?_, rfl, rfl, rfl⟩
  have s1 : CStep exDefn ⟨0, [.val, .val, .marker], 3, 2⟩ ⟨1, [.val, .val, .marker], 4, 2⟩ :=
    CStep.scopeUp _ .addFuncScope rfl rfl
  have s2 : CStep exDefn ⟨1, [.val, .val, .marker], 4, 2⟩ ⟨2, [.val, .marker], 4, 2⟩ :=
    CStep.simple _ .popStackPutEnv 1 0 [.val] [.val, .marker] rfl rfl rfl rfl
  have s3 : CStep exDefn ⟨2, [.val, .marker], 4, 2⟩ ⟨3, [.val, .val, .marker], 4, 2⟩ :=
    CStep.simple _ (.callExpr 2) 0 1 [] [.val, .marker] rfl rfl rfl rfl
  have s4 : CStep exDefn ⟨3, [.val, .val, .marker], 4, 2⟩ ⟨4, [.val, .val, .marker], 3, 2⟩ :=
    CStep.scopeDown _ .removeScope 3 rfl rfl rfl
  exact Reach.step _ _ _ (Reach.step _ _ _ (Reach.step _ _ _ (Reach.step _ _ _ (Reach.refl _) s1) s2) s3) s4

/-! ## The pre-fix generator (refuted) -/

/-- `(defn f [] (begin))` before fix C04-02: the body is empty, `ret` is reached with nothing
pushed. The checker refuses it … -/
theorem legacy_empty_begin_refused : checkB Legacy.emptyBeginBody = false := by decide +kernel

/-- … and in the machine the function really returns with NO value on top of its caller's
stack: the caller's `Run` then pops the caller's own operand (the host panic of DESIGN §7). -/
theorem legacy_empty_begin_counterexample (D : List Cell) (S A : Nat) :
    ∃ c, Reach Legacy.emptyBeginBody ⟨0, D, S, A⟩ c ∧ AtRet Legacy.emptyBeginBody c ∧ c.data = D := by
  refine ⟨⟨2, D, S, A⟩, ?_, rfl, rfl⟩
  have s1 : CStep Legacy.emptyBeginBody ⟨0, D, S, A⟩ ⟨1, D, S + 1, A⟩ :=
    CStep.scopeUp _ .addFuncScope rfl rfl
  have s2 : CStep Legacy.emptyBeginBody ⟨1, D, S + 1, A⟩ ⟨2, D, S, A⟩ :=
    CStep.scopeDown _ .removeScope S rfl rfl rfl
  exact Reach.step _ _ _ (Reach.step _ _ _ (Reach.refl _) s1) s2

/-- `(quote a b)` at top level before fix C04-02: two values are left, `Run` pops one. -/
theorem legacy_quote2_refused : checkB Legacy.quote2Top = false := by decide +kernel

theorem legacy_quote2_counterexample (D : List Cell) (S A : Nat) :
    ∃ c, Reach Legacy.quote2Top ⟨0, D, S, A⟩ c ∧ c.pc = Legacy.quote2Top.code.length
      ∧ c.data = .val :: .val :: D := by
  refine ⟨⟨2, .val :: .val :: D, S, A⟩, ?_, rfl, rfl⟩
  have s1 : CStep Legacy.quote2Top ⟨0, D, S, A⟩ ⟨1, .val :: D, S, A⟩ :=
    CStep.simple _ .push 0 1 [] D rfl rfl rfl rfl
  have s2 : CStep Legacy.quote2Top ⟨1, .val :: D, S, A⟩ ⟨2, .val :: .val :: D, S, A⟩ :=
    CStep.simple _ .push 0 1 [] (.val :: D) rfl rfl rfl rfl
  exact Reach.step _ _ _ (Reach.step _ _ _ (Reach.refl _) s1) s2

/-- `(let [x 1] (cond (break) 1 2))` inside a loop before fix C04-06: the `break` compiled
in the test of the `cond` pops no scope (`scopesToPop` = 0 instead of 1). -/
theorem legacy_cond_test_break_refused : checkB Legacy.condTestBreak = false := by decide +kernel

/-- `(defn g [a] (cond (> a 0) (g 0 7) a))` before fix C04-04: the self tail call pushes two
operands for one formal and jumps back to instruction 0. -/
theorem legacy_tailcall_arity_refused : checkB Legacy.tailArity = false := by decide +kernel

/-- a self call in a `let` initialiser compiled as a tail call (before fix C04-08): at the
`goto 0` the data stack holds the value of the first initialiser besides the argument. -/
theorem legacy_let_init_tailcall_refused : checkB Legacy.letInitTailCall = false := by decide +kernel

/-- `continue` inside a package body inside a loop (before fix C04-09) -/
theorem legacy_package_continue_refused : checkB Legacy.packageContinue = false := by decide +kernel

/-- Selector assignment `(defn g [] {a[0] = 99})` before fix C04-03, with the legacy effect of
`AssignInstr` (pops two, pushes nothing): `ret` is reached with no value. -/
theorem legacy_selector_assign_counterexample (D : List Cell) (S A : Nat) :
    ∃ c, Legacy.ReachL Legacy.selAssignBody ⟨0, D, S, A⟩ c ∧ AtRet Legacy.selAssignBody c ∧ c.data = D :=
  Legacy.selAssign_run D S A

/-! ## The generator emits balanced code -/

/-- **gen_balanced**, full statement: whatever the modelled generator (`Model/Gen.lean`)
compiles for a program — the top-level code of the text AND the body of every function
template it creates on the way — is accepted by the verifier. `B T` reads a model listing
as a checker listing, taking break/continue offsets from the loop table `T`. -/
def GenBalanced : Prop :=
  ∀ (isFn : Nat → Bool) (es : List Expr) (gs gs' : GS) (code : List Instr) (t : Bool),
    compileBegin isFn {} es gs = Except.ok ((code, t), gs') →
    (∃ ann, verify { kind := .top, code := B gs'.loops code } ann = true)
    ∧ ∀ i, gs.fns.length ≤ i → ∀ f ∈ gs'.fns[i]?, f.code ≠ [] →
        ∃ ann, verify { kind := .fn, nformals := f.params.length, varargs := f.varargs, nfixed := f.nargs,
                        code := B gs'.loops f.code } ann = true

/-- **gen_balanced_partial** — proved by induction over the expression grammar (the eight
mutually recursive `compile*` functions) for every program built from literals, symbols,
array literals, calls, `begin`, `def`, `set`, `cond` with any number of arms, `and`/`or` with
any number of arms, `let`, `letseq`, `newScope`, `fn`/`defn` (as the closure-creating forms
they are in the enclosing code) and selector assignment, nested to any depth (`okAs`): the
top-level code of the text is balanced, for every loop table.

`gen_balanced` below covers all forms, function bodies and self tail calls; this one quantifies
over EVERY loop table and needs no hypothesis on the generator state. -/
theorem gen_balanced_partial (isFn : Nat → Bool) (es : List Expr) (gs gs' : GS) (code : List Instr)
    (t : Bool) (T : List LoopRec) (hok : okAs es = true)
    (h : compileBegin isFn {} es gs = Except.ok ((code, t), gs')) :
    ∃ ann, verify { kind := .top, code := B T code } ann = true := by
  cases es with
  | nil =>
    cases Sim.compileBegin_nil_run.symm.trans h
    exact ⟨[some restState], by simp only [B, List.map_nil]; decide⟩
  | cons e es =>
    obtain ⟨_, hadds⟩ := bal_compileBegin isFn (e :: es) {} gs code t gs' rfl hok (by simp) h
    obtain ⟨mid, hfrag⟩ := hadds {} T restState (by decide)
    exact ⟨_, verify_top_of_frag (B T code) mid hfrag⟩

/-- The helper function the VM compiles for an operand (`EvalCallExpression`) or a lazy
argument (`Force`): `Generate(expr)` followed by `ret`. For the same class of expressions it
is balanced: it returns with exactly one value on top of what its caller had — so the nested
`Run` pops that value and nothing of the caller. -/
theorem gen_balanced_operand (isFn : Nat → Bool) (e : Expr) (gs gs' : GS) (code : List Instr)
    (t : Bool) (T : List LoopRec) (hok : okA e = true)
    (h : compile isFn {} e gs = Except.ok ((code, t), gs')) :
    ∃ ann, verify { kind := .thunk, code := B T (code ++ [Instr.ret]) } ann = true := by
  obtain ⟨_, hadds⟩ := bal_compile isFn e {} gs code t gs' rfl hok h
  obtain ⟨mid, hfrag⟩ := hadds {} T restState (by decide)
  have := verify_thunk_of_frag (B T code) mid hfrag
  exact ⟨(restState :: mid ++ [bump restState 1]).map some ++ [none], by simpa [B, toB] using this⟩

/-- Generator and checker together: an operand of the covered class, run in the stack-effect
machine on top of ANY caller stack, returns with exactly one value on top of it. -/
theorem operand_returns_one_value (isFn : Nat → Bool) (e : Expr) (gs gs' : GS) (code : List Instr)
    (t : Bool) (T : List LoopRec) (hok : okA e = true)
    (h : compile isFn {} e gs = Except.ok ((code, t), gs'))
    (D : List Cell) (S A : Nat) (c : CState)
    (hreach : Reach { kind := .thunk, code := B T (code ++ [Instr.ret]) } ⟨0, D, S, A⟩ c)
    (hret : AtRet { kind := .thunk, code := B T (code ++ [Instr.ret]) } c) :
    c.data = .val :: D ∧ c.sc = S := by
  obtain ⟨ann, hv⟩ := gen_balanced_operand isFn e gs gs' code t T hok h
  have := checker_sound _ ann hv D S A ⟨0, D, S, A⟩ c rfl (by simp [Fn.entryCount]) rfl rfl hreach
  exact ⟨(this.2.1 hret).1, (this.2.1 hret).2.1⟩

/-- Non-vacuity: a nested program of the covered class compiles, and the theorem applies. -/
example : ∃ code t gs', okAs [Expr.def_ "a" (.int 1),
      .let_ false [("x", .sym "a"), ("y", .int 2)]
        [.cond [(.call (.sym "<") [.sym "x", .sym "y"], .and_ [.sym "x", .or_ [.sym "y", .nilLit]])]
               (.begin_ [.set_ "a" (.sym "y"), .arr [.sym "x", .sym "y"]])]] = true
    ∧ compileBegin (fun _ => false) {} [Expr.def_ "a" (.int 1),
      .let_ false [("x", .sym "a"), ("y", .int 2)]
        [.cond [(.call (.sym "<") [.sym "x", .sym "y"], .and_ [.sym "x", .or_ [.sym "y", .nilLit]])]
               (.begin_ [.set_ "a" (.sym "y"), .arr [.sym "x", .sym "y"]])]] { fns := [] }
      = Except.ok ((code, t), gs') ∧ code.length = 29 :=
  ⟨_, _, _, by decide, rfl, by decide⟩

/-! ## The generator emits balanced code: loops, function bodies, self tail calls -/

/-- **The invariant of the induction** (`Bal.GInv d c gs Γ T σ`, Proofs/GenBalancedInv.lean) relates
the generator's context at the point where a form is compiled to the abstract state `σ` of the
checker at the point where the form's code starts:
* `σ.k = c.scopes + d` — `gen.scopes` counts the scopes opened since the function's own
  (`d` = 1 in a function body, 0 in a top-level text);
* every loop `id` on the compile-time loop stack `gs.loopstack` is either a loop of the function
  being compiled — then its stack-mark is open in `σ.frames`, the frames below it and `σ.base`
  are those recorded when the loop was entered, `c.scopes ≥ scopeDepth id + 1`, and the state a
  `break`/`continue` cuts back to (`k = scopeDepth id + 1 + d`, `junk` above the mark) is what the
  annotation holds at `loopStart + breakOffset / continueOffset` — or a loop of an enclosing
  function, whose `LoopStartInstr` does not occur in this function (`FindLoop` fails at run time);
* every open stack-mark belongs to an existing loop record (so the next loop's id is fresh);
* `c.tail` ⇒ the function's own area is empty (`σ.frames = []`, `σ.base = 0`) and the name the body
  is compiled under resolves to a template with the signature of the function being checked.
`gen_fragment`: under this invariant the code of ANY form of the covered grammar is a verified
fragment from `σ` to `σ` + one value — wherever it is placed. -/
theorem gen_fragment (isFn : Nat → Bool) (e : Expr) (c : Ctx) (gs gs' : GS) (code : List Instr) (t : Bool)
    (T : List LoopRec) (hok : okL e = true) (hgs : GSok gs) (hT : TOk gs gs' T)
    (h : compile isFn c e gs = Except.ok ((code, t), gs'))
    (d : Nat) (Γ : Env) (σ : AState) (hinv : GInv d c gs Γ T σ) :
    ExprFrag Γ (B T code) σ (bump σ 1) :=
  ((balL_compile isFn e c gs code t gs' hok hgs h).2.2.sem T hT).2 d Γ σ hinv

/-- **gen_balanced** — by ONE induction over the eight mutually recursive `compile*` functions,
for every program of the covered grammar `okLs` = ALL core forms: literals, symbols, arrays,
calls, begin, def, set, cond, and/or, let, letseq, newScope, selector assignment, **`for` (with or
without label), `break`/`continue` (labelled or not) in every position the generator accepts
(loop body, init, test, increment, cond tests and arms, and/or arms, let initialisers and bodies,
array elements, operands of def/set; out of any number of nested `let`/`newScope` scopes; to an
outer labelled loop; inside a `fn` that sits in a loop), `fn`/`defn` at any nesting depth**:
1. the top-level code of the text is verified, and
2. **every function template** the generator allocates while compiling the text — prologue
   `addFuncScope` + formals (fixed or variadic), body compiled with the tail flag on, epilogue
   `removeScope; ret`, **self tail calls** (`args; prepareCall; removeScope × (scopes+1); goto 0`,
   re-entering at instruction 0 with the entry state) in every tail context — is a verified
   function of kind `fn`.
Hypotheses, compared with the full statement `GenBalanced`:
* `okLs es`: bodies of `let`/`fn`/`defn` are not empty (the real builders refuse an empty function
  body: compile error) and no call has the empty name or a generated name `__anon<n>` as its head
  (inside the anonymous function of that very name such a call is compiled as a self tail call
  with NO arity check, because `knownFunctions` has no entry: finding C09-02);
* `GSok gs`: the ids on the compile-time loop stack at the start are ids of existing loop records
  (true of every state the interpreter reaches; `GenBalanced` quantifies over arbitrary `gs`).
What is proved is `∃ ann, verify f ann` — the hypothesis of `checker_sound`; that the work-list
inference `infer` FINDS such an annotation (`check f = ok`) is not proved (it is run on every
listing of every run, channel `bal`). -/
theorem gen_balanced (isFn : Nat → Bool) (es : List Expr) (gs gs' : GS) (code : List Instr) (t : Bool)
    (hok : okLs es = true) (hgs : GSok gs)
    (h : compileBegin isFn {} es gs = Except.ok ((code, t), gs')) :
    (∃ ann, verify { kind := .top, code := B gs'.loops code } ann = true)
    ∧ ∀ i f, gs.fns.length ≤ i → gs'.fns[i]? = some f →
        ∃ ann, verify { kind := .fn, nformals := f.params.length, varargs := f.varargs, nfixed := f.nargs,
                        code := B gs'.loops f.code } ann = true :=
  program_verified isFn es gs gs' code t gs'.loops hok hgs (TOk.self gs gs') h

/-- **gen_balanced_loops**: the first half — texts with loops, `break`, `continue`. -/
theorem gen_balanced_loops (isFn : Nat → Bool) (es : List Expr) (gs gs' : GS) (code : List Instr) (t : Bool)
    (hok : okLs es = true) (hgs : GSok gs)
    (h : compileBegin isFn {} es gs = Except.ok ((code, t), gs')) :
    ∃ ann, verify { kind := .top, code := B gs'.loops code } ann = true :=
  (gen_balanced isFn es gs gs' code t hok hgs h).1

/-- **gen_balanced_functions**: the second half — every function template, as a whole function. -/
theorem gen_balanced_functions (isFn : Nat → Bool) (es : List Expr) (gs gs' : GS) (code : List Instr) (t : Bool)
    (hok : okLs es = true) (hgs : GSok gs)
    (h : compileBegin isFn {} es gs = Except.ok ((code, t), gs'))
    (i : Nat) (f : FnObj) (hi : gs.fns.length ≤ i) (hf : gs'.fns[i]? = some f) :
    ∃ ann, verify { kind := .fn, nformals := f.params.length, varargs := f.varargs, nfixed := f.nargs,
                    code := B gs'.loops f.code } ann = true :=
  (gen_balanced isFn es gs gs' code t hok hgs h).2 i f hi hf

/-- Generator and checker together: a function the generator made, called with its arguments on
top of ANY caller stack, (1) returns with exactly one value on top of it and the caller's scope
depth, and (2) every time it is back at instruction 0 — a self tail call — the stacks have the
depths of the first entry: iteration n runs in the space of iteration 1. -/
theorem generated_function_balanced (isFn : Nat → Bool) (es : List Expr) (gs gs' : GS) (code : List Instr) (t : Bool)
    (hok : okLs es = true) (hgs : GSok gs)
    (h : compileBegin isFn {} es gs = Except.ok ((code, t), gs'))
    (i : Nat) (f : FnObj) (hi : gs.fns.length ≤ i) (hf : gs'.fns[i]? = some f)
    (D : List Cell) (S A : Nat) (c : CState)
    (hreach : Reach { kind := .fn, nformals := f.params.length, varargs := f.varargs, nfixed := f.nargs,
                      code := B gs'.loops f.code } ⟨0, List.replicate f.params.length .val ++ D, S, A⟩ c) :
    (AtRet { kind := .fn, nformals := f.params.length, varargs := f.varargs, nfixed := f.nargs,
             code := B gs'.loops f.code } c → c.data = .val :: D ∧ c.sc = S) ∧
    (c.pc = 0 → c.data = List.replicate f.params.length .val ++ D ∧ c.sc = S ∧ c.addr = A) := by
  obtain ⟨ann, hv⟩ := gen_balanced_functions isFn es gs gs' code t hok hgs h i f hi hf
  constructor
  · intro hret
    have := checker_sound _ ann hv D S A ⟨0, List.replicate f.params.length .val ++ D, S, A⟩ c rfl rfl rfl rfl hreach
    exact ⟨(this.2.1 hret).1, (this.2.1 hret).2.1⟩
  · intro hpc
    exact tail_call_reenters_at_entry_depth _ ann hv D S A ⟨0, List.replicate f.params.length .val ++ D, S, A⟩ c
      rfl rfl rfl rfl hreach hpc

/-- The full statement `GenBalanced` is FALSE for the model as it stands — the side condition
"bodies are not empty" of `gen_balanced` is needed: the model generator accepts `(fn [])` (the
real builders refuse an empty function body with a compile error) and compiles it to
`addFuncScope; removeScope; ret`, which returns with NO value (`legacy_empty_begin_counterexample`
is this very listing). -/
theorem genBalanced_needs_nonempty_bodies : ¬ GenBalanced := by
  intro hG
  obtain ⟨_, hfns⟩ := hG (fun _ => false) [.fn [] none []] { fns := [] }
    ((compileBegin (fun _ => false) {} [.fn [] none []] { fns := [] }).toOption.get!.2)
    [.createClosure 0] false rfl
  obtain ⟨ann, hv⟩ := hfns 0 (Nat.zero_le _) _ rfl (by decide)
  obtain ⟨c, hreach, hret, hdata⟩ := legacy_empty_begin_counterexample [] 0 0
  have := checker_sound _ ann hv [] 0 0 ⟨0, [], 0, 0⟩ c rfl rfl rfl rfl hreach
  have h1 := (this.2.1 hret).1
  rw [hdata] at h1
  cases h1

/-! ### Non-vacuity -/

/-- `(for outer: [(def i 0) (< i 3) (set i (+ i 1))]
       (for [(def j 0) (< j 3) (set j (+ j 1))]
         (let [q j] (cond (== q 1) (break outer:) (continue)))))`:
nested loops, a labelled `break` to the outer loop and a `continue` out of a `let`. -/
def exLoopProg : List Expr :=
  [.for_ (some "outer") (.def_ "i" (.int 0)) (.call (.sym "<") [.sym "i", .int 3]) (.set_ "i" (.call (.sym "+") [.sym "i", .int 1]))
    [.for_ none (.def_ "j" (.int 0)) (.call (.sym "<") [.sym "j", .int 3]) (.set_ "j" (.call (.sym "+") [.sym "j", .int 1]))
      [.let_ false [("q", .sym "j")]
        [.cond [(.call (.sym "==") [.sym "q", .int 1], .break_ (some "outer"))] (.continue_ none)]]]]

/-- `(defn f [n a] (cond (== n 0) a (let [m (- n 1)] (f m (+ a n)))))`: a self tail call out of a `let`. -/
def exTailProg : List Expr :=
  [.defn "f" ["n", "a"] none
    [.cond [(.call (.sym "==") [.sym "n", .int 0], .sym "a")]
      (.let_ false [("m", .call (.sym "-") [.sym "n", .int 1])] [.call (.sym "f") [.sym "m", .call (.sym "+") [.sym "a", .sym "n"]]])]]

example : GSok { fns := [] } := by intro id hid; cases hid

/-- what the generator makes of a text, judged by a Boolean predicate (evaluated by the kernel) -/
def compiledSat (es : List Expr) (P : List Instr → GS → Bool) : Bool :=
  match compileBegin (fun _ => false) {} es { fns := [] } with
  | .ok ((code, _), gs') => P code gs'
  | .error _ => false

theorem exists_of_compiledSat {es : List Expr} {P : List Instr → GS → Bool} (h : compiledSat es P = true) :
    ∃ code t gs', compileBegin (fun _ => false) {} es { fns := [] } = Except.ok ((code, t), gs') ∧ P code gs' = true := by
  unfold compiledSat at h
  cases hc : compileBegin (fun _ => false) {} es { fns := [] } with
  | error e => rw [hc] at h; cases h
  | ok r =>
    obtain ⟨⟨code, t⟩, gs'⟩ := r
    rw [hc] at h
    exact ⟨code, t, gs', rfl, h⟩

/-- the hypotheses of `gen_balanced` are satisfiable by a text with nested loops: it is in the
grammar, the generator accepts it (57 instructions, two loop records; the `break outer:` pops two
scopes — the `let` and the inner loop's — the `continue` one), … -/
example : okLs exLoopProg = true ∧ ∃ code t gs',
    compileBegin (fun _ => false) {} exLoopProg { fns := [] } = Except.ok ((code, t), gs') ∧
    (code.length == 57 && gs'.loops.length == 2 &&
     code.any (fun i => match i with | .brk 0 2 => true | _ => false) &&
     code.any (fun i => match i with | .cont 1 1 => true | _ => false)) = true :=
  ⟨by decide, exists_of_compiledSat (by decide +kernel)⟩

/-- … and by a tail-recursive function: its template is compiled to 21 instructions that contain
the guard (fix C09-02; it skips 7 instructions: itself, the two operands, `prepareCall`, two
`removeScope`, `goto`), the tail sequence with TWO `removeScope` (the `let`'s scope and the
function scope; two more close the `let` and the function on the other path) and `goto 0`. -/
example : okLs exTailProg = true ∧ ∃ code t gs',
    compileBegin (fun _ => false) {} exTailProg { fns := [] } = Except.ok ((code, t), gs') ∧
    (gs'.fns.map (fun f => f.code.length) == [21] &&
     gs'.fns.all (fun f => f.code.any (fun i => match i with | .goto 0 => true | _ => false)) &&
     gs'.fns.all (fun f => f.code.any (fun i => match i with | .tailGuard "f" 7 => true | _ => false)) &&
     gs'.fns.map (fun f => (f.code.filter (fun i => match i with | .removeScope => true | _ => false)).length) == [4]) = true :=
  ⟨by decide, exists_of_compiledSat (by decide +kernel)⟩

/-! ## The property on the VM model -/

/-- **run_at_rest**, full statement: an interpreter at rest that evaluates a text to a value is
at rest afterwards (data stack empty, only the global scope, no return address, no loop record,
pc at the end of `mainfunc`). -/
def RunAtRest : Prop :=
  ∀ (fuel : Nat) (es : List Expr) (s s' : St) (v : String) (tr : List String) (d : String) (alive : Bool),
    AtRest s → runText fuel es s = (Outcome.done "ok" v tr d, s', alive) → AtRest s'

/-- **one_at_a_time**, full statement: evaluating `es₁ ++ es₂` as one text gives the value that
evaluating `es₁` and then `es₂` gives (whenever all three evaluations return a value). -/
def OneAtATime : Prop :=
  ∀ (fuel : Nat) (es₁ es₂ : List Expr) (s : St), AtRest s → es₂ ≠ [] →
    ∀ v tr d s' a v₁ tr₁ d₁ s₁ a₁ v₂ tr₂ d₂ s₂ a₂,
      runText fuel (es₁ ++ es₂) s = (Outcome.done "ok" v tr d, s', a) →
      runText fuel es₁ s = (Outcome.done "ok" v₁ tr₁ d₁, s₁, a₁) →
      runText fuel es₂ s₁ = (Outcome.done "ok" v₂ tr₂ d₂, s₂, a₂) → v = v₂

/-- **eval_empty_nil** (proved, for every state at rest and every fuel ≥ 2): the empty text
evaluates to nil — never to a value an earlier evaluation left behind — the four depths are
what they were, and the interpreter is at rest afterwards. -/
theorem eval_empty_nil (s : St) (fuel : Nat) (h : AtRest s) :
    ∃ s', runText (fuel + 2) [] s = (Outcome.done "ok" "nil" [] (depths s), s', true) ∧ AtRest s' := by
  obtain ⟨hd, hl, ha, hls, hcf, hpc⟩ := h
  let s3 : St := { s with fns := s.fns.set mainFn (fnOf s mainFn), curfunc := mainFn, trace := [] }
  have hpc3 : curSize s3 ≤ s3.pc := by
    have : fnOf s3 s3.curfunc = fnOf s s.curfunc := by
      show (s.fns.set 0 (s.fns.getD 0 {})).getD 0 {} = s.fns.getD s.curfunc {}
      rw [hcf]; exact set_getD_self s.fns
    show (let f := fnOf s3 s3.curfunc; if f.user then (0 : Int) else f.code.length) ≤ s.pc
    rw [this]; exact hpc
  refine ⟨s3, ?_, hd, hl, ha, hls, rfl, hpc3⟩
  rw [runText_nil (fuel + 2) s hpc, run_at_end s3 fuel hd hpc3, ← pr_nil s.heap]
  rfl

/-- the fresh interpreter is at rest (non-vacuity of `AtRest`) -/
example : AtRest initSt := ⟨rfl, rfl, rfl, rfl, rfl, by decide⟩

/-- **exec_refines**, full statement (`Refine.ExecRefines`): every successful `VM.exec` step taken in
the code of the current function, that stays in the activation, is a step `Bal.CStep` of the
stack-effect machine of that function as the checker sees it (`Refine.fnB`), between the
abstractions (`Refine.absC`: pc, kinds of the data-stack cells, scope and address depth) of the
two states. This ties the effect table `Bal.eff` — hand-written from zygo/vm.go — to the VM model
that C02 validates against the real interpreter. -/
def ExecRefines : Prop := Refine.ExecRefines

/-- **exec_refines_partial** — proved instruction by instruction (Proofs/VMRefine.lean), for
every state and every fuel: `label`, `loopStart`, `push` (of an ordinary value), `pop` (incl. the
ignored underflow), `dup`, `popStackPutEnv`, `update`, `jump`, `goto`, `branch` (with the VM's bounds
check = the checker's `target`), `addScope`, `addFuncScope`, `removeScope`, `createClosure`,
`pushLazy`, `pushMark`, `popUntilMark`, `clearMark` (`popToMark` pops exactly the cells above the
first mark of the loop), `assign`; and with the side condition each needs: `envToStack` (no
stack-mark is bound to a name), `tailGuard` (skip target inside the function), `prepareCall`
(compiled code; packs the variadic tail of the running function), `brk`/`cont` (`FindLoop` =
`loopPos` on the checker's listing; new pc not negative). Not in this form: `callArr`/`callExpr`
(the calling contract "arguments popped, one result pushed, scopes as before" needs the induction
over nested runs with every function of the table verified) and `ret` (ends the activation); they
are in `calling_contract` below, stated over the stack of activations (`RunInv.Running`, `RunInv.Next`)
and not as `Refine.StepRefines`. `ExecRefines` stays a `def`. -/
theorem exec_refines_partial (i : Instr)
    (h : match i with
      | .push v => Refine.plain v = true
      | .envToStack _ | .tailGuard _ _ | .prepareCall _ _ | .brk _ _ | .cont _ _
      | .callArr _ | .callExpr _ _ | .ret => False
      | _ => True) : Refine.StepRefines i :=
  Refine.exec_refines_partial i h

/-! ## The calling contract on the VM model (refinement across nested runs) -/

open ZygoVerif.RunInv in
/-- **calling_contract** (`RunInv.allSpec'`: the part about normal returns of `RunInv.spec`, Proofs/RunOut.lean,
closed by Proofs/RunPrim.lean) — by induction on
the fuel over ALL thirteen functions of the VM's mutual block, from any state that satisfies the
table invariant `RunInv.WF` (every function object of index ≥ 2 — templates, closures, the
helpers of `EvalCallExpression`/`Force` — is a VERIFIED function with generated-code side
conditions; every stored value contains no stack-mark and only ids of such functions; the
expressions of lazy arguments are in the covered grammar), whenever the function returns normally:
* `exec` of ANY instruction of a `Running` loop (`RunInv.Running`: the stack of activations — the
  top one described by the checker's invariant `Bal.Inv` at its pc, every suspended caller by
  `Bal.Inv` of the state it resumes in, the bottom one on the `Base` the loop started on) leaves
  the loop `Running` — `callExpr` of a compiled function pushes an activation entered with exactly
  its formals' worth of operands, `ret` pops one and resumes the caller at the caller's depths
  with ONE value pushed — or `Finished`;
* `runLoop` ends `Finished`: one value on the base data, the base scope stack (as a list), the base
  address stack; `run` returns that value and leaves the base stacks;
* `evalCallExpr`, `builtin` (incl. `apply`, `map`, `force`, `substitute`), `applyFn`, `mapArr`,
  `mapList`, `forceLazy` leave data (as the checker sees it), scope stack, address stack, current
  function, pc and the set-aside stacks EXACTLY as they were and return a storable value;
  `callUser` pops its operands and pushes one value; `prepareArgs` pushes one value per operand;
* the tables only grow and `WF` holds again — compiling at run time only adds verified functions
  (`RunInv.wf_runGen`: `gen_balanced` for the whole grammar + `GenCodeOK`).
This is the refinement `VM.exec ⊑ Bal.CStep` across nested runs, for normal returns: what
`ExecRefines` asks, with `callArr`, `callExpr` and `ret` included, stated over the stack of
activations; `ExecRefines` in its own form is not derived from it. -/
theorem calling_contract : ∀ n, AllSpec n := allSpec'

open ZygoVerif.RunInv in
/-- Calling a function value from any well-formed state (`Apply`, and through it `map`): the
callee runs to its `ret` and everything the caller had — data stack, scopes, return addresses,
set-aside stacks — is as before; the result is a storable value. -/
theorem apply_leaves_nothing_behind (n : Nat) (f : Val) (args : List Val) (s s' : St) (v : Val) (hw : WF s)
    (hpc : s.pc = -1) (hf : vok s.fns.length f = true) (ha : ∀ a ∈ args, vok s.fns.length a = true)
    (h : (applyFn n f args).run s = (.ok v, s')) :
    s'.data.map Refine.cellOf = s.data.map Refine.cellOf ∧ s'.linear = s.linear ∧ s'.addr = s.addr ∧
      s'.suspended = s.suspended ∧ WF s' := by
  obtain ⟨hk, _⟩ := (allSpec' n).apply f args s s' v hw hpc hf ha h
  exact ⟨hk.same.data, hk.same.linear, hk.same.addr, hk.same.susp, hk.wf⟩

open ZygoVerif.RunInv in
/-- Evaluating an operand (`EvalCallExpression`: compile at run time, run the helper in a nested
`Run`, restore) leaves nothing behind. -/
theorem operand_leaves_nothing_behind (n : Nat) (e : Expr) (s s' : St) (v : Val) (hw : WF s) (hok : okL e = true)
    (h : (evalCallExpr n e).run s = (.ok v, s')) :
    s'.data.map Refine.cellOf = s.data.map Refine.cellOf ∧ s'.linear = s.linear ∧ s'.addr = s.addr ∧
      s'.curfunc = s.curfunc ∧ s'.pc = s.pc ∧ s'.suspended = s.suspended ∧ WF s' := by
  obtain ⟨hk, _⟩ := (allSpec' n).eval e s s' v hw hok h
  exact ⟨hk.same.data, hk.same.linear, hk.same.addr, hk.same.cur, hk.same.pc, hk.same.susp, hk.wf⟩

/-! ### run_at_rest: the top-level text as the bottom activation -/

/-- The states an interpreter is in between texts, **as far as the theorem below covers them**:
the fresh interpreter, and every state reached from it by texts of the model generator's grammar
(`Bal.okLs`: all core forms, loops, break/continue, functions, closures, tail calls) **that
returned a value**. States after a text that ended in an error are `ServedStateE`
(Props/C04Err.lean: `err_leaves_served`, `run_at_rest_after_errors`); states after texts outside
the grammar are not covered. -/
inductive ServedState : St → Prop
  | init : ServedState initSt
  | text {s s' : St} {fuel : Nat} {es : List Expr} {v : String} {tr : List String} {d : String} {alive : Bool} :
      ServedState s → okLs es = true → runText fuel es s = (Outcome.done "ok" v tr d, s', alive) → ServedState s'

open ZygoVerif.RunInv in
/-- the fresh interpreter: table invariant, `mainfunc` empty and compiled, at rest -/
theorem served_initSt : Served initSt :=
  ⟨RunInv.wf_initSt, ⟨rfl, AllOK.nil _, idsIn_nil _ _, rfl⟩, ⟨rfl, rfl, rfl, rfl, rfl, by decide⟩, rfl⟩

open ZygoVerif.RunInv in
/-- **run_at_rest for every state that satisfies the invariant** (`RunInv.Served`: `RunInv.WF`,
`RunInv.MainOK`, `AtRest`): a text of the grammar that returns a value leaves the interpreter
at rest — data stack empty, only the global scope, no return address, no loop record, pc at the
end of `mainfunc` — and the invariant holds again. The text runs as code APPENDED to `mainfunc`,
from the old end: it is the bottom activation of the outermost loop (`RunInv.Base.main`: no return
address; it ends by running off its end). Its annotation is the fragment of `gen_balanced`
PLACED behind the old code (`RunInv.main_stepVerified`: the fragment calculus is generic in the
position, so nothing has to be shifted and nothing is needed about the old code but that its
loop ids are unique); every step of the loop keeps "`mainfunc` is at the bottom of the stack of
activations" (`RunInv.holds_step_ext`, from `calling_contract`); the loop can only stop at the
end of `mainfunc` (`RunInv.main_end`), where the fragment's final state says: one value, no
scope, no open region. -/
theorem run_at_rest_of_invariant (fuel : Nat) (es : List Expr) (s s' : St) (v : String) (tr : List String) (d : String)
    (alive : Bool) (hs : Served s) (hok : okLs es = true)
    (h : runText fuel es s = (Outcome.done "ok" v tr d, s', alive)) : AtRest s' ∧ Served s' :=
  ⟨(runText_ok fuel es s s' v tr d alive hs hok h).rest, runText_ok fuel es s s' v tr d alive hs hok h⟩

open ZygoVerif.RunInv in
theorem served_of_servedState {s : St} (h : ServedState s) : Served s := by
  induction h with
  | init => exact served_initSt
  | text _ hok hrun ih => exact (run_at_rest_of_invariant _ _ _ _ _ _ _ _ ih hok hrun).2

/-- `RunAtRest` restricted to the states reachable from the fresh interpreter by earlier texts of
the grammar that returned values, and to texts of the grammar. -/
def RunAtRestReachable : Prop :=
  ∀ (fuel : Nat) (es : List Expr) (s s' : St) (v : String) (tr : List String) (d : String) (alive : Bool),
    ServedState s → okLs es = true → runText fuel es s = (Outcome.done "ok" v tr d, s', alive) → AtRest s'

/-- **run_at_rest_reachable** (proved): whatever texts of the grammar an interpreter has evaluated
to values since it was created — any number of them, defining functions, closures, loops, tail
calls, calling them at any depth, with any fuel — the next text of the grammar that returns a
value leaves it at rest. This is NOT the full `RunAtRest`: that one quantifies over EVERY state
with empty stacks and the pc at the end (`AtRest`), including states whose function table holds
unbalanced code bound to a name; for those it is not provable (the table invariant `RunInv.WF`
is exactly what is missing). States after erroneous texts: `run_at_rest_after_errors`
(Props/C04Err.lean). -/
theorem run_at_rest_reachable : RunAtRestReachable := by
  intro fuel es s s' v tr d alive hs hok h
  exact (run_at_rest_of_invariant fuel es s s' v tr d alive (served_of_servedState hs) hok h).1

/-- an idle interpreter does not grow: every state between texts is at rest -/
theorem servedState_at_rest {s : St} (h : ServedState s) : AtRest s := (served_of_servedState h).rest

/-- non-vacuity: the empty text, served by the fresh interpreter, returns a value; the state after
it is a `ServedState` -/
example : ∃ s', runText 2 [] initSt = (Outcome.done "ok" "nil" [] (depths initSt), s', true) ∧ ServedState s' := by
  obtain ⟨s', h, _⟩ := eval_empty_nil initSt 0 ⟨rfl, rfl, rfl, rfl, rfl, by decide⟩
  exact ⟨s', h, ServedState.text ServedState.init rfl h⟩

theorem okLs_append : ∀ (a b : List Expr), okLs a = true → okLs b = true → okLs (a ++ b) = true
  | [], _, _, hb => hb
  | e :: es, b, ha, hb => by
    simp only [okLs, Bool.and_eq_true] at ha
    simp only [List.cons_append, okLs, Bool.and_eq_true]
    exact ⟨ha.1, okLs_append es b ha.2 hb⟩

/-- **one_at_a_time_rest_partial** (the depth half of `OneAtATime`, on the VM model): for an
interpreter in a `ServedState`, evaluating two texts of the grammar together, or one after the
other, leaves it at rest — and in a `ServedState` again — in all three evaluations that return
a value. That the VALUES agree (`OneAtATime`) is not proved: the two runs allocate function ids
in different orders (templates of the second text before / after the run-time helpers of the
first), so it needs a simulation up to renaming of function ids. -/
theorem one_at_a_time_rest_partial (fuel : Nat) (es₁ es₂ : List Expr) (s : St) (hs : ServedState s)
    (h1 : okLs es₁ = true) (h2 : okLs es₂ = true)
    {v tr d s' a v₁ tr₁ d₁ s₁ a₁ v₂ tr₂ d₂ s₂ a₂}
    (hboth : runText fuel (es₁ ++ es₂) s = (Outcome.done "ok" v tr d, s', a))
    (hfst : runText fuel es₁ s = (Outcome.done "ok" v₁ tr₁ d₁, s₁, a₁))
    (hsnd : runText fuel es₂ s₁ = (Outcome.done "ok" v₂ tr₂ d₂, s₂, a₂)) :
    AtRest s' ∧ AtRest s₁ ∧ AtRest s₂ ∧ ServedState s' ∧ ServedState s₂ :=
  have q1 : ServedState s₁ := ServedState.text hs h1 hfst
  have q2 : ServedState s₂ := ServedState.text q1 h2 hsnd
  have q : ServedState s' := ServedState.text hs (okLs_append es₁ es₂ h1 h2) hboth
  ⟨servedState_at_rest q, servedState_at_rest q1, servedState_at_rest q2, q, q2⟩

/-- **run_at_rest_partial**: `RunAtRest` for the empty text and EVERY state at rest
(`eval_empty_nil`). For non-empty texts see `run_at_rest_reachable` / `run_at_rest_of_invariant`:
proved for every state that satisfies the run-time invariant, in particular every state reachable
from the fresh interpreter by texts of the grammar that returned values. The full `RunAtRest`
(every state with empty stacks, whatever its function table holds) is not provable without the
table invariant and stays a `def`. -/
theorem run_at_rest_partial (s : St) (fuel : Nat) (h : AtRest s) :
    ∀ s' v tr d alive, runText (fuel + 2) [] s = (Outcome.done "ok" v tr d, s', alive) → AtRest s' := by
  intro s' v tr d alive hr
  obtain ⟨s'', he, hrest⟩ := eval_empty_nil s fuel h
  rw [he] at hr
  cases hr
  exact hrest

/-- **one_at_a_time_partial**: a fact about the pure assembly function `asmBegin`, which lays
statement codes out as `GenerateBegin` does — for non-empty pieces, the layout of two lists together
is the layout of the first, ONE `pop`, the layout of the second; the `pop` does what the `Run`
between two separate evaluations does (pop the first text's single value). The generator model
`compileBegin` assembles in line; `Sim.compileBegin_asm` (Proofs/GenClauses.lean) shows that its code
is `asmBegin` of the statements' codes, which is what ties this layout fact to generated code. That
the first text's code leaves exactly one value is `checker_sound` + `gen_balanced`. -/
theorem one_at_a_time_partial (cs ds : List (List Instr)) (hc : cs ≠ []) (hd : ds ≠ [])
    (hne : ∀ c ∈ cs, c ≠ []) :
    asmBegin (cs ++ ds) = asmBegin cs ++ [Instr.pop] ++ asmBegin ds :=
  match cs, hc, hne with
  | [], h, _ => absurd rfl h
  | [c], _, hne => by
    obtain ⟨d, ds', rfl⟩ := List.exists_cons_of_ne_nil hd
    have hne : c ≠ [] := hne c (by simp)
    simp [asmBegin, hne]
  | c :: c' :: cs, _, hc => by
    have ih := one_at_a_time_partial (c' :: cs) ds (by simp) hd (fun x hx => hc x (by simp [hx]))
    have hne : c ≠ [] := hc c (by simp)
    have h1 : asmBegin (c :: c' :: cs ++ ds) = c ++ [Instr.pop] ++ asmBegin (c' :: cs ++ ds) := by
      simp [asmBegin, hne]
    have h2 : asmBegin (c :: c' :: cs) = c ++ [Instr.pop] ++ asmBegin (c' :: cs) := by
      simp [asmBegin, hne]
    rw [show c :: c' :: cs ++ ds = c :: (c' :: cs ++ ds) from rfl] at *
    rw [h1, h2, ih]
    simp [List.append_assoc]

example : asmBegin ([[Instr.push .nil], [Instr.dup]] ++ [[Instr.envToStack "a"]])
    = asmBegin [[Instr.push .nil], [Instr.dup]] ++ [Instr.pop] ++ asmBegin [[Instr.envToStack "a"]] := rfl


/-! ## Re-entrancy: compiled code carries no run-time state

A compiled function is ONE object — instruction structs, the `Loop` records they point to, the
`SexpFunction` template — executed by every activation of the function: by the recursive call made
from inside its own loop body as well as by the outer call that is still waiting for it. The
machines of this file have no state in the code (a state is pc, data stack, scope depth, address
depth; the code is a parameter), so the theorems above hold per activation, at any depth. For the
real VM that is a fact about the source, regenerated on every run: -/

/-- Every place of package zygo where a field of a compiled-code object (a type implementing
`Instruction`, `Loop`, `SexpFunction`) is written outside the function that constructs the object:
(function, Type.field, how) and WHY the stored value does not depend on the activation. -/
def allowedCodeWrites : List ((String × String × String) × String) :=
  [ (("BreakInstr.Execute", "BreakInstr.pos", "assign"),
      "cache of FindLoop(s.loop): the index of the loop's LoopStartInstr in the instruction slice the break sits in; an instruction sits in one slice, closure copies share it, so every activation computes the same number (0 = not cached yet)"),
    (("ContinueInstr.Execute", "ContinueInstr.pos", "assign"),
      "as BreakInstr.pos"),
    (("CreateClosureInstr.Execute", "SexpFunction.parent", "assign"),
      "the function in which the closure is created, noted in the template and in the copy: read by symbol lookup only (LookupSymbolUntilFunction / ClosingLookupSymbol), never by code that moves a stack; what it does to name resolution is C02's and C16's subject"),
    (("FuncBuilder", "SexpFunction.hasBody", "assign"),
      "set once by the `func` builder on the function value CreateClosureInstr just made for it (popped off the data stack); a constant of the declaration"),
    (("SexpFunction.SetClosing", "SexpFunction.closingOverScopes", "assign"),
      "setter; every call site has a freshly made function as receiver (a call on anything else would be listed as SexpFunction.SetClosing())"),
    (("SexpFunction.SetFormalSymbols", "SexpFunction.argSyms", "assign"),
      "setter used while the template is built (MakeFunction, buildSexpFun, FuncBuilder); no call site on a finished object"),
    (("SexpFunction.SetFormalSymbols", "SexpFunction.hasLazyFormals", "assign"), "as argSyms"),
    (("SexpFunction.SetFormalSymbols", "SexpFunction.lazyFormals", "assign"), "as argSyms"),
    (("Zlisp.LoadExpressions", "SexpFunction.fun", "assign"),
      "mainfunc.fun grows by the code of each text (append only: positions of existing instructions, hence cached `pos` fields, stay valid); by design, not judged as growth") ]

/-- **code_writes_exact** (table fact, regenerated from the source on every run): the fields of
compiled-code objects written anywhere outside their construction are EXACTLY the justified list
above — none of them holds a stack depth or anything else that differs between two activations
that are open at the same time. A new field written by an `Execute` method or a VM function
(as `Loop.entryDepth` written by `LoopStartInstr.Execute` in the seeded change C04-m3) breaks this
theorem; channel `rest`, stream `reent`, then looks for the failing input. -/
theorem code_writes_exact :
    Generated.CodeWrites.codeWrites = allowedCodeWrites.map (·.1) := by decide +kernel

/-- Package-level variables that hold, or are keyed by, compiled-code objects, and what they are. -/
def allowedCodeGlobals : List ((String × String) × String) :=
  [ (("MissingFunction", "*SexpFunction"), "the constant placeholder returned beside an error; a Go-function value (user = true), never executed as bytecode, never written"),
    (("sxArrayOf", "*SexpFunction"), "the builtin constructor `arrayOf` (a Go function wrapped by MakeUserFunction), assigned once at package initialisation"),
    (("sxSliceOf", "*SexpFunction"), "the builtin constructor `sliceOf`, as sxArrayOf") ]

/-- **code_globals_exact** (table fact): no package-level variable is a side table of compiled-code
objects — a `map[*Loop]int` noting a depth per loop would be state of the code exactly as a field
is, without any field being written. The three variables that exist are constants. -/
theorem code_globals_exact :
    Generated.CodeWrites.codeGlobals = allowedCodeGlobals.map (·.1) := by decide +kernel

/-- every instruction type of the checker's instruction set is a compiled-code type of that table -/
theorem code_types_cover_instructions :
    ∀ t ∈ Generated.InstrSet.instrTypes, t ∈ Generated.CodeWrites.codeTypes := by decide +kernel

theorem code_types_cover_loop_and_template :
    "Loop" ∈ Generated.CodeWrites.codeTypes ∧ "SexpFunction" ∈ Generated.CodeWrites.codeTypes := by decide +kernel

/-- **same_pc_same_depth.** Inside ONE activation of a verified function the scope depth is
`S + k(pc)` — the depth at which this activation was entered plus a compile-time constant of the
pc. Hence two visits of the same pc by the same activation see the same scope depth, whatever
happened in between: loop iterations, breaks, nested calls (each a single step that leaves the
scope depth alone — `call_contract_of_verified_callee` — also when the callee is the function
itself). -/
theorem same_pc_same_depth (f : Fn) (ann : Ann) (hv : verify f ann = true)
    (D : List Cell) (S A : Nat) (c0 c c' : CState)
    (hpc : c0.pc = 0) (hdata : c0.data = List.replicate f.entryCount .val ++ D)
    (hsc : c0.sc = S) (haddr : c0.addr = A) (hr : Reach f c0 c) (hr' : Reach f c0 c')
    (hsame : c.pc = c'.pc) :
    c.sc = c'.sc ∧ ∃ a, annAt ann c.pc = some a ∧ c.sc = S + a.k := by
  refine ⟨Bal.same_pc_same_depth f ann hv D S A c0 c c' hpc hdata hsc haddr hr hr' hsame, ?_⟩
  exact scope_depth_of_pc f ann hv D S A c0 c hpc hdata hsc haddr hr

/-- **break_lands_at_activation_depth.** A `break`/`continue` of a verified function, executed by
an activation that was entered with `S` scopes: (1) pops exactly the count `p` written in the
instruction (nothing is read from the loop record but the jump offset), (2) `p` is the difference
of the compile-time constants of the two pcs, and (3) afterwards the scope depth is
`S + k(landing pc)` — THIS activation's depth at the landing point; (4) compared with any visit
`cs` of a `LoopStartInstr` by the same activation, before or after any number of re-entrant calls,
the difference is the constant `k(landing) − k(loopStart)` (1 in generated code: the loop's own
scope, `exWalk_constants`). This is why the static count is right for re-entrant code and why no
record of "the depth at loop entry" is needed. -/
theorem break_lands_at_activation_depth (f : Fn) (ann : Ann) (hv : verify f ann = true)
    (D : List Cell) (S A : Nat) (c0 c c' : CState)
    (hpc : c0.pc = 0) (hdata : c0.data = List.replicate f.entryCount .val ++ D)
    (hsc : c0.sc = S) (haddr : c0.addr = A) (hreach : Reach f c0 c)
    (l : Nat) (off : Int) (p : Nat) (hat : AtExit f c l off p) (hstep : CStep f c c') :
    (p ≤ c.sc ∧ c'.sc = c.sc - p ∧ c'.data = c.data ∧ c'.addr = c.addr)
    ∧ (∃ a a', annAt ann c.pc = some a ∧ annAt ann c'.pc = some a' ∧
        c.sc = S + a.k ∧ c'.sc = S + a'.k ∧ a.k = a'.k + p)
    ∧ (∀ cs l', Reach f c0 cs → f.code[cs.pc]? = some (.loopStart l') →
        ∃ as a', annAt ann cs.pc = some as ∧ annAt ann c'.pc = some a' ∧ c'.sc + as.k = cs.sc + a'.k) := by
  refine ⟨exit_pops_static f c c' l off p hat hstep, exit_lands_at_activation_depth f ann hv D S A c0 c c' hpc hdata hsc haddr hreach l off p hat hstep, ?_⟩
  intro cs l' hrs _
  obtain ⟨as, has, hks⟩ := scope_depth_of_pc f ann hv D S A c0 cs hpc hdata hsc haddr hrs
  obtain ⟨a', ha', hk'⟩ := scope_depth_of_pc f ann hv D S A c0 c' hpc hdata hsc haddr (Reach.step _ _ _ hreach hstep)
  exact ⟨as, a', has, ha', by omega⟩

/-- **call_contract_of_verified_callee.** The single step the stack-effect machine takes for a
call — arguments popped, ONE value pushed, scope and address depth as before — is what a run of a
verified callee to its `ret` does from the caller's state, at ANY scope depth and on top of ANY
rest of the data stack. With `g := f` it is the recursive call a function makes from inside its
own loop body: it comes back with the scope depth it was made at. -/
theorem call_contract_of_verified_callee (g : Fn) (ann : Ann) (hv : verify g ann = true)
    (rest : List Cell) (sc addr : Nat) (e : CState)
    (hreach : Reach g ⟨0, List.replicate g.entryCount .val ++ rest, sc, addr + 1⟩ e) (hret : AtRet g e) :
    e.data = List.replicate 1 .val ++ rest ∧ e.sc = sc ∧ (afterRet e).addr = addr :=
  Bal.call_contract_of_verified_callee g ann hv rest sc addr e hreach hret

/-- **nested_activation_depths.** Two activations of the same verified code, one inside the other:
the outer one (entered at depth `S`) is at `c` when the function is entered again at depth `c.sc`.
Whenever the two activations are at the same pc — e.g. both just landed behind a `break` of the
same loop — their scope depths differ by exactly `c.sc − S`, the depth of the call site inside the
outer activation (≥ 1 behind `AddFuncScopeInstr`). One depth recorded per loop, in the shared
`Loop` record, by whichever activation entered the loop last, is therefore wrong for the other
one; the static count is right for both. -/
theorem nested_activation_depths (f : Fn) (ann : Ann) (hv : verify f ann = true)
    (D : List Cell) (S A : Nat) (c0 c : CState)
    (hpc : c0.pc = 0) (hdata : c0.data = List.replicate f.entryCount .val ++ D)
    (hsc : c0.sc = S) (haddr : c0.addr = A) (hc : Reach f c0 c)
    (rest : List Cell) (hcd : c.data = List.replicate f.entryCount .val ++ rest)
    (x' y' : CState)
    (hx : Reach f ⟨0, c.data, c.sc, c.addr + 1⟩ x') (hy : Reach f c0 y') (hsame : x'.pc = y'.pc) :
    S ≤ c.sc ∧ x'.sc = y'.sc + (c.sc - S) :=
  Bal.nested_activation_depths f ann hv D S A c0 c hpc hdata hsc haddr hc rest hcd x' y' hx hy hsame

/-- **exec_break_continue_static** (VM model): `exec` of `BreakInstr` / `ContinueInstr` drops exactly
the static number of scopes and writes neither the loop table nor the function table nor the data
or address stack; `LoopStartInstr` changes nothing but the pc. -/
theorem exec_break_continue_static (l k n : Nat) (s s' : St) :
    ((exec (n + 1) (.brk l k)).run s = (.ok (), s') ∨ (exec (n + 1) (.cont l k)).run s = (.ok (), s') →
      k ≤ s.linear.length ∧ s'.linear = s.linear.drop k ∧ s'.loops = s.loops ∧ s'.fns = s.fns ∧
      s'.data = s.data ∧ s'.addr = s.addr)
    ∧ ((exec (n + 1) (.loopStart l)).run s = (.ok (), s') → s' = { s with pc := s.pc + 1 }) := by
  refine ⟨?_, fun hex => by cases (Sim.exec_loopStart n l s).symm.trans hex; rfl⟩
  rintro (h | h) <;> obtain ⟨_, _, h1, rfl⟩ := exitLoop_ok ((exec_simple_eq n _ s rfl).symm.trans h) <;>
    exact ⟨h1, rfl, rfl, rfl, rfl, rfl⟩

/-! ### Non-vacuity -/

/-- The recursive tree walk of the seeded change's demonstration, as the REAL generator compiles it
(listing taken from channel `bal`):
`(defn walk [tree] (for [(def i 0) (< i (len tree)) (set i (+ i 1))]
   (let [c (aget tree i)] (cond (array? c) (walk c) (< c 0) (break) (set total (+ total c))))))`.
Instruction 2 is the `LoopStartInstr`, 25 the recursive call, 29 the `break` out of the `let`
(one scope to pop), 38 its landing point. -/
def exWalk : Fn :=
  { kind := .fn, nformals := 1, nfixed := 1,
    code := [.addFuncScope, .popStackPutEnv, .loopStart 1, .addScope, .pushMark 1, .label, .push, .dup,
             .popStackPutEnv, .popUntilMark 1, .jump 6, .label, .callExpr 2, .dup, .update, .popUntilMark 1,
             .label, .callExpr 2, .branch false 19, .label, .addScope, .callExpr 2, .popStackPutEnv,
             .callExpr 1, .branch false 3, .callExpr 1, .jump 8, .callExpr 2, .branch false 3, .brk 1 36 1,
             .jump 4, .callExpr 2, .dup, .update, .removeScope, .popUntilMark 1, .jump (-25), .label,
             .clearMark 1, .removeScope, .push, .removeScope, .ret false] }

example : checkB exWalk = true := by decide +kernel

/-- the compile-time constants `k` of the walk: 1 at the `LoopStartInstr` (the function scope), 3 at
the `break` (function, loop, `let`), 2 at its landing point (function, loop) — landing minus loop
start = 1, the loop's own scope. -/
theorem exWalk_constants :
    (infer exWalk).toOption.map (fun ann => ((annAt ann 2).map (·.k), (annAt ann 29).map (·.k), (annAt ann 38).map (·.k)))
      = some (some 1, some 3, some 2) := by decide +kernel

/-- a minimal function with a `break` out of one nested scope -/
def exBreak : Fn :=
  { kind := .fn, code := [.addFuncScope, .loopStart 1, .addScope, .pushMark 1, .addScope, .brk 1 5 1,
                          .clearMark 1, .removeScope, .push, .removeScope, .ret false] }

example : checkB exBreak = true := by decide +kernel

/-- The hypotheses of `break_lands_at_activation_depth` are satisfiable: `exBreak`, entered with 7
scopes on top of a caller's data, reaches its `break` with 10 scopes and lands with 9 = 7 + 2. -/
example : ∃ c c', Reach exBreak ⟨0, [.val, .marker], 7, 3⟩ c ∧ AtExit exBreak c 1 5 1 ∧ CStep exBreak c c'
    ∧ c.sc = 10 ∧ c'.sc = 9 ∧ c'.pc = 6 := by
  refine ⟨⟨5, [.mark 1, .val, .marker], 10, 3⟩, ⟨6, [.mark 1, .val, .marker], 9, 3⟩, ?_, Or.inl rfl, ?_, rfl, rfl, rfl⟩
  · have s1 : CStep exBreak ⟨0, [.val, .marker], 7, 3⟩ ⟨1, [.val, .marker], 8, 3⟩ :=
      CStep.scopeUp _ .addFuncScope rfl rfl
    have s2 : CStep exBreak ⟨1, [.val, .marker], 8, 3⟩ ⟨2, [.val, .marker], 8, 3⟩ :=
      CStep.simple _ (.loopStart 1) 0 0 [] [.val, .marker] rfl rfl rfl rfl
    have s3 : CStep exBreak ⟨2, [.val, .marker], 8, 3⟩ ⟨3, [.val, .marker], 9, 3⟩ :=
      CStep.scopeUp _ .addScope rfl rfl
    have s4 : CStep exBreak ⟨3, [.val, .marker], 9, 3⟩ ⟨4, [.mark 1, .val, .marker], 9, 3⟩ :=
      CStep.pushMark _ (.pushMark 1) 1 rfl rfl
    have s5 : CStep exBreak ⟨4, [.mark 1, .val, .marker], 9, 3⟩ ⟨5, [.mark 1, .val, .marker], 10, 3⟩ :=
      CStep.scopeUp _ .addScope rfl rfl
    exact Reach.step _ _ _ (Reach.step _ _ _ (Reach.step _ _ _ (Reach.step _ _ _ (Reach.step _ _ _ (Reach.refl _) s1) s2) s3) s4) s5
  · exact CStep.exitLoop (f := exBreak) ⟨5, [.mark 1, .val, .marker], 10, 3⟩ (.brk 1 5 1) 1 5 1 1 rfl rfl (by decide) (by decide) (by decide)

/-- a VM state inside a function `g` that consists of a loop start and a `break` with two scopes to pop -/
def exBrkSt : St :=
  { initSt with fns := initSt.fns ++ [{ name := "g", code := [.loopStart 0, .brk 0 2] }], curfunc := 2,
                loops := [{ breakOff := 2 }], linear := [some 0, some 0, some 0], pc := 1 }

set_option linter.unusedSimpArgs false in
/-- `exec_break_continue_static` is not vacuous: that `break`, run by the VM model, succeeds, drops
two of the three scopes and jumps to loop start + break offset. -/
example : ∃ s', (exec 1 (.brk 0 2)).run exBrkSt = (.ok (), s') ∧ s'.linear = [some 0] ∧ s'.pc = 2 := by
  refine ⟨{ exBrkSt with linear := [some 0], pc := 2 }, ?_, rfl, rfl⟩
  rw [exec]
  rfl

end ZygoVerif.C04
