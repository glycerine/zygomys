/-
C20 — evaluation is deterministic: independent of Go's randomised map iteration order.

1. `inventory_complete`: every `for … range` over a map in package zygo (table regenerated
   from the source by extract/ex_mapranges.go) carries a hand-written justification, none is
   `observable`, and the syntactic shape the extractor sees is one the justification admits.
2. `perm_invariant_<walk>`: each modelled walk (Model/MapWalk.lean; the Go map is an
   association list whose ORDER is the iteration order) gives the same result for every
   permutation of the list.
3. `…_counterexample`: the walks as they were before fixes/C20-01, C20-02 do depend on
   the permutation (two orders, two results).
4. `inventory_effects`: what each loop body can DO, transitively through the functions of
   package zygo it calls (interning, appends to order-carrying fields, counters, printing,
   writes to package-level variables, calls of function values — computed by
   extract/ex_effects.go), is admitted by its class or argued per site; a walk is order-free
   when its effects commute (`perm_invariant_of_commute`), and the non-commuting classes
   (interning, collecting without a sort, returning the loop variable, printing) have
   `…_order_dependent` theorems — interning is fine only over SORTED keys
   (`perm_invariant_internSorted`, `perm_invariant_decodeIntern`).
5. `globals_writes_allowed`, `sharedTypes_writes_allowed`: every package-level variable of
   package zygo that anything writes after init (table regenerated by extract/ex_globals.go),
   and every function that writes it, is in a committed, justified allow-list;
   `fresh_eval_independent_of_history` is the frame argument that uses it.
The rest of the interpreter model is a function of the program text, so these are the only
places where a second run could differ (apart from random/time/pointer printing).
-/
import ZygoVerif.Model.MapWalk
import ZygoVerif.Model.LegacyMapWalk
import ZygoVerif.Spec.OrderFree
import ZygoVerif.Generated.MapRanges
import ZygoVerif.Generated.Globals
import ZygoVerif.Model.ProcState
import Mathlib.Data.String.Basic
import Mathlib.Data.List.Nodup

namespace ZygoVerif.Props.C20
open ZygoVerif ZygoVerif.MapWalk ZygoVerif.Generated.MapRanges

/-! ## The inventory -/

/-- Why a walk cannot make two runs differ. -/
inductive Just where
  /-- collected into a slice that is sorted (distinct keys) before anything reads it
  — `perm_invariant_collectSort` -/
  | sortedBeforeUse
  /-- only stores `dst[k] = v` into another map, distinct keys — `perm_invariant_copyInto` -/
  | mapCopy
  /-- folds a commutative, associative operation — `perm_invariant_hashCountKeys` -/
  | commutativeFold
  /-- leaves the loop early but with a constant — `perm_invariant_hashIsEmpty` -/
  | constantOnHit
  /-- builds a Go map / fills struct fields element by element (distinct keys, the
  per-element conversions do not see each other); the *successful* result is order-free.
  When two elements are both unconvertible, WHICH one the error names follows the walk:
  recorded as known finding (notes/C20.known.json); not modelled, rerun-tested only -/
  | errorChoiceOnly
  /-- Go-level debugging / command-line statistics output, not reachable from evaluation -/
  | debugOnly
  /-- the iteration order reaches the script: never acceptable -/
  | observable
  deriving DecidableEq, Repr

structure Entry where
  func : String
  ord : Nat
  just : Just
  /-- Effects that the (coarse, flow-insensitive, class-hierarchy) analysis of
  extract/ex_effects.go reports for this body and that a person has argued cannot make two
  runs differ HERE; the comment at the entry says why. Anything not listed here must be
  admitted by the class (`admitsEffect`). -/
  argued : List Effect
  deriving DecidableEq, Repr

/-- every effect the analysis knows -/
def allEffects : List Effect := [.interns, .fieldAppend, .fieldCounter, .emits, .globalWrite, .dynCall]

/-- Hand-written: site id → justification. -/
def Classified : List Entry := [
  ⟨"sortedKeys", 0, .sortedBeforeUse, []⟩,              -- fix 02: NewZlispWithFuncs, ImportBaseTypes, EnvAvail
  ⟨"makeSortedSlicesFromMap", 0, .sortedBeforeUse, []⟩,
  ⟨"init", 0, .sortedBeforeUse, []⟩,                    -- liner.go completion keywords
  -- Scope.Show renders each bound value with `val.SexpString(ps)` BEFORE the sort; through the
  -- Sexp interface that reaches every printer of the package (and from RecordDefn.SexpString →
  -- FieldWidths → HashGet → dot-path lookup even MakeSymbol / HashSet). Assumed pure: this is
  -- the stated assumption of `perm_invariant_scopeShow_partial` (see notes/C20.md).
  ⟨"Scope.Show", 0, .sortedBeforeUse, allEffects⟩,
  ⟨"MergeFuncMap", 0, .mapCopy, []⟩,
  ⟨"SexpHash.CloneFrom", 0, .mapCopy, []⟩,
  ⟨"SexpHash.CloneFrom", 1, .mapCopy, []⟩,
  ⟨"SexpHash.CopyMap", 0, .mapCopy, []⟩,
  ⟨"Scope.CloneScope", 0, .mapCopy, []⟩,
  ⟨"HashCountKeys", 0, .commutativeFold, []⟩,
  ⟨"HashIsEmpty", 0, .constantOnHit, []⟩,
  ⟨"fillHashByKind", 0, .constantOnHit, []⟩,            -- fix C10-04: struct held by value; the hit value ignores the loop variable; all its effects sit inside the `return` (exitEffects: run once)
  ⟨"SexpToGo", 0, .errorChoiceOnly, []⟩,
  ⟨"SexpToGoStructs", 0, .errorChoiceOnly, []⟩,
  ⟨"SexpToGoStructs", 1, .errorChoiceOnly, []⟩,
  ⟨"SexpToGoStructs", 2, .errorChoiceOnly, []⟩,
  -- #3, #4 convert each member with a recursive SexpToGoStructs. The analysis reaches
  -- interning / KeyOrder appends / registry writes only through `sexp.SexpString(nil)` where
  -- the recursive call builds an ERROR message (failure path: the class), and `dynCall` is
  -- `factory.Factory(env, src)`: one fresh Go struct per nested record (registered factories
  -- allocate and return; an embedder's factory with side effects would see bucket order).
  ⟨"SexpToGoStructs", 3, .errorChoiceOnly, [.interns, .fieldAppend, .fieldCounter, .globalWrite, .dynCall]⟩,
  ⟨"SexpToGoStructs", 4, .errorChoiceOnly, [.interns, .fieldAppend, .fieldCounter, .globalWrite, .dynCall]⟩,
  ⟨"Zlisp.DumpSymTable", 0, .debugOnly, []⟩,
  ⟨"PrintState.Dump", 0, .debugOnly, []⟩,
  ⟨"runScript", 0, .debugOnly, []⟩,
  ⟨"runScript", 1, .debugOnly, []⟩
]

/-- Which body shapes (computed by the extractor) a justification admits. -/
def admits : Just → Shape → Bool
  | .sortedBeforeUse, .collectSort => true
  | .mapCopy, .mapWrite => true
  | .commutativeFold, .counts => true
  | .constantOnHit, .firstHit => true
  | .errorChoiceOnly, .mapWrite => true
  | .errorChoiceOnly, .firstHit => true
  | .errorChoiceOnly, .emits => true
  | .debugOnly, .emits => true
  | _, _ => false

/-- Which per-element effects of a body (transitive, `Site.effects`) a class admits by itself.
Interning, appends to order-carrying fields, counters, writes to package-level variables and
calls of unknown function values are admitted by NO class: they do not commute
(`intern_not_comm`, `internWalk_order_dependent`, `collectUnsorted_order_dependent`), so a
body that has one needs a per-site argument (`Entry.argued`) — or a sort before the loop, which
takes the loop out of this table altogether (a `range` over a sorted slice is not a map walk). -/
def admitsEffect : Just → Effect → Bool
  | .errorChoiceOnly, .emits => true   -- the ' skipping field' / 'unknown type' diagnostics on the failure path
  | .debugOnly, .emits => true
  | _, _ => false

/-- The justification of a site, `observable` when nobody classified it. -/
def classOf (s : Site) : Just :=
  match Classified.find? (fun e => e.func = s.func ∧ e.ord = s.ord) with
  | some e => e.just
  | none => .observable

def isClassified (s : Site) : Bool :=
  Classified.any (fun e => e.func = s.func ∧ e.ord = s.ord)

def arguedOf (s : Site) : List Effect :=
  match Classified.find? (fun e => e.func = s.func ∧ e.ord = s.ord) with
  | some e => e.argued
  | none => []

/-- The four inventory facts below, site by site. Checked together because finding the class
of a site (string comparisons against `Classified`) is what the evaluation spends its time on:
this way each site is looked up once, not once per fact. -/
theorem inventory_sites : ∀ site ∈ mapRanges,
    (isClassified site = true ∧ classOf site ≠ .observable
      ∧ admits (classOf site) site.shape = true) ∧
    (∀ e ∈ site.effects, admitsEffect (classOf site) e = true ∨ e ∈ arguedOf site) ∧
    (classOf site ≠ .errorChoiceOnly → site.func ≠ "Scope.Show" →
      ∀ e ∈ site.effects, e = .emits ∧ classOf site = .debugOnly) ∧
    (site.valueCalls = true →
      classOf site = .errorChoiceOnly ∨ site.func = "Scope.Show" ∨ site.func = "fillHashByKind") := by
  decide +kernel

/-- Every map walk of the package is classified, none as observable, and its body still
has a shape its justification admits. A new `for … range` over a map anywhere in
package zygo — or an old one whose body changes class — breaks this until a person
looks at it. (The quantifier is the whole regenerated table: a proof, not a sample.) -/
theorem inventory_complete :
    ∀ site ∈ mapRanges, isClassified site = true ∧ classOf site ≠ .observable
      ∧ admits (classOf site) site.shape = true :=
  fun site h => (inventory_sites site h).1

/-- Every effect a loop body can have once per element — transitively through every function
of package zygo it can call, interface calls resolved over all implementations — is admitted
by the site's class or argued for that site. A new `env.MakeSymbol(k)`, `x.KeyOrder =
append(…)`, counter bump, print, store into a package-level variable or call of a function
value inside (or below) the body of any range-over-map breaks this until a person looks. -/
theorem inventory_effects :
    ∀ site ∈ mapRanges, ∀ e ∈ site.effects,
      admitsEffect (classOf site) e = true ∨ e ∈ arguedOf site :=
  fun site h => (inventory_sites site h).2.1

/-- Readable corollary: outside the conversions whose order dependence is confined to the
failure path (errorChoiceOnly) and the scope dump whose rendering is assumed pure, NO map walk
of the package interns a symbol, appends to an order-carrying field, bumps a field counter,
stores into a package-level variable or calls a function value, however deep in its callees. -/
theorem inventory_no_noncommuting_effect :
    ∀ site ∈ mapRanges, classOf site ≠ .errorChoiceOnly → site.func ≠ "Scope.Show" →
      ∀ e ∈ site.effects, e = .emits ∧ classOf site = .debugOnly :=
  fun site h => (inventory_sites site h).2.2.1

/-- Value-position calls (a conversion of each element that could carry state from one
element to the next) occur only in walks whose justification accounts for them. -/
theorem inventory_valueCalls :
    ∀ site ∈ mapRanges, site.valueCalls = true →
      classOf site = .errorChoiceOnly ∨ site.func = "Scope.Show" ∨ site.func = "fillHashByKind" :=
  fun site h => (inventory_sites site h).2.2.2

/-- The table is not empty and ids are unique (otherwise `classOf` would be ambiguous). -/
theorem inventory_ids_unique : (mapRanges.map Site.id).Nodup ∧ mapRanges ≠ [] := by
  decide +kernel

/-! ## Permutation invariance of the modelled walks -/

section lemmas
universe u v
variable {K : Type u} {V : Type v}

theorem lookup_eq_some_iff [DecidableEq K] {l : List (K × V)} (hn : (l.map (·.1)).Nodup) (k : K) (v : V) :
    lookup k l = some v ↔ (k, v) ∈ l := by
  induction l with
  | nil => simp [lookup]
  | cons p rest ih =>
    obtain ⟨k', v'⟩ := p
    simp only [List.map_cons, List.nodup_cons] at hn
    by_cases hk : k' = k
    · subst hk
      simp only [lookup, if_true, List.mem_cons, Option.some.injEq, Prod.mk.injEq, true_and]
      constructor
      · intro h; exact Or.inl h.symm
      · rintro (h | h)
        · exact h.symm
        · exact absurd (List.mem_map_of_mem (f := (·.1)) h) hn.1
    · simp only [lookup, if_neg hk, List.mem_cons, Prod.mk.injEq]
      rw [ih hn.2]
      constructor
      · intro h; exact Or.inr h
      · rintro (h | h)
        · exact absurd h.1.symm hk
        · exact h

end lemmas

/-- `m[k]` does not depend on the iteration order (used by every walk that only looks up). -/
theorem perm_invariant_lookup {K V} [DecidableEq K] {l₁ l₂ : List (K × V)} (p : l₁.Perm l₂)
    (hn : (l₁.map (·.1)).Nodup) (k : K) : lookup k l₁ = lookup k l₂ := by
  have hn₂ : (l₂.map (·.1)).Nodup := (p.map _).nodup_iff.mp hn
  apply Option.ext
  intro v
  rw [lookup_eq_some_iff hn, lookup_eq_some_iff hn₂]
  exact p.mem_iff

/-- What the sort comparison must satisfy on keys (true of `<` on Go strings). -/
structure StrictTotal {K} (lt : K → K → Bool) : Prop where
  trans : ∀ a b c, lt a b = true → lt b c = true → lt a c = true
  asymm : ∀ a b, lt a b = true → lt b a = false
  total : ∀ a b, a ≠ b → lt a b = true ∨ lt b a = true

theorem insertByKey_comm {K V} {lt : K → K → Bool} (h : StrictTotal lt) (p q : K × V) (hpq : p.1 ≠ q.1)
    (l : List (K × V)) :
    insertByKey lt p (insertByKey lt q l) = insertByKey lt q (insertByKey lt p l) := by
  induction l with
  | nil =>
    rcases h.total _ _ hpq with hlt | hlt
    · have := h.asymm _ _ hlt
      simp [insertByKey, hlt, this]
    · have := h.asymm _ _ hlt
      simp [insertByKey, hlt, this]
  | cons r rest ih =>
    by_cases hp : lt p.1 r.1 = true <;> by_cases hq : lt q.1 r.1 = true
    · rcases h.total _ _ hpq with hlt | hlt
      · have := h.asymm _ _ hlt
        simp [insertByKey, hp, hq, hlt, this]
      · have := h.asymm _ _ hlt
        simp [insertByKey, hp, hq, hlt, this]
    · have hqp : lt q.1 p.1 = false := by
        cases hc : lt q.1 p.1 with
        | false => rfl
        | true => exact absurd (h.trans _ _ _ hc hp) hq
      simp [insertByKey, hp, hq, hqp]
    · have hpq' : lt p.1 q.1 = false := by
        cases hc : lt p.1 q.1 with
        | false => rfl
        | true => exact absurd (h.trans _ _ _ hc hq) hp
      simp [insertByKey, hp, hq, hpq']
    · simp [insertByKey, hp, hq, ih]

/-- **Sort-after-collect** (`makeSortedSlicesFromMap`, `sortedKeys`, `Scope.Show`, the
completion keywords): whatever order the map yields its entries in, the sorted slice is
the same. Needs what Go guarantees: map keys are distinct. -/
theorem perm_invariant_collectSort {K V} {lt : K → K → Bool} (h : StrictTotal lt)
    {l₁ l₂ : List (K × V)} (p : l₁.Perm l₂) (hn : (l₁.map (·.1)).Nodup) :
    collectSort lt l₁ = collectSort lt l₂ := by
  unfold collectSort
  apply p.foldr_eq'
  intro x hx y hy z
  by_cases hxy : x = y
  · subst hxy; rfl
  · have hk : y.1 ≠ x.1 := fun hk => hxy (List.inj_on_of_nodup_map hn hx hy hk.symm)
    exact insertByKey_comm h y x hk z

theorem strLt_strictTotal : StrictTotal (fun a b : String => decide (a < b)) where
  trans := by
    intro a b c h1 h2
    simp only [decide_eq_true_eq] at *
    exact lt_trans h1 h2
  asymm := by
    intro a b h1
    simp only [decide_eq_true_eq, decide_eq_false_iff_not] at *
    exact lt_asymm h1
  total := by
    intro a b hne
    simp only [decide_eq_true_eq]
    exact lt_or_gt_of_ne hne

theorem perm_invariant_makeSortedSlicesFromMap {V} {l₁ l₂ : List (String × V)} (p : l₁.Perm l₂)
    (hn : (l₁.map (·.1)).Nodup) : makeSortedSlicesFromMap l₁ = makeSortedSlicesFromMap l₂ := by
  simp only [makeSortedSlicesFromMap, perm_invariant_collectSort strLt_strictTotal p hn]

theorem perm_invariant_sortedKeys {V} {l₁ l₂ : List (String × V)} (p : l₁.Perm l₂)
    (hn : (l₁.map (·.1)).Nodup) : sortedKeys l₁ = sortedKeys l₂ := by
  simp only [sortedKeys, perm_invariant_collectSort strLt_strictTotal p hn]

/-- `Scope.Show`, *assuming* that symbol names are distinct (`revsymtable` is injective on
the scope's keys) and that rendering a value is a pure function of the value. The second
assumption is the partial part: `val.SexpString(ps)` threads a PrintState whose seen-set
makes a scope/hash that is reachable from two bindings print in full only the first time
it is met — see notes/C20.md. -/
theorem perm_invariant_scopeShow_partial {V} (name : Nat → String) (render : V → String)
    {s₁ s₂ : List (Nat × V)} (p : s₁.Perm s₂)
    (hn : ((s₁.map fun (n, v) => (name n, render v)).map (·.1)).Nodup) :
    scopeShow name render s₁ = scopeShow name render s₂ := by
  simp only [scopeShow, perm_invariant_collectSort strLt_strictTotal (p.map _) hn]

/-- **The general principle.** A range-over-map loop is `order.foldl step s`. If the effects
of any two elements of the map commute on every state, every iteration order ends in the same
state. (`mapWrite` and `counts` bodies commute: `perm_invariant_copyInto`,
`perm_invariant_hashCountKeys` below.) -/
theorem perm_invariant_of_commute {S E} (step : S → E → S) {l₁ l₂ : List E} (p : l₁.Perm l₂)
    (hc : ∀ x ∈ l₁, ∀ y ∈ l₁, ∀ s, step (step s x) y = step (step s y) x) (s : S) :
    walk step s l₁ = walk step s l₂ := by
  unfold walk
  exact p.foldl_eq' (fun x hx y hy z => hc x hx y hy z) s

example : walk (fun (n : Nat) (p : String × Nat) => n + p.2) 0 [("a", 1), ("b", 2)]
    = walk (fun (n : Nat) (p : String × Nat) => n + p.2) 0 [("b", 2), ("a", 1)] :=
  perm_invariant_of_commute _ (List.Perm.swap _ _ _) (by intro x _ y _ s; show s + x.2 + y.2 = s + y.2 + x.2; omega) 0

theorem copyInto_eq_foldl {K V} [DecidableEq K] (l : List (K × V)) (dst : K → Option V) :
    copyInto dst l = l.foldl (fun d p => fun k' => if k' = p.1 then some p.2 else d k') dst := by
  induction l generalizing dst with
  | nil => rfl
  | cons p rest ih => obtain ⟨k, v⟩ := p; simp only [copyInto, List.foldl_cons]; exact ih _

/-- **Map copy** (`CopyMap`, `CloneFrom`'s JsonTagMap and ZMethods, `CloneScope`,
`MergeFuncMap`, the `m[key] = val` walks): the destination map ends up with the same
content whatever the order. -/
theorem perm_invariant_copyInto {K V} [DecidableEq K] {l₁ l₂ : List (K × V)} (p : l₁.Perm l₂)
    (hn : (l₁.map (·.1)).Nodup) (dst : K → Option V) : copyInto dst l₁ = copyInto dst l₂ := by
  rw [copyInto_eq_foldl, copyInto_eq_foldl]
  refine perm_invariant_of_commute _ p (fun x hx y hy z => ?_) dst
  by_cases hxy : x = y
  · subst hxy; rfl
  · have hk : x.1 ≠ y.1 := fun hk => hxy (List.inj_on_of_nodup_map hn hx hy hk)
    funext k'
    by_cases h1 : k' = y.1 <;> by_cases h2 : k' = x.1
    · exact absurd (h2.symm.trans h1) hk
    · subst h1; simp [Ne.symm hk]
    · subst h2; simp [hk]
    · simp [h1, h2]

theorem perm_invariant_copyMap {K V} [DecidableEq K] {l₁ l₂ : List (K × V)} (p : l₁.Perm l₂)
    (hn : (l₁.map (·.1)).Nodup) : copyMap l₁ = copyMap l₂ :=
  perm_invariant_copyInto p hn _

/-- **HashCountKeys**: a sum. -/
theorem perm_invariant_hashCountKeys {P} {b₁ b₂ : List (Nat × List P)} (p : b₁.Perm b₂) :
    hashCountKeys b₁ = hashCountKeys b₂ :=
  perm_invariant_of_commute (fun num (x : Nat × List P) => num + x.2.length) p
    (fun _ _ _ _ _ => Nat.add_right_comm ..) 0

theorem hashIsEmpty_iff {P} (b : List (Nat × List P)) :
    hashIsEmpty b = true ↔ ∀ x ∈ b, x.2.length = 0 := by
  induction b with
  | nil => simp [hashIsEmpty]
  | cons x rest ih =>
    obtain ⟨n, arr⟩ := x
    by_cases h : arr.length > 0
    · simp only [hashIsEmpty, if_pos h, List.mem_cons, forall_eq_or_imp]
      constructor
      · intro hf; exact absurd hf (by simp)
      · intro hf; omega
    · simp only [hashIsEmpty, if_neg h, List.mem_cons, forall_eq_or_imp, ih]
      constructor
      · intro hf; exact ⟨by omega, hf⟩
      · intro hf; exact hf.2

/-- **HashIsEmpty**: returns on the first non-empty bucket, but with a constant. -/
theorem perm_invariant_hashIsEmpty {P} {b₁ b₂ : List (Nat × List P)} (p : b₁.Perm b₂) :
    hashIsEmpty b₁ = hashIsEmpty b₂ := by
  rw [Bool.eq_iff_iff, hashIsEmpty_iff, hashIsEmpty_iff]
  constructor
  · intro h x hx; exact h x (p.mem_iff.mpr hx)
  · intro h x hx; exact h x (p.mem_iff.mp hx)

theorem structByValueScan_eq {R} (reg : List (String × (Bool × Nat))) (goType : Nat) (onHit miss : R) :
    structByValueScan reg goType onHit miss
      = if reg.any (fun e => e.2.1 && e.2.2 == goType) then onHit else miss := by
  induction reg with
  | nil => simp [structByValueScan]
  | cons x rest ih =>
    obtain ⟨n, hs, tc⟩ := x
    by_cases h : (hs && tc == goType) = true
    · simp [structByValueScan, h]
    · simp only [structByValueScan, h, List.any_cons, ih, Bool.false_or]
      rfl

/-- **fillHashByKind, struct held by value**: the walk leaves on the first matching
registration, but what it returns (`fillHashHelper` of the value itself) does not depend on
which registration matched, so any iteration order of the registry gives the same result —
for every registry, also one that registers a Go type under several names. The call in value
position that the extractor flags (`valueCalls`) is that `onHit`. -/
theorem perm_invariant_structByValueScan {R} {r₁ r₂ : List (String × (Bool × Nat))}
    (p : r₁.Perm r₂) (goType : Nat) (onHit miss : R) :
    structByValueScan r₁ goType onHit miss = structByValueScan r₂ goType onHit miss := by
  rw [structByValueScan_eq, structByValueScan_eq, p.any_eq]

example : structByValueScan [("a", (false, 3)), ("B", (true, 3)), ("b", (true, 3))] 3 "rec" "nil" = "rec"
    ∧ structByValueScan [("b", (true, 3)), ("a", (false, 3)), ("B", (true, 3))] 3 "rec" "nil" = "rec" := by
  decide +kernel

/-- **fillHashHelper after fix 01**: the record's type name does not depend on the order
in which the registry map would be iterated — the walk goes over the registration-ordered
slice and only looks the map up. -/
theorem perm_invariant_fillHashTypeName (order : List String) {r₁ r₂ : List (String × RegType)}
    (p : r₁.Perm r₂) (hn : (r₁.map (·.1)).Nodup) (goType : Nat) :
    fillHashTypeName order r₁ goType = fillHashTypeName order r₂ goType := by
  induction order with
  | nil => rfl
  | cons name rest ih => simp only [fillHashTypeName, perm_invariant_lookup p hn, ih]

/-- **CallGoMethodFunction after fix 01**. -/
theorem perm_invariant_callGoTypeName (order : List String) {r₁ r₂ : List (String × RegType)}
    (p : r₁.Perm r₂) (hn : (r₁.map (·.1)).Nodup) (goType : Nat) :
    callGoTypeName order r₁ goType = callGoTypeName order r₂ goType := by
  induction order with
  | nil => rfl
  | cons name rest ih => simp only [callGoTypeName, perm_invariant_lookup p hn, ih]

/-- **Symbol numbering after fix 02**: the table after interning the builtins (hence
every `symnum`, symbol comparison and gensym name) does not depend on the order in which
the function map is iterated. -/
theorem perm_invariant_internBuiltins {V} (table : List String) {f₁ f₂ : List (String × V)}
    (p : f₁.Perm f₂) (hn : (f₁.map (·.1)).Nodup) :
    internBuiltins table f₁ = internBuiltins table f₂ := by
  simp only [internBuiltins, perm_invariant_sortedKeys p hn]

theorem intern_of_mem {t : List String} {a : String} (h : a ∈ t) : intern t a = t := by
  simp [intern, h]

theorem mem_intern_self (t : List String) (a : String) : a ∈ intern t a := by
  unfold intern
  split
  · assumption
  · simp

theorem mem_intern_of_mem {t : List String} {a b : String} (h : a ∈ t) : a ∈ intern t b := by
  unfold intern
  split
  · assumption
  · simp [h]

/-- Interning a name that is ALREADY in the table commutes with everything: names the parser
has seen (it interns the program text in source order) are not affected by any walk. -/
theorem intern_comm_of_mem (t : List String) (a b : String) (ha : a ∈ t) :
    intern (intern t a) b = intern (intern t b) a := by
  rw [intern_of_mem ha, intern_of_mem (mem_intern_of_mem ha)]

/-- **Interning does not commute**: two different names that are both new get their numbers
in the order of the calls. This is why a body that interns (class `interns`) is admitted by no
justification class. -/
theorem intern_not_comm (t : List String) (a b : String) (hab : a ≠ b) (ha : a ∉ t) (hb : b ∉ t) :
    intern (intern t a) b ≠ intern (intern t b) a := by
  have hb' : b ∉ t ++ [a] := by simp [hb, Ne.symm hab]
  have ha' : a ∉ t ++ [b] := by simp [ha, hab]
  simp only [intern, ha, hb, hb', ha', if_false]
  intro h
  simp at h
  exact hab h.1

example : ("zqa" : String) ≠ "zqb" ∧ "zqa" ∉ ["nil"] ∧ "zqb" ∉ ["nil"] := by decide

/-- **A body that interns the key of an unsorted map walk is order-dependent**: two iteration
orders of the same map, two symbol tables, and `symnum` tells them apart. -/
theorem internWalk_order_dependent :
    ∃ (m₁ m₂ : List (String × Nat)), m₁.Perm m₂ ∧ (m₁.map (·.1)).Nodup ∧
      internWalk ["nil"] m₁ ≠ internWalk ["nil"] m₂ ∧
      symnum (internWalk ["nil"] m₁) "zqa" ≠ symnum (internWalk ["nil"] m₂) "zqa" :=
  ⟨[("zqa", 1), ("zqb", 2)], [("zqb", 2), ("zqa", 1)], List.Perm.swap _ _ _, by decide, by decide, by decide⟩

/-- … unless every key is already interned (what a test that spells the keys in the program
text sees: nothing). -/
theorem perm_invariant_internWalk_of_known {V} (table : List String) {m₁ m₂ : List (String × V)}
    (p : m₁.Perm m₂) (hk : ∀ x ∈ m₁, x.1 ∈ table) : internWalk table m₁ = internWalk table m₂ := by
  have gen : ∀ (m : List (String × V)), (∀ x ∈ m, x.1 ∈ table) → internWalk table m = table := by
    intro m
    induction m with
    | nil => intro _; rfl
    | cons x rest ih =>
      intro h
      have hx : x.1 ∈ table := h x (by simp)
      have : internWalk table (x :: rest) = internWalk (intern table x.1) rest := rfl
      rw [this, intern_of_mem hx]
      exact ih (fun y hy => h y (by simp [hy]))
  rw [gen m₁ hk, gen m₂ (fun x hx => hk x (p.mem_iff.mpr hx))]

/-- **Interning over SORTED keys is order-free** (`for _, k := range sortedKeys(m) {
env.MakeSymbol(k) }`): the only admitted way to intern from a map. -/
theorem perm_invariant_internSorted {V} (table : List String) {m₁ m₂ : List (String × V)}
    (p : m₁.Perm m₂) (hn : (m₁.map (·.1)).Nodup) :
    (sortedKeys m₁).foldl intern table = (sortedKeys m₂).foldl intern table := by
  rw [perm_invariant_sortedKeys p hn]

/-- **The JSON/msgpack decoder** (`decodeGoToSexpHelper`, map case): the symbol table after
decoding an object does not depend on the order in which the Go map yields its members —
whatever the members' values intern (`namesIn`, `symsIn`: any functions of the value), for
every table, with or without `zKeyOrder` / `Atype` — because the one pass that interns runs
over `makeSortedSlicesFromMap(val)`. -/
theorem perm_invariant_decodeIntern {V} (namesIn symsIn : V → List String) (table : List String)
    {m₁ m₂ : List (String × V)} (p : m₁.Perm m₂) (hn : (m₁.map (·.1)).Nodup) :
    decodeIntern namesIn symsIn table m₁ = decodeIntern namesIn symsIn table m₂ := by
  simp only [decodeIntern, perm_invariant_collectSort strLt_strictTotal p hn]

example : decodeIntern (fun _ => []) id ["nil"]
      [("zqb", []), ("zKeyOrder", ["zqb", "zqa"]), ("Atype", []), ("zqa", [])] = ["nil", "zqb", "zqa"]
    ∧ decodeIntern (fun _ => []) id ["nil"]
      [("zqa", []), ("Atype", []), ("zqb", []), ("zKeyOrder", ["zqb", "zqa"])] = ["nil", "zqb", "zqa"]
    ∧ decodeIntern (fun _ => []) id ["nil"] [("zqb", []), ("Zq", []), ("zqa", [])] = ["nil", "Zq", "zqa", "zqb"] := by
  decide +kernel

/-- **Collecting without a sort is order-dependent** (a slice that is kept, a `KeyOrder`, a
registration list): shape `other`, effect `fieldAppend`. -/
theorem collectUnsorted_order_dependent :
    ∃ (m₁ m₂ : List (String × Nat)), m₁.Perm m₂ ∧ (m₁.map (·.1)).Nodup ∧
      collectUnsorted m₁ ≠ collectUnsorted m₂ :=
  ⟨[("a", 1), ("b", 2)], [("b", 2), ("a", 1)], List.Perm.swap _ _ _, by decide, by decide⟩

theorem collectUnsorted_eq {K V} (m : List (K × V)) : collectUnsorted m = m.map (·.1) := by
  have gen : ∀ (m : List (K × V)) (acc : List K),
      walk (fun acc p => acc ++ [p.1]) acc m = acc ++ m.map (·.1) := by
    intro m
    induction m with
    | nil => intro acc; simp [walk]
    | cons x rest ih =>
      intro acc
      have : walk (fun (acc : List K) (p : K × V) => acc ++ [p.1]) acc (x :: rest)
          = walk (fun acc p => acc ++ [p.1]) (acc ++ [x.1]) rest := rfl
      rw [this, ih]; simp
  simpa [collectUnsorted] using gen m []

/-- **Returning the loop variable on the first hit is order-dependent** (shape `firstHit`
unless the returned value is a constant: `perm_invariant_hashIsEmpty`). -/
theorem firstKey_order_dependent :
    ∃ (m₁ m₂ : List (String × Nat)), m₁.Perm m₂ ∧ (m₁.map (·.1)).Nodup ∧ firstKey m₁ ≠ firstKey m₂ :=
  ⟨[("a", 1), ("b", 2)], [("b", 2), ("a", 1)], List.Perm.swap _ _ _, by decide, by decide⟩

/-- **Printing from the body is order-dependent** (shape / effect `emits`). -/
theorem emitWalk_order_dependent :
    ∃ (m₁ m₂ : List (String × Nat)), m₁.Perm m₂ ∧ (m₁.map (·.1)).Nodup ∧ emitWalk m₁ ≠ emitWalk m₂ :=
  ⟨[("a", 1), ("b", 2)], [("b", 2), ("a", 1)], List.Perm.swap _ _ _, by decide, by decide⟩

theorem lookup_eq_spec {K V} [DecidableEq K] (k : K) (l : List (K × V)) :
    lookup k l = Spec.OrderFree.bound l k := by
  induction l with
  | nil => rfl
  | cons p rest ih =>
    obtain ⟨k', v⟩ := p
    by_cases h : k' = k
    · simp [lookup, Spec.OrderFree.bound, h]
    · simp only [lookup, if_neg h, ih, Spec.OrderFree.bound]
      rw [List.find?_cons_of_neg]
      simpa using h

theorem hashCountKeys_eq_spec {P} (b : List (Nat × List P)) :
    hashCountKeys b = Spec.OrderFree.pairCount b := by
  have gen : ∀ (l : List (Nat × List P)) (a : Nat),
      l.foldl (fun num x => num + x.2.length) a = a + (l.map (·.2.length)).sum := by
    intro l
    induction l with
    | nil => intro a; simp
    | cons x rest ih => intro a; simp only [List.foldl_cons, List.map_cons, List.sum_cons, ih]; omega
  simp [hashCountKeys, Spec.OrderFree.pairCount, gen]

theorem hashIsEmpty_eq_spec {P} (b : List (Nat × List P)) :
    hashIsEmpty b = Spec.OrderFree.isEmpty b := by
  induction b with
  | nil => rfl
  | cons x rest ih =>
    obtain ⟨n, arr⟩ := x
    cases arr with
    | nil => simp [hashIsEmpty, Spec.OrderFree.isEmpty, ih]
    | cons a as => simp [hashIsEmpty, Spec.OrderFree.isEmpty]

/-- The fixed scan picks the earliest-registered matching name, as the spec says. -/
theorem fillHashTypeName_eq_spec (order : List String) (r : List (String × RegType)) (t : Nat) :
    fillHashTypeName order r t
      = Spec.OrderFree.typeNameFor order (fun n => (lookup n r).map (·.goType)) t := by
  induction order with
  | nil => rfl
  | cons name rest ih =>
    simp only [fillHashTypeName, Spec.OrderFree.typeNameFor] at *
    cases hl : lookup name r with
    | none => simp [hl, ih]
    | some rt =>
      by_cases ht : rt.goType = t
      · simp [hl, ht]
      · simp [hl, ht, ih]

example : perm_invariant_collectSort strLt_strictTotal
    (List.Perm.swap ("b", 2) ("a", 1) []) (by decide)
    = (rfl : collectSort _ [("a", 1), ("b", 2)] = collectSort _ [("a", 1), ("b", 2)] ) := rfl

example : makeSortedSlicesFromMap [("zKeyOrder", 0), ("Atype", 1), ("b", 2)]
    = (["Atype", "b", "zKeyOrder"], [1, 2, 0]) := by decide

example : fillHashTypeName ["vinner", "main.VInner", "VInner"]
    [("main.VInner", ⟨7, "VInner"⟩), ("VInner", ⟨7, "VInner"⟩), ("vinner", ⟨7, "vinner"⟩)] 7 = some "vinner" := by
  decide +kernel

/-! ## Process-global state: "independent of how many interpreters were created earlier" -/

section globals
open ZygoVerif.Generated.Globals ZygoVerif.ProcState

/-- Why a package-level variable may be written after package initialisation. -/
inductive Why where
  /-- The process-wide type registry (`GoStructRegistry`, `ListRegisteredTypes`): shared by
  design; embedders register Go structs once, scripts add record / slice / pointer types. A
  later interpreter BINDS only embedder-registered types (fix C20-03), but `(typelist)` and a
  decode of `{"Atype":"<a type some earlier script declared>"}` do see earlier declarations:
  known findings (notes/C20.known.json), exercised by the `interf` channel. -/
  | typeRegistry
  /-- Assigned by every interpreter creation (`InitInfixOps`), always to an equal value, before
  anything reads it. -/
  | reinitPerInterpreter
  /-- Command-line REPL only (`Repl`, `ReplMain`, the liner prompt, the -countfuncs hooks):
  not reachable from evaluation of a program. -/
  | replOnly
  /-- Exported Go API for the embedder, called from `init`; no builtin reaches it. -/
  | embedderApi
  /-- Only its address is taken, to hand the codec handles (configured once in `init`) to the
  encoder / decoder constructors, which read them. -/
  | readOnlyHandle
  deriving DecidableEq, Repr

/-- Hand-written allow-list: (variable, writing function) ↦ why. -/
def allowedWrites : List (String × String × Why) := [
  ("GoStructRegistry", "ArrayOfFunction", .typeRegistry),
  ("GoStructRegistry", "MakeHash", .typeRegistry),
  ("GoStructRegistry", "NewSexpPointer", .typeRegistry),
  ("GoStructRegistry", "PointerToFunction", .typeRegistry),
  ("GoStructRegistry", "RegisterDemoStructs", .typeRegistry),
  ("GoStructRegistry", "SexpArray.Type", .typeRegistry),
  ("GoStructRegistry", "SliceOfFunction", .typeRegistry),
  ("GoStructRegistry", "StructBuilder", .typeRegistry),
  ("GoStructRegistry", "Zlisp.ImportDemoData", .typeRegistry),
  ("ListRegisteredTypes", "GoStructRegistryType.register", .typeRegistry),
  ("arrayOp", "Zlisp.InitInfixOps", .reinitPerInterpreter),
  ("Verbose", "Repl", .replOnly),
  ("continuationPrompt", "Prompter.getExpressionWithLiner", .replOnly),
  ("postcounts", "CountPostHook", .replOnly),
  ("postcounts", "ReplMain", .replOnly),
  ("precounts", "CountPreHook", .replOnly),
  ("precounts", "ReplMain", .replOnly),
  ("ShellCmd", "SetShellCmd", .embedderApi),
  ("msgpHelper", "GoToJson", .readOnlyHandle),
  ("msgpHelper", "GoToMsgpack", .readOnlyHandle),
  ("msgpHelper", "JsonToGo", .readOnlyHandle),
  ("msgpHelper", "MsgpackToGo", .readOnlyHandle)
]

def writeAllowed (var fn : String) : Bool := allowedWrites.any (fun a => a.1 = var ∧ a.2.1 = fn)

/-- Every package-level variable of package zygo that ANY function writes after package
initialisation (assignment, ++, append, delete, address taken, receiver-writing method call —
table regenerated from the source on every run), together with every function that writes it,
is in the committed allow-list. A new process-global flag that a builtin or setter stores into
— or a new writer of an old one — breaks this until a person has looked at it. -/
theorem globals_writes_allowed :
    ∀ g ∈ globals, ∀ w ∈ g.writers, writeAllowed g.name w.1 = true := by
  decide +kernel

/-- The struct types that package-level variables point to (`*RegisteredType` entries of the
registry, the `…RT` caches, `*SexpFunction` constants, `*InfixOp`) and the functions that store
into a field of such a type through ANY expression (an alias `p := G; p.f = …` is invisible
to `globals_writes_allowed`): committed list. -/
def allowedSharedTypeWriters : List (String × String) := [
  ("InfixOp", "Zlisp.InitInfixOps"),
  -- RegisteredType: constructors / registration (fields of a type being registered)
  ("RegisteredType", "ArrayOfFunction"),
  ("RegisteredType", "GoStructRegistryType.GetOrCreatePointerType"),
  ("RegisteredType", "GoStructRegistryType.GetOrCreateSliceType"),
  ("RegisteredType", "GoStructRegistryType.RegisterBuiltin"),
  ("RegisteredType", "GoStructRegistryType.RegisterPointer"),
  ("RegisteredType", "GoStructRegistryType.RegisterUserdef"),
  ("RegisteredType", "GoStructRegistryType.register"),
  ("RegisteredType", "MakeHash"),
  ("RegisteredType", "RegisteredType.Init"),   -- sync-once style cache of the reflect type (`initDone`)
  ("RegisteredType", "StructBuilder"),
  -- SexpFunction: every writer fills a function value it has just allocated (or copied)
  ("SexpFunction", "CreateClosureInstr.Execute"),
  ("SexpFunction", "EvalFunction"),
  ("SexpFunction", "FuncBuilder"),
  ("SexpFunction", "MakeBuilderFunction"),
  ("SexpFunction", "MakeUserFunction"),
  ("SexpFunction", "SexpFunction.SetClosing"),
  ("SexpFunction", "SexpFunction.SetFormalSymbols"),
  ("SexpFunction", "SexpLazyArg.Force"),
  ("SexpFunction", "Zlisp.EvalCallExpression"),
  ("SexpFunction", "Zlisp.LoadExpressions"),
  ("SexpFunction", "Zlisp.MakeFunction"),
  ("SexpFunction", "buildSexpFun")
]

theorem sharedTypes_writes_allowed :
    ∀ p ∈ sharedTypeWriters, p ∈ allowedSharedTypeWriters := by
  decide +kernel

/-- The table is not empty and names are unique (otherwise the allow-list would be ambiguous). -/
theorem globals_names_unique : (globals.map (·.name)).Nodup ∧ globals.length = globalCount ∧ 20 ≤ globalCount := by
  -- names are compared as numbers (their bytes in base 256): `String` equality is slow to evaluate
  refine ⟨.of_map (fun s => s.toByteArray.data.toList.foldl (fun n b => n * 256 + b.toNat) 0) ?_, ?_⟩
  all_goals decide +kernel

theorem runHistory_untouched (s : Store) (hist : List Write) (v : String) (h : v ∉ written hist) :
    runHistory s hist v = s v := by
  induction hist generalizing s with
  | nil => rfl
  | cons w rest ih =>
    simp only [written, List.map_cons, List.mem_cons, not_or] at h
    have : runHistory s (w :: rest) = runHistory (s.set w) rest := rfl
    rw [this, ih (s.set w) (by simpa [written] using h.2)]
    simp [Store.set, h.1]

/-- **The frame argument.** Whatever earlier interpreters did (any history of writes), a
fresh interpreter's evaluation — a function of the store that depends only on the variables
it `reads` — gives what it gives in a process where nothing ran before, provided no variable
it reads is one a history can write. `globals_writes_allowed` bounds what histories can write
(the allow-listed variables); that evaluation does not READ those (beyond the documented
registry semantics) is what the `interf` channel tests. -/
theorem fresh_eval_independent_of_history {Out} (reads : List String) (eval : Store → Out)
    (hreads : ∀ s₁ s₂ : Store, (∀ v ∈ reads, s₁ v = s₂ v) → eval s₁ = eval s₂)
    (s : Store) (hist : List Write) (hdisj : ∀ v ∈ reads, v ∉ written hist) :
    eval (runHistory s hist) = eval s :=
  hreads _ _ (fun v hv => runHistory_untouched s hist v (hdisj v hv))

/-- A variable that every interpreter creation re-assigns (to the same value) before use may
be written by histories all the same (`arrayOp`). -/
theorem fresh_eval_independent_reinit {Out} (reads : List String) (eval : Store → Out)
    (hreads : ∀ s₁ s₂ : Store, (∀ v ∈ reads, s₁ v = s₂ v) → eval s₁ = eval s₂)
    (s : Store) (hist : List Write) (var : String) (c : Nat)
    (hdisj : ∀ v ∈ reads, v ≠ var → v ∉ written hist) :
    eval (reinit (runHistory s hist) var c) = eval (reinit s var c) := by
  apply hreads
  intro v hv
  by_cases h : v = var
  · simp [reinit, Store.set, h]
  · simp [reinit, Store.set, h, runHistory_untouched s hist v (hdisj v hv h)]

example : fresh_eval_independent_of_history ["Pretty0"] (fun s => s "Pretty0")
    (fun _ _ h => h "Pretty0" (by simp)) (fun _ => 0) [⟨"arrayOp", 7⟩] (by decide)
    = (rfl : (0 : Nat) = 0) := rfl

/-- What goes wrong otherwise: a setting kept in a package-level variable that the printers
read (a process-global `prettyPrint` flag) makes a fresh evaluation depend on the history. -/
theorem global_flag_counterexample :
    ∃ (eval : Store → Nat) (s : Store) (hist : List Write),
      eval (runHistory s hist) ≠ eval s :=
  ⟨fun s => s "flag", fun _ => 0, [⟨"flag", 1⟩], by decide⟩

end globals

/-! ## The pinned tree: the legacy walks depend on the order -/

/-- Before fix 01 a struct registered under its script name and its reflect name decodes
to a record named after whichever key the registry map yields first. -/
theorem fillHashTypeName_counterexample :
    ∃ (r₁ r₂ : List (String × RegType)) (t : Nat), r₁.Perm r₂ ∧ (r₁.map (·.1)).Nodup ∧
      Legacy.fillHashTypeName r₁ t ≠ Legacy.fillHashTypeName r₂ t :=
  ⟨[("vinner", ⟨7, "vinner"⟩), ("main.VInner", ⟨7, "vinner"⟩)],
   [("main.VInner", ⟨7, "vinner"⟩), ("vinner", ⟨7, "vinner"⟩)], 7,
   List.Perm.swap _ _ _, by decide, by decide⟩

/-- Before fix 01 `_method` names a returned struct after whichever of two registrations
of the same Go type (e.g. `nestinner` / `NestInner`) comes first. -/
theorem callGoTypeName_counterexample :
    ∃ (r₁ r₂ : List (String × RegType)) (t : Nat), r₁.Perm r₂ ∧ (r₁.map (·.1)).Nodup ∧
      Legacy.callGoTypeName r₁ t ≠ Legacy.callGoTypeName r₂ t :=
  ⟨[("vinner", ⟨7, "vinner"⟩), ("VInner", ⟨7, "VInner"⟩)],
   [("VInner", ⟨7, "VInner"⟩), ("vinner", ⟨7, "vinner"⟩)], 7,
   List.Perm.swap _ _ _, by decide, by decide⟩

/-- Before fix 02 `(symnum (quote car))` depends on the order in which the builtin map
is iterated when the interpreter is created. -/
theorem symnum_counterexample :
    ∃ (f₁ f₂ : List (String × Unit)), f₁.Perm f₂ ∧ (f₁.map (·.1)).Nodup ∧
      Legacy.symnum (Legacy.internBuiltins ["null", "nil"] f₁) "car"
        ≠ Legacy.symnum (Legacy.internBuiltins ["null", "nil"] f₂) "car" :=
  ⟨[("car", ()), ("cdr", ())], [("cdr", ()), ("car", ())], List.Perm.swap _ _ _, by decide, by decide⟩

end ZygoVerif.Props.C20
