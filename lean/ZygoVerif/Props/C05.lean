/-
C05 — errors are contained: a failed evaluation restores the interpreter.

What is proved here, about the model `Model/Control.lean` of capture/restore:
  * `restore_depths`  : after `restore (capture st)` the three depths, `curfunc`, `pc` and the
    scope-stack identity are those of `st` — for ANY intermediate state (no hypothesis).
  * `restore_exact`   : if execution only worked above the captured depths (`Extends`), the
    restored control state is *equal* to the captured one, contents included.
  * `run_error_at_rest` / `run_error_exact` : the error branch of `Run` puts an interpreter
    that was at rest back at rest, whatever happened in between, at any call depth.
  * the structural facts regenerated from the source (T1): the capture record and the
    restore routine cover the same six components, and every error exit of every function
    that captures the control state restores it first.
What is NOT proved about this model (held by the `contain` correspondence: failure injection
at every reachable call + twin interpreter): that `Extends` holds of every instruction sequence —
for code the model generator emits it is what the C04 balance discipline provides, and the second
half proves it (`vm_text_error_exact_generated`) — and that globals equal those of the prefix
run. Full statement kept visible as `C05_full_statement`.

The second half of the file (namespace `ZygoVerif.C05`) has the same theorems about the
EXECUTABLE VM MODEL `Model/VM.lean` — the one that is compared with the Go interpreter
instruction by instruction on every run (channels `eval`, `contain`):
  * `vm_run_error_at_rest`, `vm_runLoop_error_at_rest`, `vm_text_error_at_rest` — sizes,
    `curfunc`, pc after the error exit of `Run`/`runText`: no hypothesis whatsoever;
  * `vm_suspended_kept` — the scope-stack object (lazy forces swap it): no
    hypothesis; by induction over all 13 functions of the VM's mutual block;
  * `vm_instr_effect`, `vm_instr_frame` — the stack effect of every non-re-entrant instruction
    of the model (25 of its 27 kinds), and the frame condition it gives;
  * `vm_run_error_exact` — contents, under `Extends3` at the fault state;
  * `…_counterexample` — where the unconditional statement is false;
  * `defs_prefix` — nothing but the control state is rolled back;
  * `VmErrorAtRestExact` — the full statement, with what is missing;
  * `vm_text_error_exact_generated` — `VmErrorAtRestExact` for class `err`, texts of the model
    generator's grammar and states served by such texts: data / scope / address / set-aside
    stacks EXACTLY those of entry, NO `Extends3` hypothesis (from C04's error-path contract,
    Props/C04Err.lean).
-/
import ZygoVerif.Model.Control
import ZygoVerif.Generated.Control
import ZygoVerif.Generated.ErrDiscard
import ZygoVerif.Proofs.ContainSusp
import ZygoVerif.Proofs.MapErr
import ZygoVerif.Props.C04Err
namespace ZygoVerif.Control

variable {D S A F : Type}

theorem truncate_length {α : Type} (n : Nat) (l : List (Option α)) :
    (truncateToSize n l).length = n := by
  unfold truncateToSize
  split
  · simp [List.length_take]; omega
  · simp; omega

theorem truncate_of_prefix {α : Type} (l l' : List (Option α)) (h : l <+: l') :
    truncateToSize l.length l' = l := by
  obtain ⟨t, rfl⟩ := h
  unfold truncateToSize
  simp

/-- for every intermediate state `st'`, restoring the state captured at
`st` yields the depths, function, pc and scope-stack identity of `st`. -/
theorem restore_depths (st st' : Ctl D S A F) :
    let r := restore (capture st) st'
    depths r = depths st ∧ r.curfunc = st.curfunc ∧ r.pc = st.pc ∧ r.scopeId = st.scopeId := by
  simp [restore, capture, depths, truncate_length]

/-- when nothing below the captured depths was touched, the restored
control state is the captured one, contents included. -/
theorem restore_exact (st st' : Ctl D S A F) (h : Extends st st') :
    restore (capture st) st' = st := by
  cases st with
  | mk data sid scopes addr cf pc =>
    simp only [restore, capture]
    have hd := truncate_of_prefix _ _ h.data
    have ha := truncate_of_prefix _ _ h.addr
    have hs := truncate_of_prefix _ _ h.scopes
    simp only at hd ha hs
    congr 1
    · funext i
      by_cases hi : i = sid
      · subst hi; simpa using hs
      · simp [hi, h.others i hi]

/-- if `Run` was entered at rest and any instruction fails (at any
depth of nested evaluation: the intermediate state is arbitrary), the interpreter is at
rest again: sizes by `restore_depths`, no hypothesis about what ran in between. -/
theorem run_error_at_rest (funSize : F → Int) (main : F) (entry st' : Ctl D S A F)
    (h : AtRest funSize main entry) : AtRest funSize main (runErrorExit funSize entry st') := by
  obtain ⟨hd, hs, ha, hc, _⟩ := h
  have hlen := restore_depths entry st'
  simp only [depths, Prod.mk.injEq] at hlen
  obtain ⟨⟨h1, h2, h3⟩, h4, _, _⟩ := hlen
  refine ⟨?_, ?_, ?_, ?_, ?_⟩
  · have : (restore (capture entry) st').data.length = 0 := by rw [h1, hd]; rfl
    simpa [runErrorExit] using List.eq_nil_of_length_eq_zero this
  · simpa [runErrorExit, hs] using h2
  · have : (restore (capture entry) st').addr.length = 0 := by rw [h3, ha]; rfl
    simpa [runErrorExit] using List.eq_nil_of_length_eq_zero this
  · simp [runErrorExit, h4, hc]
  · simp [runErrorExit, h4, hc]

/-- under the frame condition the global scope object itself (the cell
that holds every completed definition) is the one the interpreter had on entry. -/
theorem run_error_exact (funSize : F → Int) (entry st' : Ctl D S A F) (h : Extends entry st') :
    runErrorExit funSize entry st' = { entry with pc := funSize entry.curfunc } := by
  simp [runErrorExit, restore_exact entry st' h]

/-- Full-strength statement of the property on this model (not proved here: it needs the
instruction semantics; the `contain` channel checks it on the real code). -/
def C05_full_statement (funSize : F → Int) (main : F)
    (Reach : Ctl D S A F → Ctl D S A F → Prop) : Prop :=
  ∀ entry st', AtRest funSize main entry → Reach entry st' → Extends entry st'

example : AtRest (fun _ : Unit => (3 : Int)) ()
    ({ data := [], scopeId := 0, scopes := fun _ => [some ()], addr := [], curfunc := (), pc := 3 }
      : Ctl Unit Unit Unit Unit) := by
  simp [AtRest]

example : Extends
    ({ data := [], scopeId := 0, scopes := fun _ => [some 1], addr := [], curfunc := (), pc := 0 }
      : Ctl Nat Nat Nat Unit)
    { data := [some 5, none], scopeId := 0, scopes := fun _ => [some 1], addr := [some 9],
      curfunc := (), pc := 7 } := by
  constructor <;> simp

/-- The growth case of `TruncateToSize` is real: restoring onto a stack that was popped below
the captured depth yields the right *size* but nil contents — why `Extends` is needed for
`restore_exact` and why C04's balance matters for C05. -/
example : truncateToSize 2 [some 1] = [some 1, (none : Option Nat)] := by decide

/-! ### structural facts regenerated from the source (tie T1) -/
open ZygoVerif.Generated.Control in
/-- capture and restore cover the same six components. -/
theorem capture_restore_cover :
    captureFields = ["addrstackSize := env.addrstack.Size()", "curfunc := env.curfunc",
      "datastackSize := env.datastack.Size()", "linearstack := env.linearstack",
      "linearstackSize := env.linearstack.Size()", "pc := env.pc"] ∧
    restoreStmts = ["env.addrstack.TruncateToSize(state.addrstackSize)",
      "env.curfunc = state.curfunc", "env.datastack.TruncateToSize(state.datastackSize)",
      "env.linearstack = state.linearstack",
      "env.linearstack.TruncateToSize(state.linearstackSize)", "env.pc = state.pc"] := by
  decide +kernel

open ZygoVerif.Generated.Control in
/-- every error exit of every function that captures the control state restores it first. -/
theorem every_error_exit_restores : ∀ e ∈ errorExits, e.2.2.1 = true := by decide +kernel

open ZygoVerif.Generated.Control in
/-- the functions known to bracket nested evaluation all appear (so the fact above is not
vacuous, and a bracket that disappears is noticed). -/
theorem brackets_present :
    ∀ f ∈ ["Zlisp.Run", "Zlisp.CallUserFunction", "Zlisp.EvalCallExpression", "Zlisp.Apply",
           "SexpLazyArg.Force"], f ∈ errorExits.map (·.1) := by decide +kernel

/-- no call to a `Generate*` routine inside the compiler drops its error result: a compile
error in a nested form always propagates (it used to be swallowed by `and`/`or` and by the
syntax-quote generators, which made `(and 1 (let))` *succeed* with nil). -/
theorem compile_errors_propagate : ZygoVerif.Generated.ErrDiscard.discardSites = [] := by decide

end ZygoVerif.Control

/-! # The executable VM model (`Model/VM.lean`) -/
namespace ZygoVerif.C05
open ZygoVerif.Core ZygoVerif.VM ZygoVerif.Contain

/-! ## 1. The error exit of `Run` leaves the interpreter where the caller expects it -/

/-- for EVERY state `s` (any call depth, any stacks, any code) and
every fuel: if `Run` started in `s` ends with an error, then in the resulting state the data,
scope and address stacks have exactly the sizes captured at entry, `curfunc` is the function
of entry, the pc stands behind its code, and the stacks set aside by lazy forces are those of
entry. The failure may have happened at any depth of re-entry (`callExpr → evalCallExpr →
nested → run`, `callUser → builtin → applyFn/forceLazy → run`): all of that is inside the
instruction whose error this loop answers. -/
theorem vm_run_error_at_rest (fuel : Nat) (s s' : St) (h : (run fuel).run s = (.error .err, s')) :
    s'.data.length = s.data.length ∧ s'.linear.length = s.linear.length ∧ s'.addr.length = s.addr.length ∧
    s'.curfunc = s.curfunc ∧ s'.pc = curSize s' ∧ s'.suspended = s.suspended := by
  have hz := run_error_sized fuel s s' h
  exact ⟨hz.data, hz.linear, hz.addr, hz.curfunc, hz.pcEnd, run_error_susp fuel s s' h⟩

/-- `Run`, whatever its outcome, leaves the loop-record stack as it was -/
theorem vm_run_loopstack (fuel : Nat) (s : St) : ((run fuel).run s).2.loopstack = s.loopstack :=
  ((allKeeps [] fuel).run s List.nil_suffix).2

/-- the same for the loop itself, for any captured control state `st` -/
theorem vm_runLoop_error_at_rest (fuel : Nat) (st : CtlState) (s s' : St)
    (h : (runLoop fuel st).run s = (.error .err, s')) :
    s'.data.length = st.dataSize ∧ s'.linear.length = st.linearSize ∧ s'.addr.length = st.addrSize ∧
    s'.curfunc = st.curfunc ∧ s'.pc = curSize s' ∧ s'.suspended.length ≤ st.susp := by
  have hz := runLoop_error_sized fuel st s s' h
  exact ⟨hz.data, hz.linear, hz.addr, hz.curfunc, hz.pcEnd, hz.susp⟩

/-- top level: an interpreter at rest that is given a text which
fails — at compile time (`cerr`) or anywhere during its execution (`err`) — is at rest
afterwards: data stack empty, ONE scope, address stack empty, `curfunc = mainfunc`, pc behind
the code of `mainfunc`; and it is usable (`alive`). Depths `0,1,0,0` in the harness vocabulary:
`vm_text_error_depths` below. -/
theorem vm_text_error_at_rest (fuel : Nat) (es : List Expr) (s s' : St) (cls v d : String) (tr : List String)
    (alive : Bool) (h : AtRest s) (hr : runText fuel es s = (.done cls v tr d, s', alive))
    (hcls : cls = "err" ∨ cls = "cerr") :
    s'.data = [] ∧ s'.linear.length = 1 ∧ s'.addr = [] ∧ s'.curfunc = mainFn ∧ curSize s' ≤ s'.pc ∧
    alive = true ∧ d = depths s' := by
  obtain ⟨hz, ha, hd⟩ := runText_error_sized fuel es s s' cls v d tr alive h hr hcls
  exact ⟨hz.data, hz.linear, hz.addr, hz.curfunc, hz.pcEnd, ha, hd⟩

/-- the loop-record stack survives every text, whatever its outcome -/
theorem vm_text_loopstack (fuel : Nat) (es : List Expr) (s : St) : (runText fuel es s).2.1.loopstack = s.loopstack :=
  ((respects []).runText (fun isFn es => keeps_runGen _ (genLS_compileBegin isFn es {})) (fun _ _ _ => SK.same rfl)
    fuel es s List.nil_suffix).2

/-- in the harness vocabulary: after a failing text the four depths
(data, scope, address, loop-record stack) are `0,1,0,0`. The fourth is the generator's: the VM
never touches it and every successful compilation — at load time and at run time, for operands
and lazy arguments — hands it back as it was (`genLS_compile`, all eight `compile…` functions;
`allKeeps`, all 13 VM functions). -/
theorem vm_text_error_depths (fuel : Nat) (es : List Expr) (s s' : St) (cls v d : String) (tr : List String)
    (alive : Bool) (h : AtRest s) (hr : runText fuel es s = (.done cls v tr d, s', alive))
    (hcls : cls = "err" ∨ cls = "cerr") : d = "0,1,0,0" ∧ s'.loopstack = [] := by
  obtain ⟨hd, hl, ha, _, _, _, hdep⟩ := vm_text_error_at_rest fuel es s s' cls v d tr alive h hr hcls
  have hls : s'.loopstack = [] := by
    have := vm_text_loopstack fuel es s
    rw [hr] at this
    exact this.trans h.loopstack
  exact ⟨hdep.trans (depths_rest s' hd hl ha hls), hls⟩

/-- a compile error runs nothing: the state is the state before (trace cleared) -/
theorem vm_text_compile_error_runs_nothing (fuel : Nat) (es : List Expr) (s s' : St) (v d : String)
    (tr : List String) (alive : Bool) (hr : runText fuel es s = (.done "cerr" v tr d, s', alive)) :
    s' = { s with trace := [] } := by
  rw [runText_eq] at hr
  split at hr <;> rename_i hc
  · cases (runGen_fail hc).2
    cases hr
    rfl
  · exact absurd hr (finishRun_ne_cerr _)

/-- non-vacuity: the fresh interpreter is at rest, and a failing text exists (an unbound
symbol): its class is `err` and the theorem applies -/
example : AtRest initSt := ⟨rfl, rfl, rfl, rfl, rfl, by decide⟩
example : (match (runText 50 [.sym "nope"] initSt).1 with | .done cls _ _ d => (cls, d) | .dead => ("", ""))
    = ("err", "0,1,0,0") := by decide +kernel

/-! ## 2. The frame condition -/

/-- every function of the VM (all 13 of the mutual block,
every instruction, every fuel, every state, every outcome) leaves the scope stacks that were
set aside at its entry set aside, in place. -/
theorem vm_suspended_kept (base : Susp) (fuel : Nat) : AllKeeps base fuel := allKeeps base fuel

/-- the stack effect of each of the 25 instructions of the model (of its 27 kinds)
that do not re-enter the VM, for every state and every outcome: at most
`needD` data cells, `needL` scopes, `needA` return addresses of what was there are removed. -/
theorem vm_instr_effect (f : Nat) (i : Instr) (s : St) (hs : simple i = true) :
    Eff (needD i s) (needL i) (needA i) s ((exec (f + 1) i).run s).2 := exec_simple_eff f i s hs

/-- hence: stack cells deeper than the instruction's need are not touched.
Unconditional special cases are instances: `pop` on an empty data stack is ignored
(`needD .pop s = 0`), `push`, `dup`, `envToStack`, `addScope`, `createClosure`, jumps touch
nothing below (`need = 0`), `ret` takes ONE return address. -/
theorem vm_instr_frame (f : Nat) (i : Instr) (s : St) (hs : simple i = true) {bd bl ba} (hb : Above bd bl ba s)
    (hd : bd.length + needD i s ≤ s.data.length) (hl : bl.length + needL i ≤ s.linear.length)
    (ha : ba.length + needA i ≤ s.addr.length) : Above bd bl ba ((exec (f + 1) i).run s).2 :=
  (exec_simple_eff f i s hs).frame hb hd hl ha

example (s : St) (h : s.data = []) : needD .pop s = 0 := by simp [needD, h]
example : ∀ s, needD .dup s = 0 ∧ needL .addScope = 0 ∧ needA .ret = 1 ∧ needL (.brk 3 2) = 2 := fun _ => ⟨rfl, rfl, rfl, rfl⟩

/-- contents. Whenever `Run` returns an error there is a fault state
`s₁` (the state in which an instruction of this run stopped with the error); the result has the
tables of `s₁` (NOTHING of scopes, functions, heap, thunks, loop records is rolled back), the
set-aside scope stacks of entry (unconditional), and — IF `s₁` still stands on the three
stacks of entry — data, scope and address stacks EQUAL to those of entry. -/
theorem vm_run_error_exact (fuel : Nat) (s s' : St) (h : (run fuel).run s = (.error .err, s')) :
    ∃ s₁, FaultState fuel s s₁ ∧ SameStore s' s₁ ∧ s'.suspended = s.suspended ∧
      (Extends3 s s₁ → s'.data = s.data ∧ s'.linear = s.linear ∧ s'.addr = s.addr) := by
  obtain ⟨s1, hf, _, hs, _, rfl⟩ := faultState_susp (fun _ => True) (fun _ _ _ _ => trivial) fuel s s' trivial h
  refine ⟨s1, hf, restore_park_sameStore _ _, suspAt_of_suffix s s1 hs, fun hx => ?_⟩
  have := restore_exact_vm s s1 ⟨hx.data, hx.linear, hx.addr, hs⟩
  rw [this]
  exact ⟨rfl, rfl, rfl⟩

/-- what a typing of states has to provide for
exactness, and nothing more: a predicate that holds at entry, survives every instruction step
(simple or re-entrant, whatever the outcome) and implies the frame condition. For the simple
instructions `vm_instr_frame` reduces "survives the step" to "there is room for the need". -/
theorem vm_run_error_exact_of_invariant (P : St → Prop) (s : St)
    (hstep : ∀ f i s₀, P s₀ → P ((exec f i).run s₀).2) (hext : ∀ s₁, P s₁ → Extends3 s s₁)
    (fuel : Nat) (s' : St) (hp : P s) (h : (run fuel).run s = (.error .err, s')) :
    s'.data = s.data ∧ s'.linear = s.linear ∧ s'.addr = s.addr ∧ s'.suspended = s.suspended := by
  obtain ⟨s1, _, hp1, hs, _, rfl⟩ := faultState_susp P hstep fuel s s' hp h
  have hx := hext s1 hp1
  rw [restore_exact_vm s s1 ⟨hx.data, hx.linear, hx.addr, hs⟩]
  exact ⟨rfl, rfl, rfl, rfl⟩

/-- non-vacuity of `vm_run_error_exact_of_invariant`: for an entry state with empty stacks the
trivial predicate is such an invariant… as far as data and address stacks go the hypothesis
`Extends3` is then automatic; here the instance with all three stacks empty -/
example (s : St) (hd : s.data = []) (hl : s.linear = []) (ha : s.addr = []) : ∀ s₁, True → Extends3 s s₁ :=
  fun s₁ _ => ⟨by rw [hd]; exact List.nil_suffix, by rw [hl]; exact List.nil_suffix, by rw [ha]; exact List.nil_suffix⟩

/-- at the top level data and address stacks are exact for free (they are empty); the global
scope is back at the bottom of the scope stack iff it was still there at the fault -/
theorem vm_text_error_global_scope (fuel : Nat) (s₀ s₁ s' : St) (hl : s₀.linear = [some 0])
    (hf : FaultState fuel s₀ s₁) (hs' : s' = park (restoreSt (captureOf s₀) s₁))
    (hext : [some 0] <:+ linAt (captureOf s₀) s₁) : s'.linear = [some 0] := by
  subst hs'
  show truncate (linAt (captureOf s₀) s₁) s₀.linear.length = [some 0]
  rw [hl]
  exact truncate_of_suffix _ [some 0] hext

/-- the unconditional statement "on the error exit the stacks
EQUAL the captured ones" is FALSE for the real instruction set: unbalanced code (`pop; ret` on a
data stack `[9]`; `removeScope; ret` at top level) ends with the captured SIZES but nil cells —
`TruncateToSize` grows a stack with nil entries. -/
theorem vm_extends_counterexample :
    (isErr ((run 5).run (withMain [.pop, .ret] [some (.int 9)])).1 = true
      ∧ ((run 5).run (withMain [.pop, .ret] [some (.int 9)])).2.data = [none])
    ∧ (isErr ((run 5).run (withMain [.removeScope, .ret] [])).1 = true
      ∧ ((run 5).run (withMain [.removeScope, .ret] [])).2.linear = [none]) :=
  ⟨⟨by decide +kernel, by decide +kernel⟩, ⟨by decide +kernel, by decide +kernel⟩⟩

/-- and sizes that fit (C01's `Fits`: no padding) are not enough
for the contents: `pop; push 7; ret` replaces the caller's cell. -/
theorem vm_fits_counterexample :
    isErr ((run 5).run (withMain [.pop, .push (.int 7), .ret] [some (.int 9)])).1 = true
    ∧ ((run 5).run (withMain [.pop, .push (.int 7), .ret] [some (.int 9)])).2.data = [some (.int 7)] :=
  ⟨by decide +kernel, by decide +kernel⟩

inductive Served : St → Prop where
  | fresh : Served initSt
  | text (fuel : Nat) (es : List Expr) (s s' : St) (o : Outcome) : Served s → runText fuel es s = (o, s', true) → Served s'

/-- The full statement on the VM model: every text that fails, given to an interpreter that
served any history of texts before, leaves it at rest with the GLOBAL SCOPE in place. -/
def VmErrorAtRestExact : Prop :=
  ∀ (fuel : Nat) (es : List Expr) (s s' : St) (cls v d : String) (tr : List String) (alive : Bool),
    Served s → runText fuel es s = (.done cls v tr d, s', alive) → (cls = "err" ∨ cls = "cerr") →
    s'.data = [] ∧ s'.linear = [some 0] ∧ s'.addr = [] ∧ s'.curfunc = mainFn ∧ curSize s' ≤ s'.pc

/-- proved: everything but the CONTENT of the one scope
cell, for every state at rest (served or not). MISSING for `VmErrorAtRestExact`: that the global
scope is still at the bottom of the scope stack in the fault state (`vm_text_error_global_scope`
then gives `linear = [some 0]`). That is the frame condition for the code the generator emits:
for texts of the generator's grammar and states served by such texts it is proved below
(`vm_text_error_exact_generated`, through C04's error-path contract); for an arbitrary `Served`
state and text it is held by channel `contain` on the real interpreter AND on this model
(records `D[…]`, follow-up battery). -/
theorem vm_error_at_rest_exact_partial (fuel : Nat) (es : List Expr) (s s' : St) (cls v d : String)
    (tr : List String) (alive : Bool) (h : AtRest s) (hr : runText fuel es s = (.done cls v tr d, s', alive))
    (hcls : cls = "err" ∨ cls = "cerr") :
    s'.data = [] ∧ s'.linear.length = 1 ∧ s'.addr = [] ∧ s'.curfunc = mainFn ∧ curSize s' ≤ s'.pc := by
  obtain ⟨a, b, c, d', e, _, _⟩ := vm_text_error_at_rest fuel es s s' cls v d tr alive h hr hcls
  exact ⟨a, b, c, d', e⟩

/-! ## 3. What is NOT rolled back -/

/-- after a failed `Run` every table of the interpreter (scope cells — hence
every global and every definition completed before the failure —, function objects, loop
records, thunks with their memoised values, the data heap, the trace) is EXACTLY as the
failing instruction left it: the state of an interpreter that executed the part of the
program that ran before the failure, and nothing else. Only the control state is reset. -/
theorem defs_prefix (fuel : Nat) (s s' : St) (h : (run fuel).run s = (.error .err, s')) :
    ∃ s₁, FaultState fuel s s₁ ∧ s'.scopes = s₁.scopes ∧ s'.fns = s₁.fns ∧ s'.heap = s₁.heap ∧
      s'.lazies = s₁.lazies ∧ s'.loops = s₁.loops ∧ s'.loopstack = s₁.loopstack ∧ s'.trace = s₁.trace := by
  obtain ⟨s1, hf, hs, _, _⟩ := vm_run_error_exact fuel s s' h
  exact ⟨s1, hf, hs.scopes, hs.fns, hs.heap, hs.lazies, hs.loops, hs.loopstack, hs.trace⟩

/-- later evaluations depend on the state only: an interpreter whose state equals
that of a twin (up to the trace, which every evaluation clears) answers every later text as
the twin does. Together with `vm_run_error_exact`/`defs_prefix`: the interpreter after the
failure IS the fault state with the control part at rest. -/
theorem twin (fuel : Nat) (es : List Expr) (s : St) (tr : List String) :
    runText fuel es { s with trace := tr } = runText fuel es s := by
  unfold runText
  rfl

/-- `vm_run_error_exact` with the frame hypothesis `Extends3`
DISCHARGED for the outermost `Run` of generated code: a text of the model generator's grammar
(`Bal.okLs`) that ends in an error, served by an interpreter in any state reached from the fresh
one by value-returning and erroring texts of that grammar (`C04.ServedStateE`), with any fuel,
leaves the data, scope, address and set-aside stacks EXACTLY those of entry — i.e. the
interpreter at rest: `VmErrorAtRestExact` for class `err` on these texts and states — and the
state is served again. By C04's `err_leaves_served`: the fault state satisfies `RunInv.FaultOK`
(the base scope stack is underneath, the set-aside stacks are those of entry) by the error-path
contract `C04.err_contract` of all thirteen functions of the VM's mutual block, and
`Contain.restore_exact_vm` does the rest.

This does not go through `vm_run_error_exact_of_invariant`: its `hstep` asks the invariant to
survive `exec f i` for EVERY instruction `i` in every state, whereas a typing of states
(C04's annotation) speaks about the instruction FETCHED at the pc; and it asks it for every
outcome of the re-entrant instructions, where the state after a failing nested `Run` is only
known after the evaluator's own restore. C04 proves the loop lemma for the fetched instruction
(`RunInv.main_loop`) and the error specifications function by function (`RunInv.errSpec`). -/
theorem vm_text_error_exact_generated (fuel : Nat) (es : List Expr) (s s' : St) (v d : String) (tr : List String)
    (alive : Bool) (hs : C04.ServedStateE s) (hok : Bal.okLs es = true)
    (hr : runText fuel es s = (.done "err" v tr d, s', alive)) :
    (s'.data = s.data ∧ s'.linear = s.linear ∧ s'.addr = s.addr ∧ s'.suspended = s.suspended) ∧
    (s'.data = [] ∧ s'.linear = [some 0] ∧ s'.addr = [] ∧ s'.curfunc = mainFn ∧ curSize s' ≤ s'.pc) ∧
    C04.ServedStateE s' := by
  obtain ⟨_, hrest, hex⟩ := C04.err_leaves_served fuel es s s' v tr d alive (C04.servedStateE_served hs) hok hr
  obtain ⟨r1, r2, r3, _, r5, r6⟩ := hrest
  exact ⟨hex, ⟨r1, r2, r3, r5, r6⟩, C04.ServedStateE.err hs hok hr⟩

/-- … and such an evaluation never ends in a host panic (C04 `no_host_panic`) -/
theorem vm_text_no_panic_generated (fuel : Nat) (es : List Expr) (s s' : St) (v d : String) (tr : List String)
    (alive : Bool) (hs : C04.ServedStateE s) (hok : Bal.okLs es = true) :
    runText fuel es s ≠ (.done "panic" v tr d, s', alive) :=
  C04.no_host_panic fuel es s s' v tr d alive (C04.servedStateE_served hs) hok

/-- non-vacuity: the fresh interpreter is such a state -/
example : C04.ServedStateE initSt := C04.ServedStateE.init

/-! ### "errors are never swallowed into a successful result": `map` over a list

`MapList` and `MapArray` are two separate loops in zygo/listutils.go and arrayutils.go; the model
has one function for each (`mapList`, `mapArr`), compared with the code by the `contain` channel
on lists as well as arrays (seeded/C05-m4 turns `MapList` into a loop whose `break` drops the
callback's error for the 2nd and later elements). On the model, from every state, for every
callback and every fuel: -/

/-- the callback failing on the head element is the outcome of the whole `map`, state included -/
theorem map_list_head_error_is_outcome (n : Nat) (f a b : Val) (s s1 : St) (e : Fault)
    (h : (applyFn n f [a]).run.run s = (.error e, s1)) :
    (mapList (n+1) f (.pair a b)).run.run s = (.error e, s1) := by
  simp only [StateT.run] at h ⊢
  rw [mapList_cons_run, h]

/-- … and so is a failure on any later element: it travels outwards through every earlier,
successful element unchanged -/
theorem map_list_later_error_is_outcome (n : Nat) (f a b : Val) (s s1 s2 : St) (v : Val) (e : Fault)
    (h : (applyFn n f [a]).run.run s = (.ok v, s1))
    (ht : (mapList n f b).run.run s1 = (.error e, s2)) :
    (mapList (n+1) f (.pair a b)).run.run s = (.error e, s2) := by
  simp only [StateT.run] at h ht ⊢
  rw [mapList_cons_run, h]; simp only []; rw [ht]

/-- a `map` that returned a value had its callback return a value on the head, and the rest of the
list mapped to a value — by induction, on every element -/
theorem map_list_value_means_no_error (n : Nat) (f a b r : Val) (s s' : St)
    (h : (mapList (n+1) f (.pair a b)).run.run s = (.ok r, s')) :
    ∃ v s1 t, (applyFn n f [a]).run.run s = (.ok v, s1) ∧ (mapList n f b).run.run s1 = (.ok t, s') ∧ r = .pair v t := by
  simp only [StateT.run] at h ⊢
  rw [mapList_cons_run] at h
  cases h1 : (applyFn n f [a]).run s with
  | mk r1 s1 =>
    rw [h1] at h
    cases r1 with
    | error e => cases h
    | ok v =>
      simp only [] at h
      cases h2 : (mapList n f b).run s1 with
      | mk r2 s2 =>
        rw [h2] at h
        cases r2 with
        | error e => cases h
        | ok t =>
          cases h
          exact ⟨v, s1, t, rfl, h2, rfl⟩

/-- the same for arrays (`MapArray`, the other loop): a callback failing on element `i` is the
outcome of the map from `i` on, hence — through `mapArr_step_run` for the earlier, successful
elements — of the whole map -/
theorem map_array_elem_error_is_outcome (k : Nat) (f : Val) (r i n : Nat) (hi : ¬ i ≥ n) (s s1 : St) (e : Fault)
    (h : (applyFn k f [(s.heap.get r).getD i .nil]).run.run s = (.error e, s1)) :
    (mapArr (k+1) f r i n).run.run s = (.error e, s1) := by
  simp only [StateT.run] at h ⊢
  rw [mapArr_step_run k f r i n hi, h]

end ZygoVerif.C05
