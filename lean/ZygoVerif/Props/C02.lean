/-
C02 — evaluation matches the reference semantics.

Full-strength statement (`CompileCorrect`): for every well-formed core program, given as one text to
the initial interpreter: whenever the reference evaluator (`Ref.runProgram`) reports a value or a script
error, the VM model (`VM.runText`: model of LoadExpressions + Run on the model of the generator) with
enough fuel reports the same outcome class, printed value and trace. One text, one direction: the
statement says nothing of a text run after other texts, nor that what the VM reports the reference
evaluator reports too.

What is proved here (all unbounded in the size and nesting of the program).

Layout half — about the very functions `Model/Gen.lean`'s `compile` calls to lay out code
(the generator has no other jump arithmetic):

* `gen_begin_pops_between`      — `GenerateBegin` puts exactly one `pop` between statements;
* `gen_cond_targets`            — in the code of a `cond` with any number of arms, the
                                  `brn` of arm *i* lands exactly on the first instruction of
                                  arm *i+1* (or of the default) and the `jump` that ends the
                                  body of arm *i* lands exactly behind the whole `cond`;
* `gen_shortcircuit_targets`    — in `and`/`or` with any number of arms, every `br` lands
                                  exactly behind the whole form, after a `dup` and before a `pop`;
* `gen_for_layout`              — the layout of a `for` loop and its four offsets: the jump
                                  to the test, the exit branch, the back jump, and the
                                  `break`/`continue` offsets stored in the loop record.

Execution half (lemmas in `Proofs/Sim*.lean`) — about `VM.runLoop`/`VM.exec`/`VM.run`/`VM.runText`
and `Ref.eval`/`Ref.runProgram` themselves:

* `vm_runLoop_step`, `vm_simple_instructions` — one turn of the `Run` loop; `push pop dup jump
                                  goto branch` as state transformers (all cases);
* `segment_lemma_F0c`           — the code of an F0c expression, embedded at any offset of any
                                  function, pushes exactly the value of the reference evaluator
                                  within `code.length` instructions and changes nothing else;
* `F0c_total`                   — `compile` and `Ref.eval` are total on F0c (explicit bounds);
* `compile_correct_F0c`         — for F0c programs, with explicit fuel on both sides,
                                  `obsOfVM (runText …) = obsOfRef (runProgram …)` and it is a value;
* `compile_correct_on_F0c`      — `CompileCorrect` restricted to F0c, in its own vocabulary.

* `segment_lemma_Fv`            — the same for Fv = F0c + symbols + `def` + `set` +
                                  `newScope` + `letseq` + `let` (distinct names), with the
                                  simulation relation between VM scopes / linear stack and
                                  reference frames / static chain; values and errors;
* `compile_correct_on_Fv`       — `CompileCorrect` restricted to Fv (values, errors, traces).

* `segment_lemma_Fc`            — the same for Fc = Fv (binder names not builtin names) +
                                  calls of first-order builtins; operands are compiled at run time
                                  and evaluated in nested `Run`s;
* `compile_correct_on_Fc`       — `CompileCorrect` restricted to Fc.

* `segment_lemma_Ff`            — F2: expressions with `fn`/`defn` and calls of USER functions by name
                                  (closure objects), under a relation that lets function ids differ
                                  between the two evaluators and the linear stack hold the caller's
                                  scopes;
* `compile_correct_on_F2`       — `CompileCorrect` restricted to F2 (`Sim.FtList`): `defn`/`fn` at any depth,
                                  with fixed parameters, a rest parameter, lazy parameters (`#p`); closures
                                  capturing locals, calls by name or by a computed head, recursion,
                                  functions as values, `force`, `apply`, `map`.
* `segment_lemma_Fx`, `compile_correct_on_F2x` — F2 with `break`/`continue` (plain or labelled) in
                                  top-level `for` loops: the simulation gets a non-landing outcome.
* `tail_call_simulates`, `compile_correct_on_F2c` — F2c: self tail calls (`tailGuard`, operands inline,
                                  `prepareCall`, `removeScope`s, `goto 0`): guard passes ⇒ the rest of the
                                  activation is the ordinary application of the same closure; guard fails ⇒
                                  the ordinary call behind the jump.
* `compile_correct_on_F3lazy`, `compile_correct_on_F3`, `compile_correct_on_F2heads` — ONE statement,
                                  `CompileCorrect` restricted to F2 ∪ F2c, under three names, each standing with the
                                  demo programs of one thing F2 and F2c admit: lazy parameters (`#p`) and `force`
                                  (lazy argument object ↔ thunk (`Sim.LzOk`), `Force` (compile at force time, helper
                                  on the captured stack, restore, memo) ↔ `Ref.force` (`Sim.force_sim`)); `apply`
                                  and `map` (callee: closure object or Go builtin; re-entrant calls from the
                                  builtin's frame: `Sim.aclaim_succ`, `Sim.hclaims`); computed call heads.
                                  `compile_correct_on_F2c_nested` likewise is `compile_correct_on_F2c`.
* `lazy_semantics_on_F3lazy`    — C16's `LazySemantics` restricted to the fragment.

`compile_correct_partial` (below) says what is proved of the semantic statement and names
the unproved remainder (`CompileCorrectOutsideProved`).
-/
import ZygoVerif.Model.Gen
import ZygoVerif.Model.VM
import ZygoVerif.Spec.RefEval
import ZygoVerif.Proofs.SimF0cTop
import ZygoVerif.Proofs.SimFvTop
import ZygoVerif.Proofs.SimFcTop
import ZygoVerif.Proofs.SimF2Top
import ZygoVerif.Proofs.SimF2BrkTop
import ZygoVerif.Proofs.SimF2TailTop
import ZygoVerif.Props.C16
namespace ZygoVerif.C02
open ZygoVerif.Core ZygoVerif.VM

/-- Observable result of one program text, common to both sides. -/
inductive Obs where
  | ok (value : String) (trace : List String)
  | err (trace : List String)
deriving DecidableEq, Repr

def obsOfRef : Ref.Outcome → Option Obs
  | .ok v t => some (.ok v t)
  | .err t => some (.err t)
  | .timeout => none

def obsOfVM : VM.Outcome → Option Obs
  | .done "ok" v t _ => some (.ok v t)
  | .done "err" _ t _ => some (.err t)
  | _ => none

/-- The property, at full strength, for a single text run in the initial interpreter:
whenever the reference evaluator terminates on a well-formed program, the VM model (given
enough fuel) reports the same class, value and trace. -/
def CompileCorrect : Prop :=
  ∀ (p : List Expr), Ref.wfList {} p = true →
    ∀ fuel o, obsOfRef (Ref.runProgram fuel p Ref.initSt).1 = some o →
      ∃ fuel', obsOfVM (VM.runText fuel' p VM.initSt).1 = some o

/-- With every statement producing code, the body is the statements' code separated by
single `pop`s — none in front, none behind. -/
theorem gen_begin_pops_between (cs : List (List Instr)) (h : ∀ c ∈ cs, c ≠ []) :
    asmBegin cs = (cs.intersperse [Instr.pop]).flatten := by
  induction cs with
  | nil => rfl
  | cons c rest ih =>
    cases rest with
    | nil => simp [asmBegin]
    | cons c' rest' =>
      have hc : c ≠ [] := h c (by simp)
      have ih' := ih (fun x hx => h x (by simp [hx]))
      have hstep : asmBegin (c :: c' :: rest') = c ++ [Instr.pop] ++ asmBegin (c' :: rest') := by
        simp [asmBegin, hc]
      have hint : (c :: c' :: rest').intersperse [Instr.pop]
          = c :: [Instr.pop] :: (c' :: rest').intersperse [Instr.pop] := rfl
      rw [hstep, ih', hint, List.flatten_cons, List.flatten_cons, List.append_assoc]

/-- Length form: `n` statements cost exactly `n - 1` extra instructions. -/
theorem gen_begin_length (cs : List (List Instr)) (h : ∀ c ∈ cs, c ≠ []) :
    (asmBegin cs).length = (cs.map List.length).sum + (cs.length - 1) := by
  induction cs with
  | nil => rfl
  | cons c rest ih =>
    cases rest with
    | nil => simp [asmBegin]
    | cons c' rest' =>
      have hc : c ≠ [] := h c (by simp)
      have ih' := ih (fun x hx => h x (by simp [hx]))
      have hstep : asmBegin (c :: c' :: rest') = c ++ [Instr.pop] ++ asmBegin (c' :: rest') := by
        simp [asmBegin, hc]
      rw [hstep]
      simp only [List.length_append, List.length_cons, List.length_nil, List.map_cons, List.sum_cons] at ih' ⊢
      omega

example : asmBegin [[Instr.push .nil], [Instr.dup, Instr.pop], [Instr.push (.bool true)]]
    = [Instr.push .nil, .pop, .dup, .pop, .pop, .push (.bool true)] := rfl

theorem asmCond_suffix (arms : List (List Instr × List Instr)) (dflt : List Instr) (i : Nat) :
    ∃ pre, asmCond arms dflt = pre ++ asmCond (arms.drop i) dflt := by
  induction i generalizing arms with
  | zero => exact ⟨[], by simp⟩
  | succ n ih =>
    cases arms with
    | nil => exact ⟨[], by simp⟩
    | cons a rest =>
      obtain ⟨pre, hpre⟩ := ih rest
      obtain ⟨p, b⟩ := a
      refine ⟨p ++ [Instr.branch false (b.length + 2)] ++ b ++ [Instr.jump ((asmCond rest dflt).length + 1)] ++ pre, ?_⟩
      simp only [List.drop_succ_cons, asmCond, List.append_assoc]
      rw [← hpre]

/-- For every arm `i` of a `cond` with any number of arms: the whole code splits as
`pre ++ pred ++ [brn k] ++ body ++ [jump j] ++ rest`, where `rest` is the code of the
remaining arms and the default, the `brn` lands exactly on the first instruction of `rest`
and the `jump` exactly behind the whole `cond`. Positions are absolute in the `cond`'s code. -/
theorem gen_cond_targets (arms : List (List Instr × List Instr)) (dflt : List Instr)
    (i : Nat) (hi : i < arms.length) :
    ∃ pre k j,
      let pred := (arms[i]).1
      let body := (arms[i]).2
      let rest := asmCond (arms.drop (i + 1)) dflt
      let code := asmCond arms dflt
      code = pre ++ pred ++ [Instr.branch false k] ++ body ++ [Instr.jump j] ++ rest
      ∧ ((pre ++ pred).length : Int) + k = ((pre ++ pred ++ [Instr.branch false k] ++ body ++ [Instr.jump j]).length : Int)
      ∧ ((pre ++ pred ++ [Instr.branch false k] ++ body).length : Int) + j = (code.length : Int) := by
  obtain ⟨pre, hpre⟩ := asmCond_suffix arms dflt i
  have hdrop : arms.drop i = arms[i] :: arms.drop (i + 1) := by
    rw [List.drop_eq_getElem_cons hi]
  refine ⟨pre, ((arms[i]).2.length + 2 : Nat), ((asmCond (arms.drop (i + 1)) dflt).length + 1 : Nat), ?_, ?_, ?_⟩
  · rw [hpre, hdrop]
    rcases hai : arms[i] with ⟨p, b⟩
    simp [asmCond]
  · simp only [List.length_append, List.length_cons, List.length_nil]
    push_cast
    omega
  · rw [hpre, hdrop]
    rcases hai : arms[i] with ⟨p, b⟩
    simp only [asmCond, List.length_append, List.length_cons, List.length_nil]
    push_cast
    omega

example : asmCond [([Instr.push (.bool false)], [Instr.push .nil])] [Instr.dup]
    = [Instr.push (.bool false), .branch false 3, .push .nil, .jump 2, .dup] := rfl

theorem asmSC_suffix (isOr : Bool) (cs : List (List Instr)) (i : Nat) (hi : i < cs.length) :
    ∃ pre, asmSC isOr cs = pre ++ asmSC isOr (cs.drop i) := by
  induction i generalizing cs with
  | zero => exact ⟨[], by simp⟩
  | succ n ih =>
    cases cs with
    | nil => simp at hi
    | cons c rest =>
      cases rest with
      | nil => simp at hi
      | cons c' rest' =>
        obtain ⟨pre, hpre⟩ := ih (c' :: rest') (by simpa using hi)
        refine ⟨c ++ [Instr.dup, Instr.branch isOr ((asmSC isOr (c' :: rest')).length + 2), Instr.pop] ++ pre, ?_⟩
        simp only [List.drop_succ_cons, List.append_assoc]
        rw [← hpre]
        simp [asmSC]

/-- For every non-final arm `i` of an `and`/`or` with any number of arms: the code splits
as `pre ++ arm ++ [dup, br k, pop] ++ rest` and the branch lands exactly behind the whole
form (so the duplicated value is the form's result; on fall-through it is popped). -/
theorem gen_shortcircuit_targets (isOr : Bool) (cs : List (List Instr)) (i : Nat) (hi : i + 1 < cs.length) :
    ∃ pre k,
      let rest := asmSC isOr (cs.drop (i + 1))
      let code := asmSC isOr cs
      code = pre ++ cs[i] ++ [Instr.dup, Instr.branch isOr k, Instr.pop] ++ rest
      ∧ ((pre ++ cs[i] ++ [Instr.dup]).length : Int) + k = (code.length : Int) := by
  obtain ⟨pre, hpre⟩ := asmSC_suffix isOr cs i (by omega)
  have hdrop : cs.drop i = cs[i] :: cs.drop (i + 1) := by
    rw [List.drop_eq_getElem_cons (by omega)]
  have hne : cs.drop (i + 1) ≠ [] := by
    intro h
    have := congrArg List.length h
    simp at this
    omega
  obtain ⟨d, ds, hd⟩ := List.exists_cons_of_ne_nil hne
  refine ⟨pre, ((asmSC isOr (cs.drop (i + 1))).length + 2 : Nat), ?_, ?_⟩
  · rw [hpre, hdrop, hd]
    simp [asmSC]
  · rw [hpre, hdrop, hd]
    simp only [asmSC, List.length_append, List.length_cons, List.length_nil]
    push_cast
    omega

example : asmSC false [[Instr.push (.bool true)], [Instr.push .nil]]
    = [Instr.push (.bool true), .dup, .branch false 3, .pop, .push .nil] := rfl

/-- The loop's code is
`pre ++ [label] ++ incr ++ [label] ++ test ++ [brn x] ++ [label] ++ body ++ [jump b, label] ++ [clearMark, removeScope, push nil]`
with `pre = [loopStart, addScope, pushMark, label] ++ init ++ [jump t]`, and
* `t` lands on the test label, * `x` on the end label, * `b` on the increment label,
* `continueOffset` is the position of the increment label, `breakOffset` that of `clearMark`
(both relative to `loopStart`, which is instruction 0 of this code). -/
theorem gen_for_layout (l : Nat) (init test incr body : List Instr) :
    ∃ t x b,
      let pre := [Instr.loopStart l, .addScope, .pushMark l, .label] ++ init ++ [Instr.jump t]
      let upToBody := pre ++ [Instr.label] ++ incr ++ [Instr.label] ++ test ++ [Instr.branch false x] ++ [Instr.label] ++ body
      (asmFor l init test incr body).1 = upToBody ++ [Instr.jump b, .label] ++ [Instr.clearMark l, .removeScope, .push .nil]
      ∧ ((pre.length : Int) - 1) + t = ((pre ++ [Instr.label] ++ incr).length : Int)
      ∧ ((pre ++ [Instr.label] ++ incr ++ [Instr.label] ++ test).length : Int) + x = (upToBody.length : Int) + 1
      ∧ (upToBody.length : Int) + b = (pre.length : Int)
      ∧ (asmFor l init test incr body).2.2 = (pre.length : Int)
      ∧ (asmFor l init test incr body).2.1 = (upToBody.length : Int) + 2 := by
  refine ⟨((incr.length + 2 : Nat) : Int), ((body.length + 3 : Nat) : Int), ?_, ?_⟩
  · exact (([Instr.loopStart l, .addScope, .pushMark l, .label] ++ init ++ [Instr.jump ((incr.length + 2 : Nat) : Int)]).length : Int)
      - (([Instr.loopStart l, .addScope, .pushMark l, .label] ++ init ++ [Instr.jump ((incr.length + 2 : Nat) : Int)]
          ++ ([Instr.label] ++ incr ++ [Instr.label] ++ test ++ [Instr.branch false ((body.length + 3 : Nat) : Int)]) ++ [Instr.label] ++ body).length : Int)
  · simp only [asmFor, List.length_append, List.length_cons, List.length_nil, List.append_assoc,
      List.cons_append, List.nil_append]
    push_cast
    refine ⟨?_, ?_, ?_, ?_, ?_, ?_⟩ <;> first | rfl | omega | (simp; omega) | simp

example : (asmFor 0 [Instr.popUntilMark 0] [Instr.push (.bool false)] [Instr.popUntilMark 0] [Instr.popUntilMark 0]).2
    = (15, 6) := by decide

open ZygoVerif.Sim

/-- One turn of the `Run` loop: with the program counter on instruction `i` of a compiled
function (`code = pre ++ i :: post`, `pc = pre.length`), if `i` executes without fault into
`s'`, the loop continues from `s'` with one unit of fuel less — whatever control state the
enclosing `Run` captured. -/
theorem vm_runLoop_step (s s' : St) (pre : List Instr) (i : Instr) (post : List Instr)
    (huser : (fnOf s s.curfunc).user = false) (hcode : (fnOf s s.curfunc).code = pre ++ i :: post)
    (hpc : s.pc = (pre.length : Int)) (fuel : Nat) (st : CtlState)
    (hx : (exec fuel i).run s = (.ok (), s')) :
    (runLoop (fuel + 1) st).run s = (runLoop fuel st).run s' :=
  runLoop_step ⟨huser, hcode, hpc⟩ fuel st hx

example : ∃ s s' pre i post fuel, (fnOf s s.curfunc).user = false ∧ (fnOf s s.curfunc).code = pre ++ i :: post
    ∧ s.pc = (pre.length : Int) ∧ (exec fuel i).run s = (.ok (), s') :=
  ⟨{ initSt with fns := [{ code := [.push .nil] }] }, _, [], .push .nil, [], 1, rfl, rfl, rfl, exec_push 0 .nil _⟩

/-- The simple instructions as state transformers (all cases of `Execute`, any fuel `≥ 1`):
`push`, `pop` (underflow ignored, nil element = host panic), `dup`, `jump`, `goto`
(target outside `[0, size]` = error), `branch` (pops; taken iff direction = truthiness). -/
theorem vm_simple_instructions (f : Nat) (s : St) :
    (∀ v, (exec (f + 1) (.push v)).run s = (.ok (), { s with data := some v :: s.data, pc := s.pc + 1 }))
    ∧ ((exec (f + 1) .pop).run s = match s.data with
        | [] => (.ok (), { s with pc := s.pc + 1 })
        | none :: _ => (.error .panic, s)
        | some _ :: rest => (.ok (), { s with data := rest, pc := s.pc + 1 }))
    ∧ ((exec (f + 1) .dup).run s = match s.data with
        | [] => (.error .err, s)
        | none :: _ => (.error .panic, s)
        | some v :: _ => (.ok (), { s with data := some v :: s.data, pc := s.pc + 1 }))
    ∧ (∀ off, (exec (f + 1) (.jump off)).run s =
        if s.pc + off < 0 ∨ s.pc + off > curSize s then (.error .err, s) else (.ok (), { s with pc := s.pc + off }))
    ∧ (∀ loc : Nat, (exec (f + 1) (.goto loc)).run s =
        if (loc : Int) < 0 ∨ (loc : Int) > curSize s then (.error .err, s) else (.ok (), { s with pc := loc }))
    ∧ (∀ dir off, (exec (f + 1) (.branch dir off)).run s = match s.data with
        | [] => (.error .err, s)
        | none :: _ => (.error .panic, s)
        | some v :: rest =>
          if dir = truthy v then
            (if s.pc + off < 0 ∨ s.pc + off > curSize s then (.error .err, { s with data := rest })
             else (.ok (), { s with data := rest, pc := s.pc + off }))
          else (.ok (), { s with data := rest, pc := s.pc + 1 })) :=
  ⟨fun v => exec_push f v s, exec_pop f s, exec_dup f s, fun off => exec_jump f off s,
   fun loc => exec_goto f loc s, fun dir off => exec_branch f dir off s⟩

/-- **Segment lemma for F0c** (statement spelled out; `Sim.segment_F0c` is the same with the
vocabulary `Seg`/`Reach`/`Pushes`). For every F0c expression `e`, whatever generator context and
state it is compiled in, and whatever value `v` the reference evaluator returns for it (any
fuel, environment and state): the reference state is unchanged, and in every VM state whose
current function is compiled code `pre ++ code ++ post` with `pc = pre.length`, the run loop
— inside any `Run`, with any remaining fuel `≥ 1` — executes at most `code.length`
instructions and arrives at `pc = pre.length + code.length` with exactly one more value, `v`,
on the data stack and everything else unchanged. -/
theorem segment_lemma_F0c (e : Expr) (he : F0c e = true) (isFn : Nat → Bool) (c : Ctx) (gs gs' : GS)
    (code : List Instr) (t : Bool) (hc : (compile isFn c e).run gs = .ok ((code, t), gs'))
    (n env : Nat) (rs rs' : Ref.St) (v : Val) (hr : Ref.eval n e env rs = .ok v rs') :
    rs' = rs ∧
    ∀ (s : St) (pre post : List Instr), (fnOf s s.curfunc).user = false →
      (fnOf s s.curfunc).code = pre ++ code ++ post → s.pc = (pre.length : Int) →
      ∃ k, k ≤ code.length ∧ ∀ fuel, 1 ≤ fuel → ∀ st,
        (runLoop (fuel + k) st).run s
          = (runLoop fuel st).run { s with pc := s.pc + code.length, data := some v :: s.data } := by
  obtain ⟨h1, h2⟩ := segment_F0c e he isFn c gs code t gs' hc n env rs v rs' hr
  exact ⟨h1, fun s pre post hu hcd hpc => h2 s pre post ⟨hu, hcd, hpc⟩⟩

/-- `compile` is total on F0c and does not touch the generator state; the code has at most
`3 * esize e` instructions; the reference evaluator is total on F0c with fuel `esize e`. -/
theorem F0c_total (e : Expr) (he : F0c e = true) :
    (∀ isFn c gs, ∃ code, (compile isFn c e).run gs = .ok ((code, c.tail), gs) ∧ code.length ≤ 3 * esize e)
    ∧ (∀ n, esize e ≤ n → ∀ env rs, ∃ v, Ref.eval n e env rs = .ok v rs) := by
  refine ⟨fun isFn c gs => ?_, refEval_total e he⟩
  obtain ⟨code, h⟩ := compile_total e he isFn c gs
  exact ⟨code, h, compile_length_F0c e he isFn c gs _ h⟩

/-- The property restricted to a class `D` of programs (same shape as `CompileCorrect`). -/
def CompileCorrectOn (D : List Expr → Prop) : Prop :=
  ∀ (p : List Expr), D p → Ref.wfList {} p = true →
    ∀ fuel o, obsOfRef (Ref.runProgram fuel p Ref.initSt).1 = some o →
      ∃ fuel', obsOfVM (VM.runText fuel' p VM.initSt).1 = some o

theorem compileCorrect_iff_on_all : CompileCorrect ↔ CompileCorrectOn (fun _ => True) :=
  ⟨fun h p _ => h p, fun h p => h p trivial⟩

/-- **F0c programs, explicit fuel.** For every program text whose top-level forms are in F0c
(any number of forms, any nesting): with reference fuel `≥ esizeList p` and VM fuel
`≥ 3 * esizeList p + 3`, both sides terminate and the VM model reports exactly what the
reference evaluator reports — class `ok`, the same printed value, the empty trace. -/
theorem compile_correct_F0c (p : List Expr) (hp : F0cList p = true)
    (fuel fuel' : Nat) (hf : esizeList p ≤ fuel) (hf' : 3 * esizeList p + 3 ≤ fuel') :
    obsOfVM (VM.runText fuel' p VM.initSt).1 = obsOfRef (Ref.runProgram fuel p Ref.initSt).1
    ∧ ∃ v, obsOfRef (Ref.runProgram fuel p Ref.initSt).1 = some (.ok v []) := by
  cases p with
  | nil =>
    obtain ⟨m, rfl⟩ : ∃ m, fuel = m + 1 := ⟨fuel - 1, by rw [esizeList] at hf; omega⟩
    rw [runText_nil initSt atRest_initSt rfl fuel' (by omega), refProgram_nil]
    exact ⟨rfl, _, rfl⟩
  | cons e es =>
    obtain ⟨v, hv⟩ := refBegin_total (e :: es) (by simp) hp fuel hf 0 { Ref.initSt with trace := [] }
    obtain ⟨code, hrun⟩ := runText_F0c initSt (e :: es) (by simp) hp atRest_initSt fuel 0 _ v _ hv fuel' hf'
    rw [hrun, refProgram_ok fuel (e :: es) Ref.initSt v hv]
    exact ⟨rfl, _, rfl⟩

/-- **`CompileCorrect` for the fragment F0c**, in the vocabulary of the full statement:
whenever the reference evaluator (with whatever fuel) reports an outcome for an F0c
program, the VM model reports the same outcome. -/
theorem compile_correct_on_F0c : CompileCorrectOn (fun p => F0cList p = true) := by
  intro p hp _ fuel o ho
  refine ⟨3 * esizeList p + 3, ?_⟩
  cases p with
  | nil =>
    rw [runText_nil initSt atRest_initSt rfl _ (by omega)]
    cases fuel with
    | zero => simp [Ref.runProgram, Ref.evalBegin, obsOfRef] at ho
    | succ m =>
      rw [refProgram_nil] at ho
      exact ho
  | cons e es =>
    rcases refBegin_noFail (e :: es) (by simp) hp fuel 0 { Ref.initSt with trace := [] } with ⟨v, hv⟩ | hv
    · obtain ⟨code, hrun⟩ := runText_F0c initSt (e :: es) (by simp) hp atRest_initSt fuel 0 _ v _ hv _ (Nat.le_refl _)
      rw [refProgram_ok fuel (e :: es) Ref.initSt v hv] at ho
      rw [hrun]
      exact ho
    · have href : Ref.runProgram fuel (e :: es) Ref.initSt = (.timeout, Ref.initSt) := by
        unfold Ref.runProgram
        simp only [hv]
      rw [href] at ho
      cases ho

/-- what the reference evaluator shows the host, read off the result of `evalBegin`: a `break`/`continue` that leaves
the text is an error -/
def refObs : Ref.R Val → Option Obs
  | .ok v rs => some (.ok (pr rs.heap v) rs.trace)
  | .err rs | .brk _ rs | .cont _ rs => some (.err rs.trace)
  | .timeout => none

theorem obsOfRef_runProgram (fuel : Nat) (p : List Expr) :
    obsOfRef (Ref.runProgram fuel p Ref.initSt).1 = refObs (Ref.evalBegin fuel p 0 { Ref.initSt with trace := [] }) := by
  cases h : Ref.evalBegin fuel p 0 { Ref.initSt with trace := [] } <;> (unfold Ref.runProgram; simp only [h]; rfl)

/-- From the top-level simulation of a fragment (`Sim.TextOut` for every non-empty text in `D`) to
`CompileCorrectOn D`: the reference evaluator shows the host a value or an error exactly when `evalBegin` ends in
one, and never a `break`/`continue` here; the empty text is an F0c program. -/
theorem compileCorrectOn_of_runText {D : List Expr → Prop}
    (h : ∀ p, p ≠ [] → D p → ∀ n, ∃ N, ∀ fuel, N ≤ fuel →
      TextOut (VM.runText fuel p VM.initSt) (Ref.evalBegin n p 0 { Ref.initSt with trace := [] })) :
    CompileCorrectOn D := by
  intro p hp hwf fuel o ho
  cases p with
  | nil => exact compile_correct_on_F0c [] rfl hwf fuel o ho
  | cons e es =>
    obtain ⟨N, hN⟩ := h (e :: es) (by simp) hp fuel
    refine ⟨N, ?_⟩
    have h := hN N (Nat.le_refl _)
    rw [obsOfRef_runProgram] at ho
    cases hres : Ref.evalBegin fuel (e :: es) 0 { Ref.initSt with trace := [] } <;> rw [hres] at h ho
    case ok => obtain ⟨sf, d, hout, -⟩ := h; rw [hout]; exact ho
    case err => obtain ⟨sf, d, hout⟩ := h; rw [hout]; exact ho
    case timeout => cases ho
    case brk | cont => exact h.elim

theorem textOut_of_agrees {out : VM.Outcome × St × Bool} {res : Ref.R Val} (h : TextAgrees out res) : TextOut out res := by
  cases res with
  | ok v rs' => obtain ⟨sf, d, hout, -⟩ := h; exact ⟨sf, d, hout, trivial⟩
  | _ => exact h

/-- `(begin 1 "x") (cond (and 1 (or false 0)) (begin 1 2) (and) (cond () 5 (or () 7 8)) 9)` -/
def demoF0c : List Expr :=
  [.begin_ [.int 1, .str "x"],
   .cond [(.and_ [.int 1, .or_ [.bool false, .int 0]], .begin_ [.int 1, .int 2]),
          (.and_ [], .cond [(.nilLit, .int 5)] (.or_ [.nilLit, .int 7, .int 8]))] (.int 9)]

example : F0cList demoF0c = true := by decide
example : esizeList demoF0c = 46 := by decide

/-- the reference evaluator computes 7 for it (first arm's test is falsy: `(or false 0)` is 0;
second arm's test `(and)` is true; inner `cond` falls to its default; `(or () 7 8)` is 7) -/
theorem demoF0c_ref (rs : Ref.St) : Ref.evalBegin 12 demoF0c 0 rs = .ok (intOfLit 7) rs := by
  have tr7 : truthy (intOfLit 7) = true := by decide
  have tr1 : truthy (intOfLit 1) = true := by decide
  have tr0 : truthy (intOfLit 0) = false := by decide
  have trn : truthy .nil = false := rfl
  have trb : ∀ b : Bool, truthy (.bool b) = b := fun _ => rfl
  simp only [demoF0c, Ref.evalBegin, Ref.eval, Ref.evalCond, Ref.evalAndOr, tr7, tr1, trn, trb]
  simp [tr0]

/-- … and so does the VM model, by `runText_F0c` (hypotheses of the segment lemma and of the
top-level theorem are satisfiable; the harness run of the same text prints `7`). -/
example : ∃ code, VM.runText 141 demoF0c VM.initSt
    = (.done "ok" (pr VM.initSt.heap (intOfLit 7)) [] (depths VM.initSt), afterText VM.initSt code, true) :=
  runText_F0c VM.initSt demoF0c (by decide) (by decide) atRest_initSt 12 0 Ref.initSt _ _ (demoF0c_ref _) 141 (by decide)

example : obsOfVM (VM.runText 141 demoF0c VM.initSt).1 = obsOfRef (Ref.runProgram 46 demoF0c Ref.initSt).1 :=
  (compile_correct_F0c demoF0c (by decide) 46 141 (by decide) (by decide)).1

/-! ## Variables and scopes: symbols, `def`, `set`, `newScope`, `letseq`, `let` (fragment Fv ⊇ F0c)

`Fv` = literals, symbol reference, `def`, `set`, `begin` (also empty), `cond`, `and`, `or`,
non-empty `newScope`, `letseq`, and `let` with pairwise distinct names, nested arbitrarily.
(`let` binds its names by popping, the last name first; the reference evaluator binds the first
name first; with a repeated name the two differ — `(let [a 1 a 2] a)` is 1 on the VM and in the
implementation, 2 in the reference evaluator — so such a `let` is outside the fragment, and
`Ref.wf` puts it outside the property's domain. An empty `(newScope)` stays outside too: the
reference evaluator allocates a frame for it, the VM just pushes nil, so the two tables leave
the lockstep the relation is built on.)

Expressions of Fv have effects (on the scopes) and can fail (unbound symbol, re-binding with a
different type). The segment lemma carries the simulation relation `Sim.Rel` between VM state
and reference state: scope table and frame table hold the same bindings index by index, the
linear scope stack is the static chain of the current environment, heaps and traces agree. -/

/-- **Segment lemma for Fv**, spelled out. From related states, the VM standing on the
first instruction of the code of `e` (embedded anywhere in a compiled function):
* reference value `v`, new state `rs'` ⇒ within `code.length` instructions the VM arrives just
  behind the code with exactly one more value `v` on the data stack, in the same function, and
  its state is related to `rs'` (same effects on every scope);
* reference error ⇒ within `code.length` instructions the enclosing `Run` returns a script
  error, whatever control state it captured, and the trace is the reference trace;
* the reference evaluator never yields `break`/`continue` for `e`. -/
theorem segment_lemma_Fv (e : Expr) (he : Fv e = true) (isFn : Nat → Bool) (c : Ctx) (gs gs' : GS)
    (code : List Instr) (t : Bool) (hc : (compile isFn c e).run gs = .ok ((code, t), gs'))
    (s : St) (rs : Ref.St) (env : Nat) (pre post : List Instr) (hrel : Rel s rs env)
    (huser : (fnOf s s.curfunc).user = false) (hcode : (fnOf s s.curfunc).code = pre ++ code ++ post)
    (hpc : s.pc = (pre.length : Int)) (n : Nat) :
    match Ref.eval n e env rs with
    | .ok v rs' => ∃ s', Rel s' rs' env ∧ fnOf s' s'.curfunc = fnOf s s.curfunc
        ∧ s'.pc = s.pc + (code.length : Int) ∧ s'.data = some v :: s.data
        ∧ ∃ k, k ≤ code.length ∧ ∀ fuel, 1 ≤ fuel → ∀ st, (runLoop (fuel + k) st).run s = (runLoop fuel st).run s'
    | .err rs' => ∃ k, k ≤ code.length ∧ ∀ fuel, 1 ≤ fuel → ∀ st,
        ∃ sf, (runLoop (fuel + k) st).run s = (.error .err, sf) ∧ sf.trace = rs'.trace
    | .timeout => True
    | .brk _ _ => False
    | .cont _ _ => False := by
  have h := segment_Fv e he isFn c gs code t gs' hc s rs env pre post hrel ⟨huser, hcode, hpc⟩ n
  cases hres : Ref.eval n e env rs with
  | ok v rs' =>
    rw [hres] at h
    obtain ⟨s', r, l, rel, -⟩ := h
    exact ⟨s', rel, l.fn, l.pc, l.data, r⟩
  | err rs' => rw [hres] at h; exact h
  | timeout => trivial
  | brk l rs' => rw [hres] at h; exact h
  | cont l rs' => rw [hres] at h; exact h

theorem rel_init : Rel VM.initSt Ref.initSt 0 := rel_initSt

/-- **`CompileCorrect` for the fragment Fv**: whenever the reference evaluator reports an
outcome — a value or an error, with its trace — for a program whose top-level forms are in Fv,
the VM model (generator + VM, `LoadExpressions` + `Run`) reports the same outcome. -/
theorem compile_correct_on_Fv : CompileCorrectOn (fun p => FvList p = true) :=
  compileCorrectOn_of_runText fun p hne hp n =>
    (runText_Fv VM.initSt Ref.initSt p hne hp atRest_initSt rel_initSt n).imp fun _ h fuel hf => textOut_of_agrees (h fuel hf)

/-- `(def a 1) (set a (cond (and a (or false 0)) 5 a)) (def b "x") (cond b (set c a) 9)` -/
def demoFv : List Expr :=
  [.def_ "a" (.int 1),
   .set_ "a" (.cond [(.and_ [.sym "a", .or_ [.bool false, .int 0]], .int 5)] (.sym "a")),
   .def_ "b" (.str "x"),
   .cond [(.sym "b", .set_ "c" (.sym "a"))] (.int 9)]

/-- `(def a 1) (let [b a c 2] (letseq [d b d (newScope (set a c) d)] (cond d a 0)))`: scopes -/
def demoFvLet : List Expr :=
  [.def_ "a" (.int 1),
   .let_ false [("b", .sym "a"), ("c", .int 2)]
     [.let_ true [("d", .sym "b"), ("d", .newScope [.set_ "a" (.sym "c"), .sym "d"])]
       [.cond [(.sym "d", .sym "a")] (.int 0)]]]

example : FvList demoFvLet = true := by decide

/-- `(def a 1) (begin (def a "s") 2)`: re-binding `a` with another type is an error -/
def demoFvErr : List Expr := [.def_ "a" (.int 1), .begin_ [.def_ "a" (.str "s"), .int 2]]

example : FvList demoFv = true := by decide
example : FvList demoFvErr = true := by decide

def refClass : Ref.R Val → Option (Option Val)
  | .ok v _ => some (some v)
  | .err _ => some none
  | _ => none

/-- an instance of `CompileCorrectOn D` with a real outcome on the reference side: the reference run ends in a
value or an error -/
theorem CompileCorrectOn.of_class {D : List Expr → Prop} (hD : CompileCorrectOn D) {p : List Expr} (hp : D p)
    (hwf : Ref.wfList {} p = true) {fuel : Nat} {c : Option Val}
    (h : refClass (Ref.evalBegin fuel p 0 { Ref.initSt with trace := [] }) = some c) :
    ∃ fuel' o, obsOfRef (Ref.runProgram fuel p Ref.initSt).1 = some o
      ∧ obsOfVM (VM.runText fuel' p VM.initSt).1 = some o := by
  have key := hD p hp hwf fuel
  rw [obsOfRef_runProgram] at key ⊢
  cases hres : Ref.evalBegin fuel p 0 { Ref.initSt with trace := [] } <;> rw [hres] at h key <;>
    first | exact (key _ rfl).elim fun f hf => ⟨f, _, rfl, hf⟩ | cases h

/-- … the reference run ends in an error -/
theorem CompileCorrectOn.of_error {D : List Expr → Prop} (hD : CompileCorrectOn D) {p : List Expr} (hp : D p)
    (hwf : Ref.wfList {} p = true) {fuel : Nat}
    (h : refClass (Ref.evalBegin fuel p 0 { Ref.initSt with trace := [] }) = some none) :
    ∃ fuel' tr, obsOfRef (Ref.runProgram fuel p Ref.initSt).1 = some (.err tr)
      ∧ obsOfVM (VM.runText fuel' p VM.initSt).1 = some (.err tr) := by
  have key := hD p hp hwf fuel
  rw [obsOfRef_runProgram] at key ⊢
  cases hres : Ref.evalBegin fuel p 0 { Ref.initSt with trace := [] } <;> rw [hres] at h key <;>
    first | exact (key _ rfl).elim fun f hf => ⟨f, _, rfl, hf⟩ | cases h

/-- the reference evaluator computes 1 for `demoFv` … -/
theorem demoFv_ref : refClass (Ref.evalBegin 14 demoFv 0 { Ref.initSt with trace := [] }) = some (some (intOfLit 1)) := by
  decide +kernel

/-- … and an error for `demoFvErr` -/
theorem demoFvErr_ref : refClass (Ref.evalBegin 6 demoFvErr 0 { Ref.initSt with trace := [] }) = some none := by
  decide +kernel

/-- the scoped program: `a` is set to 2 from inside `newScope`, inside `letseq`, inside `let` -/
theorem demoFvLet_ref :
    refClass (Ref.evalBegin 12 demoFvLet 0 { Ref.initSt with trace := [] }) = some (some (intOfLit 2)) := by
  decide +kernel

example : ∃ fuel' o, obsOfRef (Ref.runProgram 12 demoFvLet Ref.initSt).1 = some o
    ∧ obsOfVM (VM.runText fuel' demoFvLet VM.initSt).1 = some o :=
  compile_correct_on_Fv.of_class (p := demoFvLet) (by decide) (by decide) demoFvLet_ref

example : ∃ fuel' o, obsOfRef (Ref.runProgram 14 demoFv Ref.initSt).1 = some o
    ∧ obsOfVM (VM.runText fuel' demoFv VM.initSt).1 = some o :=
  compile_correct_on_Fv.of_class (p := demoFv) (by decide) (by decide) demoFv_ref

example : ∃ fuel' tr, obsOfRef (Ref.runProgram 6 demoFvErr Ref.initSt).1 = some (.err tr)
    ∧ obsOfVM (VM.runText fuel' demoFvErr VM.initSt).1 = some (.err tr) :=
  compile_correct_on_Fv.of_error (p := demoFvErr) (by decide) (by decide) demoFvErr_ref

/-! ## Calls of first-order builtins (fragment Fc)

`Fc` = Fv whose binder names (`def`/`set`/`let`/`letseq`) are not names of first-order builtins,
plus array literals `[e₁ … eₙ]` with elements in Fc, plus `for` loops `(for [init test incr] body…)` (labelled
or not) whose parts are in Fc — so without `break`/`continue` —, plus calls `(h a₁ … aₙ)` where `h` is one of
`+ - * mod < > <= >= == != not cons first rest second list array len append concat aget aset hash
hget hset trace` and the operands are in Fc (`hash`, `hget`, `hset` are names without semantics here: hashes are
outside the modelled core, `Core.prim` has no arm for them, a call of one of them is a script error in both
models). A call is ONE VM instruction (`callExpr`); executing it
compiles every operand at run time into a fresh function object and runs it in a nested `Run`
(`EvalCallExpression`/`nested`), then runs the builtin under `CallUserFunction`. The relation
(`Sim.RelC`) therefore lets the function table grow and the current function be such a helper:
every closing list on the parent chain of the current function is a suffix of the linear scope
stack; first-order builtin names are bound in the global frame only; no value is a stack mark
(`Sim.Clean`: `for` pushes a mark and `popUntilMark`/`clearMark` pop down to it). The number of
instructions a piece of code executes is not bounded by its length (loops), the fuel it needs
is existential. -/

/-- **Segment lemma for Fc**, spelled out (see `Sim.segment_Fc`). -/
theorem segment_lemma_Fc (e : Expr) (he : Fc e = true) (isFn : Nat → Bool) (c : Ctx) (hfn : c.funcname = "")
    (gs gs' : GS) (code : List Instr) (t : Bool) (hc : (compile isFn c e).run gs = .ok ((code, t), gs'))
    (s : St) (rs : Ref.St) (env : Nat) (pre post : List Instr) (hrel : RelC s rs env)
    (huser : (fnOf s s.curfunc).user = false) (hcode : (fnOf s s.curfunc).code = pre ++ code ++ post)
    (hpc : s.pc = (pre.length : Int)) (n : Nat) :
    match Ref.eval n e env rs with
    | .ok v rs' => ∃ s', RelC s' rs' env ∧ fnOf s' s'.curfunc = fnOf s s.curfunc
        ∧ s'.pc = s.pc + (code.length : Int) ∧ s'.data = some v :: s.data
        ∧ s'.linear = s.linear ∧ s'.addr = s.addr ∧ s'.curfunc = s.curfunc
        ∧ ∃ k m, ∀ fuel, m ≤ fuel → ∀ st, (runLoop (fuel + k) st).run s = (runLoop fuel st).run s'
    | .err rs' => ∃ k m, ∀ fuel, m ≤ fuel → ∀ st,
        ∃ sf, (runLoop (fuel + k) st).run s = (.error .err, sf) ∧ sf.trace = rs'.trace
    | .timeout => True
    | .brk _ _ => False
    | .cont _ _ => False := by
  have h := segment_Fc e he isFn c hfn gs code t gs' hc s rs env pre post hrel ⟨huser, hcode, hpc⟩ n
  cases hres : Ref.eval n e env rs with
  | ok v rs' =>
    rw [hres] at h
    obtain ⟨s', ⟨K, m, k, hk, H⟩, l, rel, -, fr, -⟩ := h
    exact ⟨s', rel, l.fn, l.pc, l.data, fr.linear, fr.addr, fr.curfunc, k, m, H⟩
  | err rs' =>
    rw [hres] at h
    obtain ⟨K, k, hk, m, H⟩ := h
    exact ⟨k, m, H⟩
  | timeout => trivial
  | brk l rs' => rw [hres] at h; exact h
  | cont l rs' => rw [hres] at h; exact h

/-- **`CompileCorrect` for the fragment Fc**: whenever the reference evaluator reports an outcome
— a value or an error, with its trace of `trace` calls — for a program whose top-level forms are in
Fc, the VM model reports the same outcome. -/
theorem compile_correct_on_Fc : CompileCorrectOn (fun p => FcList p = true) :=
  compileCorrectOn_of_runText fun p hne hp n => runText_Fc VM.initSt Ref.initSt p hne hp atRest_initSt relC_initSt n

/-- `(def a (+ 1 2)) (let [b (* a a)] (cond (< b 5) 0 (trace (- b (len "xy")))))` -/
def demoFc : List Expr :=
  [.def_ "a" (.call (.sym "+") [.int 1, .int 2]),
   .let_ false [("b", .call (.sym "*") [.sym "a", .sym "a"])]
     [.cond [(.call (.sym "<") [.sym "b", .int 5], .int 0)]
        (.call (.sym "trace") [.call (.sym "-") [.sym "b", .call (.sym "len") [.str "xy"]]])]]

example : FcList demoFc = true := by decide +kernel

/-- `(def v [1 (+ 1 1) "s"]) (aset v 0 (len v)) (cons (aget v 0) (rest v))`: arrays by reference -/
def demoFcArr : List Expr :=
  [.def_ "v" (.arr [.int 1, .call (.sym "+") [.int 1, .int 1], .str "s"]),
   .call (.sym "aset") [.sym "v", .int 0, .call (.sym "len") [.sym "v"]],
   .call (.sym "cons") [.call (.sym "aget") [.sym "v", .int 0], .call (.sym "rest") [.sym "v"]]]

example : FcList demoFcArr = true := by decide +kernel

/-- `(def s 0) (for [(def i 0) (< i 4) (set i (+ i 1))] (set s (+ s i)) (for [(def j 0) (< j i) (set j (+ j 1))]
(trace j))) s`: nested loops, a loop variable in the loop scope, effects on a global, traces -/
def demoFcFor : List Expr :=
  [.def_ "s" (.int 0),
   .for_ none (.def_ "i" (.int 0)) (.call (.sym "<") [.sym "i", .int 4]) (.set_ "i" (.call (.sym "+") [.sym "i", .int 1]))
     [.set_ "s" (.call (.sym "+") [.sym "s", .sym "i"]),
      .for_ (some "inner") (.def_ "j" (.int 0)) (.call (.sym "<") [.sym "j", .sym "i"])
        (.set_ "j" (.call (.sym "+") [.sym "j", .int 1])) [.call (.sym "trace") [.sym "j"]]],
   .sym "s"]

example : FcList demoFcFor = true := by decide +kernel

/-- `(def a (+ 1 2)) (trace (* a a))`: value 9, one `trace` call -/
def demoFcSmall : List Expr :=
  [.def_ "a" (.call (.sym "+") [.int 1, .int 2]), .call (.sym "trace") [.call (.sym "*") [.sym "a", .sym "a"]]]

example : FcList demoFcSmall = true := by decide +kernel

theorem demoFcSmall_ref :
    refClass (Ref.evalBegin 8 demoFcSmall 0 { Ref.initSt with trace := [] }) = some (some (.int 9#64)) := by
  decide +kernel

/-- an instance of `compile_correct_on_Fc` with a real outcome (value 9, trace of one call) on
the reference side; the same text through the harness prints `ok 9 T[9]` -/
example : ∃ fuel' o, obsOfRef (Ref.runProgram 8 demoFcSmall Ref.initSt).1 = some o
    ∧ obsOfVM (VM.runText fuel' demoFcSmall VM.initSt).1 = some o :=
  compile_correct_on_Fc.of_class (p := demoFcSmall) (by decide) (by decide) demoFcSmall_ref


/-! ## F2 — user functions: `defn`, `fn`, closures, calls by name, recursion

A program text of F2 is a list of top-level forms of `Ff true ""`, where `Ff fnOk self` is: literals,
symbols, `def`, `set`, `begin`, `cond`, `and`, `or`, non-empty `newScope`, `letseq`, `let` with pairwise
distinct names, array literals, `for` loops (without `break`/`continue`), calls `(h a₁ … aₙ)`, and — in positions compiled when the
text is loaded (`fnOk`: everywhere but inside the operands of a call) — `(fn [p₁ … pₙ] body…)` and
`(defn name [p₁ … pₙ] body…)`, at top level or nested in function bodies to any depth: fixed parameters
and possibly a rest parameter (`[a b & more]`), pairwise distinct, lazy (`#p`) or not, none a builtin name; a
non-empty body in the fragment. The head of a call is a symbol other than `self` (the function being defined: a
call of it in a directly compiled position may be compiled as a self tail call, `goto 0` — that is F2c) and not
of the form `__anon…` (the generator's names for anonymous functions), or any expression of `Ff false ""` (a
computed head, evaluated like an operand); the operands are in `Ff false ""` (operands are compiled at run time,
outside any function). The one global name the fragment does not mention is `substitute` (`Sim.hoNames`);
`force`, `apply` and `map` are in it (sections below). The head of a call is looked up at run time: it may denote a closure object
(any arity mismatch is the script error of both sides), a first-order builtin, an array (operands
evaluated, then an error) or any other value (itself without operands, an error with operands).
Functions are VALUES: bound by `def`, passed as operands, returned, kept in lists. Closures capture
the scopes of the functions they were made in and may assign to captured variables:
`(defn mk [] (def c 0) (fn [] (set c (+ c 1))))`. Recursion (not in tail position of its own body):
`(defn fact [n] (cond (== n 0) 1 (* n (fact (- n 1)))))`.

What the proof has to deal with, beyond Fc:

* **The two evaluators number closures differently.** `createClosure` pushes `.fn s.fns.length` —
  an index into the VM's function table, which also holds templates and the helper functions of
  operand evaluation —, the reference evaluator `.fn s.clos.length`. So values correspond only
  modulo a map `m` from VM function ids to reference closure ids (`Sim.tr m`, through pairs; heaps
  element by element); `m` is extended when a closure is made. Every first-order builtin commutes
  with the translation (`Sim.prim_tr`): printing shows `fn`, comparisons refuse functions, the typing
  rule of `BindSymbol` ignores them.
* **Inside a callee the linear scope stack is not the static chain**: it is the callee's scopes down
  to its function scope, on top of the CALLER's stack. `LexicalLookupSymbol` stops stage 1 at the
  function scope and goes on (stage 2) in the closing stack of the running closure object — the
  scopes that were live, down to the next function scope, when the closure was made —, then in that
  of the function that made it, and so on; then (stage 3) in the template's. `Sim.ChainF`/`Sim.FnChainF`
  say how these lists, segment by segment, are the static chain of the reference environment
  (`Sim.GoodFn` keeps the chain of every closure object), `Sim.RelF.lexLookup` that the three stages
  find what the reference lookup finds.
* **A call runs in the caller's `Run` loop**: `callExpr` evaluates the operands in nested runs,
  `CallFunction` pushes the return address; prologue (`addFuncScope`, parameters bound from the
  stack last-first), body, epilogue (`removeScope`, `ret`) are instructions of the callee executed by
  the same loop (`Sim.fclaimU_succ`), against `applyFn` (fresh frame under the closure's
  environment, parameters bound first-last, body).
* **Templates are compiled when the text is loaded**, closures are made from them at run time
  (`Sim.GenOk`: the templates the generator made — nested ones included — are in the function table
  of the running state; `Sim.closure_step`: `createClosure` against `fn`/`defn`). -/

/-- **Segment lemma for F2 expressions**, spelled out (see `Sim.segment_Ff`, `Sim.SimF`). -/
theorem segment_lemma_Ff (fnOk : Bool) (self : String) (e : Expr) (he : Ff fnOk self e = true) (isFn : Nat → Bool) (c : Ctx)
    (hfn : FnameOk self c) (gs gs' : GS) (code : List Instr) (t : Bool)
    (hc : (compile isFn c e).run gs = .ok ((code, t), gs')) (m : Nat → Nat) (s : St) (rs : Ref.St) (env : Nat)
    (pre post : List Instr) (hrel : RelF m s rs env) (hgen : fnOk = true → GenOk gs gs' s)
    (huser : (fnOf s s.curfunc).user = false)
    (hcode : (fnOf s s.curfunc).code = pre ++ code ++ post) (hpc : s.pc = (pre.length : Int)) (n : Nat) :
    match Ref.eval n e env rs with
    | .ok v' rs' => ∃ s' m' v, v' = Sim.tr m' id id v ∧ RelF m' s' rs' env ∧ (∀ i, i < s.fns.length → m' i = m i)
        ∧ fnOf s' s'.curfunc = fnOf s s.curfunc ∧ s'.pc = s.pc + (code.length : Int) ∧ s'.data = some v :: s.data
        ∧ s'.linear = s.linear ∧ s'.addr = s.addr ∧ s'.curfunc = s.curfunc
        ∧ ∃ k j, ∀ fuel, j ≤ fuel → ∀ st, (runLoop (fuel + k) st).run s = (runLoop fuel st).run s'
    | .err rs' => ∃ k j, ∀ fuel, j ≤ fuel → ∀ st,
        ∃ sf, (runLoop (fuel + k) st).run s = (.error .err, sf) ∧ sf.trace = rs'.trace
    | .timeout => True
    | .brk _ _ => False
    | .cont _ _ => False := by
  have h := segment_Ff fnOk self e he isFn c hfn gs ((code, t), gs') hc m s rs env pre post hrel hgen ⟨huser, hcode, hpc⟩ n
  cases hres : Ref.eval n e env rs with
  | ok v rs' =>
    rw [hres] at h
    obtain ⟨s', m', w, ⟨K, j, k, hk, H⟩, l, hv, rel, hm, -, fr, -⟩ := h
    exact ⟨s', m', w, hv, rel, hm, l.fn, l.pc, l.data, fr.linear, fr.addr, fr.curfunc, k, j, H⟩
  | err rs' =>
    rw [hres] at h
    obtain ⟨K, k, hk, j, H⟩ := h
    exact ⟨k, j, H⟩
  | timeout => trivial
  | brk l rs' => rw [hres] at h; exact h
  | cont l rs' => rw [hres] at h; exact h

theorem relF_init (m : Nat → Nat) : RelF m VM.initSt Ref.initSt 0 := relF_initSt m

/-- **`CompileCorrect` for the fragment F2**: whenever the reference evaluator reports an outcome
for a program whose top-level forms are in F2 (`defn`s, `fn`s, expressions with calls of user
functions), the VM model reports the same outcome — same class, same printed value, same trace. -/
theorem compile_correct_on_F2 : CompileCorrectOn (fun p => FtList p = true) :=
  compileCorrectOn_of_runText fun p hne hp n =>
    runText_Ft id VM.initSt Ref.initSt p hne hp atRest_initSt rfl (relF_initSt id) n


/-- membership in the fragment, by computation -/
macro "ft_mem" d:ident : tactic =>
  `(tactic| simp [$d:ident, FtList, FfList, Ff, FaList, FfArms, okRest, okParam, okName, okBinder, okSym, okHead, foBuiltins, hoNames])

/-- `(defn sq [x] (* x x)) (trace (sq 3))` -/
def demoF2 : List Expr :=
  [.defn "sq" ["x"] none [.call (.sym "*") [.sym "x", .sym "x"]], .call (.sym "trace") [.call (.sym "sq") [.int 3]]]

theorem demoF2_in : FtList demoF2 = true := by ft_mem demoF2

/-- `(defn fact [n] (cond (== n 0) 1 (* n (fact (- n 1))))) (fact 2)`: recursion -/
def demoF2Rec : List Expr :=
  [.defn "fact" ["n"] none [.cond [(.call (.sym "==") [.sym "n", .int 0], .int 1)]
      (.call (.sym "*") [.sym "n", .call (.sym "fact") [.call (.sym "-") [.sym "n", .int 1]]])],
   .call (.sym "fact") [.int 2]]

theorem demoF2Rec_in : FtList demoF2Rec = true := by decide +kernel

/-- `(defn adder [n] (fn [x] (+ x n))) (def a (adder 3)) (trace (a 4))`: a closure capturing a parameter,
returned and called later -/
def demoF2Clo : List Expr :=
  [.defn "adder" ["n"] none [.fn ["x"] none [.call (.sym "+") [.sym "x", .sym "n"]]],
   .def_ "a" (.call (.sym "adder") [.int 3]), .call (.sym "trace") [.call (.sym "a") [.int 4]]]

theorem demoF2Clo_in : FtList demoF2Clo = true := by decide +kernel

/-- `(defn f [x] (def g x) (+ g 1)) (def g 10) (trace (f 5)) g`: a `def` inside a function binds in
the function's scope; `(defn f [] 7) (def k f) (k)`: a function as a value; `(defn f [x y] x) (f 1)`: wrong
arity; `(defn mk [] (def c 0) (fn [] (set c (+ c 1)))) (def k (mk)) (k) (k) (trace (k))`: a closure
assigning to a captured local; `(defn outer [a] (defn inner [b] (cons a b)) inner) (def f (outer 1))
(def g (outer 2)) (trace (f 10)) (g 20)`: a nested `defn`, two closures of one template -/
def demoF2Scope : List Expr :=
  [.defn "f" ["x"] none [.def_ "g" (.sym "x"), .call (.sym "+") [.sym "g", .int 1]], .def_ "g" (.int 10),
   .call (.sym "trace") [.call (.sym "f") [.int 5]], .sym "g"]
def demoF2Val : List Expr := [.defn "f" [] none [.int 7], .def_ "k" (.sym "f"), .call (.sym "k") []]
def demoF2Arity : List Expr := [.defn "f" ["x", "y"] none [.sym "x"], .call (.sym "f") [.int 1]]
def demoF2Counter : List Expr :=
  [.defn "mk" [] none [.def_ "c" (.int 0), .fn [] none [.set_ "c" (.call (.sym "+") [.sym "c", .int 1])]],
   .def_ "k" (.call (.sym "mk") []), .call (.sym "k") [], .call (.sym "k") [], .call (.sym "trace") [.call (.sym "k") []]]
def demoF2Nested : List Expr :=
  [.defn "outer" ["a"] none [.defn "inner" ["b"] none [.call (.sym "cons") [.sym "a", .sym "b"]], .sym "inner"],
   .def_ "f" (.call (.sym "outer") [.int 1]), .def_ "g" (.call (.sym "outer") [.int 2]),
   .call (.sym "trace") [.call (.sym "f") [.int 10]], .call (.sym "g") [.int 20]]

/-- `(defn mkacc [start] (let [total start] (fn [d] (set total (+ total d)) total))) (def acc (mkacc 10)) (acc 5)
(trace (acc 7))`: a closure over a `let`-bound variable; `(defn f [xs] (and (not (== (len xs) 0)) (first xs)))
(trace (f [4 5])) (f [])`: `and`, array literals; `(defn g [a] (letseq [b (+ a 1) c (* b 2)] (newScope (def a c) [a b c])))
(g 1)`: `letseq`, `newScope` inside a function -/
def demoF2Acc : List Expr :=
  [.defn "mkacc" ["start"] none [.let_ false [("total", .sym "start")]
      [.fn ["d"] none [.set_ "total" (.call (.sym "+") [.sym "total", .sym "d"]), .sym "total"]]],
   .def_ "acc" (.call (.sym "mkacc") [.int 10]), .call (.sym "acc") [.int 5], .call (.sym "trace") [.call (.sym "acc") [.int 7]]]
def demoF2And : List Expr :=
  [.defn "f" ["xs"] none [.and_ [.call (.sym "not") [.call (.sym "==") [.call (.sym "len") [.sym "xs"], .int 0]],
      .call (.sym "first") [.sym "xs"]]],
   .call (.sym "trace") [.call (.sym "f") [.arr [.int 4, .int 5]]], .call (.sym "f") [.arr []]]
def demoF2Seq : List Expr :=
  [.defn "g" ["a"] none [.let_ true [("b", .call (.sym "+") [.sym "a", .int 1]), ("c", .call (.sym "*") [.sym "b", .int 2])]
      [.newScope [.def_ "a" (.sym "c"), .arr [.sym "a", .sym "b", .sym "c"]]]],
   .call (.sym "g") [.int 1]]

/-- `(defn sum [n] (def s 0) (for [(def i 0) (< i n) (set i (+ i 1))] (set s (+ s i))) s) (trace (sum 5))`: a loop in a
function body -/
def demoF2Loop : List Expr :=
  [.defn "sum" ["n"] none [.def_ "s" (.int 0),
      .for_ none (.def_ "i" (.int 0)) (.call (.sym "<") [.sym "i", .sym "n"]) (.set_ "i" (.call (.sym "+") [.sym "i", .int 1]))
        [.set_ "s" (.call (.sym "+") [.sym "s", .sym "i"])], .sym "s"],
   .call (.sym "trace") [.call (.sym "sum") [.int 5]]]

macro "ft_mem2" d:ident : tactic =>
  `(tactic| simp [$d:ident, FtList, FfList, Ff, FaList, FfArms, FfBinds, okRest, okParam, okName, okBinder, okSym, okHead, foBuiltins, hoNames])

example : FtList demoF2Acc = true := by decide +kernel
example : FtList demoF2And = true := by decide +kernel
example : FtList demoF2Seq = true := by decide +kernel
example : FtList demoF2Loop = true := by decide +kernel
example : FtList demoF2Scope = true := by decide +kernel
example : FtList demoF2Val = true := by decide +kernel
example : FtList demoF2Arity = true := by decide +kernel
example : FtList demoF2Counter = true := by decide +kernel
example : FtList demoF2Nested = true := by decide +kernel

theorem demoF2_ref :
    refClass (Ref.evalBegin 12 demoF2 0 { Ref.initSt with trace := [] }) = some (some (.int 9#64)) := by
  decide +kernel

theorem demoF2Rec_ref :
    refClass (Ref.evalBegin 30 demoF2Rec 0 { Ref.initSt with trace := [] }) = some (some (.int 2#64)) := by
  decide +kernel

theorem demoF2Clo_ref :
    refClass (Ref.evalBegin 16 demoF2Clo 0 { Ref.initSt with trace := [] }) = some (some (.int 7#64)) := by
  decide +kernel

/-- instances of `compile_correct_on_F2` with a real outcome on the reference side (value 9 with one
traced call; value 2 by a recursive function; value 7 through a closure that captured a parameter);
the same texts through the harness print `ok 9 T[9]`, `ok 2 T[]`, `ok 7 T[7]` -/
example : ∃ fuel' o, obsOfRef (Ref.runProgram 12 demoF2 Ref.initSt).1 = some o
    ∧ obsOfVM (VM.runText fuel' demoF2 VM.initSt).1 = some o :=
  compile_correct_on_F2.of_class (p := demoF2) demoF2_in (by decide) demoF2_ref

example : ∃ fuel' o, obsOfRef (Ref.runProgram 30 demoF2Rec Ref.initSt).1 = some o
    ∧ obsOfVM (VM.runText fuel' demoF2Rec VM.initSt).1 = some o :=
  compile_correct_on_F2.of_class (p := demoF2Rec) demoF2Rec_in (by decide) demoF2Rec_ref

example : ∃ fuel' o, obsOfRef (Ref.runProgram 16 demoF2Clo Ref.initSt).1 = some o
    ∧ obsOfVM (VM.runText fuel' demoF2Clo VM.initSt).1 = some o :=
  compile_correct_on_F2.of_class (p := demoF2Clo) demoF2Clo_in (by decide) demoF2Clo_ref

/-- **Segment lemma with non-local exits**: a statement list of Fx (F2 plus `break`/`continue` of the
enclosing loops `Γ`) compiled in place either lands with its value (as `segment_lemma_Ff`), fails with the
reference trace, or — when the reference evaluator yields `brk l`/`cont l` — has jumped to the
`clearMark` resp. the `continue` label of the loop `l` names, the scopes opened inside that loop
popped, the data stack holding only values above the loop's mark (`JumpedF`). -/
theorem segment_lemma_Fx (ls : List (Option String)) (self : String) (es : List Expr) (hne : es ≠ [])
    (he : FxList ls self es = true) (isFn : Nat → Bool) (c : Ctx) (hfn : FnameOk self c) (gs : GS) (r : (List Instr × Bool) × GS)
    (hc : (compileBegin isFn c es).run gs = .ok r) (Γ : List LCtx) (hls : Γ.map (·.label) = ls) (hg : GsOk Γ gs)
    (m : Nat → Nat) (s : St) (rs : Ref.St) (env : Nat)
    (pre post : List Instr) (hrel : RelF m s rs env) (hgen : GenOk gs r.2 s) (hctx : CtxF Γ c.scopes s rs)
    (hlf : LoopsFinal r.2 s) (hlo : LsOut pre gs.loops.length r.2.loops.length) (hseg : Seg s pre r.1.1 post)
    (n : Nat) : SimX r.1.1 Γ m s rs env (Ref.evalBegin n es env rs) :=
  segment_Fx_begin ls self es hne he isFn c hfn gs r hc Γ hls hg m s rs env pre post hrel hgen hctx hlf hlo hseg n

/-- **`CompileCorrect` for F2 with `break`/`continue`**: program texts whose top-level forms are F2
forms or `for` loops (also under `begin`/`cond`/`let`/`letseq`/`newScope`) that leave a loop —
the innermost or a labelled enclosing one — by `break`, or start its next iteration by `continue`. -/
theorem compile_correct_on_F2x : CompileCorrectOn (fun p => FxTop p = true) :=
  compileCorrectOn_of_runText fun p hne hp n =>
    runText_Fx id VM.initSt Ref.initSt p hne hp atRest_initSt rfl rfl (fun l hl => by cases hl) (relF_initSt id) n

macro "fx_mem" d:ident : tactic =>
  `(tactic| simp [$d:ident, FxTop, FxList, Fx, FxArms, lblOk, FtList, FfList, Ff, FaList, FfArms, FfBinds, okRest, okParam, okName, okBinder,
      okSym, okHead, foBuiltins, hoNames])

/-- `(def s 0) (for [(def i 0) (< i 9) (set i (+ i 1))] (cond (== i 1) (break) nil) (set s (+ s 5))) s` -/
def demoBrk : List Expr :=
  [.def_ "s" (.int 0),
   .for_ none (.def_ "i" (.int 0)) (.call (.sym "<") [.sym "i", .int 9]) (.set_ "i" (.call (.sym "+") [.sym "i", .int 1]))
     [.cond [(.call (.sym "==") [.sym "i", .int 1], .break_ none)] .nilLit, .set_ "s" (.call (.sym "+") [.sym "s", .int 5])],
   .sym "s"]

/-- `(for [(def i 0) (< i 4) (set i (+ i 1))] (cond (== i 1) (continue) nil) (trace i))` -/
def demoCont : List Expr :=
  [.for_ none (.def_ "i" (.int 0)) (.call (.sym "<") [.sym "i", .int 4]) (.set_ "i" (.call (.sym "+") [.sym "i", .int 1]))
     [.cond [(.call (.sym "==") [.sym "i", .int 1], .continue_ none)] .nilLit, .call (.sym "trace") [.sym "i"]]]

/-- `(for outer: [(def i 0) (< i 3) (set i (+ i 1))] (for [(def j 0) (< j 3) (set j (+ j 1))]
(cond (== j 1) (continue outer:) nil) (cond (== i 2) (break outer:) nil) (trace (+ (* i 10) j))))`: labelled
exits out of the inner loop -/
def demoOuter : List Expr :=
  [.for_ (some "outer") (.def_ "i" (.int 0)) (.call (.sym "<") [.sym "i", .int 3]) (.set_ "i" (.call (.sym "+") [.sym "i", .int 1]))
     [.for_ none (.def_ "j" (.int 0)) (.call (.sym "<") [.sym "j", .int 3]) (.set_ "j" (.call (.sym "+") [.sym "j", .int 1]))
       [.cond [(.call (.sym "==") [.sym "j", .int 1], .continue_ (some "outer"))] .nilLit,
        .cond [(.call (.sym "==") [.sym "i", .int 2], .break_ (some "outer"))] .nilLit,
        .call (.sym "trace") [.call (.sym "+") [.call (.sym "*") [.sym "i", .int 10], .sym "j"]]]]]

/-- `(defn mk [n] (fn [] n)) (def fs []) (for [(def i 0) (< i 5) (set i (+ i 1))] (let [k (* i i)]
(cond (> k 5) (break) nil) (set fs (append fs (mk k))))) (trace (len fs))`: `break` out of a `let` inside
the loop (one scope popped by the `break`), closures made in the loop -/
def demoBrkLet : List Expr :=
  [.defn "mk" ["n"] none [.fn [] none [.sym "n"]],
   .def_ "fs" (.arr []),
   .for_ none (.def_ "i" (.int 0)) (.call (.sym "<") [.sym "i", .int 5]) (.set_ "i" (.call (.sym "+") [.sym "i", .int 1]))
     [.let_ false [("k", .call (.sym "*") [.sym "i", .sym "i"])]
       [.cond [(.call (.sym ">") [.sym "k", .int 5], .break_ none)] .nilLit,
        .set_ "fs" (.call (.sym "append") [.sym "fs", .call (.sym "mk") [.sym "k"]])]],
   .call (.sym "trace") [.call (.sym "len") [.sym "fs"]]]

theorem demoBrk_in : FxTop demoBrk = true := by fx_mem demoBrk
example : FxTop demoCont = true := by decide +kernel
example : FxTop demoOuter = true := by decide +kernel
example : FxTop demoBrkLet = true := by decide +kernel
/-- a `break` outside every loop is not in the fragment (nor well-formed) -/
example : FxTop [.break_ none] = false := by decide +kernel

/-- the reference evaluator: the body runs once, the `break` ends the loop -/
theorem demoBrk_ref :
    refClass (Ref.evalBegin 12 demoBrk 0 { Ref.initSt with trace := [] }) = some (some (.int 5#64)) := by
  decide +kernel

/-- an instance of `compile_correct_on_F2x` with a real outcome on the reference side (value 5: one
iteration, then `break`); through the harness the text prints `ok 5 T[]` -/
example : ∃ fuel' o, obsOfRef (Ref.runProgram 12 demoBrk Ref.initSt).1 = some o
    ∧ obsOfVM (VM.runText fuel' demoBrk VM.initSt).1 = some o :=
  compile_correct_on_F2x.of_class (p := demoBrk) demoBrk_in (by decide) demoBrk_ref

/-- `(defn cnt [a & more] (+ a (len more))) (trace (cnt 1 2 3 4))`: the arguments beyond the fixed ones are packed
into a list (`wrangleOptargs` in `CallFunction`) -/
def demoVar : List Expr :=
  [.defn "cnt" ["a"] (some "more") [.call (.sym "+") [.sym "a", .call (.sym "len") [.sym "more"]]],
   .call (.sym "trace") [.call (.sym "cnt") [.int 1, .int 2, .int 3, .int 4]]]

/-- `(defn cnt [a & more] (+ a (len more))) (cnt)`: too few arguments for the fixed part -/
def demoVarArity : List Expr :=
  [.defn "cnt" ["a"] (some "more") [.call (.sym "+") [.sym "a", .call (.sym "len") [.sym "more"]]],
   .call (.sym "cnt") []]

/-- `(defn pack [& xs] xs) (trace (pack 1 2)) (pack)`: only a rest parameter -/
def demoVarOnly : List Expr :=
  [.defn "pack" [] (some "xs") [.sym "xs"], .call (.sym "trace") [.call (.sym "pack") [.int 1, .int 2]], .call (.sym "pack") []]

theorem demoVar_in : FtList demoVar = true := by decide +kernel
example : FtList demoVarArity = true := by decide +kernel
example : FtList demoVarOnly = true := by decide +kernel

theorem demoVar_ref :
    refClass (Ref.evalBegin 16 demoVar 0 { Ref.initSt with trace := [] }) = some (some (.int 4#64)) := by
  decide +kernel

example : ∃ fuel' o, obsOfRef (Ref.runProgram 16 demoVar Ref.initSt).1 = some o
    ∧ obsOfVM (VM.runText fuel' demoVar VM.initSt).1 = some o :=
  compile_correct_on_F2.of_class (p := demoVar) demoVar_in (by decide) demoVar_ref

/-- **A call in tail position of a function body** (`Sim.simT_selfcall`, restated): whatever the
generator made of it — an ordinary `callExpr`, or the self-tail-call sequence `tailGuard`, operands
inline, `prepareCall`, `removeScope` × (scopes+1), `goto 0`, `callExpr` — the code simulates
`Ref.eval` of the call: it lands with the value (`SimF`, the ordinary call: guard failed or never
emitted), or — guard passed — the whole activation returns the value of applying the same closure
to the new arguments (`RetOut`: the state `FClaimU` describes for an ordinary call of that closure
from the original call site). -/
theorem tail_call_simulates {k : Nat} {self h : String} {args : List Expr} (hh : (h != "") = true) (hhead : okHead h = true)
    (hfa : FaList args = true) (hself : (h != self) = true ∨ FfList false self args = true)
    (isFn : Nat → Bool) (c : Ctx) (gs : GS) (r : (List Instr × Bool) × GS)
    (hc : (compile isFn c (.call (.sym h) args)).run gs = .ok r) (hfn : FnameOk self c)
    {ps : List String} {rest : Option String} (hkn : KnownOk c gs ps rest) (hps : ∀ p ∈ ps ++ rest.toList, okParam p = true)
    {m₁ : Nat → Nat} {s₁ : St} {rs₁ : Ref.St} {env vid : Nat} {D : List (Option Val)} {m : Nat → Nat} {s : St} {rs : Ref.St}
    {cenv f₀ : Nat} {pre post : List Instr}
    (hact : InAct m₁ s₁ rs₁ env vid D f₀ c.scopes m s rs) (hnargs : (fnOf s₁ vid).nargs = ps.length)
    (hva : (fnOf s₁ vid).varargs = rest.isSome) (hpa : (fnOf s₁ vid).params = ps ++ rest.toList)
    (hrel : RelF m s rs cenv) (hseg : Seg s pre r.1.1 post) :
    SimT r.1.1 s₁ env D f₀ m s rs cenv (Ref.eval (k + 2) (.call (.sym h) args) cenv rs) := by
  obtain ⟨_, _, _, hA, hU, _, _, _, _, hV, _, _, _, _, _, _, _, hlow⟩ := fclaims (k + 1)
  exact simT_selfcall hV hA hU (fclaimH hlow hA) hh hhead hfa hself isFn c gs r hc hfn
    hkn hps hact hnargs hva hpa hrel hseg

/-- **`CompileCorrect` for F2c**: program texts of top-level statements whose loops may `break`/`continue`
(`Fx [] ""`, so every program of Fx) and top-level `defn`s whose bodies (`FzList true`) call the function
itself in tail position (under `begin`/`cond`/`let`/`letseq`/`newScope`, any number of such calls) and
contain, before the last form, statements whose `for` loops `break`/`continue` (plain or labelled, their
own loops). The jump path and the fallback to the ordinary call (the name was re-bound at run time) are
both covered. -/
theorem compile_correct_on_F2c : CompileCorrectOn (fun p => FyList p = true) :=
  compileCorrectOn_of_runText fun p hne hp n =>
    runText_Fy id VM.initSt Ref.initSt p hne hp atRest_initSt rfl rfl (fun l hl => by cases hl) (relF_initSt id) n

macro "fy_mem" d:ident : tactic =>
  `(tactic| simp [$d:ident, FyList, Fy, FzList, Fz, Fs, FzArms, FxList, Fx, FxArms, lblOk, FtList, FfList, Ff, FaList, FfArms, FfBinds,
      okRest, okParam, okName, okBinder, okSym, okHead, foBuiltins, hoNames])

/-- `(defn loop [i acc] (cond (== i 0) acc (loop (- i 1) (+ acc i)))) (trace (loop 3 0))`: a loop by a self tail
call -/
def demoTail : List Expr :=
  [.defn "loop" ["i", "acc"] none [.cond [(.call (.sym "==") [.sym "i", .int 0], .sym "acc")]
      (.call (.sym "loop") [.call (.sym "-") [.sym "i", .int 1], .call (.sym "+") [.sym "acc", .sym "i"]])],
   .call (.sym "trace") [.call (.sym "loop") [.int 3, .int 0]]]

/-- `(defn g [] (set f 7)) (defn f [n] (cond (== n 0) 0 (begin (g) (f (- n 1))))) (f 2)`: the name is re-bound
before the tail call; the guard fails and the ordinary call reports the error (the divergence fixed by
C09-02: without the guard the machine re-entered `f`) -/
def demoTailRebind : List Expr :=
  [.defn "g" [] none [.set_ "f" (.int 7)],
   .defn "f" ["n"] none [.cond [(.call (.sym "==") [.sym "n", .int 0], .int 0)]
      (.begin_ [.call (.sym "g") [], .call (.sym "f") [.call (.sym "-") [.sym "n", .int 1]]])],
   .call (.sym "f") [.int 2]]

/-- `(defn cnt [n acc] (let [m (- n 1)] (cond (< m 0) acc (cnt m (+ acc 1))))) (trace (cnt 4 0))`: the tail call
inside a `let` (two scopes are dropped before the jump) -/
def demoTailLet : List Expr :=
  [.defn "cnt" ["n", "acc"] none [.let_ false [("m", .call (.sym "-") [.sym "n", .int 1])]
      [.cond [(.call (.sym "<") [.sym "m", .int 0], .sym "acc")]
        (.call (.sym "cnt") [.sym "m", .call (.sym "+") [.sym "acc", .int 1]])]],
   .call (.sym "trace") [.call (.sym "cnt") [.int 4, .int 0]]]

/-- `(defn firstbig [xs lim] (def r 0) (for [(def i 0) (< i (len xs)) (set i (+ i 1))] (cond (> (aget xs i) lim)
(begin (set r (aget xs i)) (break)) nil)) r) (trace (firstbig [1 5 9 7] 4))`: a loop that `break`s inside a function body -/
def demoFnBrk : List Expr :=
  [.defn "firstbig" ["xs", "lim"] none [.def_ "r" (.int 0),
      .for_ none (.def_ "i" (.int 0)) (.call (.sym "<") [.sym "i", .call (.sym "len") [.sym "xs"]])
        (.set_ "i" (.call (.sym "+") [.sym "i", .int 1]))
        [.cond [(.call (.sym ">") [.call (.sym "aget") [.sym "xs", .sym "i"], .sym "lim"],
            .begin_ [.set_ "r" (.call (.sym "aget") [.sym "xs", .sym "i"]), .break_ none])] .nilLit],
      .sym "r"],
   .call (.sym "trace") [.call (.sym "firstbig") [.arr [.int 1, .int 5, .int 9, .int 7], .int 4]]]

/-- `(defn sumodd [n acc] (for [(def i 0) (< i n) (set i (+ i 1))] (cond (== (mod i 2) 0) (continue) nil) (set acc (+ acc i)))
(cond (> n 4) (sumodd (- n 2) acc) acc)) (trace (sumodd 6 0))`: a loop with `continue`, then a self tail call -/
def demoFnCont : List Expr :=
  [.defn "sumodd" ["n", "acc"] none [
      .for_ none (.def_ "i" (.int 0)) (.call (.sym "<") [.sym "i", .sym "n"]) (.set_ "i" (.call (.sym "+") [.sym "i", .int 1]))
        [.cond [(.call (.sym "==") [.call (.sym "mod") [.sym "i", .int 2], .int 0], .continue_ none)] .nilLit,
         .set_ "acc" (.call (.sym "+") [.sym "acc", .sym "i"])],
      .cond [(.call (.sym ">") [.sym "n", .int 4], .call (.sym "sumodd") [.call (.sym "-") [.sym "n", .int 2], .sym "acc"])]
        (.sym "acc")],
   .call (.sym "trace") [.call (.sym "sumodd") [.int 6, .int 0]]]

example : FyList demoFnBrk = true := by decide +kernel
example : FyList demoFnCont = true := by decide +kernel
/-- the programs of Fx (top-level loops with `break`/`continue`) are programs of F2c -/
example : FyList demoBrk = true ∧ FyList demoOuter = true := by decide +kernel

/-- `(defn f [n & r] (cond (== n 0) (len r) (f (- n 1) n n))) (trace (f 2))`: a self tail call of a variadic function
(`PrepareCall` packs the tail before the jump) -/
def demoVarTail : List Expr :=
  [.defn "f" ["n"] (some "r") [.cond [(.call (.sym "==") [.sym "n", .int 0], .call (.sym "len") [.sym "r"])]
      (.call (.sym "f") [.call (.sym "-") [.sym "n", .int 1], .sym "n", .sym "n"])],
   .call (.sym "trace") [.call (.sym "f") [.int 2]]]

example : FyList demoVarTail = true := by decide +kernel

theorem demoTail_in : FyList demoTail = true := by decide +kernel
theorem demoTailRebind_in : FyList demoTailRebind = true := by decide +kernel
example : FyList demoTailLet = true := by decide +kernel
/-- the self tail call is what takes `demoTail` out of F2 -/
example : FtList demoTail = false := by decide +kernel

theorem demoTail_ref :
    refClass (Ref.evalBegin 40 demoTail 0 { Ref.initSt with trace := [] }) = some (some (.int 6#64)) := by
  decide +kernel

theorem demoTailRebind_ref :
    refClass (Ref.evalBegin 30 demoTailRebind 0 { Ref.initSt with trace := [] }) = some none := by
  decide +kernel

/-- instances of `compile_correct_on_F2c` with a real outcome on the reference side: value 6 after three
jumps to instruction 0; an error when the name was re-bound (guard fails, ordinary call of `7`) -/
example : ∃ fuel' o, obsOfRef (Ref.runProgram 40 demoTail Ref.initSt).1 = some o
    ∧ obsOfVM (VM.runText fuel' demoTail VM.initSt).1 = some o :=
  compile_correct_on_F2c.of_class (p := demoTail) demoTail_in (by decide) demoTail_ref

example : ∃ fuel' t, obsOfRef (Ref.runProgram 30 demoTailRebind Ref.initSt).1 = some (.err t)
    ∧ obsOfVM (VM.runText fuel' demoTailRebind VM.initSt).1 = some (.err t) :=
  compile_correct_on_F2c.of_error (p := demoTailRebind) demoTailRebind_in (by decide) demoTailRebind_ref

def refVT (r : Ref.R Val) : Option (Val × Nat) :=
  match r with
  | .ok v rs => some (v, rs.trace.length)
  | _ => none

theorem truthy_bool (b : Bool) : truthy (.bool b) = b := rfl

macro "ref_eval" d:ident : tactic =>
  `(tactic| simp [$d:ident, Ref.evalBegin, Ref.eval, Ref.evalArgs, Ref.applyFn, Ref.bindParams, Ref.newFrame, Ref.evalCond, Ref.force,
    Ref.define, Ref.setVar, Ref.lookup, Ref.lookupIn, Ref.initSt, Ref.assocSet, Ref.globalNames, coreBuiltins,
    refVT, List.lookup, prim, isFunction, allInts, intOfLit, Ref.isLazyParam, rebindOk, tyOf, isCmp, compareVals,
    cmpResult, truthy_bool])

/-- `(defn f [#x y] (cond (> y 0) (force #x) 0)) (f (trace 5) 1) (f (trace 7) 0)`: the operand at the lazy
position is evaluated only when forced — one trace entry, not two -/
def demoLazy : List Expr :=
  [.defn "f" ["#x", "y"] none [.cond [(.call (.sym ">") [.sym "y", .int 0], .call (.sym "force") [.sym "#x"])] (.int 0)],
   .call (.sym "f") [.call (.sym "trace") [.int 5], .int 1],
   .call (.sym "f") [.call (.sym "trace") [.int 7], .int 0]]

/-- `(defn g [#x] (+ (force #x) (force #x))) (g (trace 3))`: forced twice, evaluated once (the memo) -/
def demoLazyMemo : List Expr :=
  [.defn "g" ["#x"] none [.call (.sym "+") [.call (.sym "force") [.sym "#x"], .call (.sym "force") [.sym "#x"]]],
   .call (.sym "g") [.call (.sym "trace") [.int 3]]]

/-- `(def a 1) (defn h [#x] (def a 10) (force #x)) (h (+ a 1))`: forced in the callee, evaluated in the caller's
environment — 2, not 11 -/
def demoLazyEnv : List Expr :=
  [.def_ "a" (.int 1),
   .defn "h" ["#x"] none [.def_ "a" (.int 10), .call (.sym "force") [.sym "#x"]],
   .call (.sym "h") [.call (.sym "+") [.sym "a", .int 1]]]

/-- `(defn lp [#x n] (cond (== n 0) (force #x) (lp (trace n) (- n 1)))) (lp 0 2)`: a lazy operand of a self
tail call (`PushLazyArgInstr` among the inline operands) captures the scopes of the activation the jump then
drops; forced in the last activation it still sees `n = 1` -/
def demoLazyTail : List Expr :=
  [.defn "lp" ["#x", "n"] none [.cond [(.call (.sym "==") [.sym "n", .int 0], .call (.sym "force") [.sym "#x"])]
      (.call (.sym "lp") [.call (.sym "trace") [.sym "n"], .call (.sym "-") [.sym "n", .int 1]])],
   .call (.sym "lp") [.int 0, .int 2]]

theorem demoLazy_in : FtList demoLazy = true := by decide +kernel
theorem demoLazyMemo_in : FtList demoLazyMemo = true := by decide +kernel
theorem demoLazyEnv_in : FtList demoLazyEnv = true := by decide +kernel
theorem demoLazyTail_in : FyList demoLazyTail = true := by decide +kernel

theorem demoLazy_ref :
    refVT (Ref.evalBegin 20 demoLazy 0 { Ref.initSt with trace := [] }) = some (.int 0#64, 1) := by
  decide +kernel
theorem demoLazyMemo_ref :
    refVT (Ref.evalBegin 20 demoLazyMemo 0 { Ref.initSt with trace := [] }) = some (.int 6#64, 1) := by
  decide +kernel
theorem demoLazyEnv_ref :
    refVT (Ref.evalBegin 20 demoLazyEnv 0 { Ref.initSt with trace := [] }) = some (.int 2#64, 0) := by
  decide +kernel
theorem demoLazyTail_ref :
    refVT (Ref.evalBegin 40 demoLazyTail 0 { Ref.initSt with trace := [] }) = some (.int 1#64, 1) := by
  decide +kernel

/-- **`CompileCorrect` for F3-lazy**: the programs of F2 and F2c, whose `fn`/`defn` may declare lazy parameters
(`#p`: the operand at that position is not evaluated at the call — `PrepareCallExprArgs` or, in a self tail
call, `PushLazyArgInstr` makes a lazy argument object holding the expression, the scope stack and the function
of the call site; the reference evaluator a thunk holding the expression and the frame) and may call `force`
(on a lazy argument: the expression is compiled then, run as a helper function on the captured stack with the
live stack set aside, the control state restored, the value memoised in the same slot of both tables; on any
other value: the value). Lazy values may be passed on, stored, returned, forced later or never, forced from
inside another force. `Sim.RelF.lz` relates the two tables (`Sim.LzOk`: same expression, the captured stack is
the static chain of the thunk's frame, memos related); `Sim.force_sim`/`Sim.fclaimG` is the simulation of
`force`, by induction on the reference fuel (the thunk's expression is evaluated with less fuel than the call). -/
theorem compile_correct_on_F3lazy : CompileCorrectOn (fun p => FtList p = true ∨ FyList p = true) :=
  fun p hp => hp.elim (compile_correct_on_F2 p) (compile_correct_on_F2c p)

/-- an instance of `compile_correct_on_F3lazy` from a value and a trace length of the reference run -/
theorem lazy_instance (fuel : Nat) (p : List Expr) (hp : FtList p = true ∨ FyList p = true) (hwf : Ref.wfList {} p = true)
    (v : Val) (k : Nat) (h : refVT (Ref.evalBegin fuel p 0 { Ref.initSt with trace := [] }) = some (v, k)) :
    ∃ fuel' val t, t.length = k ∧ obsOfRef (Ref.runProgram fuel p Ref.initSt).1 = some (.ok val t)
      ∧ obsOfVM (VM.runText fuel' p VM.initSt).1 = some (.ok val t) := by
  have key := compile_correct_on_F3lazy p hp hwf fuel
  rw [obsOfRef_runProgram] at key ⊢
  cases hres : Ref.evalBegin fuel p 0 { Ref.initSt with trace := [] } <;> rw [hres] at h key <;> cases h
  exact (key _ rfl).elim fun f hf => ⟨f, _, _, rfl, rfl, hf⟩

/-- the four programs above, on the machine: the same value, the same trace (of the stated length) -/
example : ∃ fuel' val t, t.length = 1 ∧ obsOfRef (Ref.runProgram 20 demoLazy Ref.initSt).1 = some (.ok val t)
    ∧ obsOfVM (VM.runText fuel' demoLazy VM.initSt).1 = some (.ok val t) :=
  lazy_instance 20 demoLazy (Or.inl demoLazy_in) (by decide) _ _ demoLazy_ref
example : ∃ fuel' val t, t.length = 1 ∧ obsOfRef (Ref.runProgram 20 demoLazyMemo Ref.initSt).1 = some (.ok val t)
    ∧ obsOfVM (VM.runText fuel' demoLazyMemo VM.initSt).1 = some (.ok val t) :=
  lazy_instance 20 demoLazyMemo (Or.inl demoLazyMemo_in) (by decide) _ _ demoLazyMemo_ref
example : ∃ fuel' val t, t.length = 0 ∧ obsOfRef (Ref.runProgram 20 demoLazyEnv Ref.initSt).1 = some (.ok val t)
    ∧ obsOfVM (VM.runText fuel' demoLazyEnv VM.initSt).1 = some (.ok val t) :=
  lazy_instance 20 demoLazyEnv (Or.inl demoLazyEnv_in) (by decide) _ _ demoLazyEnv_ref
example : ∃ fuel' val t, t.length = 1 ∧ obsOfRef (Ref.runProgram 40 demoLazyTail Ref.initSt).1 = some (.ok val t)
    ∧ obsOfVM (VM.runText fuel' demoLazyTail VM.initSt).1 = some (.ok val t) :=
  lazy_instance 40 demoLazyTail (Or.inr demoLazyTail_in) (by decide) _ _ demoLazyTail_ref

macro "ref_eval2" d:ident : tactic =>
  `(tactic| simp [$d:ident, Ref.evalBegin, Ref.eval, Ref.evalArgs, Ref.evalList, Ref.applyFn, Ref.bindParams, Ref.newFrame, Ref.evalCond, Ref.force,
    Ref.applyValues, Ref.mapArr, Ref.mapList, List.foldl, DataHeap.alloc, DataHeap.get, listToArray, mkList,
    Ref.define, Ref.setVar, Ref.lookup, Ref.lookupIn, Ref.initSt, Ref.assocSet, Ref.globalNames, coreBuiltins,
    refVT, List.lookup, prim, isFunction, allInts, intOfLit, Ref.isLazyParam, rebindOk, tyOf, isCmp, compareVals,
    cmpResult, truthy_bool])

/-- `(defn sq [x] (trace (* x x))) (len (map sq [1 2 3]))`: `map` over an array calls the closure once per element,
in order, and stores the results in a new array -/
def demoMapArr : List Expr :=
  [.defn "sq" ["x"] none [.call (.sym "trace") [.call (.sym "*") [.sym "x", .sym "x"]]],
   .call (.sym "len") [.call (.sym "map") [.sym "sq", .arr [.int 1, .int 2, .int 3]]]]

/-- `(defn inc [x] (+ x 1)) (first (rest (map inc (list 1 2))))`: `map` over a list -/
def demoMapList : List Expr :=
  [.defn "inc" ["x"] none [.call (.sym "+") [.sym "x", .int 1]],
   .call (.sym "first") [.call (.sym "rest") [.call (.sym "map") [.sym "inc", .call (.sym "list") [.int 1, .int 2]]]]]

/-- `(defn add [a b] (+ a b)) (apply add [1 2])` -/
def demoApply : List Expr :=
  [.defn "add" ["a", "b"] none [.call (.sym "+") [.sym "a", .sym "b"]],
   .call (.sym "apply") [.sym "add", .arr [.int 1, .int 2]]]

/-- `(defn lz [#x] (+ (force #x) (force #x))) (apply lz [(trace 7)])`: `apply` hands over values; a lazy position
receives an already forced lazy argument object (`NewValueLazyArg`) -/
def demoApplyLazy : List Expr :=
  [.defn "lz" ["#x"] none [.call (.sym "+") [.call (.sym "force") [.sym "#x"], .call (.sym "force") [.sym "#x"]]],
   .call (.sym "apply") [.sym "lz", .arr [.call (.sym "trace") [.int 7]]]]

/-- `(+ (apply + [1 2]) (apply apply [+ [1 2]]))`: Go builtins — also `apply` itself — as callees of `apply` -/
def demoApplyBuiltin : List Expr :=
  [.call (.sym "+") [.call (.sym "apply") [.sym "+", .arr [.int 1, .int 2]],
     .call (.sym "apply") [.sym "apply", .arr [.sym "+", .arr [.int 1, .int 2]]]]]

theorem demoMapArr_in : FtList demoMapArr = true := by decide +kernel
theorem demoMapList_in : FtList demoMapList = true := by decide +kernel
theorem demoApply_in : FtList demoApply = true := by decide +kernel
theorem demoApplyLazy_in : FtList demoApplyLazy = true := by decide +kernel
theorem demoApplyBuiltin_in : FtList demoApplyBuiltin = true := by decide +kernel

theorem demoMapArr_ref :
    refVT (Ref.evalBegin 20 demoMapArr 0 { Ref.initSt with trace := [] }) = some (.int 3#64, 3) := by
  decide +kernel
theorem demoMapList_ref :
    refVT (Ref.evalBegin 20 demoMapList 0 { Ref.initSt with trace := [] }) = some (.int 3#64, 0) := by
  decide +kernel
theorem demoApply_ref :
    refVT (Ref.evalBegin 20 demoApply 0 { Ref.initSt with trace := [] }) = some (.int 3#64, 0) := by
  decide +kernel
theorem demoApplyLazy_ref :
    refVT (Ref.evalBegin 20 demoApplyLazy 0 { Ref.initSt with trace := [] }) = some (.int 14#64, 1) := by
  decide +kernel
theorem demoApplyBuiltin_ref :
    refVT (Ref.evalBegin 20 demoApplyBuiltin 0 { Ref.initSt with trace := [] }) = some (.int 6#64, 0) := by
  decide +kernel

/-- **`CompileCorrect` for F3**: the programs of F2 and F2c — lazy parameters and `force` included — that also
call `apply` and `map` (or pass them, or any other builtin of the fragment, as values: to variables, to user
functions, to `apply`/`map` themselves). `(apply f coll)`: `f` a closure object or a Go builtin (first-order,
`force`, `apply`, `map`), `coll` an array or a list; `(map f coll)`: `f` called once per element, first to last,
on the element as the array/list holds it at that moment, results in a new array resp. list. The Go builtin
calls back into the machine (`Apply`: the arguments pushed — at a lazy position the index of an already forced
lazy argument object made for the value —, `CallFunction`, a nested `Run` whose return address names the
builtin's pseudo-function; an error restores the captured control state): `Sim.aclaim_succ` against
`Ref.applyValues`, with `FClaimU` at lower fuel for the closure (the relation is stated for the function that
called the builtin: `St.withCur`), `Sim.marr_succ`/`Sim.mlist_succ` against `Ref.mapArr`/`Ref.mapList`,
`Sim.hclaims`: every Go builtin of the fragment inside its frame, by induction on the reference fuel. The statement
is that of `compile_correct_on_F3lazy`: F2 and F2c are one pair of fragments, which admit all of this. -/
theorem compile_correct_on_F3 : CompileCorrectOn (fun p => FtList p = true ∨ FyList p = true) :=
  compile_correct_on_F3lazy

/-- the five programs above, on the machine: the same value, the same trace (of the stated length) -/
example : ∃ fuel' val t, t.length = 3 ∧ obsOfRef (Ref.runProgram 20 demoMapArr Ref.initSt).1 = some (.ok val t)
    ∧ obsOfVM (VM.runText fuel' demoMapArr VM.initSt).1 = some (.ok val t) :=
  lazy_instance 20 demoMapArr (Or.inl demoMapArr_in) (by decide) _ _ demoMapArr_ref
example : ∃ fuel' val t, t.length = 0 ∧ obsOfRef (Ref.runProgram 20 demoMapList Ref.initSt).1 = some (.ok val t)
    ∧ obsOfVM (VM.runText fuel' demoMapList VM.initSt).1 = some (.ok val t) :=
  lazy_instance 20 demoMapList (Or.inl demoMapList_in) (by decide) _ _ demoMapList_ref
example : ∃ fuel' val t, t.length = 0 ∧ obsOfRef (Ref.runProgram 20 demoApply Ref.initSt).1 = some (.ok val t)
    ∧ obsOfVM (VM.runText fuel' demoApply VM.initSt).1 = some (.ok val t) :=
  lazy_instance 20 demoApply (Or.inl demoApply_in) (by decide) _ _ demoApply_ref
example : ∃ fuel' val t, t.length = 1 ∧ obsOfRef (Ref.runProgram 20 demoApplyLazy Ref.initSt).1 = some (.ok val t)
    ∧ obsOfVM (VM.runText fuel' demoApplyLazy VM.initSt).1 = some (.ok val t) :=
  lazy_instance 20 demoApplyLazy (Or.inl demoApplyLazy_in) (by decide) _ _ demoApplyLazy_ref
example : ∃ fuel' val t, t.length = 0 ∧ obsOfRef (Ref.runProgram 20 demoApplyBuiltin Ref.initSt).1 = some (.ok val t)
    ∧ obsOfVM (VM.runText fuel' demoApplyBuiltin VM.initSt).1 = some (.ok val t) :=
  lazy_instance 20 demoApplyBuiltin (Or.inl demoApplyBuiltin_in) (by decide) _ _ demoApplyBuiltin_ref

/-- `(defn outer [n] (defn lp [i acc] (cond (== i 0) acc (lp (- i 1) (+ acc i)))) (lp n 0)) (outer 3)`: the nested
function loops by a self tail call -/
def demoNestedTail : List Expr :=
  [.defn "outer" ["n"] none
     [.defn "lp" ["i", "acc"] none [.cond [(.call (.sym "==") [.sym "i", .int 0], .sym "acc")]
        (.call (.sym "lp") [.call (.sym "-") [.sym "i", .int 1], .call (.sym "+") [.sym "acc", .sym "i"]])],
      .call (.sym "lp") [.sym "n", .int 0]],
   .call (.sym "outer") [.int 3]]

/-- `(defn outer [xs] (defn firstpos [ys] (def r 0) (for [(def i 0) (< i (len ys)) (set i (+ i 1))]
(cond (> (aget ys i) 0) (begin (set r (aget ys i)) (break)) nil)) r) (firstpos xs)) (outer [0 5 7])`: a loop with
`break` in the body of a nested function -/
def demoNestedBrk : List Expr :=
  [.defn "outer" ["xs"] none
     [.defn "firstpos" ["ys"] none
        [.def_ "r" (.int 0),
         .for_ none (.def_ "i" (.int 0)) (.call (.sym "<") [.sym "i", .call (.sym "len") [.sym "ys"]])
           (.set_ "i" (.call (.sym "+") [.sym "i", .int 1]))
           [.cond [(.call (.sym ">") [.call (.sym "aget") [.sym "ys", .sym "i"], .int 0],
                    .begin_ [.set_ "r" (.call (.sym "aget") [.sym "ys", .sym "i"]), .break_ none])] .nilLit],
         .sym "r"],
      .call (.sym "firstpos") [.sym "xs"]],
   .call (.sym "outer") [.arr [.int 0, .int 5, .int 7]]]

theorem demoNestedTail_in : FyList demoNestedTail = true := by decide +kernel
example : FyList demoNestedBrk = true := by decide +kernel
example : FtList demoNestedTail = false := by decide +kernel

theorem demoNestedTail_ref :
    refVT (Ref.evalBegin 40 demoNestedTail 0 { Ref.initSt with trace := [] }) = some (.int 6#64, 0) := by
  decide +kernel

/-- **Nested functions with self tail calls and loops with exits**: in the bodies of F2c (`Sim.FzList`) a statement
before the last one (`Sim.Fs`) or the form in tail position (`Sim.Fz`) may be a `defn` whose body is again in
`Sim.FzList` — to any depth. Such a `defn` makes a closure object whose body is simulated in tail position like
every other (`Sim.simF_defnZ`, `Sim.GoodFn.clo`); the generator's knowledge of the function it compiles
(`Sim.KnownOk`, `knownOk_bodyCtx`) and the loop-table facts travel with the object. `compile_correct_on_F2c` — and
with it `compile_correct_on_F3` — covers these programs. -/
theorem compile_correct_on_F2c_nested : CompileCorrectOn (fun p => FyList p = true) := compile_correct_on_F2c

example : ∃ fuel' val t, t.length = 0 ∧ obsOfRef (Ref.runProgram 40 demoNestedTail Ref.initSt).1 = some (.ok val t)
    ∧ obsOfVM (VM.runText fuel' demoNestedTail VM.initSt).1 = some (.ok val t) :=
  lazy_instance 40 demoNestedTail (Or.inr demoNestedTail_in) (by decide) _ _ demoNestedTail_ref

/-- `(defn adder [a] (fn [b] (+ a b))) ((adder 1) 2)`: the callee is the value of a call -/
def demoHead : List Expr :=
  [.defn "adder" ["a"] none [.fn ["b"] none [.call (.sym "+") [.sym "a", .sym "b"]]],
   .call (.call (.sym "adder") [.int 1]) [.int 2]]

/-- `((cond (> 1 0) + -) 5 2)`: the callee is the value of a `cond` -/
def demoHeadCond : List Expr :=
  [.call (.cond [(.call (.sym ">") [.int 1, .int 0], .sym "+")] (.sym "-")) [.int 5, .int 2]]

/-- `((+ 1 2) 4)`: the callee evaluates to a number — the script error of both sides -/
def demoHeadErr : List Expr :=
  [.call (.call (.sym "+") [.int 1, .int 2]) [.int 4]]

theorem demoHead_in : FtList demoHead = true := by decide +kernel
theorem demoHeadCond_in : FtList demoHeadCond = true := by decide +kernel
theorem demoHeadErr_in : FtList demoHeadErr = true := by decide +kernel

theorem demoHead_ref :
    refVT (Ref.evalBegin 20 demoHead 0 { Ref.initSt with trace := [] }) = some (.int 3#64, 0) := by
  decide +kernel
theorem demoHeadCond_ref :
    refVT (Ref.evalBegin 20 demoHeadCond 0 { Ref.initSt with trace := [] }) = some (.int 7#64, 0) := by
  decide +kernel
theorem demoHeadErr_ref :
    refClass (Ref.evalBegin 20 demoHeadErr 0 { Ref.initSt with trace := [] }) = some none := by
  decide +kernel

/-- **Computed call heads**: in every position where the fragments allow a call, the callee may be any operand
expression of the fragment (`Sim.Ff false ""`: a call, a `cond`, a `let`, …, not `fn`/`defn`) instead of a symbol:
`CallExprInstr` evaluates it like an operand (`EvalCallExpression`: compiled when the instruction runs, a nested `Run`),
then proceeds as for a call by name with the value found (`Sim.simF_callE`, `Sim.simF_callV`, `Sim.SimVia`); such a
call is never compiled as a self tail call. The statement is that of `compile_correct_on_F3`. -/
theorem compile_correct_on_F2heads : CompileCorrectOn (fun p => FtList p = true ∨ FyList p = true) :=
  compile_correct_on_F3lazy

example : ∃ fuel' val t, t.length = 0 ∧ obsOfRef (Ref.runProgram 20 demoHead Ref.initSt).1 = some (.ok val t)
    ∧ obsOfVM (VM.runText fuel' demoHead VM.initSt).1 = some (.ok val t) :=
  lazy_instance 20 demoHead (Or.inl demoHead_in) (by decide) _ _ demoHead_ref
example : ∃ fuel' val t, t.length = 0 ∧ obsOfRef (Ref.runProgram 20 demoHeadCond Ref.initSt).1 = some (.ok val t)
    ∧ obsOfVM (VM.runText fuel' demoHeadCond VM.initSt).1 = some (.ok val t) :=
  lazy_instance 20 demoHeadCond (Or.inl demoHeadCond_in) (by decide) _ _ demoHeadCond_ref
example : ∃ fuel' t, obsOfRef (Ref.runProgram 20 demoHeadErr Ref.initSt).1 = some (.err t)
    ∧ obsOfVM (VM.runText fuel' demoHeadErr VM.initSt).1 = some (.err t) :=
  compile_correct_on_F2heads.of_error (p := demoHeadErr) (Or.inl demoHeadErr_in) (by decide) demoHeadErr_ref

/-- `(defn mk [] (fn [xs] (def r 0) (for [(def i 0) (< i (len xs)) (set i (+ i 1))] (cond (> (aget xs i) 0)
(begin (set r (aget xs i)) (break)) nil)) r)) ((mk) [0 5 7])`: an anonymous function whose body has a loop with `break`
(`Sim.simF_fnZ`), called through a computed head; the harness prints `ok 5 T[]` on all three sides -/
def demoFnLoop : List Expr :=
  [.defn "mk" [] none
     [.fn ["xs"] none
        [.def_ "r" (.int 0),
         .for_ none (.def_ "i" (.int 0)) (.call (.sym "<") [.sym "i", .call (.sym "len") [.sym "xs"]])
           (.set_ "i" (.call (.sym "+") [.sym "i", .int 1]))
           [.cond [(.call (.sym ">") [.call (.sym "aget") [.sym "xs", .sym "i"], .int 0],
                    .begin_ [.set_ "r" (.call (.sym "aget") [.sym "xs", .sym "i"]), .break_ none])] .nilLit],
         .sym "r"]],
   .call (.call (.sym "mk") []) [.arr [.int 0, .int 5, .int 7]]]

example : FyList demoFnLoop = true := by decide +kernel
example : FtList demoFnLoop = false := by decide +kernel

/-- **C16's `LazySemantics` on the fragment**: the statement of `Props/C16.lean` (`C16.LazySemantics`, in that
file's vocabulary) restricted to the programs of F3-lazy. -/
theorem lazy_semantics_on_F3lazy (p : List Expr) (hp : FtList p = true ∨ FyList p = true) (hwf : Ref.wfList {} p = true)
    (fuel : Nat) (o : C16.Obs) (ho : C16.obsOfRef (Ref.runProgram fuel p Ref.initSt).1 = some o) :
    ∃ fuel', C16.obsOfVM (VM.runText fuel' p VM.initSt).1 = some o := by
  have key : ∀ o2 : Obs, obsOfRef (Ref.runProgram fuel p Ref.initSt).1 = some o2 →
      ∃ fuel', obsOfVM (VM.runText fuel' p VM.initSt).1 = some o2 := compile_correct_on_F3lazy p hp hwf fuel
  have conv : ∀ (out : VM.Outcome) (v : String) (t : List String), obsOfVM out = some (.ok v t) → C16.obsOfVM out = some (.ok v t) := by
    intro out v t h
    unfold obsOfVM at h
    split at h
    · injection h with h; injection h with h1 h2; subst h1; subst h2; rfl
    · cases h
    · cases h
  have conve : ∀ (out : VM.Outcome) (t : List String), obsOfVM out = some (.err t) → C16.obsOfVM out = some (.err t) := by
    intro out t h
    unfold obsOfVM at h
    split at h
    · cases h
    · injection h with h; injection h with h1; subst h1; rfl
    · cases h
  cases hr : (Ref.runProgram fuel p Ref.initSt).1 with
  | ok v t =>
    rw [hr] at ho
    injection ho with ho; subst ho
    obtain ⟨f, hf⟩ := key (.ok v t) (by rw [hr]; rfl)
    exact ⟨f, conv _ v t hf⟩
  | err t =>
    rw [hr] at ho
    injection ho with ho; subst ho
    obtain ⟨f, hf⟩ := key (.err t) (by rw [hr]; rfl)
    exact ⟨f, conve _ t hf⟩
  | timeout => rw [hr] at ho; cases ho

/-- the programs covered by a theorem: every top-level form in Fv, or every top-level form in Fc,
or every top-level form in F2, or every top-level form in Fx (F2 with `break`/`continue` in top-level loops),
or every top-level form in F2c (F2 forms and top-level `defn`s with self tail calls) -/
def InProvedFragment (p : List Expr) : Prop :=
  FvList p = true ∨ FcList p = true ∨ FtList p = true ∨ FxTop p = true ∨ FyList p = true

/-- **The part of `CompileCorrect` that is NOT proved**: programs that are in none of Fv, Fc, F2, Fx, F2c
(F2 and F2c include lazy parameters, `force`, `apply` and `map`) — i.e. using a `fn`/`defn` inside an operand of a
call (compiled at run time), a self call in a directly compiled non-tail position, a self tail call or
`break`/`continue` in a nested function that is not a `defn`/`fn` statement or last form of a function body (a
function under `def`/`set`, inside a loop body or an operand), `substitute`, an empty `newScope`, or (together with
calls or array literals) a binder that re-uses a builtin name. Held by the 3-way `eval` correspondence on every run,
not by a theorem. -/
def CompileCorrectOutsideProved : Prop := CompileCorrectOn (fun p => ¬ InProvedFragment p)

/-- `compile_correct_partial`: what is proved of the semantic statement.

1. `CompileCorrect` restricted to the programs of the proved fragments (execution half included:
   generator model + VM model vs reference evaluator, all sizes and nestings, values *and*
   errors, traces, effects on every scope):
   * Fv — literals, symbols, `def`, `set`, `begin`, `cond`, `and`, `or`, `newScope`, `letseq`, `let`
     (distinct names) — `compile_correct_on_Fv`;
   * Fc — the same with binder names that are not builtin names, plus calls of first-order
     builtins (arithmetic, comparisons, `not`, lists, arrays, strings, `trace`), operands evaluated
     in nested runs, array literals, and `for` loops without `break`/`continue` — `compile_correct_on_Fc`;
   * F2 — `defn`/`fn` of fixed arity or with a rest parameter (`[a b & more]`) at top level and nested, closures capturing (and assigning to)
     locals of the functions they were made in, calls of user functions by name (also through
     variables: functions are values), recursion, first-order builtins, `def`/`set`/`begin`/`cond`/
     `and`/`or`/`newScope`/`letseq`/`let`/array literals/`for` loops;
     values related modulo the numbering of closures — `compile_correct_on_F2`;
   * Fx — F2 plus `break`/`continue` (plain or labelled) of the enclosing `for` loops in top-level code,
     under `begin`/`cond`/`let`/`letseq`/`newScope`/nested loop bodies: a non-landing outcome of the
     simulation (`Sim.SimX`, `Sim.JumpedF`) — `compile_correct_on_F2x`;
   * F2c — Fx statements and top-level `defn`s whose bodies call the function itself in tail position
     (`Sim.Fz`: under `begin`/`cond`/`let`/`letseq`/`newScope`) and whose loops `break`/`continue`: the
     self-tail-call sequence with its guard, both paths (`Sim.SimT`, `Sim.RetOut`, `Sim.simT_selfcall`);
     loops with exits inside function bodies (`Sim.simF_stmt`) — `compile_correct_on_F2c`;
   * F3-lazy — in F2 and F2c, `fn`/`defn` may declare lazy parameters (`#p`) and every program may call `force`:
     operands at lazy positions are not evaluated at the call (ordinary call and self tail call), `force`
     evaluates them once, in the environment of the call site, whenever and wherever it is called
     (`Sim.force_sim`) — `compile_correct_on_F3lazy`, and in C16's vocabulary `lazy_semantics_on_F3lazy`;
   * F3 — in the same fragments, `apply` and `map` on closure objects and on Go builtins (first-order, `force`,
     `apply`, `map`), over arrays and lists; builtins as values — `compile_correct_on_F3`;
   * nested functions — a `defn` or an anonymous `fn` that is a statement (or the last form) of a function body of F2c
     may itself have a body of F2c (`Sim.simF_fnZ` for `fn`): self tail calls and loops with `break`/`continue` in nested functions, to any depth
     (`Sim.Fs`, `Sim.simF_defnZ`) — `compile_correct_on_F2c_nested`;
   * computed call heads — the callee of a call may be any operand expression of the fragment
     (`Sim.simF_callE`) — `compile_correct_on_F2heads`;
   * for the effect-free sub-fragment F0c with explicit fuel on both sides — `compile_correct_F0c`;
2. the full `CompileCorrect` follows from its restriction to the remaining programs
   (`CompileCorrectOutsideProved`, the precise unproved remainder);
3. the layout half for `begin`/`cond`/`and`/`or` (and `gen_for_layout` for loops).

MISSING (held by the `eval` correspondence only): `CompileCorrectOutsideProved` — `break`/`continue`
and self tail calls inside functions that are not statements or last forms of a function body
(under `def`/`set`, in loop bodies, in operands), the rest of F2 (`fn`/`defn` inside operands), `substitute`. -/
theorem compile_correct_partial :
    CompileCorrectOn InProvedFragment
    ∧ (CompileCorrectOutsideProved → CompileCorrect)
    ∧ (∀ cs : List (List Instr), (∀ c ∈ cs, c ≠ []) → asmBegin cs = (cs.intersperse [Instr.pop]).flatten)
    ∧ (∀ (arms : List (List Instr × List Instr)) (dflt : List Instr) (i : Nat), i < arms.length →
        ∃ pre, asmCond arms dflt = pre ++ asmCond (arms.drop i) dflt)
    ∧ (∀ (isOr : Bool) (cs : List (List Instr)) (i : Nat), i < cs.length →
        ∃ pre, asmSC isOr cs = pre ++ asmSC isOr (cs.drop i)) := by
  have hin : CompileCorrectOn InProvedFragment := by
    intro p hp hwf
    rcases hp with hp | hp | hp | hp | hp
    · exact compile_correct_on_Fv p hp hwf
    · exact compile_correct_on_Fc p hp hwf
    · exact compile_correct_on_F2 p hp hwf
    · exact compile_correct_on_F2x p hp hwf
    · exact compile_correct_on_F2c p hp hwf
  refine ⟨hin, fun hout p hwf => ?_, gen_begin_pops_between,
    fun arms dflt i _ => asmCond_suffix arms dflt i, asmSC_suffix⟩
  by_cases h : InProvedFragment p
  · exact hin p h hwf
  · exact hout p h hwf

end ZygoVerif.C02
