/-
C02 — "constructor freshness / aliasing": the property theorems about array literals as
constructors (lemmas and definitions in `Proofs/AliasFresh.lean`). Audited by checks/C02.py in
addition to `Props/C02.lean`.

Full statement (not proved; a `def … : Prop` in `Proofs/AliasFresh.lean` that no theorem mentions):
`Alias.HeapMonotoneAll` — no instruction of the machine shrinks the data heap or leaves a closed state
unclosed. Proved instances of it: the instruction of the literal (`heap_monotone_partial`); of builtins only that
none shrinks the heap (`builtin_never_shrinks_heap`).
-/
import ZygoVerif.Proofs.AliasFresh
import ZygoVerif.Proofs.GenFacts
import ZygoVerif.Generated.EvalCallRet
namespace ZygoVerif.C02Alias
open ZygoVerif.Core ZygoVerif.VM ZygoVerif.Alias

/-- The generator never emits a prebuilt array for a literal: the code ends in the constructor call. -/
theorem array_literal_code_ends_in_constructor (isFn : Nat → Bool) (c : Ctx) (es : List Expr) (gs : GS)
    (code : List Instr) (t : Bool) (gs' : GS) (h : (compile isFn c (.arr es)).run gs = .ok ((code, t), gs')) :
    ∃ ce, code = ce ++ [.callArr es.length] := by
  obtain ⟨ra, g1, _, heq⟩ := Sim.compile_arr_ok.mp h
  cases heq
  exact ⟨ra.1, rfl⟩

/-- VM model: executing the constructor call of an array literal in a closed state allocates a cell whose id
no value of the state before mentions (data stack, variables of all scopes, heap cells, memoised lazy arguments,
code constants); the cell holds the element values, old cells are unchanged, the state is closed again. -/
theorem array_literal_allocates_fresh (f : Nat) (vs : List Val) (D : List (Option Val)) (s : St)
    (hd : s.data = vs.reverse.map some ++ D) (hc : StClosed s) :
    ∃ s', (exec (f + 3) (.callArr vs.length)).run s = (.ok (), s')
      ∧ s'.data = some (.arr s.heap.arrs.length) :: D
      ∧ ¬ Mentions s s.heap.arrs.length
      ∧ s'.heap.get s.heap.arrs.length = vs
      ∧ (∀ r, r < s.heap.arrs.length → s'.heap.get r = s.heap.get r)
      ∧ s'.heap.arrs.length = s.heap.arrs.length + 1
      ∧ StClosed s' :=
  Alias.array_literal_allocates_fresh f vs D s hd hc

/-- non-vacuity of `StClosed`: the initial machine state is closed -/
example : StClosed initSt := stClosed_init

/-- The same call site executed twice yields two different arrays (heap not shrunk in between). -/
theorem array_literal_twice_distinct (f g : Nat) (vs ws : List Val) (D E : List (Option Val)) (s t : St)
    (hd : s.data = vs.reverse.map some ++ D) (he : t.data = ws.reverse.map some ++ E)
    (hmono : (afterLiteral s D vs).heap.arrs.length ≤ t.heap.arrs.length) :
    ∃ s' t', (exec (f + 3) (.callArr vs.length)).run s = (.ok (), s')
      ∧ (exec (g + 3) (.callArr ws.length)).run t = (.ok (), t')
      ∧ s'.data.head? ≠ t'.data.head? :=
  Alias.array_literal_twice_distinct f g vs ws D E s t hd he hmono

example : ∃ s' t', (exec 3 (.callArr 0)).run initSt = (.ok (), s') ∧ (exec 3 (.callArr 0)).run (afterLiteral initSt [] []) = (.ok (), t')
    ∧ s'.data.head? ≠ t'.data.head? :=
  Alias.array_literal_twice_distinct 0 0 [] [] [] [some (.arr 0)] initSt (afterLiteral initSt [] []) rfl rfl (Nat.le_refl _)

/-- Every builtin leaves the heap as it was, after one `alloc`, or after one `set`: it never shrinks. -/
theorem builtin_never_shrinks_heap (name : String) (args : List Val) (h : DataHeap) (v : Val) (h' : DataHeap)
    (hp : prim name args h = some (v, h')) : h.arrs.length ≤ h'.arrs.length := (prim_heapStep name args h v h' hp).le

example : prim "array" [.int 0#64] {} = some (({} : DataHeap).alloc [.int 0#64]) := Sim.prim_array _ _

/-- Ids are never reused: an allocation from any heap at least as large as the one an earlier allocation left
returns another id. -/
theorem alloc_never_reuses (h h2 : DataHeap) (xs ys : List Val) (hle : (h.alloc xs).2.arrs.length ≤ h2.arrs.length) :
    (h2.alloc ys).1 ≠ (h.alloc xs).1 := by
  rw [alloc_id, alloc_id, alloc_length] at *
  intro he
  injection he with he
  omega

/-- `Alias.HeapMonotoneAll` at the instruction of an array literal -/
theorem heap_monotone_partial (f : Nat) (vs : List Val) (D : List (Option Val)) (s : St)
    (hd : s.data = vs.reverse.map some ++ D) (hc : StClosed s) :
    s.heap.arrs.length ≤ ((exec (f + 3) (.callArr vs.length)).run s).2.heap.arrs.length
      ∧ StClosed ((exec (f + 3) (.callArr vs.length)).run s).2 := by
  obtain ⟨s', hx, _, _, _, _, hl, hcl⟩ := array_literal_allocates_fresh f vs D s hd hc
  rw [hx]
  exact ⟨by rw [hl]; omega, hcl⟩

/-- Reference evaluator: a value of `[e₁ … eₙ]` is a newly allocated id, unmentioned by the (closed) state the
elements left; the cell holds the element values; old cells unchanged. -/
theorem ref_array_literal_allocates_fresh (fuel : Nat) (es : List Expr) (env : Nat) (s s' : Ref.St) (v : Val)
    (h : Ref.eval (fuel + 1) (.arr es) env s = .ok v s') :
    ∃ vs s₁, Ref.evalList fuel es env s = .ok vs s₁
      ∧ v = .arr s₁.heap.arrs.length
      ∧ s' = { s₁ with heap := (s₁.heap.alloc vs).2 }
      ∧ s'.heap.get s₁.heap.arrs.length = vs
      ∧ (∀ r, r < s₁.heap.arrs.length → s'.heap.get r = s₁.heap.get r)
      ∧ (RefClosed s₁ → ¬ RefMentions s₁ s₁.heap.arrs.length) := by
  rw [Ref.eval] at h
  cases hl : Ref.evalList fuel es env s with
  | ok vs s₁ =>
    rw [hl] at h
    simp only at h
    injection h with hv hs
    refine ⟨vs, s₁, rfl, hv.symm, hs.symm, ?_, ?_, fun hc => hc.not_mentions (Nat.le_refl _)⟩
    · rw [← hs]; exact alloc_get_new _ _
    · intro r hr; rw [← hs]; exact alloc_get_old _ _ hr
  | err s2 => rw [hl] at h; cases h
  | brk l s2 => rw [hl] at h; cases h
  | cont l s2 => rw [hl] at h; cases h
  | timeout => rw [hl] at h; cases h

example : RefClosed Ref.initSt := refClosed_init

/-- The seeded shape on the reference side: `[c₁ … cₙ]` evaluated twice gives two different arrays. -/
theorem ref_const_literal_twice_distinct (es : List Expr) (hc : constLit es) (fuel : Nat) (hf : es.length + 1 < fuel)
    (env env' : Nat) (s t : Ref.St) :
    ∃ a b s' t', Ref.eval fuel (.arr es) env s = .ok (.arr a) s' ∧ Ref.eval fuel (.arr es) env' t = .ok (.arr b) t'
      ∧ s'.heap.get a = constVals es ∧ t'.heap.get b = constVals es
      ∧ (s'.heap.arrs.length ≤ t.heap.arrs.length → a ≠ b) := by
  obtain ⟨k, rfl⟩ : ∃ k, fuel = k + 1 := ⟨fuel - 1, by omega⟩
  have h1 := ref_evalList_consts es k env s hc (by omega)
  have h2 := ref_evalList_consts es k env' t hc (by omega)
  refine ⟨s.heap.arrs.length, t.heap.arrs.length, { s with heap := (s.heap.alloc (constVals es)).2 },
    { t with heap := (t.heap.alloc (constVals es)).2 }, ?_, ?_, alloc_get_new _ _, alloc_get_new _ _, ?_⟩
  · rw [Ref.eval, h1]; rfl
  · rw [Ref.eval, h2]; rfl
  · intro hle
    have : ({ s with heap := (s.heap.alloc (constVals es)).2 } : Ref.St).heap.arrs.length = s.heap.arrs.length + 1 := alloc_length _ _
    omega

example : constLit [.int 0, .int 0] := by
  intro e he
  simp at he
  exact ⟨0, he⟩

/-! ## T1: `EvalCallExpression` never hands a mutable operand back as its own value

`Generated/EvalCallRet.lean` is regenerated from zygo/environment.go on every run (extract/ex_evalcallret.go): every
`return` of `Zlisp.EvalCallExpression` with the kind of its first result; kind `arg` = the operand expression itself,
unchanged, with the Go types it can have at that point. An operand is evaluated by compiling and running it; returning
the parse-tree object is right only for self-evaluating IMMUTABLE kinds. -/

/-- the kinds of parse-tree objects that are immutable and evaluate to themselves -/
def immutableKinds : List String :=
  ["*SexpInt", "*SexpUint64", "*SexpFloat", "*SexpChar", "*SexpStr", "*SexpBool", "*SexpSentinel"]

/-- a `return` is acceptable: not the argument itself, or the argument under a readable guard of immutable kinds only -/
def retOk (r : String × List String) : Bool :=
  r.1 != "arg" || (!r.2.isEmpty && r.2.all immutableKinds.contains)

/-- over the WHOLE regenerated table -/
theorem evalCallExpression_returns_argument_only_if_immutable :
    Generated.EvalCallRet.returns.all retOk = true := by decide +kernel

/-- the table is the function's: it has the lookup return and the Run return -/
theorem evalCallExpression_table_shape :
    Generated.EvalCallRet.returns.any (fun r => r.1 == "var:val") = true
      ∧ Generated.EvalCallRet.returns.any (fun r => r.1 == "var:res") = true := by decide +kernel

/-- the predicate is not vacuous: scalars pass, the table of the seeded change (array literals among the kinds
handed back) and an unguarded return of the argument do not -/
example : retOk ("arg", ["*SexpInt", "*SexpStr"]) = true := by decide +kernel
theorem seeded_fast_path_table_counterexample :
    retOk ("arg", ["*SexpInt", "*SexpUint64", "*SexpFloat", "*SexpChar", "*SexpStr", "*SexpBool", "*SexpArray"]) = false := by decide +kernel
example : retOk ("arg", ["any"]) = false := by decide +kernel

end ZygoVerif.C02Alias
