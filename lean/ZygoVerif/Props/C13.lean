/-
C13 — parsing depends only on the text: not on chunking, not on history.

Theorems about the model of zygo/lexer.go + zygo/parser.go as they stand in /repo (Model/Lexer, Model/Parser; the
repairs fixes/C13-*.patch are part of that code, Model/LegacyLexer and Model/LegacyParser model it before them), the
specification Spec/Unfinished, and the tables regenerated from the source (Generated/LexTables, Generated/ResetOrder).
-/
import ZygoVerif.Model.Lexer
import ZygoVerif.Model.Parser
import ZygoVerif.Model.LegacyLexer
import ZygoVerif.Model.LegacyParser
import ZygoVerif.Spec.Unfinished
import ZygoVerif.Proofs.LexTokens
import ZygoVerif.Proofs.ParseChunks
import ZygoVerif.Proofs.Abandon
import ZygoVerif.Proofs.Stepwise
import ZygoVerif.Proofs.StepwiseTrace
import ZygoVerif.Proofs.StepwiseFuel
import ZygoVerif.Generated.LexTables
import ZygoVerif.Generated.ResetOrder
namespace ZygoVerif.Props.C13
open ZygoVerif ZygoVerif.Lexer ZygoVerif.Parser

/-- Feeding `a` and then `b` is feeding `a ++ b`, from every lexer state (also after an error). -/
theorem lex_chunk (o : Outcome LexCore) (a b : List Char) : feed (feed o a) b = feed o (a ++ b) :=
  (Lexer.feed_append o a b).symm

example : feed (feed (.ok LexCore.init) "fo".toList) "o ".toList = feed (.ok LexCore.init) "foo ".toList :=
  lex_chunk _ _ _

/-- A refused rune stops the feed: the error state absorbs everything that follows. -/
theorem feed_err (e : LexErr) (s : LexCore) (rs : List Char) : feed (.err e s) rs = .err e s :=
  Lexer.feed_err e s rs

/-- `LexNextRune` never touches the stream fields (nor the end-of-input mark). -/
theorem step_keeps_streams (l l' : LexState) (c : Char) (h : l.step c = .ok l') :
    l'.stream = l.stream ∧ l'.next = l.next ∧ l'.finished = l.finished :=
  ((step_fields l c).1 l' h).2

/-- The final status and the cumulative expression list of a parse are those of the
abstract interpreter on (fresh lexer core, all runes of the text + end of input, the end of
the input will have been signalled). -/
theorem parseChunksFrom_eq_abstract (l : LexState) (cs : List (List Char)) :
    let r := runA (topLoop (fuelFor cs)) ⟨LexCore.init, cs.flatten ++ eofPiece, [], true⟩
    (parseChunksFrom l cs).status = (match r.1 with | .ret _ => Status.done | .stop st => st) ∧
    (parseChunksFrom l cs).exprs = r.2.exprs :=
  parseChunksFrom_abstract l cs

/-- **Chunk independence.** For every way of cutting a text into pieces (any number of
pieces, empty pieces, cuts inside tokens, strings, comments, operators), on a parser with
any history, the final status and the expressions are those of the text delivered whole. -/
theorem parse_chunks_eq_whole (l : LexState) (cs : List (List Char)) :
    (parseChunksFrom l cs).status = (parseChunksFrom l [cs.flatten]).status ∧
    (parseChunksFrom l cs).exprs = (parseChunksFrom l [cs.flatten]).exprs := by
  have a := parseChunksFrom_eq_abstract l cs
  have b := parseChunksFrom_eq_abstract l [cs.flatten]
  have hf : fuelFor [cs.flatten] = fuelFor cs := by simp [fuelFor]
  have hl : [cs.flatten].flatten = cs.flatten := by simp
  simp only [hf, hl] at b
  exact ⟨a.1.trans b.1.symm, a.2.trans b.2.symm⟩

example : (parseChunks ["(a \"b".toList, " c\" 1".toList, [], ")".toList]).status =
    (parseChunks ["(a \"b c\" 1)".toList]).status :=
  (parse_chunks_eq_whole LexState.init ["(a \"b".toList, " c\" 1".toList, [], ")".toList]).1

/-- `Lexer.Reset` forgets everything: every field is assigned a constant. -/
theorem reset_eq_init (l : LexState) : l.reset = LexState.init := rfl

/-- Whatever a parser did before (any reachable or unreachable lexer
state `l`), `ResetAddNewInput` + the delivery protocol gives what a fresh parser gives. -/
theorem reset_forgets (l : LexState) (cs : List (List Char)) :
    parseChunksFrom l cs = parseChunks cs := by
  unfold parseChunks parseChunksFrom
  have : initState l cs = initState LexState.init cs := by
    cases cs <;> simp [initState, resetAddNewInput, reset_eq_init]
  rw [this]

example : parseChunksFrom ⟨{ LexCore.init with priori := 7, prevrune := ')' }, some ['x'], [['y']], true⟩ [['a']] =
    parseChunks [['a']] := reset_forgets _ _

/-- Table fact: every field of the Go `Lexer` struct except the back pointer `parser` is
assigned in `Lexer.Reset` (regenerated from lexer.go on every run). -/
theorem reset_assigns_every_field :
    ∀ f ∈ Generated.LexTables.lexerFields, f = "parser" ∨ f ∈ Generated.LexTables.lexerResetAssigns := by
  decide +kernel

/-- Both reset entry points of the parser drop the coroutine, the reply and reset the lexer. -/
theorem parser_resets_complete :
    (∀ f ∈ ["next", "stop", "yield", "sendMe", "call:lexer.Reset"], f ∈ Generated.LexTables.parserResetAssigns) ∧
    (∀ f ∈ ["next", "stop", "yield", "sendMe", "call:lexer.Reset", "call:lexer.AddNextStream"],
        f ∈ Generated.LexTables.parserResetAddNewInputAssigns) := by
  decide +kernel

/-! ## History on the REAL protocol: the suspended coroutine of a failed parse

`reset_forgets` above is about the delivery model in which an unfinished parse simply ends. The Go
parser keeps it as a suspended coroutine, and `Reset`/`ResetAddNewInput`/`Stop` let it run to its
end (`Model/Abandon`: `residual`, `stopNow`, `unwind`). The statements below are about the parser
driven call by call (`PSt`), for EVERY parser state: any lexer state, any reply accumulator and
ANY suspended program (also programs that are not the parser's). -/

/-- the parser model with the stop-annotations erased is the parser model of `Model/Parser` -/
theorem annotated_parser_is_the_parser (f : Nat) : (S.topLoop f).erase = topLoop f := erase_topLoop f

/-- a coroutine stays suspended exactly when `ParseTokens` answers "more input needed"; it is
blocked in a waiting instruction (whose reaction to `stop()` is what `stopNow` executes) -/
theorem suspended_iff_more {α : Type} (p : SProg α) (s : PState) :
    (residual p s).isSome = (run p.erase s).1.isMore ∧ (∀ κ, residual p s = some κ → κ.isWait = true) := by
  induction p using SProg.wt_induction generalizing s with
  | pure a => exact ⟨rfl, fun κ h => nomatch h⟩
  | fail => exact ⟨rfl, fun κ h => nomatch h⟩
  | wait p w hw ih ihEnd =>
    have hp : p.isWait = true := by cases p <;> first | rfl | cases hw
    rw [residual_wt hw, run_erase_wt hw]
    cases waitRun w.stf w.orEnd w.extra (s.size + 1) s with
    | tok t s' =>
      dsimp only
      cases hn : w.next t s'.lex.tokens with
      | none => exact ⟨rfl, fun κ h => nomatch h⟩
      | some x => exact ih t _ x.1 x.2 hn _
    | stop st s' =>
      cases st with
      | more =>
        dsimp only
        cases he : w.atEnd with
        | none => exact ⟨rfl, fun κ h => by cases h; exact hp⟩
        | some q =>
          dsimp only
          cases inLiteral s'.lex.toLexCore with
          | true => exact ⟨rfl, fun κ h => by cases h; exact hp⟩
          | false => exact ihEnd q he s'
      | done => exact ⟨rfl, fun κ h => nomatch h⟩
      | err => exact ⟨rfl, fun κ h => nomatch h⟩
  | pushTok t k ih => exact ih _
  | pushExpr e k ih => exact ih _

example : (residual (S.topLoop 16) (PSt.fresh.resetAddNewInput "(a (".toList).pstate).isSome = true := by decide +kernel

/-- **The kept coroutine is the rest of the parse.** Whenever a parse rests in a blocked
"more input needed" yield (`suspendA … = (false, κ, v')` on the view of a state with a current
stream and the end of the input not signalled), then (1) the program `PSt.parseTokens` keeps as the
coroutine is `κ`, the answer is `more` and the state it leaves is `v'`; (2) `v'` has no input left;
(3) resuming `κ` on any further input `more` is running the ORIGINAL program on the input followed
by `more`, whatever end-of-input mark the continuation carries. For every program. (With
`annotated_parser_is_the_parser` and `run_view`: an unfinished text continued by `NewInput` parses
as the concatenation; what `Stop`/`Reset` unwind is that same program.) -/
theorem suspended_program_is_rest_of_run {α : Type} (p : SProg α) (s : PState) (hi : Parser.Inv s)
    (hfin : (view s).fin = false) (κ : SProg α) (v' : View) (h : suspendA p (view s) = some (false, κ, v')) :
    (residual p s = some κ ∧ view (run p.erase s).2 = v' ∧ (run p.erase s).1.isMore = true) ∧
    v'.runes = [] ∧
    ∀ more fin', runA p.erase ⟨(view s).core, (view s).runes ++ more, (view s).exprs, fin'⟩ =
      runA κ.erase ⟨v'.core, more, v'.exprs, fin'⟩ :=
  ⟨residual_of_suspendA p s hi κ v' h, resume_is_rest_of_run p (view s) hfin false κ v' h⟩

example : ∃ κ v', suspendA (S.topLoop 16) (view (PSt.fresh.resetAddNewInput "(a (".toList).pstate) = some (false, κ, v') := by
  have h : ((suspendA (S.topLoop 16) (view (PSt.fresh.resetAddNewInput "(a (".toList).pstate)).map (·.1)) = some false := by
    decide +kernel
  obtain ⟨⟨e, κ, v'⟩, h1, h2⟩ := Option.map_eq_some_iff.mp h
  exact ⟨κ, v', by rw [h1]; simp only at h2; rw [h2]⟩

/-- After `ResetAddNewInput(piece)` the input of the
lexer is exactly `piece`, every other lexer field is as in a new lexer, the reply accumulator is
empty and no coroutine is left — whatever parse was suspended, wherever it was suspended: the
coroutine unwinds BEFORE the lexer is reset and given the new text, so all it reads and all it
appends to the reply is discarded. -/
theorem abandoned_parse_consumes_nothing (p : PSt) (piece : List Char) :
    (p.resetAddNewInput piece).lex.pending = piece ∧
    (p.resetAddNewInput piece).lex.toLexCore = LexCore.init ∧
    (p.resetAddNewInput piece).lex.finished = false ∧
    (p.resetAddNewInput piece).exprs = [] ∧
    (p.resetAddNewInput piece).co.isNone = true := by
  obtain ⟨h1, h2, _, h4⟩ := resetAddNewInput_view (p.stop).lex piece
  exact ⟨h1, h2, h4, rfl, rfl⟩

/-- a state with a parse suspended right after a nested `(` (the text `(a (`) -/
def suspendedAfter (t : String) : PSt := ((PSt.fresh.resetAddNewInput t.toList).parseTokens 64).2.2

/-- the parse of `(a (` is suspended, and what the other statement order makes of it and of two more
(`lexer_first_counterexample`), in one evaluation -/
theorem suspendedAfter_facts :
    (suspendedAfter "(a (").co.isSome = true ∧
    ((suspendedAfter "(a (").resetAddNewInputLexerFirst "b) c d".toList).lex.pending = [] ∧
    ((suspendedAfter "(a b").resetAddNewInputLexerFirst "b) c d".toList).lex.pending = "b) c d".toList ∧
    ((suspendedAfter "(").resetAddNewInputLexerFirst "b) c d".toList).lex.pending = "b) c d".toList := by
  decide +kernel

example : (suspendedAfter "(a (").co.isSome = true := suspendedAfter_facts.1

/-- every reset route of the API leads to ONE state, that of a new parser given the text -/
theorem start_forgets (p : PSt) (r : Route) (hr : r.isReset = true) (hr' : r ≠ .resetAddLexerFirst ∧ r ≠ .resetNewLexerFirst)
    (piece : List Char) : p.start r piece = PSt.fresh.start .resetAdd piece := by
  -- every route resets the lexer (`reset_eq_init`: to a constant) after whatever `stop` left
  cases r <;> first | rfl | exact absurd rfl hr'.1 | exact absurd rfl hr'.2 | cases hr

/-- A text brought to a used parser by any reset route (piece 1 by
the route, the others with `NewInput`, `ParseTokens` after each, `EndInput`, `ParseTokens`) gives
the statuses and expressions a new parser gives — after any history, with any parse suspended. -/
theorem protocol_reset_forgets (F : Nat) (p : PSt) (r : Route) (hr : r.isReset = true)
    (hr' : r ≠ .resetAddLexerFirst ∧ r ≠ .resetNewLexerFirst) (cs : List (List Char)) :
    (p.parseBy F r cs).1 = (PSt.fresh.parseBy F .resetAdd cs).1 := by
  unfold PSt.parseBy
  simp only [start_forgets p r hr hr']

example : Route.resetNew.isReset = true ∧ Route.resetNew ≠ .resetAddLexerFirst ∧ Route.resetNew ≠ .resetNewLexerFirst := by decide

/-- **The other statement order is wrong** (what the model says about a refactoring that resets
the lexer first and stops the coroutine afterwards): the dying parse of `(a (` reads the whole next
text `b) c d`; after `(a b` (it waits in `ParserPeekNextToken`) and after a lone `(` nothing is read. -/
theorem lexer_first_counterexample :
    ((suspendedAfter "(a (").resetAddNewInputLexerFirst "b) c d".toList).lex.pending = [] ∧
    ((suspendedAfter "(a b").resetAddNewInputLexerFirst "b) c d".toList).lex.pending = "b) c d".toList ∧
    ((suspendedAfter "(").resetAddNewInputLexerFirst "b) c d".toList).lex.pending = "b) c d".toList :=
  suspendedAfter_facts.2

/-- … and so is replacing the reply accumulator before the coroutine is stopped: the dying parse of
`%(` appends `(quote <end>)` to the NEW reply. -/
theorem reply_first_counterexample :
    ((suspendedAfter "%(").exec "1".toList [.clearReply, .stop, .lexReset, .lexAdd]).exprs.length = 1 ∧
    ((suspendedAfter "%(").resetAddNewInput "1".toList).exprs.length = 0 := by
  decide +kernel

/-- Every order of the four steps that respects the protocol rule gives the state of
`PSt.resetAddNewInput` / `PSt.reset`. -/
theorem good_orders_agree (p : PSt) (piece : List Char) :
    (∀ l ∈ resetAddOrders, p.exec piece l = p.resetAddNewInput piece) ∧
    (∀ l ∈ resetOrders, p.exec piece l = p.reset) := by
  have hco : p.stop.co = none := by unfold PSt.stop; split <;> rfl
  simp [resetAddOrders, resetOrders, PSt.exec, PSt.step, PSt.resetAddNewInput, PSt.reset, LexState.reset, hco]

/-- all insertions of `x` into a list; all permutations of a list (core has none) -/
def insertAll {α : Type} (x : α) : List α → List (List α)
  | [] => [[x]]
  | y :: ys => (x :: y :: ys) :: (insertAll x ys).map (y :: ·)

def perms {α : Type} : List α → List (List α)
  | [] => [[]]
  | x :: xs => (perms xs).flatMap (insertAll x)

example : (perms [1, 2, 3]).length = 6 ∧ (perms [Step.stop, .clearReply, .lexReset, .lexAdd]).length = 24 := by decide

/-- `resetAddOrders`/`resetOrders` are exactly the permutations of the steps that satisfy the rule -/
theorem good_orders_are_the_rule :
    ((perms [Step.stop, .clearReply, .lexReset, .lexAdd]).filter Step.okOrder).all (· ∈ resetAddOrders) = true ∧
    resetAddOrders.all Step.okOrder = true ∧
    ((perms [Step.stop, .clearReply, .lexReset]).filter Step.okOrder).all (· ∈ resetOrders) = true ∧
    resetOrders.all Step.okOrder = true := by
  decide

/-- **Table fact (T1): the protocol rule on the statements of parser.go.** The order of the
statements of `Parser.Reset` and `Parser.ResetAddNewInput` (helper methods inlined), regenerated
on every run, reduced to the four steps, is one of the orders for which `good_orders_agree` proves
the model's result. -/
theorem reset_stops_coroutine_first :
    Generated.ResetOrder.parserResetAddNewInput.filterMap stepOf ∈ resetAddOrders ∧
    Generated.ResetOrder.parserReset.filterMap stepOf ∈ resetOrders := by
  first
    | decide
    | fail "PROTOCOL RULE BROKEN (C13, history independence) in zygo/parser.go Parser.Reset / Parser.ResetAddNewInput: the suspended coroutine of an unfinished parse must be stopped (p.stop()) BEFORE p.lexer.Reset() / p.lexer.AddNextStream(s) and BEFORE p.sendMe is replaced. iter.Pull's stop() lets the coroutine run to its end; the wait loops of ParseList/ParseArray/ParseInfix/ParseBlockComment/ParseBacktickString answer the stopped yield with (SexpEnd, nil) and their callers go on peeking at the lexer, so a lexer that already holds the next text is read by the dying parse (Model/Abandon.unwind; Props/C13.lexer_first_counterexample, reply_first_counterexample). See Generated/ResetOrder.lean for the order found."

def notBeforeStop (x : String) (l : List String) : Bool := !((l.takeWhile (· != "call:stop")).contains x)

/-- **Table fact (T1), second rule.** `p.yield` is the function the parser functions call to ask
for more input; the unwinding coroutine still calls it (`parser.yield(parser.sendMe)` in every
wait loop it passes). It is not part of the model's state, so the rule is stated on the table:
it is cleared only after the coroutine has been stopped. -/
theorem yield_cleared_after_stop :
    notBeforeStop "assign:yield" Generated.ResetOrder.parserReset = true ∧
    notBeforeStop "assign:yield" Generated.ResetOrder.parserResetAddNewInput = true ∧
    notBeforeStop "assign:yield" Generated.ResetOrder.parserStop = true := by
  first
    | decide
    | fail "PROTOCOL RULE BROKEN (C13, history independence) in zygo/parser.go Parser.Reset / ResetAddNewInput / Stop: p.yield must not be cleared before p.stop() has run: the stopped coroutine of an unfinished parse still calls parser.yield(...) in every wait loop it unwinds through (a nil function there is a host panic in the middle of the next load). See Generated/ResetOrder.lean for the order found."

/-- `Stop` stops the coroutine too (used by `Close`) -/
theorem stop_stops : "call:stop" ∈ Generated.ResetOrder.parserStop := by decide

/-- **Full statement, proved in part** (compared on every `parse h` op: the driver computes both and
answers `MODELS-DISAGREE` when they differ): the parser driven call by call gives what the
delivery model of `Model/Parser` (pieces known in advance) gives, so `parse_chunks_eq_whole`
transfers to the call-by-call protocol. Proved: `stepwise_is_run_partial` below (status,
expressions and trace, for every parser state, every chunking, every fuel `F ≥ fuelFor cs`, whenever the parse
of the text is not an error) on top of `annotated_parser_is_the_parser`, `suspended_iff_more`,
`suspended_program_is_rest_of_run` and `run_fuel_mono`; `stepwise_is_run_until_done` (any outcome, no
`done` before the last call); `stepwise_is_run_of_fuel` (`FuelIsEnough → StepwiseIsRun`). Missing:
`FuelIsEnough` itself — see `stepwise_is_run_partial`. -/
def StepwiseIsRun : Prop :=
  ∀ (p : PSt) (cs : List (List Char)),
    let r := (p.parseBy (fuelFor cs) .resetAdd cs).1
    r.status = (parseChunks cs).status ∧ r.exprs = (parseChunks cs).exprs ∧ r.trace = (parseChunks cs).trace

/-- What `fuel` bounds in the model is the depth of the recursive descent
(`parseExprTok` … `parseBacktick`, `skipComments`) plus the number of top-level expressions
(`topLoop`); the Go code has no such bound. The model has NO separate timeout outcome: at fuel 0
every function is `fail`, the outcome of a parse error (`Status.err`). So fuel can only turn a
result into an error, never into another result: a parse that does not end in an error is, with any
larger fuel, the same parse — same outcome, same final state (lexer, reply, trace). For every state.
(`SProg.le` = "the same program with subtrees cut off by `fail`"; `Proofs/Abandon.parAll`: the eight mutually recursive
functions at fuel `f` are below those at `f + 1`; `Proofs/Stepwise.run_le`.) -/
theorem run_fuel_mono (f g : Nat) (h : f ≤ g) (s : PState) (hne : (run (topLoop f) s).1 ≠ .stop .err) :
    run (topLoop g) s = run (topLoop f) s :=
  Parser.run_fuel_mono f g h s hne

/-- did the run end in the error outcome? (a `Bool`, so that the kernel can evaluate it: `Fin α` has no
decidable equality) -/
def endsInErr {α : Type} : Fin α → Bool
  | .stop .err => true
  | _ => false

example : (run (topLoop 3) (initState LexState.init ["1 ".toList])).1 ≠ .stop .err := by
  have h2 : endsInErr (run (topLoop 3) (initState LexState.init ["1 ".toList])).1 = false := by decide +kernel
  intro h
  rw [h] at h2
  exact absurd h2 (by decide)

/-- **If the fuel of the delivery model is enough for a text** (its run is the same run with any
larger fuel), **the call-by-call protocol computes `parseChunks` of that text** — status,
expressions, trace — whatever the outcome, errors included, from every parser state, with every
per-iterator fuel `F ≥ fuelFor cs`. -/
theorem stepwise_is_run_for_text (cs : List (List Char)) (F : Nat) (hF : fuelFor cs ≤ F)
    (hfe : ∀ G, fuelFor cs ≤ G → run (topLoop G) (initState LexState.init cs) =
      run (topLoop (fuelFor cs)) (initState LexState.init cs)) (p : PSt) :
    (p.parseBy F .resetAdd cs).1.status = (parseChunks cs).status ∧
    (p.parseBy F .resetAdd cs).1.exprs = (parseChunks cs).exprs ∧
    (p.parseBy F .resetAdd cs).1.trace = (parseChunks cs).trace := by
  obtain ⟨G, hG, x1, x2, x3, _⟩ := stages_init cs F p
  rw [hfe G (Nat.le_trans hF hG)] at x1 x2 x3
  exact ⟨x1.trans (parseChunks_run cs).1.symm, x2.trans (parseChunks_run cs).2.1.symm,
    x3.trans (parseChunks_run cs).2.2.symm⟩

/-- **The call-by-call protocol computes `parseChunks`** — final status,
expressions AND the statuses of all intermediate calls — for EVERY parser state `p` (any lexer
state, any reply, any suspended coroutine, also one that is not the parser's), EVERY list of pieces,
and every per-iterator fuel `F` not below the fuel of the delivery model, whenever the parse of the
text does not end in an error (status `done` or `more`). The pieces are delivered by
`ResetAddNewInput`/`NewInput`, `ParseTokens` after each, `EndInput`, `ParseTokens`; a call that
answers `more` keeps its coroutine (`residual`) and the next call resumes it; a call that answers
`done` ends its `ParsingIter` and the next call starts a NEW one with NEW fuel `F` — the step over a
`done` is closed by `run_fuel_mono`: the rest of the delivery-model run (which has less fuel left) is
not an error, so it is the run of the new iterator. With `parse_chunks_eq_whole`: on the real
protocol too, a non-error parse depends only on the text.
Proof: `stepwise_is_run_for_text`, whose hypothesis is `run_fuel_mono` here.

What is missing from `StepwiseIsRun`: parses that END IN AN ERROR after some call answered `done`.
There the statement needs "the fuel of the delivery model is enough" (`4 * length + 16`: the bound
worked out on paper is `4Φ + c`, `Φ` = tokens queued or owed + runes, `c ≤ 13`; slope 3 is not
enough), because fuel exhaustion and a syntax error are one outcome in the model (`FuelIsEnough` below,
stated, not proved; `stepwise_is_run_of_fuel` proves `FuelIsEnough → StepwiseIsRun`). Without a `done` before the error it is proved
(`stepwise_is_run_until_done`). The driver still computes both models on every `parse h` op
(`MODELS-DISAGREE`). -/
theorem stepwise_is_run_partial (p : PSt) (cs : List (List Char)) (F : Nat) (hF : fuelFor cs ≤ F)
    (hne : (parseChunks cs).status ≠ .err) :
    (p.parseBy F .resetAdd cs).1.status = (parseChunks cs).status ∧
    (p.parseBy F .resetAdd cs).1.exprs = (parseChunks cs).exprs ∧
    (p.parseBy F .resetAdd cs).1.trace = (parseChunks cs).trace := by
  refine stepwise_is_run_for_text cs F hF (fun G hG => run_fuel_mono _ _ hG _ fun h => hne ?_) p
  rw [(parseChunks_run cs).1, h]
  rfl

/-- **Stated, NOT proved: the fuel of the delivery model is enough** — the one fact `StepwiseIsRun`
still needs: the parse of a text with the fuel `fuelFor` is the parse with any larger fuel, ALSO when
it ends in an error (i.e. that error is a syntax error, never the fuel). Proving it needs a
potential argument over the eight mutually recursive functions (fuel needed ≤ 4 per token queued, owed
by the lexer or still to be lexed, + a constant; the `{`-as-hash arm, which pushes a token, unfolded one
list element deep) and over the lexer (tokens produced ≤ runes read + what it already owes). For parses that
do not end in an error it is `run_fuel_mono`. -/
def FuelIsEnough : Prop :=
  ∀ (cs : List (List Char)) (F : Nat), fuelFor cs ≤ F →
    run (topLoop F) (initState LexState.init cs) = run (topLoop (fuelFor cs)) (initState LexState.init cs)

/-- a 3-piece delivery: the first piece is complete (`done`, a new `ParsingIter` follows), the
middle piece is unfinished (`more`, a coroutine is kept), the third closes it -/
def threePieces : List (List Char) := ["1 ".toList, "(a".toList, " b)".toList]

theorem threePieces_run : (parseChunks threePieces).status ≠ .err ∧
    (PSt.fresh.parseBy (fuelFor threePieces) .resetAdd threePieces).1.trace = [.done, .more, .done] ∧
    (parseChunks threePieces).exprs.length = 2 := by decide +kernel

example : (parseChunks threePieces).status ≠ .err ∧
    (PSt.fresh.parseBy (fuelFor threePieces) .resetAdd threePieces).1.trace = [.done, .more, .done] ∧
    (parseChunks threePieces).exprs.length = 2 := threePieces_run

example : (PSt.fresh.parseBy (fuelFor threePieces) .resetAdd threePieces).1.exprs = (parseChunks threePieces).exprs :=
  (stepwise_is_run_partial PSt.fresh threePieces _ (Nat.le_refl _) threePieces_run.1).2.1

/-- … and with it what the delivery model records for these pieces -/
example : (parseChunks threePieces).trace = [.done, .more, .done] :=
  (stepwise_is_run_partial PSt.fresh threePieces _ (Nat.le_refl _) threePieces_run.1).2.2.symm.trans threePieces_run.2.1

/-- **`FuelIsEnough → StepwiseIsRun`** — the whole of what is missing is
a statement about the delivery model alone. Per text (`stepwise_is_run_for_text`): if the
run of the delivery model on `cs` is the same run with every larger fuel, then from EVERY parser
state, with every per-iterator fuel `F ≥ fuelFor cs`, the protocol gives the status, the expressions
and the trace of `parseChunks cs`, WHATEVER the outcome (errors after a `done` included).
Idea: seen from the delivery model, the protocol after its i-th `done` is the delivery model started
with more fuel `G ≥ F` — every stage of the protocol is a stage of `run (topLoop G) t0`, uniformly in
a further shift `d` of all fuel indices (`Shift`, `shifted_rest`: a shifted program rests at the same
state in the shifted rest; `S_topLoop_inj`: the fuel index of the rest is exact), and an error inside
a piece ends both the same way (`run_split`); `stage` is one call of the protocol against that run. -/
theorem stepwise_is_run_of_fuel (h : FuelIsEnough) : StepwiseIsRun := by
  intro p cs
  exact stepwise_is_run_for_text cs (fuelFor cs) (Nat.le_refl _) (fun G hG => h cs G hG) p

/-- the hypothesis holds for every text whose parse is not an error (`run_fuel_mono`) -/
example : ∀ G, fuelFor threePieces ≤ G → run (topLoop G) (initState LexState.init threePieces) =
    run (topLoop (fuelFor threePieces)) (initState LexState.init threePieces) := by
  intro G hG
  refine run_fuel_mono _ _ hG _ fun h => threePieces_run.1 ?_
  rw [(parseChunks_run threePieces).1, h]
  rfl

/-- With the fuel of the delivery model, as long as no
`ParseTokens` call before the last answers `done` (every piece but the last leaves the text
unfinished: the coroutine is resumed, no new `ParsingIter`, so no new fuel), the call-by-call
protocol gives the status, the expressions and the trace of `parseChunks` WHATEVER the outcome — also
when the parse ends in an error (a syntax error in any piece, or the fuel of the model).
(`Proofs/StepwiseFuel.stages`: the fuel `G` with which the delivery model passes through the stages of
the protocol changes only at a `done`.) -/
theorem stepwise_is_run_until_done (p : PSt) (cs : List (List Char))
    (hnd : Status.done ∉ (p.parseBy (fuelFor cs) .resetAdd cs).1.trace) :
    (p.parseBy (fuelFor cs) .resetAdd cs).1.status = (parseChunks cs).status ∧
    (p.parseBy (fuelFor cs) .resetAdd cs).1.exprs = (parseChunks cs).exprs ∧
    (p.parseBy (fuelFor cs) .resetAdd cs).1.trace = (parseChunks cs).trace := by
  obtain ⟨G, _, x1, x2, x3, rfl | h⟩ := stages_init cs (fuelFor cs) p
  · exact ⟨x1.trans (parseChunks_run cs).1.symm, x2.trans (parseChunks_run cs).2.1.symm,
      x3.trans (parseChunks_run cs).2.2.symm⟩
  · exact absurd h hnd

/-- three pieces, the first two unfinished, a syntax error in the third: `(a [b )` — `)` where `]` is due -/
def threeBad : List (List Char) := ["(a ".toList, "[b ".toList, ")".toList]

theorem threeBad_run : (PSt.fresh.parseBy (fuelFor threeBad) .resetAdd threeBad).1.trace = [.more, .more] ∧
    (parseChunks threeBad).status = .err := by decide +kernel

example : (PSt.fresh.parseBy (fuelFor threeBad) .resetAdd threeBad).1.trace = [.more, .more] ∧
    (parseChunks threeBad).status = .err := threeBad_run

/-- the hypothesis of `stepwise_is_run_until_done` holds for it, and the theorem gives the error -/
example : (PSt.fresh.parseBy (fuelFor threeBad) .resetAdd threeBad).1.status = .err :=
  (stepwise_is_run_until_done PSt.fresh threeBad (by rw [threeBad_run.1]; decide)).1.trans threeBad_run.2

/-- … and the same after any history, by any reset route (`protocol_reset_forgets`) -/
theorem stepwise_is_run_after_history (p : PSt) (r : Route) (hr : r.isReset = true)
    (hr' : r ≠ .resetAddLexerFirst ∧ r ≠ .resetNewLexerFirst) (cs : List (List Char)) (F : Nat)
    (hF : fuelFor cs ≤ F) (hne : (parseChunks cs).status ≠ .err) :
    (p.parseBy F r cs).1.status = (parseChunks cs).status ∧ (p.parseBy F r cs).1.exprs = (parseChunks cs).exprs ∧
    (p.parseBy F r cs).1.trace = (parseChunks cs).trace := by
  rw [protocol_reset_forgets F p r hr hr' cs]
  exact stepwise_is_run_partial PSt.fresh cs F hF hne

/-- End of input is a final newline (`Parser.EndInput`). In the normal
state a pending atom is then either queued as the last token (nothing stays in the buffer)
or reported as an error; it is never dropped. -/
theorem last_token_kept (s : LexCore) (h : s.state = .normal) (hb : s.buffer ≠ []) :
    match step s '\n', decodeAtom s.buffer with
    | .ok s', .ok tok => s'.tokens = s.tokens ++ [tok] ∧ s'.buffer = [] ∧ s'.state = .normal
    | .err e _, .error e' => e = e'
    | _, _ => False := by
  have hbe : s.buffer.isEmpty = false := by
    cases hbuf : s.buffer with
    | nil => exact absurd hbuf hb
    | cons a b => rfl
  cases hd : decodeAtom s.buffer with
  | ok tok => simp [step, stepMode, h, stepNormal, thenDump, dumpBuffer, hbe, hd, appendToken]
  | error e => simp [step, stepMode, h, stepNormal, thenDump, dumpBuffer, hbe, hd]

example : ∃ s : LexCore, s.state = .normal ∧ s.buffer ≠ [] :=
  ⟨{ LexCore.init with buffer := ['4', '2'] }, rfl, by decide⟩

/-- A pending line comment is closed by the end of input as well. -/
theorem last_comment_kept (s : LexCore) (h : s.state = .commentLine) :
    match step s '\n' with
    | .ok s' => s'.tokens = s.tokens ++ [⟨.comment, s.buffer⟩] ∧ s'.buffer = [] ∧ s'.state = .normal
    | .err _ _ => False := by
  simp [step, stepMode, h, dumpAs, appendToken]

/-- parse of a prefix: no end of input signalled -/
def parsePrefix (t : List Char) : Status :=
  match run (topLoop (fuelFor [t])) { lex := resetAddNewInput LexState.init t, fut := [] } with
  | (.ret _, _) => .done
  | (.stop st, _) => st

/-- **Full statement** (NOT proved in general; it is compared on every
generated input by the `parse` channel: impl status vs this specification). Two clauses: for a
prefix (the end of the input not signalled) and for the finished text. A trailing sign is no
exception (repo fix C13-02): the finished text `- ` is done; only as a prefix
is a trailing top-level sign unfinished (`Spec.UnfinishedPrefix`: the token that follows
decides between the symbol and `-Inf`). -/
def MoreIffUnfinished : Prop :=
  (∀ t : List Char, ∀ u : Bool, Spec.UnfinishedPrefix t = some u → parsePrefix t ≠ .err →
    (parsePrefix t = .more ↔ u = true)) ∧
  (∀ t : List Char, ∀ u : Bool, Spec.Unfinished (t ++ eofPiece) = some u → (parseChunks [t]).status ≠ .err →
    ((parseChunks [t]).status = .more ↔ u = true))

/-- partial: at top level the parser answers `more` at the end of the input exactly when
the lexer is inside a string or rune literal; with tokens queued it never stops. -/
theorem top_level_more_iff_literal (c : LexCore) (ex : List Sexp) (fin : Bool) (h : c.tokens = []) :
    topGetA ex fin [] c = .finished (if inLiteral c then .more else .done) ⟨c, [], ex, fin⟩ := by
  simp [topGetA, h]

def isSign (t : Token) : Bool := t.typ == .symbol && (t.str == ['-'] || t.str == ['+'])

/-- the look-ahead after a lone `+`/`-` when every rune has been read and no token is queued: the end-of-input
mark decides -/
theorem sign_at_end_of_input (c : LexCore) (ex : List Sexp) (t : Token) (f : Nat) (fin : Bool)
    (ht : isSign t = true) (h : c.tokens = []) :
    runA (parseExprTok (f + 1) t) ⟨c, [], ex, fin⟩ =
      if fin then (.ret (.sym t.str false false), ⟨c, [], ex, fin⟩) else (.stop .more, ⟨c, [], ex, fin⟩) := by
  obtain ⟨ty, str⟩ := t
  simp only [isSign, Bool.and_eq_true, beq_iff_eq] at ht
  obtain ⟨hty, hstr⟩ := ht
  subst hty
  have hs : (str == ['-'] || str == ['+']) = true := by simpa using hstr
  unfold parseExprTok
  cases fin <;>
    simp only [hs, ↓reduceIte, bind, signPeek, Prog.bind, runA, peekWaitA, headIf, h, List.length_nil,
      Nat.lt_irrefl, Bool.and_self, Bool.and_false, Bool.false_eq_true, Token.endTk]
  rfl

/-- partial (repo fix C13-02): **a sign at the end of a finished input never waits.** When every
rune has been read, no token is queued and the end of the input has been signalled, the
expression that starts with a lone `+`/`-` is that symbol — in every lexer state, at every depth. -/
theorem sign_at_end_of_finished_input (c : LexCore) (ex : List Sexp) (t : Token) (f : Nat)
    (ht : isSign t = true) (h : c.tokens = []) :
    runA (parseExprTok (f + 1) t) ⟨c, [], ex, true⟩ = (.ret (.sym t.str false false), ⟨c, [], ex, true⟩) :=
  sign_at_end_of_input c ex t f true ht h

/-- … and while the end has not been signalled it waits: the token that follows may be `Inf`. -/
theorem sign_at_end_of_unfinished_input (c : LexCore) (ex : List Sexp) (t : Token) (f : Nat)
    (ht : isSign t = true) (h : c.tokens = []) :
    runA (parseExprTok (f + 1) t) ⟨c, [], ex, false⟩ = (.stop .more, ⟨c, [], ex, false⟩) :=
  sign_at_end_of_input c ex t f false ht h

example : isSign ⟨.symbol, ['-']⟩ = true := by decide

/-- Before the fix there was no end-of-input mark: on a state in which it is never set
(`Legacy.Parser.initState`) the look-ahead after a sign IS `ParserPeekNextToken(0)`. -/
theorem legacy_signPeek_is_waitPeek (extra fuel : Nat) (s : PState) (h1 : s.lex.finished = false) (h2 : s.eof = false) :
    peekWaitRun true extra fuel s = peekWaitRun false extra fuel s := by
  rw [peekWaitRun_eq, peekWaitRun_eq]
  induction fuel generalizing s with
  | zero => rfl
  | succ n ih =>
    have hdel : ∀ p fut st, (s.deliver p fut st).lex.finished = false ∧ (s.deliver p fut st).eof = false := by
      intro p fut st; simp [PState.deliver, h2]
    rw [waitRun_succ, waitRun_succ]
    have hsp := lexRound_spec extra s.lex
    cases hr : lexRound extra s.lex with
    | tok t => rfl
    | refused l' => rfl
    | read l' =>
      rw [hr] at hsp
      obtain ⟨_, c, _, _, _, _, hfin⟩ := hsp
      exact ih _ (hfin.trans h1) h2
    | drained =>
      dsimp only
      cases hf : s.fut with
      | nil => simp [h1]
      | cons p fut => exact ih _ (hdel p fut _).1 (hdel p fut _).2

example : (Legacy.Parser.initState LexState.init [['-']]).lex.finished = false ∧
    (Legacy.Parser.initState LexState.init [['-']]).eof = false := by decide

def isOneSym (r : Result) (n : List Char) : Bool :=
  match r.exprs with
  | [.sym m false false] => m == n
  | _ => false

def isOneFloat (r : Result) (b : Nat) : Bool :=
  match r.exprs with
  | [.float m false] => m == b
  | _ => false

/-- the recorded finding, on the pre-fix behaviour: the finished texts `- ` and `+ ` answered
`more` (and no expression) -/
theorem lone_sign_counterexample :
    (Legacy.Parser.parseChunks ["- ".toList]).status = .more ∧ (Legacy.Parser.parseChunks ["+ ".toList]).status = .more ∧
    (Legacy.Parser.parseChunks ["- ".toList]).exprs.length = 0 := by
  decide +kernel

/-- repaired: the finished texts `- ` and `+ ` are done and yield the symbol; as a prefix `- `
waits, and `- ` followed by the piece `Inf` is the one float -Inf, as for the whole text `- Inf`
(what chunk independence demands of the prefix) -/
theorem lone_sign_fixed :
    (parseChunks ["- ".toList]).status = .done ∧ isOneSym (parseChunks ["- ".toList]) ['-'] = true ∧
    (parseChunks ["+ ".toList]).status = .done ∧ isOneSym (parseChunks ["+ ".toList]) ['+'] = true ∧
    parsePrefix "- ".toList = .more ∧
    isOneFloat (parseChunks ["- ".toList, "Inf".toList]) 0xfff0000000000000 = true ∧
    isOneFloat (parseChunks ["- Inf".toList]) 0xfff0000000000000 = true := by
  decide +kernel

theorem token_types_match : Generated.LexTables.tokenTypes = tokTypeNames := rfl
theorem lexer_states_match : Generated.LexTables.lexerStates = modeNames := rfl

/-- the regular expressions declared in lexer.go are, name by name and character by
character, the ones the recognisers of Model/Lexer were written for -/
theorem regex_sources_match : Generated.LexTables.regexes = regexSources := rfl

theorem escape_cases_match : Generated.LexTables.escapeCases = escapeTable := by decide

theorem escape_table_is_model :
    ∀ p ∈ escapeTable, escapeChar (Char.ofNat p.1) = some (Char.ofNat p.2) := by decide

theorem can_start_set_match : Generated.LexTables.canStartSet = canStartTable := by decide

theorem can_start_table_is_model :
    ∀ n ∈ canStartTable, canStartSignedNumberAfter (Char.ofNat n) = true := by decide +kernel

theorem tok_type_numbering : tokTypeNames.length = 38 ∧ TokType.tEnd.toNat = 37 ∧ modeNames.length = 16 := by decide

end ZygoVerif.Props.C13
