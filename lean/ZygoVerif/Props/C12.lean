/-
C12 — printed data reads back as the same data; literals denote what is written.

Theorems about the models of the printer (Model/PrintData), of the reader (Model/Lexer +
Model/Parser, shared with C13), of the literal conversion (Model/NumLit) and of the evaluation
of JSON-like forms (Model/EvalData) — the code as it stands in /repo, which contains the repairs fixes/C12-01…05 and
C13-02 —, against the specification Spec/DataValue; and the tables regenerated from the source
(Generated/ReadPrint, Generated/LexTables).
-/
import ZygoVerif.Model.PrintData
import ZygoVerif.Model.EvalData
import ZygoVerif.Model.LegacyReadPrint
import ZygoVerif.Model.LegacyLexer
import ZygoVerif.Spec.DataValue
import ZygoVerif.Spec.LiteralHistory
import ZygoVerif.Generated.ReadPrint
import ZygoVerif.Generated.LexTables
import ZygoVerif.Proofs.ReadPrintMain
import ZygoVerif.Props.C13
import ZygoVerif.Proofs.LiteralValue
import ZygoVerif.Proofs.LiteralNotations
import ZygoVerif.Proofs.LiteralSpec
import ZygoVerif.Proofs.EvalPrint
namespace ZygoVerif.Props.C12
open ZygoVerif ZygoVerif.Lexer ZygoVerif.Parser ZygoVerif.PrintData ZygoVerif.EvalData
open ZygoVerif.Spec.DataValue ZygoVerif.ReadPrint

/-! ## Printed data reads back as the same data

`read` is `ReadFunction`: the text handed whole to the parser with the end of input signalled;
on the model this is `parseChunksFrom l [text]` for whatever state `l` the parser was left in
(C13: any history, any cutting into pieces gives the same). -/

/-- **Full statement** (NOT provable for today's code: see `read_print_nil_counterexample`, the
recorded finding): every data value of the property's domain reads back as itself. -/
def ReadPrintData : Prop :=
  ∀ (ff : FloatFmt), FloatLaw ff → ∀ v : Sexp, isData v = true →
    ∀ (l : LexState), (parseChunksFrom l [printSexp ff v]).status = .done ∧ (parseChunksFrom l [printSexp ff v]).exprs = [v]

/-- Proved part of `ReadPrintData`, by structural induction (any
nesting depth, any length): for every value built from 64-bit integers, uint64, finite floats,
characters (all valid code points), strings (all sequences of valid code points), booleans,
symbols the reader reads as symbols, lists (with or without a dotted tail) and arrays, the
printed text — delivered whole or in ANY pieces to a parser with ANY history — is accepted and
yields exactly that value. Floats: relative to `FloatLaw` (shape of `FormatFloat`'s text and
`ParseFloat (FormatFloat x) = x`; sampled on every run, not proved).
Missing from the full statement: `nil` as an element (known finding: it reads back as the symbol
`nil`), NaN/±Inf, raw (back-tick) strings, operator and dotted symbol names (the symbols `-` and
`+`: `read_print_sign`) — all exercised by the `rt` correspondence. -/
theorem read_print_data_partial (ff : FloatFmt) (hlaw : FloatLaw ff) (v : Sexp) (hv : okV v = true)
    (l : LexState) (cs : List (List Char)) (hcs : cs.flatten = printSexp ff v) :
    (parseChunksFrom l cs).status = .done ∧ (parseChunksFrom l cs).exprs = [v] :=
  read_print ff hlaw v hv l cs hcs

/-- non-vacuity: a nested value of the domain — `(a -7 "x\ty" 'é' \ [true 255ULL])` -/
example : okV (.pair (.sym ['a'] false false) (.pair (.int (-7)) (.pair (.str ['x', '\t', 'y'] false)
    (.pair (.char 233) (.array [.bool true, .uint 255] false))))) = true := by decide +kernel

/-- why the full statement fails today (recorded finding `rt r n`): `nil` prints as `nil`, which
lexes to the SYMBOL token `nil` -/
theorem read_print_nil_counterexample :
    printSexp (fun _ _ => []) Sexp.null = "nil".toList ∧
    (decodeAtom "nil".toList).toOption = some ⟨.symbol, "nil".toList⟩ := ⟨rfl, by decide +kernel⟩

theorem isOneSym_exprs (r : Result) (n : List Char) (h : Props.C13.isOneSym r n = true) :
    r.exprs = [.sym n false false] := by
  unfold Props.C13.isOneSym at h
  split at h
  · rename_i m hm; rw [hm]; simp only [beq_iff_eq] at h; rw [h]
  · cases h

/-- Repo fix C13-02 (it closes the findings `rt r y 45`, `rt r y 43`): the
symbols `-` and `+` — outside `symOK` because their runes are operators to the lexer — print as
`-`/`+`, and that text, delivered whole or in any pieces to a parser with any history, is
accepted and yields the symbol. -/
theorem read_print_sign (ff : FloatFmt) (sgn : Char) (hs : sgn = '-' ∨ sgn = '+') (l : LexState)
    (cs : List (List Char)) (hcs : cs.flatten = printSexp ff (.sym [sgn] false false)) :
    (parseChunksFrom l cs).status = .done ∧ (parseChunksFrom l cs).exprs = [.sym [sgn] false false] := by
  have hp : printSexp ff (.sym [sgn] false false) = [sgn] := rfl
  rw [hp] at hcs
  obtain ⟨h1, h2⟩ := Props.C13.parse_chunks_eq_whole l cs
  rw [h1, h2, hcs, Props.C13.reset_forgets]
  have key : ∀ c ∈ ['-', '+'], (parseChunks [[c]]).status = .done ∧ Props.C13.isOneSym (parseChunks [[c]]) [c] = true := by
    decide +kernel
  have := key sgn (by rcases hs with rfl | rfl <;> simp)
  exact ⟨this.1, isOneSym_exprs _ _ this.2⟩

example : ([['-'], []] : List (List Char)).flatten = printSexp (fun _ _ => []) (.sym ['-'] false false) := rfl

/-- before fix C13-02 the printed symbol `-` was not read back: the reader answered "more input
needed" for the finished text (Model/LegacyParser) -/
theorem read_print_sign_counterexample :
    printSexp (fun _ _ => []) (.sym ['-'] false false) = ['-'] ∧
    (Legacy.Parser.parseChunks [['-']]).status = .more ∧ (Legacy.Parser.parseChunks [['+']]).status = .more :=
  ⟨rfl, by decide +kernel, by decide +kernel⟩

/-- For ALL strings of valid code points, the text `strconv.Quote`
writes is lexed — from any lexer state ready for a new token — to the string token holding
exactly those runes (the reader's escape table inverts the printer's, over all 0x110000 code
points through the regenerated `IsPrint` table). -/
theorem string_literal_roundtrip (cs : List Char) (T : List Token) (l : Char) :
    Lex ⟨.normal, [], T, l⟩ (quoteStr cs) ⟨.normal, [], T ++ [⟨.string, cs⟩], '"'⟩ := by
  simpa [quoteStr] using (reads_string cs l).lex T

example : ∃ s : LexCore, HasShape s ⟨.normal, [], [], '\x00'⟩ :=
  ⟨LexCore.init, rfl, rfl, rfl, ringOK_init, lastRune_init⟩

/-- For every valid code point, `strconv.QuoteRune` is lexed to the
character token holding that rune, and the parser decodes the whole rune (fix C12-01). -/
theorem char_literal_roundtrip (v : Nat) (hv : v.isValidChar) (T : List Token) (l : Char) :
    Lex ⟨.normal, [], T, l⟩ (quoteRune v) ⟨.normal, [], T ++ [⟨.char, [Char.ofNat v]⟩], '\''⟩ ∧
    atomOfTok ⟨.char, [Char.ofNat v]⟩ = some (some (.char v)) := by
  refine ⟨by simpa [quoteRune] using (reads_char v hv l).lex T, ?_⟩
  simp only [atomOfTok, Char.toNat_ofNat_of_valid v hv]

example : (0x1F600 : Nat).isValidChar := by decide

/-- In the string mode and in the rune-literal mode, what the printer
writes for ANY rune `c` is read back as `c`. -/
theorem escapes_inverse (m : LitMode) (hm : m.ok) (c : Char) (s : LexCore) (b : List Char) (T : List Token)
    (hs : InLit s m.lit b T) :
    ∃ s', feed (.ok s) (escapedRune c m.quote) = .ok s' ∧ InLit s' m.lit (b ++ [c]) T :=
  escaped_reads_back m hm c s b T hs

/-- For every 64-bit integer the printed numeral (`strconv.Itoa`) is
classified as a decimal token and converted back to the same integer. -/
theorem print_int_reads_back (v : Int) (h1 : -(2 : Int) ^ 63 ≤ v) (h2 : v < 2 ^ 63) :
    decodeAtom (itoa v) = .ok ⟨.decimal, itoa v⟩ ∧ atomOfTok ⟨.decimal, itoa v⟩ = some (some (.int v)) :=
  ⟨decodeAtom_itoa v, atomOfTok_itoa v h1 h2⟩

example : -(2 : Int) ^ 63 ≤ -9223372036854775808 ∧ (-9223372036854775808 : Int) < 2 ^ 63 := by decide

/-- Every uint64 prints as `<digits>ULL`, a uint64 token converted
back to the same number. -/
theorem print_uint_reads_back (n : Nat) (hn : n < 2 ^ 64) :
    decodeAtom (natDec n ++ "ULL".toList) = .ok ⟨.uint64, natDec n ++ "ULL".toList⟩ ∧
    atomOfTok ⟨.uint64, natDec n ++ "ULL".toList⟩ = some (some (.uint n)) :=
  ⟨decodeAtom_uint n, atomOfTok_uint n hn⟩

/-- Relative to `FloatLaw`: a finite float prints as a text that
is a FLOAT token — never an integer token (fix C12-03) — and converts back to the same float
with the same `Scientific` flag. -/
theorem print_float_reads_back (ff : FloatFmt) (hlaw : FloatLaw ff) (b : Nat) (sci : Bool) (hb : isFiniteBits b = true) :
    decodeAtom (printFloat ff b sci) = .ok ⟨.float, printFloat ff b sci⟩ ∧
    atomOfTok ⟨.float, printFloat ff b sci⟩ = some (some (.float b sci)) := by
  obtain ⟨p, hv, hpr, hsci, hpf⟩ := hlaw b sci hb
  rw [hpr]
  exact ⟨decodeAtom_floatParts p hv, by rw [atomOfTok_floatParts p hv b hpf, hsci]⟩

/-- the shape the law speaks of is inhabited: `-2.5e+07` -/
example : (⟨true, ['2'], some ['5'], some ('+', ['0', '7'])⟩ : FloatParts).Valid :=
  ⟨⟨by decide, by decide⟩, fun f h => by cases h; exact ⟨by decide, by decide⟩,
   fun s ds h => by cases h; exact ⟨Or.inl rfl, by decide, by decide⟩, Or.inl rfl⟩

/-- the number a spelling is read as when it is the whole text: `none` = not read as one number -/
def readLiteral (s : List Char) : Option Sexp :=
  match readAll s with
  | some [e] => (match e with
    | .int _ | .uint _ | .float _ _ => some e
    | _ => none)
  | _ => none

/-- equality of numbers as data (the `Scientific` flag of a float is not part of its value) -/
def sameNumber : Sexp → Sexp → Prop
  | .int a, .int b => a = b
  | .uint a, .uint b => a = b
  | .float a _, .float b _ => a = b ∨ (isNaNBits a = true ∧ isNaNBits b = true)
  | _, _ => False

/-- what the specification demands of the reader for ONE spelling `s`: a spelling in a notation the
property lists is read as exactly its mathematical value (or refused when that value does not fit the
type); any other spelling is either not read as a number or read as exactly its value. -/
def LiteralValueAt (s : List Char) : Prop :=
  match require s with
    | .must (some v) => ∃ x, readLiteral s = some x ∧ sameNumber x v
    | .must none => readLiteral s = none
    | .may (some v) => readLiteral s = none ∨ ∃ x, readLiteral s = some x ∧ sameNumber x v
    | .may none => readLiteral s = none
    | .notNumber => readLiteral s = none

/-- a spelling is one word: no white space in it (`Spec.mathValue` judges the spelling as a whole, the
reader skips blanks around a literal) -/
def oneWord (s : List Char) : Bool := s.all (fun c => !(c == ' ' || c == '\t' || c == '\n' || c == '\r'))

/-- **Full statement** (NOT proved in full — see `literal_value_partial` for the proved notations; the
rest is compared on every generated and every enumerated spelling by the `rt` channel: impl vs
`Spec.require`, and `Spec.mathValue`/`nearestF64` vs math/big): every spelling is read as the
specification demands. (`-.5`: repo fix C12-05, `neg_fraction_begins`,
`neg_fraction_fixed`, `neg_fraction_counterexample`.) -/
def LiteralValue : Prop := ∀ s : List Char, oneWord s = true → LiteralValueAt s

/-- why the full statement speaks of one-word spellings only: `1 ` (with a blank) is not a numeral to
`Spec.mathValue`, and the reader — rightly — reads the number 1 -/
theorem literal_value_blank_counterexample : ¬ ∀ s : List Char, LiteralValueAt s := by
  intro h
  have h1 : readLiteral "1 ".toList = none := h "1 ".toList
  have h2 : (readLiteral "1 ".toList).isSome = true := by decide +kernel
  rw [h1] at h2
  cases h2

theorem readLiteral_none (s : List Char) (h : readAll s = none) : readLiteral s = none := by
  simp [readLiteral, h]

theorem readLiteral_same (s : List Char) (x v : Sexp) (h : readAll s = some [x]) (hs : sameNumber x v) :
    readLiteral s = some x := by
  unfold readLiteral
  rw [h]
  cases x with
  | int _ | uint _ | float _ _ => rfl
  | _ => simp [sameNumber] at hs

/-- whatever the specification names is a number -/
theorem denote_same (nv : NumVal) (v : Sexp) (h : denote nv = some v) : sameNumber v v := by
  have flt : ∀ b, sameNumber (.float b false) (.float b false) := fun _ => Or.inl rfl
  cases nv with
  | int a => cases (Option.ite_none_right_eq_some.1 h).2; exact rfl
  | uint a => cases (Option.ite_none_right_eq_some.1 h).2; exact rfl
  | dec neg m e =>
    rw [denote] at h
    dsimp only at h
    by_cases h1 : m = 0
    · rw [if_pos h1] at h; cases h; exact flt _
    rw [if_neg h1] at h
    by_cases h2 : ((Nat.toDigits 10 m).length : Int) + e > 400
    · rw [if_pos h2] at h; cases h
    rw [if_neg h2] at h
    by_cases h3 : ((Nat.toDigits 10 m).length : Int) + e < -400
    · rw [if_pos h3] at h; cases h; exact flt _
    rw [if_neg h3] at h
    obtain ⟨b, _, hb⟩ := Option.map_eq_some_iff.1 h
    rw [← hb]; exact flt _
  | inf neg => cases h; exact flt _
  | nan => cases h; exact flt _

/-- the reader answers what the specification names for the spelling: that is what is demanded of it,
whatever the verdict (`must` or `may`) -/
theorem at_of_answer (s : List Char) (nv : NumVal) (sup : Bool) (h : mathValue s = some (nv, sup))
    (hr : readAll s = Literal.answer nv) : LiteralValueAt s := by
  unfold LiteralValueAt require
  rw [h]
  unfold Literal.answer at hr
  cases hd : denote nv with
  | none =>
    rw [hd] at hr
    cases sup <;> dsimp only <;> rw [hd] <;> exact readLiteral_none s hr
  | some v =>
    rw [hd] at hr
    have hx : ∃ x, readLiteral s = some x ∧ sameNumber x v :=
      ⟨v, readLiteral_same s v v hr (denote_same nv v hd), denote_same nv v hd⟩
    cases sup <;> dsimp only <;> rw [hd]
    · exact Or.inr hx
    · exact hx

/-- EVERY spelling to which the specification gives an integer verdict and that
does not begin with `+` — i.e. every hex `0x…`, octal `0o…`, binary `0b…` literal, every decimal literal
`D[D_]*` with or without a minus sign (underscores well placed: a `must`; misplaced as in `1__0`, `1_`: a
`may`, and the reader reads the value all the same) — is read by the reader model (lexer from a fresh state,
`DecodeAtom` cascade, `ParseInt` with its base, top-level loop, end of input) as EXACTLY the positional value
Σ dᵢ·bⁿ⁻¹⁻ⁱ of its digits with its sign, and is refused (a parse error) exactly when that value is outside
[−2⁶³, 2⁶³). No bound on the length. Not covered: a leading `+` (`+5`: the specification says "may", the
reader reads the symbol `+` and the number) and a minus sign on a based literal (`-0x10`: "may", read as a
symbol). -/
theorem literal_value_int (s : List Char) (v : Int) (sup : Bool) (h : mathValue s = some (.int v, sup))
    (hcov : sup = true ∨ (∃ body, (s = body ∨ s = '-' :: body) ∧ digitsUnderscores body = true)) :
    LiteralValueAt s := by
  have h0 := h
  rw [Literal.mathValue_eq] at h
  rcases Literal.signOf_cases s with ⟨r, rfl, hs⟩ | ⟨r, rfl, hs⟩ | ⟨hs, hm, hp⟩
  · -- a minus sign
    rw [hs] at h
    rcases Literal.mathBody_int _ _ _ _ h with ⟨base, ds, l, hb, hd, hv, hsup⟩ | ⟨hdu, l, hd, hv, hsup⟩
    · -- `-0x…`: not a listed notation
      exfalso
      rcases hcov with rfl | ⟨body, hb2, hdu⟩
      · simp at hsup
      · rcases hb2 with hb2 | hb2
        · rw [← hb2] at hdu; simp [digitsUnderscores, isDigit] at hdu
        · simp only [List.cons.injEq, true_and] at hb2
          subst hb2
          rcases Literal.basedOf_some _ _ _ hb with ⟨rfl, _⟩ | ⟨rfl, _⟩ | ⟨rfl, _⟩ <;>
            simp [digitsUnderscores, isDigit] at hdu
    · have hv' : v = -(posValue 10 l : Int) := by simpa using hv
      subst hv'
      exact at_of_answer _ _ sup h0 (Literal.read_neg_decimal r l hdu hd)
  · -- a plus sign: never `must`, and excluded from the loose part
    exfalso
    rw [hs] at h
    rcases hcov with rfl | ⟨body, hb2, hdu⟩
    · rcases Literal.mathBody_int _ _ _ _ h with ⟨base, ds, l, hb, hd, hv, hsup⟩ | ⟨hdu, l, hd, hv, hsup⟩
      · simp at hsup
      · simp at hsup
    · rcases hb2 with hb2 | hb2
      · rw [← hb2] at hdu; simp [digitsUnderscores, isDigit] at hdu
      · simp at hb2
  · -- no sign
    rw [hs] at h
    rcases Literal.mathBody_int _ _ _ _ h with ⟨base, ds, l, hb, hd, hv, hsup⟩ | ⟨hdu, l, hd, hv, hsup⟩
    · have hv' : v = (posValue base l : Int) := by simpa using hv
      subst hv'
      rcases Literal.basedOf_some _ _ _ hb with ⟨rfl, rfl⟩ | ⟨rfl, rfl⟩ | ⟨rfl, rfl⟩
      · exact at_of_answer _ _ sup h0 (Literal.read_hex ds l hd)
      · exact at_of_answer _ _ sup h0 (Literal.read_oct ds l hd)
      · exact at_of_answer _ _ sup h0 (Literal.read_binary ds l hd)
    · have hv' : v = (posValue 10 l : Int) := by simpa using hv
      subst hv'
      exact at_of_answer _ _ sup h0 (Literal.read_decimal s l hdu hd)

/-- non-vacuity: spellings with an integer `must` verdict in each notation (underscores, sign, the
smallest int64, a value beyond int64 which must be refused) -/
theorem mathValue_int_vectors :
    mathValue "0xfF".toList = some (.int 255, true) ∧ mathValue "0o17".toList = some (.int 15, true) ∧
    mathValue "0b101".toList = some (.int 5, true) ∧ mathValue "1_000".toList = some (.int 1000, true) ∧
    mathValue "-9223372036854775808".toList = some (.int (-9223372036854775808), true) ∧
    mathValue "9223372036854775808".toList = some (.int 9223372036854775808, true) ∧
    mathValue "1__0".toList = some (.int 10, false) := by decide +kernel

example : mathValue "0xfF".toList = some (.int 255, true) ∧ mathValue "0o17".toList = some (.int 15, true) ∧
    mathValue "0b101".toList = some (.int 5, true) ∧ mathValue "1_000".toList = some (.int 1000, true) ∧
    mathValue "-9223372036854775808".toList = some (.int (-9223372036854775808), true) ∧
    mathValue "9223372036854775808".toList = some (.int 9223372036854775808, true) ∧
    mathValue "1__0".toList = some (.int 10, false) := mathValue_int_vectors

example : LiteralValueAt "-9223372036854775808".toList :=
  literal_value_int _ _ _ mathValue_int_vectors.2.2.2.2.1 (Or.inl rfl)

/-- EVERY spelling to which the specification gives a uint64 verdict
(`<decimal digits>ULL`, `0x<hex digits>ULL`, `0o<octal digits>ULL`) is read as exactly the positional value
of its digits, as a uint64, and refused exactly when the value is ≥ 2⁶⁴. -/
theorem literal_value_uint (s : List Char) (n : Nat) (sup : Bool) (h : mathValue s = some (.uint n, sup)) :
    LiteralValueAt s := by
  have h0 := h
  rw [Literal.mathValue_eq] at h
  obtain ⟨hsn, rfl, d, l, hd, hl, rfl⟩ := Literal.mathBody_uint _ _ _ _ h
  have hbody : (Literal.signOf s).2 = s := by
    rcases Literal.signOf_cases s with ⟨r, rfl, hs⟩ | ⟨r, rfl, hs⟩ | ⟨hs, _, _⟩
    · rw [hs] at hsn; cases hsn
    · rw [hs] at hsn; cases hsn
    · rw [hs]
  rw [hbody] at hd
  refine at_of_answer s _ true h0 ?_
  rw [Literal.stripSuffix?_some _ _ _ hd]
  exact Literal.read_uint d l hl

example : mathValue "255ULL".toList = some (.uint 255, true) ∧ mathValue "0xffULL".toList = some (.uint 255, true) ∧
    mathValue "0o17ULL".toList = some (.uint 15, true) ∧
    mathValue "18446744073709551616ULL".toList = some (.uint 18446744073709551616, true) := by decide +kernel

def floatBitsOf : Option Sexp → Option Nat
  | some (.float b _) => some b
  | _ => none

theorem sameNumber_of_bits (o : Option Sexp) (b : Nat) (h : floatBitsOf o = some b) :
    ∃ x, o = some x ∧ sameNumber x (.float b false) := by
  cases o with
  | none => cases h
  | some x =>
    cases x <;> simp only [floatBitsOf, Option.some.injEq, reduceCtorEq] at h
    subst h
    exact ⟨_, rfl, Or.inl rfl⟩

/-- The supported spellings of the specification's infinities and NaN (`Inf`,
`-Inf`, `+Inf`: the parser folds the sign symbol into the following `Inf` token; `NaN`) are read as the
IEEE values +∞, −∞, +∞ and a NaN. (The finite fraction/exponent literals are NOT covered: see
`literal_value_partial`.) -/
theorem literal_value_inf_nan (s : List Char) (nv : NumVal) (h : mathValue s = some (nv, true))
    (hk : nv = .nan ∨ ∃ neg, nv = .inf neg) : LiteralValueAt s := by
  rw [Literal.mathValue_eq] at h
  have cInf : LiteralValueAt "Inf".toList :=
    sameNumber_of_bits _ 0x7ff0000000000000 (by decide +kernel)
  have cNeg : LiteralValueAt ('-' :: "Inf".toList) :=
    sameNumber_of_bits _ 0xfff0000000000000 (by decide +kernel)
  have cPos : LiteralValueAt ('+' :: "Inf".toList) :=
    sameNumber_of_bits _ 0x7ff0000000000000 (by decide +kernel)
  have cNaN : LiteralValueAt "NaN".toList :=
    sameNumber_of_bits _ 0x7ff8000000000001 (by decide +kernel)
  rcases Literal.signOf_cases s with ⟨r, rfl, hs⟩ | ⟨r, rfl, hs⟩ | ⟨hs, _, _⟩
  · rw [hs] at h
    rcases Literal.mathBody_special _ _ _ h hk with rfl | ⟨hn, _⟩
    · exact cNeg
    · cases hn
  · rw [hs] at h
    rcases Literal.mathBody_special _ _ _ h hk with rfl | ⟨hn, _⟩
    · exact cPos
    · cases hn
  · rw [hs] at h
    rcases Literal.mathBody_special _ _ _ h hk with rfl | ⟨_, rfl⟩
    · exact cInf
    · exact cNaN

example : mathValue "-Inf".toList = some (.inf true, true) ∧ mathValue "NaN".toList = some (.nan, true) := by decide +kernel

/-- the one-word spellings for which `LiteralValue` is proved: every integer verdict without a leading `+`
(hex, octal, binary, decimal with underscores, minus sign), every uint64 verdict (`…ULL` in base 10, 16, 8),
and the supported `Inf`/`NaN` words -/
def CoveredSpelling (s : List Char) : Prop :=
  (∃ v sup, mathValue s = some (.int v, sup) ∧
      (sup = true ∨ ∃ body, (s = body ∨ s = '-' :: body) ∧ digitsUnderscores body = true)) ∨
  (∃ n sup, mathValue s = some (.uint n, sup)) ∨
  (∃ nv, mathValue s = some (nv, true) ∧ (nv = .nan ∨ ∃ neg, nv = .inf neg))

/-- The proved part of `LiteralValue`: for every covered spelling (of any
length) the reader model answers what the specification demands. Missing from the full statement: the
finite fraction/exponent literals (verdict `.dec`: the model's `ParseFloat` rounding vs `Spec.nearestF64`, both
exact algorithms, compared bit for bit on every op but not proved equal), spellings with a leading `+` and
signed based literals (verdict `may`), and the spellings that are no numbers (that the reader reads nothing
else as a number). -/
theorem literal_value_partial (s : List Char) (h : CoveredSpelling s) : LiteralValueAt s := by
  rcases h with ⟨v, sup, h, hc⟩ | ⟨n, sup, h⟩ | ⟨nv, h, hk⟩
  · exact literal_value_int s v sup h hc
  · exact literal_value_uint s n sup h
  · exact literal_value_inf_nan s nv h hk

example : CoveredSpelling "0x7fffffffffffffff".toList :=
  Or.inl ⟨9223372036854775807, true, by decide +kernel, Or.inl rfl⟩

/-- an ingredient of `literal_value_partial`: `strconv.ParseInt/ParseUint` as the parser uses them
(Horner evaluation) compute the POSITIONAL value Σ dᵢ·baseⁿ⁻¹⁻ⁱ of the specification, for every
digit string and every base. -/
theorem literal_digits_positional (base : Nat) (ds : List Char) :
    NumLit.natOfDigits base ds = (digitsOf base ds).map (posValue base) :=
  Literal.natOfDigits_eq_posValue base ds

/-- an ingredient of `literal_value_partial`: the hex, octal, binary and (unsigned) decimal-with-underscores
tokens convert to the positional value of their digits when it fits int64, and to an error
otherwise. (The step from a spelling to its token and on to the reader's answer: `literal_value_int`,
`literal_value_uint`.) -/
theorem literal_int_tokens (c : Char) (r : List Char) :
    (isHexC c = true → atomOfTok ⟨.hex, c :: r⟩ = some (Literal.numeralValue 16 (c :: r))) ∧
    (isHexC c = true → atomOfTok ⟨.oct, c :: r⟩ = some (Literal.numeralValue 8 (c :: r))) ∧
    (isHexC c = true → atomOfTok ⟨.binary, c :: r⟩ = some (Literal.numeralValue 2 (c :: r))) ∧
    (isDig c = true → atomOfTok ⟨.decimal, c :: r⟩ = some (Literal.numeralValue 10 (dropUnderscores (c :: r)))) :=
  ⟨Literal.literal_hex c r, Literal.literal_oct c r, Literal.literal_binary c r, Literal.literal_decimal c r⟩

example : isHexC 'f' = true ∧ Literal.numeralValue 16 ['f', 'F'] = some (.int 255) ∧
    Literal.numeralValue 2 ['1', '0', '1'] = some (.int 5) := ⟨by decide, by rfl, by rfl⟩

/-- an ingredient of `literal_value_partial`, repo fix C12-05: where a signed number may start (after any
rune of `canStartSignedNumberAfter`, e.g. the start of the text, a blank, `(`), `-.` followed by
a digit — every digit, every lexer state ready for a new token — begins ONE atom `-.d`; the minus
is not split off as a symbol. (What the atom then denotes is `FloatRegex` + `ParseFloat`:
`neg_fraction_fixed` for instances, the `rt l` enumeration for all short spellings.) -/
theorem neg_fraction_begins (T : List Token) (l d : Char) (hl : canStartSignedNumberAfter l = true) (hd : isDig d = true) :
    Lex ⟨.normal, [], T, l⟩ ['-', '.', d] ⟨.normal, ['-', '.', d], T, d⟩ := by
  simpa using (reads_minus_dot_digit l d hl hd).lex T

example : canStartSignedNumberAfter '(' = true ∧ isDig '5' = true := by decide +kernel

/-- the tokens of a text, by the lexer before fix C12-05 -/
def legacyTokens (t : List Char) : List Token := (Legacy.Lexer.core (Legacy.Lexer.feed (.ok LexCore.init) t)).tokens

/-- the recorded finding `rt l 45.46.53` on the pre-fix lexer: `-.5` was the symbol `-` followed
by the float `.5` — and `(list -.5)` a list of two elements -/
theorem neg_fraction_counterexample :
    legacyTokens "-.5 ".toList = [⟨.symbol, ['-']⟩, ⟨.float, ".5".toList⟩] := by decide +kernel

/-- repaired: `-.5` is one float token and reads as -0.5 (bits 0xbfe0000000000000), whole, in any
pieces, inside a list; `-.25e` stays what it was (`FloatRegex` has no such form); `-.a` and `a-.5`
(no sign position) are still split as before -/
theorem neg_fraction_fixed :
    (Legacy.Lexer.core (feed (.ok LexCore.init) "-.5 ".toList)).tokens = [⟨.float, "-.5".toList⟩] ∧
    Props.C13.isOneFloat (parseChunks ["-.5".toList]) 0xbfe0000000000000 = true ∧
    Props.C13.isOneFloat (parseChunks [['-'], ['.'], ['5']]) 0xbfe0000000000000 = true ∧
    (Legacy.Lexer.core (feed (.ok LexCore.init) "(a -.5 -.a b-.5)".toList)).tokens =
      [⟨.lparen, []⟩, ⟨.symbol, ['a']⟩, ⟨.float, "-.5".toList⟩, ⟨.symbol, ['-']⟩, ⟨.dotSymbol, ".a".toList⟩,
       ⟨.symbol, ['b']⟩, ⟨.symbol, ['-']⟩, ⟨.float, ".5".toList⟩, ⟨.rparen, []⟩] ∧
    legacyTokens "(a -.a b-.5)".toList = (Legacy.Lexer.core (feed (.ok LexCore.init) "(a -.a b-.5)".toList)).tokens := by
  decide +kernel

/-- **Full statement** (NOT proved; impl vs spec on every generated JSON-like value, `e` ops of the
`rt` channel, and model vs impl): a JSON-like value (numbers, strings, booleans, nil, arrays,
hashes with distinct symbol or string keys) printed, read and evaluated is the value again, key
order included. The printer half is `printJ`; reading `{k:v …}` goes through the `{`-look-ahead of
the parser and `MakeHash`/`HashSet` (Model/EvalData). -/
def EvalPrintJsonlike : Prop :=
  ∀ (ff : FloatFmt), FloatLaw ff → ∀ v : JV, isJsonLike v = true →
    (readOne (printJ ff v)).bind evalData = some v

/-- Proved part of `EvalPrintJsonlike`, by structural induction (any
nesting depth, any length): every JSON-like value WITHOUT A HASH inside and with finite floats — 64-bit
integers, finite floats (relative to `FloatLaw`), strings of any runes, booleans, nil, arrays of such values
nested to any depth — printed, read (`read_print_data_partial` on the data value `toRead v` that the text
denotes) and evaluated (arrays element-wise, atoms to themselves) is the value again. `nil` is INCLUDED: it
prints as `nil`, reads back as the symbol `nil` (the known finding of the data half), and that symbol
evaluates to nil. Missing from the full statement: hashes (`{k:v …}` is read through the `{` look-ahead and
`MakeHash`/`HashSet`: model vs implementation vs specification on every generated hash, `rt e` ops) and
±Inf. -/
theorem eval_print_jsonlike_partial (ff : FloatFmt) (hlaw : FloatLaw ff) (v : JV) (hj : isJsonLike v = true)
    (hf : hashFree v = true) : (readOne (printJ ff v)).bind evalData = some v := by
  have hrp := read_print ff hlaw (toRead v) (okV_toRead v hj hf) LexState.init [printSexp ff (toRead v)] (by simp)
  rw [print_toRead ff v hf] at hrp
  have h1 : (parseChunks [printJ ff v]).status = .done := hrp.1
  have h2 : (parseChunks [printJ ff v]).exprs = [toRead v] := hrp.2
  have hra : readAll (printJ ff v) = some [toRead v] := by simp [readAll, h1, h2]
  have hro : readOne (printJ ff v) = some (toRead v) := by simp [readOne, hra]
  rw [hro]
  exact eval_toRead v hf

/-- non-vacuity: `[1 "a\"b" [nil true 2.5] []]` is JSON-like and hash-free -/
example : isJsonLike (.arr [.int 1, .str ['a', '"', 'b'], .arr [.nil, .bool true, .flt 0x4004000000000000 false], .arr []]) = true ∧
    hashFree (.arr [.int 1, .str ['a', '"', 'b'], .arr [.nil, .bool true, .flt 0x4004000000000000 false], .arr []]) = true := by
  decide +kernel

/-- what `nil` does on the way: printed `nil`, read as the symbol, evaluated to nil -/
example : toRead .nil = .sym "nil".toList false false ∧ evalData (.sym "nil".toList false false) = some .nil := ⟨rfl, by rfl⟩

/-- fix C12-04 at work: a string key holding a quote and a backslash is printed as a string
literal that reads back (the escapes are those of `string_literal_roundtrip`) -/
example : printKey (.str ['a', '"', '\\']) = ['"', 'a', '\\', '"', '\\', '\\', '"'] := by decide +kernel

/-- The tests of `DecodeAtom`, in source order, with the token each produces: the order the
recognisers are tried in `Lexer.decodeAtom`. -/
def cascadeExpected : List (String × String × String) :=
  [("strip-colon atom[n-1] == ':'", "-", "-"),
   ("== \"&\"", "TokenSymbol", "\"&\""),
   ("== \"\\\\\"", "TokenBackslash", "\"\""),
   ("BoolRegex", "TokenBool", "atom"),
   ("Uint64Regex", "TokenUint64", "atom"),
   ("DecimalRegex", "TokenDecimal", "atom"),
   ("HexRegex", "TokenHex", "atom[2:]"),
   ("OctRegex", "TokenOct", "atom[2:]"),
   ("BinaryRegex", "TokenBinary", "atom[2:]"),
   ("FloatRegex", "TokenFloat", "atom"),
   ("== \"NaN\" || == \"nan\"", "TokenFloat", "\"NaN\""),
   ("InfRegex", "TokenFloat", "atom"),
   ("DotSymbolRegex", "TokenDotSymbol", "atom"),
   ("BuiltinOpRegex", "TokenSymbol", "atom"),
   ("== \":\"", "TokenSymbol", "atom"),
   ("SymbolRegex", "TokenSymbolColon", "atom[:n-1]"),
   ("CharRegex", "TokenChar", "char"),
   ("endColon", "TokenColonOperator", "\":\"")]

theorem cascade_order_match : Generated.ReadPrint.decodeAtomCascade = cascadeExpected := rfl

theorem hex_escape_lens_match : Generated.ReadPrint.hexEscapeLens = [(120, 2), (117, 4), (85, 8)] := by decide

theorem hex_escape_lens_is_model :
    ∀ p ∈ Generated.ReadPrint.hexEscapeLens, hexEscapeLen (Char.ofNat p.1) = p.2 := by decide

/-- the reader's escape table (regenerated) is the one of the model (also checked by C13) -/
theorem escape_cases_match : Generated.LexTables.escapeCases = escapeTable := by decide

/-- which `strconv` conversion each literal token goes through, with its base -/
theorem literal_conversions_match : Generated.ReadPrint.literalConversions =
    [("TokenUint64", "ParseUint", "base"), ("TokenDecimal", "ParseInt", "10"), ("TokenHex", "ParseInt", "16"),
     ("TokenOct", "ParseInt", "8"), ("TokenBinary", "ParseInt", "2"), ("TokenFloat", "ParseFloat", "SexpFloatSize"),
     ("TokenSymbol", "ParseFloat", "SexpFloatSize")] := rfl

/-- a character token is decoded as a whole rune (fix C12-01) -/
theorem char_token_decoding_match : Generated.ReadPrint.charTokenDecoding = "utf8.DecodeRuneInString(tok.str)" := rfl

/-- the printer's calls into `strconv`, with their constant arguments (fix C12-03 included) -/
theorem printer_calls_match : Generated.ReadPrint.printerCalls =
    [("SexpInt", "strconv.Itoa(int(i.Val))"),
     ("SexpUint64", "return strconv.FormatUint(i.Val, 10) + \"ULL\""),
     ("SexpUint64", "strconv.FormatUint(i.Val, 10)"),
     ("SexpFloat", "strconv.FormatFloat(f.Val, 'e', -1, SexpFloatSize)"),
     ("SexpFloat", "strconv.FormatFloat(f.Val, 'f', -1, SexpFloatSize)"),
     ("SexpFloat", "strings.ContainsAny(s, \".IN\")"),
     ("SexpFloat", "s += \".0\""),
     ("SexpChar", "strconv.QuoteRune(c.Val)"),
     ("SexpStr", "return \"`\" + s.S + \"`\""),
     ("SexpStr", "strconv.Quote(string(s.S))"),
     ("SexpBool", "return \"true\""),
     ("SexpBool", "return \"false\""),
     ("SexpSymbol", "return sym.name")] := rfl

/-- a string key of a hash is printed with `strconv.Quote` (fix C12-04) -/
theorem hash_string_key_match :
    Generated.ReadPrint.hashStringKey = "str += indInner + strconv.Quote(s.S) + \":\"" := rfl

/-! ## History independence: a literal's value is a function of its spelling alone

Law: `Spec.LiteralHistory.HistoryIndependent`. The specification's reader obeys it by construction
(`spec_history_independent`). The real reader is ONE `Parser` per interpreter that lives as long as the
interpreter (`read`, `eval`, `source`, `EvalString` share it): the `rt H` ops run 2–6 spellings / print-read
round trips on one long-lived reader and compare every step with the specification's answer to that step alone. -/
section History
open ZygoVerif.Spec.LiteralHistory

/-- the reader model as a reader with memory. Its state is the lexer state the history left behind — the only
state the model has, and (`parser_state_inventory`) the only state the real `Parser` has; `nxt` is whatever
state a text leaves. The answer is status + expressions of `parseChunksFrom`. -/
def modelReader (nxt : LexState → List Char → LexState) : Reader LexState (Status × List Sexp) :=
  ⟨fun l t => (((parseChunksFrom l [t]).status, (parseChunksFrom l [t]).exprs), nxt l t)⟩

/-- The reader model obeys the law from every initial state and
whatever state each text leaves: in every history every text (any text, not only numerals) gets the answer it
gets when read alone. (From C13's `parseChunksFrom_eq_abstract`: the result does not depend on the lexer state.) -/
theorem model_reader_history_independent (nxt : LexState → List Char → LexState) (l0 : LexState) :
    HistoryIndependent (modelReader nxt) l0 :=
  historyIndependent_of_answer_stateless _ (fun s s' t => by
    obtain ⟨a1, b1⟩ := Props.C13.parseChunksFrom_eq_abstract s [t]
    obtain ⟨a2, b2⟩ := Props.C13.parseChunksFrom_eq_abstract s' [t]
    show ((parseChunksFrom s [t]).status, (parseChunksFrom s [t]).exprs)
       = ((parseChunksFrom s' [t]).status, (parseChunksFrom s' [t]).exprs)
    rw [a1, b1, a2, b2]) l0

/-- instance (the theorem has no hypotheses): the fresh reader, any history — e.g. `0b101`, `101`, `0x101` -/
example : (modelReader (fun l _ => l)).run LexState.init ["0b101".toList, "101".toList, "0x101".toList]
    = ["0b101".toList, "101".toList, "0x101".toList].map (fun t => ((modelReader (fun l _ => l)).read LexState.init t).1) :=
  model_reader_history_independent (fun l _ => l) LexState.init _

/-- T1: the state of the real `Parser` (regenerated field list). Every field is either reassigned whenever a
new text is handed in (`ResetAddNewInput`), or is on the explicit list: the lexer (its own fields are covered
by C13's `reset_assigns_every_field`), the interpreter, and two per-expression flags. A table that remembers
earlier texts (a memo of converted literals, an interning cache) is a new field and breaks this. -/
theorem parser_state_inventory :
    ∀ f ∈ Generated.LexTables.parserFields,
      f ∈ ["lexer", "env", "inBacktick", "recur"] ∨ f ∈ Generated.LexTables.parserResetAddNewInputAssigns := by
  decide +kernel

/-- the law has teeth — a reader that remembers converted integer literals by their DIGITS alone (what
`DecodeAtom` leaves of `0b101`, `0x101`, `1_01`: the notation is only in the token type) -/
def digitMemoReader : Reader (List (List Char × Nat)) Nat :=
  ⟨fun memo t =>
    let bd : Nat × List Char := match t with
      | '0' :: 'x' :: d => (16, d)
      | '0' :: 'o' :: d => (8, d)
      | '0' :: 'b' :: d => (2, d)
      | d => (10, d)
    match memo.lookup bd.2 with
    | some v => (v, memo)
    | none =>
      let v := bd.2.foldl (fun a c => a * bd.1 + (c.toNat - 48)) 0
      (v, (bd.2, v) :: memo)⟩

/-- after `0b101` the decimal `101` reads as 5: such a reader violates the law -/
theorem history_law_counterexample_digit_memo : ¬ HistoryIndependent digitMemoReader [] := by
  intro h
  have h2 := h ["0b101".toList, "101".toList]
  revert h2
  decide

end History

/-- before C12-01 a character literal kept the first byte: `'é'` (U+00E9) read as 195 (`Ã`) -/
theorem char_first_byte_counterexample :
    Legacy.ReadPrint.charOfTok ⟨.char, ['é']⟩ = 195 ∧ ('é').toNat = 233 := by decide

/-- before C12-02 the reader refused escapes the printer writes: `strconv.Quote` writes a
vertical tab as `\v`, a control character as `\x01`, U+0080 as `\u0080` -/
theorem escape_table_counterexample :
    quoteStr ['\x0b'] = ['"', '\\', 'v', '"'] ∧ Legacy.ReadPrint.escapeChar 'v' = none ∧
    quoteStr ['\x01'] = ['"', '\\', 'x', '0', '1', '"'] ∧ Legacy.ReadPrint.escapeChar 'x' = none ∧
    Legacy.ReadPrint.escapeChar 'u' = none ∧ Legacy.ReadPrint.escapeChar 'U' = none ∧
    Legacy.ReadPrint.escapeChar 'b' = none ∧ Legacy.ReadPrint.escapeChar 'f' = none := by decide +kernel

/-- before C12-03 the float 2.0 (FormatFloat gives `2`) printed as `2`, which is read as the
INTEGER 2 -/
theorem whole_float_counterexample :
    Legacy.ReadPrint.printFloat (fun _ _ => ['2']) 0x4000000000000000 false = ['2'] ∧
    (decodeAtom ['2']).toOption = some ⟨.decimal, ['2']⟩ ∧
    atomOfTok ⟨.decimal, ['2']⟩ = some (some (.int 2)) ∧
    printFloat (fun _ _ => ['2']) 0x4000000000000000 false = ['2', '.', '0'] :=
  ⟨rfl, by decide, rfl, by decide⟩

/-- before C12-04 the string key `a"b` printed as `"a"b"`: the literal ends after `a` -/
theorem hash_key_counterexample :
    Legacy.ReadPrint.printStrKey ['a', '"', 'b'] = ['"', 'a', '"', 'b', '"'] ∧
    printKey (.str ['a', '"', 'b']) = ['"', 'a', '\\', '"', 'b', '"'] := by decide

end ZygoVerif.Props.C12
