/-
C07 — numbers compare and compute exactly as specified.

The model (`Model/Num.lean`) follows zygo/comparisons.go + zygo/numerictower.go; the spec (`Spec/MathOrder.lean`) is
the mathematical order / arithmetic in ℤ. Integer, unsigned and char statements hold for
all 2^64 (2^32) values with no assumption; float statements are relative to `IEEELaws`.
-/
import ZygoVerif.Model.Num
import ZygoVerif.Model.Legacy
import ZygoVerif.Model.GoSem
import ZygoVerif.Generated.NumGo
import ZygoVerif.Spec.MathOrder
namespace ZygoVerif.Num

theorem cmpInt64_exact (a b : BitVec 64) : cmpInt64 a b = ordToInt (cmpZ a.toInt b.toInt) := by
  unfold cmpInt64 cmpZ
  simp only [BitVec.slt, decide_eq_true_eq]
  split
  · rfl
  · split <;> rfl

theorem cmpUint64_exact (a b : BitVec 64) :
    cmpUint64 a b = ordToInt (cmpZ a.toNat b.toNat) := by
  unfold cmpUint64 cmpZ
  simp only [BitVec.ult, decide_eq_true_eq, Int.ofNat_lt]
  split
  · rfl
  · split <;> rfl

theorem runeToInt64_toInt (c : BitVec 32) : (runeToInt64 c).toInt = c.toInt := by
  unfold runeToInt64
  exact BitVec.toInt_signExtend_of_le (by decide)

/-- The three-way result of the model's `Compare`, read as "what the spec says". -/
def decode : Int → Option Ordering
  | -1 => some .lt
  | 0 => some .eq
  | 1 => some .gt
  | _ => none

theorem decode_ordToInt (o : Ordering) : decode (ordToInt o) = some o := by
  cases o <;> rfl

variable {fs : FloatSem}

/-- **cmp_exact**: for every pair of numeric operands the model of `Compare` returns the
error exactly when the spec says "not comparable", a NaN code (> 1) exactly when the spec
says "unordered", and otherwise the mathematical order. Integers/unsigned/chars: all
values, unconditionally. Floats: relative to `IEEELaws`. -/
theorem cmp_exact (L : IEEELaws fs) (a b : NumV fs.F) :
    (compare fs a b).map (fun r => if r > 1 then none else decode r) = specCmp fs L.cmp a b := by
  cases a <;> cases b <;> simp only [compare, specCmp, Option.map]
  case int.int a b | int.char a b | char.int a b | char.char a b =>
    simp [cmpInt64_exact, decode_ordToInt, runeToInt64_toInt]
    cases cmpZ a.toInt b.toInt <;> decide
  case uint.uint a b =>
    simp [cmpUint64_exact, decode_ordToInt]
    cases cmpZ (a.toNat : Int) b.toNat <;> decide
  case int.flt a e | char.flt a e =>
    cases h : fs.isNaN e
    · simp [floatOfInt64, floatOfRune, L.signum_sub _ _ (L.ofInt_notNaN _) h, decode_ordToInt]
      cases L.cmp (fs.ofInt a.toInt) e <;> decide
    · simp
  case flt.int f b | flt.char f b =>
    cases h : fs.isNaN f
    · simp [floatOfInt64, floatOfRune, L.signum_sub _ _ h (L.ofInt_notNaN _), decode_ordToInt]
      cases L.cmp f (fs.ofInt b.toInt) <;> decide
    · simp
  case flt.flt f e =>
    cases hf : fs.isNaN f <;> cases he : fs.isNaN e <;> simp
    · simp [L.signum_sub _ _ hf he, decode_ordToInt]
      cases L.cmp f e <;> decide
  all_goals rfl

theorem cmpInt64_range (a b : BitVec 64) :
    cmpInt64 a b = -1 ∨ cmpInt64 a b = 0 ∨ cmpInt64 a b = 1 := by
  unfold cmpInt64; (repeat' split) <;> simp

theorem cmpUint64_range (a b : BitVec 64) :
    cmpUint64 a b = -1 ∨ cmpUint64 a b = 0 ∨ cmpUint64 a b = 1 := by
  unfold cmpUint64; (repeat' split) <;> simp

theorem signumFloat_range (f : fs.F) :
    signumFloat fs f = -1 ∨ signumFloat fs f = 0 ∨ signumFloat fs f = 1 := by
  unfold signumFloat; (repeat' split) <;> simp

private theorem range_of_tri {x r : Int} (hx : x = -1 ∨ x = 0 ∨ x = 1) (h : some x = some r) :
    r = -1 ∨ r = 0 ∨ r = 1 ∨ r = 2 ∨ r = 3 := by
  injection h with h; subst h
  rcases hx with h | h | h <;> simp [h]

private theorem range_of_nan {c : Bool} {x r : Int} (hx : x = -1 ∨ x = 0 ∨ x = 1)
    (h : (if c = true then some 2 else some x) = some r) :
    r = -1 ∨ r = 0 ∨ r = 1 ∨ r = 2 ∨ r = 3 := by
  cases c
  · exact range_of_tri hx h
  · injection h with h; subst h; simp

/-- `Compare` only ever answers -1, 0, 1 (ordered) or 2, 3 (NaN codes). -/
theorem compare_range (a b : NumV fs.F) (r : Int) (h : compare fs a b = some r) :
    r = -1 ∨ r = 0 ∨ r = 1 ∨ r = 2 ∨ r = 3 := by
  cases a <;> cases b <;> simp only [compare] at h
  case int.int | int.char | char.int | char.char => exact range_of_tri (cmpInt64_range _ _) h
  case uint.uint => exact range_of_tri (cmpUint64_range _ _) h
  case int.flt | char.flt | flt.int | flt.char => exact range_of_nan (signumFloat_range _) h
  case flt.flt x y =>
    cases hx : fs.isNaN x <;> cases hy : fs.isNaN y <;> simp [hx, hy] at h
    · exact range_of_tri (signumFloat_range (fs.sub x y)) (congrArg some h)
    all_goals (subst h; simp)
  all_goals exact absurd h (by simp)

/-- **compareFn_spec**: every comparison operator, on every pair of numeric operands,
answers what the mathematical order says (`CompareFunction` = `specCompareFn`). -/
theorem compareFn_spec (L : IEEELaws fs) (op : CmpOp) (a b : NumV fs.F) :
    compareFn fs op a b = specCompareFn fs L.cmp op a b := by
  have h := cmp_exact L a b
  unfold compareFn specCompareFn
  rw [← h]
  cases hc : compare fs a b with
  | none => rfl
  | some r =>
    simp only [Option.map]
    rcases compare_range a b r hc with rfl | rfl | rfl | rfl | rfl <;> cases op <;> decide

/-- NaN is unequal to and unordered against everything, from either side. -/
theorem nan_unordered (L : IEEELaws fs) (op : CmpOp) (a b : NumV fs.F)
    (hn : (∃ f, a = .flt f ∧ fs.isNaN f = true) ∨ (∃ f, b = .flt f ∧ fs.isNaN f = true))
    (hcomp : specCmp fs L.cmp a b ≠ none) :
    compareFn fs op a b = .ok (op == .ne) := by
  rw [compareFn_spec L]
  unfold specCompareFn
  rcases hn with ⟨f, rfl, hf⟩ | ⟨f, rfl, hf⟩
  · cases b <;> simp_all [specCmp, specOp]
  · cases a <;> simp_all [specCmp, specOp]

/-- … including ITSELF: the model (and, by `genCompareFn_eq_model`, the translated code) is a
function of the two operand VALUES, so an operand pair that is one NaN object is answered like
any other NaN pair (`Spec.compare_is_value_level`). An identity shortcut in `Compare`
(`if a == b { return 0 }`) is not expressible at value level: the translator refuses it, and
the `same` ops of channel `num` feed one object as both operands to the real code. -/
theorem nan_self_unordered (L : IEEELaws fs) (op : CmpOp) (store : Nat → NumV fs.F) (i : Nat)
    (f : fs.F) (hs : store i = .flt f) (hn : fs.isNaN f = true) :
    compareFn fs op (store i) (store i) = specCompareRef fs L.cmp op store i i ∧
    compareFn fs op (store i) (store i) = .ok (op == .ne) := by
  have h := compareFn_spec L op (store i) (store i)
  refine ⟨h, ?_⟩
  rw [h]
  exact spec_nan_self_unordered fs L.cmp op store i f hs hn

/-- For ordered (non-NaN, comparable) operands exactly one of `<`, `==`, `>` holds. -/
theorem trichotomy (L : IEEELaws fs) (a b : NumV fs.F) (o : Ordering)
    (h : specCmp fs L.cmp a b = some (some o)) :
    ∃ x y z, compareFn fs .lt a b = .ok x ∧ compareFn fs .eq a b = .ok y ∧
      compareFn fs .gt a b = .ok z ∧
      ((x = true ∧ y = false ∧ z = false) ∨ (x = false ∧ y = true ∧ z = false) ∨
       (x = false ∧ y = false ∧ z = true)) := by
  simp only [compareFn_spec L, specCompareFn, h]
  cases o <;> simp [specOp]

theorem cmpZ_swap (a b : Int) : cmpZ a b = (cmpZ b a).swap := by
  unfold cmpZ
  split <;> split <;> first | rfl | omega

theorem specCmp_swap (L : IEEELaws fs) (a b : NumV fs.F) :
    specCmp fs L.cmp a b = (specCmp fs L.cmp b a).map (fun r => r.map Ordering.swap) := by
  cases a <;> cases b <;> simp only [specCmp, Option.map]
  case int.int | int.char | char.int | char.char | uint.uint => rw [cmpZ_swap]
  case int.flt a e | char.flt a e => cases fs.isNaN e <;> simp [L.cmp_swap e]
  case flt.int f b | flt.char f b => cases fs.isNaN f <;> simp [L.cmp_swap f]
  case flt.flt f e =>
    cases hf : fs.isNaN f <;> cases he : fs.isNaN e <;> simp [L.cmp_swap f e]

/-- `(< a b)` always equals `(> b a)` (all numeric pairs, NaN included). -/
theorem lt_gt_swap (L : IEEELaws fs) (a b : NumV fs.F) :
    compareFn fs .lt a b = compareFn fs .gt b a := by
  simp only [compareFn_spec L, specCompareFn]
  rw [specCmp_swap L a b]
  cases specCmp fs L.cmp b a with
  | none => rfl
  | some r =>
    cases r with
    | none => rfl
    | some o => cases o <;> rfl

/-- Integer `+ - *` wrap modulo 2^64, as in Go. -/
theorem int_arith_wraps (op : ArOp) (a b : BitVec 64) (z : Int)
    (h : specIntArith op a.toInt b.toInt = some z) :
    intDo fs op a b = .ok (.int (BitVec.ofInt 64 z)) := by
  cases op <;> simp only [specIntArith] at h <;> try (injection h with h; subst h)
  · simp [intDo, BitVec.ofInt_add]
  · simp [intDo, Int.sub_eq_add_neg, BitVec.ofInt_add, BitVec.ofInt_neg, BitVec.sub_eq_add_neg]
  · simp [intDo, BitVec.ofInt_mul]
  · exact absurd h (by simp)

theorem uint_arith_wraps (op : ArOp) (a b : BitVec 64) (z : Int)
    (h : specIntArith op a.toNat b.toNat = some z) :
    uintDo fs op a b = .ok (.uint (BitVec.ofInt 64 z)) := by
  cases op <;> simp only [specIntArith] at h <;> try (injection h with h; subst h)
  · simp [uintDo, BitVec.ofInt_add]
  · simp [uintDo, Int.sub_eq_add_neg, BitVec.ofInt_add, BitVec.ofInt_neg, BitVec.sub_eq_add_neg]
  · simp [uintDo, BitVec.ofInt_mul]
  · exact absurd h (by simp)

/-- Integer division is exact when it divides (barring the one quotient, 2^63, that
int64 cannot hold: `minInt / -1` wraps like every other integer result) … -/
theorem int_div_exact (a b : BitVec 64) (hb : b ≠ 0#64) (hdvd : b.toInt ∣ a.toInt)
    (hov : a ≠ BitVec.intMin 64 ∨ b ≠ -1#64) :
    ∃ q : BitVec 64, intDo fs .div a b = .ok (.int q) ∧ q.toInt * b.toInt = a.toInt := by
  have hrem : a.srem b = 0#64 := by
    apply BitVec.eq_of_toInt_eq
    rw [BitVec.toInt_srem]
    simp only [BitVec.toInt_zero]
    exact Int.tmod_eq_zero_of_dvd hdvd
  refine ⟨a.sdiv b, ?_, ?_⟩
  · simp [intDo, hb, hrem]
  · rw [BitVec.toInt_sdiv_of_ne_or_ne _ _ hov]
    exact Int.tdiv_mul_cancel hdvd

/-- … and floating otherwise. -/
theorem int_div_inexact (a b : BitVec 64) (hb : b ≠ 0#64) (hndvd : ¬ b.toInt ∣ a.toInt) :
    intDo fs .div a b = .ok (.flt (fs.div (fs.ofInt a.toInt) (fs.ofInt b.toInt))) := by
  have hrem : a.srem b ≠ 0#64 := by
    intro h
    apply hndvd
    have := congrArg BitVec.toInt h
    rw [BitVec.toInt_srem] at this
    simp only [BitVec.toInt_zero] at this
    exact Int.dvd_of_tmod_eq_zero this
  simp [intDo, hb, hrem, floatOfInt64]

/-- Division or modulo by zero is an error for the script, never a crash: the Go panic is
caught by the builtin-call wrapper (`recovered` models `CallUserFunction`'s `recover`). -/
theorem div_mod_zero_is_error (a : BitVec 64) :
    recovered (intDo fs .div a 0#64) = .err ∧ recovered (uintDo fs .div a 0#64) = .err ∧
    recovered (moduloDo fs (.int a) (.int 0#64)) = .err ∧
    recovered (moduloDo fs (.uint a) (.uint 0#64)) = .err := by
  simp [intDo, uintDo, moduloDo, recovered]

/-- Mixed integer/float arithmetic is carried out in float64. -/
theorem mixed_is_float (op : ArOp) (a : BitVec 64) (f : fs.F) :
    numericDo fs op (.int a) (.flt f) = .ok (floatDo fs op (fs.ofInt a.toInt) f) ∧
    numericDo fs op (.flt f) (.int a) = .ok (floatDo fs op f (fs.ofInt a.toInt)) := by
  simp [numericDo, floatOfInt64]

/-! ### tie T1: the code as TRANSLATED from today's Go source equals the hand-written model

`Generated/NumGo.lean` is regenerated on every run by `extract/ex_numtrans.go` from the
go/ast + go/types form of zygo/comparisons.go and zygo/numerictower.go. The three
`generated_eq_model_*` theorems below say that the translated entry points `Compare`,
`NumericDo` and `IntegerDo` (with every helper they call, whatever it is called today) are
extensionally equal to `Model/Num.lean` on all numeric operands, so every theorem above is a
theorem about the translated code (`gen_*` restate the headline ones). A source change that
alters behaviour breaks these proofs; one that does not (and stays inside the translated
subset) leaves them intact. The proof scripts name no helper function and no local variable
of the Go code: `numgo_unfold` (generated) unfolds whatever definitions exist. It is called once
per theorem, before the operands are split into kinds: most of its cost is setting up the
equations of the translated functions, not rewriting with them. -/

open ZygoVerif.GoSem

/-- The model's numeric values as operands of the translated code. -/
def sx : NumV fs.F → Sx fs.F
  | .int v => .int v
  | .uint v => .uint v
  | .char v => .char v
  | .flt f => .flt f

/-- The model's three-way result (`Option Int`) as the translated code returns it
(`(int, error)` with Go's 64-bit `int`). -/
def resOfCmp : Option Int → Res (BitVec 64)
  | none => .err
  | some z => .ok (BitVec.ofInt 64 z)

def arOp : ArOp → NumericOp
  | .add => .Add
  | .sub => .Sub
  | .mul => .Mult
  | .div => .Div

/-- What the translator could neither translate nor fall back on (missing entry point,
missing last-good copy, operand struct or enum constant that left its expected shape). -/
theorem translator_problems_empty : NumGo.problems = [] := rfl

/-- `compare` on two floats, with the NaN count of the Go code resolved into its four cases. -/
theorem compare_flt_flt (f e : fs.F) : compare fs (.flt f) (.flt e) =
    if fs.isNaN f then (if fs.isNaN e then some 3 else some 2)
    else if fs.isNaN e then some 2 else some (signumFloat fs (fs.sub f e)) := by
  simp only [compare]
  cases fs.isNaN f <;> cases fs.isNaN e <;> rfl

/-- **generated_eq_model (Compare)**: the translated `(*Zlisp).Compare` — with `compareInt`,
`compareUint64`, `compareChar`, `compareFloat`, `cmpInt64`, `signumFloat` as they are today —
equals the model on every pair of numeric operands (all 2^128 integer pairs included). -/
theorem generated_eq_model_compare (a b : NumV fs.F) :
    NumGo.Compare fs (sx a) (sx b) = resOfCmp (compare fs a b) := by
  numgo_unfold
  -- both sides become trees of `if`s with the results at the leaves; the trees coincide
  cases a <;> cases b <;>
    simp only [sx, ↓compare_flt_flt, compare, cmpInt64, cmpUint64, signumFloat, apply_ite (fun z => resOfCmp (some z)),
      apply_ite resOfCmp, apply_ite (Res.ok (α := BitVec 64))] <;>
    rfl

/-- **generated_eq_model (NumericDo)**: the translated `NumericDo` with `NumericMatch*` and
`Numeric{Int,Uint64,Float}Do` equals the model for `+ - * /` on every pair of numeric operands. -/
theorem generated_eq_model_numericDo (op : ArOp) (a b : NumV fs.F) :
    NumGo.NumericDo fs (arOp op) (sx a) (sx b) = mapRes sx (numericDo fs op a b) := by
  cases op
  -- `+ - *` branch on nothing but the operand kinds: both sides compute to the same term
  case add => cases a <;> cases b <;> rfl
  case sub => cases a <;> cases b <;> rfl
  case mul => cases a <;> cases b <;> rfl
  case div =>
    simp only [arOp]
    numgo_unfold
    cases a <;> cases b <;>
      simp only [sx, numericDo, intDo, uintDo, beq_iff_eq, apply_ite (charBack fs),
        apply_ite (mapRes sx)] <;>
      -- `delta`, not `simp only`: the rune conversion also occurs inside the `Decidable` instances
      -- of the model's `if`s, where `simp` does not rewrite, and `split` needs the conditions of
      -- the two sides to coincide
      (try delta runeToInt64) <;> (repeat' split) <;> rfl

/-- **generated_eq_model (IntegerDo Modulo)**: the translated `IntegerDo`/`UintegerDo` at
`Modulo` (the `mod` builtin) equals the model. -/
theorem generated_eq_model_modulo (a b : NumV fs.F) :
    NumGo.IntegerDo fs .Modulo (sx a) (sx b) = mapRes sx (moduloDo fs a b) := by
  numgo_unfold
  cases a <;> cases b <;> simp only [sx, moduloDo, beq_iff_eq, apply_ite (mapRes sx)] <;>
    (try delta runeToInt64) <;> (repeat' split) <;> rfl

/-- The translated `compareBool` (reached through `Compare`): `true > false`; a bool is not
comparable with a number. -/
theorem generated_compareBool (x y : Bool) (n : NumV fs.F) :
    NumGo.Compare fs (.bool x) (.bool y) =
      .ok (if x = y then 0#64 else if x then 1#64 else (-1#64)) ∧
    NumGo.Compare fs (.bool x) (sx n) = .err ∧ NumGo.Compare fs (sx n) (.bool x) = .err :=
  ⟨by cases x <;> cases y <;> rfl, by cases n <;> rfl, by cases n <;> rfl⟩

private theorem ofInt_toInt_small (z : Int) (h : z = -1 ∨ z = 0 ∨ z = 1 ∨ z = 2 ∨ z = 3) :
    (BitVec.ofInt 64 z).toInt = z := by
  rcases h with rfl | rfl | rfl | rfl | rfl <;> decide

/-- How `CompareFunction` reads the `(int, error)` of `Compare`. -/
def decodeRes : Res (BitVec 64) → Option (Option Ordering)
  | .ok v => some (if v.toInt > 1 then none else decode v.toInt)
  | _ => none

/-- **gen_cmp_exact**: the translated `Compare` returns an error exactly when the operand
types are not comparable, a NaN code exactly when the spec says "unordered", and otherwise
the mathematical order — for every pair of numeric operands. -/
theorem gen_cmp_exact (L : IEEELaws fs) (a b : NumV fs.F) :
    decodeRes (NumGo.Compare fs (sx a) (sx b)) = specCmp fs L.cmp a b := by
  rw [generated_eq_model_compare, ← cmp_exact L a b]
  cases h : compare fs a b with
  | none => rfl
  | some r => simp only [resOfCmp, decodeRes, Option.map, ofInt_toInt_small r (compare_range a b r h)]

/-- The body of `CompareFunction(name)` (hand-modelled glue: argument count, operator name)
applied to the translated `Compare`. -/
def genCompareFn (op : CmpOp) (a b : NumV fs.F) : Res Bool :=
  match NumGo.Compare fs (sx a) (sx b) with
  | .ok res =>
    if res.toInt > 1 then .ok (op == .ne)
    else .ok (match op with
      | .lt => res.toInt < 0
      | .gt => res.toInt > 0
      | .le => res.toInt ≤ 0
      | .ge => res.toInt ≥ 0
      | .eq => res.toInt == 0
      | .ne => res.toInt != 0)
  | .err => .err
  | .panic => .panic

theorem genCompareFn_eq_model (op : CmpOp) (a b : NumV fs.F) :
    genCompareFn op a b = compareFn fs op a b := by
  unfold genCompareFn compareFn
  rw [generated_eq_model_compare]
  cases h : compare fs a b with
  | none => rfl
  | some r => simp only [resOfCmp, ofInt_toInt_small r (compare_range a b r h)]; rfl

/-- **gen_compareFn_spec**: every comparison operator over the translated `Compare` answers
what the mathematical order says. -/
theorem gen_compareFn_spec (L : IEEELaws fs) (op : CmpOp) (a b : NumV fs.F) :
    genCompareFn op a b = specCompareFn fs L.cmp op a b := by
  rw [genCompareFn_eq_model, compareFn_spec L]

theorem gen_lt_gt_swap (L : IEEELaws fs) (a b : NumV fs.F) :
    genCompareFn .lt a b = genCompareFn .gt b a := by
  rw [genCompareFn_eq_model, genCompareFn_eq_model, lt_gt_swap L]

theorem gen_nan_unordered (L : IEEELaws fs) (op : CmpOp) (a b : NumV fs.F)
    (hn : (∃ f, a = .flt f ∧ fs.isNaN f = true) ∨ (∃ f, b = .flt f ∧ fs.isNaN f = true))
    (hcomp : specCmp fs L.cmp a b ≠ none) :
    genCompareFn op a b = .ok (op == .ne) := by
  rw [genCompareFn_eq_model, nan_unordered L op a b hn hcomp]

/-- Integer `+ - *` of the translated `NumericDo` wrap modulo 2^64. -/
theorem gen_int_arith_wraps (op : ArOp) (a b : BitVec 64) (z : Int)
    (h : specIntArith op a.toInt b.toInt = some z) :
    NumGo.NumericDo fs (arOp op) (.int a) (.int b) = .ok (.int (BitVec.ofInt 64 z)) := by
  have := generated_eq_model_numericDo (fs := fs) op (.int a) (.int b)
  simp only [sx, numericDo, int_arith_wraps op a b z h, mapRes] at this
  exact this

theorem gen_uint_arith_wraps (op : ArOp) (a b : BitVec 64) (z : Int)
    (h : specIntArith op a.toNat b.toNat = some z) :
    NumGo.NumericDo fs (arOp op) (.uint a) (.uint b) = .ok (.uint (BitVec.ofInt 64 z)) := by
  have := generated_eq_model_numericDo (fs := fs) op (.uint a) (.uint b)
  simp only [sx, numericDo, uint_arith_wraps op a b z h, mapRes] at this
  exact this

/-- Division and modulo by zero in the translated code are the outcome `panic` (which the
builtin-call wrapper reports as an error), never a value. -/
theorem gen_div_mod_zero_is_error (a : BitVec 64) :
    recovered (NumGo.NumericDo fs .Div (.int a) (.int 0#64)) = .err ∧
    recovered (NumGo.NumericDo fs .Div (.uint a) (.uint 0#64)) = .err ∧
    recovered (NumGo.IntegerDo fs .Modulo (.int a) (.int 0#64)) = .err ∧
    recovered (NumGo.IntegerDo fs .Modulo (.uint a) (.uint 0#64)) = .err := by
  have h1 := generated_eq_model_numericDo (fs := fs) .div (.int a) (.int 0#64)
  have h2 := generated_eq_model_numericDo (fs := fs) .div (.uint a) (.uint 0#64)
  have h3 := generated_eq_model_modulo (fs := fs) (.int a) (.int 0#64)
  have h4 := generated_eq_model_modulo (fs := fs) (.uint a) (.uint 0#64)
  simp only [sx, arOp] at h1 h2 h3 h4
  rw [h1, h2, h3, h4]
  simp [numericDo, intDo, uintDo, moduloDo, mapRes, recovered]

/-- Mixed integer/float arithmetic of the translated code is carried out in float64. -/
theorem gen_mixed_is_float (op : ArOp) (a : BitVec 64) (f : fs.F) :
    NumGo.NumericDo fs (arOp op) (.int a) (.flt f) = .ok (sx (floatDo fs op (fs.ofInt a.toInt) f)) ∧
    NumGo.NumericDo fs (arOp op) (.flt f) (.int a) = .ok (sx (floatDo fs op f (fs.ofInt a.toInt))) := by
  have h1 := generated_eq_model_numericDo (fs := fs) op (.int a) (.flt f)
  have h2 := generated_eq_model_numericDo (fs := fs) op (.flt f) (.int a)
  simp only [sx] at h1 h2
  rw [h1, h2]
  simp [numericDo, floatOfInt64, mapRes]

/-- A FloatSem with a one-point carrier: enough to run the integer arms in `example`s. -/
def unitFloat : FloatSem where
  F := Unit
  isNaN := fun _ => false
  lt := fun _ _ => false
  add := fun _ _ => ()
  sub := fun _ _ => ()
  mul := fun _ _ => ()
  div := fun _ _ => ()
  ofInt := fun _ => ()
  zero := ()

example : NumGo.Compare unitFloat (.int (BitVec.intMin 64)) (.int 1#64) = .ok (-1#64) := by decide
example : NumGo.Compare unitFloat (.uint 1#64) (.uint (BitVec.allOnes 64)) = .ok (-1#64) := by decide
example : NumGo.NumericDo unitFloat .Div (.int 7#64) (.int 0#64) = .panic := by rfl
example : NumGo.NumericDo unitFloat .Add (.int (BitVec.intMax 64)) (.int 1#64) = .ok (.int (BitVec.intMin 64)) := by rfl

/-! ### non-vacuity: the hypotheses are met by concrete operands next to the limits -/

example : cmpInt64 (BitVec.intMin 64) 1#64 = -1 := by decide
example : cmpUint64 1#64 2#64 = -1 := by decide
example : cmpUint64 (BitVec.allOnes 64) 0#64 = 1 := by decide
example : (specIntArith .add (BitVec.intMax 64).toInt (1#64).toInt).isSome := by decide

/-! ### the pinned (pre-fix) code violated the property: kernel-checked witnesses -/

/-- `(< -9223372036854775808 1)` was false: sign of a wrapping difference. -/
theorem legacy_cmpInt_counterexample :
    Legacy.cmpIntBySub (BitVec.intMin 64) 1#64 = 1 ∧
    ordToInt (cmpZ (BitVec.intMin 64).toInt (1#64).toInt) = -1 := by decide

/-- `(< 1ULL 2ULL)` was false: an unsigned difference is never negative. -/
theorem legacy_cmpUint_never_less (a b : BitVec 64) : Legacy.cmpUintBySub a b ≠ -1 := by
  simp only [Legacy.cmpUintBySub]; split <;> omega

theorem legacy_cmpUint_counterexample : Legacy.cmpUintBySub 1#64 2#64 = 1 := by decide

end ZygoVerif.Num
