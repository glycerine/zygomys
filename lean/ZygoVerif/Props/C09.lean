/-
C09 — tail calls are free and invisible.

  "A function that calls itself in tail position (directly, or as the last form of cond arms,
   begin, let, letseq, newScope bodies or the last arm of and/or, nested in any combination)
   runs in space independent of the recursion depth … The optimisation is invisible: the call
   returns the same value and has the same effects, including what closures created during
   earlier iterations observe, as the same function evaluated without the optimisation."

The model is `Model/Gen.lean` (generator) + `Model/VM.lean` (VM), following /repo with the
fixes fc05fc7 (fresh function scope per iteration), 5554b40 + 8aa1632 (tail flag cleared for let
initialisers, array elements, assignment targets, …), c9a2ccf (a self call with the wrong
number of operands is an ordinary call) and d5acb02 (C09-02: guard in front of the tail sequence). Tail position is defined independently in `Spec/TailPos.lean`.

Proved here, for programs of every size, every nesting of the contexts and every depth:

 (a) `tail_position_gets_tail_sequence`   a self call in tail position of the body (through any
                                          nesting of the listed contexts) is compiled to the
                                          tail sequence — operands, `PrepareCall`,
                                          `RemoveScope × (k+1)`, `Goto 0`;
     `tail_position_gets_tail_sequence_from`
                                          the same when the operands fit the function in every state whose
                                          tables extend those the body was entered with (`Sim.KeepFns`) — for a
                                          function registered in `known`, a condition on the entry state alone
                                          (`Tail.knownFn_keep`); the theorem above asks it of every state;
     `tail_flag_only_in_tail_position`    a call reached through at least one non-tail step is
                                          compiled to one ordinary `CallExpr`, never to a jump;
     `self_call_dichotomy` (+`_from`)     every inline occurrence is one or the other.
 (b) `tail_sequence_layout`               the number of `RemoveScope` is the number of scopes
                                          open on entry of the compiled form + the number of
                                          `let`/`letseq`/`newScope` crossed + 1 (function scope);
     `tail_sequence_layout_from`          and the generator reaches the call in a state that extends the tables
                                          of the one it started in.
 (c) `tail_call_reenters_at_entry_depths` segment lemma on the real loop `VM.runLoop`: from the
                                          tail sequence the machine reaches instruction 0 of the
                                          same function with the data, scope and address stack
                                          depths of the first entry;
     `tail_call_constant_space_partial`   hence, by induction on the number of iterations, every
                                          re-entry has those depths — assuming each body stretch
                                          between an entry and the next tail sequence is balanced
                                          (that is C04's theorem about generated code; here it is a
                                          hypothesis, checked dynamically by the `probe` oracle of
                                          channel `tail`).
     `bodyBalanced_of_matched`            that hypothesis DERIVED from C04's verifier (`Bal.tail_site_depths`:
                                          in any verified function a tail sequence stands under exactly
                                          k+1 scopes and, behind `PrepareCall`, the formals' worth of
                                          operands) for body stretches that are matched by a run of the
                                          stack-effect machine (`MatchedBody`);
     `tail_call_constant_space`           the induction without the balance hypothesis (what `MatchedBody`
                                          still assumes per iteration is the refinement VM.exec ⊑ Bal.CStep);
     `verified_of_generated`              every `fn`/`defn` the model generator makes is verified (C04
                                          `gen_balanced`), so `MatchedBody.verified` holds for them.
     `tail_call_constant_space_same_activation`, `reentry_has_entry_depths`
                                          NO balance hypothesis, NO refinement hypothesis: for every entry
                                          state that satisfies the run-time invariant of C04's calling
                                          contract (`RunInv.WF`, `RunInv.Running`), every re-entry of that
                                          activation at instruction 0 — after any number of tail sequences,
                                          nested calls, callees — has the depths of the entry.
     `TailCallConstantSpace_asFirstStated` the statement over all loaded programs as first written: FALSE
                                          (a later activation at the same address depth passes for the same
                                          one); kept visible, counterexample in its docstring.
     `TailCallConstantSpace`              the repaired full statement (same activation: the address stack is
                                          never shorter in between; programs of the generator's grammar);
     `tail_call_constant_space_full`      PROVED: `loaded_invariant` (every state a loaded program reaches
                                          satisfies the run-time invariant, the top-level text being the
                                          bottom activation) + the same-activation theorem.
     `tail_guard_passes`                  (fix C09-02) the sequence starts with a guard that looks the
                                          name up before the operands; it lets the jump happen exactly
                                          when the name still denotes the function object that is running;
     `tail_call_falls_back_to_ordinary_call`
                                          otherwise one step leads, with nothing but `pc` changed, to the
                                          ordinary `CallExpr` of the same call emitted behind the jump.
                                          The body stretch of `BodyBalanced` therefore contains a passed
                                          guard: constant space is claimed for the iterations in which the
                                          name still denotes the running function, and only for those.
 (d) `TcoTransparent`                     full statement (VM model = reference evaluator), NOT proved;
     `tco_transparent_partial`            the parts proved: the continuation is never dropped
                                          (only tail positions jump), the tail sequence changes
                                          nothing but pc / scope stack / packed operands, and the
                                          next iteration binds its parameters in a scope that did
                                          not exist before — so no scope captured by a closure of
                                          an earlier iteration is written.
     `legacy_tail_call_rebinds_captured_scope_counterexample`
                                          the pre-fc05fc7 sequence (`Goto 1`) does write it.
-/
import ZygoVerif.Proofs.Tail
import ZygoVerif.Proofs.TailVM
import ZygoVerif.Proofs.TailSite
import ZygoVerif.Proofs.GenBalancedAll
import ZygoVerif.Proofs.VMRefine
import ZygoVerif.Proofs.RunAct
import ZygoVerif.Proofs.RunMain
import ZygoVerif.Model.LegacyTail
import ZygoVerif.Spec.RefEval
namespace ZygoVerif.C09
open ZygoVerif.Core ZygoVerif.VM ZygoVerif.TailSpec ZygoVerif.Tail ZygoVerif.TailVM

/-! ## (a), (b): the generator -/

/-- `buildSexpFun` compiles a body as a `begin` with `Tail` on, no extra scope, under the
function's own name. -/
def bodyCtx (f : String) (known : List (String × Nat)) : Ctx := ⟨true, 0, f, known⟩

/-- What the generator emits for a self call in tail position (after fix C09-02): the guard,
the operands, the tail sequence proper (`TailVM.tailSeq`: `PrepareCall`, `RemoveScope × (k+1)`,
`Goto 0`) and, behind the jump, the ordinary call the guard skips to. -/
def selfTailCode (f : String) (args : List Expr) (k : Nat) (argcode : List Instr) : List Instr :=
  [Instr.tailGuard f (argcode.length + k + 4)] ++ argcode ++ tailSeq f args.length k ++ [Instr.callExpr (.sym f) args]

/-- the stretch the guard jumps over — itself, the operands, the tail sequence — and its length -/
theorem selfTailCode_split (f : String) (args : List Expr) (k : Nat) (argcode : List Instr) :
    selfTailCode f args k argcode = (Instr.tailGuard f (argcode.length + k + 4) :: (argcode ++ tailSeq f args.length k)) ++
      [Instr.callExpr (.sym f) args] ∧
    (Instr.tailGuard f (argcode.length + k + 4) :: (argcode ++ tailSeq f args.length k)).length = argcode.length + k + 4 :=
  ⟨by simp [selfTailCode], by simp [tailSeq]; omega⟩

/-- the guard's `skip` is exactly the distance to the ordinary call -/
theorem selfTailCode_skip (f : String) (args : List Expr) (k : Nat) (argcode : List Instr) :
    (selfTailCode f args k argcode)[argcode.length + k + 4]? = some (Instr.callExpr (.sym f) args) := by
  obtain ⟨h1, h2⟩ := selfTailCode_split f args k argcode
  rw [h1, List.getElem?_append_right (by omega), h2]
  simp

/-- (b), and where the generator stands when it reaches the call: in a state `gs1` whose tables extend those
of `gs` (`KeepFns`), so that what `known` says of a function registered in `gs` still holds there. -/
theorem tail_sequence_layout_from {isFn : Nat → Bool} {f : String} {kn : List (String × Nat)} {e : Expr}
    {args : List Expr} {k0 k : Nat} {gs : GS} {r}
    (hpos : TailAt k e (.call (.sym f) args))
    (hc : compile isFn ⟨true, k0, f, kn⟩ e gs = .ok r) :
    ∃ gs1 : GS, Sim.KeepFns gs gs1 ∧
      (ArityOk ((kn.lookup f).bind fun t => gs1.fns[t]?) args.length = true →
        ∃ argcode, Seg r.1.1 (selfTailCode f args (k0 + k) argcode)) ∧
      (ArityOk ((kn.lookup f).bind fun t => gs1.fns[t]?) args.length = false →
        Seg r.1.1 [Instr.callExpr (.sym f) args]) := by
  obtain ⟨gs1, r1, hk, h1, hseg⟩ := tailAt_emits hpos hc
  refine ⟨gs1, hk, ?_, ?_⟩
  · intro harity
    obtain ⟨argcode, hcode⟩ := self_call_tail h1 harity
    refine ⟨argcode, ?_⟩
    rw [hcode] at hseg
    simpa [selfTailCode, tailSeq, List.append_assoc] using hseg
  · intro harity
    rw [self_call_wrong_arity h1 harity] at hseg
    exact hseg

/-- (b) The tail sequence pops exactly the scopes open at that point: those open when the
enclosing form `e` was entered (`k0`), those crossed inside it (`k`), and the function scope.
A self call in tail position is handled by the tail-call arm of `GenerateCallBySymbol` (under a
context with `Tail` on and `scopes = k0 + k`, in some generator state `gs1`); that arm emits
the tail sequence when the number of operands fits the function registered under the name at
that point (`ArityOk`, fix c9a2ccf) and one ordinary call — which reports the arity error at
run time — when it does not. -/
theorem tail_sequence_layout {isFn : Nat → Bool} {f : String} {kn : List (String × Nat)} {e : Expr}
    {args : List Expr} {k0 k : Nat} {gs : GS} {r}
    (hpos : TailAt k e (.call (.sym f) args))
    (hc : compile isFn ⟨true, k0, f, kn⟩ e gs = .ok r) :
    ∃ gs1 : GS,
      (ArityOk ((kn.lookup f).bind fun t => gs1.fns[t]?) args.length = true →
        ∃ argcode, Seg r.1.1 (selfTailCode f args (k0 + k) argcode)) ∧
      (ArityOk ((kn.lookup f).bind fun t => gs1.fns[t]?) args.length = false →
        Seg r.1.1 [Instr.callExpr (.sym f) args]) := by
  obtain ⟨gs1, _, h⟩ := tail_sequence_layout_from hpos hc
  exact ⟨gs1, h⟩

/-- (a, converse) A self call in tail position of a function body is compiled to the tail sequence, with
`k+1` `RemoveScope` for `k` crossed scopes, when its number of operands fits the function in every state the
generator's tables can be in while the body is compiled (`KeepFns gs gs1`). For a function the generator knows
that is a condition on `gs` alone: `buildSexpFun` registers the template before it compiles the body, and no
later state holds another one under that index (`Tail.knownFn_keep`). -/
theorem tail_position_gets_tail_sequence_from {isFn : Nat → Bool} {f : String} {kn : List (String × Nat)}
    {body : List Expr} {args : List Expr} {k : Nat} {gs : GS} {r}
    (hpos : TailAt k (.begin_ body) (.call (.sym f) args))
    (harity : ∀ gs1 : GS, Sim.KeepFns gs gs1 → ArityOk ((kn.lookup f).bind fun t => gs1.fns[t]?) args.length = true)
    (hc : compileBegin isFn (bodyCtx f kn) body gs = .ok r) :
    ∃ argcode, Seg r.1.1 (selfTailCode f args k argcode) := by
  have hne : body ≠ [] := by
    intro h; subst h
    cases hpos with
    | step st _ => cases st with | beginLast hl => cases hl
  have hc' : compile isFn ⟨true, 0, f, kn⟩ (.begin_ body) gs = .ok r := by
    cases body with
    | nil => exact absurd rfl hne
    | cons x xs => simpa [compile, bodyCtx] using hc
  obtain ⟨gs1, hk, h1, _⟩ := tail_sequence_layout_from (k0 := 0) hpos hc'
  simpa using h1 (harity gs1 hk)

/-- (a, converse) A self call in tail position of a function body, with a number of operands
that fits the function (in whatever state the function table is), is compiled to the tail
sequence, with `k+1` `RemoveScope` for `k` crossed scopes. -/
theorem tail_position_gets_tail_sequence {isFn : Nat → Bool} {f : String} {kn : List (String × Nat)}
    {body : List Expr} {args : List Expr} {k : Nat} {gs : GS} {r}
    (hpos : TailAt k (.begin_ body) (.call (.sym f) args))
    (harity : ∀ gs1 : GS, ArityOk ((kn.lookup f).bind fun t => gs1.fns[t]?) args.length = true)
    (hc : compileBegin isFn (bodyCtx f kn) body gs = .ok r) :
    ∃ argcode, Seg r.1.1 (selfTailCode f args k argcode) :=
  tail_position_gets_tail_sequence_from hpos (fun gs1 _ => harity gs1) hc

/-- (a) The tail flag reaches tail positions only: a call (to the function itself or to
anything else) reached through at least one non-tail step is compiled, as an occurrence of its
own, to exactly one ordinary `CallExpr` — no `PrepareCall`, no `Goto`. -/
theorem tail_flag_only_in_tail_position {isFn : Nat → Bool} {f h : String} {kn : List (String × Nat)}
    {body : List Expr} {args : List Expr} {gs : GS} {r}
    (hpos : NonTailAt (.begin_ body) (.call (.sym h) args))
    (hc : compileBegin isFn (bodyCtx f kn) body gs = .ok r) :
    ∃ k' gs1 r1, compile isFn ⟨false, k', f, kn⟩ (.call (.sym h) args) gs1 = .ok r1 ∧
      r1.1.1 = [Instr.callExpr (.sym h) args] ∧ Seg r.1.1 r1.1.1 := by
  have hc' : compile isFn ⟨true, 0, f, kn⟩ (.begin_ body) gs = .ok r := by
    cases body with
    | nil =>
      cases hpos with
      | nonTail st _ => cases st with | beginInner hm => cases hm
      | tail st _ => cases st with | beginLast hl => cases hl
    | cons x xs => simpa [compile, bodyCtx] using hc
  obtain ⟨k', gs1, r1, _, h1, hseg⟩ := nonTailAt_emits hpos hc'
  exact ⟨k', gs1, r1, h1, call_off h1, hseg⟩

/-- Every inline occurrence of a self call is compiled one way or the other, and which one is
decided by the path alone (the arity condition as in `tail_position_gets_tail_sequence_from`). -/
theorem self_call_dichotomy_from {isFn : Nat → Bool} {f : String} {kn : List (String × Nat)}
    {body : List Expr} {args : List Expr} {gs : GS} {r}
    (hpos : Inline (.begin_ body) (.call (.sym f) args))
    (harity : ∀ gs1 : GS, Sim.KeepFns gs gs1 → ArityOk ((kn.lookup f).bind fun t => gs1.fns[t]?) args.length = true)
    (hc : compileBegin isFn (bodyCtx f kn) body gs = .ok r) :
    (∃ k argcode, TailAt k (.begin_ body) (.call (.sym f) args) ∧ Seg r.1.1 (selfTailCode f args k argcode)) ∨
    (NonTailAt (.begin_ body) (.call (.sym f) args) ∧ Seg r.1.1 [Instr.callExpr (.sym f) args]) := by
  rcases inline_dichotomy hpos with ⟨k, hk⟩ | hn
  · obtain ⟨argcode, h⟩ := tail_position_gets_tail_sequence_from hk harity hc
    exact .inl ⟨k, argcode, hk, h⟩
  · obtain ⟨_, _, r1, _, h2, h3⟩ := tail_flag_only_in_tail_position hn hc
    exact .inr ⟨hn, h2 ▸ h3⟩

/-- Every inline occurrence of a self call is compiled one way or the other, and which one is
decided by the path alone. -/
theorem self_call_dichotomy {isFn : Nat → Bool} {f : String} {kn : List (String × Nat)}
    {body : List Expr} {args : List Expr} {gs : GS} {r}
    (hpos : Inline (.begin_ body) (.call (.sym f) args))
    (harity : ∀ gs1 : GS, ArityOk ((kn.lookup f).bind fun t => gs1.fns[t]?) args.length = true)
    (hc : compileBegin isFn (bodyCtx f kn) body gs = .ok r) :
    (∃ k argcode, TailAt k (.begin_ body) (.call (.sym f) args) ∧ Seg r.1.1 (selfTailCode f args k argcode)) ∨
    (NonTailAt (.begin_ body) (.call (.sym f) args) ∧ Seg r.1.1 [Instr.callExpr (.sym f) args]) :=
  self_call_dichotomy_from hpos (fun gs1 _ => harity gs1) hc

/-! ### Non-vacuity -/

/-- `(cond (== n 0) a (let [x 1] (newScope x (and true (f (- n 1) (+ a n))))))` -/
def exBody : List Expr :=
  [.cond [(.call (.sym "==") [.sym "n", .int 0], .sym "a")]
    (.let_ false [("x", .int 1)]
      [.newScope [.sym "x", .and_ [.bool true, .call (.sym "f") [.call (.sym "-") [.sym "n", .int 1], .call (.sym "+") [.sym "a", .sym "n"]]]]])]

def exArgs : List Expr := [.call (.sym "-") [.sym "n", .int 1], .call (.sym "+") [.sym "a", .sym "n"]]

def exCall : Expr := .call (.sym "f") [.call (.sym "-") [.sym "n", .int 1], .call (.sym "+") [.sym "a", .sym "n"]]

theorem exCall_tailAt : TailAt 2 (.begin_ exBody) exCall :=
  TailAt.step (sc := false) (TailStep.beginLast rfl) <|
  TailAt.step (sc := false) TailStep.condDefault <|
  TailAt.step (sc := true) (TailStep.letLast rfl) <|
  TailAt.step (sc := true) (TailStep.newScopeLast rfl) <|
  TailAt.step (sc := false) (TailStep.andLast rfl) TailAt.here

/-- the self call of `exBody` is in tail position under two scopes -/
example : TailAt 2 (.begin_ exBody) exCall := exCall_tailAt

/-- and the generator accepts the body: the hypotheses of the theorems above are satisfiable. -/
example : ∃ r, compileBegin (fun _ => false) (bodyCtx "f" []) exBody ⟨[], [], [], []⟩ = .ok r ∧
    r.1.1.length = 25 ∧ r.1.1 = r.1.1.take 14 ++ selfTailCode "f" exArgs 2 (r.1.1.drop 15 |>.take 2) ++ r.1.1.drop 23 := ⟨_, rfl, by decide, rfl⟩

/-- The same with the function registered, as `buildSexpFun` leaves it before it compiles the body: template 0
is `f` (here with a rest parameter only, `(defn f [& r] …)`) and `known` maps the name to it. The hypotheses of
`tail_position_gets_tail_sequence_from` hold. -/
example : ∃ r, compileBegin (fun _ => false) (bodyCtx "f" [("f", 0)]) exBody
      ⟨[{ name := "f", varargs := true, params := ["r"] }], [], [], []⟩ = .ok r ∧
    ∃ argcode, Seg r.1.1 (selfTailCode "f" exArgs 2 argcode) :=
  have hc : compileBegin (fun _ => false) (bodyCtx "f" [("f", 0)]) exBody
      ⟨[{ name := "f", varargs := true, params := ["r"] }], [], [], []⟩ = .ok _ := rfl
  ⟨_, hc, tail_position_gets_tail_sequence_from exCall_tailAt
    (fun _ hk => by rw [knownFn_keep hk fun t h => by cases h; decide]; decide) hc⟩

/-- `(cond (f (- n 1)) 1 2)`: the cond test is reached by a non-tail step -/
example : NonTailAt (.begin_ [.cond [(.call (.sym "f") [.sym "n"], .int 1)] (.int 2)]) (.call (.sym "f") [.sym "n"]) :=
  NonTailAt.tail (TailStep.beginLast rfl) (NonTailAt.nonTail (NonTailStep.condTest (List.mem_singleton.mpr rfl)) Inline.here)

/-! ## (c): space -/

/-- `s` stands at the tail sequence of a self call of `x`: `PrepareCall` succeeds and leaves
the operands `data'` (`np` of them above `d` older slots); `ext` — the `k` extra scopes and the
function scope — lies above `L` on the scope stack; `a` return addresses. -/
structure TailSite (s : St) (x : String) (nargs k np d a : Nat) (L : List (Option Nat)) (data' : List (Option Val)) : Prop where
  code : ∃ p rest, At s p (tailSeq x nargs k ++ rest)
  prep : ∀ n, (exec (n + 1) (.prepareCall x nargs)).run s = (.ok (), { s with pc := s.pc + 1, data := data' })
  operands : data'.length = d + np
  scopes : ∃ ext, s.linear = ext ++ L ∧ ext.length = k + 1
  addr : s.addr.length = a

/-- `s` stands at instruction 0 of function `f` with `np` operands above `d` data slots,
`l` scopes and `a` return addresses: the state right after `CallFunction`. -/
structure Entry (s : St) (f np d l a : Nat) : Prop where
  pc : s.pc = 0
  cur : s.curfunc = f
  data : s.data.length = d + np
  scopes : s.linear.length = l
  addr : s.addr.length = a

/-- the state the tail sequence leads to -/
def reentry (s : St) (L : List (Option Nat)) (data' : List (Option Val)) : St :=
  { s with pc := 0, linear := L, data := data' }

/-- (c) **Segment lemma.** Executing the tail sequence on the real loop: `k+3` steps later the
machine stands at instruction 0 of the same function, with the same data-stack depth
(`d + np`), scope-stack depth (`|L|`) and address-stack depth (`a`) as after the original
call's entry; the scope table, the heap, the trace are untouched. -/
theorem tail_call_reenters_at_entry_depths {s : St} {x : String} {nargs k np d a : Nat}
    {L : List (Option Nat)} {data' : List (Option Val)} (h : TailSite s x nargs k np d a L data') :
    (∀ fuel st, (runLoop (fuel + 1 + (k + 3)) st).run s = (runLoop (fuel + 1) st).run (reentry s L data')) ∧
    Entry (reentry s L data') s.curfunc np d L.length a ∧
    (reentry s L data').scopes = s.scopes ∧ (reentry s L data').heap = s.heap ∧
    (reentry s L data').trace = s.trace ∧ (reentry s L data').fns = s.fns := by
  obtain ⟨p, rest, hat⟩ := h.code
  obtain ⟨ext, hlin, he⟩ := h.scopes
  refine ⟨fun fuel st => tail_sequence st fuel s p x nargs k rest ext L data' hat h.prep hlin he,
    ⟨rfl, rfl, h.operands, rfl, h.addr⟩, rfl, rfl, rfl, rfl⟩

/-- The balance assumption about a body (a relation `body E T`: "from the entry state `E` the
body runs to the tail sequence, reached in state `T`"): started at an entry with the depths
`(d+np, l, a)` it reaches a tail sequence of the same function with the operands above the
same `d` slots, the function scope and some `k` extra scopes above the same `l` scopes, and
the same `a` return addresses. This is what C04's `gen_balanced`/`checker_sound` say about
generated code; the `probe` oracle of channel `tail` checks it on the implementation (and on
the model) at every iteration. -/
def BodyBalanced (body : St → St → Prop) (f np d l a : Nat) : Prop :=
  ∀ E T, Entry E f np d l a → body E T →
    T.curfunc = f ∧ ∃ x nargs k L data', TailSite T x nargs k np d a L data' ∧ L.length = l

/-- `n` iterations of a tail-recursive function: from an entry state the body runs to a tail
sequence (state `T`), and the tail sequence leads to the next entry state — `reentry T L data'`
for whatever tail site `T` is (by `tail_call_reenters_at_entry_depths` that is where the
real loop `runLoop` continues). -/
inductive Iterations (body : St → St → Prop) (np d a : Nat) : Nat → St → St → Prop
  | zero {E : St} : Iterations body np d a 0 E E
  | succ {n : Nat} {E E' T E'' : St} :
      Iterations body np d a n E E' → body E' T →
      (∀ x nargs k L data', TailSite T x nargs k np d a L data' → E'' = reentry T L data') →
      Iterations body np d a (n + 1) E E''

/-- one successful step of the loop `runLoop` -/
def VmStep (s s' : St) : Prop :=
  ∃ fuel i, ¬ (s.pc = -1 ∨ s.pc ≥ curSize s) ∧ (fnOf s s.curfunc).code[s.pc.toNat]? = some i ∧
    (exec (fuel + 1) i).run s = (.ok (), s')

inductive VmReach : St → St → Prop
  | refl {s : St} : VmReach s s
  | step {s s' s'' : St} : VmStep s s' → VmReach s' s'' → VmReach s s''

/-- the body stretch of one activation of `f`, as the machine runs it: from `E` to a state
of the same activation (same function, same address-stack depth) that stands at a tail sequence -/
def vmBody (f : Nat) (E T : St) : Prop :=
  VmReach E T ∧ T.curfunc = f ∧ T.addr.length = E.addr.length ∧
    ∃ x nargs k p rest, At T p (tailSeq x nargs k ++ rest)

/-- `s0` is the initial interpreter with the program `p` loaded (as `VM.runText` does it) -/
def Loaded (p : List Expr) (s0 : St) : Prop :=
  ∃ code t s1, (runGen (compileBegin (isFnScope initSt) {} p)).run initSt = (.ok (code, t), s1) ∧
    s0 = { s1 with fns := s1.fns.set mainFn { (fnOf s1 mainFn) with code := (fnOf s1 mainFn).code ++ code }, curfunc := mainFn }

/-- The statement of (c) **as first written. It is FALSE**, for two reasons, both in
`Iterations (vmBody f)`:

* `vmBody f E T` only asks `T` to be a later state in function `f` at the address-stack depth of
  `E`. That does not make `T` a state of the activation entered at `E`: the activation may have
  returned and `f` been called again from the same caller. With
  `(defn f [n] (cond (== n 0) 0 (f (- n 1))))` and the top-level text `(let [a (f 1) b (f 2)] a)`
  the second call of `f` is made with the value of `(f 1)` still on the data stack below its
  operand (the initialisers of a parallel `let` are all pushed before any is bound), so the tail
  site `T` of the second activation has one more data slot below its operands than the entry `E`
  of the first — and `vmBody f E T` holds.
* for such a `T` no `TailSite T x nargs k np d a L data'` with the `np`, `d` of the iteration
  exists (`operands` fails), so the premise of `Iterations.succ` that ties `E''` to the tail
  site is vacuous: `Iterations (vmBody f) np d a 1 E E''` then holds for EVERY state `E''`.

The repaired statement is `TailCallConstantSpace` below (`vmBodyAct`, `TailIterations`: the run
never goes below the address depth of the entry in between, and the successor state is the
state the tail sequence leads to). A machine-checked refutation of this one needs a concrete
run of the program above (some forty VM steps through `callExpr`'s nested runs); it is not
given. -/
def TailCallConstantSpace_asFirstStated : Prop :=
  ∀ (p : List Expr) (s0 : St), Loaded p s0 →
    ∀ (f np d l a n : Nat) (E E' : St), VmReach s0 E → Entry E f np d l a →
      Iterations (vmBody f) np d a n E E' → Entry E' f np d l a

/-- (c) By induction on the number of iterations: the data, scope and address stack depths at
every re-entry equal those of the first entry — space is independent of the recursion depth.
Partial: `BodyBalanced` (the body between an entry and the next tail sequence is balanced)
is a hypothesis here; it is not derived from the generator (that derivation is C04's
`gen_balanced` + `checker_sound`). -/
theorem tail_call_constant_space_partial (body : St → St → Prop) (f np d l a : Nat)
    (hbal : BodyBalanced body f np d l a) :
    ∀ n E E', Entry E f np d l a → Iterations body np d a n E E' → Entry E' f np d l a := by
  intro n E E' hE hit
  induction hit with
  | zero => exact hE
  | succ _ hb hnext ih =>
    obtain ⟨hcur, x, nargs, k, L, data', hsite, hL⟩ := hbal _ _ (ih hE) hb
    rw [hnext x nargs k L data' hsite]
    have := (tail_call_reenters_at_entry_depths hsite).2.1
    rw [hcur, hL] at this
    exact this


/-! ### (c) with the balance of the body derived from C04 -/

/- `Refine.cellOf`, `Refine.absC`, `Refine.fnB` (Proofs/VMRefine.lean): the state of the stack-effect
machine a VM state stands for (pc, kinds of the cells on the data stack, depths of the scope and
address stacks) and entry `f` of the function table as the balance checker sees it. -/
open ZygoVerif.Refine

/-- The body stretch `E → T` of one activation of `f` as the VM runs it (`vmBody`), **matched by
a run of the stack-effect machine** of the same function: the function is one the verifier
accepts (C04 `gen_balanced_functions`: every template the generator makes is), it was entered
with its `np` formals' worth of values on top, it is still the same function at `T`, the
abstraction of `T` is reachable from the abstraction of `E` in the stack-effect machine, and
`PrepareCall` at the tail site succeeds as a step of that machine. `run` and `prep` are the
refinement "every `VM.exec` step of an activation is a `Bal.CStep`" (calls as one step, by the
calling contract) — proved instruction by instruction in Proofs/VMRefine.lean
(`Refine.exec_refines_partial` and the `refines_*` lemmas: every instruction but `callArr`,
`callExpr`, `ret`), NOT for the VM model as a whole (nested runs); `prep_of_fixed` below proves
`prep` for functions without a rest parameter, `Refine.refines_prepareCall` in general. -/
structure MatchedBody (f np : Nat) (E T : St) : Prop where
  vm : vmBody f E T
  verified : ∃ ann, Bal.verify (fnB E f) ann = true
  arity : (fnOf E f).params.length = np
  args : ∃ D, (absC E).data = List.replicate np .val ++ D
  same : fnOf T f = fnOf E f ∧ T.loops = E.loops
  run : Bal.Reach (fnB E f) (absC E) (absC T)
  prep : ∀ x nargs, (fnOf T T.curfunc).code[T.pc.toNat]? = some (.prepareCall x nargs) →
    ∃ data', (∀ n, (exec (n + 1) (.prepareCall x nargs)).run T = (.ok (), { T with pc := T.pc + 1, data := data' })) ∧
      Bal.CStep (fnB E f) (absC T) (absC { T with pc := T.pc + 1, data := data' })

theorem B_tailSeq (T : List LoopRec) (x : String) (nargs k : Nat) :
    Bal.B T (tailSeq x nargs k) = [.prepareCall nargs] ++ List.replicate (k + 1) .removeScope ++ [.goto 0] := by
  simp [tailSeq, Bal.B, Bal.toB, List.map_replicate]

/-- code the machine stands in front of sits, translated, in the checker's listing at the abstract pc -/
theorem codeAtB_of_at (loops : List LoopRec) {T : St} {p : Nat} {is rest : List Instr} (h : At T p (is ++ rest)) :
    Bal.CodeAtB (Bal.B loops (fnOf T T.curfunc).code) T.pc.toNat (Bal.B loops is) := by
  obtain ⟨pre, post, hc, hpl⟩ := h.code
  intro i hi
  have hpc : T.pc.toNat = pre.length := by rw [h.pc, hpl]; simp
  simp only [Bal.B, List.length_map] at hi
  rw [hpc, hc]
  simp only [Bal.B, List.map_append, List.append_assoc]
  rw [List.getElem?_append_right (by simp), List.length_map, Nat.add_sub_cancel_left,
    List.getElem?_append_left (by simpa using hi)]

/-- **C09's balance hypothesis, discharged by C04.** For a body stretch that is matched by the
stack-effect machine, `BodyBalanced` holds — from `Bal.tail_site_depths` (any verified
function: at a tail sequence `k+1` scopes are open above the caller's, behind `PrepareCall`
exactly the formals' worth of operands lie on the caller's data). -/
theorem bodyBalanced_of_matched (f np d l a : Nat) : BodyBalanced (MatchedBody f np) f np d l a := by
  intro E T hE hm
  obtain ⟨hreach, hcur, haddr, x, nargs, k, p, rest, hat⟩ := hm.vm
  obtain ⟨ann, hv⟩ := hm.verified
  obtain ⟨D, hD⟩ := hm.args
  have hfetch : (fnOf T T.curfunc).code[T.pc.toNat]? = some (.prepareCall x nargs) := hat.fetch.2
  obtain ⟨data', hprep, hcstep⟩ := hm.prep x nargs hfetch
  -- the tail sequence sits in the checker's listing at the abstract pc
  have hcode : Bal.CodeAtB (fnB E f).code (absC T).pc
      ([.prepareCall nargs] ++ List.replicate (k + 1) .removeScope ++ [.goto 0]) := by
    have := codeAtB_of_at E.loops hat
    rwa [hcur, hm.same.1, B_tailSeq] at this
  have hE0 : (absC E).pc = 0 := by show E.pc.toNat = 0; rw [hE.pc]; rfl
  have hent : (fnB E f).entryCount = np := hm.arity
  obtain ⟨hsc, _, _, hnext⟩ := Bal.tail_site_depths (fnB E f) ann hv D l a (absC E) (absC T) hE0
    (by rw [hent]; exact hD) hE.scopes hE.addr hm.run nargs k hcode
  obtain ⟨_, hdata', _, _⟩ := hnext _ hcstep
  have hlenE : d + np = np + D.length := by
    have := congrArg List.length hD
    simp only [absC, List.length_map, List.length_append, List.length_replicate] at this
    rw [← this, hE.data]
  have hlenT : data'.length = np + D.length := by
    have := congrArg List.length hdata'
    simp only [absC, List.length_map, List.length_append, List.length_replicate, hent] at this
    exact this
  have hlin : T.linear.length = l + (k + 1) := hsc
  refine ⟨hcur, x, nargs, k, T.linear.drop (k + 1), data', ⟨⟨p, rest, hat⟩, hprep, by omega,
    ⟨T.linear.take (k + 1), (List.take_append_drop _ _).symm, by rw [List.length_take]; omega⟩,
    by rw [haddr]; exact hE.addr⟩, by rw [List.length_drop]; omega⟩

/-- **(c) without the balance hypothesis**: by induction on the number of iterations, with the
balance of every body stretch derived from the verifier (C04) instead of assumed. What is
still assumed, per iteration, is inside `MatchedBody`: that the VM's run of the stretch is a
run of the stack-effect machine (the refinement of `VM.exec` by `Bal.CStep`). See
`tail_call_constant_space_same_activation` below for the version in which that refinement is
proved (C04's calling contract) instead of assumed. -/
theorem tail_call_constant_space (f np d l a : Nat) :
    ∀ n E E', Entry E f np d l a → Iterations (MatchedBody f np) np d a n E E' → Entry E' f np d l a :=
  tail_call_constant_space_partial (MatchedBody f np) f np d l a (bodyBalanced_of_matched f np d l a)

/-- the `prep` field of `MatchedBody` for a function without a rest parameter: `PrepareCall`
leaves the operands alone, which is the step `prepareFix` of the stack-effect machine -/
theorem prep_of_fixed (f : Nat) (E T : St) (hcur : T.curfunc = f) (hsame : fnOf T f = fnOf E f ∧ T.loops = E.loops)
    (hpc : 0 ≤ T.pc) (hv : (fnOf T T.curfunc).varargs = false) (x : String) (nargs : Nat)
    (hf : (fnOf T T.curfunc).code[T.pc.toNat]? = some (.prepareCall x nargs)) :
    ∃ data', (∀ n, (exec (n + 1) (.prepareCall x nargs)).run T = (.ok (), { T with pc := T.pc + 1, data := data' })) ∧
      Bal.CStep (fnB E f) (absC T) (absC { T with pc := T.pc + 1, data := data' }) := by
  refine ⟨T.data, fun n => by simpa using exec_prepareCall_fixed n T x nargs hv, ?_⟩
  rw [show fnB E f = fnB T T.curfunc by simp only [fnB, hcur, hsame.1, hsame.2]]
  have := Bal.CStep.prepareFix (f := fnB T T.curfunc) (absC T) _ nargs (Refine.fetchB hf) rfl hv
  show Bal.CStep _ _ ⟨(T.pc + 1).toNat, _, _, _⟩
  rw [Refine.pc_succ hpc]
  exact this

/-- the `verified` field of `MatchedBody` for every function object that has the signature and the
code of a template the model generator produced (closures are copies of their template): C04's
`gen_balanced` — by induction over the expression grammar, every `fn`/`defn` body of the covered
grammar (`Bal.okLs`: all core forms, loops, break/continue, nested functions, self tail calls)
is a verified function. -/
theorem verified_of_generated (isFn : Nat → Bool) (es : List Expr) (gs gs' : GS) (code : List Instr) (t : Bool)
    (hok : Bal.okLs es = true) (hgs : Bal.GSok gs)
    (h : compileBegin isFn {} es gs = Except.ok ((code, t), gs'))
    (i : Nat) (tm : FnObj) (hi : gs.fns.length ≤ i) (htm : gs'.fns[i]? = some tm)
    (E : St) (f : Nat) (hc : (fnOf E f).code = tm.code) (hp : (fnOf E f).params.length = tm.params.length)
    (hva : (fnOf E f).varargs = tm.varargs) (hna : (fnOf E f).nargs = tm.nargs) (hl : E.loops = gs'.loops) :
    ∃ ann, Bal.verify (fnB E f) ann = true := by
  have := (Bal.program_verified isFn es gs gs' code t gs'.loops hok hgs (Bal.TOk.self gs gs') h).2 i tm hi htm
  unfold Bal.FnVerified at this
  unfold fnB
  rw [hc, hp, hva, hna, hl]
  exact this

open ZygoVerif.LegacyTail in
/-- Non-vacuity of `MatchedBody`: the concrete tail site `LegacyTail.atTailCall` (function 2 =
`(defn f [n] … (f (- n 1)))` with the guard of fix C09-02, one operand pushed) as a stretch of
zero steps: the verifier accepts the function as the checker sees it (`decide`), one value lies
on top, `PrepareCall` succeeds as a `prepareFix` step. -/
example : MatchedBody 2 1 atTailCall atTailCall where
  vm := ⟨VmReach.refl, rfl, rfl, "f", 1, 0, 4, [.callExpr (.sym "f") [.sym "n"], .removeScope, .ret],
    ⟨rfl, rfl, [.addFuncScope 2, .popStackPutEnv "n", .tailGuard "f" 5, .envToStack "n"], [], rfl, rfl⟩⟩
  verified := Bal.verifies_of_checkB (by decide)
  arity := rfl
  args := ⟨[], rfl⟩
  same := ⟨rfl, rfl⟩
  run := Bal.Reach.refl _
  prep := fun x nargs hf => prep_of_fixed 2 atTailCall atTailCall rfl ⟨rfl, rfl⟩ (by decide) rfl x nargs hf

/-! ### (c) repaired: the same activation, with the refinement proved

`RunInv.ReachAbove a s s'` (Proofs/RunAct.lean): `s'` is reached from `s` by successful steps of
the loop, and no state on the way — `s`, `s'` included — has fewer than `a` return addresses.
A `Ret` of the activation entered with `a` return addresses pops one of them, so a stretch that
stays above `a` never leaves that activation (it may call, and come back; it may take the tail
sequence any number of times). -/

theorem vmStep_iff (s s' : St) : VmStep s s' ↔ RunInv.VmStep s s' := Iff.rfl

theorem vmReach_of_above {a : Nat} {s s' : St} (h : RunInv.ReachAbove a s s') : VmReach s s' := by
  induction h with
  | refl _ => exact .refl
  | step _ hv _ ih => exact .step hv ih

/-- the body stretch of ONE activation of `f`: as `vmBody`, and the address stack is never
shorter than at the entry `E` in between -/
def vmBodyAct (f : Nat) (E T : St) : Prop :=
  RunInv.ReachAbove E.addr.length E T ∧ T.curfunc = f ∧ T.addr.length = E.addr.length ∧
    ∃ x nargs k p rest, At T p (tailSeq x nargs k ++ rest)

theorem vmBody_of_act {f : Nat} {E T : St} (h : vmBodyAct f E T) : vmBody f E T :=
  ⟨vmReach_of_above h.1, h.2.1, h.2.2.1, h.2.2.2⟩

/-- `n` iterations of one activation through its tail sequence: from the entry `E` the run
reaches — without ever going below the address depth of `E` — a state `T` that stands at a tail
sequence whose `PrepareCall` succeeds (`TailSite`, with whatever depths), and the next entry is
the state that tail sequence leads to. Unlike `Iterations`, the successor is a state the
machine really reaches (`tailIterations_reach`), never an arbitrary one. -/
inductive TailIterations (E : St) : Nat → St → Prop
  | zero : TailIterations E 0 E
  | succ {n : Nat} {E' T : St} {x : String} {nargs k np d a : Nat} {L : List (Option Nat)} {data' : List (Option Val)} :
      TailIterations E n E' → RunInv.ReachAbove E.addr.length E' T → T.addr.length = E.addr.length →
      TailSite T x nargs k np d a L data' → TailIterations E (n + 1) (reentry T L data')

/-- what `TailIterations` relates are states of the run: the machine gets from `E` to `E'` by
successful steps without going below the address depth of `E`, and `E'` is again at
instruction 0 at that depth. -/
theorem tailIterations_reach {E : St} (hpc : E.pc = 0) :
    ∀ {n E'}, TailIterations E n E' →
      RunInv.ReachAbove E.addr.length E E' ∧ E'.addr.length = E.addr.length ∧ E'.pc = 0 := by
  intro n E' h
  induction h with
  | zero => exact ⟨.refl (Nat.le_refl _), rfl, hpc⟩
  | succ _ hb ha hs ih =>
    obtain ⟨p, rest, hat⟩ := hs.code
    obtain ⟨ext, hlin, he⟩ := hs.scopes
    have := RunInv.tailSeq_reachAbove _ p _ _ _ rest ext _ _ hat hs.prep hlin he
    rw [ha] at this
    exact ⟨ih.1.trans (hb.trans this), ha, rfl⟩

/-- **The full statement of (c), repaired**: in every run of every program of the model
generator's grammar (`Bal.okLs`), every re-entry of an activation through its tail sequence has
the data, scope and address stack depths of the entry `E` of that activation (`0 < a`: a called
function, not the top-level text, which has no return address) — whatever the number of iterations, whatever the body does in between (calls, callees that take tail sequences
of their own, closures, loops). PROVED: `tail_call_constant_space_full`, from
`tail_call_constant_space_same_activation` (the same conclusion for every entry state that
satisfies C04's run-time invariant `RunInv.WF` + `RunInv.Running`) and `loaded_invariant` (every
state a loaded program of the grammar reaches satisfies that invariant: the top-level text is
the bottom activation: `RunInv.load_ok`, `RunInv.loaded_running`, `RunInv.holds_step`). -/
def TailCallConstantSpace : Prop :=
  ∀ (p : List Expr) (s0 : St), Bal.okLs p = true → Loaded p s0 →
    ∀ (f np d l a n : Nat) (E E' : St), VmReach s0 E → Entry E f np d l a → 0 < a →
      TailIterations E n E' → Entry E' f np d l a

/-- (c) for the same activation, **no balance hypothesis, no refinement hypothesis**: `E` is the
entry (instruction 0) of the running activation `top` of a state that satisfies the run-time
invariant of C04's calling contract — every function object verified by the balance checker,
the activations below described by `Running`'s chain. Then every state the run is in at
instruction 0 at the address depth of `E`, without having gone below it, is in the same
function with exactly the data and scope stack depths of `E`. By `RunInv.reentry_depths`: the
invariant is kept by every step (`RunInv.allSpec'`, all 13 functions of the VM's mutual block,
nested runs included), an activation pushed above `top` has a longer address stack, and at
instruction 0 the verifier's entry annotation fixes the depths. -/
theorem reentry_has_entry_depths (b : RunInv.Base) (E E' : St) (top : RunInv.Act) (rest : List RunInv.Act)
    (hw : RunInv.WF E) (hr : RunInv.Running b E top rest) (f np d l a : Nat) (hE : Entry E f np d l a) (ha0 : 0 < a)
    (hreach : RunInv.ReachAbove a E E') (ha : E'.addr.length = a) (hpc : E'.pc = 0) :
    Entry E' f np d l a ∧ RunInv.WF E' ∧ RunInv.Running b E' top rest := by
  obtain ⟨h1, h2, h3, h4, h5⟩ := RunInv.reentry_depths b E E' top rest hw hr hE.pc
    (by intro h; have := hE.addr; rw [h] at this; simp at this; omega)
    (by rw [hE.addr]; exact hreach) (by rw [ha, hE.addr]) hpc
  exact ⟨⟨hpc, h3.trans hE.cur, h4.trans hE.data, h5.trans hE.scopes, ha⟩, h1, h2⟩

/-- (c), by the number of iterations: every re-entry of the activation through a tail sequence
has the depths of its first entry. -/
theorem tail_call_constant_space_same_activation (b : RunInv.Base) (E : St) (top : RunInv.Act) (rest : List RunInv.Act)
    (hw : RunInv.WF E) (hr : RunInv.Running b E top rest) (f np d l a : Nat) (hE : Entry E f np d l a) (ha0 : 0 < a) :
    ∀ n E', TailIterations E n E' → Entry E' f np d l a := by
  intro n E' hit
  obtain ⟨h1, h2, h3⟩ := tailIterations_reach hE.pc hit
  rw [hE.addr] at h1 h2
  exact (reentry_has_entry_depths b E E' top rest hw hr f np d l a hE ha0 h1 h2 h3).1

/-- **Every state a loaded program of the grammar reaches satisfies the run-time invariant**: the
table invariant holds and the loop is `Running`, with the top-level text (`mainfunc` from its
old end on) as the bottom activation. From C04's `RunInv.load_ok` (the generator keeps the table
invariant and the text's code is a balanced fragment), `RunInv.loaded_running` (the fragment
placed in `mainfunc`) and the calling contract step by step (`RunInv.holds_step`). -/
theorem loaded_invariant (p : List Expr) (s0 : St) (hok : Bal.okLs p = true) (hl : Loaded p s0) :
    ∀ E, VmReach s0 E → RunInv.WF E ∧ ∃ b top rest, RunInv.Running b E top rest := by
  obtain ⟨code, t, s1, hload, rfl⟩ := hl
  obtain ⟨hw1, he1, d1, l1, a1, c1, p1, _, hcode, hids, as, τ, hfrag, h0, _⟩ :=
    RunInv.load_ok (isFnScope initSt) p code t RunInv.wf_initSt hok hload
  have hfo : fnOf s1 mainFn = fnOf initSt mainFn := he1.fnOf mainFn (by decide)
  obtain ⟨b, a0, _, hA, _, hh⟩ := RunInv.loaded_running (s1 := s1) code as initSt.loops.length hw1 (by rw [d1]; rfl) (by rw [a1]; rfl)
    (by rw [hfo]; rfl) (by rw [hfo]; exact Bal.AllOK.nil _) (by rw [hfo]; exact Bal.idsIn_nil _ _) hids he1.loops_len
    (by rw [p1, hfo]; rfl) hcode hfrag h0
  intro E hreach
  have : RunInv.Holds b a0 [] E := by
    change VmReach (RunInv.loaded s1 code) E at hreach
    generalize RunInv.loaded s1 code = s at hh hreach
    induction hreach with
    | refl => exact hh
    | step hv _ ih => exact ih (RunInv.holds_step hh hv (by rw [hA]; exact Nat.zero_le _))
  obtain ⟨hw, _, top, rest, hr, _⟩ := this
  exact ⟨hw, b, top, rest, hr⟩

/-- **(c), the repaired full statement, proved**: in every run of every program of the model
generator's grammar, every re-entry of a function activation through its tail sequence has the
data, scope and address stack depths of the entry of that activation, whatever the number of
iterations. -/
theorem tail_call_constant_space_full : TailCallConstantSpace := by
  intro p s0 hok hl f np d l a n E E' hreach hE ha0 hit
  obtain ⟨hw, b, top, rest, hr⟩ := loaded_invariant p s0 hok hl E hreach
  exact tail_call_constant_space_same_activation b E top rest hw hr f np d l a hE ha0 n E' hit

/-- the repaired body relation is the old one plus the condition on the way -/
example (f : Nat) (E T : St) (h : vmBodyAct f E T) : vmBody f E T := vmBody_of_act h

/-! #### Non-vacuity of the hypotheses of `tail_call_constant_space_same_activation` -/

/-- `(defn f [n] … (f (- n 1)))` just called from the top level with the operand `3`: the state
right after `CallFunction` -/
def exEntry : St :=
  { fns := [ { name := "__main", closing := [some 0] },
             { name := "builtin", user := true },
             { name := "f", nargs := 1, params := ["n"], closing := [some 0],
               code := [.addFuncScope 2, .popStackPutEnv "n", .tailGuard "f" 5, .envToStack "n", .prepareCall "f" 1, .removeScope, .goto 0,
                        .callExpr (.sym "f") [.sym "n"], .removeScope, .ret] } ],
    scopes := [ { vars := [("f", .fn 2)] } ],
    linear := [some 0],
    data := [some (intOfLit 3)],
    addr := [some (0, 5)],
    curfunc := 2, pc := 0 }

theorem exEntry_good : RunInv.FnGood exEntry 2 where
  user := rfl
  sig := rfl
  code := by
    intro i hi
    have hc : (fnOf exEntry 2).code = [.addFuncScope 2, .popStackPutEnv "n", .tailGuard "f" 5, .envToStack "n", .prepareCall "f" 1, .removeScope, .goto 0,
                        .callExpr (.sym "f") [.sym "n"], .removeScope, .ret] := rfl
    rw [hc] at hi
    simp only [List.mem_cons, List.not_mem_nil, or_false] at hi
    rcases hi with rfl | rfl | rfl | rfl | rfl | rfl | rfl | rfl | rfl | rfl <;> decide +kernel
  verified := Bal.verifies_of_checkB (by decide)

theorem exEntry_wf : RunInv.WF exEntry where
  fns := by
    intro id h2 h3
    have : id = 2 := by simp only [exEntry, List.length_cons, List.length_nil] at h3; omega
    subst this
    exact exEntry_good
  two := by decide
  loopstack := rfl
  scopes := by
    intro sc hsc p hp
    simp only [exEntry, List.mem_cons, List.not_mem_nil, or_false] at hsc
    subst hsc
    simp only [List.mem_cons, List.not_mem_nil, or_false] at hp
    subst hp
    decide
  heap := by intro a ha; cases ha
  lazies := by intro lz hlz; cases hlz
  data := by
    intro c hc
    simp only [exEntry, List.mem_cons, List.not_mem_nil, or_false] at hc
    subst hc
    rfl

/-- the hypotheses of `tail_call_constant_space_same_activation` hold of `exEntry`: it is
well-formed, it is the entry of an activation of function 2 (one operand above nothing, one
scope, one return address) running above the top level (`Base`: at instruction 4 of `__main`). -/
example : ∃ b top rest, RunInv.WF exEntry ∧ RunInv.Running b exEntry top rest ∧ Entry exEntry 2 1 0 1 1 ∧
    TailIterations exEntry 0 exEntry := by
  obtain ⟨ann, hV, hact⟩ := RunInv.actOK_of_good exEntry_good (by decide)
  refine ⟨⟨[], [some 0], [], 0, 4, false⟩, ⟨2, ann, [], 1, 1⟩, [], exEntry_wf, ?_, ⟨rfl, rfl, rfl, rfl, rfl⟩, .zero⟩
  exact ⟨rfl, by decide, Bal.inv_entry _ ann hV [] 1 1 _ rfl rfl rfl rfl, hact _ _ _, ⟨rfl, rfl, rfl⟩, List.suffix_refl _⟩

open ZygoVerif.LegacyTail in
/-- and the step of `TailIterations` is taken at the concrete tail site `LegacyTail.atTailCall`
(the same function three instructions later: guard passed, operand pushed): `PrepareCall`
succeeds there, the function scope lies above the caller's, and the next state is the
re-entry at instruction 0. -/
example : TailIterations atTailCall 1 (reentry atTailCall [some 0] [some (intOfLit 2)]) :=
  .succ (x := "f") (nargs := 1) (k := 0) (np := 1) (d := 0) (a := 1) .zero (.refl (Nat.le_refl _)) rfl
    ⟨⟨4, [.callExpr (.sym "f") [.sym "n"], .removeScope, .ret],
        ⟨rfl, rfl, [.addFuncScope 2, .popStackPutEnv "n", .tailGuard "f" 5, .envToStack "n"], [], rfl, rfl⟩⟩,
      fun n => exec_prepareCall_fixed n atTailCall "f" 1 rfl, rfl, ⟨[some 1], rfl, rfl⟩, rfl⟩

/-! ### The guard (fix C09-02): jump only while the name still denotes the running function -/

/-- The guard falls through — and the tail sequence is taken, in constant space — exactly when
the name, looked up before the operands are evaluated (as an ordinary call resolves its callee
first), denotes the function object that is running. One step of the real loop; nothing but
`pc` changes. -/
theorem tail_guard_passes (st : CtlState) (fuel : Nat) (s : St) (p : Nat) (x : String) (args : List Expr)
    (k : Nat) (argcode rest : List Instr) (sid : Nat)
    (hat : At s p (selfTailCode x args k argcode ++ rest))
    (hself : lexLookup s x = some (sid, .fn s.curfunc)) :
    (runLoop (fuel + 2) st).run s = (runLoop (fuel + 1) st).run { s with pc := s.pc + 1 } ∧
    At { s with pc := s.pc + 1 } (p + 1) (argcode ++ tailSeq x args.length k ++ [Instr.callExpr (.sym x) args] ++ rest) := by
  have hat' : At s p (Instr.tailGuard x (argcode.length + k + 4) ::
      (argcode ++ tailSeq x args.length k ++ [Instr.callExpr (.sym x) args] ++ rest)) := by
    simpa [(selfTailCode_split x args k argcode).1, List.append_assoc] using hat
  exact ⟨runLoop_at (fuel + 1) st hat' (exec_tailGuard_self fuel s x _ sid hself),
    hat'.next rfl rfl rfl⟩

/-- **Fallback.** When the name no longer denotes the running function — it was rebound, at
run time, to a non-function, to another function, to another closure of the same template, or
unbound — the guard skips the operands, `PrepareCall`, every `RemoveScope` and the `Goto`: one
step later the machine stands, with all four stacks, the scope table and the heap untouched,
at the instruction `CallExpr x args` — the very instruction the generator emits for the same
call in a non-tail position (`Tail.call_off`). From there on the tail call *is* the ordinary
call: callee resolved again, operands evaluated by it, arity and type errors as usual, the
value left on the stack, the enclosing forms' epilogues, `RemoveScope` of the function scope
and `Return` still ahead. -/
theorem tail_call_falls_back_to_ordinary_call (st : CtlState) (fuel : Nat) (s : St) (p : Nat) (x : String)
    (args : List Expr) (k : Nat) (argcode rest : List Instr)
    (hat : At s p (selfTailCode x args k argcode ++ rest))
    (hother : ∀ sid, lexLookup s x ≠ some (sid, .fn s.curfunc)) :
    (runLoop (fuel + 2) st).run s =
      (runLoop (fuel + 1) st).run { s with pc := s.pc + ((argcode.length + k + 4 : Nat) : Int) } ∧
    At { s with pc := s.pc + ((argcode.length + k + 4 : Nat) : Int) } (p + (argcode.length + k + 4))
      (Instr.callExpr (.sym x) args :: rest) := by
  obtain ⟨h1, h2⟩ := selfTailCode_split x args k argcode
  rw [h1, List.append_assoc] at hat
  have := hat.skip _ (s1 := { s with pc := s.pc + ((argcode.length + k + 4 : Nat) : Int) }) (by rw [h2]) rfl rfl
  rw [h2] at this
  exact ⟨runLoop_at (fuel + 1) st hat (exec_tailGuard_other fuel s x _ hother), this⟩

open ZygoVerif.LegacyTail in
/-- `atTailCall` moved back to its guard, operands not yet pushed -/
def atGuard : St := { atTailCall with pc := 2, data := [] }

/-- the same, after someone outside the body did `(set f 7)` -/
def atGuardRebound : St :=
  { atGuard with scopes := [ { vars := [("f", intOfLit 7)] },
                             { vars := [("n", intOfLit 3)], isFunction := true, myFunction := some 2 } ] }

/-- the hypotheses of `tail_guard_passes` are satisfiable … -/
example : At atGuard 2 (selfTailCode "f" [.sym "n"] 0 [.envToStack "n"] ++ [.removeScope, .ret]) ∧
    lexLookup atGuard "f" = some (0, .fn atGuard.curfunc) :=
  ⟨⟨rfl, rfl, [.addFuncScope 2, .popStackPutEnv "n"], [], rfl, rfl⟩, by decide⟩

/-- … and so are those of `tail_call_falls_back_to_ordinary_call` -/
example : At atGuardRebound 2 (selfTailCode "f" [.sym "n"] 0 [.envToStack "n"] ++ [.removeScope, .ret]) ∧
    ∀ sid, lexLookup atGuardRebound "f" ≠ some (sid, .fn atGuardRebound.curfunc) := by
  refine ⟨⟨rfl, rfl, [.addFuncScope 2, .popStackPutEnv "n"], [], rfl, rfl⟩, ?_⟩
  intro sid h
  have h7 : lexLookup atGuardRebound "f" = some (0, intOfLit 7) := by decide
  rw [h7] at h
  cases h

/-! ### Non-vacuity of (c): a concrete tail site -/

open ZygoVerif.LegacyTail in
/-- `LegacyTail.atTailCall` (the body of `(defn f [n] … (f (- n 1)))` at its tail sequence, the
operand pushed) satisfies every hypothesis of the segment lemma: `np = 1` operand above `d = 0`
slots, `k = 0` extra scopes, the function scope above `L = [global]`, one return address. -/
example : TailSite atTailCall "f" 1 0 1 0 1 [some 0] atTailCall.data where
  code := ⟨4, [.callExpr (.sym "f") [.sym "n"], .removeScope, .ret], ⟨rfl, rfl, [.addFuncScope 2, .popStackPutEnv "n", .tailGuard "f" 5, .envToStack "n"], [], rfl, rfl⟩⟩
  prep := fun n => by
    have := exec_prepareCall_fixed n atTailCall "f" 1 rfl
    simpa using this
  operands := rfl
  scopes := ⟨[some 1], rfl, rfl⟩
  addr := rfl

/-! ## (d): transparency -/

/-- what a run shows to the host, common to both sides -/
inductive Obs where
  | ok (value : String) (trace : List String)
  | err (trace : List String)
deriving DecidableEq, Repr

def obsOfRef : Ref.Outcome → Option Obs
  | .ok v t => some (.ok v t)
  | .err t => some (.err t)
  | .timeout => none

def obsOfVM : VM.Outcome → Option Obs
  | .done "ok" v t _ => some (.ok v t)
  | .done "err" _ t _ => some (.err t)
  | _ => none

/-- **The full statement of (d)**: the optimisation is invisible. The reference evaluator
(`Spec/RefEval.lean`) has no tail-call optimisation — every call is a call, every call gets a
fresh frame: it is "the same function evaluated without the optimisation". For every
well-formed program on which it terminates, the VM model (whose generator compiles self tail
calls to jumps) reports the same class, value and effect trace — including what closures
created in earlier iterations observe when they are called later. NOT proved (it contains
C02's `CompileCorrect` for the tail-call fragment F3); held by the 3-way correspondence of
channel `tail`. -/
def TcoTransparent : Prop :=
  ∀ (p : List Expr), Ref.wfList {} p = true →
    ∀ fuel o, obsOfRef (Ref.runProgram fuel p Ref.initSt).1 = some o →
      ∃ fuel', obsOfVM (VM.runText fuel' p VM.initSt).1 = some o

/-- the parameter-binding part of the prologue, faults ignored (only the state matters) -/
def bindParams (n : Nat) (ps : List String) (s : St) : St :=
  ps.foldl (fun s x => ((exec (n + 1) (.popStackPutEnv x)).run s).2) s

theorem bindParams_frame (n : Nat) (ps : List String) :
    ∀ (s : St) (top : Nat) (rest : List (Option Nat)), s.linear = some top :: rest →
      ∀ sid, sid ≠ top → (bindParams n ps s).scopes[sid]? = s.scopes[sid]? := by
  induction ps with
  | nil => intro s top rest _ sid _; rfl
  | cons x xs ih =>
    intro s top rest hl sid hne
    simp only [bindParams, List.foldl_cons]
    have hlin := exec_popStackPutEnv_linear n s x
    have := ih ((exec (n + 1) (.popStackPutEnv x)).run s).2 top rest (by rw [hlin]; exact hl) sid hne
    simp only [bindParams] at this
    rw [this]
    exact exec_popStackPutEnv_frame n s x top rest hl sid hne

/-- (d), the parts that are proved.
1. Only tail positions jump: a self call whose value the enclosing form still needs is an
   ordinary call (`tail_flag_only_in_tail_position`), so no pending computation is dropped.
2. The tail sequence changes nothing but `pc`, the scope *stack* and the packed operands:
   scope table, heap, trace and function table are those of the call site
   (`tail_call_reenters_at_entry_depths`).
3. Per-iteration bindings: at re-entry `AddFuncScope` creates a scope whose id is the old size
   of the scope table, and binding the parameters (any number, whatever the outcome of each
   `PopStackPutEnv`) writes that scope only. Every scope that existed before — in particular
   every scope captured by a closure created in an earlier iteration — is left exactly as it
   was: the scope captured in iteration i is never written by iteration j > i.
Missing for `TcoTransparent`: the simulation of arbitrary body code (C02's `CompileCorrect`). -/
theorem tco_transparent_partial :
    (∀ {isFn : Nat → Bool} {f h : String} {kn : List (String × Nat)} {body args : List Expr} {gs : GS} {r},
        NonTailAt (.begin_ body) (.call (.sym h) args) → compileBegin isFn (bodyCtx f kn) body gs = .ok r →
        ∃ k' gs1 r1, compile isFn ⟨false, k', f, kn⟩ (.call (.sym h) args) gs1 = .ok r1 ∧
          r1.1.1 = [Instr.callExpr (.sym h) args] ∧ Seg r.1.1 r1.1.1) ∧
    (∀ {s : St} {x : String} {nargs k np d a : Nat} {L : List (Option Nat)} {data' : List (Option Val)},
        TailSite s x nargs k np d a L data' →
        (reentry s L data').scopes = s.scopes ∧ (reentry s L data').heap = s.heap ∧
        (reentry s L data').trace = s.trace ∧ (reentry s L data').fns = s.fns ∧ (reentry s L data').addr = s.addr) ∧
    (∀ (n : Nat) (E : St) (t : Nat) (ps : List String) (sid : Nat), sid < E.scopes.length →
        (bindParams n ps ((exec (n + 1) (.addFuncScope t)).run E).2).scopes[sid]? = E.scopes[sid]?) := by
  refine ⟨fun hpos hc => tail_flag_only_in_tail_position hpos hc, fun _ => ⟨rfl, rfl, rfl, rfl, rfl⟩, ?_⟩
  intro n E t ps sid hsid
  obtain ⟨hlin, _, hold⟩ := exec_addFuncScope_fresh n E t
  rw [bindParams_frame n ps _ E.scopes.length E.linear hlin sid (by omega)]
  exact hold sid hsid

/-! ### The behaviour before fc05fc7 -/

open ZygoVerif.LegacyTail in
/-- Before the fix the tail sequence kept the function scope and jumped past `AddFuncScope`
(`Goto 1`): the first prologue instruction re-binds `n` in the scope that the closure of this
iteration captured. The closure made while `n = 3` sees `2` afterwards. -/
theorem legacy_tail_call_rebinds_captured_scope_counterexample :
    capturedN atTailCall = some (intOfLit 3) ∧
    succeeded (straight 5 (legacyTailSeq "f" 1 0 ++ [.popStackPutEnv "n"]) atTailCall) = true ∧
    capturedN (straight 5 (legacyTailSeq "f" 1 0 ++ [.popStackPutEnv "n"]) atTailCall).2 = some (intOfLit 2) := by
  decide +kernel

open ZygoVerif.LegacyTail in
/-- The sequence emitted today, from the same state: the next iteration binds `n` in a new
scope (id 2) and the captured one keeps `n = 3`. -/
theorem current_tail_call_keeps_captured_scope :
    succeeded (straight 5 (tailSeq "f" 1 0 ++ [.addFuncScope 2, .popStackPutEnv "n"]) atTailCall) = true ∧
    capturedN (straight 5 (tailSeq "f" 1 0 ++ [.addFuncScope 2, .popStackPutEnv "n"]) atTailCall).2 = some (intOfLit 3) ∧
    (scopeOf (straight 5 (tailSeq "f" 1 0 ++ [.addFuncScope 2, .popStackPutEnv "n"]) atTailCall).2 2).vars.lookup "n" = some (intOfLit 2) := by
  decide +kernel

end ZygoVerif.C09
