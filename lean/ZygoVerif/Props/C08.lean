/-
C08 — a sandboxed interpreter cannot reach the outside world.

Model  = `Generated/CallGraph.lean`, the reference graph of package zygo + cmd/zygo,
         regenerated from /repo's working tree on every run (extract/ex_callgraph.go): an
         edge f → g whenever g is called OR mentioned in f, function literals as nodes,
         interface calls resolved by method name, one node per referenced object of any
         other package.
Spec   = `Spec/Prims.lean`: which of those external objects are the outside world (files,
         processes, environment, process exit, …), written from the property text; and which
         edges exist in which configuration.
Proved = for each configuration {bare sandbox, sandbox + StandardSetup, cmd/zygo -sandbox}:
         NO path of ANY length leads from a root of the configuration to a primitive
         (`c08_bare`, `c08_std`, `c08_cli`). The kernel checks a closure certificate
         (`decide +kernel`), the general lemma `Reach.closed_contains_reach` (induction on
         paths) turns it into the statement about all paths.
Side conditions that the reading of the graph rests on are theorems over generated tables
as well (flag protocol, host sites of the wrapper, start-up calls, unsafe / function-type
assertions, extractor problems).

What is NOT proved here (trusted, see checks/C08.py META): that "no path in the reference
graph" implies "no execution reaches the primitive" — the soundness of reference edges for
Go without unsafe function pointers, reflect.Value.Call or assembly; the extractor itself;
the classification in Spec/Prims.lean.
-/
import ZygoVerif.Generated.CallGraph
import ZygoVerif.Spec.Prims
import ZygoVerif.Proofs.Reach
import ZygoVerif.Model.LegacySandbox

namespace ZygoVerif.Props.C08
open ZygoVerif ZygoVerif.Reach ZygoVerif.Spec.Prims
open ZygoVerif.Generated

/-- the edge relation of configuration `c` (labels contradicted by `c` dropped) -/
def Edge (c : Config) : Nat → Nat → Prop := EdgeIn (keepEdge c) CallGraph.adj

def rootsOf : Config → List Nat
  | .bare => CallGraph.rootsBare
  | .std => CallGraph.rootsStd
  | .cli => CallGraph.rootsCli

def certOf : Config → Nat
  | .bare => CallGraph.certBare
  | .std => CallGraph.certStd
  | .cli => CallGraph.certCli

/-- The property on the graph, full strength: from no root of the configuration is there a
path — of any length, through any functions, closures, interface dispatch — to any external
object that Spec/Prims classifies as outside world (or does not classify at all). -/
def Unreachable (c : Config) : Prop :=
  ∀ r ∈ rootsOf c, ∀ g ∈ CallGraph.extGroups, ∀ x ∈ g.2,
    forbidden g.1 x.2.1 = true → ¬ Path (Edge c) r x.1

def outsideAll (id : Nat) : Bool :=
  !CallGraph.certBare.testBit id && !CallGraph.certStd.testBit id && !CallGraph.certCli.testBit id

/-- (is the class forbidden, is it `unknown`) -/
def baseFlags : Class → Bool × Bool
  | .prim => (true, false)
  | .unknown => (true, true)
  | _ => (false, false)

theorem baseFlags_spec (c : Class) : baseFlags c = (isForbiddenClass c, c == Class.unknown) := by
  cases c <;> decide

/-- one member of a package that member rules mention: classified, and outside all three
certificates when forbidden (`bf`, `bu` = flags of the package's own class) -/
def memberScan (pkg : String) (bf bu : Bool) (x : Nat × String × String) : Bool :=
  if (pkg, x.2.1) ∈ primMembers then outsideAll x.1
  else if (pkg, x.2.1) ∈ consoleMembers then true
  else !bu && (!bf || outsideAll x.1)

/-- One pass over a package group: every member is classified, and every forbidden member
lies outside all three certified sets. The package is classified once (string comparisons
are what the kernel is slow at); members are looked at one by one only where a member rule
mentions the package. -/
def groupScan (g : String × List (Nat × String × String)) : Bool :=
  match baseFlags (pkgClass g.1) with
  | (bf, bu) =>
    match hasMemberRules g.1 with
    | false => !bu && (!bf || g.2.all fun x => outsideAll x.1)
    | true => g.2.all (memberScan g.1 bf bu)

theorem groupScan_sound {g : String × List (Nat × String × String)} (h : groupScan g = true)
    (x : Nat × String × String) (hx : x ∈ g.2) :
    classify g.1 x.2.1 ≠ Class.unknown ∧ (forbidden g.1 x.2.1 = true → outsideAll x.1 = true) := by
  unfold groupScan at h
  rw [baseFlags_spec] at h
  simp only at h
  split at h
  · next hno =>
    simp only [Bool.and_eq_true, Bool.not_eq_true', Bool.or_eq_true, beq_eq_false_iff_ne, ne_eq] at h
    rw [forbidden, classify_eq_pkgClass hno]
    refine ⟨h.1, fun hf => ?_⟩
    rcases h.2 with hnf | hall
    · rw [hf] at hnf; cases hnf
    · exact List.all_eq_true.mp hall x hx
  · have hm := List.all_eq_true.mp h x hx
    unfold memberScan at hm
    unfold forbidden classify
    split at hm
    · next hp => simp only [hp, if_true]; exact ⟨by decide, fun _ => hm⟩
    · next hp =>
      simp only [hp, if_false]
      split at hm
      · next hc => simp only [hc, if_true]; exact ⟨by decide, fun hf => by cases hf⟩
      · next hc =>
        simp only [hc, if_false]
        simp only [Bool.and_eq_true, Bool.not_eq_true', Bool.or_eq_true, beq_eq_false_iff_ne, ne_eq] at hm
        refine ⟨hm.1, fun hf => ?_⟩
        rcases hm.2 with hnf | ho
        · rw [hf] at hnf; cases hnf
        · exact ho

/-- the scan succeeds on every group of the regenerated table -/
theorem scan_all : CallGraph.extGroups.all groupScan = true := by decide +kernel

theorem roots_bare : containsB CallGraph.certBare CallGraph.rootsBare = true := by decide +kernel
theorem roots_std : containsB CallGraph.certStd CallGraph.rootsStd = true := by decide +kernel
theorem roots_cli : containsB CallGraph.certCli CallGraph.rootsCli = true := by decide +kernel

def wrapperMask : Nat := CallGraph.wrapperNodes.foldl (fun m i => m ||| (1 <<< i)) 0

/-- Everything that is asked of the rows of the adjacency table, in one walk: each row is closed for
the certificate of each configuration (a failure here means that a certificate is not closed), and
only the wrapper's own rows refer to a wrapper function. One walk, not four: what the kernel spends
on a row is the access to its target mask (one bit per node), and that grows with the number of rows
already evaluated for the same theorem, so four theorems over the table cost nearly twice what this
one does. -/
theorem adj_rows : (CallGraph.adj.all fun e =>
    rowClosed CallGraph.certBare (keepEdge .bare) e && rowClosed CallGraph.certStd (keepEdge .std) e &&
    rowClosed CallGraph.certCli (keepEdge .cli) e &&
    (CallGraph.wrapperNodes.contains e.1 || e.2.2 &&& wrapperMask == 0)) = true := by
  decide +kernel

theorem adj_row {e : Nat × Nat × Nat} (he : e ∈ CallGraph.adj) :
    ((rowClosed CallGraph.certBare (keepEdge .bare) e = true ∧ rowClosed CallGraph.certStd (keepEdge .std) e = true) ∧
      rowClosed CallGraph.certCli (keepEdge .cli) e = true) ∧
    (CallGraph.wrapperNodes.contains e.1 || e.2.2 &&& wrapperMask == 0) = true := by
  simpa only [Bool.and_eq_true] using List.all_eq_true.mp adj_rows e he

theorem closed_bare : closedB CallGraph.certBare (keepEdge .bare) CallGraph.adj = true :=
  List.all_eq_true.mpr fun _ he => (adj_row he).1.1.1
theorem closed_std : closedB CallGraph.certStd (keepEdge .std) CallGraph.adj = true :=
  List.all_eq_true.mpr fun _ he => (adj_row he).1.1.2
theorem closed_cli : closedB CallGraph.certCli (keepEdge .cli) CallGraph.adj = true :=
  List.all_eq_true.mpr fun _ he => (adj_row he).1.2

/-- a forbidden external object lies outside all three certificates -/
theorem outside_of_forbidden {g : String × List (Nat × String × String)} {x : Nat × String × String}
    (hg : g ∈ CallGraph.extGroups) (hx : x ∈ g.2) (hf : forbidden g.1 x.2.1 = true) :
    (CallGraph.certBare.testBit x.1 = false ∧ CallGraph.certStd.testBit x.1 = false) ∧
      CallGraph.certCli.testBit x.1 = false := by
  simpa only [outsideAll, Bool.and_eq_true, Bool.not_eq_true'] using
    (groupScan_sound (List.all_eq_true.mp scan_all g hg) x hx).2 hf

/-- bare `NewZlispSandbox()` -/
theorem c08_bare : Unreachable .bare := fun r hr _ hg x hx hf =>
  no_path_of_cert roots_bare closed_bare r hr x.1 (outside_of_forbidden hg hx hf).1.1

/-- `NewZlispSandbox()` + `StandardSetup()` -/
theorem c08_std : Unreachable .std := fun r hr _ hg x hx hf =>
  no_path_of_cert roots_std closed_std r hr x.1 (outside_of_forbidden hg hx hf).1.2

/-- `cmd/zygo -sandbox` -/
theorem c08_cli : Unreachable .cli := fun r hr _ hg x hx hf =>
  no_path_of_cert roots_cli closed_cli r hr x.1 (outside_of_forbidden hg hx hf).2

theorem c08_all (c : Config) : Unreachable c := by
  cases c
  · exact c08_bare
  · exact c08_std
  · exact c08_cli

/-! ### Non-vacuity: there are roots, there are forbidden objects in the graph, and the same
graph DOES lead to one when the interpreter is not sandboxed -/

example : CallGraph.rootsBare ≠ [] ∧ CallGraph.rootsStd ≠ [] ∧ CallGraph.rootsCli ≠ [] := by decide +kernel

/-- the edges that exist when the interpreter's sandbox flag is false -/
def keepFull (lab : Nat) : Bool := lab &&& 2 == 0

/-- The analysis has teeth: in the full interpreter (`NewZlisp` + `StandardSetup`) the
extractor's witness is a genuine path of the same graph, and it ends in an object that
Spec/Prims forbids. (Also the non-vacuity of `Unreachable`: forbidden objects exist.) -/
theorem full_interpreter_reaches_a_primitive :
    -- the witness's last node is the external object named by `witnessFullTarget` …
    (CallGraph.extGroups.any fun g => g.1 == CallGraph.witnessFullTarget.1 &&
        g.2.any fun x => x.1 == CallGraph.witnessFull.getLastD 0 && x.2.1 == CallGraph.witnessFullTarget.2) = true
    -- … which Spec/Prims forbids …
    ∧ forbidden CallGraph.witnessFullTarget.1 CallGraph.witnessFullTarget.2 = true
    -- … and the witness is a path of the graph
    ∧ Path (EdgeIn keepFull CallGraph.adj) (CallGraph.witnessFull.headD 0) (CallGraph.witnessFull.getLastD 0) :=
  ⟨by decide +kernel, by decide +kernel,
   path_of_walk (l := CallGraph.witnessFull.tail) (by decide +kernel)⟩

/-- the extractor could read everything it needs (no cgo, no linkname, no body-less function,
every root found, tables in the expected shape) -/
theorem extractor_read_everything : CallGraph.extractorProblems = [] := by decide +kernel

/-- closed world: every object of another package that the code references is classified -/
theorem externals_classified :
    ∀ g ∈ CallGraph.extGroups, ∀ x ∈ g.2, classify g.1 x.2.1 ≠ Class.unknown :=
  fun g hg x hx => (groupScan_sound (List.all_eq_true.mp scan_all g hg) x hx).1

/-- Flag protocol. Label-1 edges (code under `!env.<flag>`) are dropped for the sandbox
configurations; that is justified only if a sandboxed interpreter always carries the flag:
it is written `true` by `NewZlispSandbox` and nowhere else, otherwise only copied from another
interpreter (`Clone`, `Duplicate`), its address is never taken, and every place that
allocates a `Zlisp` other than the constructor copies it. On a tree without such a flag no edge
may carry label 1 or 2. -/
def flagProtocolOk : Bool :=
  if CallGraph.sandboxFlag == "" then
    -- no flag in this tree: then no edge may claim to depend on one
    CallGraph.adj.all (fun e => e.2.1 &&& 3 == 0)
  else
    CallGraph.flagAssignSites.all (fun s =>
      (s.2 == "constTrue" && s.1 == "zygo.NewZlispSandbox") || s.2 == "copy")
    && CallGraph.zlispAllocSites.all (fun s => s.2 == "copiesFlag" || s.1 == "zygo.NewZlispWithFuncs")
    && CallGraph.flagAssignSites.contains ("zygo.NewZlispSandbox", "constTrue")

theorem flag_protocol : flagProtocolOk = true := by decide +kernel

/-- Gates and script bindings. No `if` that cuts a function short asks a bool-valued function
from which a constant-name lookup (`FindObject "source"`, `MakeSymbol "…"` …) is reachable:
what a name resolves to is state the sandboxed script controls (`(def source 0)`), so such a
gate is not a sandbox boundary. (Table `scriptGates`; the constant names themselves are in
`nameSites` and feed the two-text histories of the failing-input search.) -/
theorem gates_do_not_depend_on_script_bindings :
    ∀ g ∈ CallGraph.scriptGates, g.2 ∈ allowedGatePredicates := by decide +kernel

/-- The sandbox gates read the flag FIELD. (1) The generator function of every special form in
Spec.Prims.flagGatedForms, while it is still inside the certified set of a sandbox, contains an
`if` whose condition reads the field itself; (2) StandardSetup registers the builders of
Spec.Prims.flagGatedBindings only under `!flag` (label 1, which only a read of the field or of
its trivial accessor produces). Replacing the field by a computed predicate (`mayReadFiles()`,
a name lookup, a table size …) breaks this fact by name. Only demanded on a tree that has the
flag. -/
def sandboxGatesOk : Bool :=
  CallGraph.sandboxFlag == "" ||
  ((CallGraph.specialForms.all fun sf =>
      !(flagGatedForms.contains sf.1) || !(CallGraph.certStd.testBit sf.2.2.1) ||
      CallGraph.flagGuards.any fun g => g.2.1 == sf.2.2.1 && g.2.2 == "field")
   && (CallGraph.stdBindings.all fun b => !(flagGatedBindings.contains b.1) || b.2.2.2 &&& 1 == 1))

theorem sandbox_gates_read_the_flag_field : sandboxGatesOk = true := by decide +kernel

/-- Host sites. What the command line wrapper (`main`, `usage`, `ReplMain`, `Repl`,
`runScript` and the literals inside them) does to the outside world directly while
`cfg.Sandboxed` holds is on the hand-written list of host behaviour (end of input, the script
file and profile files named on the command line, exit codes). -/
theorem host_sites_allowed :
    ∀ s ∈ CallGraph.hostSites, s ∈ hostAllowed ∨ forbidden s.2.1 s.2.2 = false := by decide +kernel

/-- … and nothing but the wrapper itself refers to a wrapper function, so dropping the
wrapper's host sites in the `cli` configuration cannot hide a call made by script-driven code -/
theorem wrappers_not_called_back :
    (CallGraph.adj.all fun e => CallGraph.wrapperNodes.contains e.1 || e.2.2 &&& wrapperMask == 0) = true :=
  List.all_eq_true.mpr fun _ he => (adj_row he).2

/-- REPL guards: the dot commands that act on the host sit under `!cfg.Sandboxed`, and
`ReplMain` calls no constructor other than `NewZlispSandbox` unless under `!cfg.Sandboxed`. -/
theorem repl_guards :
    (∀ d ∈ CallGraph.replDotCommands, d.1 ∈ hostOnlyDotCommands → d.2 &&& 4 = 4)
    ∧ (∀ c ∈ CallGraph.replMainCtors, c.1 ≠ "NewZlispSandbox" → c.2 &&& 4 = 4) := by
  decide +kernel

/-- the REPL really has those dot commands (the guard statement is not vacuous) -/
example : ∀ n ∈ hostOnlyDotCommands, n ∈ CallGraph.replDotCommands.map (·.1) := by decide +kernel

/-- Start-up. A function called by an `init` function / package-level initialiser that could
create function values (something reachable from it mentions a function in value position)
is either a root of every configuration — so whatever it leaves behind is covered by the
certificates — or on the hand-justified list Spec.Prims.startupDiscards. Function values
MENTIONED by start-up code itself are roots through node INIT. -/
theorem startup_calls_covered :
    ∀ c ∈ CallGraph.startupCalls, c.2.1 = true →
      (c.1 ∈ startupDiscards ∧ c.2.2.2 = false)
      ∨ (c.2.2.1 ∈ CallGraph.rootsBare ∧ c.2.2.1 ∈ CallGraph.rootsStd ∧ c.2.2.1 ∈ CallGraph.rootsCli) := by
  decide +kernel

/-- No other way to obtain a callable value: package unsafe is used only by the two known
data-pointer helpers, and nothing asserts an interface value to a function type
(`reflect.Value.Call`, `CallSlice`, `MakeFunc` are primitives in Spec/Prims). -/
theorem no_fabricated_function_values :
    (∀ u ∈ CallGraph.unsafeUsers, u ∈ knownUnsafe) ∧ CallGraph.funcAssertions = [] := by
  decide +kernel

/-- Name tables vs certificate: the Go function behind every name that the source binds in a
sandbox (function tables merged by `SandboxSafeFunctions`, `Add*` calls of `StandardSetup`
that are not under `!env.<flag>`) and behind every special form lies inside the certified
reachable set — the certificate covers what a script can name. -/
theorem bindings_inside_certificate :
    (CallGraph.bareBindings.all fun b => !(b.2.2.1 < CallGraph.numNodes) || CallGraph.certBare.testBit b.2.2.1) = true
    ∧ (CallGraph.stdBindings.all fun b =>
        !(b.2.2.1 < CallGraph.numNodes) || b.2.2.2 &&& 1 != 0 || CallGraph.certStd.testBit b.2.2.1) = true
    ∧ (CallGraph.specialForms.all fun b => !(b.2.2.1 < CallGraph.numNodes) || CallGraph.certBare.testBit b.2.2.1) = true := by
  decide +kernel

example : CallGraph.bareBindings ≠ [] ∧ CallGraph.stdBindings ≠ [] ∧ CallGraph.specialForms ≠ [] := by
  decide +kernel

/-! ## The tree before fixes/C08-01 and C08-02: counterexamples (Model/LegacySandbox.lean) -/

def LegacyEdge : Nat → Nat → Prop := EdgeIn (fun _ => true) LegacySandbox.adj

/-- bare sandbox, pre-fix: `(include "file")` compiles straight into `os.Open` -/
theorem c08_bare_counterexample :
    ∃ r ∈ LegacySandbox.rootsBare, ∃ p ∈ LegacySandbox.prims, Path LegacyEdge r p :=
  ⟨0, by decide, 8, by decide, path_of_walk (l := [1, 2, 3, 4, 5, 6, 7, 8]) (by decide)⟩

/-- sandbox + StandardSetup, pre-fix: the `sys` builder reaches `exec.Command` -/
theorem c08_std_sys_counterexample :
    ∃ r ∈ LegacySandbox.rootsStd, ∃ p ∈ LegacySandbox.prims, Path LegacyEdge r p :=
  ⟨9, by decide, 13, by decide, path_of_walk (l := [10, 11, 12, 13]) (by decide)⟩

/-- sandbox + StandardSetup, pre-fix: the `import` builder reaches `os.Open` and `os.Stat` -/
theorem c08_std_import_counterexample :
    (∃ r ∈ LegacySandbox.rootsStd, Path LegacyEdge r 8 ∧ 8 ∈ LegacySandbox.prims)
    ∧ (∃ r ∈ LegacySandbox.rootsStd, Path LegacyEdge r 18 ∧ 18 ∈ LegacySandbox.prims) :=
  ⟨⟨9, by decide, path_of_walk (l := [10, 14, 15, 16, 8]) (by decide), by decide⟩,
   ⟨9, by decide, path_of_walk (l := [10, 14, 17, 18]) (by decide), by decide⟩⟩

end ZygoVerif.Props.C08
