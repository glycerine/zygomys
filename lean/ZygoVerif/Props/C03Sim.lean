/-
C03 on the proved fragment — lexical scoping as THEOREMS, not correspondence.

`Props/C03.lean` proves facts about the scope machinery of the VM model for all states, and
leaves the end-to-end claim ("in every reachable state the VM's lookup is the reference
evaluator's lookup") as `SimPreservedFull`, proved for `AddScope` only. `Props/C02.lean`
(+ `Proofs/SimF2*.lean`) proves, for a large fragment of the language, that the VM model
computes exactly what the reference evaluator `Spec/RefEval.lean` computes (value, error
class, trace), through the simulation relation `Sim.RelF`. The reference evaluator IS the
definition of lexical scoping: a closure is code + a pointer to the frame it was made in
(`Ref.Clos.env`), every activation / `let` / `newScope` / loop allocates a fresh frame
(`Ref.newFrame`), a name is looked up along the static chain (`Ref.lookup`), a call binds the
parameters in a fresh frame whose parent is the closure's frame — never the caller's.

This file connects the two.

1. `lexical_scoping_on_fragment`    for every program of the proved fragment, what the VM
                                    computes is what the reference evaluator computes; with the
                                    five clauses of the property text as corollaries on program
                                    families parameterised by the values involved:
   `free_variables_see_creation_site`, `closures_of_one_activation_share`,
   `fresh_variables_per_activation`, `captured_outlives_activation`,
   `tail_call_gets_fresh_scope`.
2. `simX_of_relF`                   `Sim.RelF` implies C03's `Sim` up to the order of the
                                    bindings inside one frame (`SimX`; `Sim.toX`,
                                    `lookup_sound_x`), so `sim_preserved_on_fragment`: running
                                    the code of any expression of the fragment (scopes entered
                                    and left, def/set, closures made, calls, returns, apply/map,
                                    lazy arguments) from related states leads to related states.
   `SimPreservedFull` (Props/C03.lean) stays a visible `def … : Prop`: outside the fragment
   (`C02.CompileCorrectOutsideProved`) nothing of this is a theorem.
-/
import ZygoVerif.Props.C02
import ZygoVerif.Props.C03
import ZygoVerif.Proofs.ScopeSimF
namespace ZygoVerif.C03
open ZygoVerif.Core ZygoVerif.VM ZygoVerif.Scope ZygoVerif.C02
open ZygoVerif.Sim hiding Sim SimX

/-- **Lexical scoping, end to end, on the proved fragment.** For every well-formed program in
one of the proved fragments (`C02.InProvedFragment`: Fv, Fc, F2, Fx, F2c — `fn`/`defn`
anywhere except inside call operands, closures capturing and assigning locals, functions as
values, recursion, rest parameters, self tail calls, `break`/`continue`, lazy parameters and
`force`, `apply`/`map`): whenever the reference evaluator — closures by environment pointer,
a fresh frame per activation / `let` / `newScope` / loop, lookup along the static chain —
reports a value or an error with a trace, the VM model (generator + stack machine with its
three-stage `LexicalLookupSymbol`, `NewClosing`, `AddFuncScope`, the self-tail-call jump)
reports the same. -/
theorem lexical_scoping_on_fragment : CompileCorrectOn InProvedFragment := compile_correct_partial.1

def shows (v : Int) : String := toString (BitVec.ofInt 64 v).toInt

def showsB (v : BitVec 64) : String := toString v.toInt

macro "ref_run" d:ident : tactic =>
  `(tactic| simp [$d:ident, Ref.runProgram, obsOfRef, Ref.evalBegin, Ref.eval, Ref.evalArgs, Ref.applyFn, Ref.bindParams, Ref.newFrame,
    Ref.evalCond, Ref.force, Ref.define, Ref.setVar, Ref.lookup, Ref.lookupIn, Ref.initSt, Ref.assocSet, Ref.globalNames, coreBuiltins,
    List.lookup, prim, isFunction, allInts, intOfLit, Ref.isLazyParam, rebindOk, tyOf, isCmp, compareVals,
    cmpResult, truthy_bool, pr, showVal, printDepth, shows, mkList, Ref.evalList, Ref.bindAll, Ref.evalLetSeq, Ref.evalAndOr, showsB])

macro "wf_run" d:ident : tactic =>
  `(tactic| simp [$d:ident, Ref.wfList, Ref.wf, Ref.wfArms, Ref.wfBinds])

/-! ### (a) A free variable sees the binding of the creation site, never the caller's

`(defn mk [x] (fn [] x)) (def k (mk a)) (defn caller [x] (k)) (caller b)`: the closure is made
in an activation of `mk` that binds `x ↦ a`; it is called after `mk` has returned, from inside an
activation of `caller` that binds the same name `x ↦ b`. The answer is `a`. -/
def progSite (a b : Int) : List Expr :=
  [.defn "mk" ["x"] none [.fn [] none [.sym "x"]],
   .def_ "k" (.call (.sym "mk") [.int a]),
   .defn "caller" ["x"] none [.call (.sym "k") []],
   .call (.sym "caller") [.int b]]

theorem progSite_in (a b : Int) : FtList (progSite a b) = true := by ft_mem2 progSite

theorem progSite_wf (a b : Int) : Ref.wfList {} (progSite a b) = true := rfl

set_option maxRecDepth 8000 in
theorem progSite_ref (a b : Int) :
    obsOfRef (Ref.runProgram 20 (progSite a b) Ref.initSt).1 = some (.ok (shows a) []) := by
  ref_run progSite

theorem free_variables_see_creation_site (a b : Int) :
    ∃ fuel, obsOfVM (VM.runText fuel (progSite a b) VM.initSt).1 = some (.ok (shows a) []) :=
  compile_correct_on_F3lazy _ (Or.inl (progSite_in a b)) (progSite_wf a b) 20 _ (progSite_ref a b)

/-- non-vacuity, both sides on concrete values: creation site `x ↦ 1`, caller `x ↦ 2`, answer `1` -/
example : obsOfRef (Ref.runProgram 20 (progSite 1 2) Ref.initSt).1 = some (.ok "1" [])
    ∧ ∃ fuel, obsOfVM (VM.runText fuel (progSite 1 2) VM.initSt).1 = some (.ok "1" []) :=
  ⟨progSite_ref 1 2, free_variables_see_creation_site 1 2⟩

/-! ### (b) The closures of one activation share its variables

`(defn mk [c] (def inc (fn [] (set c (+ c 1)))) (def get (fn [] c)) (list inc get)) (def p (mk a))
((first p)) ((first p)) (trace ((second p))) ((first p)) ((second p))`: two closures made in ONE
activation of `mk`; what `inc` assigns, `get` reads. -/
def progShare (a : Int) : List Expr :=
  [.defn "mk" ["c"] none [.def_ "inc" (.fn [] none [.set_ "c" (.call (.sym "+") [.sym "c", .int 1])]),
      .def_ "get" (.fn [] none [.sym "c"]), .call (.sym "list") [.sym "inc", .sym "get"]],
   .def_ "p" (.call (.sym "mk") [.int a]),
   .call (.call (.sym "first") [.sym "p"]) [], .call (.call (.sym "first") [.sym "p"]) [],
   .call (.sym "trace") [.call (.call (.sym "second") [.sym "p"]) []],
   .call (.call (.sym "first") [.sym "p"]) [], .call (.call (.sym "second") [.sym "p"]) []]

theorem progShare_in (a : Int) : FtList (progShare a) = true := by ft_mem2 progShare
theorem progShare_wf (a : Int) : Ref.wfList {} (progShare a) = true := rfl

set_option maxRecDepth 8000 in
theorem progShare_ref (a : Int) :
    obsOfRef (Ref.runProgram 20 (progShare a) Ref.initSt).1
      = some (.ok (showsB (BitVec.ofInt 64 a + 1#64 + 1#64 + 1#64)) [showsB (BitVec.ofInt 64 a + 1#64 + 1#64)]) := by
  ref_run progShare

theorem closures_of_one_activation_share (a : Int) :
    ∃ fuel, obsOfVM (VM.runText fuel (progShare a) VM.initSt).1
      = some (.ok (showsB (BitVec.ofInt 64 a + 1#64 + 1#64 + 1#64)) [showsB (BitVec.ofInt 64 a + 1#64 + 1#64)]) :=
  compile_correct_on_F3lazy _ (Or.inl (progShare_in a)) (progShare_wf a) 20 _ (progShare_ref a)

/-- non-vacuity on concrete values: the counter starts at 5; after two increments `get` reads 7 (traced), after
a third one 8 -/
example : obsOfRef (Ref.runProgram 20 (progShare 5) Ref.initSt).1 = some (.ok "8" ["7"])
    ∧ ∃ fuel, obsOfVM (VM.runText fuel (progShare 5) VM.initSt).1 = some (.ok "8" ["7"]) :=
  ⟨progShare_ref 5, closures_of_one_activation_share 5⟩

/-! ### (c) Every activation gets fresh variables

`(defn mk [c] (fn [] (set c (+ c 1)))) (def k1 (mk a)) (def k2 (mk b)) (trace (k1)) (trace (k1)) (k2)`:
two activations of the same function, two independent counters — `k2` answers `b+1` whatever was done
through `k1`. -/
def progFresh (a b : Int) : List Expr :=
  [.defn "mk" ["c"] none [.fn [] none [.set_ "c" (.call (.sym "+") [.sym "c", .int 1])]],
   .def_ "k1" (.call (.sym "mk") [.int a]), .def_ "k2" (.call (.sym "mk") [.int b]),
   .call (.sym "trace") [.call (.sym "k1") []], .call (.sym "trace") [.call (.sym "k1") []],
   .call (.sym "k2") []]

theorem progFresh_in (a b : Int) : FtList (progFresh a b) = true := by ft_mem2 progFresh
theorem progFresh_wf (a b : Int) : Ref.wfList {} (progFresh a b) = true := rfl

set_option maxRecDepth 8000 in
theorem progFresh_ref (a b : Int) :
    obsOfRef (Ref.runProgram 20 (progFresh a b) Ref.initSt).1
      = some (.ok (showsB (BitVec.ofInt 64 b + 1#64))
          [showsB (BitVec.ofInt 64 a + 1#64), showsB (BitVec.ofInt 64 a + 1#64 + 1#64)]) := by
  ref_run progFresh

theorem fresh_variables_per_activation (a b : Int) :
    ∃ fuel, obsOfVM (VM.runText fuel (progFresh a b) VM.initSt).1
      = some (.ok (showsB (BitVec.ofInt 64 b + 1#64))
          [showsB (BitVec.ofInt 64 a + 1#64), showsB (BitVec.ofInt 64 a + 1#64 + 1#64)]) :=
  compile_correct_on_F3lazy _ (Or.inl (progFresh_in a b)) (progFresh_wf a b) 20 _ (progFresh_ref a b)

example : obsOfRef (Ref.runProgram 20 (progFresh 10 20) Ref.initSt).1 = some (.ok "21" ["11", "12"])
    ∧ ∃ fuel, obsOfVM (VM.runText fuel (progFresh 10 20) VM.initSt).1 = some (.ok "21" ["11", "12"]) :=
  ⟨progFresh_ref 10 20, fresh_variables_per_activation 10 20⟩

/-! ### (d) Captured variables outlive the activation that made them

`(defn mk [x] (let [y x] (fn [] (set y (+ y 1))))) (def k (mk a))
(defn other [y] (newScope (def x y) x)) (other b) (other b) (trace (k)) (k)`: the closure is used after
`mk` returned and its `let` scope was left, and after other activations and scopes binding the same
names came and went; the variable is still there, still assignable. -/
def progOutlive (a b : Int) : List Expr :=
  [.defn "mk" ["x"] none [.let_ false [("y", .sym "x")]
      [.fn [] none [.set_ "y" (.call (.sym "+") [.sym "y", .int 1])]]],
   .def_ "k" (.call (.sym "mk") [.int a]),
   .defn "other" ["y"] none [.newScope [.def_ "x" (.sym "y"), .sym "x"]],
   .call (.sym "other") [.int b], .call (.sym "other") [.int b],
   .call (.sym "trace") [.call (.sym "k") []], .call (.sym "k") []]

theorem progOutlive_in (a b : Int) : FtList (progOutlive a b) = true := by ft_mem2 progOutlive
theorem progOutlive_wf (a b : Int) : Ref.wfList {} (progOutlive a b) = true := rfl

set_option maxRecDepth 8000 in
theorem progOutlive_ref (a b : Int) :
    obsOfRef (Ref.runProgram 20 (progOutlive a b) Ref.initSt).1
      = some (.ok (showsB (BitVec.ofInt 64 a + 1#64 + 1#64)) [showsB (BitVec.ofInt 64 a + 1#64)]) := by
  ref_run progOutlive

theorem captured_outlives_activation (a b : Int) :
    ∃ fuel, obsOfVM (VM.runText fuel (progOutlive a b) VM.initSt).1
      = some (.ok (showsB (BitVec.ofInt 64 a + 1#64 + 1#64)) [showsB (BitVec.ofInt 64 a + 1#64)]) :=
  compile_correct_on_F3lazy _ (Or.inl (progOutlive_in a b)) (progOutlive_wf a b) 20 _ (progOutlive_ref a b)

example : obsOfRef (Ref.runProgram 20 (progOutlive 3 100) Ref.initSt).1 = some (.ok "5" ["4"])
    ∧ ∃ fuel, obsOfVM (VM.runText fuel (progOutlive 3 100) VM.initSt).1 = some (.ok "5" ["4"]) :=
  ⟨progOutlive_ref 3 100, captured_outlives_activation 3 100⟩

/-! ### (e) A self tail call gets a fresh scope

`(defn lp [n v acc] (def f (fn [] v)) (cond (== n 0) acc (lp (- n 1) (+ v 1) (cons f acc))))
(def fs (lp 2 a ())) (trace ((first fs))) ((second fs))`: `lp` iterates by the self-tail-call jump
(`goto 0` after `removeScope`s, then `AddFuncScope` again); every iteration makes a closure over ITS
parameter `v`. The closure of the second iteration answers `a+1`, the one of the first `a` — not the
value of the last iteration, as they would if the jump re-used the function scope. The program is in F2c
and not in F2 (`progTail_notF2`): the theorem used is `compile_correct_on_F2c`. -/
def progTail (a : Int) : List Expr :=
  [.defn "lp" ["n", "v", "acc"] none [.def_ "f" (.fn [] none [.sym "v"]),
      .cond [(.call (.sym "==") [.sym "n", .int 0], .sym "acc")]
        (.call (.sym "lp") [.call (.sym "-") [.sym "n", .int 1], .call (.sym "+") [.sym "v", .int 1],
          .call (.sym "cons") [.sym "f", .sym "acc"]])],
   .def_ "fs" (.call (.sym "lp") [.int 2, .int a, .nilLit]),
   .call (.sym "trace") [.call (.call (.sym "first") [.sym "fs"]) []],
   .call (.call (.sym "second") [.sym "fs"]) []]

theorem progTail_in (a : Int) : FyList (progTail a) = true := by fy_mem progTail
theorem progTail_notF2 (a : Int) : FtList (progTail a) = false := by fy_mem progTail
theorem progTail_wf (a : Int) : Ref.wfList {} (progTail a) = true := rfl

set_option maxRecDepth 8000 in
theorem progTail_ref (a : Int) :
    obsOfRef (Ref.runProgram 40 (progTail a) Ref.initSt).1
      = some (.ok (showsB (BitVec.ofInt 64 a)) [showsB (BitVec.ofInt 64 a + 1#64)]) := by
  ref_run progTail

theorem tail_call_gets_fresh_scope (a : Int) :
    ∃ fuel, obsOfVM (VM.runText fuel (progTail a) VM.initSt).1
      = some (.ok (showsB (BitVec.ofInt 64 a)) [showsB (BitVec.ofInt 64 a + 1#64)]) :=
  compile_correct_on_F3lazy _ (Or.inr (progTail_in a)) (progTail_wf a) 40 _ (progTail_ref a)

example : obsOfRef (Ref.runProgram 40 (progTail 7) Ref.initSt).1 = some (.ok "7" ["8"])
    ∧ ∃ fuel, obsOfVM (VM.runText fuel (progTail 7) VM.initSt).1 = some (.ok "7" ["8"]) :=
  ⟨progTail_ref 7, tail_call_gets_fresh_scope 7⟩

/-! ## 2. `RelF` and C03's `Sim`

`Sim` and `SimX` are here `Scope.Sim` and `Scope.SimX` (Proofs/ScopeSim.lean); the C02 proofs have statements of the
same names (`Sim.Sim` for Fv, `Sim.SimX` for loops with exits), which this file does not open.

`Sim ρ φ s rs env` (Props/C03 §6) asks, along the VM's search list `lexCore s`: (chain) its image
under `ρ`, repetitions removed, is the reference static chain of `env`; (vars) the variables of scope
`id` are those of frame `ρ id`, translated by `φ`, AS LISTS; (template) stage 3 adds no scope.
`Sim.RelF m s rs env` (the relation the C02 simulation proofs maintain) gives all of it with `ρ = id`
(scope ids are frame ids) and `φ = Sim.trf m` (values modulo the numbering of closures) — except
the order of the bindings inside one frame, which the two evaluators do not share (the machine binds
parameters and the names of a parallel `let` last-first, the reference first-first; `RelF.vars` is
extensional). `SimX` is `Sim` with (vars) by lookup; it is what `lookup_sound` uses. -/

/-- `Sim` is `SimX` plus the order of bindings. -/
theorem sim_implies_simX {ρ : Nat → Nat} {φ : Val → Val} {s : St} {rs : Ref.St} {env : Nat} (h : Sim ρ φ s rs env) :
    SimX ρ φ s rs env := h.toX

/-- **`RelF` implies `Sim` up to the order of bindings.** The content is the `chain` field: the live
scopes of the running activation down to its function scope, then the captured stacks of the running
closure object and of the closures that made it (`Scope.chainIds`, the walk of
`LookupSymbolInParentChainOfClosures`), repetitions removed (the helper functions of operand evaluation
and of `force` repeat scopes already searched), ARE the reference static chain of `env`
(`Scope.chainF_refChain`, `Scope.fnChainF_dedup`). -/
theorem simX_of_relF {m : Nat → Nat} {s : St} {rs : Ref.St} {env : Nat} (h : RelF m s rs env) :
    SimX id (trf m) s rs env :=
  ZygoVerif.Scope.simX_of_relF h

/-- the initial interpreter against the initial reference state: `SimX` is satisfiable through `RelF` -/
example : SimX id (trf id) VM.initSt Ref.initSt 0 := simX_of_relF (relF_initSt id)

/-- the lookups agree under `RelF` (`Sim.RelF.lexLookup`): search list → static chain → first binding. -/
theorem lookup_agrees_under_relF {m : Nat → Nat} {s : St} {rs : Ref.St} {env : Nat} (h : RelF m s rs env) (x : String) :
    (lexLookup s x).map (fun p => (p.1, trf m p.2)) = Ref.lookup rs env x :=
  h.lexLookup x

/-- in the initial interpreter every name is found (or not) alike by both lookups; e.g. the builtin `+` -/
example : ∀ x, (lexLookup VM.initSt x).map (fun p => (p.1, trf id p.2)) = Ref.lookup Ref.initSt 0 x :=
  lookup_agrees_under_relF (relF_initSt id)
example : Ref.lookup Ref.initSt 0 "+" = some (0, .builtin "+") := by decide

/-! ### The difference between `Sim` and `SimX` is real

A one-scope state whose two variables are listed in the opposite order in the reference frame (as after
`(let [a 1 b 2] …)`, or a call of a two-parameter function): `SimX` holds, `Sim` does not. -/
def twoVarsVM : St :=
  { fns := [{ name := "__main", closing := [some 0] }],
    scopes := [{ vars := [("a", .int 1#64), ("b", .int 2#64)] }], linear := [some 0] }
def twoVarsRef : Ref.St := { frames := [{ vars := [("b", .int 2#64), ("a", .int 1#64)] }] }

theorem simX_not_sim : SimX id id twoVarsVM twoVarsRef 0 ∧ ¬ Sim id id twoVarsVM twoVarsRef 0 := by
  have hcore : lexCore twoVarsVM = [0, 0] := by decide
  refine ⟨⟨by decide, fun i hi x => ?_, by decide⟩, fun h => ?_⟩
  · rw [hcore] at hi
    have hi0 : i = 0 := by simpa using hi
    subst hi0
    show List.lookup x [("b", Val.int 2#64), ("a", Val.int 1#64)]
      = (List.lookup x [("a", Val.int 1#64), ("b", Val.int 2#64)]).map id
    by_cases ha : x = "a"
    · subst ha; decide
    · by_cases hb : x = "b"
      · subst hb; decide
      · have ha' : (x == "a") = false := by simpa using ha
        have hb' : (x == "b") = false := by simpa using hb
        simp only [List.lookup, ha', hb', Option.map_none]
  · have := h.vars 0 (by rw [hcore]; simp)
    revert this; decide

/-! ### Preservation on the fragment

`SimPreservedFull` (Props/C03) quantifies over every instruction from every related state. What the C02
simulation proofs give is preservation at the granularity the reference evaluator has — one
EXPRESSION: from related states, the machine runs the whole code the generator made for an expression
of the fragment (any number of instructions: scopes entered and left, `def`/`set`, closures made,
operands evaluated in nested runs, calls and returns of closure objects — whose bodies may loop by self
tail calls —, `apply`/`map`, lazy arguments made and forced) and is then again related to the reference
state after `Ref.eval`, at the same environment, with the id map extended by the closures made. -/

theorem sim_preserved_on_fragment (fnOk : Bool) (self : String) (e : Expr) (he : Ff fnOk self e = true)
    (isFn : Nat → Bool) (c : Ctx) (hfn : FnameOk self c) (gs gs' : GS) (code : List Instr) (t : Bool)
    (hc : (compile isFn c e).run gs = .ok ((code, t), gs')) (m : Nat → Nat) (s : St) (rs : Ref.St) (env : Nat)
    (pre post : List Instr) (hrel : RelF m s rs env) (hgen : fnOk = true → GenOk gs gs' s)
    (huser : (fnOf s s.curfunc).user = false)
    (hcode : (fnOf s s.curfunc).code = pre ++ code ++ post) (hpc : s.pc = (pre.length : Int))
    (n : Nat) (v' : Val) (rs' : Ref.St) (hev : Ref.eval n e env rs = .ok v' rs') :
    SimX id (trf m) s rs env ∧
    ∃ s' m', SimX id (trf m') s' rs' env
      ∧ (∀ i, i < s.fns.length → m' i = m i)
      ∧ (∃ v, s'.data = some v :: s.data ∧ v' = trf m' v)
      ∧ s'.pc = s.pc + (code.length : Int) ∧ s'.linear = s.linear ∧ s'.curfunc = s.curfunc
      ∧ (∃ k j, ∀ fuel, j ≤ fuel → ∀ st, (runLoop (fuel + k) st).run s = (runLoop fuel st).run s')
      ∧ ∀ x, (lexLookup s' x).map (fun p => (p.1, trf m' p.2)) = Ref.lookup rs' env x := by
  have h := segment_lemma_Ff fnOk self e he isFn c hfn gs gs' code t hc m s rs env pre post hrel hgen huser hcode hpc n
  rw [hev] at h
  obtain ⟨s', m', v, hv, rel, hm, -, hpc', hdata, hlin, -, hcur, hrun⟩ := h
  exact ⟨simX_of_relF hrel, s', m', simX_of_relF rel, hm, ⟨v, hdata, hv⟩, hpc', hlin, hcur, hrun,
    lookup_agrees_under_relF rel⟩

/-! Non-vacuity: the hypotheses of `sim_preserved_on_fragment` are jointly satisfiable — the initial
interpreter with the code of the text `1` loaded into `__main` (for real program texts they are discharged
by `Sim.runText_Ft` / `Sim.runText_Fy`, which is how `lexical_scoping_on_fragment` is proved). -/
def loaded1 : St :=
  { VM.initSt with fns := [{ name := "__main", closing := [some 0], code := [.push (intOfLit 1)] },
                           { name := "builtin", user := true }] }
def gs1 : GS := { fns := loaded1.fns, live := [some 0] }

theorem relF_loaded1 : RelF id loaded1 Ref.initSt 0 :=
  (relF_initSt id).load (s' := loaded1) rfl rfl rfl rfl rfl
    ⟨Nat.le_refl _, fun i hi hne => by
      match i, hi, hne with
      | 1, _, _ => rfl, rfl, rfl, LoopsExt.refl _⟩

example : ∃ s' m', SimX id (trf m') s' Ref.initSt 0 ∧ s'.data = [some (intOfLit 1)] ∧ s'.pc = 1
    ∧ ∀ x, (lexLookup s' x).map (fun p => (p.1, trf m' p.2)) = Ref.lookup Ref.initSt 0 x := by
  have hgen : GenOk gs1 gs1 loaded1 :=
    ⟨rfl, by decide, Nat.le_refl _, fun t h1 h2 => absurd h2 (Nat.not_lt.mpr h1), Nat.zero_le _,
      fun id h => absurd h (Nat.not_lt_zero _)⟩
  obtain ⟨-, s', m', hsim, -, ⟨v, hd, hv⟩, hpc, -, -, -, hlk⟩ :=
    sim_preserved_on_fragment true "" (.int 1) (by simp [Ff]) (fun _ => false) {} (Or.inl rfl) gs1 gs1
      [.push (intOfLit 1)] false rfl id loaded1 Ref.initSt 0 [] [] relF_loaded1 (fun _ => hgen) rfl rfl rfl
      1 (intOfLit 1) Ref.initSt (by simp [Ref.eval])
  refine ⟨s', m', hsim, ?_, by rw [hpc]; rfl, hlk⟩
  have : v = intOfLit 1 := by
    cases v <;> simp [intOfLit, tr] at hv ⊢
    exact hv.symm
  rw [hd, this]; rfl

/-- **… and across a self tail call.** A call in tail position of a function body of the fragment,
whatever the generator made of it (the ordinary `callExpr`, or guard / operands inline / `prepareCall` /
`removeScope` × (scopes+1) / `goto 0`): when the reference evaluator yields a value, the machine either
lands behind the call related at the same environment (ordinary call: guard failed or never emitted), or
— the jump was taken, the function scope was dropped and `AddFuncScope` ran again for a FRESH scope — the
whole activation has returned to its caller (`pc = s₁.pc + 1`) and the states are related at the CALLER's
environment `env` again. From `C02.tail_call_simulates`; the hypotheses are the ones of that theorem
(`Sim.InAct`: inside the activation of closure `vid` entered from `s₁`), discharged for the body of every
closure object of the fragment inside `Sim.fclaimU_succ` — `tail_call_gets_fresh_scope` above runs through
this path three times. -/
theorem sim_preserved_across_tail_call {k : Nat} {self h : String} {args : List Expr} (hh : (h != "") = true)
    (hhead : okHead h = true) (hfa : FaList args = true) (hself : (h != self) = true ∨ FfList false self args = true)
    (isFn : Nat → Bool) (c : Ctx) (gs : GS) (r : (List Instr × Bool) × GS)
    (hc : (compile isFn c (.call (.sym h) args)).run gs = .ok r) (hfn : FnameOk self c)
    {ps : List String} {rest : Option String} (hkn : KnownOk c gs ps rest) (hps : ∀ p ∈ ps ++ rest.toList, okParam p = true)
    {m₁ : Nat → Nat} {s₁ : St} {rs₁ : Ref.St} {env vid : Nat} {D : List (Option Val)} {m : Nat → Nat} {s : St} {rs : Ref.St}
    {cenv f₀ : Nat} {pre post : List Instr}
    (hact : InAct m₁ s₁ rs₁ env vid D f₀ c.scopes m s rs) (hnargs : (fnOf s₁ vid).nargs = ps.length)
    (hva : (fnOf s₁ vid).varargs = rest.isSome) (hpa : (fnOf s₁ vid).params = ps ++ rest.toList)
    (hrel : RelF m s rs cenv) (hseg : Seg s pre r.1.1 post)
    (v' : Val) (rs' : Ref.St) (hev : Ref.eval (k + 2) (.call (.sym h) args) cenv rs = .ok v' rs') :
    (∃ s' m', ReachX s s' ∧ SimX id (trf m') s' rs' cenv)
    ∨ (∃ s' m', ReachX s s' ∧ s'.pc = s₁.pc + 1 ∧ SimX id (trf m') (s'.withCur f₀) rs' env) := by
  have ht := tail_call_simulates (k := k) hh hhead hfa hself isFn c gs r hc hfn hkn hps hact hnargs hva hpa hrel hseg
  rw [hev] at ht
  rcases ht with ⟨s', m', v, hr, -, -, rel, -⟩ | ⟨s', m', v, hr, hpc, -, -, rel, -⟩
  · exact Or.inl ⟨s', m', hr, simX_of_relF rel⟩
  · exact Or.inr ⟨s', m', hr, hpc, simX_of_relF rel⟩

/-- What stays OUTSIDE: `SimPreservedFull` itself (every instruction, every related state — also states no
program reaches), and every program outside the proved fragments (`C02.CompileCorrectOutsideProved`:
`fn`/`defn` inside the operands of a call — templates made at run time close over the dynamic stack, so
`Sim.FScopes` fails —, a self call in a directly compiled non-tail position, `substitute`, an empty
`newScope`). For those the claim rests on the `scope` correspondence runs. This theorem only records that
the fragment's statement and the full one are different propositions of which the first is proved. -/
theorem sim_preserved_scope :
    (∀ m s rs env, RelF m s rs env → SimX id (trf m) s rs env)
    ∧ (CompileCorrectOutsideProved → CompileCorrect) :=
  ⟨fun _ _ _ _ h => simX_of_relF h, compile_correct_partial.2.1⟩

end ZygoVerif.C03
