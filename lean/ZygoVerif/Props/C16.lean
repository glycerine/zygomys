/-
C16 — lazy parameters delay, memoise and stay lexical; strict ones do not.

All theorems are about the executable model of the code that exists (`Model/VM.lean`:
`prepareArgs` = `PrepareCallExprArgs`, `callResolved` = `CallResolved`, `exec (.pushLazy e)` =
`PushLazyArgInstr`, `applyFn` = `Apply`, `forceLazy` = `SexpLazyArg.Force`, `builtin
"substitute"` = `SubstituteFunction`; `Model/Gen.lean`: `compileCallArgs` =
`GenerateCallArgsForFunction`), which channel `lazy` ties to the Go code on every run. They
hold for every function object, every argument list, every state, every amount of fuel: no
bound on sizes, depths or steps. Definitions used in the statements: `lazyPos`, `allocThunk`,
`forceEntry` in `Proofs/VMBody.lean`, `prepPlan`, `Step`, `Reach`, `applyWrap` in `Proofs/LazyCalls.lean`; the
whole-machine invariant `allPres` (every function of the machine, for every instruction and
outcome, only extends the thunk table) is in `Proofs/Lazy.lean`.

Full-strength statement: `LazySemantics` — the VM model agrees with the call-by-need
reference evaluator `Spec/RefEval.lean` (thunk = expression + creation environment + memo;
strict arguments once, left to right, before the call) on class, value and effect trace of
every well-formed program. It is the statement `C02.CompileCorrect` restricted to no
fragment; the execution half of that simulation is not proved (see `notes/C02.md`), so what
is proved here are the decision points, each at full generality:

(a) `lazy_not_evaluated_at_call`      a lazy position of a call allocates one thunk and runs
                                       nothing (position form, closed form for all-lazy calls,
                                       and the same for the compile-time instruction);
(b) `force_memoises`                  a successful force stores the value; every later force —
                                       after any further activity of the machine, also in a
                                       later program text — returns it and changes nothing;
(c) `force_in_callers_env`            the thunk records the scope stack and function of the
                                       call site, keeps them whatever happens (the caller may
                                       have returned), and force runs the expression on exactly
                                       that stack, in a function closed over it;
(d) `strict_args_evaluated_once_before_call`, `strict_never_receives_thunk`
                                       a strict position is one `evalCallExpr` whose value is
                                       the operand, before `callFunction`; the three decision
                                       points (run time, compile time for the self tail call,
                                       `apply`/`map`) use the same predicate of the function
                                       object the callee *evaluated to* (so name, alias,
                                       parameter and computed callee cannot differ); variadic
                                       tails, Go builtins and unknown callees are strict;
(e) `source_recoverable`              `substitute` returns the expression the thunk was made
                                       from, as data, unevaluated, at any later time.

Not claimed: (i) the binding of operand *i* to formal *i* by the function prologue and the
lookup rules inside the forced expression are execution facts of the VM (C02/C03's
simulation); they are held by the correspondence (`lazy` channel: caller-local free
variables shadowed in the callee, forced after the caller returned). (ii) A force that
*fails* stores nothing and a later force runs the expression again (Go and the reference agree:
an error is not a value). (iii) A thunk forced re-entrantly from inside its own evaluation is
evaluated once per nesting level (both sides again).
-/
import ZygoVerif.Proofs.LazyCalls
import ZygoVerif.Proofs.VMBody
import ZygoVerif.Spec.RefEval
import ZygoVerif.Generated.CallEmit
namespace ZygoVerif.C16
open ZygoVerif.Core ZygoVerif.VM

inductive Obs where
  | ok (value : String) (trace : List String)
  | err (trace : List String)
deriving DecidableEq, Repr

def obsOfRef : Ref.Outcome → Option Obs
  | .ok v t => some (.ok v t)
  | .err t => some (.err t)
  | .timeout => none

def obsOfVM : VM.Outcome → Option Obs
  | .done "ok" v t _ => some (.ok v t)
  | .done "err" _ t _ => some (.err t)
  | _ => none

/-- The property at full strength on the model: on every well-formed program on which the
call-by-need reference evaluator terminates, the machine (given enough fuel) shows the same
class, value and trace of effects. NOT proved in full (it is C02's `CompileCorrect`); it IS
proved on the fragment of programs with lazy parameters, `force`, closures, tail calls, apply/map
covered by C02's simulation: `ZygoVerif.C02.lazy_semantics_on_F3lazy` in Props/C02.lean (which
imports this file and restates this very definition restricted to that fragment). -/
def LazySemantics : Prop :=
  ∀ (p : List Expr), Ref.wfList {} p = true →
    ∀ fuel o, obsOfRef (Ref.runProgram fuel p Ref.initSt).1 = some o →
      ∃ fuel', obsOfVM (VM.runText fuel' p VM.initSt).1 = some o

/-! ## (a) a lazy argument is not evaluated at the call -/

/-- With fuel for every argument, `prepareArgs` is its plan: `prepPlan` (read its definition:
a lazy position is `modify (allocThunk e)`, a strict one `evalCallExpr … e >>= pushData`). -/
theorem prepare_is_plan (fuel : Nat) (f : Option FnObj) (args : List Expr) (i : Nat) (s : St) :
    runM (prepareArgs (fuel + 1 + args.length) f i args) s = runM (prepPlan (fuel + 1) f i args) s := by
  induction args generalizing i s with
  | nil => simp only [List.length_nil, Nat.add_zero, prepareArgs, prepPlan]
  | cons e es ih =>
    rw [show fuel + 1 + (e :: es).length = (fuel + 1 + es.length) + 1 from rfl,
      show runM _ s = _ from run_prepareArgs_cons _ f i e es s]
    simp only [prepPlan, runM_bind]
    cases hl : lazyPos f i with
    | true => rw [if_pos rfl, if_pos rfl]; exact ih (i + 1) _
    | false =>
      rw [if_neg Bool.false_ne_true, if_neg Bool.false_ne_true, runM_bind]
      dsimp only [runM]
      rcases (evalCallExpr (fuel + 1 + es.length) e).run s with ⟨_ | v, s1⟩
      · rfl
      · exact ih (i + 1) _

/-- **Not evaluated at the call.** Whatever the other arguments are, the argument at a lazy
position contributes exactly `allocThunk e`: one thunk holding `e`, the current scope stack
and function; one operand naming it. No instruction of `e` runs; trace, scopes, heap,
function table are what they were (`allocThunk_effect`). -/
theorem lazy_not_evaluated_at_call (fuel : Nat) (f : Option FnObj) (i : Nat) (pre : List Expr) (e : Expr)
    (post : List Expr) (s : St) (h : lazyPos f (i + pre.length) = true) :
    runM (prepareArgs (fuel + 1 + (pre ++ e :: post).length) f i (pre ++ e :: post)) s =
      runM (prepPlan (fuel + 1 + (post.length + 1)) f i pre >>= fun _ =>
            modify (allocThunk e) >>= fun _ => prepPlan (fuel + 1) f (i + pre.length + 1) post) s := by
  rw [prepare_is_plan, prepPlan_append, List.length_cons]
  simp only [runM_bind, prepPlan_cons, prepOne, h, if_true]

theorem allocThunk_effect (e : Expr) (s : St) :
    (allocThunk e s).lazies[s.lazies.length]? =
      some ({ e, stack := s.linear, curfunc := s.curfunc, value := none } : LazyObj) ∧
    (allocThunk e s).data = some (.lazy s.lazies.length) :: s.data ∧
    (allocThunk e s).trace = s.trace ∧ (allocThunk e s).scopes = s.scopes ∧ (allocThunk e s).fns = s.fns ∧
    (allocThunk e s).heap = s.heap ∧ (allocThunk e s).linear = s.linear ∧ (allocThunk e s).addr = s.addr ∧
    (allocThunk e s).curfunc = s.curfunc ∧ (allocThunk e s).pc = s.pc := by
  refine ⟨?_, rfl, rfl, rfl, rfl, rfl, rfl, rfl, rfl, rfl⟩
  simp [allocThunk]

/-- Every position lazy: preparing the call is a fold of `allocThunk`, for any number of
arguments; the trace and everything but thunk table and operand stack are unchanged. -/
theorem lazy_not_evaluated_all_lazy (fuel : Nat) (f : Option FnObj) (args : List Expr) (i : Nat) (s : St)
    (h : ∀ j, j < args.length → lazyPos f (i + j) = true) :
    let s' := args.foldl (fun s e => allocThunk e s) s
    runM (prepareArgs (fuel + 1 + args.length) f i args) s = (.ok (), s') ∧
    s'.trace = s.trace ∧ s'.scopes = s.scopes ∧ s'.fns = s.fns ∧ s'.heap = s.heap ∧
    s'.lazies.length = s.lazies.length + args.length := by
  have hp := prepPlan_all_lazy (fuel + 1) f args i s h
  have hf := allocThunk_fold_frame args s
  exact ⟨by rw [prepare_is_plan]; exact hp, hf.1, hf.2.1, hf.2.2.1, hf.2.2.2.1, by rw [hf.2.2.2.2]; simp⟩

/-- The compile-time route (`PushLazyArgInstr`, emitted for the lazy positions of a self tail
call) does to the state exactly what the run-time route does. -/
theorem lazy_not_evaluated_pushLazy (fuel : Nat) (e : Expr) (s : St) :
    runM (exec (fuel + 1) (.pushLazy e)) s = (.ok (), { allocThunk e s with pc := s.pc + 1 }) :=
  exec_simple_eq fuel _ s rfl

/-! ## (b) force memoises -/

/-- a thunk holding a value answers with it and nothing else happens -/
theorem force_returns_memo (fuel id : Nat) (s : St) (lz : LazyObj) (v : Val)
    (h : s.lazies[id]? = some lz) (hv : lz.value = some v) :
    runM (forceLazy (fuel + 1) id) s = (.ok v, s) :=
  forceLazy_memo fuel id s lz v h hv

/-- **Memoised, at most once.** If a force succeeds with `v` (state `s1`), the thunk holds `v`,
and after *any* further activity of the machine (`Reach`: instructions, calls, applies, other
forces, whole later program texts; successful or failed) every force of it returns `v` and
leaves the state — trace included — exactly as it is. -/
theorem force_memoises (f1 f2 id : Nat) (s s1 s2 : St) (v : Val)
    (h1 : runM (forceLazy f1 id) s = (.ok v, s1)) (hr : Reach s1 s2) :
    (∃ lz, s1.lazies[id]? = some lz ∧ lz.value = some v) ∧
    runM (forceLazy (f2 + 1) id) s2 = (.ok v, s2) :=
  ⟨force_stores_value f1 id s s1 v h1, force_at_most_once f1 f2 id s s1 s2 v h1 hr⟩

/-- The invariant behind it: every activity of the machine extends the thunk table
(`Proofs/Lazy.lean: allPres`, proved for all thirteen mutually recursive functions of the
machine, every instruction, every outcome). -/
theorem machine_extends_thunk_table {s s' : St} (h : Reach s s') : LExt s.lazies s'.lazies :=
  reach_ext h

/-! ## (c) force evaluates in the caller's lexical environment -/

/-- the thunk keeps expression, captured scope stack and function for ever -/
theorem thunk_keeps_call_site {s s' : St} (hr : Reach s s') (id : Nat) (lz : LazyObj) (h : s.lazies[id]? = some lz) :
    ∃ lz', s'.lazies[id]? = some lz' ∧ lz'.e = lz.e ∧ lz'.stack = lz.stack ∧ lz'.curfunc = lz.curfunc ∧
      lz'.isValue = lz.isValue :=
  let ⟨lz', e, le⟩ := reach_ext hr id lz h
  ⟨lz', e, le.1, le.2.1, le.2.2.1, le.2.2.2.1⟩

/-- **In the caller's environment.** An argument delayed in state `s0` (scope stack
`s0.linear`, function `s0.curfunc`) and forced in any later state `s`, however reached: the
expression is compiled and run by `nested` in the state `forceEntry` — scope stack = the
call site's stack, inside a fresh function whose captured scopes are that stack and whose
parent is the call site's function; the scope stack current at the force is set aside. -/
theorem force_in_callers_env (e : Expr) (s0 s : St) (hr : Reach (allocThunk e s0) s) (fuel : Nat)
    (lz : LazyObj) (hlz : s.lazies[s0.lazies.length]? = some lz) (hv : lz.value = none)
    (code : List Instr) (t : Bool) (s1 : St)
    (hgen : runM (runGen (compile (isFnScope s) {} lz.e)) s = (.ok (code, t), s1)) (hne : code.isEmpty = false) :
    lz.e = e ∧ lz.stack = s0.linear ∧ lz.curfunc = s0.curfunc ∧
    runM (forceLazy (fuel + 1) s0.lazies.length) s =
      runM (nested fuel s1.fns.length (ctlOf s1) >>= forceFinish s0.lazies.length lz) (forceEntry lz code s1) ∧
    ∃ s2, runM (callFunction s1.fns.length 0) (forceEntry lz code s1) = (.ok (), s2) ∧
      s2.linear = s0.linear ∧ s2.pc = 0 ∧ (fnOf s2 s2.curfunc).closing = s0.linear ∧
      (fnOf s2 s2.curfunc).parent = some s0.curfunc ∧ (fnOf s2 s2.curfunc).code = code ++ [.ret] := by
  obtain ⟨lz', h', he, hs, hc, _⟩ := thunk_keeps_call_site hr s0.lazies.length _ (allocThunk_effect e s0).1
  rw [hlz] at h'; cases h'
  refine ⟨he, hs, hc, force_runs_in_entry_state fuel _ s s1 lz code t hlz hv hgen hne, ?_⟩
  obtain ⟨s2, h2, a, _, c, d, e', f', _⟩ := force_body_state lz code s1
  exact ⟨s2, h2, by rw [a, hs], c, by rw [d, hs], by rw [e', hc], f'⟩

/-- **Lookups of a forced expression are the call site's lookups** (partial). `sF`: a state
in which the body of a force runs — scope stack `K` (the thunk's captured stack), current
function `f` closed over `K` with parent `c`, the call site's function (that is the state
`force_in_callers_env` exhibits). `lexLookupAt s lin cur` is `LexicalLookupSymbol` as a
function of scope stack and current function (`lexLookup s = lexLookupAt s s.linear
s.curfunc`, by `rfl`). A symbol resolves during the force as it does for the call site
(scope stack `K`, current function `c`, same tables). Hypotheses NOT discharged here, hence
`_partial`: `hfuel` — the closure chain of `c` fits the walk's fuel (true when every parent
is older than its child, which holds for all functions made by `mkFunction`/`createClosure`
but is not proved as a machine invariant); `hc` — `c` is a closure, or (`c` = main) its own
captured scopes, the global scope, add nothing to what `K` already shows. -/
theorem force_lookup_is_callsite_lookup_partial (sF : St) (K : List (Option Nat)) (f c : Nat) (x : String)
    (hcl : (fnOf sF f).closing = K) (hpar : (fnOf sF f).parent = some c)
    (hfuel : lookupChain sF x sF.fns.length c = lookupChain sF x (sF.fns.length + 1) c)
    (hc : (fnOf sF c).parent.isSome = true ∨
          ((fnOf sF c).parent = none ∧ (lookupUntilFn sF x false K = none → lookupUntilFn sF x false (fnOf sF c).closing = none) ∧ 0 < sF.fns.length)) :
    lexLookupAt sF K f x = lexLookupAt sF K c x ∧ (∀ s y, lexLookup s y = lexLookupAt s s.linear s.curfunc y) := by
  refine ⟨?_, fun _ _ => rfl⟩
  unfold lexLookupAt
  cases h1 : lookupUntilFn sF x false K with
  | some r => rfl
  | none =>
    dsimp only
    have hstep : lookupChain sF x (sF.fns.length + 1) f = lookupChain sF x sF.fns.length c := by
      rw [lookupChain]; simp only [hpar, hcl, h1]
    simp only [hpar, Option.isSome_some, if_true, hstep]
    rcases hc with hc | ⟨hc1, hc2, hc3⟩
    · simp only [hc, if_true, hfuel]
    · simp only [hc1, Option.isSome_none, Bool.false_eq_true, if_false, hc2 h1]
      cases hn : sF.fns.length with
      | zero => omega
      | succ n => simp only [lookupChain, hc1]

/-- **The read happens at force time.** (1) Delaying an argument reads no variable: the new
thunk has no value for *every* expression — a bare symbol included — and `allocThunk` commutes
with any change of the scope contents. (2) After a call with only lazy positions every new thunk
holds its expression and no value. (3) For a thunk whose expression is the bare variable `x`,
still without value in a later state `s`: the force compiles `x` to the single instruction
`envToStack x` without touching `s`, and runs it in `forceEntry`, whose scope *contents* are
those of `s` — the state at the time of the force, not of the call — and `envToStack x` is the
lookup `lexLookup` in the state it executes in. So a `set` between call and first force is
seen by the force; one between two forces is not (`force_memoises`). -/
theorem force_reads_at_force_time :
    (∀ (e : Expr) (s : St), ∃ lz, (allocThunk e s).lazies[s.lazies.length]? = some lz ∧ lz.e = e ∧ lz.value = none) ∧
    (∀ (e : Expr) (s : St) (sc : List Scope), allocThunk e { s with scopes := sc } = { allocThunk e s with scopes := sc }) ∧
    (∀ (fuel : Nat) (f : Option FnObj) (args : List Expr) (i : Nat) (s : St),
       (∀ j, j < args.length → lazyPos f (i + j) = true) →
       ∃ s', runM (prepareArgs (fuel + 1 + args.length) f i args) s = (.ok (), s') ∧
         ∀ j (hj : j < args.length), ∃ lz, s'.lazies[s.lazies.length + j]? = some lz ∧ lz.e = args[j] ∧ lz.value = none) ∧
    (∀ (fuel id : Nat) (s : St) (lz : LazyObj) (x : String),
       s.lazies[id]? = some lz → lz.value = none → lz.e = .sym x →
       runM (forceLazy (fuel + 1) id) s =
         runM (nested fuel s.fns.length (ctlOf s) >>= forceFinish id lz) (forceEntry lz [.envToStack x] s) ∧
       (forceEntry lz [.envToStack x] s).scopes = s.scopes ∧
       (∃ s2, runM (callFunction s.fns.length 0) (forceEntry lz [.envToStack x] s) = (.ok (), s2) ∧
          s2.scopes = s.scopes ∧ (fnOf s2 s2.curfunc).code = [.envToStack x, .ret] ∧ s2.pc = 0)) ∧
    (∀ (fuel : Nat) (x : String) (s : St),
       runM (exec (fuel + 1) (.envToStack x)) s =
         match lexLookup s x with
         | some (_, v) => (.ok (), { s with data := some v :: s.data, pc := s.pc + 1 })
         | none => (.error .err, s)) := by
  refine ⟨fun e s => ⟨_, (allocThunk_effect e s).1, rfl, rfl⟩, fun _ _ _ => rfl, ?_, ?_, Sim.exec_envToStack⟩
  · intro fuel f args i s h
    refine ⟨_, by rw [prepare_is_plan]; exact prepPlan_all_lazy (fuel + 1) f args i s h, ?_⟩
    intro j hj
    refine ⟨{ e := args[j], stack := s.linear, curfunc := s.curfunc, value := none }, ?_, rfl, rfl⟩
    rw [(allocThunk_fold_frame args s).2.2.2.2, List.getElem?_append_right (Nat.le_add_right _ _), Nat.add_sub_cancel_left,
      List.getElem?_map, List.getElem?_eq_getElem hj]
    rfl
  · intro fuel id s lz x hlz hv he
    have hgen : runM (runGen (compile (isFnScope s) {} lz.e)) s = (.ok ([.envToStack x], false), s) := by
      rw [he]
      simp only [compile, runGen, runM_bind, runM_get]
      rfl
    refine ⟨force_runs_in_entry_state fuel id s s lz [.envToStack x] false hlz hv hgen rfl, rfl, ?_⟩
    obtain ⟨s2, h2, _, _, c, _, _, f', g, _⟩ := force_body_state lz [.envToStack x] s
    exact ⟨s2, h2, g, f', c⟩

/-! ## (d) strict positions -/

/-- **Exactly once, before the call.** Whatever the other arguments are, the argument at a
strict position is one `evalCallExpr` of its expression — after the arguments to its left,
before those to its right — and its value is the operand. -/
theorem strict_args_evaluated_once_before_call (fuel : Nat) (f : Option FnObj) (i : Nat) (pre : List Expr)
    (e : Expr) (post : List Expr) (s : St) (h : lazyPos f (i + pre.length) = false) :
    runM (prepareArgs (fuel + 1 + (pre ++ e :: post).length) f i (pre ++ e :: post)) s =
      runM (prepPlan (fuel + 1 + (post.length + 1)) f i pre >>= fun _ =>
            (evalCallExpr (fuel + 1 + post.length) e >>= fun v => pushData v) >>= fun _ =>
            prepPlan (fuel + 1) f (i + pre.length + 1) post) s := by
  rw [prepare_is_plan, prepPlan_append, List.length_cons]
  simp only [runM_bind, prepPlan_cons, prepOne, h, Bool.false_eq_true, if_false]

/-- …and the whole preparation precedes `callFunction` (arity check, variadic packing, entry);
the formals consulted are those of the function object the callee evaluated to. -/
theorem call_prepares_then_enters (fuel id : Nat) (args : List Expr) (s : St) :
    runM (callResolved (fuel + 1) (.fn id) args) s =
      match runM (do prepareArgs fuel (some (fnOf s id)) 0 args; callFunction id args.length : M Unit) s with
      | (.ok u, s') => (.ok u, s')
      | (.error .err, s') => (.error .err, { s' with data := truncate s'.data s.data.length })
      | (.error flt, s') => (.error flt, s') := by
  unfold runM
  rw [run_callResolved]
  dsimp only
  rcases ExceptT.run (do prepareArgs fuel (some (fnOf s id)) 0 args; callFunction id args.length : M Unit) s with
    ⟨(_ | _ | _) | u, s1⟩ <;> rfl

/-- Every call that is not a self tail call is one `CallExprInstr`: callee first, then
`callResolved` on the callee's *value* — by name, alias, parameter or computed callee alike. -/
theorem every_call_route_resolves_at_run_time (isFn : Nat → Bool) (c : Ctx) (fuel : Nat) :
    (∀ f args, (∀ h, f ≠ .sym h) → compile isFn c (.call f args) = pure ([.callExpr f args], c.tail)) ∧
    (∀ h args, (c.tail && h == c.funcname) = false →
       compile isFn c (.call (.sym h) args) = pure ([.callExpr (.sym h) args], c.tail)) ∧
    (∀ callee args, exec (fuel + 1) (.callExpr callee args) =
       (do let f ← evalCallExpr fuel callee; callResolved fuel f args)) :=
  ⟨fun _ args hf => funext fun gs => Sim.compile_call_nonsym isFn c args gs hf,
   fun h args hn => compile_call_by_name isFn c h args hn,
   fun callee args => by simp only [exec]⟩

/-- **The code of an ordinary call does not depend on what its head is bound to when the
caller is compiled.** For every generator state `gs` (function table, live scopes, loops),
every `known` table and scope predicate, a call by name that is not a self tail call compiles
to the single instruction `callExpr (.sym h) args` and leaves the generator state alone: whether
`h` denotes a strict function, a lazy one, a builtin, a non-function or nothing at compile time
cannot matter — the callee is resolved and the laziness of each argument decided when the
call runs (`every_call_route_resolves_at_run_time`, `call_prepares_then_enters`), so a later
redefinition, a parameter / `let` / closure variable of the same name, or a swapped alias is
honoured. Also behind a self tail call's jump the fallback is that same instruction. -/
theorem compile_call_independent_of_bindings (isFn isFn' : Nat → Bool) (c c' : Ctx) (gs gs' : GS) (h : String)
    (args : List Expr) (hn : (c.tail && h == c.funcname) = false) (hn' : (c'.tail && h == c'.funcname) = false) :
    (compile isFn c (.call (.sym h) args)).run gs = .ok (([.callExpr (.sym h) args], c.tail), gs) ∧
    ((compile isFn c (.call (.sym h) args)).run gs).map (·.1.1) =
      ((compile isFn' c' (.call (.sym h) args)).run gs').map (·.1.1) := by
  rw [compile_call_by_name isFn c h args hn, compile_call_by_name isFn' c' h args hn']
  exact ⟨rfl, rfl⟩

/-- T1 (regenerated from the Go source on every run, `extract/ex_callemit.go`): where the
instructions that start a call are built. `CallInstr` — operands evaluated in line, the name
looked up afterwards — is built for array literals only; `GenerateCallBySymbol` builds
`CallExprInstr` (and the guard / variadic packing of the self tail call) and nothing else;
`PushLazyArgInstr` comes from `GenerateCallArgsForFunction` only. -/
theorem call_emit_sites_expected :
    (∀ p ∈ Generated.CallEmit.sites, p.2 = "CallInstr" → p.1 = "Generator.GenerateArray") ∧
    (∀ p ∈ Generated.CallEmit.sites, p.1 = "Generator.GenerateCallBySymbol" →
       p.2 = "CallExprInstr" ∨ p.2 = "PrepareCallInstr" ∨ p.2 = "TailGuardInstr") ∧
    (∀ p ∈ Generated.CallEmit.sites, p.2 = "PushLazyArgInstr" → p.1 = "Generator.GenerateCallArgsForFunction") ∧
    (∀ p ∈ Generated.CallEmit.sites, p.2 = "CallExprInstr" →
       p.1 = "Generator.GenerateCallBySymbol" ∨ p.1 = "Generator.GenerateDispatch") ∧
    (("Generator.GenerateCallBySymbol", "CallExprInstr") ∈ Generated.CallEmit.sites) := by decide +kernel

/-- **A strict function never receives an unevaluated argument** — the decision points:
run time (`prepareArgs`): a strict position pushes the value of `evalCallExpr` (above);
the run-time and the compile-time/apply decisions are the same predicate for a compiled
function; Go builtins and non-function callees have no lazy position; the variadic tail is
strict; compile time (self tail call): a strict position is the code of the expression, an
unknown function makes every position strict; `apply`/`map`: a strict position receives the
value itself. -/
theorem strict_never_receives_thunk :
    (∀ (fo : FnObj) i, fo.user = false → lazyPos (some fo) i = fo.isLazyCallArg i) ∧
    (∀ (fo : FnObj) i, fo.user = true → lazyPos (some fo) i = false) ∧
    (∀ i, lazyPos none i = false) ∧
    (∀ (fo : FnObj) i, fo.varargs = true → fo.nargs ≤ i → fo.isLazyCallArg i = false ∧ lazyPos (some fo) i = false) ∧
    (∀ isFn c (f : FnObj) i e es, f.isLazyCallArg i = false →
       compileCallArgs isFn c (some f) i (e :: es) =
         (do let a ← (do let (a, _) ← compile isFn c e; pure a)
             let b ← compileCallArgs isFn c (some f) (i + 1) es; pure (a ++ b))) ∧
    (∀ isFn c i e es,
       compileCallArgs isFn c none i (e :: es) =
         (do let a ← (do let (a, _) ← compile isFn c e; pure a)
             let b ← compileCallArgs isFn c none (i + 1) es; pure (a ++ b))) ∧
    (∀ (fo : FnObj) s i v, fo.isLazyCallArg i = false →
       applyWrap fo (s, i) v = ({ s with data := some v :: s.data }, i + 1)) := by
  refine ⟨fun fo i hu => ?_, fun fo i hu => by simp [lazyPos, hu], fun _ => rfl, fun fo i hv hi => ?_,
    fun isFn c f i e es h => ?_, fun isFn c i e es => ?_, fun fo s i v h => by simp [applyWrap, h]⟩
  · simp only [lazyPos, hu, Bool.not_false, Bool.true_and]
    cases h : fo.isLazyCallArg i with
    | false => simp
    | true =>
      simp only [Bool.and_true]
      unfold FnObj.isLazyCallArg at h
      split at h
      · cases h
      · split at h
        · rename_i p hp
          unfold FnObj.hasLazyFormals
          rw [List.any_eq_true]
          exact ⟨p, List.mem_of_getElem? hp, h⟩
        · cases h
  · have h : fo.isLazyCallArg i = false := by simp [FnObj.isLazyCallArg, hv, hi]
    simp [lazyPos, h]
  · rw [compileCallArgs.eq_2]; simp only [h, Bool.false_eq_true, if_false]
  · simp only [compileCallArgs, Bool.false_eq_true, if_false]

/-- `apply`/`map`: the loop is `applyWrap`; a lazy position receives a thunk that already holds
the value (forcing it runs nothing, by `force_returns_memo`) -/
theorem apply_wraps_values (fuel id : Nat) (args : List Val) (s : St) :
    runM (applyFn (fuel + 1) (.fn id) args) s =
      (let s0 : St := { s with pc := -2 }
       let s1 := (args.foldl (applyWrap (fnOf s0 id)) (s0, 0)).1
       match runM (callFunction id args.length >>= fun _ => run fuel) s1 with
       | (.ok v, s') => (.ok v, s')
       | (.error .err, s') => (.error .err, (runM (restore (ctlOf s)) s').2)
       | (.error flt, s') => (.error flt, s')) := by
  have wrap : (args.foldl (applyWrap (fnOf { s with pc := -2 } id)) ({ s with pc := -2 }, 0)).1
      = VM.applyWrap (fnOf s id) args { s with pc := -2 } 0 := VM.applyWrap_eq _ args _ 0
  unfold runM
  rw [run_applyFn_fn]
  dsimp only
  rw [wrap]
  rcases ExceptT.run (callFunction id args.length >>= fun _ => run fuel) (VM.applyWrap (fnOf s id) args { s with pc := -2 } 0)
    with ⟨(_ | _ | _) | v, s2⟩ <;> simp only [handOn, Contain.run_restore] <;> rfl

theorem apply_lazy_position_gets_forced_thunk (fo : FnObj) (s : St) (i : Nat) (v : Val) (h : fo.isLazyCallArg i = true) :
    ∃ s', applyWrap fo (s, i) v = (s', i + 1) ∧ s'.data = some (.lazy s.lazies.length) :: s.data ∧
      ∃ lz, s'.lazies[s.lazies.length]? = some lz ∧ lz.value = some v ∧ lz.isValue = true ∧
        s'.trace = s.trace ∧ s'.scopes = s.scopes := by
  refine ⟨{ s with lazies := s.lazies ++ [({ e := .nilLit, stack := [], curfunc := 0, value := some v, isValue := true } : LazyObj)],
                   data := some (.lazy s.lazies.length) :: s.data }, by simp [applyWrap, h], rfl,
          ({ e := .nilLit, stack := [], curfunc := 0, value := some v, isValue := true } : LazyObj), ?_, rfl, rfl, rfl, rfl⟩
  simp

/-- the self tail call takes the lazy positions from the template registered under the
function's own name for the duration of its own body (fix 4e6df0e) -/
theorem self_tail_call_uses_own_template (isFn : Nat → Bool) (c : Ctx) (h : String) (args : List Expr)
    (hn : (c.tail && h == c.funcname) = true) :
    compile isFn c (.call (.sym h) args) = (do
      let gs ← get
      -- (after fix C04-04: only when the number of arguments fits the template; else an ordinary call)
      if (match (c.known.lookup h).bind (fun t => gs.fns[t]?) with
          | some fo => if fo.varargs then decide (fo.nargs ≤ args.length) else args.length == fo.nargs
          | none => true) then do
        let code ← compileCallArgs isFn { c with tail := false } ((c.known.lookup h).bind (fun t => gs.fns[t]?)) 0 args
        -- (after fix C09-02: the guard in front, the ordinary call behind the jump)
        pure ([.tailGuard h (code.length + c.scopes + 4)] ++ code ++ [.prepareCall h args.length] ++
              List.replicate (c.scopes + 1) .removeScope ++ [.goto 0, .callExpr (.sym h) args], c.tail)
      else pure ([.callExpr (.sym h) args], c.tail)) := by
  simp only [compile, hn]; rfl

theorem self_tail_call_lazy_position (isFn : Nat → Bool) (c : Ctx) (f : FnObj) (i : Nat) (e : Expr) (es : List Expr)
    (h : f.isLazyCallArg i = true) :
    compileCallArgs isFn c (some f) i (e :: es) =
      (do let b ← compileCallArgs isFn c (some f) (i + 1) es; pure ([.pushLazy e] ++ b)) := by
  rw [compileCallArgs.eq_2]; simp only [h, if_true, pure_bind]

/-! ## (e) the source can be recovered -/

/-- **Source recoverable.** From the moment an argument `e` is delayed, whatever the machine
does afterwards (forcing the thunk included), `substitute` on it yields `e` as data; nothing
runs: only the data heap may grow by the array literals of the source. -/
theorem source_recoverable (e : Expr) (s0 s : St) (hr : Reach (allocThunk e s0) s) (fuel : Nat) :
    runM (builtin (fuel + 1) "substitute" [.lazy s0.lazies.length]) s =
      (.ok (quoteE e s.heap).1, { s with heap := (quoteE e s.heap).2 }) := by
  obtain ⟨lz', h', he, _, _, hiv⟩ := thunk_keeps_call_site hr s0.lazies.length _ (allocThunk_effect e s0).1
  have := substitute_returns_source fuel s0.lazies.length s lz' h' (by rw [hiv])
  rw [he] at this
  exact this

/-! ## The reference evaluator has the property by construction -/

theorem reference_is_call_by_need :
    (∀ fuel id (s : Ref.St) th v, s.thunks[id]? = some th → th.value = some v → Ref.force (fuel + 1) id s = .ok v s) ∧
    (∀ fuel e es i (lazyAt : Nat → Bool) env (s : Ref.St), lazyAt i = true →
       Ref.evalArgs (fuel + 1) (e :: es) i lazyAt env s =
         (match Ref.evalArgs fuel es (i + 1) lazyAt env { s with thunks := s.thunks ++ [{ e, env, value := none }] } with
          | .ok vs s' => .ok (.lazy s.thunks.length :: vs) s'
          | r => r)) ∧
    (∀ fuel id (s : Ref.St) th, s.thunks[id]? = some th → th.isValue = false →
       Ref.applyFn (fuel + 1) (.builtin "substitute") [.lazy id] s =
         .ok (quoteE th.e s.heap).1 { s with heap := (quoteE th.e s.heap).2 }) := by
  refine ⟨fun fuel id s th v h hv => by simp [Ref.force, h, hv], fun fuel e es i lazyAt env s h => ?_,
    fun fuel id s th h hv => by simp [Ref.applyFn, h, hv]⟩
  simp only [Ref.evalArgs, h, if_true]
  cases Ref.evalArgs fuel es (i + 1) lazyAt env { s with thunks := s.thunks ++ [{ e, env, value := none }] } <;> rfl

/-! ## What is proved of the full statement -/

/-- `LazySemantics` is not proved. Proved (this file): the machine's behaviour at every
decision point of the property, for all inputs. Missing: the simulation between the VM's
execution of compiled code and the reference evaluator (C02 `CompileCorrect`, fragments F0–F3)
— in particular that the prologue binds operand *i* to formal *i* and that lookups inside the
forced expression walk the captured stack as the reference walks its frames. Those are
exercised by the `lazy` correspondence on every run. -/
theorem lazy_semantics_partial :
    (∀ fuel f args i s, runM (prepareArgs (fuel + 1 + args.length) f i args) s = runM (prepPlan (fuel + 1) f i args) s) ∧
    (∀ {s s'}, Reach s s' → LExt s.lazies s'.lazies) :=
  ⟨prepare_is_plan, fun h => reach_ext h⟩

/-! ## Non-vacuity: the hypotheses above are satisfiable, on concrete machine states -/

def foMixed : FnObj := { name := "f", nargs := 2, params := ["#x", "p"] }
def foVar : FnObj := { name := "va", nargs := 1, varargs := true, params := ["#x", "#r"] }
def trS (n : String) : Expr := .call (.sym "trace") [.str n]
/-- a state with one delayed `(trace "a")` made at top level -/
def sThunk : St := allocThunk (trS "a") initSt
def okVal {α} (r : Except Fault α × St) : Option α := match r.1 with | .ok v => some v | _ => none

-- a function with a lazy and a strict position; a variadic one whose tail is strict although its name has a `#`
example : lazyPos (some foMixed) 0 = true ∧ lazyPos (some foMixed) 1 = false := by decide +kernel
example : foVar.isLazyCallArg 0 = true ∧ foVar.isLazyCallArg 1 = false ∧ foVar.isLazyCallArg 2 = false := by decide +kernel
-- preparing `(f (trace "a") (trace "b"))`: one effect (the strict argument), one thunk
example : (runM (prepareArgs 40 (some foMixed) 0 [trS "a", trS "b"]) initSt).2.trace.length = 1 ∧
          (runM (prepareArgs 40 (some foMixed) 0 [trS "a", trS "b"]) initSt).2.lazies.length = 1 := by decide +kernel
-- the hypothesis of `force_memoises`: a force that succeeds (with its one effect) …
example : okVal (runM (forceLazy 40 0) sThunk) = some (.str "a") ∧ (runM (forceLazy 40 0) sThunk).2.trace.length = 1 := by
  decide +kernel
-- … and its conclusion observed: a second force adds no effect
example : (runM (forceLazy 40 0) (runM (forceLazy 40 0) sThunk).2).2.trace.length = 1 := by decide +kernel
example : Reach sThunk (runM (forceLazy 40 0) sThunk).2 := .step (.refl _) (.forceLazy 40 0 sThunk)
-- the hypotheses of `force_in_callers_env`: the thunk has no value and its expression compiles to code
example : (sThunk.lazies[0]?.map (·.value)) = some none ∧
    (match okVal (runM (runGen (compile (isFnScope sThunk) {} (trS "a"))) sThunk) with
     | some (code, _) => !code.isEmpty | none => false) = true := by decide +kernel
-- `substitute` on it leaves the trace empty and the thunk unforced
example : (runM (builtin 5 "substitute" [.lazy 0]) sThunk).2.trace.length = 0 ∧
          ((runM (builtin 5 "substitute" [.lazy 0]) sThunk).2.lazies[0]?.map (·.value)) = some none := by decide +kernel

-- `force_reads_at_force_time`, part 4: a state with an unforced thunk of the bare variable `a`
def sVar : St := allocThunk (.sym "a") initSt
example : (sVar.lazies[0]?.map (fun lz => (lz.value, match lz.e with | .sym x => x == "a" | _ => false))) = some (none, true) := by
  decide +kernel

-- the hypotheses of `force_lookup_is_callsite_lookup_partial` on the state a top-level force runs in
def sForce : St := { initSt with fns := initSt.fns ++ [({ name := "lazyArgForce", closing := [some 0], parent := some 0 } : FnObj)],
                                   curfunc := 2 }
example : (fnOf sForce 2).closing = [some 0] ∧ (fnOf sForce 2).parent = some 0 ∧
    lookupChain sForce "trace" sForce.fns.length 0 = lookupChain sForce "trace" (sForce.fns.length + 1) 0 ∧
    ((fnOf sForce 0).parent = none ∧
      (lookupUntilFn sForce "trace" false [some 0] = none → lookupUntilFn sForce "trace" false (fnOf sForce 0).closing = none) ∧
      0 < sForce.fns.length) := by decide +kernel

end ZygoVerif.C16
