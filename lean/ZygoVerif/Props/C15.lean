/-
C15 — macro templates expand by exact substitution.

Model: `Model/SQ.lean` (GenerateSyntaxQuote and friends + the VM instructions they emit,
after the fixes in fixes/C15-*). Spec: `Spec/Subst.lean` (structural substitution, written
from the property text). Lemmas: `Proofs/SQ.lean` (the generator clause by clause, `decode_ok`),
`Proofs/SQFresh.lean` (the marker discipline: `itemsA_ok`, and `items_ok` as its projection).
The theorems hold for every host `H` (any compile-ability predicate, any values of the
unquoted expressions, any hash constructor), every template at any depth and every stack.
-/
import ZygoVerif.Model.SQ
import ZygoVerif.Spec.Subst
import ZygoVerif.Proofs.SQ
import ZygoVerif.Proofs.SQFresh
import ZygoVerif.Model.LegacySQ
import ZygoVerif.Model.MacroCall
import ZygoVerif.Generated.SQEmit
import ZygoVerif.Generated.SQCtx
namespace ZygoVerif.SQ
open ZygoVerif.Subst

/-- Everything but a splice contributes exactly one value to its sequence. -/
theorem items_single (ρ : Binding) (t : Tmpl) (hs : ∀ e, t ≠ .splice e) :
    items ρ t = (subst ρ t).map (fun v => [v]) := by
  cases t with
  | splice e => exact absurd rfl (hs e)
  | lit a => simp [subst, items]
  | unquote e => cases h : ρ.value e <;> simp [subst, items, h]
  | list ts => cases h : itemsL ρ ts <;> simp [subst, items, h]
  | arr ts => cases h : itemsL ρ ts <;> simp [subst, items, h]
  | hash ty kvs =>
    cases h : itemsKV ρ kvs with
    | none => simp [subst, items, h]
    | some xs => cases h2 : ρ.mkHash ty xs <;> simp [subst, items, h, h2]

/-- Only a splice is refused by the top-level check (`isUnquoteSplicing`). -/
theorem isUnquoteSplicing_toSexp (t : Tmpl) (wf : t.WF = true) :
    isUnquoteSplicing t.toSexp = (match t with | .splice _ => true | _ => false) := by
  cases t with
  | lit a => simp [Tmpl.toSexp, isUnquoteSplicing]
  | unquote e => simp [Tmpl.toSexp, isUnquoteSplicing, unqKind, isList]
  | splice e => simp [Tmpl.toSexp, isUnquoteSplicing, unqKind, isList]
  | list ts =>
    cases ts with
    | nil => simp [Tmpl.toSexp, toSexpL, isUnquoteSplicing]
    | cons t1 rest =>
      simp only [Tmpl.WF, Bool.and_eq_true, Bool.not_eq_true'] at wf
      simp [Tmpl.toSexp, toSexpL, isUnquoteSplicing, unqKind_none t1 rest wf.1]
  | arr ts => simp [Tmpl.toSexp, isUnquoteSplicing]
  | hash ty kvs => simp [Tmpl.toSexp, isUnquoteSplicing]

/-- **The stack below a template is untouched.** On any data stack, the code compiled for
`^t` either fails — exactly when the substitution has no value — or pushes exactly one
value, the substituted template, and leaves everything beneath as it was. -/
theorem sq_stack_untouched (H : Host) (t : Tmpl) (wf : t.WF = true) (st : Stack) :
    exec H (genTop H t.toSexp) st = (subst (toBinding H) t).map (fun v => .val v :: st) := by
  by_cases hs : ∃ e, t = .splice e
  · obtain ⟨e, rfl⟩ := hs
    simp [genTop, isUnquoteSplicing_toSexp _ wf, subst, exec]
  · have hs' : ∀ e, t ≠ .splice e := fun e h => hs ⟨e, h⟩
    have hu : isUnquoteSplicing t.toSexp = false := by
      rw [isUnquoteSplicing_toSexp _ wf]
      cases t <;> first | rfl | exact absurd rfl (hs' _)
    simp only [genTop, hu, Bool.false_eq_true, if_false]
    rw [items_ok H t wf st, items_single _ _ hs']
    cases subst (toBinding H) t <;> simp [pushAll_single]

/-- **`sq_correct`.** Evaluating `^t` yields exactly `Subst.subst t` — every unquote replaced
by its value, every splice by the elements of its list, at any depth in lists, arrays and
hashes — and leaves no operand behind; it is an error exactly when the substitution is
undefined. (`vmRun (compileSQ t) ρ = Subst.subst t ρ` of DESIGN §7.) -/
theorem sq_correct (H : Host) (t : Tmpl) (wf : t.WF = true) :
    evalSQ H t.toSexp = (subst (toBinding H) t).map (fun v => (v, 0)) := by
  simp only [evalSQ, evalOn]
  have h := sq_stack_untouched H t wf []
  simp only [exec] at h
  rw [h]
  cases subst (toBinding H) t <;> simp

/-- `sq_correct` misses no input: every form without a dotted pair (`Proper`) is the writing
of an unambiguous template (`decode`), so for **every** such form `s` the value of
`(syntaxQuote s)` is the substitution of the template it reads as. -/
theorem sq_correct_all_forms (H : Host) (s : Sexp) (hp : Proper s = true) :
    evalSQ H s = (subst (toBinding H) (decode s)).map (fun v => (v, 0)) := by
  have hd := decode_ok s hp
  have h := sq_correct H (decode s) hd.2
  rwa [hd.1] at h

/-- What the code does where the property is silent: a dotted pair at the top is pushed exactly
as written — unquote forms inside it are *not* substituted. -/
theorem dotted_pair_pushed_literally (H : Host) (h t : Sexp) (hd : isList t = false) :
    evalSQ H (.cons h t) = some (.cons h t, 0) := by
  simp [evalSQ, evalOn, genTop, isUnquoteSplicing, genSQ, hd, run, step]

/-- A splice that is not inside any list, array or hash is refused at compile time: nothing
runs and nothing is pushed. -/
theorem top_splice_rejected (H : Host) (e : Sexp) (st : Stack) :
    genTop H (Tmpl.splice e).toSexp = none ∧ exec H (genTop H (Tmpl.splice e).toSexp) st = none := by
  simp [genTop, Tmpl.toSexp, isUnquoteSplicing, unqKind, isList, exec]

theorem itemsL_append (ρ : Binding) (xs ys : List Tmpl) :
    itemsL ρ (xs ++ ys) = (do let a ← itemsL ρ xs; let b ← itemsL ρ ys; some (a ++ b)) := by
  induction xs with
  | nil => cases h : itemsL ρ ys <;> simp [itemsL, h]
  | cons t ts ih =>
    simp only [List.cons_append, itemsL, ih]
    cases items ρ t <;> cases itemsL ρ ts <;> cases itemsL ρ ys <;> simp

/-- A splice anywhere in a list — first, last, next to other splices — contributes the
elements of its list in place; an empty list contributes nothing. -/
theorem splice_in_place (ρ : Binding) (pre post : List Tmpl) (e : Sexp) (a b xs : List Sexp)
    (hpre : itemsL ρ pre = some a) (hpost : itemsL ρ post = some b)
    (he : (ρ.value e).bind elems = some xs) :
    subst ρ (.list (pre ++ .splice e :: post)) = some (ofList (a ++ xs ++ b)) := by
  simp [subst, items, itemsL_append, itemsL, hpre, hpost, he]

section Examples
def sym (n : String) : Sexp := .atom (.sym n)
def num (n : Int) : Sexp := .atom (.int n)
/-- `x = 5`, `l = (1 2)`, `e = ()`, `bad` does not compile; hashes are kept as written. -/
def exH : Host where
  genOK := fun e => e != sym "bad"
  eval := fun e =>
    if e = sym "x" then some (num 5)
    else if e = sym "l" then some (mkList [num 1, num 2])
    else if e = sym "e" then some .nil
    else none
  mkHash := fun ty xs => if xs.length % 2 = 0 then some (.hash ty (mkList xs)) else none

/-- `^(~@l a ~@e ~@l [~x ~@l] ~@e)` = `(1 2 a 1 2 [5 1 2])`, nothing left on the stack. -/
example : evalSQ exH (Tmpl.list [.splice (sym "l"), .lit (.sym "a"), .splice (sym "e"), .splice (sym "l"),
      .arr [.unquote (sym "x"), .splice (sym "l")], .splice (sym "e")]).toSexp
    = some (mkList [num 1, num 2, sym "a", num 1, num 2, .arr (mkList [num 5, num 1, num 2])], 0) := by
  decide +kernel

example : (Tmpl.list [.splice (sym "l"), .arr [.unquote (sym "x")]]).WF = true := by decide +kernel

/-- `{a: ~@l b: ~x c: ~@e}` through the Go API: the items `a 1 2 b 5 c` in key order. -/
example : evalSQ exH (Tmpl.hash "hash" [(.lit (.sym "a"), .splice (sym "l")), (.lit (.sym "b"), .unquote (sym "x")),
      (.lit (.sym "c"), .splice (sym "e"))]).toSexp
    = some (.hash "hash" (mkList [sym "a", num 1, num 2, sym "b", num 5, sym "c"]), 0) := by
  decide +kernel

end Examples

/-- **`macro_call_is_expansion`.** Compiling a call of macro `f` is compiling its expansion,
in place, by the same generator (one unit of expansion fuel is spent). -/
theorem macro_call_is_expansion {C : Type} (mk : String → List Sexp → Option Sexp)
    (macros : String → Option Macro) (special : String → Bool)
    (base : (Sexp → Option C) → Sexp → Option C) (n : Nat) (f : String) (args : Sexp)
    (m : Macro) (as : List Sexp)
    (hs : special f = false) (hm : macros f = some m) (ha : listToArray args = some as) :
    generate mk macros special base (n + 1) (.cons (.atom (.sym f)) args)
      = (expand mk m as).bind (generate mk macros special base n) := by
  simp [generate, hs, hm, ha]

/-- The expansion of a template macro `(defmac f [p…] ^T)` is `T` with the parameters replaced
by the argument forms — the substitution of the spec. -/
theorem expand_is_substitution (mk : String → List Sexp → Option Sexp) (m : Macro) (as : List Sexp)
    (T : Tmpl) (wf : T.WF = true) (hb : m.body = T.toSexp) (hl : as.length = m.params.length) :
    expand mk m as = subst (toBinding (paramHost mk m.params as)) T := by
  simp only [expand, hl, ne_eq, not_true_eq_false, if_false, hb, sq_correct _ T wf]
  cases subst (toBinding (paramHost mk m.params as)) T <;> rfl

/-- Calling a template macro compiles to exactly what the hand-written expansion compiles to. -/
theorem macro_call_equals_handwritten {C : Type} (mk : String → List Sexp → Option Sexp)
    (macros : String → Option Macro) (special : String → Bool)
    (base : (Sexp → Option C) → Sexp → Option C) (n : Nat) (f : String) (args : Sexp)
    (m : Macro) (as : List Sexp) (T : Tmpl) (x : Sexp)
    (hs : special f = false) (hm : macros f = some m) (ha : listToArray args = some as)
    (wf : T.WF = true) (hb : m.body = T.toSexp) (hl : as.length = m.params.length)
    (hx : subst (toBinding (paramHost mk m.params as)) T = some x) :
    generate mk macros special base (n + 1) (.cons (.atom (.sym f)) args)
      = generate mk macros special base n x := by
  rw [macro_call_is_expansion mk macros special base n f args m as hs hm ha,
    expand_is_substitution mk m as T wf hb hl, hx]
  rfl

/-- **`expansion_leaves_caller`.** The expansion runs in a duplicate: the caller's control
state (four stacks, pc, current function) is what it was, and for a template macro so are the
parts shared with the duplicate (global scope, macro table); the form handed back is the
expansion. -/
theorem expansion_leaves_caller {G : Type} (mk : String → List Sexp → Option Sexp) (e e' : Interp G)
    (m : Macro) (args : List Sexp) (x : Sexp) (h : expandCall mk e m args = some (x, e')) :
    e'.ctl = e.ctl ∧ e'.global = e.global ∧ e'.macros = e.macros ∧ expand mk m args = some x := by
  unfold expandCall applyIn at h
  by_cases hl : args.length ≠ m.params.length
  · simp [hl] at h
  · simp only [hl, if_false] at h
    have hfresh : (duplicate e).ctl.data = [] := rfl
    rw [hfresh] at h
    cases hev : evalOn (paramHost mk m.params args) (genTop (paramHost mk m.params args) m.body) [] with
    | none => simp [hev] at h
    | some p =>
      obtain ⟨v, rest⟩ := p
      simp only [hev, Option.some.injEq, Prod.mk.injEq] at h
      obtain ⟨hv, he⟩ := h
      subst he
      refine ⟨rfl, rfl, rfl, ?_⟩
      simp [expand, hl, evalSQ, hev, hv]

/-- The duplicate starts from fresh stacks whatever the caller's stacks hold. -/
theorem duplicate_is_fresh {G : Type} (e : Interp G) :
    (duplicate e).ctl = Ctl.fresh ∧ (duplicate e).global = e.global ∧ (duplicate e).macros = e.macros :=
  ⟨rfl, rfl, rfl⟩

/-- `(defmac m [a l] ^(list ~a [~@l ~a]))`, `(m (+ x 1) (1 2))` expands to
`(list (+ x 1) [1 2 (+ x 1)])`; a wrong number of arguments is an error. -/
example :
    let m : Macro := { params := ["a", "l"], body := (Tmpl.list [.lit (.sym "list"), .unquote (sym "a"),
      .arr [.splice (sym "l"), .unquote (sym "a")]]).toSexp }
    let plus := mkList [sym "+", sym "x", num 1]
    expand exH.mkHash m [plus, mkList [num 1, num 2]]
        = some (mkList [sym "list", plus, .arr (mkList [num 1, num 2, plus])])
      ∧ expand exH.mkHash m [plus] = none := by
  decide +kernel

/-! ### tie T1: the emission skeleton the model was written against
`Generated/SQEmit.lean` is regenerated from generator.go on every run (extract/ex_sqemit.go):
instructions added and generator calls made, in source order. Each line below is one arm of
`genSQ` / `genListBody` / `genArrBody` / `genHashBody` / `genTop`. -/

/-- GenerateSyntaxQuote: array → generateSyntaxQuoteArray, proper list → …List, hash → …Hash,
anything else `PushInstr{arg}` (`genSQ`, outer match). -/
theorem emit_top : Generated.SQEmit.top =
    ["if[", "err", "]", "case[", "call:generateSyntaxQuoteArray", "]",
     "case[", "call:generateSyntaxQuoteList", "]", "case[", "call:generateSyntaxQuoteHash", "]",
     "add:PushInstr{arg}"] := rfl

/-- generateSyntaxQuoteList: `(unquote e)` → the code of `e`; `(unquote-splicing e)` → the code
of `e`, `explode`; otherwise marker, every element, `squash` (`genSQ` `.cons` arm). -/
theorem emit_list : Generated.SQEmit.list =
    ["case[", "err", "]",
     "if[", "if[", "if[", "call:Generate", "]", "else[", "if[", "call:Generate", "add:ExplodeInstr", "]", "]", "]", "]",
     "add:PushInstr{SexpMarker}", "loop[", "call:GenerateSyntaxQuote{expr}", "]", "add:SquashInstr"] := rfl

/-- generateSyntaxQuoteArray: marker, per element (marker, element, squash, explode),
vectorize (`genArrBody`). -/
theorem emit_array : Generated.SQEmit.array =
    ["case[", "err", "]", "add:PushInstr{SexpMarker}",
     "loop[", "add:PushInstr{SexpMarker}", "call:GenerateSyntaxQuote{expr}", "add:SquashInstr", "add:ExplodeInstr", "]",
     "add:VectorizeInstr"] := rfl

/-- generateSyntaxQuoteHash: marker, per pair the key frame then the value frame, hashize
(`genHashBody`; before fixes/C15-03 the value frame came first). -/
theorem emit_hash : Generated.SQEmit.hash =
    ["case[", "err", "]", "add:PushInstr{SexpMarker}",
     "loop[", "add:PushInstr{SexpMarker}", "call:GenerateSyntaxQuote{key}", "add:SquashInstr", "add:ExplodeInstr",
     "add:PushInstr{SexpMarker}", "call:GenerateSyntaxQuote{val}", "add:SquashInstr", "add:ExplodeInstr", "]",
     "add:HashizeInstr"] := rfl

/-- `case "syntaxQuote"`: the top-level splice check, then GenerateSyntaxQuote (`genTop`). -/
theorem emit_syntaxQuote_case : Generated.SQEmit.syntaxQuoteCase =
    ["call:isUnquoteSplicing", "if[", "err", "]", "call:GenerateSyntaxQuote"] := rfl

/-- `syntaxQuote`, `quote`, `defmac`, `macexpand` are special forms, `unquote` and
`unquote-splicing` are not (outside a template they are ordinary calls), and the macro table
is consulted only after the special forms (`generate`: `special` before `macros`). -/
theorem emit_call_by_symbol :
    "syntaxQuote" ∈ Generated.SQEmit.callBySymbolCases ∧ "quote" ∈ Generated.SQEmit.callBySymbolCases
    ∧ "defmac" ∈ Generated.SQEmit.callBySymbolCases ∧ "macexpand" ∈ Generated.SQEmit.callBySymbolCases
    ∧ "unquote" ∉ Generated.SQEmit.callBySymbolCases ∧ "unquote-splicing" ∉ Generated.SQEmit.callBySymbolCases
    ∧ Generated.SQEmit.macrosAfterSwitch = true := by decide +kernel

/-- **`sq_code_pushes_no_container`.** The code of a template never pushes, as a literal, a
value that holds an array or a hash — the literal would be the object of the syntax tree,
shared by all evaluations and open to `aset` / `hset` through an earlier result. -/
theorem sq_code_pushes_no_container (H : Host) (t : Tmpl) (wf : t.WF = true) (c : List Instr)
    (hc : genTop H t.toSexp = some c) : ∀ v, Instr.push v ∈ c → hasContainer v = false := by
  unfold genTop at hc
  split at hc
  · simp at hc
  · exact genSQ_plain H t wf c hc

/-- the same for every form without a dotted pair (the forms the property speaks about) -/
theorem sq_code_pushes_no_container_all_forms (H : Host) (s : Sexp) (hp : Proper s = true)
    (c : List Instr) (hc : genTop H s = some c) : ∀ v, Instr.push v ∈ c → hasContainer v = false := by
  have hd := decode_ok s hp
  rw [← hd.1] at hc
  exact sq_code_pushes_no_container H (decode s) hd.2 c hc

/-- What the code does where the property is silent: a dotted pair is pushed as it stands in
the syntax tree, arrays inside it included — those ARE shared between evaluations. -/
theorem dotted_pair_shares_its_containers (H : Host) (h t : Sexp) (hd : isList t = false) :
    genTop H (.cons h t) = some [.push (.cons h t)] := by
  simp [genTop, isUnquoteSplicing, genSQ, hd]

/-- An array sub-template is compiled to `marker … vectorize`, a hash one to
`marker … hashize`: its value is built by the instruction that allocates. -/
theorem sq_container_code_ends_in_alloc (H : Host) (c : List Instr) :
    (∀ elems, genSQ H (.arr elems) = some c → ∃ b, c = .marker :: b ++ [.vectorize])
    ∧ (∀ ty flat, genSQ H (.hash ty flat) = some c → ∃ b, c = .marker :: b ++ [.hashize ty]) := by
  constructor
  · intro elems h
    simp only [genSQ] at h
    cases hb : genArrBody H elems with
    | none => simp [hb] at h
    | some b => exact ⟨b, by simpa [hb] using h.symm⟩
  · intro ty flat h
    simp only [genSQ] at h
    cases hb : genHashBody H flat with
    | none => simp [hb] at h
    | some b => exact ⟨b, by simpa [hb] using h.symm⟩

/-- **`sq_result_fresh`.** On the machine that reports its allocations, evaluating `^t` on any
stack pushes the substitution and allocates exactly the containers the template is written
with (`Subst.built`): one new array / hash per array / hash sub-template, innermost first,
each holding that sub-template's value. Together with `sq_code_pushes_no_container`: every
container of the result outside the values of the unquoted expressions was allocated by
*this* evaluation. -/
theorem sq_result_fresh (H : Host) (t : Tmpl) (wf : t.WF = true) (st : Stack) :
    execA H (genTop H t.toSexp) st
      = (subst (toBinding H) t).bind (fun v => (built (toBinding H) t).map (fun b => (.val v :: st, b))) := by
  by_cases hs : ∃ e, t = .splice e
  · obtain ⟨e, rfl⟩ := hs
    simp [genTop, isUnquoteSplicing_toSexp _ wf, subst, execA]
  · have hs' : ∀ e, t ≠ .splice e := fun e h => hs ⟨e, h⟩
    have hu : isUnquoteSplicing t.toSexp = false := by
      rw [isUnquoteSplicing_toSexp _ wf]
      cases t <;> first | rfl | exact absurd rfl (hs' _)
    simp only [genTop, hu, Bool.false_eq_true, if_false]
    rw [itemsA_ok H t wf st]
    simp only [IB, items_single _ _ hs']
    cases subst (toBinding H) t with
    | none => rfl
    | some v => cases built (toBinding H) t <;> simp [pushAll_single]

/-- In contrast, a pushed value is not allocated by the run: it is the object the generator
was handed, on every evaluation (what `sq_code_pushes_no_container` rules out for containers). -/
theorem push_allocates_nothing (H : Host) (v : Sexp) (st : Stack) :
    runA H [.push v] st = some (.val v :: st, []) := by
  simp [runA, stepA, step]

/-- The allocating machine is the machine of `sq_correct` with a report added. -/
theorem sq_alloc_machine_agrees (H : Host) (c : List Instr) (st : Stack) :
    (runA H c st).map (·.1) = run H c st := runA_fst H c st

/-- One allocation per array / hash sub-template — as many as the template is written with,
whatever the values of the unquoted expressions. -/
theorem built_length (ρ : Binding) : (t : Tmpl) → ∀ b, built ρ t = some b → b.length = t.containers :=
  (built_length_all ρ).1
theorem builtL_length (ρ : Binding) : (ts : List Tmpl) → ∀ b, builtL ρ ts = some b → b.length = containersL ts :=
  (built_length_all ρ).2
theorem builtKV_length (ρ : Binding) : (kvs : List (Tmpl × Tmpl)) → ∀ b, builtKV ρ kvs = some b →
    b.length = containersKV kvs := fun kvs b h =>
  containersKV_flat kvs ▸ builtL_length ρ (flat kvs) b (builtKV_flat ρ kvs ▸ h)

/-- **`sq_history`.** One template evaluated once per mutation in `μs`, the program mutating
in place the containers of each result before the next evaluation: on the model every
evaluation yields the substitution (the code of a template reads the values of the unquoted
expressions and nothing else — no object of an earlier result, `sq_code_pushes_no_container`),
which is what the history specification asks of the results as they are produced. -/
theorem sq_history (H : Host) (t : Tmpl) (wf : t.WF = true) (μs : List Mutation) (rs fs : List Sexp)
    (h : history (toBinding H) μs t = some (rs, fs)) :
    ∀ r ∈ rs, evalSQ H t.toSexp = some (r, 0) := by
  unfold history at h
  cases hv : subst (toBinding H) t with
  | none => simp [hv] at h
  | some v =>
    simp only [hv, Option.bind_some, Option.map_eq_some_iff, Prod.mk.injEq] at h
    obtain ⟨_, _, hrs, _⟩ := h
    intro r hr
    rw [← hrs] at hr
    simp only [List.mem_map] at hr
    obtain ⟨_, _, rfl⟩ := hr
    rw [sq_correct H t wf, hv]
    rfl

section FreshExamples
/-- `(defn mk [tag] ^(~tag [0 0]))`: every evaluation allocates the array `[0 0]` anew; the
code pushes only `0`, `0` (and runs `tag`), never the array. -/
example :
    let t := Tmpl.list [.unquote (sym "x"), .arr [.lit (.int 0), .lit (.int 0)]]
    execA exH (genTop exH t.toSexp) []
        = some ([.val (mkList [num 5, .arr (mkList [num 0, num 0])])], [.arr (mkList [num 0, num 0])])
      ∧ genTop exH t.toSexp
        = some [.marker, .eval (sym "x"), .marker, .marker, .push (num 0), .squash, .explode,
                .marker, .push (num 0), .squash, .explode, .vectorize, .squash] := by
  decide +kernel

/-- a history of two evaluations with `(aset c 0 77)` in between: both yield `(5 [0 0])`; the
first result ends as `(5 [77 0])`, the second untouched by it -/
example :
    let t := Tmpl.list [.unquote (sym "x"), .arr [.lit (.int 0), .lit (.int 0)]]
    let aset0 : Mutation := { arr := fun xs => match xs with | [] => [] | _ :: r => num 77 :: r, hash := id }
    let none' : Mutation := { arr := id, hash := id }
    history (toBinding exH) [aset0, none'] t
      = some ([mkList [num 5, .arr (mkList [num 0, num 0])], mkList [num 5, .arr (mkList [num 0, num 0])]],
              [mkList [num 5, .arr (mkList [num 77, num 0])], mkList [num 5, .arr (mkList [num 0, num 0])]]) := by
  decide +kernel
end FreshExamples

/-- **`macro_call_in_context`.** In *every* context — any loop stack `loops` (plain, labelled,
nested), any generator state `s` (number of open scopes, tail flag, function being compiled) —
compiling a macro call yields exactly the code of compiling its expansion in that same
context: same loops to break out of, same number of scopes to pop, same tail position. -/
theorem macro_call_in_context (E : CEnv) (n : Nat) (loops : List Loop) (s : GenSt) (f : String)
    (args : Sexp) (m : Macro) (as : List Sexp)
    (hs : f ∉ specialForms) (hm : E.macros f = some m) (ha : listToArray args = some as)
    (hassign : ((Sexp.atom (.sym f)) :: as).any (fun x => x = .atom (.sym "=") || x = .atom (.sym ":=")) = false) :
    genC E (n + 1) loops s (.cons (.atom (.sym f)) args)
      = (expand E.mkHash m as).bind (genC E n loops s) := by
  simp only [genC, ha, hassign, hm, hs, Bool.false_eq_true, if_false]

/-- … which, for a template macro, is the code of the substituted body written by hand. -/
theorem macro_call_in_context_handwritten (E : CEnv) (n : Nat) (loops : List Loop) (s : GenSt) (f : String)
    (args : Sexp) (m : Macro) (as : List Sexp) (T : Tmpl) (x : Sexp)
    (hs : f ∉ specialForms) (hm : E.macros f = some m) (ha : listToArray args = some as)
    (hassign : ((Sexp.atom (.sym f)) :: as).any (fun x => x = .atom (.sym "=") || x = .atom (.sym ":=")) = false)
    (wf : T.WF = true) (hb : m.body = T.toSexp) (hl : as.length = m.params.length)
    (hx : subst (toBinding (paramHost E.mkHash m.params as)) T = some x) :
    genC E (n + 1) loops s (.cons (.atom (.sym f)) args) = genC E n loops s x := by
  rw [macro_call_in_context E n loops s f args m as hs hm ha hassign,
    expand_is_substitution E.mkHash m as T wf hb hl, hx]
  rfl

section CtxExamples
/-- `(defmac stopWhen [c] ^(cond ~c (break) null))` -/
def stopWhen : Macro :=
  { params := ["c"], body := (Tmpl.list [.lit (.sym "cond"), .unquote (sym "c"),
      .list [.lit (.sym "break")], .lit (.sym "null")]).toSexp }
def exE : CEnv := { mkHash := exH.mkHash, macros := fun f => if f = "stopWhen" then some stopWhen else none,
                    builtin := fun _ => false }
def lst (xs : List Sexp) : Sexp := mkList xs
/-- `(for [(def i 0) (< i 10) (def i (+ i 1))] (let [j (* i 2)] □ (set acc (+ acc j))))` -/
def loopLet (hole : Sexp) : Sexp :=
  lst [sym "for", .arr (lst [lst [sym "def", sym "i", num 0], lst [sym "<", sym "i", num 10],
                              lst [sym "def", sym "i", lst [sym "+", sym "i", num 1]]]),
       lst [sym "let", .arr (lst [sym "j", lst [sym "*", sym "i", num 2]]), hole,
            lst [sym "set", sym "acc", lst [sym "+", sym "acc", sym "j"]]]]

/-- The macro call inside a `let` inside a loop: the `break` of the expansion pops ONE scope
(the `let`), like the hand-written `cond`; directly in the loop body it pops none; two `let`s
deep it pops two. -/
example :
    genProgram exE 50 [loopLet (lst [sym "stopWhen", lst [sym ">", sym "j", num 6]])]
      = genProgram exE 50 [loopLet (lst [sym "cond", lst [sym ">", sym "j", num 6], lst [sym "break"], sym "null"])]
    ∧ genProgram exE 50 [loopLet (lst [sym "stopWhen", lst [sym ">", sym "j", num 6]])]
      = some [.loopStart 0, .addScope, .callX "+" 2, .callX "<" 2, .addScope, .callX "*" 2, .callX ">" 2,
              .brk 0 1, .callX "+" 2, .remScope, .remScope] := by
  decide +kernel

/-- the hypotheses of `macro_call_in_context` are satisfiable -/
example : "stopWhen" ∉ specialForms ∧ (exE.macros "stopWhen").isSome = true := by decide +kernel
end CtxExamples

/-! ### a function that rebinds its own name through a macro
Since /repo 70c349a a function whose body binds or assigns its own name is compiled with
funcname = "" (`rebindsOwnName`): calls of the name are ordinary calls of the new binding. The
scan reads the body *as written*: a binding made by a macro expansion is not seen, the call
stays a jump — the macro call no longer equals the hand-written form (found by `sq k`;
fixes/C15-04 lets the scan follow expansions; `CEnv.scanExpansions` is read off the source by
the extractor on every run, so the model follows whichever code is there). -/

section Rebinding
/-- `(defmac defv [v x] ^(def ~v ~x))` -/
def defv : Macro :=
  { params := ["v", "x"], body := (Tmpl.list [.lit (.sym "def"), .unquote (sym "v"), .unquote (sym "x")]).toSexp }
def rbE (scan : Bool) : CEnv :=
  { mkHash := exH.mkHash, macros := fun f => if f = "defv" then some defv else none,
    builtin := fun _ => false, scanExpansions := scan }
/-- `(defn g [n] □ (g n))` -/
def defG (hole : Sexp) : Sexp :=
  lst [sym "defn", sym "g", .arr (lst [sym "n"]), hole, lst [sym "g", sym "n"]]

/-- **Pre-fix (scan of the written body only).** `(defn g [n] (defv g 7) (g n))` compiles the
call `(g n)` as a tail jump, `(defn g [n] (def g 7) (g n))` as an ordinary call: the macro call
does not equal the hand-written form. -/
theorem C15_counterexample_rebinding_through_macro :
    genProgram (rbE false) 50 [defG (lst [sym "defv", sym "g", num 7])]
      = some [.fnOpen, .prepCall 1, .remScope, .goto0, .callX "g" 1, .remScope, .fnClose]
    ∧ genProgram (rbE false) 50 [defG (lst [sym "def", sym "g", num 7])]
      = some [.fnOpen, .callX "g" 1, .remScope, .fnClose] := by
  decide +kernel

/-- With the scan following expansions (fixes/C15-04) both compile to the ordinary call. -/
theorem rebinding_through_macro_repaired :
    genProgram (rbE true) 50 [defG (lst [sym "defv", sym "g", num 7])]
      = genProgram (rbE true) 50 [defG (lst [sym "def", sym "g", num 7])] := by
  decide +kernel

/-- In general: when the scan follows expansions, a macro call binds whatever its expansion
binds — at any nesting, for any macro. -/
theorem rebinding_sees_expansion (E : CEnv) (name f : String) (args : Sexp) (as : List Sexp) (m : Macro)
    (x : Sexp) (n : Nat) (hscan : E.scanExpansions = true) (hm : E.macros f = some m)
    (ha : listToArray args = some as) (hx : expand E.mkHash m as = some x)
    (hb : bindsName E name n x = true) :
    bindsName E name (n + 1) (.cons (.atom (.sym f)) args) = true := by
  simp [bindsName, ha, hscan, hm, hx, hb]
end Rebinding

/-! ### tie T1 for freshness and for the call-site context (`Generated/SQCtx.lean`, regenerated every run) -/

/-- Inside the syntax-quote generator exactly one instruction pushes a template object as a
literal: the fall-through of GenerateSyntaxQuote, which arrays, lists and hashes never reach
(each case of the type switch returns) — the `| s => some [.push s]` arm of `genSQ`. -/
theorem emit_literal_push_sites :
    Generated.SQCtx.literalPushSites = ["GenerateSyntaxQuote||PushInstr{arg}"]
    ∧ Generated.SQCtx.topCaseTypes = ["*SexpArray", "*SexpPair", "*SexpHash"]
    ∧ Generated.SQCtx.topCasesReturn = true := by decide +kernel

/-- The macro branch: (since fix 1a3d12c) the nesting-depth guard — an error return beyond
`MaxMacroExpansionDepth`, the counter incremented and decremented by a `defer`; the model's
expansion is fuel-bounded instead — then Duplicate, Apply on the duplicate, then
`return gen.Generate(expr)`: the generator that met the call compiles the expansion (`genC`,
macro arm). -/
theorem emit_macro_branch :
    Generated.SQCtx.macroBranch
      = ["if[", "ret:fmt.Errorf", "]", "stmt:*ast.IncDecStmt", "stmt:*ast.DeferStmt",
         "call:gen.env.Duplicate", "call:env.Apply", "if[", "ret:err", "]", "ret:gen.Generate"] := rfl

/-- The switch of GenerateCallBySymbol has exactly the cases `genC` treats as special forms. -/
theorem emit_special_forms : Generated.SQEmit.callBySymbolCases = specialForms := rfl

/-- Every place where generator.go creates a generator or writes one of the context fields
Tail / scopes / funcname, in source order — what `genBegin`, `genFun`, `genShort`, `genCond`,
`genLet`, `genFor`, `genNewScope` and the ordinary-call arm of `genC` were written against
(e.g. a cond test is compiled after `Reset()` with the scopes copied again and Tail false; the four
sub-generators of a loop get Tail false, scopes, funcname; let initialisers, array elements, the
results of a multi-value return and — in the `syntaxQuote` case of GenerateCallBySymbol — the
unquoted expressions of a template are compiled with Tail cleared and restored). As of /repo
0d48297. Other files only create generators. -/
theorem emit_ctx_writes : Generated.SQCtx.ctxWrites =
    ["EvalCallExpression|new:gen=NewGenerator", "LoadExpressions|new:gen=NewGenerator",
     "Force|new:gen=NewGenerator", "FuncBuilder|new:gen=NewGenerator", "EvalFunction|new:gen=NewGenerator",
     "NewGenerator|set:gen.Tail=false", "NewGenerator|set:gen.scopes=0",
     "NewSubGenerator|new:subgen=NewGenerator", "GenerateBegin|set:gen.Tail=false",
     "GenerateBegin|set:gen.Tail=oldtail", "buildSexpFun|new:gen=NewGenerator",
     "buildSexpFun|set:gen.Tail=true", "buildSexpFun|set:gen.funcname=env.GenSymbol(\"__anon\").name",
     "buildSexpFun|set:gen.funcname=name", "buildSexpFun|set:gen.funcname=\"\"",
     "GenerateDef|set:gen.Tail=false", "GenerateShortCircuit|new:subgen=gen.NewSubGenerator",
     "GenerateShortCircuit|set:subgen.scopes=gen.scopes", "GenerateShortCircuit|set:subgen.Tail=gen.Tail",
     "GenerateShortCircuit|set:subgen.funcname=gen.funcname", "GenerateShortCircuit|use:subgen.Generate",
     "GenerateShortCircuit|new:subgen=gen.NewSubGenerator",
     "GenerateShortCircuit|set:subgen.scopes=gen.scopes",
     "GenerateShortCircuit|set:subgen.funcname=gen.funcname", "GenerateShortCircuit|use:subgen.Generate",
     "GenerateCond|new:subgen=gen.NewSubGenerator", "GenerateCond|set:subgen.Tail=gen.Tail",
     "GenerateCond|set:subgen.scopes=gen.scopes", "GenerateCond|set:subgen.funcname=gen.funcname",
     "GenerateCond|use:subgen.Generate", "GenerateCond|reset:subgen",
     "GenerateCond|set:subgen.scopes=gen.scopes", "GenerateCond|use:subgen.Generate",
     "GenerateCond|reset:subgen", "GenerateCond|set:subgen.Tail=gen.Tail",
     "GenerateCond|set:subgen.scopes=gen.scopes", "GenerateCond|set:subgen.funcname=gen.funcname",
     "GenerateCond|use:subgen.Generate", "GenerateCond|reset:subgen", "GenerateLet|++:gen.scopes",
     "GenerateLet|set:gen.Tail=false", "GenerateLet|set:gen.Tail=oldtail", "GenerateLet|--:gen.scopes",
     "GenerateAssert|set:gen.Tail=false", "GenerateAssert|set:gen.Tail=oldtail",
     "GenerateCallBySymbol|set:gen.Tail=false", "GenerateCallBySymbol|set:gen.Tail=oldtail",
     "GenerateCallBySymbol|set:gen.Tail=false", "GenerateCallBySymbol|set:gen.Tail=oldtail",
     "GenerateArray|set:gen.Tail=false", "GenerateArray|set:gen.Tail=oldtail", "Reset|set:gen.Tail=false",
     "Reset|set:gen.scopes=0", "GenerateForLoop|++:gen.scopes",
     "GenerateForLoop|new:subgenBody=gen.NewSubGenerator", "GenerateForLoop|set:subgenBody.Tail=false",
     "GenerateForLoop|set:subgenBody.scopes=gen.scopes",
     "GenerateForLoop|set:subgenBody.funcname=gen.funcname", "GenerateForLoop|use:subgenBody.GenerateBegin",
     "GenerateForLoop|new:subgenInit=gen.NewSubGenerator", "GenerateForLoop|set:subgenInit.Tail=false",
     "GenerateForLoop|set:subgenInit.scopes=gen.scopes",
     "GenerateForLoop|set:subgenInit.funcname=gen.funcname", "GenerateForLoop|use:subgenInit.Generate",
     "GenerateForLoop|new:subgenT=gen.NewSubGenerator", "GenerateForLoop|set:subgenT.Tail=false",
     "GenerateForLoop|set:subgenT.scopes=gen.scopes", "GenerateForLoop|set:subgenT.funcname=gen.funcname",
     "GenerateForLoop|use:subgenT.Generate", "GenerateForLoop|new:subgenIncr=gen.NewSubGenerator",
     "GenerateForLoop|set:subgenIncr.Tail=false", "GenerateForLoop|set:subgenIncr.scopes=gen.scopes",
     "GenerateForLoop|set:subgenIncr.funcname=gen.funcname", "GenerateForLoop|use:subgenIncr.Generate",
     "GenerateForLoop|--:gen.scopes", "GenerateMultiDef|set:gen.Tail=false",
     "GenerateNewScope|set:gen.Tail=false", "GenerateNewScope|++:gen.scopes",
     "GenerateNewScope|set:gen.Tail=oldtail", "GenerateNewScope|--:gen.scopes",
     "GeneratePackage|set:gen.Tail=false", "GeneratePackage|++:gen.scopes",
     "GeneratePackage|set:gen.Tail=oldtail", "GeneratePackage|--:gen.scopes",
     "GenerateReturn|set:gen.Tail=false", "GenerateReturn|set:gen.Tail=oldtail",
     "SourceExpressions|new:gen=NewGenerator"] := rfl

/-! ### the pinned tree (before fixes/C15-02, C15-03 and the error-propagation commit) -/

/-- `^~@l` with `l = (1 2)`: the pre-fix code returned 2 and left 1 operand behind. -/
theorem C15_counterexample_top_splice :
    Legacy.SQ.evalSQ exH (Tmpl.splice (sym "l")).toSexp = some (num 2, 1)
    ∧ subst (toBinding exH) (.splice (sym "l")) = none := by
  decide +kernel

/-- In general the pre-fix code pushed *all* elements of the spliced list: as many operands
as the list is long, on any stack. -/
theorem legacy_top_splice_pushes_all (H : Host) (e v : Sexp) (xs : List Sexp) (st : Stack)
    (hg : H.genOK e = true) (he : H.eval e = some v) (hl : listToArray v = some xs) :
    Legacy.SQ.run H (Legacy.SQ.genSQ H (Tmpl.splice e).toSexp) st = some (pushAll xs st) := by
  simp [Tmpl.toSexp, Legacy.SQ.genSQ, isList, unqKind, hg, Legacy.SQ.run, Legacy.SQ.step, step, he, hl]

/-- `^(a (unquote bad) b)` where `bad` does not compile: the error was dropped and the
element silently vanished — `(a b)` instead of an error. -/
theorem C15_counterexample_dropped_error :
    let t := Tmpl.list [.lit (.sym "a"), .unquote (sym "bad"), .lit (.sym "b")]
    Legacy.SQ.evalSQ exH t.toSexp = some (mkList [sym "a", sym "b"], 0)
    ∧ subst (toBinding exH) t = none ∧ evalSQ exH t.toSexp = none := by
  decide +kernel

/-- `^((x y) ~@bad)`: the orphaned `explode` ate the neighbouring element. -/
theorem C15_counterexample_dropped_error_splice :
    let t := Tmpl.list [.list [.lit (.sym "x"), .lit (.sym "y")], .splice (sym "bad")]
    Legacy.SQ.evalSQ exH t.toSexp = some (mkList [sym "x", sym "y"], 0)
    ∧ subst (toBinding exH) t = none := by
  decide +kernel

/-- `{a: ~@l b: ~x c: ~@e}` (a hash value, built through the Go API), `l = (1 2)`: the pre-fix
code handed MakeHash `a 2 1 b 5 c` instead of `a 1 2 b 5 c` — a spliced list came out reversed. -/
theorem C15_counterexample_hash_splice_reversed :
    let t := Tmpl.hash "hash" [(.lit (.sym "a"), .splice (sym "l")), (.lit (.sym "b"), .unquote (sym "x")),
      (.lit (.sym "c"), .splice (sym "e"))]
    Legacy.SQ.evalSQ exH t.toSexp
      = some (.hash "hash" (mkList [sym "a", num 2, num 1, sym "b", num 5, sym "c"]), 0)
    ∧ subst (toBinding exH) t
      = some (.hash "hash" (mkList [sym "a", num 1, num 2, sym "b", num 5, sym "c"])) := by
  decide +kernel

end ZygoVerif.SQ
