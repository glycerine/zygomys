/-
C10 — records convert to Go structs and back without loss.  PARTIAL by design (DESIGN §7 C10):
the truth of this property lives in Go's `reflect`; what is proved here is the logic of the walk
over an abstract type descriptor (`Model/ToGo.lean`, the code after fixes C10-01…05), level by
level: every theorem about `convStep`/`fillFields` holds for an ARBITRARY function `rec` doing the
levels below, hence for every nesting depth of the real recursion `conv w n`.
The tie of the descriptor and of the model to the real code is the `togo` channel.
-/
import ZygoVerif.Model.ToGo
import ZygoVerif.Spec.RecordGo
import ZygoVerif.Proofs.ToGoCache
import ZygoVerif.Proofs.ToGoPaths
import ZygoVerif.Proofs.ToGoLookup
import ZygoVerif.Proofs.ToGoHist
import ZygoVerif.Model.LegacyToGo
namespace ZygoVerif.C10
open ZygoVerif.ToGo ZygoVerif.SpecToGo

theorem getPath_setPath_same : ∀ (p : List Nat) (sv sv' v : GV),
    setPath sv p v = some sv' → getPath sv' p = some v := by
  intro p
  induction p with
  | nil => intro sv sv' v h; simp [setPath] at h; simp [getPath, h]
  | cons i p ih =>
    intro sv sv' v h
    obtain ⟨s, fs, f, f', rfl, hf, hf', rfl⟩ := setPath_cons_ok h
    simp only [getPath, List.getElem?_set_self (List.getElem?_eq_some_iff.mp hf).1]
    exact ih f f' v hf'

/-- two paths neither of which is a prefix of the other -/
def Apart : List Nat → List Nat → Prop
  | [], _ => False
  | _, [] => False
  | i :: p, j :: q => i ≠ j ∨ Apart p q

theorem getPath_setPath_apart : ∀ (p q : List Nat) (sv sv' v : GV),
    Apart p q → setPath sv p v = some sv' → getPath sv' q = getPath sv q := by
  intro p
  induction p with
  | nil => intro q sv sv' v h; simp [Apart] at h
  | cons i p ih =>
    intro q sv sv' v hap h
    cases q with
    | nil => simp [Apart] at hap
    | cons j q =>
      obtain ⟨s, fs, f, f', rfl, hf, hf', rfl⟩ := setPath_cons_ok h
      by_cases hij : i = j
      · subst hij
        simp only [getPath, List.getElem?_set_self (List.getElem?_eq_some_iff.mp hf).1, hf]
        exact ih q f f' v (hap.resolve_left (fun hne => hne rfl)) hf'
      · simp only [getPath, List.getElem?_set_ne hij]

/-- `unknown_field_or_wrong_kind_is_error`, first half: a key that is not a string/symbol, or
that names no field of the struct (by json tag, by name, capitalised, through embedded structs),
makes the whole conversion fail — whatever the other fields are and whatever the levels below
do. Nothing is skipped. -/
theorem unknown_field_is_error (rec : Rec) (tbl : List Entry) :
    ∀ (kvs : List (Key × Sx)) (st : St) (sv : GV),
    (∃ kv ∈ kvs, (keyBytes kv.1).bind (resolve tbl) = none) →
    ∀ r, fillFields rec tbl st sv kvs ≠ .ok r := by
  intro kvs
  induction kvs with
  | nil => intro st sv h; simp at h
  | cons kv rest ih =>
    intro st sv h r hok
    obtain ⟨k, x⟩ := kv
    obtain ⟨b, e, cur, v, st1, sv1, hk, hr, _, _, _, hrest⟩ := (fillFields_cons_ok ..).mp hok
    obtain ⟨kv, hmem, hnone⟩ := h
    rcases List.mem_cons.mp hmem with heq | hin
    · subst heq; simp [hk, hr] at hnone
    · exact ih st1 sv1 ⟨kv, hin, hnone⟩ r hrest

example : ∃ kvs : List (Key × Sx), ∃ kv ∈ kvs, (keyBytes kv.1).bind (resolve ([] : List Entry)) = none :=
  ⟨[(Key.sym [122], Sx.int 1)], (Key.sym [122], Sx.int 1), by simp, by simp [keyBytes, resolve, lookupKey]⟩

/-- `togo_fills_every_field`: when the field loop succeeds, the field that a pair `(k, x)` of the
record names holds exactly the value the conversion of `x` produced — provided no later pair
writes to the same field or to a struct containing/contained in it (`Apart`). With distinct keys
resolving to pairwise `Apart` paths this is "every field present in the record is written once,
with the record's value". -/
theorem togo_fills_every_field (rec : Rec) (tbl : List Entry) :
    ∀ (rest : List (Key × Sx)) (st : St) (sv : GV) (k : Key) (x : Sx) (b : List Nat) (e : Entry)
      (cur v : GV) (st1 : St) (out : GV × St),
    keyBytes k = some b → resolve tbl b = some e → getPath sv e.path = some cur →
    rec st x e.ty cur = .ok (v, st1) →
    (∀ kv ∈ rest, ∀ b' e', keyBytes kv.1 = some b' → resolve tbl b' = some e' → Apart e'.path e.path) →
    fillFields rec tbl st sv ((k, x) :: rest) = .ok out →
    getPath out.1 e.path = some v := by
  intro rest st sv k x b e cur v st1 out hk hr hg hc hap hfill
  obtain ⟨_, _, _, _, _, sv1, hk2, hr2, hg2, hc2, hs, hrest⟩ := (fillFields_cons_ok ..).mp hfill
  cases hk.symm.trans hk2; cases hr.symm.trans hr2; cases hg.symm.trans hg2; cases hc.symm.trans hc2
  have h0 : getPath sv1 e.path = some v := getPath_setPath_same _ _ _ _ hs
  -- the remaining pairs leave this field alone
  clear hs hc hc2 hg hg2 hfill
  revert st1 sv1
  induction rest with
  | nil => intro st1 sv1 hrest h0; cases hrest; exact h0
  | cons kv rest ih =>
    intro st1 sv1 hrest h0
    obtain ⟨k', x'⟩ := kv
    obtain ⟨b', e', _, _, st2, sv2, hk', hr', _, _, hs', hrest⟩ := (fillFields_cons_ok ..).mp hrest
    refine ih (fun kv hm => hap kv (List.mem_cons_of_mem _ hm)) st2 sv2 hrest ?_
    rw [getPath_setPath_apart _ _ _ _ _ (hap (k', x') (by simp) b' e' hk' hr') hs']; exact h0

example : Apart [0, 1] [0, 2] ∧ Apart [1] [0, 2] := by simp [Apart]

theorem fillFields_append (rec : Rec) (tbl : List Entry) (post : List (Key × Sx)) (out : GV × St) :
    ∀ (pre : List (Key × Sx)) (st : St) (sv : GV),
    fillFields rec tbl st sv (pre ++ post) = .ok out ↔
      ∃ sv1 st1, fillFields rec tbl st sv pre = .ok (sv1, st1) ∧
        fillFields rec tbl st1 sv1 post = .ok out := by
  intro pre
  induction pre with
  | nil => intro st sv; exact ⟨fun h => ⟨sv, st, rfl, h⟩, fun ⟨_, _, h1, h2⟩ => by cases h1; exact h2⟩
  | cons kv pre ih =>
    intro st sv
    obtain ⟨k, x⟩ := kv
    rw [List.cons_append, fillFields_cons_ok]
    constructor
    · rintro ⟨b, e, cur, v, st1, sv1, hk, hr, hg, hc, hs, h⟩
      obtain ⟨sv2, st2, h1, h2⟩ := (ih st1 sv1).mp h
      exact ⟨sv2, st2, (fillFields_cons_ok ..).mpr ⟨b, e, cur, v, st1, sv1, hk, hr, hg, hc, hs, h1⟩, h2⟩
    · rintro ⟨sv2, st2, h1, h2⟩
      obtain ⟨b, e, cur, v, st1, sv1, hk, hr, hg, hc, hs, h⟩ := (fillFields_cons_ok ..).mp h1
      exact ⟨b, e, cur, v, st1, sv1, hk, hr, hg, hc, hs, (ih st1 sv1).mpr ⟨sv2, st2, h, h2⟩⟩

/-- `togo_fills_every_field`, for a pair at ANY position of the record: the loop succeeded, so the
pair's key resolved to a declared field, its value was converted (once, by `rec`, into that
field's type, starting from what the field held), and — when the pairs after it write only
paths `Apart` from it — the finished struct holds exactly that converted value there. -/
theorem togo_fills_every_field_at (rec : Rec) (tbl : List Entry)
    (pre rest : List (Key × Sx)) (k : Key) (x : Sx) (st : St) (sv : GV) (out : GV × St)
    (hfill : fillFields rec tbl st sv (pre ++ (k, x) :: rest) = .ok out) :
    ∃ sv1 st1 b e cur v st2,
      fillFields rec tbl st sv pre = .ok (sv1, st1) ∧ keyBytes k = some b ∧ resolve tbl b = some e ∧
      getPath sv1 e.path = some cur ∧ rec st1 x e.ty cur = .ok (v, st2) ∧
      ((∀ kv ∈ rest, ∀ b' e', keyBytes kv.1 = some b' → resolve tbl b' = some e' → Apart e'.path e.path) →
        getPath out.1 e.path = some v) := by
  obtain ⟨sv1, st1, hpre, hfill⟩ := (fillFields_append ..).mp hfill
  obtain ⟨b, e, cur, v, st2, _, hk, hr, hg, hc, _, _⟩ := (fillFields_cons_ok ..).mp hfill
  exact ⟨sv1, st1, b, e, cur, v, st2, hpre, hk, hr, hg, hc, fun hap =>
    togo_fills_every_field rec tbl rest st1 sv1 k x b e cur v st2 out hk hr hg hc hap hfill⟩

/-- `roundtrip_partial`: let `rb` be a read-back function under which every value that `rec`
converts comes back as it was (see `roundtrip_scalar`, `roundtrip_slice` for instances). Then for
every pair `(k, x)` of a record that converted successfully, reading back the field the pair
names gives exactly `x` (paths of later pairs `Apart`, as in `togo_fills_every_field`).
MISSING for the full `fromGo (toGo r T) = r`: the assembly of the fields into one record (key
order = declaration order, absent fields = zero values, embedded structs twice) and the
instantiation of `rb` through pointers and interfaces; both are conventions of
`FillHashFromShadow` that the `echo` correspondence checks against the spec on every op. -/
theorem roundtrip_partial (rec : Rec) (rb : GV → Sx) (tbl : List Entry)
    (hrb : ∀ st x T cur v st', rec st x T cur = .ok (v, st') → rb v = x)
    (pre rest : List (Key × Sx)) (k : Key) (x : Sx) (st : St) (sv : GV) (out : GV × St)
    (hfill : fillFields rec tbl st sv (pre ++ (k, x) :: rest) = .ok out)
    (hap : ∀ b e, keyBytes k = some b → resolve tbl b = some e →
      ∀ kv ∈ rest, ∀ b' e', keyBytes kv.1 = some b' → resolve tbl b' = some e' → Apart e'.path e.path) :
    ∃ b e, keyBytes k = some b ∧ resolve tbl b = some e ∧ (getPath out.1 e.path).map rb = some x := by
  obtain ⟨sv1, st1, b, e, cur, v, st2, _, hk, hr, _, hc, hget⟩ :=
    togo_fills_every_field_at rec tbl pre rest k x st sv out hfill
  refine ⟨b, e, hk, hr, ?_⟩
  rw [hget (hap b e hk hr)]
  simp [hrb st1 x e.ty cur v st2 hc]

/-- kind-preserving scalar pairs: the value comes back from Go as the same kind of value -/
def KindPreserving : Sx → Ty → Prop
  | .int _, .int _ => True | .uint _, .uint _ => True | .flt _, .f64 => True
  | .str _, .str => True | .bool _, .bool => True | .raw _, .bytes => True | _, _ => False

/-- scalars that come back exactly as they went in (the kind-preserving pairs; an integer stored
into a float64 field comes back as a float, a char as an integer, a time not at all — the last
is the known finding). `rbk` is irrelevant: no nested value. -/
theorem roundtrip_scalar (w : World) (heap : List GV) (rbk : GV → Sx) (x : Sx) (T : Ty) (v : GV)
    (hpair : KindPreserving x T) (h : convAtom w x T = .ok v) : backStep w heap rbk v = x := by
  -- the six pairs of `KindPreserving`; the two integer ones are stored only when in range
  unfold KindPreserving at hpair
  split at hpair
  case h_7 => exact hpair.elim
  all_goals simp only [convAtom] at h
  all_goals first | (cases h; rfl) | (split at h <;> cases h; rfl)

/-- slices: if every element comes back, the slice comes back (element order and count kept). -/
theorem roundtrip_slice (rec : Rec) (rb : GV → Sx) (e : Ty) (z : GV)
    (hrb : ∀ st x v st', rec st x e z = .ok (v, st') → rb v = x) :
    ∀ (xs : List Sx) (st : St) (vs : List GV) (st' : St),
    convList rec e z st xs = .ok (vs, st') → vs.map rb = xs := by
  intro xs
  induction xs with
  | nil => intro st vs st' h; simp [convList] at h; simp [h.1]
  | cons x xs ih =>
    intro st vs st' h
    obtain ⟨v, st1, vs', st2, h1, h2, ho⟩ := convList_cons_ok h
    cases ho
    simp [hrb st x v st1 h1, ih st1 vs' st' h2]

example : convAtom ⟨[], []⟩ (.str [97]) .str = .ok (.str [97]) := rfl

theorem convStep_scalar (w : World) (rec : Rec) (st st' : St) (x : Sx) (T : Ty) (cur v : GV)
    (hx : KindPreserving x T) (h : convStep w rec st x T cur = .ok (v, st')) : convAtom w x T = .ok v := by
  cases convStep_ok h with
  | atom ha => exact ha
  | _ => exact hx.elim

/-- `roundtrip` for flat records, about the model's own functions at any depth budget: take any
record whose conversion by the real field loop (`fillFields (conv w n)`) succeeded; for every pair
`(k, x)` of it whose value is a scalar of the field's own kind, the way back (`backStep`, any
heap, any nested read-back) reads exactly `x` from the field `k` names. No assumption on the other
pairs except that later ones write `Apart` paths. -/
theorem roundtrip_flat_fields (w : World) (n : Nat) (heap : List GV) (rbk : GV → Sx) (tbl : List Entry)
    (pre rest : List (Key × Sx)) (k : Key) (x : Sx) (st : St) (sv : GV) (out : GV × St)
    (hfill : fillFields (conv w (n+1)) tbl st sv (pre ++ (k, x) :: rest) = .ok out)
    (hkind : ∀ b e, keyBytes k = some b → resolve tbl b = some e → KindPreserving x e.ty)
    (hap : ∀ b e, keyBytes k = some b → resolve tbl b = some e →
      ∀ kv ∈ rest, ∀ b' e', keyBytes kv.1 = some b' → resolve tbl b' = some e' → Apart e'.path e.path) :
    ∃ b e, keyBytes k = some b ∧ resolve tbl b = some e ∧
      (getPath out.1 e.path).map (backStep w heap rbk) = some x := by
  obtain ⟨sv1, st1, b, e, cur, v, st2, _, hk, hr, _, hc, hget⟩ :=
    togo_fills_every_field_at (conv w (n+1)) tbl pre rest k x st sv out hfill
  refine ⟨b, e, hk, hr, ?_⟩
  rw [hget (hap b e hk hr)]
  have hat : convAtom w x e.ty = .ok v := convStep_scalar w (conv w n) st1 st2 x e.ty cur v (hkind b e hk hr) hc
  simp [roundtrip_scalar w heap rbk x e.ty v (hkind b e hk hr) hat]

example : KindPreserving (.int 5) (.int .i64) := trivial

/-- `togo_shares`: a record that was already converted (its id is in the dedup cache with object
`o`) converts, into a pointer field of that struct type, to the SAME object `o`; nothing is
allocated and nothing is walked again. -/
theorem togo_shares (w : World) (rec : Rec) (st : St) (id o : Nat) (tn s : String)
    (kvs : List (Key × Sx)) (cur : GV)
    (h : st.lookup id = some (.ptr (some o), .ptr s)) :
    convStep w rec st (.hash id tn kvs) (.ptr s) cur = .ok (.ptr (some o), st) := by
  simp [convStep, h, assign, bind, Except.bind, pure, Except.pure]

/-- the same through an interface-typed field that the struct implements (the case fix C10-02
repairs: before it the outcome depended on which field Go's map iteration visited first). -/
theorem togo_shares_iface (w : World) (rec : Rec) (st : St) (id o : Nat) (tn s i : String)
    (kvs : List (Key × Sx)) (cur : GV)
    (h : st.lookup id = some (.ptr (some o), .ptr s)) (himp : w.implements i s = true) :
    convStep w rec st (.hash id tn kvs) (.iface i) cur = .ok (.iface (some (.ptr (some o))), st) := by
  simp [convStep, h, assign, himp, bind, Except.bind, pure, Except.pure]

theorem lookup_remember (st : St) (id : Nat) (v : GV) (t : Ty) :
    (st.remember id v t).lookup id = some (v, t) := by
  simp [St.remember, St.lookup]

theorem lookup_remember_ne (st : St) (id id' : Nat) (v : GV) (t : Ty) (hne : id' ≠ id) :
    (st.remember id v t).lookup id' = st.lookup id' :=
  ToGoCache.lookup_remember_ne st id id' v t hne

/-- first conversion of a record into a pointer field: the result is a pointer to a fresh object
and the cache remembers exactly that object for the record's id. -/
theorem togo_remembers (w : World) (rec : Rec) (st st1 : St) (id : Nat) (tn s : String)
    (kvs : List (Key × Sx)) (cur v1 : GV)
    (hmiss : st.lookup id = none) (hn : tn ≠ "hash")
    (h : convStep w rec st (.hash id tn kvs) (.ptr s) cur = .ok (v1, st1)) :
    ∃ o, v1 = .ptr (some o) ∧ st1.lookup id = some (.ptr (some o), .ptr s) := by
  cases convStep_ok h with
  | hit hl _ => rw [hmiss] at hl; cases hl
  | viaPtr _ _ _ hT _ =>
    obtain ⟨hT, rfl⟩ | ⟨hT | ⟨_, hT, _⟩, _⟩ := hT <;> cases hT
    exact ⟨_, rfl, lookup_remember ..⟩
  | atom ha => cases ha

/-- `togo_shares`, end to end: a record is converted into a pointer field (first visit), then
ANY successful conversion happens (`conv w k …`, arbitrary value, type and depth), then the same
record is met again at a pointer field of that struct: it converts to the SAME Go object, and
nothing new is allocated or cached. Cache persistence (`conv_keeps`) is proved for the whole
recursion by induction on the depth. -/
theorem togo_shares_twice (w : World) (n k m : Nat) (st st1 st2 : St) (id : Nat) (tn s : String)
    (kvs : List (Key × Sx)) (cur1 cur2 v1 : GV)
    (y : Sx) (Ty' : Ty) (cy vy : GV)
    (hmiss : st.lookup id = none) (hn : tn ≠ "hash")
    (h1 : conv w (n+1) st (.hash id tn kvs) (.ptr s) cur1 = .ok (v1, st1))
    (hmid : conv w k st1 y Ty' cy = .ok (vy, st2)) :
    ∃ o, v1 = .ptr (some o) ∧
      conv w (m+1) st2 (.hash id tn kvs) (.ptr s) cur2 = .ok (.ptr (some o), st2) := by
  obtain ⟨o, hv, hl⟩ := togo_remembers w (conv w n) st st1 id tn s kvs cur1 v1 hmiss hn h1
  refine ⟨o, hv, ?_⟩
  have hl2 := ToGoCache.conv_keeps w k st1 y Ty' cy vy st2 hmid id _ hl
  exact togo_shares w (conv w m) st2 id o tn s kvs cur2 hl2

/-- The walk's scalar arms against the spec's kind table (`atomSpec`, written from the property
text: exact numeric conversions only), pair by pair: where the table has no entry the walk reports
an error, where it has a strict one the walk stores exactly that value (a lax entry allows the walk
to be stricter than the text). -/
theorem convAtom_spec (w : World) (x : Sx) (T : Ty) :
    match atomSpec w x T with
    | none => convAtom w x T = .error .err
    | some (v, true) => convAtom w x T = .ok v
    | some (_, false) => True := by
  -- all but a few pairs compute
  cases x <;> cases T <;> first | exact rfl | exact True.intro | skip
  case int.int v k => simp only [atomSpec, convAtom]; by_cases h : inIntRange k.bits v = true <;> simp [h]
  case int.f64 v => simp only [atomSpec, convAtom]; cases intToF64? v <;> exact rfl
  case uint.uint v k => simp only [atomSpec, convAtom]; by_cases h : v < 2 ^ k.bits <;> simp [h]
  case char.int v k => cases k <;> exact rfl
  case flt.int b k =>
    cases k <;> first | exact rfl | skip
    simp only [atomSpec, convAtom]; cases f64ToInt? b <;> first | exact rfl | exact True.intro

/-- `unknown_field_or_wrong_kind_is_error`, second half, for scalar values: wherever the spec's
kind table (`atomSpec`, written from the property text: exact numeric conversions only) has no
entry, the walk reports an error — it never stores anything. -/
theorem wrong_kind_is_error (w : World) (x : Sx) (T : Ty)
    (hx : (match x with | .arr _ => False | .hash _ _ _ => False | _ => True))
    (h : atomSpec w x T = none) : convAtom w x T = .error .err := by
  -- `hx` is not needed: arrays and records have no entry either, and are no scalars to `convAtom`
  have := convAtom_spec w x T
  rw [h] at this
  exact this

/-- and where the table promises a value (`strict`), the walk stores exactly that value. -/
theorem right_kind_is_exact (w : World) (x : Sx) (T : Ty) (v : GV)
    (h : atomSpec w x T = some (v, true)) : convAtom w x T = .ok v := by
  have := convAtom_spec w x T
  rw [h] at this
  exact this

example : atomSpec ⟨[], []⟩ (.int 300) (.int .i8) = none := by decide
example : atomSpec ⟨[], []⟩ (.flt 0x3ff8000000000000) (.int .i64) = none := by decide

/-! ### the pinned tree (before the fixes): kernel-checked witnesses; each is replayed on the real
code by the `togo` channel (see notes/C10.md for the op lines) -/

/-- C10-01: `(togo (vleaf u:7ULL))` succeeded and left `U` at zero: the value was dropped. -/
theorem uint_dropped_counterexample :
    LegacyToGo.convUintLegacy 7 (.uint .u64) (.uint .u64 0) = .ok (.uint .u64 0) ∧
    atomSpec ⟨[], []⟩ (.uint 7) (.uint .u64) = some (.uint .u64 7, true) := by
  constructor <;> rfl

/-- C10-03: `(togo (vleaf i8:300))` stored 44. -/
theorem int_truncated_counterexample :
    LegacyToGo.convIntLegacy 300 .i8 = .ok (.int .i8 44) ∧ atomSpec ⟨[], []⟩ (.int 300) (.int .i8) = none := by
  constructor
  · rfl
  · decide

/-- C10-02: a record first met at an interface field and then at a pointer field was an error
(and fine in the other visiting order — Go's map iteration decided). -/
theorem shared_through_iface_counterexample :
    LegacyToGo.assignLegacy ⟨[], [("I", ["S"])]⟩ (.ptr (some 0)) (.ptr "S") (.ptr "S") (some "I") = .error .err ∧
    LegacyToGo.assignLegacy ⟨[], [("I", ["S"])]⟩ (.ptr (some 0)) (.ptr "S") (.iface "I") none = .ok (.iface (some (.ptr (some 0)))) ∧
    assign ⟨[], [("I", ["S"])]⟩ (.ptr (some 0)) (.ptr "S") (.ptr "S") = .ok (.ptr (some 0)) := by
  refine ⟨?_, ?_, ?_⟩ <;> simp [LegacyToGo.assignLegacy, assign, World.implements]

/-! ### embedding depth: the field table and its `EmbedPath`s (proofs: `Proofs/ToGoPaths`, `Proofs/ToGoLookup`)

The model keeps `fillJsonMap`'s paths (`Entry.path`), nothing is abstracted away: `fillFields` and
`backStep` reach every field through `getPath/setPath` along the recorded path. The three theorems
hold for EVERY depth budget `n`, i.e. for embedding of any depth. -/

/-- every entry's path leads, field number by field number through struct-typed anonymous fields,
to a declared field with exactly the entry's key, type and embedded flag -/
theorem embed_path_leads_to_its_field (w : World) (n : Nat) (fs : List Field) (e : Entry)
    (he : e ∈ fieldTable w n fs 0 []) :
    ∃ f, e.path ≠ [] ∧ ToGoPaths.fieldAt w fs e.path = some f ∧ ToGoPaths.Describes e f := by
  obtain ⟨q, f, hq, hp, hat, hd⟩ := ToGoPaths.fieldTable_sound w n fs [] e he
  simp only [List.nil_append] at hp
  exact ⟨f, by rw [hp]; exact hq, by rw [hp]; exact hat, hd⟩

/-- no two entries share a path: every declared field, at every depth, has a path of its own
(what the append-aliasing of seed C10-m1 destroys from depth 3 on) -/
theorem embed_paths_unique (w : World) (n : Nat) (fs : List Field) :
    ((fieldTable w n fs 0 []).map (·.path)).Nodup :=
  ToGoPaths.fieldTable_paths_nodup w n fs []

/-- model = spec for the lookup of a key, at every depth: "the last entry of the flattened table
with this key" is "search the declarations from the last to the first, inside an embedded struct
before the embedded field itself" — same path, same type -/
theorem lookup_is_search_through_embedded (w : World) (k : String) (n : Nat) (fs : List Field) :
    (lookupKey (fieldTable w n fs 0 []) k).map ToGoLookup.proj = findExact w (n + 1) fs k := by
  have h := ToGoLookup.lookupKey_eq_findExact w k n fs []
  simp only [List.nil_append] at h
  have hid : (fun r : List Nat × Ty => (r.1, r.2)) = id := rfl
  rw [hid, Option.map_id, id] at h
  exact h

/-- a world with four levels of embedding, several fields per level, one tag shadowed at the top -/
def wDeep : World :=
  ⟨[⟨"D0", "d0", [⟨"Id", "id", false, .int .i64⟩, ⟨"D1", "", true, .struct "D1"⟩, ⟨"Hi0", "hi", false, .str⟩]⟩,
    ⟨"D1", "", [⟨"D2", "", true, .struct "D2"⟩, ⟨"C1", "c1", false, .int .i16⟩]⟩,
    ⟨"D2", "d2", [⟨"A2", "a2", false, .int .i64⟩, ⟨"D3", "", true, .struct "D3"⟩]⟩,
    ⟨"D3", "", [⟨"D4", "", true, .struct "D4"⟩, ⟨"U3", "u3", false, .str⟩]⟩,
    ⟨"D4", "d4", [⟨"Lo", "lo", false, .int .i64⟩, ⟨"Hi", "hi", false, .int .i64⟩, ⟨"Nm", "", false, .str⟩]⟩], []⟩

def fsDeep : List Field := [⟨"Id", "id", false, .int .i64⟩, ⟨"D1", "", true, .struct "D1"⟩, ⟨"Hi0", "hi", false, .str⟩]

set_option maxRecDepth 20000 in
/-- depth 4: `lo` and the capitalised `nm` are found along five field numbers; `hi` names the
top-level field declared later, not the depth-4 one -/
example :
    (resolve (fieldTable wDeep 8 fsDeep 0 []) [108, 111]).map (·.path) = some [1, 0, 1, 0, 0] ∧
    (resolve (fieldTable wDeep 8 fsDeep 0 []) [110, 109]).map (·.path) = some [1, 0, 1, 0, 2] ∧
    (resolve (fieldTable wDeep 8 fsDeep 0 []) [104, 105]).map (·.path) = some [2] ∧
    (fieldTable wDeep 8 fsDeep 0 []).length = 12 := by
  decide +kernel

open ZygoVerif.ToGoHist ZygoVerif.ToGoHistProofs

/-- is this step a conversion (explicit, or implicit through a method call)? -/
def Step.converts : Step → Bool
  | .togo _ => true | .echo _ => true | .touch _ => true | .self _ => true | _ => false

/-- FULL STRENGTH (`togo_reflects_current_record`): in every state — whatever was converted before,
whatever structs are attached — a conversion step answers exactly as it would if the records had
their present fields and nothing had ever been converted. REFUTED for the code as it is
(`togo_reflects_current_record_counterexample`, the keyed known finding): `(togo r)` on a record
with a struct attached fills that struct again and a by-value struct field keeps old content. -/
def TogoReflectsCurrentRecord (w : World) (fuel : Nat) : Prop :=
  ∀ (h : HSt) (s : Step), Step.converts s = true → (step w fuel h s).1 = (step w fuel (pristine h.store) s).1

/-- the proved part: every conversion of a record passed as an ARGUMENT (identity method or
mutating method), and `(togo r)` / a receiver when `r` has no struct attached. Missing for the full
statement: `(togo r)` and receiver calls on a record WITH an attached struct — see
`refill_writes_current_values` for what holds there (the current pairs are all written) and the
counterexample for what does not (content the current pairs do not name is kept). -/
theorem togo_reflects_current_record_partial (w : World) (fuel : Nat) (h : HSt) (s : Step)
    (hs : (match s with
      | .echo _ => True | .touch _ => True
      | .togo r => h.shadowOf r = none | .self r => h.shadowOf r = none
      | _ => False)) :
    (step w fuel h s).1 = (step w fuel (pristine h.store) s).1 := by
  cases s with
  | echo r => exact stepArg_ans_of_store w fuel h (pristine h.store) rfl r false
  | touch r => exact stepArg_ans_of_store w fuel h (pristine h.store) rfl r true
  | togo r => exact stepTogo_fresh_ans_of_store w fuel h (pristine h.store) rfl r hs rfl
  | self r => exact stepSelf_fresh_ans_of_store w fuel h (pristine h.store) rfl r hs rfl
  | hset r k v => exact absurd hs id
  | read r => exact absurd hs id

/-- for ALL histories: after any steps from any state, passing `r` to a Go method answers exactly
like the first conversion of a never-converted record with the fields `r` has now — no stale cache -/
theorem arg_reflects_current_record (w : World) (fuel : Nat) (h0 : HSt) (pre : List Step) (r : Nat) (m : Bool) :
    (stepArg w fuel (run w fuel h0 pre).2 r m).1 =
      (stepArg w fuel (pristine ((executed w fuel h0 pre).foldl storeStep h0.store)) r m).1 :=
  stepArg_ans_of_store w fuel _ _ (run_store w fuel pre h0) r m

/-- for ALL histories: the script's records are what the executed `hset`s made them; conversions
and method calls (and whatever they attach or mutate on the Go side) never change a record -/
theorem conversions_leave_records_alone (w : World) (fuel : Nat) (steps : List Step) (h : HSt) :
    (run w fuel h steps).2.store = (executed w fuel h steps).foldl storeStep h.store :=
  run_store w fuel steps h

/-- `(togo r)` with a struct attached: the field loop runs over the pairs the record has NOW -/
theorem refill_writes_current_values (w : World) (fuel : Nat) (h h1 : HSt) (o : Nat) (id : Nat) (tn : String)
    (kvs : List (Key × Sx)) (hr : convertRefill w fuel h o (.hash id tn kvs) = .ok h1) :
    ∃ d cur sv st1, w.lookupReg tn = some d ∧ h.heap[o]? = some cur ∧
      fillFields (conv w fuel) (fieldTable w 8 d.fields 0 []) ⟨h.heap, []⟩ cur kvs = .ok (sv, st1) ∧
      h1.heap = st1.heap.set o sv := by
  obtain ⟨_, _, _, d, cur, sv, st1, hx, hd, hc, hfill, rfl⟩ := convertRefill_ok hr
  cases hx
  exact ⟨d, cur, sv, st1, hd, hc, hfill, rfl⟩

/-- the known finding, on the code as it is: `(def r (n val:(l i:5))) (togo r) (hset r val: (l j:3)) (togo r)` -/
def wEx : World :=
  ⟨[⟨"N", "n", [⟨"Val", "val", false, .struct "L"⟩]⟩,
    ⟨"L", "l", [⟨"I", "i", false, .int .i64⟩, ⟨"J", "j", false, .int .i64⟩]⟩], []⟩

def storeEx : Store :=
  [⟨1, "n", [(.sym [118, 97, 108], .hash 2 "" [])]⟩, ⟨2, "l", [(.sym [105], .int 5)]⟩, ⟨3, "l", [(.sym [106], .int 3)]⟩]

def histEx : List Step := [.togo 1, .hset 1 (.sym [118, 97, 108]) (.hash 3 "" [])]

/-- `Val.I` of the struct a `(togo r)` answer shows -/
def obsValI : Ans → Option Int
  | .go heap o => match heap[o]? with
    | some sv => match getPath sv [0, 0] with
      | some (.int _ v) => some v
      | _ => none
    | none => none
  | _ => none

theorem togo_reflects_current_record_counterexample : ¬ TogoReflectsCurrentRecord wEx 64 := by
  intro hall
  have h := hall (run wEx 64 (pristine storeEx) histEx).2 (.togo 1) rfl
  have h5 : obsValI (step wEx 64 (run wEx 64 (pristine storeEx) histEx).2 (.togo 1)).1 = some 5 := by
    decide +kernel
  have h0 : obsValI (step wEx 64 (pristine (run wEx 64 (pristine storeEx) histEx).2.store) (.togo 1)).1 = some 0 := by
    decide +kernel
  rw [h, h0] at h5
  exact absurd h5 (by decide)

set_option maxRecDepth 100000 in
/-- non-vacuity of the history theorems: a history in which the argument conversion does see the update -/
example : (run wEx 64 (pristine storeEx) (histEx ++ [.echo 1, .read 1])).1.length = 4 := by
  decide +kernel

/-! ### before fix C10-06: an embedded pointer made the record type unusable -/

/-- `type VPE struct { *VLeaf; Z int64 }` -/
def wPE : World :=
  ⟨[⟨"VPE", "vpe", [⟨"VLeaf", "", true, .ptr "VLeaf"⟩, ⟨"Z", "z", false, .int .i64⟩]⟩,
    ⟨"VLeaf", "vleaf", [⟨"I", "i", false, .int .i64⟩]⟩], []⟩

/-- C10-06: `(vpe z:4)` could not even be built before the fix (`fillJsonMap` → `NumField` of a
pointer type), although the spec gives it a value — and the repaired walk (`toGoTop`) converts it,
the embedded pointer being a field like any other. -/
theorem embedded_pointer_counterexample :
    LegacyToGo.constructibleLegacy wPE "vpe" = false ∧
    (denTop wPE 64 none (.hash 1 "vpe" [(.sym [122], .int 4)])).isSome = true ∧
    (match toGoTop wPE 64 none (.hash 1 "vpe" [(.sym [122], .int 4)]) with
     | .ok (o, st) => (st.heap[o]?.bind (fun sv => getPath sv [1])).isSome
     | .error _ => false) = true := by
  decide +kernel

end ZygoVerif.C10
