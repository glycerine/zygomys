/-
C18 — package members are private unless capitalised.

Model: `Model/Pkg.lean` (the two path walkers, their hand-overs, `errIfPrivate`,
`dotGetSetHelper`, the dereferencing routes) — the code after fixes C18-01 and C18-02.
Spec: `Spec/Visibility.lean` (what a path denotes + the visibility rule per hop).
Lemmas: `Proofs/Pkg.lean`. Pre-fix walkers: `Model/LegacyPkg.lean`.

Every theorem is for ALL heaps (any nesting depth, any sharing or aliasing, even cyclic
references between scopes and hashes), all path lengths, all names and — because nothing
below unfolds `isUpperRune` — whatever the set of upper-case runes is.
-/
import ZygoVerif.Proofs.Pkg
import ZygoVerif.Proofs.RangeTable
import ZygoVerif.Model.LegacyPkg
import ZygoVerif.Generated.Pkg
namespace ZygoVerif.Pkg
open ZygoVerif.Visibility

theorem dotGetSet_get_iff (h h' : Heap) (lex : List Nat) (root p : Name) (ps : List Name) (v : Val) :
    dotGetSet h lex none (root :: p :: ps) = .ok (v, h') ↔
      h' = h ∧ readableFrom h lex (root :: p :: ps) = some v := by
  simp only [dotGetSet, readableFrom]
  cases lookupStack h root lex with
  | none => simp
  | some r =>
    obtain ⟨c, sid⟩ := r
    cases c with
    | pkg pn sc =>
      simpa only [curVal, curVia, readable_pkg_via h pn sc false] using
        walk_get_iff h (.stack pn sc) (p :: ps) v h' (List.cons_ne_nil _ _)
    | hash hid => exact walk_get_iff h (.hash hid false) (p :: ps) v h' (List.cons_ne_nil _ _)
    | int n => simp [readable_other_cons]
    | fn fid => simp [readable_other_cons]
    | sym q => simp [readable_other_cons]

/-- The failing side of `dotGetSet_get_iff`: a read that the specification does not allow is
answered with an error. -/
theorem dotGetSet_get_error (h : Heap) (lex : List Nat) (root p : Name) (ps : List Name)
    (hpriv : readableFrom h lex (root :: p :: ps) = none) :
    ∃ e, dotGetSet h lex none (root :: p :: ps) = .error e := by
  cases hres : dotGetSet h lex none (root :: p :: ps) with
  | error e => exact ⟨e, rfl⟩
  | ok r =>
    have := ((dotGetSet_get_iff h r.2 lex root p ps r.1).mp hres).2
    rw [hpriv] at this; cases this

/-- **private_unreachable** (get, full statement): whenever `dotGetSetHelper` answers a
read of `root.p.ps…` issued outside every package with a value, the specification allows
exactly that read, and nothing was modified. Both walkers and both hand-overs. -/
theorem private_unreachable (h h' : Heap) (lex : List Nat) (root p : Name) (ps : List Name) (v : Val) :
    dotGetSet h lex none (root :: p :: ps) = .ok (v, h') →
      h' = h ∧ readableFrom h lex (root :: p :: ps) = some v :=
  (dotGetSet_get_iff h h' lex root p ps v).mp

/-- What "the specification allows the read" means, spelled out: the path denotes member
hops, and every hop at or behind a package is capitalised or is a package member that
holds a nested package. -/
theorem readable_hops (h : Heap) (c : Val) (parts : List Name) (v : Val) :
    readable h c false parts = some v →
      ∃ hs b, resolve h c false parts = some (hs, v, b) ∧
        ∀ hp ∈ hs, hp.via = true →
          capitalised hp.name = true ∨ (hp.inPkg = true ∧ isPkg hp.target = true) := by
  simp only [readable]
  cases resolve h c false parts with
  | none => simp
  | some r =>
    obtain ⟨hs, r1, r2⟩ := r
    by_cases hall : hs.all hopVisible = true
    · simp only [hall, if_true, Option.some.injEq]
      intro hv
      refine ⟨hs, r2, by rw [hv], ?_⟩
      intro hp hmem hvia
      have := List.all_eq_true.mp hall hp hmem
      simp only [hopVisible, hvia, Bool.not_true, Bool.false_or, Bool.or_eq_true,
        Bool.and_eq_true] at this
      exact this
    · simp [hall]

/-- **private_unreachable**, in the words of the property: if some hop of the path sits
at or behind a package, its name is not capitalised, and it is not a package member
holding a nested package, then the read fails — for every route, since every route
resolves its dot symbol through `dotGetSet`. -/
theorem private_member_unreadable (h : Heap) (lex : List Nat) (root p : Name) (ps : List Name)
    (c : Val) (sid : Nat) (hs : List Hop) (v : Val) (b : Bool) (hp : Hop)
    (hroot : lookupStack h root lex = some (c, sid))
    (hden : resolve h c false (p :: ps) = some (hs, v, b))
    (hmem : hp ∈ hs) (hvia : hp.via = true) (hlow : capitalised hp.name = false)
    (hnest : ¬ (hp.inPkg = true ∧ isPkg hp.target = true)) :
    ∃ e, dotGetSet h lex none (root :: p :: ps) = .error e := by
  apply dotGetSet_get_error
  simp only [readableFrom, hroot]
  cases hr : readable h c false (p :: ps) with
  | none => rfl
  | some v' =>
    obtain ⟨hs', b', hden', hall⟩ := readable_hops h c (p :: ps) v' hr
    rw [hden] at hden'
    simp only [Option.some.injEq, Prod.mk.injEq] at hden'
    obtain ⟨rfl, _, _⟩ := hden'
    rcases hall hp hmem hvia with hc | hn
    · rw [hlow] at hc; exact absurd hc (by decide)
    · exact absurd hn hnest

/-- **public_reachable** (get): a read that the specification allows is answered with the
value the path denotes, heap untouched. -/
theorem public_reachable (h : Heap) (lex : List Nat) (root p : Name) (ps : List Name) (v : Val) :
    readableFrom h lex (root :: p :: ps) = some v →
      dotGetSet h lex none (root :: p :: ps) = .ok (v, h) :=
  fun hr => (dotGetSet_get_iff h h lex root p ps v).mpr ⟨rfl, hr⟩

/-- An assignment through `root.p.ps…` issued outside every package: permitted and carried out with
the value given, or not permitted and refused. -/
theorem dotGetSet_set (h : Heap) (lex : List Nat) (root p : Name) (ps : List Name) (x : Val) :
    (assignableFrom h lex (root :: p :: ps) = true ∧
      ∃ h', dotGetSet h lex (some x) (root :: p :: ps) = .ok (x, h')) ∨
    (assignableFrom h lex (root :: p :: ps) = false ∧
      ∃ e, dotGetSet h lex (some x) (root :: p :: ps) = .error e) := by
  simp only [dotGetSet, assignableFrom]
  cases lookupStack h root lex with
  | none => exact Or.inr ⟨rfl, _, rfl⟩
  | some r =>
    obtain ⟨c, sid⟩ := r
    cases c with
    | pkg pn sc =>
      simpa only [curVal, curVia, assignable_pkg_via h pn sc false] using
        walk_set h x (.stack pn sc) (p :: ps) (List.cons_ne_nil _ _)
    | hash hid => exact walk_set h x (.hash hid false) (p :: ps) (List.cons_ne_nil _ _)
    | int n => exact Or.inr ⟨assignable_other h _ _ p ps (by simp) (by simp), _, rfl⟩
    | fn fid => exact Or.inr ⟨assignable_other h _ _ p ps (by simp) (by simp), _, rfl⟩
    | sym q => exact Or.inr ⟨assignable_other h _ _ p ps (by simp) (by simp), _, rfl⟩

theorem dotGetSet_set_iff (h : Heap) (lex : List Nat) (root p : Name) (ps : List Name) (x : Val) :
    (∃ y h', dotGetSet h lex (some x) (root :: p :: ps) = .ok (y, h')) ↔
      assignableFrom h lex (root :: p :: ps) = true := by
  rcases dotGetSet_set h lex root p ps x with ⟨ha, h', hw⟩ | ⟨ha, e, hw⟩
  · exact ⟨fun _ => ha, fun _ => ⟨x, h', hw⟩⟩
  · simp [ha, hw]

theorem dotGetSet_set_error (h : Heap) (lex : List Nat) (root p : Name) (ps : List Name) (x : Val)
    (hpriv : assignableFrom h lex (root :: p :: ps) = false) :
    ∃ e, dotGetSet h lex (some x) (root :: p :: ps) = .error e := by
  rcases dotGetSet_set h lex root p ps x with ⟨ha, _⟩ | ⟨_, he⟩
  · rw [hpriv] at ha; cases ha
  · exact he

theorem dotGetSet_set_value (h h' : Heap) (lex : List Nat) (root p : Name) (ps : List Name) (x y : Val)
    (hw : dotGetSet h lex (some x) (root :: p :: ps) = .ok (y, h')) : y = x := by
  rcases dotGetSet_set h lex root p ps x with ⟨_, h'', hw'⟩ | ⟨_, e, hw'⟩
  · rw [hw'] at hw; cases hw; rfl
  · rw [hw'] at hw; cases hw

/-- **private_unreachable** (set): an assignment through a dot path that the walkers
carry out is one the specification permits; the value stored is the value given. -/
theorem private_unassignable (h h' : Heap) (lex : List Nat) (root p : Name) (ps : List Name) (x y : Val) :
    dotGetSet h lex (some x) (root :: p :: ps) = .ok (y, h') →
      y = x ∧ assignableFrom h lex (root :: p :: ps) = true :=
  fun hw => ⟨dotGetSet_set_value h h' lex root p ps x y hw, (dotGetSet_set_iff h lex root p ps x).mp ⟨y, h', hw⟩⟩

/-- **public_reachable** (set): a permitted assignment is carried out. -/
theorem public_assignable (h : Heap) (lex : List Nat) (root p : Name) (ps : List Name) (x : Val) :
    assignableFrom h lex (root :: p :: ps) = true →
      ∃ h', dotGetSet h lex (some x) (root :: p :: ps) = .ok (x, h') := by
  intro ha
  obtain ⟨y, h', hw⟩ := (dotGetSet_set_iff h lex root p ps x).mpr ha
  exact ⟨h', dotGetSet_set_value h h' lex root p ps x y hw ▸ hw⟩

/-- A lower-case (or non-letter) last name is never assignable behind a package: the
specification's `assignable` read off for the last hop. -/
theorem private_last_not_assignable (h : Heap) (c : Val) (last : Name)
    (hlow : capitalised last = false) : assignable h c true [last] = false := by
  cases c <;> simp [assignable_last, hlow]

/-- A step whose path the specification does not allow to be read fails, whatever the
route (operand of a builtin, call with or without arguments, argument of a user function,
alias / right-hand side by `def` or infix `=`), and the world is left as it was (an
`Except.error` carries no new world). -/
theorem route_get_private (w : World) (glob : Nat) (st : Step) (root p : Name) (ps : List Name)
    (hst : st = .opnd (root :: p :: ps) ∨ st = .call0 (root :: p :: ps) ∨
      (∃ n, st = .call1 (root :: p :: ps) n) ∨ st = .arg (root :: p :: ps) ∨
      (∃ nm i, st = .rhs nm (root :: p :: ps) i))
    (hpriv : readableFrom w.heap [glob] (root :: p :: ps) = none) :
    ∃ e, runStep w glob st = .error e := by
  obtain ⟨e, he⟩ := dotGetSet_get_error w.heap [glob] root p ps hpriv
  refine ⟨e, ?_⟩
  rcases hst with rfl | rfl | ⟨n, rfl⟩ | rfl | ⟨nm, i, rfl⟩ <;> simp [runStep, runStepWith, he]

/-- The three assignment routes (`{p = n}`, `(= p n)`, `(set p n)`) fail when the
specification does not permit the assignment. -/
theorem route_set_private (w : World) (glob : Nat) (r : SetRoute) (root p : Name) (ps : List Name) (n : Int)
    (hpriv : assignableFrom w.heap [glob] (root :: p :: ps) = false) :
    ∃ e, runStep w glob (.set r (root :: p :: ps) n) = .error e := by
  obtain ⟨e, he⟩ := dotGetSet_set_error w.heap [glob] root p ps (.int n) hpriv
  exact ⟨e, by simp [runStep, runStepWith, he]⟩

/-- **inside_keeps_access**: code defined inside a package (its closure holds the
package's scope stack `sc`) reads and assigns every name that stack binds — whatever the
case of the name — also when it is called from outside. -/
theorem inside_keeps_access (h : Heap) (sc : List Nat) (nm : Name) (v : Val) (sid : Nat)
    (hb : lookupStack h nm sc = some (v, sid)) :
    insideGet h sc nm = .ok (v, h) ∧ insideReadable h sc nm = some v ∧
      ∀ x, insideSet h sc nm x = .ok (x, h.setScope sid nm x) := by
  simp [insideGet, insideSet, insideReadable, hb]

/-- The same member, asked for from outside through the package, is refused when its name
is not capitalised and it is not a nested package; from inside it is served. -/
theorem inside_vs_outside (h : Heap) (lex : List Nat) (root : Name) (pn : Name) (sc : List Nat) (rsid : Nat)
    (nm : Name) (v : Val) (sid : Nat)
    (hroot : lookupStack h root lex = some (.pkg pn sc, rsid))
    (hb : lookupStack h nm sc = some (v, sid))
    (hlow : capitalised nm = false) (hv : isPkg v = false) :
    (∃ e, dotGetSet h lex none [root, nm] = .error e) ∧
      (∀ x, ∃ e, dotGetSet h lex (some x) [root, nm] = .error e) ∧
      insideGet h sc nm = .ok (v, h) := by
  refine ⟨?_, ?_, (inside_keeps_access h sc nm v sid hb).1⟩
  · exact dotGetSet_get_error h lex root nm []
      (by simp [readableFrom, hroot, readable_pkg_cons, hb, hopVisible, hlow, hv])
  · exact fun x => dotGetSet_set_error h lex root nm [] x
      (by simp [assignableFrom, hroot, assignable_last, hlow])

/-- A world: global `pk` = package P { X := 1; y := 2; H := {a:1 B:2}; inner := package I
{ Z := 5; HH := {z:7 Q:8} } }. Scope 0 global, 1 = P, 2 = I; hash 0 = H, 1 = HH. -/
def exWorld : Heap :=
  { scopes := [ [([112, 107], .pkg [80] [1, 0])],
                [([88], .int 1), ([121], .int 2), ([72], .hash 0), ([105], .pkg [73] [2, 1, 0])],
                [([90], .int 5), ([72, 72], .hash 1)] ],
    hashes := [ [([97], .int 1), ([66], .int 2)], [([122], .int 7), ([81], .int 8)] ] }

/-- Spot checks of the regenerated `unicode.IsUpper` table (the `pkg upper` ops compare
the whole table below U+0250 and a random sample above with the library on every run):
A Z É upper; a é _ $ and the title-case ǅ (U+01C5) not. -/
theorem upper_samples :
    isUpperRune 65 = true ∧ isUpperRune 90 = true ∧ isUpperRune 201 = true ∧
    isUpperRune 97 = false ∧ isUpperRune 233 = false ∧ isUpperRune 95 = false ∧
    isUpperRune 36 = false ∧ isUpperRune 453 = false := by
  -- the table is cut down to the ranges below 512 once, and the short list serves all eight runes
  have key : ∀ c < 512, isUpperRune c =
      ((Generated.Pkg.upperRanges.filter (·.1 < 512)).any fun r => r.1 ≤ c && c ≤ r.2) :=
    fun c hc => RangeTable.any_below hc _
  simp only [key 65 (by decide), key 90 (by decide), key 201 (by decide), key 97 (by decide),
    key 233 (by decide), key 95 (by decide), key 36 (by decide), key 453 (by decide)]
  decide +kernel

/-- Result comparison by evaluation (values and error classes only). -/
def resultIs (r : Res) (e : Except Err Val) : Bool :=
  match r, e with
  | .ok (v, _), .ok v' => v == v'
  | .error a, .error b => a == b
  | _, _ => false

example : dotGetSet exWorld [0] none [[112, 107], [88]] = .ok (.int 1, exWorld) := by rfl
example : readableFrom exWorld [0] [[112, 107], [88]] = some (.int 1) := by decide +kernel
-- pk.y, pk.H.a and pk.i.HH.z are refused, pk.H.B and pk.i.HH.Q are served (fixed code)
example : resultIs (dotGetSet exWorld [0] none [[112, 107], [121]]) (.error .priv) = true := by decide +kernel
example : resultIs (dotGetSet exWorld [0] none [[112, 107], [72], [97]]) (.error .priv) = true := by decide +kernel
example : resultIs (dotGetSet exWorld [0] none [[112, 107], [72], [66]]) (.ok (.int 2)) = true := by decide +kernel
example : resultIs (dotGetSet exWorld [0] none [[112, 107], [105], [72, 72], [81]]) (.ok (.int 8)) = true := by decide +kernel
example : resultIs (dotGetSet exWorld [0] none [[112, 107], [105], [72, 72], [122]]) (.error .priv) = true := by decide +kernel
example : assignableFrom exWorld [0] [[112, 107], [88]] = true := by decide +kernel
example : insideGet exWorld [1, 0] [121] = .ok (.int 2, exWorld) := by rfl

/-- Pinned tree, defect 1 (fixed by C18-02): the hash walker had no privacy check, so
`pk.H.a` read the lower-case member `a` of a public hash from outside the package —
against the specification. -/
theorem legacy_hash_member_leak_counterexample :
    Legacy.dotGetSet exWorld [0] none [[112, 107], [72], [97]] = .ok (.int 1, exWorld) ∧
    readableFrom exWorld [0] [[112, 107], [72], [97]] = none :=
  ⟨by rfl, by decide +kernel⟩

/-- … and assigned it. -/
theorem legacy_hash_member_assign_counterexample :
    (∃ h', Legacy.dotGetSet exWorld [0] (some (.int 9)) [[112, 107], [72], [97]] = .ok (.int 9, h')) ∧
    assignableFrom exWorld [0] [[112, 107], [72], [97]] = false :=
  ⟨⟨_, by rfl⟩, by decide +kernel⟩

/-- Pinned tree, defect 2 (fixed by C18-01): the stack walker handed the hash walker
`dotpaths[1:]` instead of the remaining path, so the PUBLIC member `pk.i.HH.Q`, two
packages deep, was unreachable ("hash has no field 'HH'") although the specification
makes it readable. -/
theorem legacy_handover_counterexample :
    Legacy.dotGetSet exWorld [0] none [[112, 107], [105], [72, 72], [81]] = .error .notfound ∧
    readableFrom exWorld [0] [[112, 107], [105], [72, 72], [81]] = some (.int 8) :=
  ⟨by rfl, by decide +kernel⟩

/-! ### T1: the source still has the shape the model was written for -/

/-- The privacy test is `!unicode.IsUpper(first rune)`. -/
theorem src_errIfPrivate : Generated.Pkg.errIfPrivateConds = ["!unicode.IsUpper([]rune(noDot)[0])"] := rfl

/-- The stack walker checks privacy at its three exits and hands the hash walker the
REMAINING path together with the package it stands in. -/
theorem src_stack_walker : Generated.Pkg.stackWalkerCalls =
    ["errIfPrivate(curSym.name, curStack)", "errIfPrivate(curSym.name, curStack)",
     "errIfPrivate(curSym.name, curStack)", "x.nestedPathGetSet(env, dotpaths[i+1:], setVal, curStack)"] := rfl

/-- The hash walker checks every part when reached through a package and hands a nested
package the remaining path. -/
theorem src_hash_walker : Generated.Pkg.hashWalkerCalls =
    ["errIfPrivate(dotpaths[i], viaPkg)", "x.nestedPathGetSet(env, dotpaths[i+1:], setVal)"] := rfl

/-- `dotGetSetHelper` enters a plain hash with no package in front of it. -/
theorem src_helper : Generated.Pkg.helperCalls =
    ["pkg.nestedPathGetSet(env, path[1:], setVal)", "h.nestedPathGetSet(env, path[1:], setVal, nil)"] := rfl

end ZygoVerif.Pkg
