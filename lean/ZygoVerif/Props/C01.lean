/-
C01 — no input can crash the host: evaluation always returns a value or an error.

"For any source text handed to an interpreter through its script-facing entry points (load,
parse, compile, macro-expand, run, REPL line), the call returns either a value or an error to
the Go caller. It never panics out of the library or kills the host process, and it returns
whenever the program needs only a bounded number of evaluation steps."

What is proved here, and about which model:

§1  Inventory (tie T1, `Generated/PanicSites.lean`, regenerated from the source on every run):
    every function of package zygo that a script can reach from the entry points without
    passing a deferred `recover()` and that holds an operation that can panic (index, slice,
    unchecked type assertion, explicit panic, integer division, map write) is CLASSIFIED —
    its sites are explicit in a Lean model with proved guards, or it is followed by a
    behavioural model, or it is on the committed residual list. A new unrecovered function
    with such an operation breaks `inventory_classified` until it is classified.
    `Generated/StackSites.lean`: what is pushed on which VM stack (the typed pops rely on it).
§2  Parser: `lexer.tokens[extra]` in the `{` look-ahead is in range after a successful
    `ParserPeekNextToken(extra)` (the code after fix 0e5f0c5) — for every parser state.
§3  Lexer: the index and slice expressions of dumpBuffer / DecodeAtom / DecodeChar are in
    range for every buffer content.
§4  Generator: the argument prologue of every special-form generator modelled in
    `Model/GenSites.lean` never indexes outside its argument list — for every argument list
    and any sub-generator that does not panic itself. Pre-repair counterexamples: `(and)`,
    `(mdef (hash) …)`.
§5  VM: the typed pops and the other primitive stack operations neither panic on stacks without
    nil cells nor create one (restore: as long as it only truncates); see the end of the file.

The front-end models themselves (`Lexer.step`/`feed`, `Parser.run (topLoop …)`,
`Pratt.expandBlock`) are total Lean functions whose result types have no panic outcome at all;
that totality is by construction and says nothing by itself — the guards of §2–§4 are the
content. They take no fuel in the lexer; the parser and the Pratt expander recurse on a fuel
that `fuelFor` derives from the input length (exhausting it is a parse error in the model;
that it never happens on real inputs is part of the `parse`/`crash` correspondence, not a
theorem). The full statement `C01NoPanic` is kept visible in §5; its proved part is
`c01_no_panic_partial`.
-/
import ZygoVerif.Model.Parser
import ZygoVerif.Model.FrontSites
import ZygoVerif.Model.LegacyGenSites
import ZygoVerif.Proofs.FrontSites
import ZygoVerif.Proofs.C01VM
import ZygoVerif.Generated.PanicSites
import ZygoVerif.Generated.StackSites
import ZygoVerif.Generated.GenDispatch
import ZygoVerif.Generated.CachedFields
import ZygoVerif.Props.C04Err
namespace ZygoVerif.C01
open ZygoVerif.Parser ZygoVerif.Lexer ZygoVerif.GenSites ZygoVerif.FrontSites

/-! ## §1 Inventory -/

/-- How a function of the unrecovered region is covered. `sites`: its panic-capable
operations are explicit in a Lean model and the guards are proved below (§2–§5).
`behaviour`: it is followed arm by arm by an executable Lean model (Model/Lexer, Parser, Pratt,
Gen, VM) whose results are compared with the real code on every run (channels lex, parse,
expand, eval, crash), but its index/assertion sites are not explicit in the model.
`residual`: unmodelled; explored by the crash search only (reported in the evidence with its
site counts). -/
inductive Cover where | sites | behaviour | residual
deriving DecidableEq, Repr

/-- The committed classification, sorted by name (the order of the generated table: bytewise,
as Go's sort.Strings). Entries for functions that are not in the table any more are harmless. -/
def Classified : List (String × Cover) :=
  [
    ("AssignInstr.Execute", .behaviour), ("BindlistInstr.Execute", .residual), ("Blake2bUint64", .residual),
    ("ByteSliceToChunkedBase64StringNotJoined", .residual), ("Closing.TopScope", .behaviour), ("CountPostHook", .residual),
    ("CountPreHook", .residual), ("DebugInstr.Execute", .residual), ("DecodeChar", .sites),
    ("EvalFunction", .residual), ("Generator.GenerateAssert", .sites), ("Generator.GenerateAssignment", .sites),
    ("Generator.GenerateBegin", .sites), ("Generator.GenerateBreak", .sites), ("Generator.GenerateBuilder", .residual),
    ("Generator.GenerateCallBySymbol", .sites), ("Generator.GenerateCond", .sites), ("Generator.GenerateContinue", .sites),
    ("Generator.GenerateDef", .sites), ("Generator.GenerateDefmac", .sites), ("Generator.GenerateDefn", .sites),
    ("Generator.GenerateFn", .sites), ("Generator.GenerateForLoop", .sites), ("Generator.GenerateInclude", .residual),
    ("Generator.GenerateLet", .sites), ("Generator.GenerateMacexpand", .sites), ("Generator.GenerateMultiDef", .sites),
    ("Generator.GenerateNewScope", .sites), ("Generator.GeneratePackage", .sites), ("Generator.GenerateQuote", .residual),
    ("Generator.GenerateReturn", .sites), ("Generator.GenerateShortCircuit", .sites), ("Generator.GenerateSyntaxQuote", .sites),
    ("Generator.GetLHS", .residual), ("Generator.generateSyntaxQuoteHash", .residual), ("Generator.generateSyntaxQuoteList", .residual),
    ("GoStructRegistryType.register", .residual), ("HashCountKeys", .residual), ("InfixArgsToArray", .behaviour),
    ("Lexer.DecodeAtom", .sites), ("Lexer.GetNextToken", .behaviour), ("Lexer.LexNextRune", .behaviour),
    ("Lexer.PeekNextToken", .sites), ("Lexer.PromoteNextStream", .behaviour), ("Lexer.Reset", .behaviour),
    ("Lexer.twoback", .behaviour), ("ListToArray", .behaviour), ("MakeHash", .residual),
    ("MakeList", .behaviour), ("NewClosing", .behaviour), ("NewPratt", .behaviour),
    ("NewPrompter", .residual), ("Parser.ParseBacktickString", .behaviour), ("Parser.ParseBlockComment", .behaviour),
    ("Parser.ParseExpression", .sites), ("Pratt.Advance", .behaviour), ("Pratt.Expression", .behaviour),
    ("Pratt.LabeledFor", .behaviour), ("PrintState.SetSeen", .residual), ("Prompter.Getline", .residual),
    ("Prompter.getExpressionWithLiner", .residual), ("RecordDefn.SexpString", .residual), ("RegisteredType.Init", .residual),
    ("Repl", .residual), ("Scope.Show", .residual), ("Scope.UpdateSymbolInScope", .residual),
    ("SetHashKeyOrder", .residual), ("SexpArray.SexpString", .residual), ("SexpArray.Type", .residual),
    ("SexpArraySelector.AssignToSelection", .residual), ("SexpArraySelector.RHS", .residual), ("SexpArraySelector.sliceBounds", .residual),
    ("SexpClosureEnv.SexpString", .residual), ("SexpField.AlignString", .residual), ("SexpField.FieldWidths", .residual),
    ("SexpField.SexpString", .residual), ("SexpFunction.IsLazyFormal", .behaviour), ("SexpFunction.SetClosing", .residual),
    ("SexpFunction.SetFormalSymbols", .behaviour), ("SexpHash.HashGet", .residual), ("SexpHash.HashGetDefault", .residual),
    ("SexpHash.HashSet", .residual), ("SexpHash.SetMethodList", .residual), ("SexpHash.SexpString", .residual),
    ("SexpHash.nestedPathGetSet", .residual), ("SexpHashSelector.RHS", .residual), ("SexpInterfaceDecl.SexpString", .residual),
    ("SexpPair.SexpString", .residual), ("SexpSymbol.AssignToSelection", .residual), ("Stack.BindSymbol", .sites),
    ("Stack.Clone", .behaviour), ("Stack.Get", .sites), ("Stack.GetExpr", .sites),
    ("Stack.GetExpressions", .sites), ("Stack.GetTop", .sites), ("Stack.Pop", .sites),
    ("Stack.PopAddr", .sites), ("Stack.PopExpr", .sites), ("Stack.PrintStack", .residual),
    ("Stack.Push", .sites), ("Stack.Show", .residual), ("Stack.TruncateToSize", .sites),
    ("Stack.lookupSymbol", .behaviour), ("Stack.nestedPathGetSet", .residual), ("StringToRunes", .behaviour),
    ("Zlisp.CallFunction", .sites), ("Zlisp.DetectSigils", .residual), ("Zlisp.Duplicate", .residual),
    ("Zlisp.EliminateColonAndCommaFromArgs", .residual), ("Zlisp.FilterArray", .residual), ("Zlisp.FindLoop", .behaviour),
    ("Zlisp.FunctionCallNameTypeCheck", .residual), ("Zlisp.GetStackTrace", .residual), ("Zlisp.MakeSymbol", .residual),
    ("Zlisp.PrepareCallExprArgs", .behaviour), ("Zlisp.Run", .sites), ("Zlisp.compareArray", .residual),
    ("Zlisp.showStackHelper", .residual), ("arrayOpMunchLeft", .behaviour), ("baseConstruct", .residual),
    ("bindsName", .residual), ("buildSexpFun", .sites), ("decodeGoToSexpHelper", .residual),
    ("dotGetSetHelper", .residual), ("dotOpMunchLeft", .behaviour), ("errIfPrivate", .residual),
    ("fillJsonMap", .residual), ("forOpMunchRightWithLabel", .behaviour), ("getQuotedSymbol", .residual),
    ("lazyCallPositions", .residual), ("lowerGoFor", .behaviour), ("lowerRangeBinding", .behaviour),
    ("lowerRangeFor", .behaviour), ("makeSortedSlicesFromMap", .residual), ("normalizeArraySelector", .behaviour),
    ("panicOn", .residual), ("parseRangeTargets", .behaviour), ("processDumpCommand", .residual),
    ("reflectName", .residual), ("sliceBoundLiteralBeforeColon", .behaviour), ("splitOnSemicolons", .behaviour),
    ("stripAnyDotPrefix", .residual) ]

/-- `names` occurs in `table` as a subsequence (both sorted the same way): every name is
classified. Linear in the two lengths — string comparison is slow in the kernel. -/
def subseq : List String → List String → Bool
  | [], _ => true
  | _ :: _, [] => false
  | n :: ns, t :: ts => if n == t then subseq ns ts else subseq (n :: ns) ts

theorem subseq_sound : ∀ (names table : List String), subseq names table = true → ∀ n ∈ names, n ∈ table
  | [], _, _, n, hn => by cases hn
  | _ :: _, [], h, _, _ => by simp [subseq] at h
  | m :: ns, t :: ts, h, n, hn => by
    unfold subseq at h
    split at h
    · rename_i heq
      have heq' : m = t := by simpa using heq
      cases hn with
      | head => rw [heq']; exact List.mem_cons_self
      | tail _ hn' => exact List.mem_cons_of_mem _ (subseq_sound ns ts h n hn')
    · exact List.mem_cons_of_mem _ (subseq_sound (m :: ns) ts h n hn)

theorem inventory_classified_walk :
    subseq Generated.PanicSites.unrecoveredNames (Classified.map (·.1)) = true := by decide +kernel

/-- Every function of the current source tree that is reachable from a script-facing entry
point without crossing a `recover()` and holds a potentially panicking operation is
classified. (The quantifier is the regenerated table: a proof, not a sample.) -/
theorem inventory_classified :
    ∀ f ∈ Generated.PanicSites.unrecoveredNames, ∃ c, (f, c) ∈ Classified := by
  intro f hf
  have := subseq_sound _ _ inventory_classified_walk f hf
  obtain ⟨⟨n, c⟩, hmem, hn⟩ := List.mem_map.mp this
  exact ⟨c, by simpa [← hn] using hmem⟩

/-- the builtin call path is behind a recover: `CallUserFunction` installs one, and so does
`Apply` for a directly applied Go function (fix C01-06) -/
theorem recover_installed :
    Generated.PanicSites.recoverFunctions.contains "Zlisp.CallUserFunction" = true ∧
    Generated.PanicSites.recoverFunctions.contains "Zlisp.Apply" = true := by decide +kernel

/-- Stack typing (what the typed pops of §5 rely on), over the codes of the generated table:
`datastack` is only pushed through `PushExpr`/`PushExpressions` and `addrstack` through
`PushAddr`; a direct `Push` on `loopstack` pushes a `*Loop`, on `linearstack` a `*Scope` (or
copies an element of another scope stack); inside the wrappers `Push` wraps in
`DataStackElem` / `Address` / pushes a `*Scope`; a bare `StackElem` is pushed only by the
stack copies. -/
def pushOk (s : Generated.StackSites.PushSite) : Bool :=
  if s.recvC == 0 then s.viaC == 1 || s.viaC == 2
  else if s.recvC == 1 then s.viaC == 3
  else if s.recvC == 2 then s.viaC == 0 && s.elemC == 2
  else if s.recvC == 3 then (s.viaC == 0 && (s.elemC == 1 || (s.elemC == 5 && s.fnC == 4))) || s.viaC == 4
  else if s.viaC == 0 then
    (s.fnC == 1 && s.elemC == 3) || (s.fnC == 2 && s.elemC == 4) || (s.fnC == 3 && s.elemC == 1) ||
    (s.fnC == 4 && s.elemC == 5)
  else false

theorem stack_pushes_typed : Generated.StackSites.pushSites.all pushOk = true := by decide +kernel

/-! ### §1b Cached fields of values

`SexpArray.Typ` caches the slice type derived from the first element and nothing invalidates
it: after `aset` / `{a[0] = x}` / `concat` the cache can describe an element that is no longer
there, and copies (rest, slice, append) carry it along. Code that reads the cached type and
then assumes something about the elements (typed, non-nil) panics after such a write — at VM
level (`Stack.BindSymbol`), outside any recover (seeded change C01-m3; the value-history
stream of the `crash` channel is what finds it). The regenerated table lists the cache
fields and the functions after which a cache can be stale; both lists are pinned, so a new
cache field or a new stale-capable writer is a proof break until it has been looked at. -/

def KnownCachedFields : List String := ["SexpArray.Typ"]

def KnownStaleWriters : List String :=
  ["SexpArray.Typ stale after ArrayAccessFunction", "SexpArray.Typ stale after ConcatArray",
   "SexpArray.Typ stale after FuncBuilder", "SexpArray.Typ stale after SexpArraySelector.AssignToSelection",
   "SexpArray.Typ stale after SexpHash.SetMethodList"]

theorem cached_fields_known :
    subseq Generated.CachedFields.cachedFields KnownCachedFields = true ∧
    subseq Generated.CachedFields.staleCapable KnownStaleWriters = true := by decide +kernel

/-! ## §2 Parser: the `{` look-ahead -/

/-- `ParserPeekNextToken(extra)` answers a token only when the queue holds more than
`extra` tokens: the guard of every `lexer.tokens[extra]` of `ParseExpression`.
(`peekWaitRun false` = `ParserPeekNextToken`; with `true` it is `peekAfterSign`, which may
answer `EndTk` on an empty queue and whose answer is never used as an index.) -/
theorem peek_guards_index (extra : Nat) : ∀ (fuel : Nat) (s s' : PState) (t : Token),
    peekWaitRun false extra fuel s = .tok t s' → extra < s'.lex.tokens.length := by
  intro fuel
  induction fuel with
  | zero => intro s s' t h; simp [peekWaitRun] at h
  | succ n ih =>
    intro s s' t h
    unfold peekWaitRun at h
    split at h
    · split at h
      · simp at h
      · exact ih _ _ _ h
    · split at h
      · rename_i t0 heq
        injection h with h1 h2
        subst h2
        split at heq
        · assumption
        · simp at heq
      · split at h
        · split at h
          · exact ih _ _ _ h
          · simp at h
        · split at h
          · simp at h
          · exact ih _ _ _ h

/-- The look-ahead never indexes the token queue out of range: the out-of-range arm of
`peekAt` (`lexer.tokens[i]` after `ParserPeekNextToken(i)`) is dead — for every parser state,
every look-ahead distance, every continuation and whatever input is still to come. -/
theorem lookahead_index_in_range {α : Type} (i : Nat) (k : Token → Prog α) (s : PState) :
    Parser.run (.peekAt i k) s =
      (match peekWaitRun false i (s.size + 1) s with
       | .tok _ s' => Parser.run (k (s'.lex.tokens.getD i Token.zero)) s'
       | .stop st s' => (.stop st, s')) := by
  cases hp : peekWaitRun false i (s.size + 1) s with
  | tok t s1 =>
    have hlt := peek_guards_index i _ _ _ _ hp
    rw [Parser.run, hp]
    simp only [List.getElem?_eq_getElem hlt, List.getD_eq_getElem?_getD, Option.getD_some]
  | stop st s1 =>
    rw [Parser.run, hp]

example : ∃ s : PState, ∃ t s', peekWaitRun false 1 10 s = .tok t s' :=
  ⟨{ lex := { (LexState.init) with tokens := [⟨.symbol, ['a']⟩, ⟨.colonOperator, [':']⟩], stream := some [] } },
   _, _, rfl⟩

/-! ## §3 Lexer: dumpBuffer / DecodeAtom / DecodeChar -/

theorem decodeAtomSites_np (a : List Char) (hne : a ≠ []) : NoPanic (FrontSites.decodeAtomSites a) := by
  unfold FrontSites.decodeAtomSites
  have hpos : 0 < a.length := List.length_pos_iff.mpr hne
  refine np_bind (idx_np _ _ (by omega) (by omega)) (fun last _ => ?_)
  refine np_bind ?_ (fun atom hatom => ?_)
  · exact np_ite (sliceTo_np _ _ (by omega) (by omega)) (np_pure _)
  refine np_ite (np_pure _) ?_
  split
  · rename_i hx
    have h2 : 2 ≤ atom.length := by
      simp only [Bool.or_eq_true] at hx
      rcases hx with (hx | hx) | hx
      · exact hexRe_len _ hx
      · exact octRe_len _ hx
      · exact binaryRe_len _ hx
    exact np_bind (sliceFrom_np _ _ (by omega) (by omega)) (fun _ _ => np_pure _)
  · refine np_ite (np_pure _) ?_
    refine np_ite ?_ ?_
    · split
      · rename_i hcolon
        have hlen : (atom.length : Int) = (a.length : Int) - 1 := by
          rw [if_pos hcolon] at hatom
          exact (sliceTo_ok hatom).1
        exact np_bind (sliceTo_np _ _ (by omega) (by omega)) (fun _ _ => np_pure _)
      · exact np_pure _
    · split
      · rename_i hc
        exact decodeCharSites_np atom hc
      · exact np_ite (np_pure _) np_err

theorem dumpBufferSites_np (buffer : List Char) : NoPanic (FrontSites.dumpBufferSites buffer) := by
  unfold FrontSites.dumpBufferSites
  split
  · exact np_pure _
  · rename_i h
    have : buffer ≠ [] := by
      intro hb; subst hb; simp at h
    exact decodeAtomSites_np buffer this

def isOk {α} : P α → Bool | .ok _ => true | _ => false
def isErr {α} : P α → Bool | .error .err => true | _ => false
def isPanic {α} : P α → Bool | .error .panic => true | _ => false
example : isErr (FrontSites.dumpBufferSites "0x".toList) = true := by decide +kernel
example : isOk (FrontSites.dumpBufferSites "'\\n'".toList) = true := by decide +kernel

/-! ## §4 Generator prologues -/

/-- Every modelled special-form prologue, for every argument list: a value or an error,
never an out-of-range index — provided the recursive `Generate` calls do not panic
themselves (the induction hypothesis of the compositional argument). -/
theorem gen_prologues_no_panic (sub : Arg → P Unit) (hs : ∀ a, NoPanic (sub a))
    (nameOk : String → Bool) (head : String) (args : List Arg) :
    NoPanic (genForm sub nameOk head args) := by
  unfold genForm
  refine np_ite (genShortCircuit_np hs args) ?_
  refine np_ite (genCond_np hs args) ?_
  refine np_ite (genDef_np hs nameOk args) ?_
  refine np_ite (genMultiDef_np hs args) ?_
  refine np_ite (genFn_np hs args) ?_
  refine np_ite (genDefn_np hs nameOk args) ?_
  refine np_ite (genBegin_np hs args) ?_
  refine np_ite (genLet_np hs args) ?_
  refine np_ite (genAssert_np hs args) ?_
  refine np_ite (genMacexpand_np args) ?_
  refine np_ite (np_bind (genSyntaxQuote_np args) (fun _ _ => np_pure _)) ?_
  refine np_ite (genFor_np hs args) ?_
  refine np_ite (genBreak_np args) ?_
  refine np_ite (genBegin_np hs args) ?_
  refine np_ite (genPackage_np hs args) ?_
  exact np_ite (genReturn_np hs args) (np_pure _)

example : ∀ a : Arg, NoPanic ((fun _ => pure ()) a : P Unit) := fun _ => np_pure _
example : isErr (genForm (fun _ => pure ()) (fun _ => true) "cond" []) = true := by decide
example : isOk (genForm (fun _ => pure ()) (fun _ => true) "and" []) = true := by decide
example : isOk (genForm (fun _ => pure ()) (fun _ => true) "for" [.arr [.other, .other, .other]]) = true := by decide

/-- `Generator.Generate`, the pair case: a dotted pair in code position is data; the
panic-capable `GenerateAssignment` (`ListToArray` + `panicOn`) is reached by proper lists only
— for every pair shape. -/
theorem generate_pair_dispatch_no_panic (sub : Arg → P Unit) (hs : ∀ a, NoPanic (sub a)) (p : PairShape) :
    NoPanic (genPair sub p) := by
  unfold genPair
  split
  · rename_i hp
    split
    · split
      · exact genAssignment_np hs p _ hp
      · exact hs _
    · exact hs _
  · exact np_pure _

example : isOk (genPair (fun _ => pure ()) ⟨false, some 1, true, 3⟩) = true := by decide

/-- The guard order matters: testing for an assignment before testing for a proper list
sends `(a = 1 \ 2)` into the `panicOn`. -/
theorem assign_before_list_counterexample :
    isPanic (Legacy.genPairAssignFirst (fun _ => pure ()) ⟨false, some 1, true, 3⟩) = true := by decide

/-- … and in the current source the call of `GenerateAssignment` in the `*SexpPair` case of
`Generate` IS dominated by the `IsList(e)` test (T1: regenerated from generator.go on every
run; lexical domination through if-bodies, else branches and early returns). -/
def guardedByIsList (c : String × List String) : Bool :=
  c.1 != "GenerateAssignment" || c.2.contains "IsList(e)" || c.2.contains "!(!IsList(e))"

theorem pair_dispatch_guarded :
    Generated.GenDispatch.pairCase.all guardedByIsList = true ∧
    (Generated.GenDispatch.pairCase.any fun c => c.1 == "GenerateAssignment") = true := by decide +kernel

/-- Before fix cc83369 `(and)` / `(or)` indexed `args[-1]`. -/
theorem legacy_and_counterexample (sub : Arg → P Unit) :
    Legacy.genShortCircuit sub [] = .error .panic := rfl

/-- Before fix C01-04 a list target of `mdef` that is not `(quote sym)` left a nil symbol
behind, which `BindlistInstr` dereferenced: `(mdef (hash) (list 1 2))`. -/
theorem legacy_mdef_counterexample :
    isPanic (Legacy.genMultiDefAndRun (fun _ => pure ()) [.pair false, .pair false]) = true := by decide

/-- … and the repaired prologue refuses it. -/
theorem mdef_refuses_list_target :
    isErr (genMultiDef (fun _ => pure ()) [.pair false, .pair false]) = true := by decide

/-! ## §5 VM -/

open ZygoVerif.VM in
/-- The full statement for the VM model: from a state whose stacks hold no nil cell, running
any loaded program with any fuel leaves the stacks free of nil cells, and the run can end in a
host panic only with an empty scope stack (the `panic("empty stack!!")` of `Stack.BindSymbol`). -/
def C01NoPanic : Prop :=
  ∀ (fuel : Nat) (s : St), VMSafe.Good s →
    VMSafe.Good ((VM.run fuel).run s).2 ∧
    (((VM.run fuel).run s).1 = .error .panic → ((VM.run fuel).run s).2.linear = [])

open ZygoVerif.VM in
/-- Proved part. The typed pops of the VM (`PopExpr`, `PopExpressions`, the argument check
of `CallFunction`, `wrangleOptargs`, scope pops, stack-mark pops) and the binding of a symbol
neither panic on stacks without nil cells nor create a nil cell, and `restoreControlState`
does not either AS LONG AS the recorded sizes do not exceed the present ones (`Fits`); one
step of `Execute` for every instruction kind that does not call into the interpreter (25 of
the 27 kinds of the model: all but `CallInstr{array}` and `CallExprInstr`) is safe in the same
sense; the one remaining panic is `LexicalBindSymbol` on an EMPTY scope stack, and then the
scope stack is empty in the final state.
These are statements about one operation from a state without nil cells. For whole runs: from an
arbitrary state the full statement `C01NoPanic` is false (`c01NoPanic_asFirstStated_false` below:
when the recorded sizes exceed the present ones `TruncateToSize` PADS the stack with nil cells,
`restore_can_pad`); for texts of the model generator's grammar from served states it holds
(`c01_no_panic_served`, from the no-host-panic contract `RunInv.sSpec` of all thirteen functions
of the mutual block, where the stack balance of generated code gives `Fits` at every restore and
a scope to bind in). -/
theorem c01_no_panic_partial :
    (∀ s, VMSafe.Good s → VMSafe.SafeAt s popData) ∧
    (∀ n s, VMSafe.Good s → VMSafe.SafeAt s (popN n)) ∧
    (∀ c s, VMSafe.Good s → VMSafe.Fits c s → VMSafe.SafeAt s (restore c)) ∧
    (∀ f n s, VMSafe.Good s → VMSafe.SafeAt s (callFunction f n)) ∧
    (∀ n s, VMSafe.Good s → VMSafe.SafeAt s (popScopes n)) ∧
    (∀ l k fuel s, VMSafe.Good s → VMSafe.SafeAt s (popToMark l k fuel)) ∧
    (∀ x v s, VMSafe.Good s → VMSafe.SafeAt s (bindTop x v)) ∧
    (∀ fuel i s, VMSafe.isCall i = false → VMSafe.Good s → VMSafe.SafeAt s (exec (fuel + 1) i)) :=
  ⟨VMSafe.popData_safe, VMSafe.popN_safe, VMSafe.restore_safe, VMSafe.callFunction_safe,
   VMSafe.popScopes_safe, VMSafe.popToMark_safe, VMSafe.bindTop_safe,
   fun fuel i s hi hg => VMSafe.exec_step_safe fuel i hi s hg⟩

example : VMSafe.Good VM.initSt := VMSafe.good_init
example : VMSafe.isCall (.branch true 2) = false := rfl
example : VMSafe.Fits ⟨0, 0, 0, 0, 1, 0⟩ VM.initSt := by
  refine ⟨Nat.zero_le _, Nat.zero_le _, ?_⟩
  simp [VM.initSt]

open ZygoVerif.VM in
/-- The latent path: `restoreControlState` with a recorded size above the present one grows
the data stack with a nil cell, and the typed pop of `Run` that follows is a host panic. -/
theorem restore_can_pad :
    ((do restore ⟨0, 0, 0, 0, 1, 1⟩; popData : M Core.Val).run { VM.initSt with data := [] }).1
      = .error .panic := rfl

/-! ## §5b No host panic for generated code (C04's contracts) -/

open ZygoVerif.VM ZygoVerif.Core in
/-- Every text of the grammar `Bal.okLs` (all core forms, loops,
break/continue, functions, closures, tail calls, lazy parameters, apply/map/force), handed to an
interpreter in any state reached from the fresh one by value-returning and erroring texts of
that grammar (`C04.ServedStateE`), with any fuel: whatever outcome the VM model reports, its
class is not `panic` — the evaluation returns a value, an error, or runs out of fuel. From C04's
`no_host_panic` (Proofs/RunSafe.lean: no function of the VM's mutual block ends in a host panic
from a state without nil cells; nil cells only come from `restoreControlState` growing a stack,
every restore on a normal return is exact, and after an error nothing runs any more). -/
theorem c01_no_panic_served (fuel : Nat) (es : List Expr) (s s' : St) (cls v : String) (tr : List String) (d : String)
    (alive : Bool) (hs : C04.ServedStateE s) (hok : Bal.okLs es = true)
    (h : runText fuel es s = (Outcome.done cls v tr d, s', alive)) : cls ≠ "panic" := by
  intro hc
  subst hc
  exact C04.no_host_panic fuel es s s' v tr d alive (C04.servedStateE_served hs) hok h

open ZygoVerif.VM ZygoVerif.Core in
/-- a function `[pop, dup]` entered with one operand on the data stack -/
def padState : St :=
  { fns := [{ name := "f", code := [.pop, .dup] }], scopes := [{}], data := [some .nil], linear := [some 0],
    curfunc := 0, pc := 0 }

/-- **FINDING: `C01NoPanic` as first stated is false.** It asks `Good` (no nil cell) after EVERY
`run` from EVERY `Good` state. `Run` records the stack sizes at its entry; a run entered with
operands on the data stack — `Apply`/`map` push the arguments and then call `Run` — that fails
after it has consumed them is restored to the recorded size by `TruncateToSize`, which PADS the
data stack with nil cells. Here: `[pop, dup]` entered with one operand; `pop` takes it, `dup`
fails on the empty stack, the restore pads back to size 1 with a nil cell. This is what the Go
code does too; it is harmless there because the caller of such a `Run` (`Apply`) restores to
ITS recorded sizes — taken before the arguments were pushed — which truncates the padding away
before anything can pop it (`C04.err_contract`: every evaluator's restore after a failed nested
`Run` is exact on scope and set-aside stacks; sizes on the data stack). The true statement is
about the outermost `Run` of a text: `c01_no_panic_served`, and `C04.err_leaves_served` (after
an erroring text the stacks are exactly those of entry, no nil cell). -/
theorem c01NoPanic_asFirstStated_false : ¬ C01NoPanic := by
  intro h
  have hg : VMSafe.Good padState := by
    refine ⟨?_, ?_, ?_, ?_, ?_⟩
    · intro x hx; simp [padState] at hx; simp [hx]
    · intro x hx; simp [padState] at hx; simp [hx]
    · intro x hx; simp [padState] at hx
    · intro l hl; simp [padState] at hl
    · intro z hz; simp [padState] at hz
  have hd : ((VM.run 5).run padState).2.data = [none] := by decide +kernel
  exact (h 5 padState hg).1.data none (by rw [hd]; exact List.mem_cons_self) rfl

/-- non-vacuity of `c01_no_panic_served`: the fresh interpreter is such a state, and so is the
state after the empty text -/
example : C04.ServedStateE VM.initSt := C04.ServedStateE.init

end ZygoVerif.C01
