/-
C14 — hashes are insertion-ordered maps under every operation history.

Model: `Model/Hash.lean` (Go map of buckets + KeyOrder + NumKeys, arm by arm after
fixes/C14-01, C14-02), generic in the key type `K`, the hash-code function `o.code` and the
key equality `o.keq` (= `Compare == 0` without error). Spec: `Spec/OrderedMap.lean`, an
association list in first-insertion order. Everything below holds for EVERY history, every
key type, every `code` with `keq a b → code a = code b` (collisions arbitrary) and every
`keq` that is an equivalence (`KeyLaws`, in Proofs/HashBasic.lean).
-/
import ZygoVerif.Model.Hash
import ZygoVerif.Model.HashKey
import ZygoVerif.Model.LegacyHash
import ZygoVerif.Model.RangeBind
import ZygoVerif.Model.LegacyRangeBind
import ZygoVerif.Spec.OrderedMap
import ZygoVerif.Proofs.HashText
namespace ZygoVerif.Hash
variable {K V : Type} {o : KeyOps K}

/-! ### the hypotheses are satisfiable: the channel's concrete keys -/

/-- What `keq` compares: symbols by number, strings by text, ints and chars by value (as one
kind: `'x'` and `120` are one key). -/
def Key.ident : Key → Nat × String × Int
  | .sym _ n => (0, "", n) | .str s => (1, s, 0) | .int v => (2, "", v) | .chr v => (2, "", v)

theorem Key.keq_iff (a b : Key) : a.keq b = true ↔ a.ident = b.ident := by
  cases a <;> cases b <;> simp [Key.keq, Key.ident]

/-- symbols, strings, ints and chars under `Compare == 0` (int and char compare numerically
with each other: `'x'` and `120` are one key) with the codes of `hashHelper`: `keq` is equality
of `Key.ident`, and the code is a function of it. -/
theorem concrete_laws : KeyLaws keyOps where
  refl a := (Key.keq_iff a a).2 rfl
  symm a b h := (Key.keq_iff b a).2 ((Key.keq_iff a b).1 h).symm
  trans a b c h1 h2 := (Key.keq_iff a c).2 (((Key.keq_iff a b).1 h1).trans ((Key.keq_iff b c).1 h2))
  code_congr a b h := by
    have := (Key.keq_iff a b).1 h
    cases a <;> cases b <;> simp_all [keyOps, Key.ident, Key.code]

example : ∃ o : KeyOps Key, KeyLaws o := ⟨keyOps, concrete_laws⟩

/-- `'x'` and `120` are one key; a symbol and the integer equal to its number are two keys in
one bucket. -/
theorem concrete_aliases :
    keyOps.keq (.chr 120) (.int 120) = true ∧
    keyOps.keq (.sym "zk0" 268) (.int 268) = false ∧ keyOps.code (.sym "zk0" 268) = keyOps.code (.int 268) := by
  decide +kernel

/-- a fresh `(hash)` satisfies the invariant -/
theorem inv_init : Inv o (Hash.empty : Hash K V) where
  codesNodup := by simp [Hash.empty, mcodes]
  bucketCode := by intro c b h; simp [Hash.empty, mget] at h
  bucketPw := by intro c b h; simp [Hash.empty, mget] at h
  bucketNe := by intro c b h; simp [Hash.empty, mget] at h
  koPw := by simp [Hash.empty]
  koLive := by intro k h; simp [Hash.empty] at h
  rep := by intro k h; simp [Hash.empty, get?, mget] at h
  numKeys_eq := by simp [Hash.empty, msum]
  count := by simp [Hash.empty, msum]

/-- every builtin keeps the invariant: hset and hdel by `inv_set` / `inv_del`, the eight
observers because they do not change the state -/
theorem inv_step (L : KeyLaws o) (sh : Show K V) (h : Hash K V) (I : Inv o h) (op : Op K V) :
    Inv o (step o sh h op).1 := by
  cases op with
  | hset k v => exact inv_set L h k.norm v I
  | hdel k => exact inv_del L h k.norm I
  | _ => exact I

/-- … hence after every history -/
theorem inv_exec (L : KeyLaws o) (sh : Show K V) (ops : List (Op K V)) (h : Hash K V) (I : Inv o h) :
    Inv o (exec o sh h ops) := by
  induction ops generalizing h with
  | nil => exact I
  | cons op rest ih => exact ih _ (inv_step L sh h I op)

example : Inv keyOps (exec keyOps keyShow Hash.empty [.hset (.plain (.chr 120)) 1, .hdel (.arr1 (.int 120))]) :=
  inv_exec concrete_laws _ _ _ inv_init

/-- What the invariant means for the key list: KeyOrder mentions a key (in some spelling)
exactly when that key resolves, and mentions no key twice. -/
theorem keyOrder_exactly_live (L : KeyLaws o) (h : Hash K V) (I : Inv o h) (k : K) :
    (∃ k0 ∈ h.keyOrder, o.keq k0 k = true) ↔ (get? o h k).isSome = true := by
  constructor
  · rintro ⟨k0, h0, hq⟩
    rw [← get?_congr L h hq]; exact I.koLive k0 h0
  · exact I.rep k

theorem keyOrder_once_each (h : Hash K V) (I : Inv o h) :
    h.keyOrder.Pairwise (fun a b => o.keq a b = false) := I.koPw

/-- NumKeys = total bucket length = number of live keys: `HashCountKeys` never panics. -/
theorem counters_agree (h : Hash K V) (I : Inv o h) :
    h.numKeys = msum h.map ∧ msum h.map = (abs o h).length := by
  refine ⟨I.numKeys_eq, ?_⟩
  rw [I.count, abs_length h I]

/-- One step: same observation, and the abstraction commutes. -/
theorem step_refines (L : KeyLaws o) (sh : Show K V) (h : Hash K V) (I : Inv o h) (op : Op K V) :
    (step o sh h op).2 = (Spec.step o.keq sh (abs o h) op).2 ∧
    abs o (step o sh h op).1 = (Spec.step o.keq sh (abs o h) op).1 := by
  cases op with
  | hset k v => exact ⟨rfl, abs_set L h I k.norm v⟩
  | hdel k => exact ⟨rfl, abs_del L h I k.norm⟩
  | hget k => simp [step, Spec.step, abs_lookup L h I]; cases get? o h k.norm <;> rfl
  | hgetd k => simp [step, Spec.step, abs_lookup L h I]; cases get? o h k.norm <;> rfl
  | keys => simp [step, Spec.step, abs_keys h I]
  | len => simp [step, Spec.step, countKeys_inv h I]
  | hpair pos =>
    simp [step, Spec.step, hpair_inv h I]
    cases (abs o h)[pos]? with
    | none => rfl
    | some e => cases e; rfl
  | range => simp [step, Spec.step, range_inv h I]
  | str => simp [step, Spec.step, strRope_inv sh h I]
  | json => simp [step, Spec.step, jsonRope_inv sh h I]

theorem run_refines (L : KeyLaws o) (sh : Show K V) (ops : List (Op K V)) (h : Hash K V) (I : Inv o h) :
    run o sh h ops = Spec.run o.keq sh (abs o h) ops := by
  induction ops generalizing h with
  | nil => rfl
  | cons op rest ih =>
    have hs := step_refines L sh h I op
    simp only [run, Spec.run]
    rw [hs.1, ih _ (inv_step L sh h I op), hs.2]

/-- **Refinement.** For every history, what the bucket/KeyOrder/NumKeys implementation lets a
script observe — the result of every hset, hdel, hget, 3-argument hget, keys, len, hpair,
two-variable range, str and json, step by step — is what the ordered association list answers. -/
theorem refines (L : KeyLaws o) (sh : Show K V) (ops : List (Op K V)) :
    run o sh Hash.empty ops = Spec.run o.keq sh [] ops :=
  run_refines L sh ops Hash.empty inv_init

/-- … and the state reached stands for the association list reached. -/
theorem refines_state (L : KeyLaws o) (sh : Show K V) (ops : List (Op K V)) (h : Hash K V) (I : Inv o h) :
    abs o (exec o sh h ops) = Spec.exec o.keq sh (abs o h) ops := by
  induction ops generalizing h with
  | nil => rfl
  | cons op rest ih =>
    simp only [exec, Spec.exec]
    rw [ih _ (inv_step L sh h I op), (step_refines L sh h I op).2]

example : run keyOps keyShow Hash.empty [.hset (.plain (.chr 120)) 1, .hset (.arr1 (.int 120)) 2, .keys] =
    [.ok, .ok, .keys [.chr 120]] := by decide +kernel

/-- Deleting a key that is not in the hash (whether or not its bucket exists), and any lookup,
leave the whole state — map, KeyOrder, NumKeys — exactly as it was; so every later
observation of every other key is unchanged. No invariant is needed. -/
theorem missing_key_noop (sh : Show K V) (h : Hash K V) (k : RKey K) (hn : get? o h k.norm = none) :
    (step o sh h (.hdel k)).1 = h ∧ (step o sh h (.hget k)).1 = h ∧ (step o sh h (.hgetd k)).1 = h ∧
    (step o sh h (.hget k)).2 = .err ∧ (step o sh h (.hgetd k)).2 = .dflt := by
  refine ⟨del_missing h k.norm hn, rfl, rfl, ?_, ?_⟩ <;> simp [step, hn]

/-- the same on the specification side: a missing key's delete is the identity -/
theorem spec_missing_key_noop (keq : K → K → Bool) (m : Spec.OMap K V) (k : K)
    (hn : Spec.lookup keq m k = none) : Spec.del keq m k = m := by
  unfold Spec.del
  rw [List.filter_eq_self]
  intro e he
  unfold Spec.lookup at hn
  simp only [Option.map_eq_none_iff, List.find?_eq_none] at hn
  simpa using hn e he

namespace LegacyWitness
/-- keys are numbers, equal when equal, ALL in one bucket (code 0): the worst collision pattern -/
def oc : KeyOps Nat := ⟨fun _ => 0, fun a b => a == b⟩
/-- … and each in a bucket of its own -/
def od : KeyOps Nat := ⟨fun k => k, fun a b => a == b⟩
def sh : Show Nat Nat := ⟨toString, toString, toString, toString⟩
def carr : Nat → Int := fun k => 1000 + k
abbrev O := Op Nat Nat
end LegacyWitness
open LegacyWitness

example : KeyLaws oc where
  refl a := by simp [oc]
  symm a b h := by simp [oc] at *; omega
  trans a b c h1 h2 := by simp [oc] at *; omega
  code_congr a b _ := rfl

/-- `(hset h 1 7) (hdel h 1) (keys h)`: the deleted key was still listed -/
theorem legacy_stale_key_counterexample :
    Legacy.Hash.run od sh carr Hash.empty ([.hset (.plain 1) 7, .hdel (.plain 1), .keys] : List O)
      ≠ Spec.run od.keq sh [] [.hset (.plain 1) 7, .hdel (.plain 1), .keys] := by decide +kernel

/-- delete then re-insert: the key was listed twice, and `len` panicked -/
theorem legacy_reinsert_counterexample :
    Legacy.Hash.run od sh carr Hash.empty
      ([.hset (.plain 1) 7, .hset (.plain 2) 8, .hdel (.plain 1), .hdel (.plain 1), .hset (.plain 1) 9, .keys, .len] : List O)
      = [.ok, .ok, .ok, .ok, .ok, .keys [1, 2, 1], .panic] := by decide +kernel

/-- deleting a MISSING key that shares a bucket with a live one broke the counter: `len` panicked -/
theorem legacy_missing_key_counterexample :
    Legacy.Hash.run oc sh carr Hash.empty ([.hset (.plain 1) 7, .hdel (.plain 2), .len] : List O)
      ≠ Spec.run oc.keq sh [] [.hset (.plain 1) 7, .hdel (.plain 2), .len] := by decide +kernel

/-- hpair after a delete answered two positions with the same pair -/
theorem legacy_hpair_counterexample :
    Legacy.Hash.run od sh carr Hash.empty
      ([.hset (.plain 1) 7, .hset (.plain 2) 8, .hdel (.plain 1), .hpair 0, .hpair 1] : List O)
      = [.ok, .ok, .ok, .pair 2 8, .pair 2 8] := by decide +kernel

/-- `(hset h [1] 7) (hdel h [1]) (hget h 1)` still found the key; `(hget h [1] d)` never did -/
theorem legacy_array_key_counterexample :
    Legacy.Hash.run od sh carr Hash.empty
      ([.hset (.arr1 1) 7, .hgetd (.arr1 1), .hdel (.arr1 1), .hget (.plain 1)] : List O)
      = [.ok, .dflt, .ok, .val 7] ∧
    Spec.run od.keq sh [] ([.hset (.arr1 1) 7, .hgetd (.arr1 1), .hdel (.arr1 1), .hget (.plain 1)] : List O)
      = [.ok, .val 7, .ok, .err] := by decide +kernel

/-- the repaired model on the same histories agrees with the specification (instances of `refines`) -/
example : run od sh Hash.empty
      ([.hset (.plain 1) 7, .hset (.plain 2) 8, .hdel (.plain 1), .hdel (.plain 1), .hset (.plain 1) 9, .keys, .len] : List O)
      = [.ok, .ok, .ok, .ok, .ok, .keys [2, 1], .num 2] := by decide +kernel

/-! ### the defining range loop `for k, v := range h` (Model/RangeBind; repo fix C14-03)

Not an operation of the hash: the loop reads the hash through `__rangeLen`/`__rangePair` (the
`range` observation above, which `refines` covers) and binds `k`, `v` with one `mdef` per
iteration in the loop's scope. -/

/-- **Full statement** for the defining form (FALSE, recorded finding `… ranged`; see
`defining_range_known_counterexample`): the body sees every pair. -/
def DefiningRangePresentsAll : Prop :=
  ∀ ps : List (Key × Int), definingRange ps = some ps

def sameKind (c : Key) (ps : List (Key × Int)) : Prop := ∀ e ∈ ps, e.1.kind = c.kind

theorem definingRangeFrom_same (c : Key) (ps : List (Key × Int)) (h : sameKind c ps) :
    definingRangeFrom c ps = some ps := by
  induction ps generalizing c with
  | nil => rfl
  | cons e rest ih =>
    obtain ⟨k, v⟩ := e
    have hk : k.kind = c.kind := h (k, v) (by simp)
    have hr : sameKind k rest := fun e he => (h e (by simp [he])).trans hk.symm
    simp [definingRangeFrom, hk, ih k hr]

/-- **`defining_range_partial`** — the proved part: when the keys the loop meets all have one
type (the values are integers on this channel), the defining form presents exactly the pairs
of `range` — by `refines` the live keys once each, in first-insertion order, with their latest
values. Missing from the full statement: hashes whose keys have different types. -/
theorem defining_range_partial (k : Key) (v : Int) (rest : List (Key × Int)) (h : sameKind k rest) :
    definingRange ((k, v) :: rest) = some ((k, v) :: rest) := by
  simp [definingRange, definingRangeFrom_same k rest h]

example : sameKind (.int 5) [(.int 6, 2), (.int 7, 3)] := by
  intro e he; simp at he; rcases he with rfl | rfl <;> rfl

/-- … and when it does not present them it SAYS so (fix C14-03): the answer is the whole list or
an error, never a list that differs from what the hash holds. -/
theorem defining_range_never_wrong (ps l : List (Key × Int)) (h : definingRange ps = some l) : l = ps := by
  have from_ : ∀ (c : Key) (ps l : List (Key × Int)), definingRangeFrom c ps = some l → l = ps := by
    intro c ps
    induction ps generalizing c with
    | nil => intro l h; simpa [definingRangeFrom] using h.symm
    | cons e rest ih =>
      intro l h
      obtain ⟨k, v⟩ := e
      unfold definingRangeFrom at h
      split at h
      · cases hr : definingRangeFrom k rest with
        | none => simp [hr] at h
        | some l' => simp [hr] at h; rw [← h, ih k l' hr]
      · cases h
  cases ps with
  | nil => simpa [definingRange] using h.symm
  | cons e rest =>
    obtain ⟨k, v⟩ := e
    cases hr : definingRangeFrom k rest with
    | none => simp [definingRange, hr] at h
    | some l' => simp [definingRange, hr] at h; rw [← h, from_ k rest l' hr]

example : definingRange [(.int 5, 1), (.int 6, 2)] = some [(.int 5, 1), (.int 6, 2)] := by decide +kernel

/-- the recorded finding on the CURRENT model: over `(hash 5 1 "ab" 2)` the defining loop stops
with an error at the second key (a name bound to an int64 cannot be re-bound to a string in the
same scope); the full statement fails. -/
theorem defining_range_known_counterexample :
    definingRange [(.int 5, 1), (.str "ab", 2)] = none ∧ ¬ DefiningRangePresentsAll := by
  refine ⟨by decide, fun h => ?_⟩
  have := h [(.int 5, 1), (.str "ab", 2)]
  revert this; decide

/-- before fix C14-03 the error was swallowed and the body saw the FIRST key again, silently:
`[[5 1] [5 2]]` for `(hash 5 1 "ab" 2)`, and a later key of the first type resumed -/
theorem defining_range_counterexample :
    Legacy.Hash.definingRange [(.int 5, 1), (.str "ab", 2)] = [(.int 5, 1), (.int 5, 2)] ∧
    Legacy.Hash.definingRange [(.int 5, 1), (.str "ab", 2), (.int 7, 3)] = [(.int 5, 1), (.int 5, 2), (.int 7, 3)] := by
  decide +kernel

/-! ### the map laws a script relies on, stated on the model itself

`refines` says the implementation is the association list; these say, without the reader having
to run the list in their head, what a script may assume about ONE key across an arbitrary history
of operations on OTHER keys (collisions and aliases included). -/

/-- does this builtin write the key `k` (in any spelling that compares equal)? -/
def touches (o : KeyOps K) (k : K) : Op K V → Bool
  | .hset k' _ => o.keq k'.norm k
  | .hdel k' => o.keq k'.norm k
  | _ => false

/-- **a key nobody writes keeps its binding through every history** — whatever else is set,
deleted (same bucket or not), listed, printed or encoded meanwhile -/
theorem get_stable (L : KeyLaws o) (sh : Show K V) (k : K) (ops : List (Op K V)) (h : Hash K V) (I : Inv o h)
    (hnt : ∀ op ∈ ops, touches o k op = false) :
    get? o (exec o sh h ops) k = get? o h k := by
  induction ops generalizing h with
  | nil => rfl
  | cons op rest ih =>
    have hop : touches o k op = false := hnt op (List.mem_cons_self ..)
    have hrest : ∀ op' ∈ rest, touches o k op' = false := fun op' hm => hnt op' (List.mem_cons_of_mem _ hm)
    simp only [exec]
    rw [ih _ (inv_step L sh h I op) hrest]
    cases op with
    | hset k' v' => simp only [touches] at hop; simp [step, get?_set L, hop]
    | hdel k' => simp only [touches] at hop; simp [step, get?_del L h _ _ I.bucketPw, hop]
    | _ => rfl

/-- **the latest write wins**: after `hset k v`, any history that does not write `k` again, then
`hget k` (in any spelling `k'` of the key) answers `v` -/
theorem latest_write_wins (L : KeyLaws o) (sh : Show K V) (k : RKey K) (v : V) (k' : RKey K)
    (hq : o.keq k.norm k'.norm = true)
    (ops : List (Op K V)) (h : Hash K V) (I : Inv o h)
    (hnt : ∀ op ∈ ops, touches o k'.norm op = false) :
    (step o sh (exec o sh h (.hset k v :: ops)) (.hget k')).2 = .val v := by
  have I1 : Inv o (step o sh h (.hset k v)).1 := inv_step L sh h I _
  have := get_stable L sh k'.norm ops _ I1 hnt
  simp only [exec, step] at this ⊢
  rw [this, get?_set L, hq]; rfl

/-- … and a deleted key stays gone until somebody sets it again -/
theorem deleted_stays_gone (L : KeyLaws o) (sh : Show K V) (k k' : RKey K)
    (hq : o.keq k.norm k'.norm = true)
    (ops : List (Op K V)) (h : Hash K V) (I : Inv o h)
    (hnt : ∀ op ∈ ops, touches o k'.norm op = false) :
    (step o sh (exec o sh h (.hdel k :: ops)) (.hget k')).2 = .err := by
  have I1 : Inv o (step o sh h (.hdel k)).1 := inv_step L sh h I _
  have := get_stable L sh k'.norm ops _ I1 hnt
  simp only [exec, step] at this ⊢
  rw [this, get?_del L h _ _ I.bucketPw, hq]; rfl

/-- overwriting keeps the key's place in `keys`; a new key goes last -/
theorem overwrite_keeps_place (h : Hash K V) (k : K) (v : V) (hs : (get? o h k).isSome = true) :
    (set o h k v).keyOrder = h.keyOrder := by simp [set_keyOrder, hs]

theorem insert_goes_last (h : Hash K V) (k : K) (v : V) (hn : get? o h k = none) :
    (set o h k v).keyOrder = h.keyOrder ++ [k] := by simp [set_keyOrder, hn]

/-- delete, then set again: the key moves to the end, everything else keeps its order -/
theorem reinsert_moves_last (L : KeyLaws o) (h : Hash K V) (I : Inv o h) (k : K) (v : V)
    (hs : (get? o h k).isSome = true) :
    (set o (del o h k) k v).keyOrder = koRemove o h.keyOrder k ++ [k] := by
  rw [set_keyOrder, get?_del L h _ _ I.bucketPw, L.refl]
  simp [del_keyOrder, hs]

/-- no builtin reorders the keys that stay: `hdel` leaves a sublist, `hset` an extension -/
theorem del_keeps_relative_order (h : Hash K V) (k : K) : (del o h k).keyOrder.Sublist h.keyOrder := by
  rw [del_keyOrder]; split
  · exact koRemove_sublist _ _
  · exact List.Sublist.refl _

theorem set_keeps_relative_order (h : Hash K V) (k : K) (v : V) : h.keyOrder <+: (set o h k v).keyOrder := by
  rw [set_keyOrder]; split
  · exact List.prefix_refl _
  · exact List.prefix_append _ _

/-- the hypotheses are met by a real history with a code collision and an alias:
`x` is set, then the char `'x'`'s alias `[120]` and two other keys are written and one deleted -/
example : (step keyOps keyShow
    (exec keyOps keyShow Hash.empty
      [.hset (.plain (.sym "x" 120)) 7, .hset (.plain (.int 120)) 1, .hset (.plain (.str "x")) 2, .hdel (.arr1 (.int 120)), .keys])
    (.hget (.plain (.sym "x" 120)))).2 = .val 7 := by decide +kernel


end ZygoVerif.Hash
