/-
C06 — infix blocks mean what the precedence table says.
-/
import ZygoVerif.Model.Pratt
import ZygoVerif.Generated.InfixHandlers
import ZygoVerif.Model.LegacyPratt
import ZygoVerif.Model.PrattGrammar
import ZygoVerif.Spec.Stratified
import ZygoVerif.Spec.Spacing
import ZygoVerif.Model.InfixFront
import ZygoVerif.Proofs.InfixFrontEnd
import ZygoVerif.Proofs.PrattStratBlock
import ZygoVerif.Proofs.FuelSuffices
namespace ZygoVerif.Pratt
open ZygoVerif.Stratified

/-! Structural equality on trees (the type is a nested inductive). -/
mutual
def Sx.same : Sx → Sx → Bool
  | .sym a, .sym b | .dot a, .dot b | .lab a, .lab b | .lit a, .lit b => a == b
  | .other u a, .other v b => u == v && a == b
  | .arr xs, .arr ys | .list xs, .list ys => sameList xs ys
  | .comma, .comma | .semi, .semi | .hash, .hash | .null, .null => true
  | _, _ => false
def sameList : List Sx → List Sx → Bool
  | [], [] => true
  | x :: xs, y :: ys => x.same y && sameList xs ys
  | _, _ => false
end

def sameRes : Option (List Sx) → Option (List Sx) → Bool
  | none, none => true
  | some a, some b => sameList a b
  | _, _ => false

mutual
theorem Sx.same_refl : ∀ x : Sx, x.same x = true
  | .sym _ => by simp [Sx.same]
  | .dot _ => by simp [Sx.same]
  | .lab _ => by simp [Sx.same]
  | .lit _ => by simp [Sx.same]
  | .other _ _ => by simp [Sx.same]
  | .arr xs => by simp only [Sx.same]; exact sameList_refl xs
  | .list xs => by simp only [Sx.same]; exact sameList_refl xs
  | .comma => by simp [Sx.same]
  | .semi => by simp [Sx.same]
  | .hash => by simp [Sx.same]
  | .null => by simp [Sx.same]
theorem sameList_refl : ∀ xs : List Sx, sameList xs xs = true
  | [] => by simp [sameList]
  | x :: xs => by simp only [sameList, Bool.and_eq_true]; exact ⟨Sx.same_refl x, sameList_refl xs⟩
end

/-- the selector holds one `cond` form -/
def selIsCond : Option (Sx × List Sx) → Bool
  | some (.list [_, _, .arr [.list (.sym "cond" :: _)]], _) => true
  | _ => false

/-- `grammarOf Table.generated` is slow to evaluate, so the three facts that need it are evaluated
together: the comparison with the documented levels, and the two facts about `a[if b c]` used in
`PrattEqStratified_counterexample`. -/
theorem generated_grammar_facts :
    Grammar.same (grammarOf Table.generated) documented = true ∧
    Stratified.inScope (grammarOf Table.generated) [.sym "a", .arr [.sym "if", .sym "b", .sym "c"]] = true ∧
    selIsCond (Stratified.parse (grammarOf Table.generated) [.sym "a", .arr [.sym "if", .sym "b", .sym "c"]]) = false := by
  decide +kernel

/-- The table regenerated from InitInfixOps / LeftBindingPower induces exactly the documented
levels: same order, same partition of the operators, same associativity. Binding-power
numbers are not compared, so a renumbering that keeps the order passes. -/
theorem table_is_documented : Grammar.same (grammarOf Table.generated) documented = true :=
  generated_grammar_facts.1

/-- The constructor closures recurse with the right binding powers the model's `ledOfEntry`
/`nudOfEntry` use (`bp` for Infix and Prefix, `bp - 1` for Infixr and Assignment, no recursion
for PostfixAssign) and Assignment rewrites `=`/`:=` to `set`. -/
theorem ctor_rbp_as_modelled : Generated.InfixTable.ctorRbp =
    [("Infix", "bp", ""), ("Infixr", "bp - 1", ""), ("Prefix", "bp", ""),
     ("Assignment", "bp - 1", "set,=,:="), ("PostfixAssign", "", "")] :=
  rfl

/-- the arm fix C06-02 adds (nil, written `()`): optional, so that the theorem holds before and after the fix -/
def sentinelArm : List String × List (String × Bool) := (["SexpSentinel"], [("", true)])

/-- LeftBindingPower has the arms and guards that `lbp` models (constants are read from the
generated file, not compared here); the arm for nil of fix C06-02 may be present or not — the
model reads it from the generated file (`Table.lbpNull`). -/
theorem lbp_arms_as_modelled :
    (Generated.InfixTable.lbpArms.map (fun a => (a.types, a.returns.map (fun r => (r.1, r.2.isSome))))).filter (· != sentinelArm) =
    [(["SexpInt", "SexpFloat"], [("", true)]), (["SexpBool"], [("", true)]), (["SexpStr"], [("", true)]),
     (["SexpChar", "SexpUint64"], [("", true)]),
     (["SexpSymbol"], [("x.name == \"if\"", true), ("found", false), ("x.isDot", true), ("", true)]),
     (["SexpArray"], [("", true)]), (["SexpComma"], [("", true)]), (["SexpSemicolon"], [("", true)]),
     (["SexpComment"], [("", true)]), (["SexpPair"], [("x.Head != nil switch", true), ("", true)]),
     (["SexpHash"], [("", true)])] := by
  decide +kernel

/-- Before fix C06-01 a char literal that starts a juxtaposed statement made the expander fail
(`{a 'c'}`: LeftBindingPower had no arm for *SexpChar) … -/
theorem C06_counterexample_char_statement :
    expandBlock Table.legacy01 [.sym "a", .other false "'c'"] = none := by
  decide +kernel

/-- … and with the fix the block has the two statements the grammar gives it. -/
theorem char_statement_fixed :
    sameRes (expandBlock Table.generated [.sym "a", .other false "'c'"])
            (parseBlock documented [.sym "a", .other false "'c'"]) = true
    ∧ sameRes (expandBlock Table.generated [.sym "a", .other false "'c'"])
              (some [.sym "a", .other false "'c'"]) = true := by
  decide +kernel

/-- Without an arm for nil in LeftBindingPower, `{a ()}` (nil as a juxtaposed statement) is an error … -/
theorem C06_counterexample_nil_statement :
    expandBlock Table.legacy02 [.sym "a", .null] = none := by
  decide +kernel

/-- … and once the arm is there (`Table.generated.lbpNull = some 0`) the block has the two statements the
grammar gives it. (Stated so that it holds on the tree before and after the fix.) -/
theorem nil_statement_fixed :
    (Table.generated.lbpNull != some 0 ||
     sameRes (expandBlock Table.generated [.sym "a", .null]) (parseBlock documented [.sym "a", .null])) = true := by
  decide +kernel

/-! ### statements of a block are expanded left to right

`InfixExpandArray` is a loop; each round parses one `Expression(0)` from the front of the
remaining tokens, appends it to the statements collected so far and skips one following `;`.
The three step lemmas below are that loop, read off the model. -/

/-- A statement followed by more tokens (no `;` between): its tree is appended and the
expansion continues with the rest. -/
theorem statements_in_order_step (T : Table) (f : Nat) (st t : Sx) (ts acc : List Sx)
    (x st1 u : Sx) (us : List Sx) (hlab : ∀ l, t ≠ .lab l)
    (h : expr T f 0 st (t :: ts) = some (x, st1, u :: us)) (hx : x.isSemi = false) (hu : u.isSemi = false) :
    expandArray T (f+1) st (t :: ts) acc = expandArray T f st1 (u :: us) (acc ++ [x]) := by
  rw [expandArray_succ' T f st _ acc (fun l _ _ he => absurd (List.cons.inj he).1 (hlab l)), h]
  simp [dropSemi, hx, hu]

/-- A statement followed by `;` and more tokens: the `;` is skipped. -/
theorem statements_in_order_semi (T : Table) (f : Nat) (st t : Sx) (ts acc : List Sx)
    (x st1 u : Sx) (us : List Sx) (hlab : ∀ l, t ≠ .lab l)
    (h : expr T f 0 st (t :: ts) = some (x, st1, .semi :: u :: us)) (hx : x.isSemi = false) :
    expandArray T (f+1) st (t :: ts) acc = expandArray T f st1 (u :: us) (acc ++ [x]) := by
  rw [expandArray_succ' T f st _ acc (fun l _ _ he => absurd (List.cons.inj he).1 (hlab l)), h]
  have hs : Sx.semi.isSemi = true := rfl
  simp [dropSemi, hx, hs]

/-- The last statement: the block's statements are those collected so far plus this one (so the
block's value, by `GenerateBegin`, is the value of this one). -/
theorem statements_in_order_last (T : Table) (f : Nat) (st t : Sx) (ts acc : List Sx)
    (x st1 : Sx) (hlab : ∀ l, t ≠ .lab l)
    (h : expr T f 0 st (t :: ts) = some (x, st1, [])) (hx : x.isSemi = false) :
    expandArray T (f+1) st (t :: ts) acc = some (acc ++ [x]) := by
  rw [expandArray_succ' T f st _ acc (fun l _ _ he => absurd (List.cons.inj he).1 (hlab l)), h]
  simp [dropSemi, hx]

example : (expandBlock Table.generated [.sym "a", .sym "=", .lit "1", .semi, .sym "b", .sym "+", .sym "a", .sym "c"]).map
    (·.length) = some 3 := by decide +kernel

/-- Consistency the equivalence needs from a table: the comma token and the dot-symbols bind
with the power of the table entries that supply their handlers, and all binary operators of
one binding power associate the same way. -/
def wellFormedB (T : Table) : Bool :=
  (match T.find? "comma" with
    | some e => e.bp == T.lbpComma && e.ctor == .infix && e.led == ""
    | none => false) &&
  (match T.find? "." with
    | some e => e.bp == T.lbpDot && e.led == "dotOpMunchLeft"
    | none => false) &&
  T.effective.all (fun e₁ => T.effective.all (fun e₂ =>
    !(e₁.bp == e₂.bp && e₁.ctor == .infix) || (e₂.ctor != .infixr && e₂.ctor != .assignment)))

def WellFormedTable (T : Table) : Prop := wellFormedB T = true

theorem wellFormed_generated : WellFormedTable Table.generated := by unfold WellFormedTable; decide +kernel

example : WellFormedTable Table.generated := wellFormed_generated

/-- Token lists inside the scope of the equivalence: no `if`/`for`/`break`/`continue`/label,
no token LeftBindingPower rejects, and no operator without right operand directly followed by
a tighter operator (`Stratified.inScope`). -/
def InFragment (T : Table) (ts : List Sx) : Prop :=
  inScope (grammarOf T) ts = true ∧
  ∀ t ∈ ts, (lbp T t).isSome ∧ (nudOf T t = .atom ∨ ∃ n r, nudOf T t = .pre n r)

/-- THE STATEMENT IN ITS ORIGINAL FORM (kept visible). As written it is FALSE — `PrattEqStratified_counterexample`
below: `InFragment` looks at the top-level tokens only, and inside a selector the two parsers differ on `if`
(`a[if b c]`: pratt.go builds `(cond b c ())`, the grammar has no `if`). Its honest repair is proved: the fragment
condition at every depth of selectors and the table/grammar correspondence as hypothesis —
`PrattEqStratifiedRepaired` / `pratt_eq_stratified` (every table and grammar in correspondence `Corr`, concrete fuel
of both executable models), `pratt_eq_stratified_generated` (regenerated table, documented levels). What the
original generality ("every well-formed table") still lacks: a proof that `wellFormedB T` implies
`Corr T (grammarOf T) (bpsOf T (grammarOf T))`; for the regenerated table `Corr` is established by `corr_generated`
on every run. -/
def PrattEqStratified : Prop :=
  ∀ (T : Table) (ts : List Sx), WellFormedTable T → InFragment T ts →
    expression T 0 ts = Stratified.parse (grammarOf T) ts

/-! ### the Pratt loop equals the stratified grammar — token lists of unbounded length

Fuel is an artefact of the models (pratt.go has none), so the statements are about what the two
parsers return "with enough fuel" (`PE`, `SS`, `Stmts`; more fuel never changes a result:
`Pratt.fuel_step`, `Stratified.fuel_step`). They are about the table REGENERATED from the current tree and
the documented levels; the link between the two (`corr_generated`: every operator of a documented
level has that level's binding power and the `MunchLeft` its role says, every other token binds
with 0, prefix operators recurse with their level's power) is re-established by `decide` on every
run, with the binding powers read off the table. -/

/-- The fragment, as a test: no token (at any depth of selectors) is `if`, `for`, `break`, `continue`
or unknown to `LeftBindingPower`, and the specification speaks about the list (`inScope`: an
operator without right operand is not directly followed by a tighter operator). -/
def inFragmentB (ts : List Sx) : Bool := fragList (okTok Table.generated) ts && inScope documented ts

theorem frag_of_B {ts : List Sx} (h : inFragmentB ts = true) : Frag Table.generated documented ts := by
  simp only [inFragmentB, inScope, Bool.and_eq_true] at h
  exact ⟨h.1, h.2.1, h.2.2⟩

theorem noFor_of_B {ts : List Sx} (h : inFragmentB ts = true) : noFor ts := by
  intro t ht
  have hok : okTok Table.generated t = true :=
    fragTok_top _ t (fragList_mem _ ts (frag_of_B h).1 t ht)
  cases hn : t.isNamed "for" with
  | false => rfl
  | true =>
    exfalso
    have hs : t.symName? = some "for" := by simpa [Sx.isNamed] using hn
    have hnud : nudOf Table.generated t = .forop := by
      unfold nudOf; rw [hs]; decide +kernel
    simp [okTok, okNudB, hnud] at hok

/-- One expression: for EVERY token list of the fragment — any length,
selectors nested to any depth, malformed lists included — and every result (tree, unconsumed rest):
`Pratt.Expression(0)` of pratt.go (model, regenerated table) returns it iff the textbook stratified
recursive-descent parser over the documented levels returns it. Hence one of them fails or never
returns iff the other does. Proof: `Proofs/PrattStrat.lean` (`Expression(rbp)` = the parse at the
levels binding tighter than `rbp`; its loop = the chains of those levels, cut at each level's
binding power; the stop property of `Expression` lets a chain go on where the loop goes on). -/
theorem pratt_iff_stratified (ts : List Sx) (h : inFragmentB ts = true) (E : Sx) (r : Sx × List Sx) :
    (∃ f, expr Table.generated f 0 E ts = some (r.1, E, r.2)) ↔ (∃ f, strat documented E f documented ts = some r) :=
  pratt_iff_strat corr_generated ts (frag_of_B h) E r

/-- **The statements of a block**: `InfixExpandArray` (model) returns the statement list `out` iff
`out` is the list of stratified statements of the tokens (`Stmts`: one expression at the loosest
level, one `;` skipped, an expression that is just `;` is no statement). -/
theorem expand_iff_statements (ts : List Sx) (hne : ts ≠ []) (h : inFragmentB ts = true) (out : List Sx) :
    (∃ f, expandArray Table.generated f (staleOf ts) ts [] = some out) ↔ Stmts documented (staleOf ts) ts out :=
  (expandArray_iff corr_generated (staleOf ts) ts hne (frag_of_B h) (noFor_of_B h) [] out).trans
    ⟨fun ⟨_, hst, e⟩ => e ▸ hst, fun hst => ⟨out, hst, rfl⟩⟩

/-! ### the fuel of the executable models always suffices

`Model/Pratt.lean` and `Spec/Stratified.lean` are fuel-indexed, so `none` could mean "error return" or "fuel
exhausted". With the fuel the DRIVER runs them with it never means the latter (`Proofs/FuelSuffices.lean`):
termination measures — every recursive call is on a token list of strictly smaller weight (a round of the loop
consumes a token; a selector recurses into its parts, which weigh less than the selector token; a label counts 2
because `splitColonTailSelectorSymbols` makes it two tokens), and `fuelFor` exceeds the weight. -/

/-- Model of pratt.go: for every token list of the fragment (any length, any nesting), every
`rbp` and stale token: run with ANY fuel `f ≥ fuelFor ts`, `Expression` returns exactly what it returns with
`fuelFor ts` — the same tree and rest, or the same error. So the outcome with `fuelFor ts` is THE outcome. -/
theorem fuelFor_suffices (ts : List Sx) (h : inFragmentB ts = true) (rbp : Nat) (st : Sx) (f : Nat) (hf : fuelFor ts ≤ f) :
    expr Table.generated f rbp st ts = expr Table.generated (fuelFor ts) rbp st ts :=
  expr_fuelFor Table.generated (Corr.colonNud corr_generated) ts (frag_of_B h).nudFrag rbp st f hf

/-- … a result obtained with any fuel at all is the result with `fuelFor ts` … -/
theorem fuelFor_suffices_some (ts : List Sx) (h : inFragmentB ts = true) (rbp : Nat) (st : Sx) (f : Nat) (r : Sx × Sx × List Sx)
    (hr : expr Table.generated f rbp st ts = some r) : expr Table.generated (fuelFor ts) rbp st ts = some r :=
  expr_fuelFor_some Table.generated (Corr.colonNud corr_generated) ts (frag_of_B h).nudFrag rbp st f r hr

/-- … and `none` with `fuelFor ts` is never a fuel shortage: no fuel gives a result (it is an error return of
`Expression`, e.g. `a[1:2:3]`). -/
theorem fuelFor_never_exhausted (ts : List Sx) (h : inFragmentB ts = true) (rbp : Nat) (st : Sx)
    (hn : expr Table.generated (fuelFor ts) rbp st ts = none) (f : Nat) : expr Table.generated f rbp st ts = none :=
  expr_fuelFor_none Table.generated (Corr.colonNud corr_generated) ts (frag_of_B h).nudFrag rbp st hn f

/-- the same for the statement loop `InfixExpandArray` as the driver runs it -/
theorem expandBlock_fuel_suffices (ts : List Sx) (h : inFragmentB ts = true) (f : Nat) (hf : fuelFor ts ≤ f) :
    expandArray Table.generated f (staleOf ts) ts [] = expandBlock Table.generated ts :=
  expandArray_fuelFor Table.generated (Corr.colonNud corr_generated) ts (frag_of_B h).nudFrag (noFor_of_B h) (staleOf ts) [] f hf

/-- **the specification's fuel suffices** — for EVERY grammar and EVERY token list (no fragment condition): with any
fuel `f ≥ Stratified.fuelFor G ts` the stratified parser returns what `Stratified.parse` computes. -/
theorem stratified_fuelFor_suffices (G : Grammar) (E : Sx) (ts : List Sx) (f : Nat) (hf : Stratified.fuelFor G ts ≤ f) :
    strat G E f G ts = strat G E (Stratified.fuelFor G ts) G ts :=
  strat_fuelFor G E ts f hf

/-- … and its statement loop never runs out: what `statements` returns with any fuel, `parseBlock` returns. -/
theorem parseBlock_fuel_suffices (G : Grammar) (ts : List Sx) (f : Nat) (out : List Sx)
    (h : statements G (staleOf ts) f ts = some out) : parseBlock G ts = some out :=
  statements_complete G (staleOf ts) ts out (statements_sound _ _ _ _ _ h) _ (Nat.le_refl _)

/-- non-vacuity: `statements` does return with a fuel other than `parseBlock`'s -/
example : (statements documented (staleOf [.sym "a", .semi, .sym "b"]) 7 [.sym "a", .semi, .sym "b"]).isSome = true := by
  decide +kernel

/-- The repaired full statement: every table and grammar in correspondence, every token list of the fragment
(at every depth), the CONCRETE fuel of both executable models. -/
def PrattEqStratifiedRepaired : Prop :=
  ∀ (T : Table) (G : Grammar) (bps : List Nat), Corr T G bps → ∀ ts : List Sx, Frag T G ts →
    expression T 0 ts = Stratified.parse G ts

/-- `Pratt.Expression(0)` exactly as the driver runs the model (fuel `fuelFor ts`) EQUALS
the stratified parse exactly as the driver runs the specification (fuel `Stratified.fuelFor G ts`): the same tree and
unconsumed rest, or both `none` — and then neither returns with any fuel. From `pratt_iff_strat`, fuel monotonicity
and the two termination measures. -/
theorem pratt_eq_stratified : PrattEqStratifiedRepaired :=
  fun _ _ _ hC ts hfr => expression_eq_parse_of_corr hC ts hfr

/-- non-vacuity: a table/grammar pair in correspondence exists (the one of the working tree), with a token list of its fragment -/
example : Corr Table.generated documented bpsG ∧ Frag Table.generated documented [.sym "a", .sym "+", .sym "b", .arr [.lab "i"]] :=
  ⟨corr_generated, frag_of_B (by decide +kernel)⟩

/-- … for the table regenerated from the working tree and the documented levels. -/
theorem pratt_eq_stratified_generated (ts : List Sx) (h : inFragmentB ts = true) :
    expression Table.generated 0 ts = Stratified.parse documented ts :=
  expression_eq_parse_of_corr corr_generated ts (frag_of_B h)

/-- **The statements of a block, concrete fuel**: `expandBlock` (model of `InfixExpandArray`, as the driver runs it)
EQUALS `parseBlock` (specification, as the driver runs it) on every non-empty token list of the fragment — the same
statement list, or both `none`. The `err` column of the correspondence is therefore never a model artefact. -/
theorem expandBlock_eq_parseBlock_concrete (ts : List Sx) (hne : ts ≠ []) (h : inFragmentB ts = true) :
    expandBlock Table.generated ts = parseBlock documented ts :=
  expandBlock_eq_parseBlock_frag ts hne (frag_of_B h) (noFor_of_B h)

def listsOfLen (A : List Sx) : Nat → List (List Sx)
  | 0 => [[]]
  | n+1 => (listsOfLen A n).flatMap (fun l => A.map (· :: l))

/-- One representative per level and role: operand, literal, assignment, comma, or, comparison,
additive, multiplicative (also prefix), power, not, field, `;`. -/
def alphabet : List Sx :=
  [.sym "a", .sym "=", .comma, .sym "or", .sym "<", .sym "-", .sym "*", .sym "**", .sym "not", .dot ".f", .semi]

def agree (ts : List Sx) : Bool :=
  !inScope documented ts || sameRes (expandBlock Table.generated ts) (parseBlock documented ts)

/-- One representative per binary level plus operand and `not`. -/
def alphabetCore : List Sx :=
  [.sym "a", .sym "=", .sym "or", .sym "<", .sym "-", .sym "*", .sym "**", .sym "not"]

/-- `agree` holds of EVERY non-empty token list of the fragment. -/
theorem agree_of_fragment (ts : List Sx) (hne : ts ≠ []) (h : inFragmentB ts = true) : agree ts = true := by
  unfold agree
  rw [expandBlock_eq_parseBlock_concrete ts hne h]
  cases parseBlock documented ts with
  | none => simp [sameRes]
  | some o => simp [sameRes, sameList_refl]

theorem mem_listsOfLen {A : List Sx} : ∀ {n : Nat} {l : List Sx}, l ∈ listsOfLen A n → l.length = n ∧ ∀ t ∈ l, t ∈ A
  | 0, l, h => by simp only [listsOfLen, List.mem_singleton] at h; subst h; exact ⟨rfl, fun _ h => nomatch h⟩
  | n+1, l, h => by
    simp only [listsOfLen, List.mem_flatMap, List.mem_map] at h
    obtain ⟨l', hl', a, ha, rfl⟩ := h
    obtain ⟨h1, h2⟩ := mem_listsOfLen hl'
    refine ⟨by rw [List.length_cons, h1], fun t ht => ?_⟩
    rcases List.mem_cons.1 ht with rfl | ht
    · exact ha
    · exact h2 t ht

theorem alphabet_ok : ∀ t ∈ alphabet ++ alphabetCore, fragTok (okTok Table.generated) t = true := by decide +kernel

/-- A bounded family of instances of `agree_of_fragment`, with the fragment condition discharged: for the table of
the current tree and the documented levels, every in-scope token list of length ≤ 2 over `alphabet` and of
length 3 over `alphabetCore` — malformed ones included (operator first, adjacent operators, adjacent
operands, trailing operator) — expands to the same statements under the Pratt model and under the
stratified specification: the tokens of the two alphabets are tokens of the fragment. -/
theorem pratt_eq_stratified_partial :
    ((listsOfLen alphabet 1 ++ listsOfLen alphabet 2 ++ listsOfLen alphabetCore 3).all agree) = true := by
  have key : ∀ A n, (∀ t ∈ A, t ∈ alphabet ++ alphabetCore) → ∀ ts ∈ listsOfLen A (n + 1), agree ts = true := by
    intro A n hA ts hts
    obtain ⟨hl, hm⟩ := mem_listsOfLen hts
    have hne : ts ≠ [] := fun h => by rw [h] at hl; cases hl
    cases hs : inScope documented ts with
    | false => simp [agree, hs]
    | true =>
      refine agree_of_fragment ts hne ?_
      simp [inFragmentB, hs, fragList_of_mem _ _ (fun t ht => alphabet_ok t (hA t (hm t ht)))]
  simp only [List.all_eq_true, List.mem_append]
  rintro ts ((h | h) | h)
  · exact key _ 0 (fun _ => List.mem_append_left _) ts h
  · exact key _ 1 (fun _ => List.mem_append_left _) ts h
  · exact key _ 2 (fun _ => List.mem_append_right _) ts h

/-- **The original statement `PrattEqStratified` is false**: `a[if b c]` satisfies `InFragment` (which looks at the
top-level tokens only), the table of the tree is well-formed, and the Pratt model builds `(arrayidx a [(cond b c ())])`
where the grammar of the table (no `if`) leaves the selector as written. -/
theorem PrattEqStratified_counterexample : ¬ PrattEqStratified := by
  intro hall
  have hfrag : InFragment Table.generated [.sym "a", .arr [.sym "if", .sym "b", .sym "c"]] := by
    refine ⟨generated_grammar_facts.2.1, ?_⟩
    intro t ht
    simp only [List.mem_cons, List.not_mem_nil, or_false] at ht
    rcases ht with rfl | rfl
    · exact ⟨by decide +kernel, Or.inl (by decide +kernel)⟩
    · exact ⟨by decide +kernel, Or.inl (by decide +kernel)⟩
  have heq := hall Table.generated _ wellFormed_generated hfrag
  have h1 : selIsCond (expression Table.generated 0 [.sym "a", .arr [.sym "if", .sym "b", .sym "c"]]) = true := by
    decide +kernel
  rw [heq, generated_grammar_facts.2.2] at h1
  cases h1

/-- non-vacuity of the fuel theorems: selectors nested five deep with a label-made colon, a slice and prefix
operators are in the fragment, and both executable functions return (the same, by the theorem) -/
example :
    let ts : List Sx := [.sym "x", .sym "=", .sym "a", .arr [.sym "b", .arr [.sym "c", .arr [.sym "not", .sym "d",
      .arr [.lab "i", .sym "e", .arr [.lit "1", .sym "+", .sym "*", .sym "p"]]], .sym ":", .lit "2"]], .semi, .sym "y", .sym "++"]
    inFragmentB ts = true ∧ (expandBlock Table.generated ts).isSome = true ∧ (parseBlock documented ts).isSome = true ∧
      (expression Table.generated 0 ts).isSome = true := by
  decide +kernel

/-- … `none` does occur inside the fragment, as an ERROR of pratt.go (two colons in a selector), on both sides … -/
example :
    let ts : List Sx := [.sym "a", .arr [.lit "1", .sym ":", .lit "2", .sym ":", .lit "3"]]
    inFragmentB ts = true ∧ (expression Table.generated 0 ts).isNone = true ∧ (Stratified.parse documented ts).isNone = true ∧
      (expandBlock Table.generated ts).isNone = true ∧ (parseBlock documented ts).isNone = true := by
  decide +kernel

/-- … and fuel does matter below the measure: `a + b * c` needs more than 4 units (so the theorems are not about a
model that ignores its fuel). -/
example :
    let ts : List Sx := [.sym "a", .sym "+", .sym "b", .sym "*", .sym "c"]
    (expr Table.generated 4 0 .null ts).isNone = true ∧ (expr Table.generated (fuelFor ts) 0 .null ts).isSome = true ∧
    (strat documented .null 12 documented ts).isNone = true ∧ (Stratified.parse documented ts).isSome = true := by
  decide +kernel

/-- non-vacuity: a long mixed list is in the fragment, and both sides return -/
example : inFragmentB [.sym "a", .sym "=", .sym "b", .sym "or", .sym "not", .sym "c", .sym "<", .sym "d", .sym "+", .sym "e",
    .sym "*", .sym "-", .sym "f", .sym "**", .dot "g.h", .arr [.sym "i", .sym "+", .lit "1"], .dot ".k", .semi, .sym "x", .sym "++"] = true := by
  decide +kernel

/-! ### lex_spacing: a legal spacing of a token sequence lexes to that token sequence

`Spec/Spacing.lean` says, on characters alone, which tokens may be written without a blank
between them (rules W, D, S, B). The theorems below are about `Model/Lexer.lean`, the model of
lexer.go that the `lex` channel (C13/C12) and the `expand ltree` ops tie to the code. -/

section LexSpacing
open ZygoVerif.Lexer ZygoVerif.Spacing ZygoVerif.InfixRead

/-- The token queue after feeding `text` to a fresh lexer, when nothing is left pending. -/
def lexText (text : List Char) : Option (List Lexer.Token) :=
  match feed (.ok LexCore.init) text with
  | .ok s => if s.buffer.isEmpty && s.state == .normal then some s.tokens else none
  | .err _ _ => none

/-- General form: for EVERY token sequence and EVERY legal spacing of it, from
every lexer state in LexerNormal with an empty buffer whose last rune was `l0`, the text followed
by a blank is read as exactly the tokens of the sequence — one lexer token of the expected type
(`expTok`) per written token — appended to the queue, with nothing left pending. -/
theorem lex_spacing (items : List Spacing.Item) (l0 c : Char) (hc : Spacing.isBlank c = true)
    (h : Spacing.legal l0 items = true) (T : List Lexer.Token) :
    Lex ⟨.normal, [], T, l0⟩ (Spacing.renderItems items ++ [c]) ⟨.normal, [], T ++ items.map (fun it => expTok it.2), c⟩ :=
  Lexer.lex_spacing items l0 c hc h T

/-- … in particular from the fresh lexer (the last-rune ring starts with NULs). -/
theorem lex_spacing_fresh (items : List Spacing.Item) (h : Spacing.legal '\x00' items = true) :
    lexText (Spacing.renderItems items ++ ['\n']) = some (items.map (fun it => expTok it.2)) := by
  obtain ⟨s', hf, hs'⟩ := Lexer.lex_spacing items '\x00' '\n' (by decide) h [] LexCore.init
    ⟨rfl, rfl, rfl, ringOK_init, lastRune_init⟩
  simp [lexText, hf, hs'.buffer, hs'.state, hs'.tokens]

private def nm (s : String) : Tok := .name false [s.toList]
private def nat (s : String) : Tok := .num false s.toList none none
private def neg (s : String) : Tok := .num true s.toList none none
private def op (s : String) : Tok := .op s.toList

/-- non-vacuity: `a+b*-1 <=c.d[ 0 ]`, `x:=-2.5e-3`, `a - 1`, `a-1` are legal spacings -/
example : Spacing.legal '\x00' [([], nm "a"), ([], op "+"), ([], nm "b"), ([], op "*"), ([], neg "1"), ([' '], op "<="),
    ([], .name false ["c".toList, "d".toList]), ([], .punct '['), ([' '], nat "0"), (['\n'], .punct ']')] = true := by decide +kernel
example : Spacing.legal '{' [([], nm "x"), ([], op ":="), ([], .num true "2".toList (some "5".toList) (some ('-', "3".toList)))] = true := by
  decide +kernel
example : Spacing.legal '{' [([], nm "a"), ([' '], op "-"), ([' '], nat "1")] = true := by decide +kernel
example : Spacing.legal '{' [([], nm "a"), ([], op "-"), ([], nat "1")] = true := by decide +kernel

/-- **The sign look-back (known finding of C06) is exactly the excluded adjacency B**: `a -1`
(blank before the minus, none after it, a digit next) is not a legal spacing of the three tokens
`a`, `-`, `1` — and it must not be: the lexer model reads the text as the TWO tokens `a`, `-1`. -/
theorem lex_spacing_counterexample_sign_lookback :
    Spacing.legal '{' [([], nm "a"), ([' '], op "-"), ([], nat "1")] = false ∧
    lexText "a -1\n".toList = some [⟨.symbol, ['a']⟩, ⟨.decimal, ['-', '1']⟩] ∧
    lexText "a - 1\n".toList = some [⟨.symbol, ['a']⟩, ⟨.symbol, ['-']⟩, ⟨.decimal, ['1']⟩] ∧
    lexText "a-1\n".toList = some [⟨.symbol, ['a']⟩, ⟨.symbol, ['-']⟩, ⟨.decimal, ['1']⟩] := by
  decide +kernel

/-- Each of the other three rules is needed as well: written tight, `a` `b` is one name (W), `+` `+`
is the operator `++` and `<` `-1` starts with the operator `<-` (D), `a` `-1` is a subtraction (S). -/
theorem lex_spacing_counterexample_other_rules :
    (Spacing.legal '{' [([], nm "a"), ([], nm "b")] = false ∧ lexText "ab\n".toList = some [⟨.symbol, ['a', 'b']⟩]) ∧
    (Spacing.legal '{' [([], nm "a"), ([], op "+"), ([], op "+"), ([], nm "b")] = false ∧
      lexText "a++b\n".toList = some [⟨.symbol, ['a']⟩, ⟨.symbol, ['+', '+']⟩, ⟨.symbol, ['b']⟩]) ∧
    (Spacing.legal '{' [([], nm "a"), ([], op "<"), ([], neg "1")] = false ∧
      lexText "a<-1\n".toList = some [⟨.symbol, ['a']⟩, ⟨.symbol, ['<', '-']⟩, ⟨.decimal, ['1']⟩]) ∧
    (Spacing.legal '{' [([], nm "a"), ([], neg "1")] = false ∧
      lexText "a-1\n".toList = some [⟨.symbol, ['a']⟩, ⟨.symbol, ['-']⟩, ⟨.decimal, ['1']⟩]) := by
  decide +kernel

/-- Written tight after an operator the signed numeral is fine: `a*-1`, `a<=-1`, `x=-2`. -/
example : lexText "a*-1 a<=-1 x=-2\n".toList =
    some [⟨.symbol, ['a']⟩, ⟨.symbol, ['*']⟩, ⟨.decimal, ['-', '1']⟩, ⟨.symbol, ['a']⟩, ⟨.symbol, ['<', '=']⟩, ⟨.decimal, ['-', '1']⟩,
          ⟨.symbol, ['x']⟩, ⟨.symbol, ['=']⟩, ⟨.decimal, ['-', '2']⟩] := by decide +kernel

/-- **The front end does not depend on the spacing.** The text of a non-empty block `{ xs }` written
in any legal spacing — `items` spaces the tokens `{`, those of the source tree `xs`
(names, numerals, operators, `[ … ]`, `( … )`, nested `{ … }`, to any depth), `}` — is lexed and
parsed (models of lexer.go and parser.go) to the token array `blockSx xs`, which is a function of
the source tree alone. -/
theorem infix_text_tokens (x : Src) (xs : List Src) (hok : okL (x :: xs) = true) (items : List Spacing.Item)
    (hitems : items.map (·.2) = Src.flat (.block (x :: xs))) (hlegal : Spacing.legal '\x00' items = true) :
    InfixFront.blockOf (Spacing.renderItems items) = some (blockSx (x :: xs)) := by
  obtain ⟨h1, h2⟩ := read_block x xs hok items hitems hlegal LexState.init [Spacing.renderItems items] (by simp)
  unfold InfixFront.blockOf Parser.parseChunks
  simp only [h1, h2, toSexp, Parser.sym, Sexp.mkSym]
  simp [blockSx]

/-- … so the statements the expander produces for the text are those it produces for the token list. -/
theorem infix_text_expands (T : Table) (x : Src) (xs : List Src) (hok : okL (x :: xs) = true) (items : List Spacing.Item)
    (hitems : items.map (·.2) = Src.flat (.block (x :: xs))) (hlegal : Spacing.legal '\x00' items = true) :
    (InfixFront.blockOf (Spacing.renderItems items)).bind (expandBlock T) = expandBlock T (blockSx (x :: xs)) := by
  rw [infix_text_tokens x xs hok items hitems hlegal]; rfl

/-- END TO END, unbounded: for every non-empty block `{ xs }` (source tree of
any size and depth), every legal spacing `items` of its tokens, when the token array is in the
fragment: the text is lexed and parsed (models of lexer.go, parser.go) to the token array
`blockSx xs`, and `InfixExpandArray` (model of pratt.go, regenerated table) returns the statement list
`out` for it iff `out` is the list of statements the stratified grammar of the documented levels
gives — whatever the spacing. -/
theorem text_means_stratified (x : Src) (xs : List Src) (items : List Spacing.Item) (hok : okL (x :: xs) = true)
    (hitems : items.map (·.2) = Src.flat (.block (x :: xs))) (hlegal : Spacing.legal '\x00' items = true)
    (hfrag : inFragmentB (blockSx (x :: xs)) = true) :
    InfixFront.blockOf (Spacing.renderItems items) = some (blockSx (x :: xs)) ∧
    ∀ out, (∃ f, expandArray Table.generated f (staleOf (blockSx (x :: xs))) (blockSx (x :: xs)) [] = some out) ↔
      Stmts documented (staleOf (blockSx (x :: xs))) (blockSx (x :: xs)) out :=
  ⟨infix_text_tokens x xs hok items hitems hlegal,
   fun out => expand_iff_statements _ (blockSx_ne_nil x xs hok) hfrag out⟩

/-- … and with the fuel the driver uses: the statements `expandBlock` returns for the TEXT are those
`parseBlock` returns for the token list, whenever both return. -/
theorem text_expandBlock_eq_parseBlock (x : Src) (xs : List Src) (items : List Spacing.Item) (hok : okL (x :: xs) = true)
    (hitems : items.map (·.2) = Src.flat (.block (x :: xs))) (hlegal : Spacing.legal '\x00' items = true)
    (hfrag : inFragmentB (blockSx (x :: xs)) = true) (o1 o2 : List Sx)
    (h1 : (InfixFront.blockOf (Spacing.renderItems items)).bind (expandBlock Table.generated) = some o1)
    (h2 : parseBlock documented (blockSx (x :: xs)) = some o2) : o1 = o2 := by
  rw [infix_text_expands Table.generated x xs hok items hitems hlegal] at h1
  rw [expandBlock_eq_parseBlock_concrete _ (blockSx_ne_nil x xs hok) hfrag, h2] at h1
  exact (Option.some.inj h1).symm

/-- … concrete fuel, full equality: the statements `expandBlock` computes for the TEXT are exactly what `parseBlock`
computes for the token list (`none` included). -/
theorem text_expandBlock_eq_parseBlock_concrete (x : Src) (xs : List Src) (items : List Spacing.Item) (hok : okL (x :: xs) = true)
    (hitems : items.map (·.2) = Src.flat (.block (x :: xs))) (hlegal : Spacing.legal '\x00' items = true)
    (hfrag : inFragmentB (blockSx (x :: xs)) = true) :
    (InfixFront.blockOf (Spacing.renderItems items)).bind (expandBlock Table.generated) = parseBlock documented (blockSx (x :: xs)) := by
  rw [infix_text_expands Table.generated x xs hok items hitems hlegal]
  exact expandBlock_eq_parseBlock_concrete _ (blockSx_ne_nil x xs hok) hfrag

private def exSrc : List Src := [.tok (nm "a"), .tok (op "+"), .tok (nm "b"), .tok (op "*"), .tok (neg "1")]
private def exItems : List Spacing.Item :=
  [([], .punct '{'), ([], nm "a"), ([], op "+"), ([], nm "b"), ([], op "*"), ([], neg "1"), ([], .punct '}')]

private theorem exSx : blockSx exSrc = [.sym "a", .sym "+", .sym "b", .sym "*", .lit "-1"] := by
  have e : PrintData.itoa (-1) = ['-', '1'] := by decide
  have h := atomOfTok_itoa (-1) (by decide) (by decide)
  rw [e] at h
  simp [blockSx, exSrc, elems, toSexp, tokSexp, expTok, nm, op, neg, Tok.text, Tok.dotted, Sexp.listSx, Sexp.toSx, Sexp.isComment, h]
  decide

/-- non-vacuity: the text `{a+b*-1}` satisfies every hypothesis of `text_means_stratified`, and both
sides return `(+ a (* b -1))` -/
example : okL exSrc = true ∧ exItems.map (·.2) = Src.flat (.block exSrc) ∧ Spacing.legal '\x00' exItems = true ∧
    String.ofList (Spacing.renderItems exItems) = "{a+b*-1}" ∧
    inFragmentB (blockSx exSrc) = true ∧ agree (blockSx exSrc) = true ∧
    sameRes (expandBlock Table.generated (blockSx exSrc))
      (some [.list [.sym "+", .sym "a", .list [.sym "*", .sym "b", .lit "-1"]]]) = true := by
  rw [exSx]; decide +kernel

end LexSpacing

/-! ## State of the Pratt machinery that outlives one interpreter (T1, Generated/InfixHandlers.lean)

Symbols resolve by NUMBER and numbers differ between interpreters with different builtin sets, so the
meaning of `{a[i]}` in interpreter A is a function of A alone only if nothing built from one interpreter
(an interned symbol, a closure over `env`, a table) is parked where every interpreter of the process reads
it. The extractor lists EVERY write to a package-level variable from every function of zygo/pratt.go and
from the interpreter constructors (NewZlisp, NewZlispSandbox, NewZlispWithFuncs, Clone, Duplicate). -/
namespace Handlers
open ZygoVerif.Generated.InfixHandlers

/-- the explicit allow-list: package-level variables the Pratt machinery and the constructors may write -/
def allowedPackageVars : List String := ["arrayOp"]

/-- what may be stored there: constants and bare top-level functions, mentioning nothing of the call -/
def Store.stateless (s : Store) : Bool := (s.kind == "const" || s.kind == "funcIdent") && !s.usesLocal

/-- The package-level variables written by pratt.go / the constructors
(and those declared in pratt.go) are exactly the allow-list. -/
theorem package_level_state_allow_list :
    (packageStores.map (·.var)).eraseDups = allowedPackageVars ∧ prattPackageVars = allowedPackageVars := by
  decide +kernel

/-- No handler (or anything else) stored in a package-level
variable by `InitInfixOps`/`NewZlisp*`/any function of pratt.go is a closure, the result of a call, or mentions a
parameter, the receiver or a local of the storing function: per-interpreter data never flows into process-wide
state. (The seeded change `arrayOp.MunchLeft = arrayOpMunchLeft(env.MakeSymbol("arrayidx"))` is `⟨…, "call", true⟩`.) -/
theorem no_interpreter_state_in_package_level_handlers : packageStores.all Store.stateless = true := by
  decide +kernel

/-- non-vacuity: the table is not empty (the array operator is there) and the scan covered pratt.go -/
example : packageStores.any (fun s => s.var == "arrayOp" && s.field == ".MunchLeft") = true ∧ scannedFunctions ≥ 40 := by
  decide +kernel

end Handlers

end ZygoVerif.Pratt
